import MJ.Proofs.Undef
import MJ.Proofs.UndefTwins
/-!
# C12 — stricter undefined modes only add errors; the documented matrix holds

Property theorems (helper lemmas: `MJ/Proofs/Undef.lean`).

* the helper methods of `UndefinedBehavior` are interpreted from rows regenerated from
  `utils.rs` on every run (`MJ.Gen.undef…`), so `helpers_matrix` / `helper_mono` are re-proved
  against what the source says now;
* `comp_mono` / `comp_agree` / `comp_only_adds_undefined_errors`: any computation that consults
  the mode only by asking the helpers is monotone, mode-independent in its result, and a stricter
  mode can only add `UndefinedError`s;
* `mono` lifts monotonicity of single steps to runs of an abstract mode-indexed machine whose
  next step is chosen by the state alone (straight-line code, jumps, loops, nested calls);
* `step_mono`, `mono_vm`, `mono_programs`: the VM model (`MJ.Undef.stepC`) is such a machine, for
  every choice of the mode-independent operations `Ops` it leaves abstract;
* `arg_conversion_mono`, `arg_conversion_table`, `builtin_mono_of_sig`,
  `pure_builtin_independent_after_conversion`: the argument conversion layer and every builtin
  called through its extracted signature;
* `site_matrix` is the documented per-site table for the modelled VM sites;
* `emit_arm_check_dominates`, `emit_arm_is_model`, `emit_check_independent_of_output`: the `Emit` arm as
  extracted from the source is the model's, and its check does not depend on where the output goes;
* source ties, each an equation or a decision on a regenerated table: `vm_sites_as_modelled`,
  `builtin_sites_as_modelled`, `builtin_params_consulting_mode`, `helper_rows_are_whole_bodies`,
  `all_mode_sites_monotone`, `blind_twin_sites_justified`.
-/
namespace MJ.C12
open MJ.Undef

/-- fails (with `UndefinedError`) exactly on `bad`, succeeds otherwise -/
abbrev failsIff (r : Except Err Unit) (bad : Prop) [Decidable bad] : Prop :=
  r = if bad then .error .undefinedError else .ok ()

/-- The documented matrix of the helpers (utils.rs), on the rows extracted from the source:
  * `handle_undefined(parent_was_undefined)` fails iff the parent was undefined and the mode is
    not Chainable;
  * `is_true` fails iff Strict and the value is a (non-silent) undefined;
  * `assert_iterable`, `try_iter`, `assert_value_not_undefined`, the `Emit` test and
    `Environment::format` fail iff Strict/SemiStrict and the value is a (non-silent) undefined;
    in every other case `Environment::format` hands the value to the formatter (`ok true`) —
    also an undefined under the lenient modes and a silent undefined under every mode;
  * the `Slice` test fails iff Strict and the value is undefined (silent or not). -/
def HelpersMatrix : Prop :=
  (∀ m p, failsIff (handleUndefined m p) (p = true ∧ m ≠ .chainable)) ∧
  (∀ m k, failsIff (isTrueChk m k) (m = .strict ∧ k = .undef)) ∧
  (∀ m k, failsIff (assertIterable m k) ((m = .strict ∨ m = .semiStrict) ∧ k = .undef)) ∧
  (∀ m k, failsIff (tryIterChk m k) ((m = .strict ∨ m = .semiStrict) ∧ k = .undef)) ∧
  (∀ m k, failsIff (assertNotUndef m k) ((m = .strict ∨ m = .semiStrict) ∧ k = .undef)) ∧
  (∀ m k, failsIff (emitChk m k) ((m = .strict ∨ m = .semiStrict) ∧ k = .undef)) ∧
  (∀ m k, envFormat m k = if (m = .strict ∨ m = .semiStrict) ∧ k = .undef then .error .undefinedError else .ok true) ∧
  (∀ m k, failsIff (sliceChk m k) (m = .strict ∧ k ≠ .defined))

def isErr {α : Type} (r : Except Err α) : Prop := r = .error .undefinedError

/-- **site_matrix**.  For an undefined operand `u` (a missing variable), any state — in particular any
    output routing `s.outs`: live, capturing (block, macro, call block, set block, filter block, `import .. as`),
    discarding (top level of a child template after `{% extends %}`, module of `{% from .. import %}`) or the
    null output of `Expression::eval`; see also `emit_check_independent_of_output` —, any mode, any
    program and any choice of the abstract operations:
  1. printing fails under Strict and SemiStrict only (default or custom formatter), and otherwise
     the undefined is written by `write_escaped` resp. handed to the custom formatter (`emitVia`);
  2. iterating fails under Strict and SemiStrict only, and otherwise is an empty loop;
  3. truth tests (`if`, `not`, `and`, `or`, ternary) fail under Strict only and otherwise see false;
  4. attribute and item access on an undefined (also a silent one) fail everywhere except
     Chainable, where they give undefined; on a defined value a missing attribute gives undefined
     in every mode (so `a.b.c` with a missing `b` fails at `.c`, except under Chainable);
  5. `is defined`, `is undefined` and `default` never fail, with a mode-independent result;
  6. a *silent* undefined (`x if false`) prints (it reaches the formatter in every mode), iterates
     and truth-tests without error in every mode;
  7. spreading an undefined over the arguments of a call (`f(*u)`, `UnpackLists`) is an iteration: it fails
     under Strict and SemiStrict only, and otherwise contributes no arguments. -/
def SiteMatrix : Prop :=
  ∀ (ops : Ops) (P : Prog),
  (∀ m (s : St) r, s.stack = .undef :: r →
      (isErr (step ops P m .emit s) ↔ (m = .strict ∨ m = .semiStrict)) ∧
      (¬ (m = .strict ∨ m = .semiStrict) → step ops P m .emit s = .ok (s.emitVia r .undef))) ∧
  (∀ m (s : St) r, s.stack = .undef :: r →
      (isErr (step ops P m (.pushLoop 1) s) ↔ (m = .strict ∨ m = .semiStrict)) ∧
      (¬ (m = .strict ∨ m = .semiStrict) →
        step ops P m (.pushLoop 1) s = .ok { s with stack := r, frames := { loop := some { items := [] } } :: s.frames }.next)) ∧
  (∀ m (s : St) r t, s.stack = .undef :: r →
      (isErr (step ops P m (.jumpIfFalse t) s) ↔ m = .strict) ∧
      (isErr (step ops P m .not s) ↔ m = .strict) ∧
      (isErr (step ops P m (.jumpIfFalseOrPop t) s) ↔ m = .strict) ∧
      (isErr (step ops P m (.jumpIfTrueOrPop t) s) ↔ m = .strict) ∧
      (m ≠ .strict → step ops P m (.jumpIfFalse t) s = .ok { s with stack := r, pc := t } ∧
                     step ops P m .not s = .ok { s with stack := .bool true :: r }.next)) ∧
  (∀ m (s : St) r u n, s.stack = u :: r → u.isUndefined = true →
      (isErr (step ops P m (.getAttr n) s) ↔ m ≠ .chainable) ∧
      (m = .chainable → step ops P m (.getAttr n) s = .ok { s with stack := .undef :: r }.next)) ∧
  (∀ m (s : St) r u k, s.stack = k :: u :: r → u.isUndefined = true → k.isOpaque = false →
      (isErr (step ops P m .getItem s) ↔ m ≠ .chainable) ∧
      (m = .chainable → step ops P m .getItem s = .ok { s with stack := .undef :: r }.next)) ∧
  (∀ m (s : St) r kvs n, s.stack = .map kvs :: r → V.mapGet kvs n = none →
      step ops P m (.getAttr n) s = .ok { s with stack := .undef :: r }.next) ∧
  (∀ m (s : St) r v, s.stack = v :: r → v.isOpaque = false →
      step ops P m (.performTest "defined" 1) s = .ok { s with stack := .bool (!v.isUndefined) :: r }.next ∧
      step ops P m (.performTest "undefined" 1) s = .ok { s with stack := .bool v.isUndefined :: r }.next ∧
      step ops P m (.applyFilter "default" 1) s = .ok { s with stack := (if v.isUndefined then .str "" else v) :: r }.next) ∧
  (∀ m (s : St) r v o, s.stack = o :: v :: r → v.isOpaque = false → o.isOpaque = false →
      step ops P m (.applyFilter "default" 2) s = .ok { s with stack := (if v.isUndefined then o else v) :: r }.next) ∧
  (∀ m (s : St) r t, s.stack = .silent :: r →
      step ops P m .emit s = .ok (s.emitVia r .silent) ∧
      step ops P m (.pushLoop 1) s = .ok { s with stack := r, frames := { loop := some { items := [] } } :: s.frames }.next ∧
      step ops P m (.jumpIfFalse t) s = .ok { s with stack := r, pc := t }) ∧
  (∀ m (s : St) r, s.stack = .undef :: r →
      (isErr (step ops P m (.unpackLists 1) s) ↔ (m = .strict ∨ m = .semiStrict)) ∧
      (¬ (m = .strict ∨ m = .semiStrict) → step ops P m (.unpackLists 1) s = .ok { s with stack := .int 0 :: r }.next))

/-- **C12 on the model** (full strength): (1) any run of the VM model — any instruction lists, any
    state, any number of steps, any choice of the abstract mode-independent operations — that
    succeeds under a mode ends in the identical final state, hence with the identical output,
    under every weaker mode; (2) the helpers are the documented table; (3) the per-site matrix. -/
def C12_full : Prop :=
  (∀ (ops : Ops) (P : Prog) (m m' : Mode), m' ≤ m → ∀ (fuel : Nat) (s r : St),
      runVm ops P m fuel s = .ok r → runVm ops P m' fuel s = .ok r) ∧
  HelpersMatrix ∧ SiteMatrix

theorem helpers_matrix : HelpersMatrix :=
  ⟨fun m p => unitOk_eq_ite (HQ.run_eq (.handleUndefined p) m),
   fun m k => unitOk_eq_ite (HQ.run_eq (.isTrue k) m),
   fun m k => unitOk_eq_ite (HQ.run_eq (.assertIterable k) m),
   fun m k => unitOk_eq_ite (HQ.run_eq (.tryIter k) m),
   fun m k => unitOk_eq_ite (HQ.run_eq (.assertNotUndef k) m),
   fun m k => unitOk_eq_ite (HQ.run_eq (.emit k) m),
   fun m k => HQ.run_eq (.envFormat k) m,
   fun m k => unitOk_eq_ite (HQ.run_eq (.slice k) m)⟩

example : handleUndefined .lenient true = .error .undefinedError ∧ handleUndefined .chainable true = .ok () := by
  decide +kernel

/-- `helper_mono`: for `m' ≤ m` in `Chainable ≤ Lenient ≤ SemiStrict ≤ Strict`, whatever a helper
    accepts under `m` it accepts under `m'` (with the same, mode-independent, `Ok` payload):
    `ChkMono f` is `∀ m m', m' ≤ m → f m = .ok () → f m' = .ok ()`. -/
theorem helper_mono :
    (∀ p, ChkMono (handleUndefined · p)) ∧ (∀ k, ChkMono (isTrueChk · k)) ∧
    (∀ k, ChkMono (assertIterable · k)) ∧ (∀ k, ChkMono (tryIterChk · k)) ∧
    (∀ k, ChkMono (assertNotUndef · k)) ∧ (∀ k, ChkMono (emitChk · k)) ∧
    (∀ k m m' b, m' ≤ m → envFormat m k = .ok b → envFormat m' k = .ok b) ∧ (∀ k, ChkMono (sliceChk · k)) :=
  -- each helper fails exactly where its question is refused (`helpers_matrix`), and refusal is inherited upward
  have ⟨h1, h2, h3, h4, h5, h6, h7, h8⟩ := helpers_matrix
  ⟨fun p => HQ.mono_of_refuses (q := .handleUndefined p) (h1 · p), fun k => HQ.mono_of_refuses (q := .isTrue k) (h2 · k),
   fun k => HQ.mono_of_refuses (q := .assertIterable k) (h3 · k), fun k => HQ.mono_of_refuses (q := .tryIter k) (h4 · k),
   fun k => HQ.mono_of_refuses (q := .assertNotUndef k) (h5 · k), fun k => HQ.mono_of_refuses (q := .emit k) (h6 · k),
   fun k m m' _ => HQ.mono_of_refuses (q := .envFormat k) (h7 · k) m m', fun k => HQ.mono_of_refuses (q := .slice k) (h8 · k)⟩

example : (Mode.lenient ≤ Mode.strict) ∧ assertIterable .strict .silent = .ok () ∧
    assertIterable .strict .undef ≠ .ok () ∧ assertIterable .lenient .undef = .ok () := by decide +kernel

/-- **comp_mono**: a computation whose only access to the mode is asking the helpers succeeds,
    with the same result, under every mode weaker than one under which it succeeds. -/
theorem comp_mono {α : Type} (c : Comp α) (m m' : Mode) (h : m' ≤ m) (a : α) :
    c.run m = .ok a → c.run m' = .ok a := Comp.run_mono c m m' h a

/-- **comp_agree**: whatever two modes it succeeds under, the result is the same. -/
theorem comp_agree {α : Type} (c : Comp α) (m m' : Mode) (a a' : α) :
    c.run m = .ok a → c.run m' = .ok a' → a = a' :=
  fun h h' => Except.ok.inj ((Comp.final_of_ok h).2.symm.trans (Comp.final_of_ok h').2)

/-- **comp_only_adds_undefined_errors**: if it fails under one mode and succeeds under another,
    the failure is the `UndefinedError` of one of its questions as that question reports it
    (`AskErr`: a helper's `UndefinedError`, possibly rewritten by a `.map_err(..)` around the helper
    call or wrapped as `BadInclude`); it is exactly `UndefinedError` when no question rewrites. -/
theorem comp_only_adds_undefined_errors {α : Type} (c : Comp α) (m m' : Mode) (e : Err) (a : α) :
    c.run m = .error e → c.run m' = .ok a → c.AskErr e ∧ (c.PlainAsks → e = .undefinedError) := by
  intro h h'
  have ha : c.AskErr e := by
    rcases Comp.run_cases c m with ⟨_, e', he, ha⟩ | ⟨_, hr⟩
    · rw [he] at h; cases h; exact ha
    · -- not failing at a question, the run under `m` would be the success of `m'`
      rw [hr, (Comp.final_of_ok h').2] at h; cases h
  exact ⟨ha, fun hp => Comp.askErr_of_plain c hp e ha⟩

/-- a computation that really depends on the mode: truth-testing an undefined -/
example : (Comp.chk (.isTrue .undef)).run .strict = .error .undefinedError ∧
    (Comp.chk (.isTrue .undef)).run .semiStrict = .ok () := by decide +kernel

/-- **arg_conversion_mono**: converting the arguments of a call (`FunctionArgs::from_values`,
    interpreted from the extracted `ArgType` table) only adds errors with strictness, for every
    signature, every argument list and every choice of the mode-independent conversions. -/
theorem arg_conversion_mono (ops : Ops) (sig : List ArgTy) (args : List V) (m m' : Mode) (h : m' ≤ m) :
    (convCall ops sig args).run m = .ok () → (convCall ops sig args).run m' = .ok () :=
  Comp.run_mono _ m m' h ()

/-- **arg_conversion_table**: what the extracted table says, argument type by argument type:
    `String`, `Cow<str>` and `StringInput` ask `assert_value_not_undefined`; `Value`, `&Value`,
    `&str`, the integers, `bool`, `Kwargs` never consult the mode; `Option<T>` drops the state
    (so `Option<String>` never asks); `Rest<T>` forwards it to every element; the elements of a
    `Vec<T>` are converted with the owned conversion, which checks for `String` only. -/
theorem arg_conversion_table (v : V) :
    (∀ t ∈ ["String", "Cow<str>", "StringInput"], (ArgTy.base t).asks v = [.assertNotUndef v.kind]) ∧
    (∀ t ∈ ["Value", "&Value", "&str", "i64", "usize", "isize", "u32", "bool", "f64", "Kwargs", "ValueOrKwargs"],
        (ArgTy.base t).asks v = []) ∧
    (∀ t, (ArgTy.opt t).asks v = []) ∧
    (ArgTy.rest (.base "String")).asks v = [.assertNotUndef v.kind] ∧
    (ArgTy.rest (.base "Value")).asks v = [] ∧
    (∀ xs, (ArgTy.vec (.base "String")).asks (.seq xs) = xs.flatMap (fun x => [.assertNotUndef x.kind])) ∧
    (∀ xs, (ArgTy.vec (.base "Cow<str>")).asks (.seq xs) = xs.flatMap (fun _ => [])) := by
  have hw := wrapperForwards_rows
  have ho : ((argTypeCode "String").getD (0, 0)).2 = 1 ∧ ((argTypeCode "Cow<str>").getD (0, 0)).2 = 0 := by decide +kernel
  refine ⟨?_, ?_, ?_, ?_, ?_, ?_, ?_⟩
  · intro t ht; simp [ArgTy.asks, argTypeCode_checking t ht]
  · intro t ht; simp [ArgTy.asks, argTypeCode_plain t ht]
  · intro t; simp [ArgTy.asks, hw.1]
  · simp [ArgTy.asks, hw.2.1, argTypeCode_checking "String" (by simp)]
  · simp [ArgTy.asks, hw.2.1, argTypeCode_plain "Value" (by simp)]
  · intro xs
    have hf : (ArgTy.base "String").asksOwned = fun x => [HQ.assertNotUndef x.kind] := by
      funext x; simp [ArgTy.asksOwned, ho.1]
    simp [ArgTy.asks, hw.2.2, hf]
  · intro xs
    have hf : (ArgTy.base "Cow<str>").asksOwned = fun _ => [] := by
      funext x; simp [ArgTy.asksOwned, ho.2]
    simp [ArgTy.asks, hw.2.2, hf]

/-- **conversion_consults_mode_only_by_assert_not_undef**: whatever the signature and the arguments,
    the only question the conversion layer of a call puts to the undefined behaviour is
    `assert_value_not_undefined` (about an argument, or about the items of a list converted to `Vec<T>`). -/
theorem conversion_consults_mode_only_by_assert_not_undef (ops : Ops) (sig : List ArgTy) (args : List V) :
    (convCall ops sig args).AllAsks isAssertNotUndef := convArgs_assert ops _ _

/-- **conversion_mode_classes**: hence the conversion layer of *any* call (of a builtin, of a filter added by
    minijinja-contrib or by the application) has exactly two behaviours: the one of Strict = SemiStrict and the
    one of Lenient = Chainable, and under the latter two it never fails at a question. -/
theorem conversion_mode_classes (ops : Ops) (sig : List ArgTy) (args : List V) :
    (convCall ops sig args).run .strict = (convCall ops sig args).run .semiStrict ∧
    (convCall ops sig args).run .lenient = (convCall ops sig args).run .chainable ∧
    (convCall ops sig args).failsAtAsk .lenient = false ∧ (convCall ops sig args).failsAtAsk .chainable = false :=
  Comp.classes_of_assertOnly _ (conversion_consults_mode_only_by_assert_not_undef ops sig args)

/-- the two classes really differ: `{{ u|upper }}` -/
example : (convCall Ops.convOnly [.base "StringInput"] [.undef]).run .semiStrict ≠
    (convCall Ops.convOnly [.base "StringInput"] [.undef]).run .lenient := by decide +kernel

/-- **param_consults_iff**: a parameter type for which `ArgTy.consults` is false asks nothing whatever the
    argument; one for which it is true asks for some (defined) argument — so `consultingParams` lists exactly
    the parameters of a signature whose conversion can depend on the mode. -/
theorem param_consults_iff (t : ArgTy) :
    (t.consults = false → ∀ v, t.asks v = []) ∧ (t.consults = true → ∃ v : V, v.kind = .defined ∧ v ≠ .none ∧ t.asks v ≠ []) :=
  ⟨asks_nil_of_not_consults t, consults_witness t⟩

example : (ArgTy.opt (.base "StringInput")).consults = false ∧ (ArgTy.vec (.base "String")).consults = true ∧
    (ArgTy.vec (.base "Cow<str>")).consults = false ∧ (ArgTy.rest (.base "String")).consults = true := by decide +kernel

/-- **builtin_params_consulting_mode** — the table of parameter types of all registered builtins (regenerated
    from filters.rs / tests.rs / functions.rs on every run) and of everything minijinja-contrib registers
    (its filters / globals): every parameter type is a known `ArgType` impl, and the parameters whose
    conversion can consult the mode are exactly the listed positions (`String`, `Cow<str>`, `StringInput`
    receivers and arguments; an `Option<..>` drops the state).  A builtin that starts to take its argument
    through a checking conversion, or stops doing so, changes this table.  The sources of the contrib filters
    and globals never reach the mode; pycompat's method callback does so through `StringInput::new` only. -/
theorem builtin_params_consulting_mode :
    consultingTable MJ.Gen.undefBuiltinSigs = [
      ("filter", "safe", [0]), ("filter", "lower", [0]), ("filter", "upper", [0]), ("filter", "title", [0]),
      ("filter", "capitalize", [0]), ("filter", "replace", [0, 1, 2]), ("filter", "trim", [0]), ("filter", "indent", [0]),
      ("filter", "selectattr", [1]), ("filter", "rejectattr", [1]),
      ("test", "startingwith", [0, 1]), ("test", "endingwith", [0, 1])] ∧
    consultingTable MJ.Gen.undefContribSigs = [("filter", "striptags", [0])] ∧
    MJ.Gen.undefBuiltinSigs.all (fun r => sigKnown r.1 r.2.1) = true ∧
    MJ.Gen.undefContribSigs.all (fun r => match contribSigOf r.1 r.2.1 with
      | some (sig, reach) => sig.all ArgTy.known && reach.isEmpty && r.2.2.2.2.isEmpty
      | none => false) = true ∧
    MJ.Gen.undefContribSigs.map (fun r => r.2.1) = ["pluralize", "filesizeformat", "truncate", "striptags", "wordcount",
      "wordwrap", "datetimeformat", "timeformat", "dateformat", "now", "random", "lipsum", "randrange", "cycler", "joiner"] ∧
    MJ.Gen.undefPycompatReach = (["StringInput::new"], []) :=
  ⟨by decide +kernel, by decide +kernel, sigKnown_of_rows (by decide +kernel), by decide +kernel, rfl, rfl⟩

/-- **builtin_mono_of_sig**: a call of a registered builtin — conversion layer from its extracted
    signature, then its body (a hand model of its helper questions, nested calls included, or a
    mode-independent function when its source never reaches the mode) — only adds
    errors with strictness; and two modes under which it succeeds return the same value. -/
theorem builtin_mono_of_sig (ops : Ops) (kind name : String) (args : List V) (c : Comp V)
    (hc : callBuiltin ops kind name args = some c) (m m' : Mode) :
    (m' ≤ m → ∀ y, c.run m = .ok y → c.run m' = .ok y) ∧
    (∀ y y', c.run m = .ok y → c.run m' = .ok y' → y = y') ∧
    (∀ e y, c.run m = .error e → c.run m' = .ok y → c.AskErr e) := by
  have _ := hc
  exact ⟨fun h y => comp_mono c m m' h y, comp_agree c m m',
         fun e y h h' => (comp_only_adds_undefined_errors c m m' e y h h').1⟩

/-- **builtin_failing_modes_upward_closed**: the modes in which a call of a registered builtin
    fails at a helper question — in its argument conversion, in the hand-modelled questions of its
    body, or in a nested filter / test call — form an upward closed set, and in each of them the call
    is an error (this is what the check compares with the engine for every call of the `call` /
    `sweep` streams). -/
theorem builtin_failing_modes_upward_closed (ops : Ops) (kind name : String) (args : List V) (c : Comp V)
    (_hc : callBuiltin ops kind name args = some c) (m m' : Mode) (h : m' ≤ m) :
    (c.failsAtAsk m' = true → c.failsAtAsk m = true) ∧ (c.failsAtAsk m = true → ∃ e, c.run m = .error e) :=
  ⟨Comp.failsAtAsk_mono c m m' h, fun hf => (Comp.run_of_failsAtAsk c m hf).imp fun _ => And.left⟩

/-- `[1, u]|map('upper')`: the nested `upper` asks for its undefined item — fails at a question under
    SemiStrict and Strict, not under Lenient; `u|sort` asks `try_iter` -/
example :
    (match callBuiltin Ops.convOnly "filter" "map" [.seq [.int 1, .undef], .str "upper"] with
      | some c => Mode.all.map c.failsAtAsk | none => []) = [false, false, true, true] ∧
    (match callBuiltin Ops.convOnly "filter" "sort" [.undef] with
      | some c => Mode.all.map c.failsAtAsk | none => []) = [false, false, true, true] ∧
    (match callBuiltin Ops.convOnly "filter" "select" [.seq [.int 1], .str "in", .undef] with
      | some c => Mode.all.map c.failsAtAsk | none => []) = [false, false, true, true] := by decide +kernel

/-- **pure_builtin_independent_after_conversion**: for a builtin whose source never reaches the
    mode (its body is a function of the arguments), all modes under which the argument conversion
    passes give the same outcome — the same value or the same error. -/
theorem pure_builtin_independent_after_conversion (ops : Ops) (sig : List ArgTy) (args : List V)
    (body : List V → Except Err V) (m m' : Mode)
    (hm : (convCall ops sig args).run m = .ok ()) (hm' : (convCall ops sig args).run m' = .ok ()) :
    (Comp.bind (convCall ops sig args) (fun _ => Comp.ofExcept (body args))).run m =
    (Comp.bind (convCall ops sig args) (fun _ => Comp.ofExcept (body args))).run m' := by
  rw [Comp.run_bind, Comp.run_bind, hm, hm']
  simp [Comp.run_ofExcept]

/-- `{{ u|upper }}`: the `StringInput` conversion of the extracted signature fails under Strict and
    SemiStrict, passes under Lenient and Chainable; `{{ l|join(u) }}` (`Option<StringInput>`) never asks -/
example :
    (convCall Ops.convOnly [.base "StringInput"] [.undef]).run .semiStrict = .error .undefinedError ∧
    (convCall Ops.convOnly [.base "StringInput"] [.undef]).run .lenient = .ok () ∧
    (convCall Ops.convOnly [.base "&Value", .opt (.base "StringInput")] [.seq [], .undef]).run .strict = .ok () := by decide +kernel

/-- **mono** (abstract machine): if every step the program can select is `StepMono`, then a run
    that succeeds under `m` yields the identical final state under every `m' ≤ m`. -/
theorem mono {σ ε : Type} (M : Machine σ ε)
    (hstep : ∀ s f, M.next s = some f → StepMono f)
    (m m' : Mode) (h : m' ≤ m) (n : Nat) (s r : σ) :
    M.run m n s = .ok r → M.run m' n s = .ok r := by
  fun_induction M.run m n s with
  | case1 s hn | case3 n s hn => rw [Machine.run, hn]; exact id
  | case2 s f hn | case4 n s f hn e hf => exact (nomatch ·)
  | case5 n s f hn s' hf ih => rw [Machine.run, hn]; dsimp only; rw [hstep s f hn m m' s s' h hf]; exact ih

/-- **strict_failure_is_a_step_failure** (abstract machine, all steps `StepMono`): if the run fails
    under `m` but succeeds under a weaker `m'`, then both runs are in the same state `s` when the
    `m`-run fails, and the step taken there fails under `m` and succeeds under `m'` — the stricter
    mode added exactly that error, nothing before it differs. -/
theorem strict_failure_is_a_step_failure {σ ε : Type} (M : Machine σ ε)
    (hstep : ∀ s f, M.next s = some f → StepMono f)
    (m m' : Mode) (h : m' ≤ m) (n : Nat) (s r : σ) (e : ε) :
    M.run m n s = .error e → M.run m' n s = .ok r →
    ∃ s₀ f s₁, M.next s₀ = some f ∧ f m s₀ = .error e ∧ f m' s₀ = .ok s₁ :=
  fun hm hm' =>
    have ⟨_, s₀, f, s₁, _, _, _, rest⟩ := M.first_added_error hstep m m' h n s r e hm hm'
    ⟨s₀, f, s₁, rest⟩

/-- in the VM model: both renders reach the same state `s₀` after the same `k` instructions, the computation of
    the instruction taken there fails under `m` at one of its questions and succeeds under `m'` -/
theorem vm_first_added_error (ops : Ops) (P : Prog) (m m' : Mode) (h : m' ≤ m) (fuel : Nat) (s r : St) (e : Err) :
    runVm ops P m fuel s = .error e → runVm ops P m' fuel s = .ok r →
    ∃ k s₀ c s₁, k < fuel ∧ (vm ops P).after m k s = some s₀ ∧ (vm ops P).after m' k s = some s₀ ∧
      nextC ops P s₀ = some c ∧ c.run m = .error e ∧ c.run m' = .ok s₁ ∧ c.AskErr e := by
  intro hm hm'
  obtain ⟨k, s₀, f, s₁, hk, ha, ha', hn, hf, hf'⟩ :=
    (vm ops P).first_added_error (vm_stepMono ops P) m m' h fuel s r e hm hm'
  obtain ⟨c, hc, rfl⟩ := vm_next hn
  exact ⟨k, s₀, c, s₁, hk, ha, ha', hc, hf, hf', (comp_only_adds_undefined_errors c m m' e s₁ hf hf').1⟩

/-- **vm_strict_failure**: in the VM model, an error that a stricter mode adds to a render that
    succeeds under a weaker mode is the `UndefinedError` of one of the helper questions of the
    failing instruction, as that question reports it (`AskErr`: plain, rewritten by a `.map_err`
    around the helper call, or wrapped as `BadInclude` inside an included template). -/
theorem vm_strict_failure (ops : Ops) (P : Prog) (m m' : Mode) (h : m' ≤ m) (fuel : Nat) (s r : St) (e : Err) :
    runVm ops P m fuel s = .error e → runVm ops P m' fuel s = .ok r →
    ∃ s₀ c, nextC ops P s₀ = some c ∧ c.AskErr e :=
  fun hm hm' =>
    have ⟨_, s₀, c, _, _, _, _, hc, _, _, ha⟩ := vm_first_added_error ops P m m' h fuel s r e hm hm'
    ⟨s₀, c, hc, ha⟩

/-- **step_mono**: every instruction of the VM model satisfies `StepMono`, whatever the abstract
    operations and the program -/
theorem step_mono (ops : Ops) (P : Prog) (i : Instr) : StepMono (fun m s => step ops P m i s) := by
  intro m m' s s' h hs
  exact Comp.run_mono _ m m' h s' hs

example : (step Ops.exec (Prog.single #[]) .strict .not { stack := [.undef] }).map (·.stack.length) = .error .undefinedError ∧
    (step Ops.exec (Prog.single #[]) .semiStrict .not { stack := [.undef] }).map (·.stack.length) = .ok 1 := by
  decide +kernel

/-- **mono_vm**: a run of the VM model on *any* instruction lists and state that succeeds under
    `m` ends in the identical state (same output chunks, stack, frames, closures, pending calls)
    under every weaker `m'`.  In particular the rendered output is identical. -/
theorem mono_vm (ops : Ops) (P : Prog) (m m' : Mode) (h : m' ≤ m) (fuel : Nat) (s r : St) :
    runVm ops P m fuel s = .ok r → runVm ops P m' fuel s = .ok r :=
  mono (vm ops P) (vm_stepMono ops P) m m' h fuel s r

theorem mono_vm_output (ops : Ops) (P : Prog) (m m' : Mode) (h : m' ≤ m) (fuel : Nat) (s r : St)
    (hr : runVm ops P m fuel s = .ok r) :
    (runVm ops P m' fuel s).map St.observed = .ok r.observed := by
  rw [mono_vm ops P m m' h fuel s r hr]; rfl

/-- `{{ u }}{% if u %}x{% endif %}` as compiled: fine under Lenient, an error under SemiStrict -/
example :
    let code : Array Instr := #[.lookup "u", .emit, .lookup "u", .jumpIfFalse 5, .emitRaw "x"]
    (runVm Ops.exec (Prog.single code) .lenient 10 {}).map St.output = .ok "" ∧
    (runVm Ops.exec (Prog.single code) .semiStrict 10 {}).map St.output = .error .undefinedError := by
  decide +kernel

/-- every instruction of an in-fragment program has a semantics in the model: none is one of the
    instructions the serialiser marks as outside the model, loops are not recursive, and every
    filter / test is a registered builtin with a signature over known argument types (so
    `callBuiltin` is defined for it) -/
theorem inFragment_modelled (P : Prog) (hP : P.inFragment = true) (c : Array Instr) (hc : c ∈ P.codes)
    (i : Instr) (hi : i ∈ c) :
    (∀ n, i ≠ .unsupported n) ∧
    (∀ n k, i = .applyFilter n k → sigKnown "filter" n = true) ∧
    (∀ n k, i = .performTest n k → sigKnown "test" n = true) := by
  have h2 : i.inFragment = true := by
    have h1 := (List.all_eq_true.mp hP) c (by simpa using hc)
    exact (List.all_eq_true.mp h1) i (by simpa using hi)
  refine ⟨?_, ?_, ?_⟩
  · intro n hn; subst hn; simp [Instr.inFragment] at h2
  · intro n k hn; subst hn; simpa [Instr.inFragment] using h2
  · intro n k hn; subst hn; simpa [Instr.inFragment] using h2

/-- **mono_programs**: for every real compiled program (the instruction lists of the template and
    of the templates it includes) that the decidable check `Prog.inFragment` accepts — every
    instruction has a semantics in the model — and for every choice of the mode-independent
    operations the model leaves abstract: a render that succeeds under `m` gives the identical
    observed output (text, and number of formatter invocations) under every weaker `m'`; two
    modes under which it succeeds agree. -/
theorem mono_programs (ops : Ops) (P : Prog) (_hP : P.inFragment = true) (m m' : Mode) (h : m' ≤ m)
    (fuel : Nat) (s r : St) (hr : runVm ops P m fuel s = .ok r) :
    runVm ops P m' fuel s = .ok r ∧ (runVm ops P m' fuel s).map St.observed = .ok r.observed :=
  ⟨mono_vm ops P m m' h fuel s r hr, mono_vm_output ops P m m' h fuel s r hr⟩

/-- an in-fragment program with a macro called with a keyword argument and a builtin filter:
    `{% macro m(a) %}[{{ a }}]{% endmacro %}{{ m(a=u) }}{{ u|default(1) }}` as compiled; the macro body runs
    inside the machine, so printing its undefined parameter fails under SemiStrict -/
example :
    let code : Array Instr := #[.jump 7, .storeLocal "a", .emitRaw "[", .lookup "a", .emit, .emitRaw "]", .ret,
      .getClosure, .loadConst (.seq [.str "a"]), .buildMacro "m" 1 0, .storeLocal "m",
      .loadConst (.str "a"), .lookup "u", .buildKwargs 1, .callFunction "m" 1, .emit,
      .lookup "u", .loadConst (.int 1), .applyFilter "default" 2, .emit]
    (Prog.single code).inFragment = true ∧
    (runVm Ops.exec (Prog.single code) .lenient 50 {}).map St.output = .ok "[]1" ∧
    (runVm Ops.exec (Prog.single code) .semiStrict 50 {}).map St.output = .error .undefinedError := by
  decide +kernel

/-- template inheritance inside the machine: `{% extends 'base' %}{% block blk %}<{{ super() }}>{% endblock %}` with
    `base` = `B{% block blk %}[{{ u }}]{% endblock %}E`: the parent block prints an undefined, so the child renders
    under Lenient and fails under Strict -/
example :
    let P : Prog := {
      codes := #[#[.loadConst (.str "base"), .loadBlocks, .callBlock "blk"],
                 #[.emitRaw "<", .fastSuper, .emitRaw ">"],
                 #[.emitRaw "B", .callBlock "blk", .emitRaw "E"],
                 #[.emitRaw "[", .lookup "u", .emit, .emitRaw "]"]],
      templates := [("base", 2)], blocks := [("blk", 1)], parentBlocks := [("base", [("blk", 3)])] }
    P.inFragment = true ∧
    (runVm Ops.exec P .lenient 50 {}).map St.output = .ok "B<[]>E" ∧
    (runVm Ops.exec P .strict 50 {}).map St.output = .error (.other "BadInclude or EvalBlock") := by
  decide +kernel

/-- **emit_arm_check_dominates** — source tie of the shape of the `Instruction::Emit` arm (its control-flow
    tree is extracted from vm/mod.rs on every run): on every path through the arm the undefined check — the
    inline `strict_undefined && Undefined(Default)` test followed by `bail!`, or `Environment::format`, whose
    rows contain it — comes before the value is written and before the arm is left; there is no early exit,
    no statement the classifier does not know, and the only condition in front of the check is the choice of
    the formatter (a condition on the output, e.g. `out.is_discarding()`, is rejected). -/
theorem emit_arm_check_dominates : emitArmOk MJ.Gen.undefVmEmitShape = true := by decide +kernel

/-- not vacuous: the arm with the check skipped for a discarding output, the arm that writes before it
    checks, and the arm with an early exit in the default-formatter branch are all rejected -/
example :
    emitArmOk (.act "pop" (.ite "default_formatter" (.ite "not_out_discarding" (.ite "strict_undefined_default"
      (.act "bail_undefined" .done) .done (.act "write_escaped" .done)) .done .done) (.act "env_format" .done) .done)) = false ∧
    emitArmOk (.act "pop" (.ite "default_formatter" (.act "write_escaped" (.ite "strict_undefined_default"
      (.act "bail_undefined" .done) .done .done)) (.act "env_format" .done) .done)) = false ∧
    emitArmOk (.act "pop" (.ite "default_formatter" (.act "exit" .done) (.act "env_format" .done) .done)) = false := by decide +kernel

/-- **emit_arm_is_model**: the hand model of `Emit` (`emitC`, the step the VM model takes) *is* the
    interpretation of the arm as the source has it now — statement by statement: pop, the formatter split,
    the inline test as the question `emit`, `write_escaped`, `Environment::format` as the question
    `envFormat` followed by the formatter call. -/
theorem emit_arm_is_model (s : St) : emitShapeC MJ.Gen.undefVmEmitShape s = emitC s := by
  unfold emitShapeC emitC MJ.Gen.undefVmEmitShape
  cases hs : s.stack with
  | nil => simp [armC, hs]
  | cons v r =>
    by_cases hf : s.formatter = 0
    · simp [armC, armCond, hs, hf, St.emitVia]
    · simp [armC, armCond, hs, hf, St.emitVia]
      funext called
      cases called <;> rfl

/-- the interpretation is not the identity on shapes: the arm that skips the check for a discarding output
    prints an undefined under Strict when the output is discarding (`outs = [none, ..]`), and only then -/
example :
    let sh : MJ.Gen.ArmShape := .act "pop" (.ite "default_formatter" (.ite "not_out_discarding" (.ite "strict_undefined_default"
      (.act "bail_undefined" .done) .done (.act "write_escaped" .done)) .done .done) (.act "env_format" .done) .done)
    ((emitShapeC sh { stack := [.undef], outs := [Option.none, some []] }).run .strict).map St.output = .ok "" ∧
    ((emitShapeC sh { stack := [.undef], outs := [some []] }).run .strict).map St.output = .error .undefinedError ∧
    ((emitC { stack := [.undef], outs := [Option.none, some []] }).run .strict).map St.output = .error .undefinedError := by
  decide +kernel

/-- the same state with the output routed elsewhere: other buffers, more or fewer open captures, a
    discarding level on top, the null output of `Expression::eval` (`[none]`) -/
abbrev reroute (s : St) (outs : List OutBuf) : St := { s with outs := outs }

/-- **emit_check_independent_of_output**: whether `Emit` fails, with which error, and at which question to
    the undefined behaviour, does not depend on the output routing — live, capturing, discarding (top level
    of a child template after `{% extends %}`, module of `{% from .. import %}`) or null; and when it
    succeeds, the successor states differ in the output buffers only.  "The output goes nowhere" does not
    switch the check off. -/
theorem emit_check_independent_of_output (ops : Ops) (P : Prog) (m : Mode) (s : St) (outs' : List OutBuf) :
    (∀ e, step ops P m .emit s = .error e ↔ step ops P m .emit (reroute s outs') = .error e) ∧
    ((stepC ops P .emit s).failsAtAsk m = (stepC ops P .emit (reroute s outs')).failsAtAsk m) ∧
    (∀ r, step ops P m .emit s = .ok r → ∃ r', step ops P m .emit (reroute s outs') = .ok r' ∧ r' = reroute r r'.outs) := by
  cases hs : s.stack with
  | nil => simp [step, stepC, stepC1, emitC, inspects, hs, Comp.run, Comp.failsAtAsk, reroute]
  | cons v r =>
    by_cases ho : v.isOpaque = true
    · simp [step, stepC, stepC1, inspects, hs, ho, Comp.run, Comp.failsAtAsk, reroute]
    · -- both states refuse `v` under the same modes, and write it with all fields but `outs` alike
      obtain ⟨h, hf⟩ := stepC_emit ops P m s v r hs (Bool.eq_false_iff.2 ho)
      obtain ⟨h', hf'⟩ := stepC_emit ops P m (reroute s outs') v r hs (Bool.eq_false_iff.2 ho)
      by_cases hc : (m = .strict ∨ m = .semiStrict) ∧ v.kind = .undef
      · rw [if_pos hc] at h h'
        exact ⟨fun e => by rw [step, step, h, h'], Bool.eq_iff_iff.2 (hf.trans hf'.symm),
          fun x hx => by rw [step, h] at hx; cases hx⟩
      · rw [if_neg hc] at h h'
        refine ⟨fun e => by rw [step, step, h, h']; exact ⟨(nomatch ·), (nomatch ·)⟩,
          Bool.eq_iff_iff.2 (hf.trans hf'.symm), fun x hx => ?_⟩
        rw [step, h] at hx
        cases hx
        exact ⟨_, h', (St.emitVia_eq (reroute s outs') r v).trans (by rw [St.emitVia_eq s r v])⟩

/-- printing an undefined with a live, a capturing, a discarding and the null output: Strict fails in all
    four, Lenient succeeds in all four -/
example :
    [[some []], [some [], some []], [Option.none, some []], [Option.none]].map (fun outs =>
      ((step Ops.exec (Prog.single #[]) .strict .emit { stack := [.undef], outs := outs }).map St.output,
       (step Ops.exec (Prog.single #[]) .lenient .emit { stack := [.undef], outs := outs }).map St.output)) =
    [(.error .undefinedError, .ok ""), (.error .undefinedError, .ok ""), (.error .undefinedError, .ok ""),
     (.error .undefinedError, .ok "")] := by decide +kernel

/-- the top level of a child template (`{% extends 'base' %}{{ u }}`) and of a module loaded with
    `{% from 'mod' import hello %}` (`mod` = `{{ u }}{% macro hello() %}hello{% endmacro %}`), as compiled: the print
    runs with a discarding output and still fails under SemiStrict; under Lenient the parent / the importing
    template render -/
example :
    let child : Prog := {
      codes := #[#[.loadConst (.str "base"), .loadBlocks, .lookup "u", .emit],
                 #[.emitRaw "<", .callBlock "body", .emitRaw ">"],
                 #[.emitRaw "base"]],
      templates := [("base", 1)], parentBlocks := [("base", [("body", 2)])] }
    let importer : Prog := {
      codes := #[#[.beginCapture true, .pushWith, .loadConst (.str "mod"), .include_ false, .endCapture, .exportLocals, .popFrame,
                   .dupTop, .getAttr "hello", .storeLocal "hello", .discardTop,
                   .emitRaw "[", .callFunction "hello" 0, .emit, .emitRaw "]"],
                 #[.lookup "u", .emit, .jump 5, .emitRaw "hello", .ret, .getClosure, .loadConst (.seq []),
                   .buildMacro "hello" 3 0, .storeLocal "hello"]],
      templates := [("mod", 1)] }
    child.inFragment = true ∧ importer.inFragment = true ∧
    (runVm Ops.exec child .lenient 50 {}).map St.output = .ok "<base>" ∧
    (runVm Ops.exec child .semiStrict 50 {}).map St.output = .error .undefinedError ∧
    (runVm Ops.exec importer .lenient 50 {}).map St.output = .ok "[hello]" ∧
    (runVm Ops.exec importer .semiStrict 50 {}).map St.output = .error (.other "BadInclude or EvalBlock") := by
  decide +kernel

/-- **join_safe_consults_mode_only_by_env_format**: the one builtin whose body depends on `state.auto_escape()`.
    While HTML auto-escaping is on, `join` formats every item that is not a safe string with `State::format`,
    i.e. `Environment::format`; these are its only questions to the undefined behaviour (so an undefined item
    fails under Strict and SemiStrict exactly when auto-escaping is on and the joiner or an item is safe), and
    `UnpackLists` asks `try_iter` about each `*args` batch and nothing else. -/
theorem join_safe_consults_mode_only_by_env_format (formatter : Nat) (v : V) (joiner : Option V) (batches : List V) :
    (joinAeC formatter v joiner).AllAsks isEnvFormat ∧ (unpackListsC batches).AllAsks (fun q => ∃ k, q = .tryIter k) :=
  ⟨joinAeC_asks formatter v joiner, unpackListsC_asks batches⟩

/-- `{% autoescape 'html' %}{{ [hs, u]|join(',') }}{% endautoescape %}` with a safe `hs` = `<i>`, as compiled: the
    undefined item goes through `State::format`, which fails under SemiStrict; without the autoescape block
    `join_plain` never asks, so the same join renders under Strict.  The plain joiner is escaped. -/
example :
    let code : Array Instr := #[.loadConst (.str "html"), .pushAutoEscape, .lookup "hs", .lookup "u", .buildList 2,
      .loadConst (.str "<"), .applyFilter "join" 2, .emit, .popAutoEscape]
    let plain : Array Instr := #[.lookup "hs", .lookup "u", .buildList 2, .loadConst (.str "<"), .applyFilter "join" 2, .emit]
    let s : St := { ctx := [("hs", .safe "<i>")] }
    (Prog.single code).inFragment = true ∧
    (runVm Ops.exec (Prog.single code) .lenient 20 s).map St.output = .ok "<i>&lt;" ∧
    (runVm Ops.exec (Prog.single code) .semiStrict 20 s).map St.output = .error .undefinedError ∧
    (runVm Ops.exec (Prog.single plain) .strict 20 s).map St.output = .ok "<i><" := by
  decide +kernel

/-- `{% macro sp(p=1) %}{{ p }}{% endmacro %}[{{ sp(*u) }}]` as compiled: the splat is an iteration site -/
example :
    let code : Array Instr := #[.jump 10, .storeLocal "p", .lookup "p", .isUndefined, .jumpIfFalse 7, .loadConst (.int 1), .storeLocal "p",
      .lookup "p", .emit, .ret, .getClosure, .loadConst (.seq [.str "p"]), .buildMacro "sp" 1 0, .storeLocal "sp",
      .emitRaw "[", .lookup "u", .unpackLists 1, .callDyn (.callFunction "sp" 0), .emit, .emitRaw "]"]
    (runVm Ops.exec (Prog.single code) .lenient 60 {}).map St.output = .ok "[1]" ∧
    (runVm Ops.exec (Prog.single code) .semiStrict 60 {}).map St.output = .error .undefinedError := by
  decide +kernel

theorem isErr_ite {α : Type} {r : Except Err α} {c : Prop} [Decidable c] {x : α}
    (h : r = if c then .error .undefinedError else .ok x) : (isErr r ↔ c) ∧ (¬ c → r = .ok x) := by
  by_cases hc : c
  · rw [h, if_pos hc]; exact ⟨⟨fun _ => hc, fun _ => rfl⟩, (absurd hc ·)⟩
  · rw [h, if_neg hc]; exact ⟨⟨(nomatch ·), (absurd · hc)⟩, fun _ => rfl⟩

/- For a given instruction and stack, the computation "ask the one question, then the mode-independent result"
   is found by `rfl` (`step_ask`); what is left is to read off from `HQ.refuses` when that question is refused.
   The three builtins ask nothing: their calls are evaluated through the extracted signatures. -/
theorem site_matrix : SiteMatrix := by
  intro ops P
  have hd : sigOf "test" "defined" = some ([.base "&Value"], []) := by decide +kernel
  have hu : sigOf "test" "undefined" = some ([.base "&Value"], []) := by decide +kernel
  have hf : sigOf "filter" "default" = some ([.base "&Value", .rest (.base "Value")], ["undefined_behavior"]) := by
    decide +kernel
  have hc := And.intro (argTypeCode_plain "&Value" (by simp)) (argTypeCode_plain "Value" (by simp))
  have hw := wrapperForwards_rows.2.1
  refine ⟨?_, ?_, ?_, ?_, ?_, ?_, ?_, ?_, ?_, ?_⟩
  · intro m s r hs
    exact isErr_ite ((stepC_emit ops P m s _ r hs rfl).1.trans (by simp only [V.kind, and_true]))
  · intro m s r hs
    exact isErr_ite (step_ask ops P hs rfl rfl (and_iff_left rfl))
  · intro m s r t hs
    have hC : (HQ.isTrue (V.kind .undef)).refuses m ↔ m = .strict := and_iff_left rfl
    have h1 := isErr_ite (step_ask ops P (i := .jumpIfFalse t) hs rfl rfl hC)
    have h2 := isErr_ite (step_ask ops P (i := .not) hs rfl rfl hC)
    have h3 := isErr_ite (step_ask ops P (i := .jumpIfFalseOrPop t) hs rfl rfl hC)
    have h4 := isErr_ite (step_ask ops P (i := .jumpIfTrueOrPop t) hs rfl rfl hC)
    exact ⟨h1.1, h2.1, h3.1, h4.1, fun hm => ⟨h1.2 hm, h2.2 hm⟩⟩
  · intro m s r u n hs hu
    have h : step ops P m (.getAttr n) s =
        if m ≠ .chainable then .error .undefinedError else .ok { s with stack := .undef :: r }.next := by
      rcases V.eq_of_isUndefined hu with rfl | rfl <;>
        exact step_ask ops P (q := .handleUndefined true) hs rfl rfl (and_iff_right rfl)
    exact ⟨(isErr_ite h).1, fun hm => h.trans (if_neg (not_not_intro hm))⟩
  · intro m s r u k hs hu hk
    have hg := V.getItem_of_isUndefined hu k
    have h : step ops P m .getItem s =
        if m ≠ .chainable then .error .undefinedError else .ok { s with stack := .undef :: r }.next := by
      rcases V.eq_of_isUndefined hu with rfl | rfl <;>
        exact step_ask ops P (q := .handleUndefined true) hs
          (by unfold stepC stepC1 guardQs exec; simp only [inspects, List.take, List.any, hk, hg]; rfl) rfl (and_iff_right rfl)
    exact ⟨(isErr_ite h).1, fun hm => h.trans (if_neg (not_not_intro hm))⟩
  · intro m s r kvs n hs hn
    have hg : V.getAttr (.map kvs) n = Option.none := hn
    exact (step_ask ops P (q := .handleUndefined false) (C := False) hs
      (by unfold stepC stepC1 guardQs exec; simp only [inspects, List.take, List.any, hg]; rfl) rfl
      ⟨(nomatch ·.1), False.elim⟩).trans (if_neg id)
  · intro m s r v hs hv
    simp [step, stepC, stepC1, inspects, builtinStep, callArgs, callBuiltin_eq, hd, hu, hf, convCall, namedSig, ArgTy.name,
      splitKwargs, isKwargsTy, convArgs, convRest, convertOne, ArgTy.asks, hc.1, handBody, testBody, filterBody,
      defaultBody, V.not_kwargs_of_not_opaque hv, V.not_object_of_not_opaque hv, hs, Comp.run, Comp.bind, Comp.chks,
      Comp.ofExcept, V.isTrue]
  · intro m s r v o hs hv ho
    simp [step, stepC, stepC1, inspects, builtinStep, callArgs, callBuiltin_eq, hf, convCall, namedSig, ArgTy.name,
      splitKwargs, isKwargsTy, convArgs, convRest, convertOne, ArgTy.asks, hw, hc.1, hc.2, handBody, filterBody, defaultBody,
      V.not_kwargs_of_not_opaque hv, V.not_kwargs_of_not_opaque ho, V.not_object_of_not_opaque hv,
      V.not_object_of_not_opaque ho, hs, Comp.run, Comp.bind, Comp.chks, Comp.ofExcept]
  · intro m s r t hs
    have hC : (HQ.tryIter (V.kind .silent)).refuses m ↔ False := ⟨(nomatch ·.2), False.elim⟩
    have hC' : (HQ.isTrue (V.kind .silent)).refuses m ↔ False := ⟨(nomatch ·.2), False.elim⟩
    exact ⟨(stepC_emit ops P m s _ r hs rfl).1.trans (if_neg (nomatch ·.2)),
           (step_ask ops P hs rfl rfl hC).trans (if_neg id),
           (step_ask ops P (i := .jumpIfFalse t) hs rfl rfl hC').trans (if_neg id)⟩
  · intro m s r hs
    exact isErr_ite (step_ask ops P hs rfl rfl (and_iff_left rfl))

/-- the nested chain `{{ a.b.c }}` with a defined `a` and a missing `b`, as compiled -/
example :
    let code : Array Instr := #[.lookup "a", .getAttr "b", .getAttr "c", .emit]
    let s : St := { ctx := [("a", .map [("x", .int 1)])] }
    (runVm Ops.exec (Prog.single code) .chainable 10 s).map St.output = .ok "" ∧
    (runVm Ops.exec (Prog.single code) .lenient 10 s).map St.output = .error .undefinedError ∧
    (runVm Ops.exec (Prog.single code) .strict 10 s).map St.output = .error .undefinedError := by
  decide +kernel

/-- The helper calls of each instruction arm of `eval_impl` (extracted from vm/mod.rs on every
    run, macros expanded, every call of the file accounted for) are the ones `guardQs` / `unpackListsC` /
    `mergeKwargsC` model, in that order, and the file names a variant of the mode exactly three times: in the two
    inline tests that `emitChk`/`sliceChk` model (`strict_undefined` = Strict | SemiStrict, and Strict in `Slice`). -/
theorem vm_sites_as_modelled :
    MJ.Gen.undefVmSites = [
      ("GetAttr", [("handle_undefined", "a.is_undefined()")]),
      ("GetItem", [("handle_undefined", "b.is_undefined()")]),
      ("UnpackLists", [("try_iter", "list")]),
      ("Eq", [("assert_value_not_undefined", "a"), ("assert_value_not_undefined", "b")]),
      ("Ne", [("assert_value_not_undefined", "a"), ("assert_value_not_undefined", "b")]),
      ("Gt", [("assert_value_not_undefined", "a"), ("assert_value_not_undefined", "b")]),
      ("Gte", [("assert_value_not_undefined", "a"), ("assert_value_not_undefined", "b")]),
      ("Lt", [("assert_value_not_undefined", "a"), ("assert_value_not_undefined", "b")]),
      ("Lte", [("assert_value_not_undefined", "a"), ("assert_value_not_undefined", "b")]),
      ("Not", [("is_true", "a")]),
      ("StringConcat", [("assert_value_not_undefined", "b"), ("assert_value_not_undefined", "a")]),
      ("In", [("assert_iterable", "a"), ("assert_value_not_undefined", "b")]),
      ("CompareAndPreserve.Eq", [("assert_value_not_undefined", "a"), ("assert_value_not_undefined", "b")]),
      ("CompareAndPreserve.Ne", [("assert_value_not_undefined", "a"), ("assert_value_not_undefined", "b")]),
      ("CompareAndPreserve.Lt", [("assert_value_not_undefined", "a"), ("assert_value_not_undefined", "b")]),
      ("CompareAndPreserve.Lte", [("assert_value_not_undefined", "a"), ("assert_value_not_undefined", "b")]),
      ("CompareAndPreserve.Gt", [("assert_value_not_undefined", "a"), ("assert_value_not_undefined", "b")]),
      ("CompareAndPreserve.Gte", [("assert_value_not_undefined", "a"), ("assert_value_not_undefined", "b")]),
      ("CompareAndPreserve.In", [("assert_iterable", "b"), ("assert_value_not_undefined", "a")]),
      ("CompareAndPreserve.NotIn", [("assert_iterable", "b"), ("assert_value_not_undefined", "a")]),
      ("JumpIfFalse", [("is_true", "a")]),
      ("JumpIfFalseOrPop", [("is_true", "stack.peek()")]),
      ("JumpIfTrueOrPop", [("is_true", "stack.peek()")]),
      ("fn:push_loop", [("try_iter", "iterable")]),
      ("fn:merge_kwargs", [("assert_iterable", "value")])] ∧
    MJ.Gen.undefVmInlineModeTests = 3 ∧ MJ.Gen.undefModeCount = 4 ∧
    MJ.Gen.undefDefaultMode = Mode.lenient.code := ⟨rfl, rfl, rfl, rfl⟩

/-- The registered builtins whose source can reach the mode — directly through helpers
    (`undefined_behavior()`, with the helper calls in order), through the formatter
    (`.format(state)`) or by calling another filter / test (`.call(state, ..)`), transitively over
    the local functions they call — extracted from filters.rs / tests.rs / functions.rs on every
    run.  Every other registered builtin is mode-independent after its argument conversion
    (`pure_builtin_independent_after_conversion`; validated on the `call` / `sweep` streams).  The
    hand models in `filterBody` / `testBody` ask exactly the listed helpers. -/
theorem builtin_sites_as_modelled :
    (MJ.Gen.undefBuiltinSigs.filter (fun r => !r.2.2.2.1.isEmpty)).map (fun r => (r.1, r.2.1, r.2.2.2.1, r.2.2.2.2)) = [
      ("filter", "escape", ["format"], []),
      ("filter", "e", ["format"], []),
      ("filter", "replace", ["format"], []),
      ("filter", "join", ["format"], []),
      ("filter", "default", ["undefined_behavior"], ["is_true"]),
      ("filter", "d", ["undefined_behavior"], ["is_true"]),
      ("filter", "int", ["undefined_behavior"], ["assert_value_not_undefined"]),
      ("filter", "float", ["undefined_behavior"], ["assert_value_not_undefined"]),
      ("filter", "attr", ["undefined_behavior"], ["handle_undefined"]),
      ("filter", "min", ["undefined_behavior"], ["try_iter"]),
      ("filter", "max", ["undefined_behavior"], ["try_iter"]),
      ("filter", "sort", ["undefined_behavior"], ["try_iter"]),
      ("filter", "list", ["undefined_behavior"], ["try_iter"]),
      ("filter", "string", ["undefined_behavior"], ["assert_value_not_undefined"]),
      ("filter", "bool", ["undefined_behavior"], ["is_true"]),
      ("filter", "batch", ["undefined_behavior"], ["try_iter"]),
      ("filter", "slice", ["undefined_behavior"], ["try_iter"]),
      ("filter", "sum", ["undefined_behavior"], ["try_iter", "handle_undefined"]),
      ("filter", "select", ["call", "undefined_behavior"], ["try_iter"]),
      ("filter", "reject", ["call", "undefined_behavior"], ["try_iter"]),
      ("filter", "selectattr", ["call", "undefined_behavior"], ["try_iter"]),
      ("filter", "rejectattr", ["call", "undefined_behavior"], ["try_iter"]),
      ("filter", "map", ["call", "undefined_behavior"], ["try_iter", "try_iter"]),
      ("filter", "unique", ["undefined_behavior"], ["try_iter"]),
      ("filter", "format", ["format"], []),
      ("test", "in", ["undefined_behavior"], ["assert_iterable"])] ∧
    MJ.Gen.undefBuiltinSigs.length = 95 := ⟨rfl, rfl⟩

/-- **helper_rows_are_whole_bodies**: the five functions whose `match` rows the model interprets
    (`handle_undefined`, `is_true`, `assert_iterable`, `assert_value_not_undefined`, `Environment::format`) consist of
    that match and nothing else — no statement in front of it (an early return, e.g. for a discarding output,
    would bypass the rows), nothing after it. -/
theorem helper_rows_are_whole_bodies :
    MJ.Gen.undefRowFnsWholeBody = [("utils.rs::handle_undefined", true), ("utils.rs::is_true", true),
      ("utils.rs::assert_iterable", true), ("utils.rs::assert_value_not_undefined", true),
      ("environment.rs::format", true)] := rfl

/-- the modes that take an error branch form an upward closed set in
    `Chainable(0) ≤ Lenient(1) ≤ SemiStrict(2) ≤ Strict(3)` -/
def upClosed (E : List Nat) : Bool :=
  [0, 1, 2, 3].all (fun m => !E.contains m || [0, 1, 2, 3].all (fun m' => !(decide (m ≤ m')) || E.contains m'))

/-- **all_mode_sites_monotone** — the source tie over the whole crate.  Every mention of the
    undefined behaviour in `minijinja/src` and `minijinja-contrib/src` (extracted on every run) is
    * plumbing (field, setter, getter, default, type), the local alias of `eval_impl`,
    * a call of one of the five helpers (monotone: `helper_mono`),
    * the match rows of the helpers / of `Environment::format` (`helpers_matrix`), or
    * a comparison of the mode with variants whose guarded branch is an error and whose set of
      erroring modes is upward closed in strictness (so `!= Lenient`, `== Lenient`-only or
      `Chainable | Strict` patterns are rejected);
    nothing is unclassified, and the comparisons are exactly the two inline tests of `eval_impl` that
    `emitChk` (`Strict | SemiStrict`) and `sliceChk` (`Strict`) model. -/
theorem all_mode_sites_monotone :
    (∀ t ∈ MJ.Gen.undefModeTests, t.2.2.2 = 0 ∧ upClosed t.2.2.1 = true) ∧
    (∀ r ∈ MJ.Gen.undefModeMentions, r.2.2.1 ∈ ["plumbing", "alias", "rows", "test", "helper:handle_undefined",
        "helper:is_true", "helper:try_iter", "helper:assert_iterable", "helper:assert_value_not_undefined"]) ∧
    MJ.Gen.undefModeTests = [("minijinja/src/vm/mod.rs", "eval_impl", [2, 3], 0), ("minijinja/src/vm/mod.rs", "eval_impl", [3], 0)] ∧
    (MJ.Gen.undefModeMentions.filter (fun r => r.2.2.1 == "rows" || r.2.2.1 == "alias" || r.2.2.1 == "test")).map (fun r => (r.1, r.2.1)) =
      [("minijinja/src/environment.rs", "format"), ("minijinja/src/utils.rs", "handle_undefined"),
       ("minijinja/src/utils.rs", "is_true"), ("minijinja/src/utils.rs", "assert_iterable"),
       ("minijinja/src/utils.rs", "assert_value_not_undefined"), ("minijinja/src/vm/mod.rs", "eval_impl"),
       ("minijinja/src/vm/mod.rs", "eval_impl")] := by decide +kernel

/-- the classification is not vacuous: `!= Lenient` (errors under Chainable, SemiStrict, Strict) is
    rejected, `Strict | SemiStrict` accepted -/
example : upClosed [0, 2, 3] = false ∧ upClosed [2, 3] = true ∧ upClosed [3] = true ∧ upClosed [1] = false := by decide +kernel

/-- every call of a mode-blind twin of the helpers (`Value::try_iter`, `Value::is_true`, `get_attr` / `get_item(_opt)` /
    `get_attr_fast` / `get_item_by_index` without `handle_undefined`, `is_undefined()` guards) in minijinja/src and
    minijinja-contrib/src outside the value layer -- regenerated per (file, fn, twin) with its count on every run -- is
    justified: the helper's own body, a function that asks the helper about the same operand (backed by a helper call
    found in that function), the `defined` / `undefined` / `default` row, a boolean or value the engine built itself, a
    compile-time constant (the constant folder has no look-up twin, so no constant is undefined), an object-only
    iteration, the modelled conversion layer, or the body of a builtin (only in the builtin files, never in the VM or
    the compiler).  One more blind call anywhere -- the recursion arm of push_loop in seeded C12-6, the look-up arms of
    as_const in C12-7 -- breaks it. -/
theorem blind_twin_sites_justified :
    (MJ.Gen.undefBlindTwins.filter (fun r => !valueLayer r.1)) = twinJustification.map (fun j => (j.1, j.2.1, j.2.2.1, j.2.2.2.1)) ∧
    (∀ j ∈ twinJustification, j.2.2.2.2 = TwinWhy.asksHelper → asksAHelper j.1 j.2.1 = true) ∧
    (∀ j ∈ twinJustification, j.2.2.2.2 = TwinWhy.builtinBody → builtinFile j.1 = true) ∧
    (∀ j ∈ twinJustification, j.2.2.2.2 = TwinWhy.helperBody → j.1 = "minijinja/src/utils.rs" ∧ j.2.1 = j.2.2.1) ∧
    (∀ r ∈ MJ.Gen.undefBlindTwins, r.1 = "minijinja/src/compiler/ast.rs" → r.2.2.1 = "is_true") :=
  MJ.Undef.blind_twin_sites_justified

/-- not vacuous: a VM row justified by a helper call; the table with the blind call of seeded C12-6 added is rejected -/
example : ("minijinja/src/vm/mod.rs", "eval_impl", "get_item_opt", 1, TwinWhy.asksHelper) ∈ twinJustification ∧
    asksAHelper "minijinja/src/vm/mod.rs" "eval_impl" = true ∧
    (("minijinja/src/vm/mod.rs", "push_loop", "try_iter", 1) :: MJ.Gen.undefBlindTwins).filter (fun r => !valueLayer r.1)
      ≠ twinJustification.map (fun j => (j.1, j.2.1, j.2.2.1, j.2.2.2.1)) := by decide +kernel

theorem C12_holds : C12_full := ⟨mono_vm, helpers_matrix, site_matrix⟩

/-- the full statement is not vacuous: a strict run that succeeds (and consults the mode at every
    step: a defined value is printed, tested, iterated) and the same run under Chainable -/
example :
    let code : Array Instr := #[.lookup "a", .getAttr "x", .emit, .lookup "a", .jumpIfFalse 6, .emitRaw "t",
                                .lookup "a", .pushLoop 1, .iterate 12, .storeLocal "k", .emitRaw "i", .jump 8, .popLoopFrame]
    let s : St := { ctx := [("a", .map [("x", .int 1)])] }
    (runVm Ops.exec (Prog.single code) .strict 50 s).map St.output = .ok "1ti" ∧
    (runVm Ops.exec (Prog.single code) .chainable 50 s).map St.output = .ok "1ti" := by
  decide +kernel

end MJ.C12
