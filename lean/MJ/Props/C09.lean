import MJ.Proofs.SliceBack
import MJ.Proofs.SliceFwd
import MJ.Proofs.PySliceSpec
import MJ.Proofs.SubGlue
import MJ.Proofs.SubKinds
import MJ.Model.SubObj
/-!
# C09 — subscripts and slices follow Python's rules for every bound and step

The property theorems (the arithmetic lives in `MJ/Proofs/PySliceSpec.lean` and `Slice*.lean`, the facts
about the glue model in `MJ/Proofs/Sub*.lean`).

* `Slice.slice` is the model of what `ops::slice` does to a sequence once the three parts are `Option<i64>`
  (including every checked arithmetic operation, so a Rust panic is the distinguished result `Chk.panic`);
  `Sub.sliceV` is `ops::slice` on values;
* `PySlice.indices` is the transcription of CPython's `PySlice_AdjustIndices`;
* `pick xs is` selects the elements of `xs` at the positions `is`, in that order.
-/
namespace MJ.C09
open MJ Chk Slice

/-- Full-strength statement: for every element type, every list shorter than 2^63 (Rust's
    `isize::MAX` bound on any allocation) and all `start/stop/step` that fit `i64` (anything else
    is clamped into that range or rejected by `slice_bound` before slicing), the model of the Rust slice
    code returns exactly Python's selection, a zero step is the only error, and it never panics. -/
def C09_full : Prop :=
  ∀ (α : Type) (xs : List α) (start stop step : Option Int),
    OptInI64 start → OptInI64 stop → OptInI64 step → xs.length < 9223372036854775808 →
    slice xs start stop step =
      if step = some 0 then .ok .zeroStep
      else .ok (.ok (pick xs (PySlice.indices xs.length start stop (step.getD 1))))

theorem slice_eq_python : C09_full := by
  intro α xs start stop step hs he hp hl
  unfold slice
  by_cases h0 : step = some 0
  · subst h0; exact (if_pos rfl).trans (if_pos rfl).symm
  · rw [if_neg h0]
    have hne : step.getD 1 ≠ 0 := mt (getD_one_eq_zero step).mp h0
    have hr := getD_range step hp
    generalize step.getD 1 = st at hne hr
    simp only [hne, if_false]
    by_cases hpos : st > 0
    · obtain ⟨off, n, ho, hsel⟩ := window_python xs start stop st _ hs he hr hpos hl (Or.inl rfl)
      rw [if_pos hpos, ho]
      simp only []
      rw [hsel]
    · simp only [InI64] at hr
      obtain ⟨k, rfl⟩ : ∃ k : Nat, st = -(k : Int) := ⟨st.natAbs, by omega⟩
      rw [if_neg hpos, Int.natAbs_neg, Int.natAbs_natCast,
        rangeStepBackwards_eq start stop k xs.length hs he (by omega) hl]
      simp only []
      rw [mapM_index_ok xs _ (PySlice.indices_lt _ _ _ _ hne)]

/-- every position Python selects exists, so `pick` drops nothing: the result has exactly
    Python's length and its `j`-th element is the element at Python's `j`-th position. -/
theorem indices_in_bounds (len : Nat) (start stop : Option Int) (step : Int)
    (hs : OptInI64 start) (he : OptInI64 stop) (hp : InI64 step) (h0 : step ≠ 0)
    (hl : len < 9223372036854775808) :
    ∀ i ∈ PySlice.indices len start stop step, i < len :=
  PySlice.indices_lt len start stop step h0

theorem slice_getElem? {α : Type} (xs : List α) (start stop : Option Int) (step : Int)
    (hs : OptInI64 start) (he : OptInI64 stop) (hp : InI64 step) (h0 : step ≠ 0)
    (hl : xs.length < 9223372036854775808) (j : Nat) :
    (pick xs (PySlice.indices xs.length start stop step))[j]? =
      ((PySlice.indices xs.length start stop step)[j]?).bind (xs[·]?) :=
  pick_getElem? xs _ (indices_in_bounds xs.length start stop step hs he hp h0 hl) j

/-- a zero step is an error and nothing else about a slice can fail (no error, no panic) -/
theorem slice_only_error_is_zero_step {α : Type} (xs : List α) (start stop step : Option Int)
    (hs : OptInI64 start) (he : OptInI64 stop) (hp : OptInI64 step)
    (hl : xs.length < 9223372036854775808) :
    (slice xs start stop step = .ok .zeroStep ↔ step = some 0) ∧ slice xs start stop step ≠ .panic := by
  rw [slice_eq_python α xs start stop step hs he hp hl]
  by_cases h : step = some 0 <;> simp [h]

/-- forward slices of iterables of unknown length (no bound relative to the end): the code uses
    `usize::MAX` as length and relies on `skip/take` stopping at the real end — same result. -/
theorem sliceUnsized_eq_slice {α : Type} (xs : List α) (start stop step : Option Int)
    (hs : OptInI64 start) (he : OptInI64 stop) (hp : OptInI64 step)
    (hl : xs.length < 9223372036854775808) :
    sliceUnsized xs start stop step = slice xs start stop step := by
  unfold sliceUnsized
  split
  next hc =>
    have hn := Bool.or_eq_false_iff.mp hc.2
    unfold slice
    simp only [show step.getD 1 ≠ 0 by omega, hc.1, if_true, if_false]
    rw [offsetLen_ok start stop _ hs he (Or.inr hc.2), offsetLen_ok start stop _ hs he (Or.inr hc.2)]
    simp only [preClamp_of_not_neg _ start 0 hn.1, preClamp_of_not_neg _ stop _ hn.2]
    -- the two windows differ only when the stop is omitted, and then both reach the end of the list
    cases stop with
    | none =>
      simp only [Option.getD_none, Int.toNat_natCast]
      rw [List.take_of_length_le (by simp; omega), List.take_of_length_le (by simp)]
    | some x => rfl
  next => rfl

/-- subscripts: `v[i]` selects Python's element, out of range is undefined (never an error) -/
theorem index_eq_python {α : Type} (xs : List α) (i : Int) :
    index? xs i = (PySlice.index xs.length i).bind (xs[·]?) :=
  index?_eq xs i

/-! ## Non-vacuity: the hypotheses are met by ordinary inputs, and the statement has content. -/
example : slice [10, 11, 12, 13, 14] (some 4) (some 0) (some (-1)) = .ok (.ok [14, 13, 12, 11]) := by decide +kernel
example : slice [10, 11, 12, 13, 14] none none (some (-2)) = .ok (.ok [14, 12, 10]) := by decide +kernel
example : slice ([] : List Nat) none none (some (-9223372036854775808)) = .ok (.ok []) := by decide +kernel
example : slice [1, 2, 3] (some (-2)) none (some 0) = .ok .zeroStep := by decide +kernel
example : PySlice.indices 5 (some 4) (some 0) (-1) = [4, 3, 2, 1] := by decide +kernel

/-! ## The specification itself is Python's declarative rule (sanity of the transcription) -/

/-- positive step `k`: exactly the positions `lo ≤ i < hi`, `i ≡ lo (mod k)`, in increasing order -/
theorem spec_pos (len : Nat) (start stop : Option Int) (k : Nat) (hk : 0 < k) :
    (∀ i : Nat, i ∈ PySlice.indices len start stop (k : Int) ↔
      PySlice.clampPos len start 0 ≤ (i : Int) ∧ (i : Int) < PySlice.clampPos len stop len ∧
      ((i : Int) - PySlice.clampPos len start 0) % (k : Int) = 0) ∧
    (PySlice.indices len start stop (k : Int)).Pairwise (· < ·) :=
  ⟨PySlice.mem_indices_pos len start stop k hk, PySlice.indices_pos_sorted len start stop k hk⟩

/-- negative step `-k`: exactly the positions `stop' < i ≤ start'`, `i ≡ start' (mod k)` -/
theorem spec_neg (len : Nat) (start stop : Option Int) (k : Nat) (hk : 0 < k) (i : Nat) :
    i ∈ PySlice.indices len start stop (-(k : Int)) ↔
      PySlice.clampNeg len stop (-1) < (i : Int) ∧ (i : Int) ≤ PySlice.clampNeg len start ((len : Int) - 1) ∧
      (PySlice.clampNeg len start ((len : Int) - 1) - (i : Int)) % (k : Int) = 0 :=
  PySlice.mem_indices_neg len start stop k hk i

/-! # Values: the glue around the arithmetic (`MJ.Sub`, model of `ops::slice`, `get_item_opt`, VM arms)

Bounds and subscripts arrive as template *values*; containers come in many representations.
`pyView` maps a value to the Python sequence it stands for (`str`, `bytes`, `tuple`, list),
`pyBound`/`pyInt` say which values Python accepts as slice parts / indexes (integers of every
representation and size, booleans, `none` for an omitted part). -/
section Values
open MJ.Sub

theorem slice_list_ok {α : Type} (xs : List α) (A B : Option Int) (st : Int)
    (hA : OptInI64 A) (hB : OptInI64 B) (hst : InI64 st) (h0 : st ≠ 0) (hl : xs.length < 9223372036854775808) :
    slice xs A B (some st) = .ok (.ok (pick xs (PySlice.indices xs.length A B st))) :=
  (slice_eq_python α xs A B (some st) hA hB hst hl).trans (if_neg (fun h => h0 (Option.some.inj h)))

theorem wrapRes_slice {α β : Type} (xs : List α) (A B : Option Int) (st : Int) (f : List α → β)
    (hA : OptInI64 A) (hB : OptInI64 B) (hst : InI64 st) (h0 : st ≠ 0) (hl : xs.length < 9223372036854775808) :
    wrapRes (slice xs A B (some st)) f = .ok (.ok (f (pick xs (PySlice.indices xs.length A B st)))) := by
  rw [slice_list_ok xs A B st hA hB hst h0 hl]; rfl

theorem sliceUnsizedG_eq {α : Type} (xs : List α) (A B : Option Int) (st : Int)
    (hA : OptInI64 A) (hB : OptInI64 B) (hst : InI64 st) (h0 : st ≠ 0) (hl : xs.length < 9223372036854775808) :
    ∃ sized, sliceUnsizedG xs A B st = .ok (.ok (.iter sized (pick xs (PySlice.indices xs.length A B st)))) := by
  unfold sliceUnsizedG
  by_cases hc : st > 0 ∧ (isNeg A || isNeg B) = false
  · obtain ⟨off, n, ho, hsel⟩ := window_python xs A B st MJ.Gen.c09UnsizedLen hA hB hst hc.1 hl (Or.inr ⟨by rw [unsizedLen_eq]; omega, hc.2⟩)
    rw [if_pos hc, ho]
    exact ⟨decide (n = 0), by simp only []; rw [hsel]⟩
  · rw [if_neg hc, wrapRes_slice xs A B st _ hA hB hst h0 hl]
    exact ⟨true, rfl⟩

/-- `ops::slice` once the three parts are converted: a zero step is the error, everything else
    is Python's selection on the converted bounds, of the same type -/
theorem sliceV_of_bounds {α : Type} (v a b c : Val α) (s : PySeq α) (A B C : Option Int)
    (hv : pyView v = some s) (ha : optBound a = .ok A) (hb : optBound b = .ok B) (hc : optBound c = .ok C)
    (hl : s.len < 9223372036854775808) :
    if C.getD 1 = 0 then sliceV v a b c = .ok (.error zeroStepErr)
    else ∃ r, sliceV v a b c = .ok (.ok r) ∧ pyView r = some (s.slice A B (C.getD 1)) := by
  have hA := optBound_range a A ha
  have hB := optBound_range b B hb
  have hst := getD_range C (optBound_range c C hc)
  rw [sliceV_conv ha hb hc]
  by_cases h0 : C.getD 1 = 0
  · rw [if_pos h0, if_pos h0]
  · rw [if_neg h0, if_neg h0, if_neg (sliceClass_of_view hv), hv]
    cases s with
    | str cs => exact ⟨_, wrapRes_slice cs A B _ _ hA hB hst h0 hl, by simp only [pyView, chars_encode]; rfl⟩
    | bytes bs => exact ⟨_, wrapRes_slice bs A B _ _ hA hB hst h0 hl, rfl⟩
    | tuple xs => exact ⟨_, wrapRes_slice xs A B _ _ hA hB hst h0 hl, rfl⟩
    | list xs =>
      simp only []
      split
      · exact ⟨_, (sliceUnsizedG_eq xs A B _ hA hB hst h0 hl).choose_spec, rfl⟩
      · exact ⟨_, wrapRes_slice xs A B _ _ hA hB hst h0 hl, rfl⟩

/-- Full-strength statement at the level of template values: for every value Python has a
    sequence type for (strings in all three representations, bytes, tuples, sequences, sized and
    unsized iterables, one-shot iterators) and all slice parts that are omitted or Python integers —
    of *any* representation (`bool`, `i64`, `u64`, `i128`, `u128`) and *any* size — `ops::slice`
    returns Python's selection, of the same type; a zero step is the only error; no panic. -/
def C09_values_full : Prop :=
  ∀ (α : Type) (v a b c : Val α) (s : PySeq α) (A B C : Option Int),
    pyView v = some s → pyBound a = some A → pyBound b = some B → pyBound c = some C →
    a.WF → b.WF → c.WF → s.len < 9223372036854775808 →
    if C = some 0 then sliceV v a b c = .ok (.error zeroStepErr)
    else ∃ r, sliceV v a b c = .ok (.ok r) ∧ pyView r = some (s.slice A B (C.getD 1))

theorem sliceV_eq_python : C09_values_full := by
  intro α v a b c s A B C hv ha hb hc wa wb wc hl
  have h := sliceV_of_bounds v a b c s _ _ _ hv (optBound_pyBound a A ha wa) (optBound_pyBound b B hb wb)
    (optBound_pyBound c C hc wc) hl
  -- clamping changes neither whether the step is zero nor what Python selects
  rw [getD_map_clampI64, PySeq.slice, indices_clamp s.len A B (C.getD 1) hl] at h
  simp only [clampI64_zero_iff, getD_one_eq_zero] at h
  exact h

/-- integral floats are accepted where Python wants integers (engine rule): they act as the integer -/
theorem sliceBound_float {α : Type} (bits : Nat) :
    sliceBound (Val.num (.f64 bits) : Val α) =
      match f64ToI64 bits with
      | some x => .ok x
      | Option.none => .error (convErr (Val.num (.f64 bits) : Val α)) := by
  cases h : f64ToI64 bits with
  | none => exact sliceBound_of_no_int _ (Or.inr h)
  | some x =>
    rw [sliceBound_of_holds (Val.num (.f64 bits)) x ⟨arm_num _, h, trivial⟩, clampI64_id x (f64ToI64_range bits x h)]

/-- everything that is neither `none` nor a number/boolean is a conversion error -/
theorem sliceBound_not_number {α : Type} (v : Val α) (h : MJ.Gen.c09IntTryFromArms.contains v.repr = false) :
    sliceBound v = .error (convErr v) :=
  sliceBound_of_no_int v (Or.inl h)

/-- the errors of `ops::slice` in their order: a part that does not convert (start, stop, step),
    the zero step, a value that cannot be sliced — `sliceErr?` names the one reported; otherwise the
    three parts are converted, the step is not zero and the value has a slicing arm -/
theorem sliceErr?_cases {α : Type} (v a b c : Val α) :
    (∃ e, sliceErr? v a b c = some e ∧ sliceV v a b c = .ok (.error e)) ∨
    (∃ A B C, optBound a = .ok A ∧ optBound b = .ok B ∧ optBound c = .ok C ∧ C.getD 1 ≠ 0 ∧
      sliceClass v ≠ "error" ∧ sliceErr? v a b c = Option.none) := by
  unfold sliceErr?
  cases ha : optBound a with
  | error e => exact Or.inl ⟨e, rfl, by simp only [sliceV, ha]⟩
  | ok A =>
  cases hb : optBound b with
  | error e => exact Or.inl ⟨e, rfl, by simp only [sliceV, ha, hb]⟩
  | ok B =>
  cases hc : optBound c with
  | error e => exact Or.inl ⟨e, rfl, by simp only [sliceV, ha, hb, hc]⟩
  | ok C =>
  simp only []
  by_cases h0 : C.getD 1 = 0
  · exact Or.inl ⟨_, if_pos h0, (sliceV_conv ha hb hc).trans (if_pos h0)⟩
  · by_cases hcls : sliceClass v = "error"
    · exact Or.inl ⟨_, (if_neg h0).trans (if_pos hcls), (sliceV_conv ha hb hc).trans ((if_neg h0).trans (if_pos hcls))⟩
    · exact Or.inr ⟨A, B, C, rfl, rfl, rfl, h0, hcls, (if_neg h0).trans (if_neg hcls)⟩

/-- `ops::slice` is total: it reports `sliceErr?` if that is an error and succeeds otherwise;
    in no case does it panic — whatever the four values are -/
theorem sliceV_total {α : Type} (v a b c : Val α)
    (hl : ∀ s, pyView v = some s → s.len < 9223372036854775808) :
    match sliceErr? v a b c with
    | some e => sliceV v a b c = .ok (.error e)
    | Option.none => ∃ r, sliceV v a b c = .ok (.ok r) := by
  rcases sliceErr?_cases v a b c with ⟨e, he, h⟩ | ⟨A, B, C, ha, hb, hc, h0, hcls, he⟩ <;> rw [he]
  · exact h
  · cases hv : pyView v with
    | some s =>
      have h := sliceV_of_bounds v a b c s A B C hv ha hb hc (hl s hv)
      rw [if_neg h0] at h
      exact ⟨_, h.choose_spec.1⟩
    | none =>
      -- not a sequence for Python and no error: undefined or none, which slice to the empty list
      rw [sliceV_conv ha hb hc, if_neg h0, if_neg hcls, hv]
      exact ⟨_, rfl⟩

theorem sliceV_no_panic {α : Type} (v a b c : Val α)
    (hl : ∀ s, pyView v = some s → s.len < 9223372036854775808) : sliceV v a b c ≠ .panic := by
  have h := sliceV_total v a b c hl
  cases he : sliceErr? v a b c with
  | some e => rw [he] at h; simp only [] at h; rw [h]; intro x; cases x
  | none => rw [he] at h; obtain ⟨r, h⟩ := h; rw [h]; intro x; cases x

/-- `v[key]`, whatever the key: the item at the position the key denotes, undefined where it denotes
    none; never an error, never a panic.  The length bound is needed for positions beyond `i64` only;
    `ho`: a one-shot iterator answers an index relative to its end with undefined (`getItemOpt_of_i64`). -/
theorem getItemOpt_pos {α : Type} (v key : Val α) (s : PySeq α) (hv : pyView v = some s)
    (hl : valI64 key = Option.none → s.len < 9223372036854775808)
    (ho : isOnce v = true → ∀ i, valI64 key = some i → 0 ≤ i) :
    getItemOpt v key = (keyPos key s.len).bind s.itemAt := by
  cases v with
  | str r bs => cases hv; rw [getItemOpt_str]; exact indexOf_get key (chars bs) Item.chr
  | bytes bs => cases hv; rw [getItemOpt_bytes]; exact indexOf_get key bs Item.byte
  | tuple xs => cases hv; rw [(getItemOpt_vec xs key).2]; exact getItemOpt_seq_pos xs key hl
  | seq xs => cases hv; exact getItemOpt_seq_pos xs key hl
  | iter sized xs => cases hv; rw [getItemOpt_iter]; exact indexOf_get key xs Item.elem
  | once xs =>
    cases hv
    refine (getItemOpt_once xs key).trans (Eq.trans ?_ (indexOf_get key xs Item.elem))
    unfold indexOf
    cases hk : valI64 key with
    | none => rfl
    | some i => simp only [show ¬ i < 0 from Int.not_lt.mpr (ho rfl i hk), if_false]
  | _ => cases hv

/-- a key `as_i64` accepts (integers and booleans in the `i64` range, integral floats):
    `v[key]` is Python's `v[i]`; out of range is undefined (never an error, never a panic).
    A one-shot iterator answers an index relative to its end with undefined (engine rule: it had
    to be drained to be counted; Python's generators cannot be subscripted at all). -/
theorem getItemOpt_of_i64 {α : Type} (v key : Val α) (s : PySeq α) (i : Int)
    (hv : pyView v = some s) (hk : valI64 key = some i) :
    getItemOpt v key = if isOnce v && decide (i < 0) then Option.none else s.index i := by
  by_cases ho : isOnce v = true ∧ i < 0
  · cases v with
    | once xs => rw [getItemOpt_once, hk]; simp [ho.2, isOnce]
    | _ => cases ho.1
  · rw [getItemOpt_pos v key s hv (fun h => by rw [hk] at h; cases h)
      (fun h j hj => by rw [hk] at hj; cases hj; exact Int.not_lt.mp fun hn => ho ⟨h, hn⟩), keyPos, hk]
    by_cases h1 : isOnce v = true
    · simp [h1, show ¬ i < 0 from fun hn => ho ⟨h1, hn⟩]; rfl
    · simp [h1]; rfl

/-- a key `as_i64` rejects selects nothing: for the big integers that is Python's IndexError, for the
    rest the engine's rule (Python: TypeError) -/
theorem getItemOpt_not_i64 {α : Type} (v key : Val α) (s : PySeq α)
    (hv : pyView v = some s) (hk : valI64 key = Option.none) (hl : s.len < 9223372036854775808) :
    getItemOpt v key = Option.none := by
  rw [getItemOpt_pos v key s hv (fun _ => hl) (fun _ j hj => by rw [hk] at hj; cases hj), keyPos, hk]; rfl

/-- Python integers of every representation and size as subscripts: Python's `s[i]`, IndexError =
    undefined; nothing else can happen -/
theorem getItemOpt_eq_python {α : Type} (v key : Val α) (s : PySeq α) (i : Int)
    (hv : pyView v = some s) (hk : pyInt key = some i) (hl : s.len < 9223372036854775808)
    (ho : isOnce v = true → 0 ≤ i) :
    getItemOpt v key = s.index i := by
  rw [getItemOpt_pos v key s hv (fun _ => hl), keyPos_pyInt key i s.len hk hl]; rfl
  intro h j hj
  rw [show valI64 key = _ from tryInt_of_payload _ _ key i (pyInt_payload key i hk)] at hj
  split at hj
  · cases hj; exact ho h
  · cases hj

/-- maps (which Python's sequence rules do not cover): the key is looked up as it is — no
    normalisation of negative integers, no positional access -/
theorem getItemOpt_map {α : Type} (kvs : List (MKey × α)) (key : Val α) :
    getItemOpt (.map kvs) key = (mapGet kvs key).map Item.elem := by
  simp only [getItemOpt, obj_map, if_true]

/-- values without items -/
theorem getItemOpt_scalar {α : Type} (v key : Val α)
    (h : v = .undef ∨ v = .none ∨ (∃ b, v = .bool b) ∨ (∃ n, v = .num n) ∨ v = .plain ∨ v = .invalid) :
    getItemOpt v key = Option.none := by
  rcases h with rfl | rfl | ⟨b, rfl⟩ | ⟨n, rfl⟩ | rfl | rfl <;> rfl

/-- `GetItem`/`GetAttr`: a found item is the result; a missing one is undefined, except that
    subscripting an *undefined* value is an error in every mode but `Chainable` -/
theorem vmGetItem_eq {α : Type} (m : Mode) (v key : Val α) :
    vmGetItem m v key =
      match getItemOpt v key with
      | some it => .ok it
      | Option.none => if v.isUndef && m != .chainable then .error undefinedErr else .ok .undef := by
  unfold vmGetItem
  rw [handleUndefined_eq]
  cases getItemOpt v key <;> rfl

theorem vmGetAttr_eq {α : Type} (m : Mode) (v : Val α) (name : List UInt8) :
    vmGetAttr m v name =
      match getValueByStr v name with
      | some it => .ok it
      | Option.none => if v.isUndef && m != .chainable then .error undefinedErr else .ok .undef := by
  unfold vmGetAttr
  rw [handleUndefined_eq]
  cases getValueByStr v name <;> rfl

/-- `Slice`: only `Strict` refuses to slice an undefined value; otherwise `ops::slice` decides
    (undefined and none slice to the empty list once the parts convert and the step is not zero) -/
theorem vmSlice_eq {α : Type} (m : Mode) (v a b c : Val α) :
    vmSlice m v a b c =
      if v.isUndef && m == .strict then .ok (.error undefinedErr) else sliceV v a b c := by
  unfold vmSlice
  cases m <;> cases v.isUndef <;> rfl

theorem sliceV_undefined {α : Type} (v a b c : Val α) (hv : v = .undef ∨ v = .none)
    (h : sliceErr? v a b c = Option.none) : sliceV v a b c = .ok (.ok (.seq [])) := by
  rcases sliceErr?_cases v a b c with ⟨e, he, _⟩ | ⟨A, B, C, ha, hb, hc, h0, hcls, _⟩
  · rw [he] at h; cases h
  · rw [sliceV_conv ha hb hc, if_neg h0, if_neg hcls]
    rcases hv with rfl | rfl <;> rfl

/-- attribute syntax never indexes: a numeric string is not a position (`Value::get_attr("0")` on
    a list is undefined), on maps it is the string key -/
theorem getValueByStr_seq {α : Type} (xs : List α) (name : List UInt8) :
    getValueByStr (Val.seq xs) name = Option.none ∧ getValueByStr (Val.tuple xs) name = Option.none := by
  have : valUsize (Val.str .normal name : Val α) = Option.none := rfl
  simp [getValueByStr, vecGet, this]

/-- `Value::get_item` / `get_item_by_index` (no undefined mode involved) -/
theorem getItem_eq {α : Type} (v key : Val α) :
    getItem v key = if v.isUndef then .error undefinedErr else .ok ((getItemOpt v key).getD .undef) := by
  cases v <;> rfl

theorem index_natCast {α : Type} (s : PySeq α) (n : Nat) : s.index (n : Int) = s.itemAt n := by
  unfold PySeq.index PySlice.index
  simp only [show ¬ ((n : Int) < 0) by omega, if_false]
  by_cases h : (n : Int) < s.len
  · rw [if_pos ⟨by omega, h⟩, Option.bind_some, Int.toNat_natCast]
  · rw [if_neg (by omega), Option.bind_none]
    cases s <;> simp only [PySeq.itemAt, PySeq.len] at h ⊢ <;>
      rw [List.getElem?_eq_none (by omega)] <;> rfl

theorem getItemByIndex_eq_python {α : Type} (v : Val α) (s : PySeq α) (n : Nat)
    (hv : pyView v = some s) (hl : s.len < 9223372036854775808) :
    getItemByIndex v n = .ok ((s.itemAt n).getD .undef) := by
  have hu : v.isUndef = false := by
    cases v with
    | undef => cases hv
    | _ => rfl
  rw [getItemByIndex, getItem_eq, hu, getItemOpt_eq_python v _ s n hv rfl hl (fun _ => Int.natCast_nonneg n),
    index_natCast]
  rfl

/-! ## Metamorphic relations at the specification level -/

/-- `xs[::-1]` is `xs|reverse` -/
theorem slice_rev {α : Type} (xs : List α) (hl : xs.length < 9223372036854775808) :
    slice xs none none (some (-1)) = .ok (.ok xs.reverse) := by
  rw [slice_list_ok xs none none (-1) trivial trivial ⟨by decide, by decide⟩ (by decide) hl, pick_indices_rev]

/-- `xs[0]` is `xs|first`, `xs[-1]` is `xs|last` -/
theorem index_first_last {α : Type} (xs : List α) : index? xs 0 = xs.head? ∧ index? xs (-1) = xs.getLast? := by
  constructor
  · cases xs <;> simp [index?]
  · unfold index?
    simp only [show ((-1 : Int) < 0) by omega, if_true, show (-1 : Int).natAbs = 1 by rfl]
    cases h : xs with
    | nil => simp
    | cons a t => rw [← h, if_pos (by rw [h]; simp), List.getLast?_eq_getElem?]

/-- `xs[a:b:c]|length`: as many items as Python selects positions -/
theorem slice_length {α : Type} (xs : List α) (start stop : Option Int) (step : Int)
    (hs : OptInI64 start) (he : OptInI64 stop) (hp : InI64 step) (h0 : step ≠ 0)
    (hl : xs.length < 9223372036854775808) :
    (pick xs (PySlice.indices xs.length start stop step)).length = (PySlice.adjust xs.length start stop step).2 := by
  rw [pick_length xs _ (PySlice.indices_lt xs.length start stop step h0), PySlice.indices, List.length_map,
    List.length_range]

/-- a chained sequence answers every subscript like the plain list of its concatenated operands
    (empty operands at the head, in the middle or at the tail included) — hence like Python's
    `list(chain(...))[i]` by `getItemOpt_eq_python` -/
theorem mergeGetItem_eq_concat {α : Type} (xss : List (List α)) (key : Val α) :
    (mergeGetItem xss key).map Item.elem = getItemOpt (Val.seq xss.flatten) key := by
  rw [(getItemOpt_vec xss.flatten key).1, mergeGetItem, ← List.length_flatten, vecGet]
  cases indexOf key (some xss.flatten.length) with
  | some idx => simp only [mergeGet_eq_concat_index]
  | none =>
    cases valUsize key with
    | some n => simp only [mergeGet_eq_concat_index]
    | none => rfl

example : mergeGetItem [[], [10, 20]] (Val.num (.i64 0) : Val Nat) = some 10 ∧
    mergeGetItem [[], [10, 20], []] (Val.num (.i64 (-2)) : Val Nat) = some 10 ∧
    mergeGetItem [[], [10, 20]] (Val.num (.i64 2) : Val Nat) = Option.none := by decide +kernel

/-! ### strings are UTF-8 bytes; the engine's cursor-based code works on characters -/

/-- every scalar value takes 1–4 bytes; the `Chars` cursor over the bytes of a string holding `cs`
    visits exactly the character boundaries (offset of the `i`-th step = byte length of the first `i`
    characters; the bytes before and after it are encodings of `cs.take i` / `cs.drop i`) and
    decodes exactly `cs` — so `chars().count()`, `nth`, `skip`/`take`/`step_by` of the string arms
    operate on scalar values, not bytes -/
theorem str_chars_on_boundaries (cs : List Char) :
    chars (encode cs) = cs ∧
    (∀ c ∈ cs, 1 ≤ (String.utf8EncodeChar c).length ∧ (String.utf8EncodeChar c).length ≤ 4) ∧
    cs.length ≤ (encode cs).length ∧
    ∀ i, i < cs.length →
      (charIndices (encode cs))[i]? = (cs[i]?).map (fun c => ((encode (cs.take i)).length, c)) ∧
      (encode cs).take (encode (cs.take i)).length = encode (cs.take i) ∧
      (encode cs).drop (encode (cs.take i)).length = encode (cs.drop i) :=
  ⟨chars_encode cs, fun c _ => width_bounds c, byteLen_ge_charLen cs, fun i h => cursor_on_boundaries cs i h⟩

/-- the Python view of a string value is its character list, whatever the representation -/
theorem str_view {α : Type} (r : StrRepr) (cs : List Char) : pyView (Val.str r (encode cs) : Val α) = some (.str cs) := by
  simp only [pyView, chars_encode]

/-- bytes and characters differ: `"héllo"` has 5 characters in 6 bytes, and `s[-1]` is `'o'`
    (counting from the character length; the byte length would select nothing) -/
example : (encode ['h', 'é', 'l', 'l', 'o']).length = 6 ∧
    (PySeq.str ['h', 'é', 'l', 'l', 'o'] : PySeq Nat).index (-1) = some (.chr 'o') := by decide +kernel

/-! ### Non-vacuity of the value-level theorems -/

/-- a safe string with multi-byte characters, an `i64` start, a `u128::MAX` stop and the step `true` -/
example : ∃ r, sliceV (Val.str .safe (encode ['h', 'é', 'l', 'l', 'o']) : Val Nat) (.num (.i64 1))
      (.num (.u128 340282366920938463463374607431768211455)) (.bool true) = .ok (.ok r) ∧
    pyView r = some (.str ['é', 'l', 'l', 'o']) := by
  have h := sliceV_eq_python Nat (Val.str .safe (encode ['h', 'é', 'l', 'l', 'o'])) (.num (.i64 1))
    (.num (.u128 340282366920938463463374607431768211455)) (.bool true) (.str ['h', 'é', 'l', 'l', 'o'])
    (some 1) (some 340282366920938463463374607431768211455) (some 1)
    (by simp only [pyView, chars_encode]) rfl rfl rfl (by show i64Min ≤ 1 ∧ 1 ≤ i64Max; decide +kernel) trivial trivial (by decide +kernel)
  rw [if_neg (by decide +kernel)] at h
  obtain ⟨r, h1, h2⟩ := h
  exact ⟨r, h1, by rw [h2]; decide +kernel⟩
example : sliceErr? (Val.seq [1, 2, 3]) (Val.str .small [0x31]) (Val.none) (Val.none) =
    some (convErr (Val.str .small [0x31] : Val Nat)) := by rfl   -- xs["1":]
example : sliceErr? (Val.map [(MKey.int 1, 7)]) (Val.none : Val Nat) Val.none Val.none = some (unsliceableErr (Val.map [(MKey.int 1, 7)])) := by rfl
example : getItemOpt (Val.map [(MKey.int (-1), 7), (MKey.int 1, 8)]) (Val.num (.i64 (-1)) : Val Nat) = some (.elem 7) := by decide +kernel
example : getItemOpt (Val.seq [10, 11, 12]) (Val.num (.i128 (-1)) : Val Nat) = some (.elem 12) := by decide +kernel
example : getItemOpt (Val.once [10, 11, 12]) (Val.num (.i64 (-1)) : Val Nat) = Option.none := by decide +kernel
example : (vmGetItem .chainable Val.undef (Val.num (.i64 0)) : Except Err (Item Nat)) = .ok .undef := by rfl
example : (vmGetItem .semiStrict Val.undef (Val.num (.i64 0)) : Except Err (Item Nat)) = .error undefinedErr := by rfl
end Values

section Kinds
open MJ.Sub

/-! # Conversion sites: representation is not an input

`MJ.Gen.c09ConversionSites` (regenerated from `/repo`) lists every place where a template value
becomes a subscript, a slice bound / step, a position or a count, with the function that converts it.
`convBy` is the model of those functions. -/

/-- every row of the regenerated table names a conversion the model knows, every target type has
    a range -/
theorem conversion_sites_known : MJ.Gen.c09ConversionSites.all knownSite = true := by decide +kernel

/-- `TryFrom<Value>` exists for exactly the integer types the model has ranges for, and every one
    of them holds 0 and 1 (what booleans convert to) -/
theorem int_types_hold_bools : MJ.Gen.c09IntTypes.all (fun t =>
    match intTypeRange t with
    | some (lo, hi) => decide (lo ≤ 0 ∧ 1 ≤ hi)
    | Option.none => false) = true := by decide +kernel

/-- **representation independence**: at every site of the table, two numbers that hold the same
    integer convert alike — whatever their representation: `I64`, `U64`, `I128`, `U128` or an
    integral `F64`.  (The result is `convSpec`, a function of the integer alone.) -/
theorem bound_conversion_repr_independent {α : Type} (p : String × String × String) (_hp : p ∈ MJ.Gen.c09ConversionSites)
    (n m : N) (x : Int) (hv : HoldsInt (Val.num n : Val α) x) (hw : HoldsInt (Val.num m : Val α) x) :
    convBy p.2.1 p.2.2 (Val.num n : Val α) = convBy p.2.1 p.2.2 (Val.num m : Val α) ∧
    convBy p.2.1 p.2.2 (Val.num n : Val α) = convSpec p.2.1 p.2.2 x "number" := by
  rw [convBy_of_holds _ _ _ x hv, convBy_of_holds _ _ _ x hw, kind_num, kind_num]
  exact ⟨rfl, rfl⟩

/-- the five representations of 3 (and of -1 where there is one) at a slice bound, a subscript and a
    typed argument -/
example : convBy "slice_bound" "i64" (Val.num (.u128 3) : Val Nat) = some (.int 3) ∧
    convBy "slice_bound" "i64" (Val.num (.i128 (-1)) : Val Nat) = some (.int (-1)) ∧
    convBy "as_i64+isize" "isize" (Val.num (.u64 3) : Val Nat) = some (.int 3) ∧
    convBy "try_from" "isize" (Val.num (.i128 3) : Val Nat) = some (.int 3) ∧
    convBy "as_usize" "usize" (Val.bool true : Val Nat) = some (.int 1) := by decide +kernel
example : HoldsInt (Val.num (.i128 3) : Val Nat) 3 ∧ HoldsInt (Val.num (.u64 3) : Val Nat) 3 :=
  ⟨⟨by decide +kernel, rfl, trivial⟩, ⟨by decide +kernel, rfl, trivial⟩⟩
example : ("ops::slice.stop", "slice_bound", "i64") ∈ MJ.Gen.c09ConversionSites ∧
    ("get_item_opt::index", "as_i64+isize", "isize") ∈ MJ.Gen.c09ConversionSites ∧
    ("functions.rs:range.upper", "try_from", "isize") ∈ MJ.Gen.c09ConversionSites := by decide +kernel

theorem sites_bool_in_range : MJ.Gen.c09ConversionSites.all (fun p =>
    convSpec p.2.1 p.2.2 0 "bool" == convSpec p.2.1 p.2.2 0 "number" &&
    convSpec p.2.1 p.2.2 1 "bool" == convSpec p.2.1 p.2.2 1 "number") = true := by decide +kernel

/-- booleans convert like the integers 0 and 1 at every site of the table -/
theorem bound_conversion_bool {α : Type} (p : String × String × String) (hp : p ∈ MJ.Gen.c09ConversionSites) (b : Bool) :
    convBy p.2.1 p.2.2 (Val.bool b : Val α) = convBy p.2.1 p.2.2 (Val.num (.i64 (if b then 1 else 0)) : Val α) := by
  have hx : i64Min ≤ (if b then (1 : Int) else 0) ∧ (if b then (1 : Int) else 0) ≤ i64Max := by cases b <;> decide
  rw [convBy_of_holds _ _ _ _ (holds_bool b), convBy_of_holds _ _ _ _ (holds_i64 _ hx), kind_num]
  have hk : (Val.bool b : Val α).kindDisplay = "bool" := by simp only [Val.kindDisplay, Val.repr]; decide
  rw [hk]
  have h := List.all_eq_true.mp sites_bool_in_range p hp
  simp only [Bool.and_eq_true, beq_iff_eq] at h
  cases b
  · exact h.1
  · exact h.2

example : convBy "slice_bound" "i64" (Val.bool true : Val Nat) = convBy "slice_bound" "i64" (Val.num (.i64 1) : Val Nat) :=
  bound_conversion_bool ("ops::slice.start", "slice_bound", "i64") (by decide +kernel) true

/-- everything that holds no integer — undefined, none (where a part is not optional), strings,
    bytes, containers, and floats that are fractional, not finite or `≥ 2^63` — is rejected the same
    way by every site, whatever it is: the conversion error of that site, or "no index" -/
theorem bound_conversion_rejects {α : Type} (fn target : String) (v : Val α)
    (h : MJ.Gen.c09IntTryFromArms.contains v.repr = false ∨ v.payload = Option.none) :
    convBy fn target v = convReject fn target v := by
  have ht : ∀ lo hi, tryInt lo hi v = Option.none := fun lo hi => tryInt_none lo hi v h
  simp only [convBy, convReject, sliceBound_of_no_int v h, valI64, valUsize, ht, Option.map_none]
  cases intTypeRange target <;> rfl

example : convBy "slice_bound" "i64" (Val.undef : Val Nat) = some (.error (convErr (Val.undef : Val Nat))) ∧
    convBy "as_i64+isize" "isize" (Val.str .small [0x31] : Val Nat) = some .absent := by
  exact ⟨bound_conversion_rejects _ _ _ (Or.inl (by decide +kernel)), bound_conversion_rejects _ _ _ (Or.inl (by decide +kernel))⟩

/-! # Strings at the level of bytes, negative steps included -/

/-- every position Python selects exists, whatever the size of the bounds and of the step -/
theorem indices_any_bounds (len : Nat) (A B : Option Int) (c : Int) (hc : c ≠ 0) :
    ∀ i ∈ PySlice.indices len A B c, i < len :=
  PySlice.indices_lt len A B c hc

example : ∀ i ∈ PySlice.indices 5 (some 100000000000000000000) none (-3), i < 5 :=
  indices_any_bounds 5 _ _ _ (by decide)

/-- Slicing the string that holds the scalar values `cs` (any of them: combining marks, 4-byte
    characters, …) with any step, negative ones included, builds exactly the concatenation of the
    *whole* byte ranges of the characters Python selects, in Python's order; every such range starts
    and ends on a character boundary of the source and is the UTF-8 encoding of that character; the
    result is well-formed UTF-8 again and holds Python's `s[a:b:c]`. -/
theorem str_slice_bytes {α : Type} (r : StrRepr) (cs : List Char) (a b c : Val α) (A B C : Option Int)
    (ha : pyBound a = some A) (hb : pyBound b = some B) (hc : pyBound c = some C)
    (wa : a.WF) (wb : b.WF) (wc : c.WF) (hl : cs.length < 9223372036854775808) (h0 : C ≠ some 0) :
    let idxs := PySlice.indices cs.length A B (C.getD 1)
    sliceV (Val.str r (encode cs) : Val α) a b c = .ok (.ok (.str .normal (strSliceBytes (encode cs) idxs))) ∧
    (∀ i ∈ idxs, i < cs.length ∧ charBytesAt (encode cs) i = String.utf8EncodeChar cs[i]! ∧
        (encode cs).take (encode (cs.take i)).length = encode (cs.take i) ∧
        (encode cs).drop (encode (cs.take i)).length = encode (cs.drop i)) ∧
    chars (strSliceBytes (encode cs) idxs) = pick cs idxs ∧
    encode (chars (strSliceBytes (encode cs) idxs)) = strSliceBytes (encode cs) idxs := by
  intro idxs
  have hst : C.getD 1 ≠ 0 := mt (getD_one_eq_zero C).mp h0
  have hbnd : ∀ i ∈ idxs, i < cs.length := PySlice.indices_lt cs.length A B (C.getD 1) hst
  have henc : encode (pick cs idxs) = strSliceBytes (encode cs) idxs := encode_pick cs idxs hbnd
  refine ⟨?_, ?_, ?_, ?_⟩
  · have hA := optBound_pyBound a A ha wa
    have hB := optBound_pyBound b B hb wb
    have hC := optBound_pyBound c C hc wc
    have hne : (C.map clampI64).getD 1 ≠ 0 := by rw [getD_map_clampI64, Ne, clampI64_zero_iff]; exact hst
    rw [sliceV_conv hA hB hC, if_neg hne, if_neg (sliceClass_of_view (str_view r cs)), str_view]
    simp only []
    rw [wrapRes_slice cs _ _ _ _ (optBound_range a _ hA) (optBound_range b _ hB) (getD_range _ (optBound_range c _ hC)) hne hl,
      getD_map_clampI64, indices_clamp cs.length A B (C.getD 1) hl, henc]
  · intro i hi
    have hlt := hbnd i hi
    obtain ⟨_, h2, h3⟩ := cursor_on_boundaries cs i hlt
    refine ⟨hlt, ?_, h2, h3⟩
    rw [charBytesAt_encode cs i hlt]
    simp [hlt]
  · rw [← henc, chars_encode]
  · rw [← henc, chars_encode]

/-- `e` + combining acute accent, a 4-byte character, `x` — every second character backwards:
    `x` and the combining mark (Python splits the grapheme as well), 3 bytes -/
example : ∃ out, sliceV (Val.str .small (encode ['e', '́', '𝄞', 'x']) : Val Nat) .none .none (.num (.i64 (-2))) =
      .ok (.ok (.str .normal out)) ∧ chars out = ['x', '́'] ∧ out.length = 3 := by
  have h := str_slice_bytes (α := Nat) .small ['e', '́', '𝄞', 'x'] .none .none (.num (.i64 (-2))) none none (some (-2))
    rfl rfl rfl trivial trivial (by show i64Min ≤ -2 ∧ -2 ≤ i64Max; decide +kernel) (by decide +kernel) (by decide +kernel)
  exact ⟨_, h.1, by rw [h.2.2.1]; decide +kernel, by decide +kernel⟩

/-! # Every sliceable object kind

`MJ.Gen.c09ObjectImpls` lists every `impl Object` of the engine with its `ObjectRepr` and enumerator.
`Seq` and `Iterable` objects are what `ops::slice` and `get_item_opt` treat as sequences: the model
has them as `Val.seq` / `Val.tuple` / `Val.iter sized` / `Val.once`, and `sliceV_eq_python`,
`getItemOpt_eq_python` speak about all of them.  `Map` and `Plain` objects are not sliced
(`sliceV_total`: the `cannot be sliced` error) and subscripted by key (`getItemOpt_map`). -/

/-- the representations and enumerator variants are the ones the model distinguishes -/
theorem object_reprs_known :
    MJ.Gen.c09ObjectReprs = ["Plain", "Map", "Seq", "Iterable"] ∧
    MJ.Gen.c09EnumeratorVariants = ["NonEnumerable", "Empty", "Str", "Iter", "KeyValueIter", "RevIter", "RevKeyValueIter", "Seq", "Values"] ∧
    MJ.Gen.c09SliceObjectReprs = ["Seq", "Iterable"] ∧
    MJ.Gen.c09ObjectImpls.all (fun p => ["Plain", "Map", "Seq", "Iterable", "dynamic"].contains p.2.1) = true :=
  ⟨rfl, rfl, rfl, by decide +kernel⟩

/-- maps (and namespaces, the loop object, …: everything of `ObjectRepr::Map` / `Plain`) cannot be
    sliced: with convertible parts and a non-zero step the result is the `cannot be sliced` error -/
theorem slice_of_map_is_error {α : Type} (kvs : List (MKey × α)) (a b c : Val α) (A B C : Option Int)
    (ha : optBound a = .ok A) (hb : optBound b = .ok B) (hc : optBound c = .ok C) (h0 : C.getD 1 ≠ 0) :
    sliceV (Val.map kvs) a b c = .ok (.error (unsliceableErr (Val.map kvs))) ∧
    sliceV (Val.plain : Val α) a b c = .ok (.error (unsliceableErr (Val.plain : Val α))) := by
  exact ⟨(sliceV_conv ha hb hc).trans ((if_neg h0).trans (if_pos (sliceClass_map kvs))),
    (sliceV_conv ha hb hc).trans ((if_neg h0).trans (if_pos sliceClass_plain))⟩

example : sliceV (Val.map [(MKey.int 0, 7)]) (Val.none : Val Nat) Val.none Val.none =
    .ok (.error (unsliceableErr (Val.map [(MKey.int 0, 7)]))) :=
  (slice_of_map_is_error _ _ _ _ none none none rfl rfl rfl (by decide +kernel)).1

/-- `seq * n` for a plain sized operand: Python's `xs * n`, and the announced length is the real one -/
theorem repeat_plain {α : Type} (xs : List α) (n : Nat) (r : Rep α) (h : repeatIterable (.plain xs) n = .ok r) :
    r.items = (List.replicate n xs).flatten ∧ r.Honest := by
  rw [repeatIterable_plain xs n r h]
  simp only [Rep.items, Rep.Honest]
  by_cases h0 : xs.length = 0
  · have : xs = [] := List.eq_nil_of_length_eq_zero h0
    subst this
    simp [repIter_nil]
  · simp only [h0, if_false, repIter_eq]
    simp [Nat.mul_comm]

/-- a repetition of a repetition: Python's `(xs * a) * b`, again with an honest length — the
    innermost operand is repeated `a * b` times, repetitions do not nest -/
theorem repeat_rep {α : Type} (inner : Rep α) (hh : inner.Honest) (n : Nat) (r : Rep α)
    (h : repeatIterable (.rep inner) n = .ok r) :
    r.items = (List.replicate n inner.items).flatten ∧ r.Honest ∧ r.xs = inner.xs := by
  obtain ⟨ht, hl⟩ := hh
  rw [repeatIterable_rep inner n r h]
  simp only [Rep.items, Rep.Honest]
  rw [← repIter_eq]
  by_cases h0 : inner.total = 0
  · have hi : repIter inner.n inner.xs = [] := by
      apply List.eq_nil_of_length_eq_zero; simp only [Rep.items] at ht; omega
    simp [h0, hi, repIter_nil, repIter_zero, hl]
  · simp only [h0, if_false]
    by_cases hn : n = 0
    · subst hn; simp [repIter_zero, hl]
    · have : inner.total * n ≠ 0 := Nat.mul_ne_zero h0 hn
      simp only [this, if_false]
      rw [repIter_mul]
      refine ⟨rfl, ⟨?_, hl⟩, trivial⟩
      rw [repIter_length]
      simp only [Rep.items] at ht
      rw [← ht, Nat.mul_comm]

/-- the only failure of a repetition: more items than the limit -/
theorem repeat_error_iff {α : Type} (o : Operand α) (n : Nat) :
    (∃ e, repeatIterable o n = .error e) ↔ MJ.Gen.c09RepeatedMax < o.enumLen * n := by
  constructor
  · rintro ⟨e, he⟩
    refine Nat.lt_of_not_le fun hle => ?_
    unfold repeatIterable at he
    rw [if_pos hle] at he
    cases o <;> cases he
  · intro h
    exact ⟨_, repeatIterable_gt o n (by omega)⟩

/-- slices and subscripts of a repetition are Python's `(xs * n)[a:b:c]` / `(xs * n)[i]` -/
theorem repeated_eq_python {α : Type} (xs : List α) (n : Nat) (r : Rep α) (h : repeatIterable (.plain xs) n = .ok r)
    (a b c key : Val α) (A B C : Option Int) (i : Int)
    (ha : pyBound a = some A) (hb : pyBound b = some B) (hc : pyBound c = some C) (wa : a.WF) (wb : b.WF) (wc : c.WF)
    (hk : pyInt key = some i) :
    (if C = some 0 then sliceV r.val a b c = .ok (.error zeroStepErr)
     else ∃ q, sliceV r.val a b c = .ok (.ok q) ∧
       pyView q = some ((PySeq.list (List.replicate n xs).flatten).slice A B (C.getD 1))) ∧
    getItemOpt r.val key = (PySeq.list (List.replicate n xs).flatten).index i := by
  obtain ⟨hi, hh⟩ := repeat_plain xs n r h
  have hlen : r.items.length < 9223372036854775808 := by
    have hle : xs.length * n ≤ MJ.Gen.c09RepeatedMax := repeatIterable_le _ n r h
    rw [hi, ← repIter_eq, repIter_length]
    have : MJ.Gen.c09RepeatedMax = 100000000 := rfl
    rw [Nat.mul_comm]; omega
  have hv : pyView r.val = some (.list (List.replicate n xs).flatten) := by simp only [Rep.val, pyView, hi]
  refine ⟨sliceV_eq_python α r.val a b c _ A B C hv ha hb hc wa wb wc (by simpa [PySeq.len, ← hi] using hlen), ?_⟩
  exact getItemOpt_eq_python r.val key _ i hv hk (by simpa [PySeq.len, ← hi] using hlen) (by intro h; cases h)

example : ∃ r, repeatIterable (.plain [10, 20, 30]) 2 = .ok r ∧ r.items = [10, 20, 30, 10, 20, 30] ∧
    ∃ r2, repeatIterable (.rep r) 3 = .ok r2 ∧ r2.n = 6 ∧ r2.total = 18 ∧ r2.xs = [10, 20, 30] ∧
    getItemOpt r2.val (Val.num (.i64 (-1)) : Val Nat) = some (.elem 30) := by
  refine ⟨_, rfl, by decide +kernel, _, rfl, rfl, rfl, rfl, by decide +kernel⟩

/-! ## Chains nested deeper than `MergeSeq::MAX_DEPTH` are flattened in order -/

/-- the shape of `push_flattened_value` / `with_repr` the model transcribes (regenerated) -/
theorem merge_flatten_shape : MJ.Gen.c09MergeFlatten = ["pop-last", "merge:extend-operands-reversed", "other:push"] := rfl

/-- flattening a nested chain keeps the items and their order, and leaves no nested chain behind
    (so every subscript and slice of the flattened chain is that of the nested one) -/
theorem pushFlattened_items {α : Type} (t : MTree α) (values : List (MTree α)) :
    itemsList (pushFlattened t values) = itemsList values ++ t.items ∧
    (∀ u ∈ pushFlattened t values, u ∈ values ∨ ∃ xs, u = .leaf xs) := by
  have h := flattenLoop_items t.size [t] values (by simp [sizeList])
  simpa [pushFlattened, itemsList] using h

theorem flattenAll_items {α : Type} (vs : List (MTree α)) :
    itemsList (flattenAll vs) = itemsList vs ∧ ∀ u ∈ flattenAll vs, ∃ xs, u = .leaf xs := by
  have key : ∀ (vs acc : List (MTree α)), (∀ u ∈ acc, ∃ xs, u = MTree.leaf xs) →
      itemsList (vs.foldl (fun acc v => pushFlattened v acc) acc) = itemsList acc ++ itemsList vs ∧
      ∀ u ∈ vs.foldl (fun acc v => pushFlattened v acc) acc, ∃ xs, u = MTree.leaf xs := by
    intro vs
    induction vs with
    | nil => intro acc hacc; exact ⟨by simp [itemsList], hacc⟩
    | cons v rest ih =>
      intro acc hacc
      obtain ⟨h1, h2⟩ := pushFlattened_items v acc
      have hacc' : ∀ u ∈ pushFlattened v acc, ∃ xs, u = MTree.leaf xs := by
        intro u hu
        rcases h2 u hu with h | h
        · exact hacc u h
        · exact h
      obtain ⟨h3, h4⟩ := ih (pushFlattened v acc) hacc'
      refine ⟨?_, h4⟩
      simp only [List.foldl_cons]
      rw [h3, h1]
      simp [itemsList, List.append_assoc]
  have := key vs [] (by simp)
  simpa [flattenAll, itemsList] using this

example : (flattenAll ([.node [.node [.leaf [1], .leaf [2]], .leaf [3]], .leaf [], .node [.node [.leaf [4]]]] : List (MTree Nat))).map MTree.items
    = [[1], [2], [3], [], [4]] := by decide +kernel

/-- the arms of `Value::reverse` (regenerated): every enumerator variant reverses — except that
    `RevIter` is handed on as it is (`forward`; known finding `reverse:RevIter`, which the
    existing test suite expects).  `reverseView` is the model of the reversing arms; for a `RevIter` object the
    correspondence uses the identity view while that row says `forward`. -/
theorem reverse_arms_known :
    MJ.Gen.c09ReverseArms.map (·.1) = ["NonEnumerable", "Empty", "Seq", "Iter", "KeyValueIter", "RevIter", "RevKeyValueIter", "Str", "Values"] ∧
    (MJ.Gen.c09ReverseArms.filter (fun p => p.1 != "RevIter")).all (fun p => p.2 != "forward") = true :=
  ⟨rfl, by decide +kernel⟩

/-- `v|reverse` (through a reversing arm): Python's `reversed(v)` — a string from a string, bytes from
    bytes, a lazy list otherwise -/
theorem reverse_view_python {α : Type} (v : Val α) (s : PySeq α) (hv : pyView v = some s) :
    ∃ r, reverseView v = some r ∧ pyView r = some s.reversed := by
  cases v with
  | str r bs => cases hv; exact ⟨_, rfl, by simp only [pyView, chars_encode, PySeq.reversed]⟩
  | bytes bs => cases hv; exact ⟨_, rfl, rfl⟩
  | tuple xs => cases hv; exact ⟨_, rfl, rfl⟩
  | seq xs => cases hv; exact ⟨_, rfl, rfl⟩
  | iter sized xs => cases hv; exact ⟨_, rfl, rfl⟩
  | once xs => cases hv; exact ⟨_, rfl, rfl⟩
  | _ => cases hv

/-- the reversed view holds what `v[::-1]` holds, item by item (a tuple sliced backwards is a
    tuple, its reversed view a lazy list: the items are the same) -/
theorem reverse_view_eq_back_slice {α : Type} (s : PySeq α) :
    (s.slice none none (-1)).items = s.reversed.items := by
  cases s with
  | str cs => exact congrArg (List.map Item.chr) (pick_indices_rev cs)
  | bytes bs => exact congrArg (List.map Item.byte) (pick_indices_rev bs)
  | tuple xs => exact congrArg (List.map Item.elem) (pick_indices_rev xs)
  | list xs => exact congrArg (List.map Item.elem) (pick_indices_rev xs)

example : ∃ r, reverseView (Val.tuple [1, 2, 3] : Val Nat) = some r ∧ pyView r = some (.list [3, 2, 1]) ∧
    getItemOpt r (Val.num (.i64 (-1))) = some (.elem 1) := ⟨_, rfl, rfl, by decide +kernel⟩

/-- the first subscript of a fresh one-shot iterator is `get_item_opt`'s answer -/
theorem once_getItem_agrees {α : Type} (xs : List α) (key : Val α) :
    (onceGetItem xs key).1.map Item.elem = getItemOpt (Val.once xs) key := by
  rw [getItemOpt_once, onceGetItem]
  cases valI64 key with
  | none => rfl
  | some i => by_cases h : i < 0 <;> simp [h]

/-- a non-negative subscript pulls exactly `k + 1` items; one relative to the end drains the iterator -/
theorem once_getItem_leaves {α : Type} (xs : List α) (key : Val α) (i : Int) (hk : valI64 key = some i) :
    (onceGetItem xs key).2 = if i < 0 then [] else xs.drop (i.toNat + 1) := by
  simp only [onceGetItem, hk]
  by_cases h : i < 0 <;> simp [h]

example : onceGetItem [10, 11, 12, 13] (Val.num (.i64 1) : Val Nat) = (some 11, [12, 13]) ∧
    onceGetItem [10, 11, 12, 13] (Val.num (.i64 (-1)) : Val Nat) = (Option.none, []) := by decide +kernel

/-- one enumeration of a slice of a one-shot iterator yields Python's selection of what was left;
    what it yields together with what it leaves was there before, in that order (positive steps
    without a bound relative to the end) — nothing is yielded twice, nothing is invented; every
    other slice collects the iterator and leaves nothing -/
theorem once_slice_enum {α : Type} (rem : List α) (A B : Option Int) (st : Int)
    (hA : OptInI64 A) (hB : OptInI64 B) (hst : InI64 st) (h0 : st ≠ 0) (hl : rem.length < 9223372036854775808) :
    ∃ left, onceSliceEnum rem A B st = .ok (pick rem (PySlice.indices rem.length A B st), left) ∧
      (st > 0 ∧ (isNeg A || isNeg B) = false → (pick rem (PySlice.indices rem.length A B st) ++ left).Sublist rem) ∧
      (¬ (st > 0 ∧ (isNeg A || isNeg B) = false) → left = []) := by
  unfold onceSliceEnum
  by_cases hc : st > 0 ∧ (isNeg A || isNeg B) = false
  · obtain ⟨off, n, ho, hsel⟩ := window_python rem A B st MJ.Gen.c09UnsizedLen hA hB hst hc.1 hl (Or.inr ⟨by rw [unsizedLen_eq]; omega, hc.2⟩)
    rw [if_pos hc, ho]
    refine ⟨_, by simp only []; rw [hsel], fun _ => ?_, fun h => absurd hc h⟩
    -- what is yielded comes from the window `off ≤ i < off + n`; what is left follows the window
    rw [← hsel]
    by_cases hn : n = 0
    · subst hn; simp [stepBy]
    · rw [if_neg hn]
      have h2 : ((rem.drop off).take n ++ rem.drop (off + n)).Sublist rem := by
        rw [← List.drop_drop, List.take_append_drop]
        exact List.drop_sublist _ _
      exact ((stepBy_sublist _ _).append_right _).trans h2
  · rw [if_neg hc, slice_list_ok rem A B st hA hB hst h0 hl]
    exact ⟨[], rfl, fun h => absurd h hc, fun _ => rfl⟩

/-- an open-ended slice of a one-shot iterator drains it: a second enumeration finds nothing -/
theorem once_open_slice_second_enum_empty {α : Type} (rem : List α) (A : Option Int) (st : Int)
    (hA : OptInI64 A) (hst : InI64 st) (h0 : st ≠ 0) (hl : rem.length < 9223372036854775808)
    (ys left : List α) (h : onceSliceEnum rem A none st = .ok (ys, left)) :
    left = [] ∧ ∃ left2, onceSliceEnum left A none st = .ok ([], left2) := by
  have hleft : left = [] := by
    unfold onceSliceEnum at h
    by_cases hc : st > 0 ∧ (isNeg A || isNeg none) = false
    · -- the window is `off ≤ i < usize::MAX`: not empty, and it reaches beyond the last item
      rw [if_pos hc, unsizedLen_eq, offsetLen_ok A none _ hA trivial (Or.inr hc.2),
        preClamp_of_not_neg _ A 0 (by simpa [isNeg] using hc.2),
        show preClamp (18446744073709551615 : Nat) none (18446744073709551615 : Nat) = 18446744073709551615 from rfl] at h
      have hoff : (A.getD 0).toNat < 9223372036854775808 := by
        cases A with
        | none => decide
        | some a => simp only [OptInI64, InI64] at hA; simp only [Option.getD_some]; omega
      simp only [] at h
      injection h with h
      rw [if_neg (by omega)] at h
      rw [← (Prod.mk.inj h).2]
      exact List.drop_eq_nil_of_le (by omega)
    · rw [if_neg hc, slice_list_ok rem A none st hA trivial hst h0 hl] at h
      injection h with h
      simp only [Prod.mk.injEq] at h
      exact h.2.symm
  refine ⟨hleft, ?_⟩
  subst hleft
  obtain ⟨l2, h2, _, _⟩ := once_slice_enum ([] : List α) A none st hA trivial hst h0 (by simp)
  refine ⟨l2, ?_⟩
  rw [h2]
  simp [pick]

example : (∃ left, onceSliceEnum [0, 1, 2, 3, 4, 5] (some 1) (some 4) 2 = .ok ([1, 3], left) ∧ ([1, 3] ++ left).Sublist [0, 1, 2, 3, 4, 5]) ∧
    onceSliceEnum [0, 1, 2, 3] none none (-1) = .ok ([3, 2, 1, 0], []) := by
  refine ⟨?_, by decide +kernel⟩
  obtain ⟨l, h, hs, _⟩ := once_slice_enum [0, 1, 2, 3, 4, 5] (some 1) (some 4) 2 ⟨by decide, by decide⟩
    ⟨by decide, by decide⟩ ⟨by decide, by decide⟩ (by decide) (by decide)
  have e : pick [0, 1, 2, 3, 4, 5] (PySlice.indices 6 (some 1) (some 4) 2) = [1, 3] := by decide +kernel
  simp only [List.length_cons, List.length_nil] at h hs
  rw [e] at h hs
  exact ⟨l, h, hs ⟨by decide +kernel, by decide +kernel⟩⟩

end Kinds
/-! ## Objects by `Enumerator` variant

`MJ.Sub.Obj` (MJ/Model/SubObj.lean) is an object as `ops::slice` / `get_item_opt` see it:
`repr()`, `enumerate()` (variant, what it yields, size hints), `get_value` by position.  The arms of
`try_iter` / `query_len`, the length the `Seq` arm of `get_item_opt` offers to `index` and the data
flow of the lazy object arm of `ops::slice` are regenerated tables (`C09_ENUMERATOR_ARMS`). -/
section Objects
open MJ.Sub
variable {α : Type}

/-- the object holds the items `xs`: what `enumerate()` returns (any variant but `NonEnumerable`)
    yields them, a length it announces (exact size hints, `Seq(l)`) is their number, and
    `get_value` answers by position (a `Seq` object must; an `Iterable` may) -/
structure Holds (o : Obj α) (xs : List α) : Prop where
  variant : o.variant ∈ MJ.Gen.c09EnumeratorVariants ∧ o.variant ≠ "NonEnumerable"
  seq : o.variant = "Seq" → o.seqLen = xs.length ∧ o.gv = xs
  empty : o.variant = "Empty" → xs = []
  other : o.variant ≠ "Seq" → o.variant ≠ "Empty" → o.yields = xs
  hint : ∀ a, o.hint = (a, some a) → a = xs.length
  gvSeq : o.isSeq = true → o.gv = xs
  gvIter : o.isSeq = false → o.gv = [] ∨ o.gv = xs

/-- what the regenerated arm tables of `try_iter` and `query_len` say, variant by variant: `Empty` and
    `Seq(l)` have arms of their own; every other enumerable variant iterates over what it holds and
    takes its length from what it holds or from exact size hints -/
theorem arms_by_variant : ∀ v ∈ MJ.Gen.c09EnumeratorVariants,
    v = "NonEnumerable" ∨
    (v = "Empty" ∧ MJ.Gen.c09TryIterArms.lookup v = some "empty" ∧ MJ.Gen.c09QueryLenArms.lookup v = some "zero") ∨
    (v = "Seq" ∧ MJ.Gen.c09TryIterArms.lookup v = some "get_value-by-position" ∧
      MJ.Gen.c09QueryLenArms.lookup v = some "announced") ∨
    (v ≠ "Empty" ∧ v ≠ "Seq" ∧
      (MJ.Gen.c09TryIterArms.lookup v = some "iter" ∨ MJ.Gen.c09TryIterArms.lookup v = some "keys-if-map-else-pairs" ∨
        MJ.Gen.c09TryIterArms.lookup v = some "names" ∨ MJ.Gen.c09TryIterArms.lookup v = some "values") ∧
      (MJ.Gen.c09QueryLenArms.lookup v = some "len" ∨ MJ.Gen.c09QueryLenArms.lookup v = some "exact-size-hint")) := by
  decide +kernel

theorem holds_arms (o : Obj α) (xs : List α) (h : Holds o xs) :
    o.tryIter = some xs ∧ (o.queryLen = Option.none ∨ o.queryLen = some xs.length) := by
  obtain ⟨hm, hne⟩ := h.variant
  unfold Obj.tryIter Obj.queryLen
  rcases arms_by_variant _ hm with hv | ⟨hv, ht, hq⟩ | ⟨hv, ht, hq⟩ | ⟨hv1, hv2, ht, hq⟩
  · exact absurd hv hne
  · rw [ht, hq, h.empty hv]; exact ⟨rfl, Or.inr rfl⟩
  · rw [ht, hq, (h.seq hv).1, (h.seq hv).2]
    exact ⟨congrArg some (List.take_length), Or.inr rfl⟩
  · rw [h.other hv2 hv1]
    refine ⟨?_, ?_⟩
    · rcases ht with ht | ht | ht | ht <;> rw [ht] <;> rfl
    · rcases hq with hq | hq <;> rw [hq]
      · exact Or.inr rfl
      · -- size hints count only when lower and upper bound agree, and then `Holds.hint` applies
        show (match o.hint with
            | (a, some b) => if a = b then some a else Option.none
            | (_, Option.none) => Option.none) = Option.none ∨
          (match o.hint with
            | (a, some b) => if a = b then some a else Option.none
            | (_, Option.none) => Option.none) = some xs.length
        rcases hh : o.hint with ⟨a, b⟩
        cases b with
        | none => exact Or.inl rfl
        | some b =>
          by_cases hab : a = b
          · subst hab; exact Or.inr ((if_pos rfl).trans (congrArg some (h.hint a hh)))
          · exact Or.inl (if_neg hab)

theorem holds_tryIter (o : Obj α) (xs : List α) (h : Holds o xs) : o.tryIter = some xs :=
  (holds_arms o xs h).1

theorem holds_queryLen (o : Obj α) (xs : List α) (h : Holds o xs) :
    o.queryLen = Option.none ∨ o.queryLen = some xs.length :=
  (holds_arms o xs h).2

/-- **every enumerator variant, both representations, honest or absent size hints**: one enumeration
    of the lazy result of `ops::slice` on an object that holds `xs` yields Python's `xs[A:B:st]` -/
theorem objSlice_eq_python (o : Obj α) (xs : List α) (h : Holds o xs) (A B : Option Int) (st : Int)
    (hA : OptInI64 A) (hB : OptInI64 B) (hst : InI64 st) (h0 : st ≠ 0) (hl : xs.length < 9223372036854775808) :
    objSliceItems o A B st = .ok (pick xs (PySlice.indices xs.length A B st)) := by
  have hS := slice_list_ok xs A B st hA hB hst h0 hl
  unfold objSliceItems
  rw [holds_tryIter o xs h]
  simp only []
  by_cases hpos : st > 0
  · rw [if_pos hpos]
    rcases holds_queryLen o xs h with hq | hq <;> rw [hq] <;> simp only []
    · by_cases hfe : (isNeg A || isNeg B) = true
      · rw [if_pos hfe, hS]; rfl
      · obtain ⟨off, n, ho, hsel⟩ := window_python xs A B st MJ.Gen.c09UnsizedLen hA hB hst hpos hl
          (Or.inr ⟨by rw [unsizedLen_eq]; omega, by simpa using hfe⟩)
        rw [if_neg hfe, ho]
        simp only []
        rw [hsel]
    · obtain ⟨off, n, ho, hsel⟩ := window_python xs A B st _ hA hB hst hpos hl (Or.inl rfl)
      rw [ho]
      simp only []
      rw [hsel]
  · rw [if_neg hpos, hS]; rfl

/-- `ops::slice` on such an object with the parts given as values: conversion errors in
    start / stop / step order, the zero step error, else Python's selection; never a panic -/
theorem objSliceV_of_bounds (o : Obj α) (xs : List α) (h : Holds o xs) (a b c : Val α) (A B C : Option Int)
    (ha : optBound a = .ok A) (hb : optBound b = .ok B) (hc : optBound c = .ok C) (hl : xs.length < 9223372036854775808) :
    objSliceV o a b c = if C.getD 1 = 0 then .ok (.error zeroStepErr)
      else .ok (.ok (pick xs (PySlice.indices xs.length A B (C.getD 1)))) := by
  have hA := optBound_range a A ha
  have hB := optBound_range b B hb
  have hst := getD_range C (optBound_range c C hc)
  unfold objSliceV
  simp only [ha, hb, hc]
  by_cases h0 : C.getD 1 = 0
  · simp only [h0, if_true]
  · simp only [h0, if_false]
    rw [objSlice_eq_python o xs h A B _ hA hB hst h0 hl]

theorem holds_lenOrCount (o : Obj α) (xs : List α) (h : Holds o xs) : o.lenOrCount = some xs.length := by
  unfold Obj.lenOrCount
  rcases holds_queryLen o xs h with hq | hq
  · rw [hq, holds_tryIter o xs h]; rfl
  · rw [hq]

/-- subscripts of such an object, whatever the key: the item at the position the key denotes — also
    relative to the end when the object announces no length (its items are counted then) — and
    undefined out of range and for a key that denotes none (`get_value(key)` decides by position) -/
theorem objGetItem_pos (o : Obj α) (xs : List α) (h : Holds o xs) (key : Val α)
    (hl : valI64 key = Option.none → xs.length < 9223372036854775808) :
    objGetItem o key = (keyPos key xs.length).bind (xs[·]?) := by
  have hlen := holds_lenOrCount o xs h
  have hidx : (match indexOf key (some xs.length) with
     | some idx => xs[idx]?
     | Option.none => Option.none) = (keyPos key xs.length).bind (xs[·]?) := by
    have h := indexOf_get key xs id
    simp only [Option.map_id_fun, id_eq] at h
    exact h
  have hgv : o.getValue key = vecGet o.gv key := rfl
  unfold objGetItem
  cases hs : o.isSeq with
  | true =>
    have hlen' : o.seqIndexLen = some xs.length := by
      unfold Obj.seqIndexLen; rw [if_pos (show MJ.Gen.c09GetItemSeqLen = "len-or-count-on-demand" from rfl)]; exact hlen
    simp only [if_true, obj_seq, hlen', hgv, h.gvSeq hs]
    rw [← hidx]
    cases hi : indexOf key (some xs.length) with
    | none => exact vecGet_dead xs key _ hi hl
    | some idx => rfl
  | false =>
    -- `get_value(key)` answers with the item at that position or not at all; `nth` agrees
    simp only [Bool.false_eq_true, if_false, obj_iter, if_true, hlen, holds_tryIter o xs h, hgv]
    rw [← hidx]
    cases hg : vecGet o.gv key with
    | none => cases indexOf key (some xs.length) <;> rfl
    | some x =>
      rcases h.gvIter hs with hn | hx
      · rw [hn] at hg; unfold vecGet at hg; cases hu : valUsize key <;> rw [hu] at hg <;> cases hg
      · rw [hx] at hg; exact (vecGet_agrees xs key x hg hl).symm

theorem objGetItem_eq_python (o : Obj α) (xs : List α) (h : Holds o xs) (key : Val α) (i : Int)
    (hk : valI64 key = some i) : objGetItem o key = index? xs i := by
  rw [objGetItem_pos o xs h key (fun h => by rw [hk] at h; cases h), keyPos, hk, index?_eq]; rfl

theorem objGetItem_not_i64 (o : Obj α) (xs : List α) (h : Holds o xs) (key : Val α)
    (hk : valI64 key = Option.none) (hl : xs.length < 9223372036854775808) : objGetItem o key = Option.none := by
  rw [objGetItem_pos o xs h key (fun _ => hl), keyPos, hk]; rfl

theorem lookup_mem {β γ : Type} [BEq β] [LawfulBEq β] (l : List (β × γ)) (k : β) (v : γ) (h : l.lookup k = some v) : (k, v) ∈ l := by
  obtain ⟨l₁, l₂, rfl, _⟩ := List.lookup_eq_some_iff.mp h
  exact List.mem_append_right _ List.mem_cons_self

theorem hintOf_exact (kind : String) (n a : Nat) (h : hintOf kind n = (a, some a)) : a = n := by
  revert h
  fun_cases hintOf kind n with
  | case1 => intro h; exact (Prod.mk.inj h).1.symm
  | case2 =>
    -- lower bound 0, upper bound `n + 2`: never equal
    intro h
    have h0 := (Prod.mk.inj h).1
    have h2 := Option.some.inj (Prod.mk.inj h).2
    omega
  | case3 | case4 => intro h; cases (Prod.mk.inj h).2

/-- every way the harness builds an enumerable object names an `Enumerator` variant of the regenerated
    list; `Empty` and `Seq` are built by `empty` and `seq` only -/
theorem harnessHows_ok : harnessHows.all (fun p => p.1 == "none" ||
    (MJ.Gen.c09EnumeratorVariants.contains p.2.1 && p.2.1 != "NonEnumerable" &&
     ((p.2.1 == "Empty") == (p.1 == "empty")) && ((p.2.1 == "Seq") == (p.1 == "seq")))) = true := by decide +kernel

/-- the objects of the correspondence stream `eo` hold their items: all fifteen enumerable flavours
    (every `Enumerator` variant, exact / loose / absent size hints) under both representations -/
theorem harnessObj_holds (isSeq : Bool) (how : String) (xs : List α) (o : Obj α)
    (ho : harnessObj isSeq how xs = some o) (hne : how ≠ "none") (hemp : how = "empty" → xs = []) : Holds o xs := by
  unfold harnessObj at ho
  cases hlk : harnessHows.lookup how with
  | none => rw [hlk] at ho; cases ho
  | some p =>
    obtain ⟨variant, hk⟩ := p
    rw [hlk] at ho
    simp only [Option.some.injEq] at ho
    subst ho
    have hm := lookup_mem _ _ _ hlk
    have hall := List.all_eq_true.mp harnessHows_ok _ hm
    simp only [Bool.or_eq_true, Bool.and_eq_true, beq_iff_eq, bne_iff_ne, ne_eq, List.contains_iff_mem] at hall
    rcases hall with hall | ⟨⟨⟨hmem, hnn⟩, hE⟩, hS⟩
    · exact absurd hall hne
    · have hE' : variant = "Empty" → how = "empty" := by
        intro hv; subst hv; simpa using hE
      have hS' : variant = "Seq" → how = "seq" := by
        intro hv; subst hv; simpa using hS
      refine ⟨⟨hmem, hnn⟩, ?_, ?_, ?_, ?_, ?_, ?_⟩
      · intro hv; refine ⟨rfl, ?_⟩
        simp only [hS' hv, decide_true, Bool.or_true, if_true]
      · intro hv; exact hemp (hE' hv)
      · intro _ _; rfl
      · intro a ha; exact hintOf_exact hk xs.length a ha
      · intro h; simp only at h; simp only [h, Bool.true_or, if_true]
      · intro _
        by_cases h : (isSeq || decide (how = "seq")) = true
        · right; simp only [h, if_true]
        · left; simp only [h]; rfl

/-- the regenerated enumerator tables are the ones the object model interprets: every `Enumerator`
    variant has its `try_iter` and `query_len` arm, an `ObjectRepr::Seq` object that announces no
    length is counted on demand by `get_item_opt` (fix dad5284), and the lazy object arm of
    `ops::slice` has the data flow `objSliceItems` transcribes -/
theorem enumerator_arms_known :
    MJ.Gen.c09EnumeratorVariants.all (fun v =>
      (MJ.Gen.c09TryIterArms.lookup v).isSome && (MJ.Gen.c09QueryLenArms.lookup v).isSome) = true ∧
    MJ.Gen.c09TryIterArms.length = MJ.Gen.c09EnumeratorVariants.length ∧
    MJ.Gen.c09QueryLenArms.length = MJ.Gen.c09EnumeratorVariants.length ∧
    MJ.Gen.c09GetItemSeqLen = "len-or-count-on-demand" ∧
    MJ.Gen.c09SliceObjectFlow = ["tuple:items", "tuple:forward-len", "tuple:backward-len", "forward:known-len", "forward:from-end",
      "forward:collect-if", "forward:lazy", "backward:collect", "not-iterable:empty"] :=
  ⟨by decide +kernel, rfl, rfl, rfl, rfl⟩

/-- Full-strength statement for objects: every object of representation `Seq` or `Iterable` that
    holds the items `xs` — whatever `Enumerator` variant it enumerates through, whether or not it
    announces its length — sliced with parts that are omitted or Python integers of any
    representation and size: a zero step is the error, everything else is Python's `xs[A:B:C]`;
    no panic. -/
def C09_objects_full : Prop :=
  ∀ (α : Type) (o : Obj α) (xs : List α) (a b c : Val α) (A B C : Option Int),
    Holds o xs → pyBound a = some A → pyBound b = some B → pyBound c = some C →
    a.WF → b.WF → c.WF → xs.length < 9223372036854775808 →
    objSliceV o a b c = if C = some 0 then .ok (.error zeroStepErr)
      else .ok (.ok (pick xs (PySlice.indices xs.length A B (C.getD 1))))

theorem objSliceV_eq_python : C09_objects_full := by
  intro α o xs a b c A B C h ha hb hc wa wb wc hl
  have h1 := objSliceV_of_bounds o xs h a b c _ _ _ (optBound_pyBound a A ha wa) (optBound_pyBound b B hb wb)
    (optBound_pyBound c C hc wc) hl
  rw [getD_map_clampI64, indices_clamp xs.length A B (C.getD 1) hl] at h1
  simp only [clampI64_zero_iff, getD_one_eq_zero] at h1
  exact h1

/-- subscripts of such an object with Python integers of every representation and size:
    Python's `xs[i]`, IndexError = undefined -/
theorem objGetItem_pyInt (o : Obj α) (xs : List α) (h : Holds o xs) (key : Val α) (i : Int)
    (hk : pyInt key = some i) (hl : xs.length < 9223372036854775808) :
    objGetItem o key = (PySlice.index xs.length i).bind (xs[·]?) := by
  rw [objGetItem_pos o xs h key (fun _ => hl), keyPos_pyInt key i _ hk hl]

/-- the engine as the property observes it, on the model's value types: `ops::slice` and
    `Value::get_item_opt` on values and on objects -/
structure Engine (α : Type) where
  sliceOp : Val α → Val α → Val α → Val α → Chk (Except Err (Val α))
  getItemOp : Val α → Val α → Option (Item α)
  objSliceOp : Obj α → Val α → Val α → Val α → Chk (Except Err (List α))
  objGetItemOp : Obj α → Val α → Option α

/-- the gap between the proofs and the code, as named hypotheses: the model functions ARE the
    engine's.  Each is validated by correspondence streams of `./check C09` (engine and compiled
    model on the same cases) and tied by regenerated tables; none is proved in Lean. -/
structure Engine.Corresponds (e : Engine α) : Prop where
  /-- streams slice (the quantifier's box, exhaustive) / chain / gs / long / huge / pb / meta -/
  corr_slice : ∀ v a b c, e.sliceOp v a b c = sliceV v a b c
  /-- streams index (box, exhaustive) / chain / gi / long / mr -/
  corr_getItem : ∀ v k, e.getItemOp v k = getItemOpt v k
  /-- stream eo (16 object flavours x 2 representations x a complete small box) -/
  corr_objSlice : ∀ o a b c, e.objSliceOp o a b c = objSliceV o a b c
  /-- stream eo -/
  corr_objGetItem : ∀ o k, e.objGetItemOp o k = objGetItem o k

/-- the property as stated, for an engine: slices and subscripts of strings, bytes, tuples,
    sequences, lazy iterables and objects select what Python selects, of Python's type, for every
    length below 2^63 and all parts that are omitted or integers; a zero step is the only error -/
def C09_statement (e : Engine α) : Prop :=
  (∀ (v a b c : Val α) (s : PySeq α) (A B C : Option Int),
    pyView v = some s → pyBound a = some A → pyBound b = some B → pyBound c = some C →
    a.WF → b.WF → c.WF → s.len < 9223372036854775808 →
    if C = some 0 then e.sliceOp v a b c = .ok (.error zeroStepErr)
    else ∃ r, e.sliceOp v a b c = .ok (.ok r) ∧ pyView r = some (s.slice A B (C.getD 1))) ∧
  (∀ (v key : Val α) (s : PySeq α) (i : Int), pyView v = some s → pyInt key = some i → s.len < 9223372036854775808 →
    (isOnce v = true → 0 ≤ i) → e.getItemOp v key = s.index i) ∧
  (∀ (o : Obj α) (xs : List α) (a b c : Val α) (A B C : Option Int),
    Holds o xs → pyBound a = some A → pyBound b = some B → pyBound c = some C →
    a.WF → b.WF → c.WF → xs.length < 9223372036854775808 →
    e.objSliceOp o a b c = if C = some 0 then .ok (.error zeroStepErr)
      else .ok (.ok (pick xs (PySlice.indices xs.length A B (C.getD 1))))) ∧
  (∀ (o : Obj α) (xs : List α) (key : Val α) (i : Int), Holds o xs → pyInt key = some i → xs.length < 9223372036854775808 →
    e.objGetItemOp o key = (PySlice.index xs.length i).bind (xs[·]?))

/-- **C09**: an engine that corresponds to the model satisfies the property -/
theorem C09_main (e : Engine α) (h : e.Corresponds) : C09_statement e := by
  refine ⟨?_, ?_, ?_, ?_⟩
  · intro v a b c s A B C hv ha hb hc wa wb wc hl
    rw [h.corr_slice]
    exact sliceV_eq_python α v a b c s A B C hv ha hb hc wa wb wc hl
  · intro v key s i hv hk hl ho
    rw [h.corr_getItem]
    exact getItemOpt_eq_python v key s i hv hk hl ho
  · intro o xs a b c A B C ho ha hb hc wa wb wc hl
    rw [h.corr_objSlice]
    exact objSliceV_eq_python α o xs a b c A B C ho ha hb hc wa wb wc hl
  · intro o xs key i ho hk hl
    rw [h.corr_objGetItem]
    exact objGetItem_pyInt o xs ho key i hk hl

/-- the hypotheses of `C09_main` are satisfiable: the model itself is such an engine -/
example : (⟨sliceV, getItemOpt, objSliceV, objGetItem⟩ : Engine Nat).Corresponds :=
  ⟨fun _ _ _ _ => rfl, fun _ _ => rfl, fun _ _ _ _ => rfl, fun _ _ => rfl⟩

/-- non-vacuity: a `Seq` object that enumerates through an iterator without size hints, holding
    `[10, 11, 12, 13]`: `o[-1]`, `o[1:-1]`, `o[::-2]` -/
example : ∃ o, harnessObj true "iternone" [10, 11, 12, 13] = some o ∧ Holds o [10, 11, 12, 13] ∧ o.queryLen = Option.none ∧
    objGetItem o (Val.num (.i64 (-1)) : Val Nat) = some 13 ∧
    objSliceItems o (some 1) (some (-1)) 1 = .ok [11, 12] ∧
    objSliceItems o Option.none Option.none (-2) = .ok [13, 11] := by
  have hh := harnessObj_holds true "iternone" [10, 11, 12, 13] _ rfl (by decide +kernel) (by decide +kernel)
  refine ⟨_, rfl, hh, by decide +kernel, by decide +kernel, ?_, ?_⟩
  · rw [objSlice_eq_python _ _ hh (some 1) (some (-1)) 1 ⟨by decide, by decide⟩ ⟨by decide, by decide⟩
      ⟨by decide, by decide⟩ (by decide) (by decide)]
    decide +kernel
  · rw [objSlice_eq_python _ _ hh none none (-2) trivial trivial ⟨by decide, by decide⟩ (by decide) (by decide)]
    decide +kernel

end Objects

/-! ## The value classes `seq` / `iter` are objects of the enumerator model

`Val.seq` and `Val.iter` (the classes the value-level streams run on) are the special cases
`vecObj` / `iterObj` of `MJ.Sub.Obj`: both models give the same subscripts and the same slices. -/
section Coherence
open MJ.Sub
variable {α : Type}

/-- the engine's own sequence objects (`Vec`, `VecDeque`, arrays, `GroupTuple`: `ObjectRepr::Seq`,
    `Enumerator::Seq(len)`, `get_value` by position) as objects of the enumerator model -/
def vecObj (xs : List α) : Obj α := ⟨true, "Seq", [], xs.length, (0, Option.none), xs⟩

/-- iterables built by `Value::make_iterable` / `make_object_iterable` and the lazy results of slices
    (`ObjectRepr::Iterable`, `mapped_enumerator` = `Enumerator::Iter`, no `get_value`); `sized`: the
    size hints are exact -/
def iterObj (sized : Bool) (xs : List α) : Obj α :=
  ⟨false, "Iter", xs, 0, if sized then (xs.length, some xs.length) else (0, Option.none), []⟩

theorem vecObj_holds (xs : List α) : Holds (vecObj xs) xs := by
  refine ⟨⟨by show "Seq" ∈ _; decide +kernel, by show "Seq" ≠ _; decide +kernel⟩, fun _ => ⟨rfl, rfl⟩, fun h => ?_, fun h => absurd rfl h,
   fun a h => by simp [vecObj] at h, fun _ => rfl, fun h => by simp [vecObj] at h⟩
  exact absurd (show "Seq" = "Empty" from h) (by decide +kernel)

theorem iterObj_holds (sized : Bool) (xs : List α) : Holds (iterObj sized xs) xs := by
  refine ⟨⟨by show "Iter" ∈ _; decide +kernel, by show "Iter" ≠ _; decide +kernel⟩, fun h => ?_, fun h => ?_, fun _ _ => rfl, ?_,
    fun h => by simp [iterObj] at h, fun _ => Or.inl rfl⟩
  · exact absurd (show "Iter" = "Seq" from h) (by decide +kernel)
  · exact absurd (show "Iter" = "Empty" from h) (by decide +kernel)
  · intro a h
    cases sized with
    | true => simp only [iterObj, if_true, Prod.mk.injEq] at h; exact h.1.symm
    | false => simp [iterObj] at h

/-- a value that Python sees as the list `xs` (and is not one-shot) and an object that holds `xs`
    answer every subscript alike -/
theorem getItemOpt_list_is_obj (v : Val α) (o : Obj α) (xs : List α) (hv : pyView v = some (.list xs))
    (ho : isOnce v = false) (h : Holds o xs) (key : Val α) (hl : xs.length < 9223372036854775808) :
    getItemOpt v key = (objGetItem o key).map Item.elem := by
  rw [getItemOpt_pos v key _ hv (fun _ => hl) (by rw [ho]; intro h; cases h), objGetItem_pos o xs h key (fun _ => hl)]
  show (keyPos key xs.length).bind (fun j => (xs[j]?).map Item.elem) = _
  cases keyPos key xs.length <;> rfl

/-- the value classes `seq` and `iter` of `MJ.Sub.Val` are these objects: `get_item_opt` agrees -/
theorem getItemOpt_seq_is_obj (xs : List α) (key : Val α) (hl : xs.length < 9223372036854775808) :
    getItemOpt (.seq xs) key = (objGetItem (vecObj xs) key).map Item.elem :=
  getItemOpt_list_is_obj _ _ xs rfl rfl (vecObj_holds xs) key hl

theorem getItemOpt_iter_is_obj (sized : Bool) (xs : List α) (key : Val α) (hl : xs.length < 9223372036854775808) :
    getItemOpt (.iter sized xs) key = (objGetItem (iterObj sized xs) key).map Item.elem :=
  getItemOpt_list_is_obj _ _ xs rfl rfl (iterObj_holds sized xs) key hl

/-- … and so does `ops::slice`: the items of the lazy result are the object model's -/
theorem sliceV_seq_is_obj (xs : List α) (a b c : Val α) (A B C : Option Int)
    (ha : optBound a = .ok A) (hb : optBound b = .ok B) (hc : optBound c = .ok C) (hl : xs.length < 9223372036854775808) :
    (∃ e, sliceV (.seq xs) a b c = .ok (.error e) ∧ objSliceV (vecObj xs) a b c = .ok (.error e)) ∨
    (∃ sized ys, sliceV (.seq xs) a b c = .ok (.ok (.iter sized ys)) ∧ objSliceV (vecObj xs) a b c = .ok (.ok ys)) := by
  have h2 := objSliceV_of_bounds (vecObj xs) xs (vecObj_holds xs) a b c A B C ha hb hc hl
  by_cases h0 : C.getD 1 = 0
  · rw [if_pos h0] at h2
    exact Or.inl ⟨_, (sliceV_conv ha hb hc).trans (if_pos h0), h2⟩
  · rw [if_neg h0] at h2
    refine Or.inr ⟨true, _, (sliceV_conv ha hb hc).trans ?_, h2⟩
    rw [if_neg h0, if_neg (sliceClass_of_view (v := .seq xs) rfl)]
    exact wrapRes_slice xs A B _ _ (optBound_range a A ha) (optBound_range b B hb)
      (getD_range C (optBound_range c C hc)) h0 hl

example : objGetItem (vecObj [10, 11, 12]) (Val.num (.i64 (-1)) : Val Nat) = some 12 ∧
    getItemOpt (Val.seq [10, 11, 12]) (Val.num (.i64 (-1)) : Val Nat) = some (.elem 12) ∧
    (iterObj false [10, 11, 12]).queryLen = Option.none ∧
    objGetItem (iterObj false [10, 11, 12]) (Val.num (.i64 (-3)) : Val Nat) = some 10 := by decide +kernel

end Coherence

end MJ.C09
