import MJ.Proofs.Store
import MJ.Proofs.World
import MJ.Proofs.ThreadState
import MJ.Proofs.Hidden
import MJ.Proofs.MemoConc
import MJ.Proofs.RenderProg
import MJ.Gen.Tables
/-!
# C15 — an environment's behaviour depends on its contents, not on its history

Property theorems only (the lemmas live in `MJ/Proofs/{Store,World,ThreadState,Hidden,MemoConc,RenderProg}.lean`).

* `Store` is the model of `LoaderStore` (borrowed map + memoising owned map, a loader, mutual
  eviction on insert — after the `fix:` commit the new source is compiled *before* the other tier is
  evicted); `compiles : LtCfg → Source → Bool` is a parameter.
* a compiled template is `Tmpl = (source, load-time configuration it was compiled under)`; the
  store carries the current load-time configuration `cfg` (trim_blocks, lstrip_blocks,
  keep_trailing_newline, syntax, auto-escape callback) which applies to FUTURE loads only
  (`add_template*` is a load; a loader-backed template is loaded at its first lookup);
* `Spec` = a plain map `explicit : Name ⇀ Tmpl` + a memo cache `cached : Name ⇀ Tmpl`;
  `Flat` = their union `contents` (what a lookup answers from without asking the loader);
* `EnvSpec` = one environment as a value: `Flat` + run-time configuration + three registries.
* `Cow`/`World` model an environment and its clones: stores are copied by value
  (`MemoMap: Clone`, `BTreeMap: Clone`), the three registries are `Arc`s mutated through
  `Arc::make_mut`.

The store/registry part is about the *sequential* behaviour.  The hidden state of the engine — every
static, thread-local and interior-mutable field, enumerated from the source — is classified in
`MJ/Model/Hidden.lean` (`all_hidden_state_classified`); each class has a small model of the
discipline that keeps it from influencing results (once-cells, buffer pools, the value-handle
registry here; the serialisation flag, the id counters and the copy-on-write registries in
`MJ/Model/Store.lean`).  Interleavings of threads are modelled for the memoising tier, at lock
granularity (`MJ/Model/MemoConc.lean`), and for the state-id counter as the total order of its
increments; the harness validates concurrent renders against a fresh environment.
-/
namespace MJ.C15
open MJ.Store

/-- (The property at full strength is `C15_full` at the end of this file, proved by `C15_main`; this is
its sequential store part.)  Statement of the modelled sequential store part of C15, for every compile predicate
(compiling may depend on the load-time configuration, e.g. the syntax):
* (history) two arbitrary histories from the empty store that end with the same contents — per name
  the source AND the load-time configuration of its last load —, the same loader and the same
  configuration for future loads are indistinguishable by any continuation;
* (failed insert) an addition whose source does not compile returns the compile error and leaves the
  store *identical*;
* (sticky) once a lookup of `n` has found a template — in particular one obtained from the loader —
  every later lookup of `n` finds the same template (same source, same load-time configuration),
  whatever happens in between (including `set_loader` and configuration changes), unless `n` is
  removed, re-added or the templates are cleared;
* (reload) re-adding a template — also with byte-identical source — is a load: afterwards the
  template is the one compiled under the configuration in force NOW. -/
def C15_store_full : Prop :=
  ∀ c : LtCfg → Source → Bool,
    (∀ h₁ h₂ k : List Op,
        (Store.empty.run c h₁).flat = (Store.empty.run c h₂).flat →
        (Store.empty.run c h₁).results c k = (Store.empty.run c h₂).results c k) ∧
    (∀ (s : Store) (n : Name) (src : Source), c s.cfg src = false →
        s.step c (.addBorrowed n src) = (s, .compileError) ∧
        s.step c (.addOwned n src) = (s, .compileError)) ∧
    (∀ (s : Store) (n : Name) (t : Tmpl) (k : List Op),
        (s.step c (.get n)).2 = .found t → (∀ op ∈ k, op.evicts n = false) →
        (((s.step c (.get n)).1.run c k).step c (.get n)).2 = .found t) ∧
    (∀ (s : Store) (n : Name) (src : Source), c s.cfg src = true →
        ((s.step c (.addBorrowed n src)).1.get c n).2 = .found (src, s.cfg) ∧
        ((s.step c (.addOwned n src)).1.get c n).2 = .found (src, s.cfg))

/-- every operation commutes with the abstraction and returns the specification's answer -/
theorem store_refines_map (c : LtCfg → Source → Bool) (s : Store) (op : Op) :
    (s.step c op).2 = (s.abs.step c op).2 ∧ (s.step c op).1.abs = (s.abs.step c op).1 :=
  step_refines c s op

def cfgA : LtCfg := LtCfg.default
def cfgB : LtCfg := { LtCfg.default with trim := true, autoEscape := 1 }

example : -- a state with both tiers occupied and a loader; a lookup that memoises under the CURRENT cfg
    let c : LtCfg → Source → Bool := fun _ s => s != 8
    let s : Store := { loader := some (fun n => if n = 2 then .src 5 else .missing), cfg := cfgB,
                       borrowed := [(0, (1, cfgA))], owned := [(1, ((3, cfgA), .explicit))] }
    (s.step c (.get 2)).2 = .found (5, cfgB) ∧ (s.step c (.get 2)).1.abs.cached 2 = some (5, cfgB) ∧
    (s.step c (.get 2)).1.abs.explicit 0 = some (1, cfgA) ∧
    (s.step c (.get 2)).1.abs.explicit 1 = some (3, cfgA) := by
  decide +kernel

/-- the explicit/cached distinction is a ghost: operations are determined by the union -/
theorem spec_refines_contents (c : LtCfg → Source → Bool) (sp : Spec) (op : Op) :
    (sp.step c op).2 = (sp.flat.step c op).2 ∧ (sp.step c op).1.flat = (sp.flat.step c op).1 :=
  spec_step_refines c sp op

/-- Two stores with the same contents (source and load-time configuration per name), the same
    loader and the same configuration for future loads give the same results for every
    continuation — in whatever tiers the templates sit, and whatever ghost tags they carry. -/
theorem results_depend_on_contents_only (c : LtCfg → Source → Bool) (s₁ s₂ : Store)
    (h : s₁.flat = s₂.flat) (k : List Op) : s₁.results c k = s₂.results c k := by
  rw [results_flat, results_flat, h]

example : -- the same contents held in different tiers (and reached differently)
    let s₁ : Store := { loader := none, cfg := cfgB, borrowed := [(0, (1, cfgA))], owned := [(1, ((2, cfgB), .loaded))] }
    let s₂ : Store := { loader := none, cfg := cfgB, borrowed := [],
                        owned := [(1, ((2, cfgB), .explicit)), (0, ((1, cfgA), .explicit))] }
    s₁.flat = s₂.flat := by
  apply Flat.ext'
  · rfl
  · rfl
  · intro m
    match m with
    | 0 => rfl
    | 1 => rfl
    | (m + 2) => rfl

/-- History independence, for ANY two histories: if they lead to the same contents (per template:
    source and load-time configuration at its last load), loader and current load-time
    configuration, every continuation behaves the same. -/
theorem history_independent (c : LtCfg → Source → Bool) (h₁ h₂ k : List Op)
    (h : (Store.empty.run c h₁).flat = (Store.empty.run c h₂).flat) :
    (Store.empty.run c h₁).results c k = (Store.empty.run c h₂).results c k :=
  results_depend_on_contents_only c _ _ h k

example : -- two different histories with the same final contents: the reference environment is built
          -- by replaying, per template, the configuration in force at its last load
    let c : LtCfg → Source → Bool := fun _ s => s != 8
    (Store.empty.run c [.addOwned 0 3, .setCfg cfgB, .addBorrowed 0 8, .addBorrowed 1 4, .remove 1,
                        .addOwned 0 3, .setCfg cfgA, .addBorrowed 2 5]).flat
      = (Store.empty.run c [.addBorrowed 2 5, .setCfg cfgB, .addBorrowed 0 3, .setCfg cfgA]).flat := by
  apply Flat.ext'
  · rfl
  · rfl
  · intro m
    match m with
    | 0 => rfl
    | 1 => rfl
    | 2 => rfl
    | (m + 3) => rfl

/-- the final contents are a function of the history of the *specification*: running the store and
    abstracting equals running the plain map -/
theorem run_refines (c : LtCfg → Source → Bool) (s : Store) (k : List Op) :
    (s.run c k).flat = s.flat.run c k :=
  run_flat c k s

/-- an addition whose source fails to compile leaves the store as it was (the state itself, not
    only its abstraction) and reports the compile error -/
theorem failed_insert_noop (c : LtCfg → Source → Bool) (s : Store) (n : Name) (src : Source)
    (h : c s.cfg src = false) :
    s.step c (.addBorrowed n src) = (s, .compileError) ∧
    s.step c (.addOwned n src) = (s, .compileError) := by
  simp [Store.step, h]

example : (fun (_ : LtCfg) (s : Source) => s != 8) cfgA 8 = false := by decide +kernel

/-- What the defect was: with `insert_cow` as in the pinned tree (evict the other tier, then
    compile), a failing `add_template` over an owned template removed it. -/
theorem pinned_insert_was_not_a_noop :
    ∃ (c : LtCfg → Source → Bool) (s : Store) (n : Name) (src : Source), c s.cfg src = false ∧
      (s.get c n).2 = .found (2, cfgA) ∧ ((s.stepPinned c (.addBorrowed n src)).1.get c n).2 = .notFound := by
  refine ⟨fun _ s => s != 8, { loader := none, cfg := cfgA, borrowed := [], owned := [(0, ((2, cfgA), .explicit))] }, 0, 8, ?_⟩
  decide +kernel

/-- A lookup that does not find a template (loader says missing, loader fails, the loaded source
    does not compile) leaves the store identical: failures are never memoised, the next lookup asks
    the loader again. -/
theorem failed_lookup_not_cached (c : LtCfg → Source → Bool) (s : Store) (n : Name)
    (h : ∀ t, (s.get c n).2 ≠ .found t) : (s.get c n).1 = s := by
  rcases Store.get_fst c s n with h' | ⟨t, _, _, h'⟩
  · exact h'
  · exact absurd (congrArg Prod.snd h') (h t)

example : -- the loader fails, then is replaced by one that works: the failure left nothing behind
    let c : LtCfg → Source → Bool := fun _ s => s != 8
    let s : Store := { loader := some (fun _ => .err), cfg := cfgA, borrowed := [], owned := [] }
    (s.get c 0).2 = .loaderError ∧
    (((s.get c 0).1.step c (.setLoader (fun _ => .src 8))).1.get c 0).2 = .compileError ∧
    ((((s.get c 0).1.step c (.setLoader (fun _ => .src 8))).1.get c 0).1.step c (.setLoader (fun _ => .src 4))).1.get c 0
      = ({ loader := some (fun _ => .src 4), cfg := cfgA, borrowed := [], owned := [(0, ((4, cfgA), .loaded))] }, .found (4, cfgA)) := by
  refine ⟨by decide +kernel, by decide +kernel, ?_⟩
  rfl

/-- A template that a lookup has found keeps that source and compilation — for a loader-backed
    template: the ones it had when first requested — across any operations that do not remove,
    re-add or clear it (in particular across `set_loader` and every configuration change). -/
theorem cached_source_sticky (c : LtCfg → Source → Bool) (s : Store) (n : Name) (t : Tmpl)
    (k : List Op) (h : (s.step c (.get n)).2 = .found t)
    (hk : ∀ op ∈ k, op.evicts n = false) :
    (((s.step c (.get n)).1.run c k).step c (.get n)).2 = .found t := by
  obtain ⟨h1, h2⟩ := store_step_flat c s (.get n)
  have hc : (s.step c (.get n)).1.flat.contents n = some t := by
    rw [h2]; exact flat_get_found c s.flat n t (h1 ▸ h)
  have hr := flat_run_keeps c k n t _ hc hk
  rw [← run_flat] at hr
  exact found_of_contents c _ n t hr

example : -- loaded from loader 1 under cfgA, kept although loader and configuration are replaced
    let c : LtCfg → Source → Bool := fun _ _ => true
    let l₁ : Name → LoadRes := fun _ => .src 1
    let l₂ : Name → LoadRes := fun _ => .src 2
    let s : Store := { loader := some l₁, cfg := cfgA, borrowed := [], owned := [] }
    (s.step c (.get 0)).2 = .found (1, cfgA) ∧
    (((s.step c (.get 0)).1.run c [.setLoader l₂, .setCfg cfgB, .get 1, .addOwned 1 7]).step c (.get 0)).2 = .found (1, cfgA) ∧
    (((s.step c (.get 0)).1.run c [.setLoader l₂, .setCfg cfgB, .clear]).step c (.get 0)).2 = .found (2, cfgB) := by
  decide +kernel

/-- Adding a template is a load: whatever was stored under the name before — even a template with
    the very same source, in either tier, explicit or memoised from the loader — the name now
    denotes the source compiled under the configuration in force at the time of the addition. -/
theorem readd_is_a_load (c : LtCfg → Source → Bool) (s : Store) (n : Name) (src : Source)
    (h : c s.cfg src = true) :
    ((s.step c (.addBorrowed n src)).1.get c n).2 = .found (src, s.cfg) ∧
    ((s.step c (.addOwned n src)).1.get c n).2 = .found (src, s.cfg) :=
  ⟨found_of_contents c _ n _ (add_contents c s n src h _ (Or.inl rfl)),
   found_of_contents c _ n _ (add_contents c s n src h _ (Or.inr rfl))⟩

example : -- the seeded change C15-3 ("skip recompiling an unchanged source") contradicts this:
          -- same name, same source, configuration changed in between
    let c : LtCfg → Source → Bool := fun _ _ => true
    let s := Store.empty.run c [.addOwned 0 3, .setCfg cfgB]
    (s.get c 0).2 = .found (3, cfgA) ∧ ((s.step c (.addOwned 0 3)).1.get c 0).2 = .found (3, cfgB) := by
  decide +kernel

theorem C15_holds : C15_store_full := fun c =>
  ⟨history_independent c, failed_insert_noop c, cached_source_sticky c, readd_is_a_load c⟩

/-- In every state reachable from an empty store the two tiers hold disjoint sets of names without
    repetition: `Environment::templates()` lists every name exactly once. -/
theorem templates_lists_each_name_once (c : LtCfg → Source → Bool) (k : List Op) :
    (((Store.empty.run c k).iter).map (·.1)).Nodup :=
  Store.iter_names_nodup _ (Store.run_inv c k _ Store.empty_inv)

example : ((Store.empty.run (fun _ _ => true) [.addOwned 0 3, .addBorrowed 0 4, .addOwned 1 3]).iter).map (·.1) = [0, 1] := by
  decide +kernel

/-- `templates()` lists exactly what the store holds: `(n, t)` is listed iff a lookup of `n` is answered
    with `t` from the store itself, without consulting the loader — in every reachable state -/
theorem templates_lists_contents (c : LtCfg → Source → Bool) (k : List Op) (n : Name) (t : Tmpl) :
    (n, t) ∈ (Store.empty.run c k).iter ↔ (Store.empty.run c k).flat.contents n = some t :=
  Store.mem_iter_iff _ (Store.run_inv c k _ Store.empty_inv) n t

example : -- a borrowed template, an owned one and one memoised from the loader are listed; an evicted one is not
    let c : LtCfg → Source → Bool := fun _ _ => true
    let s := Store.empty.run c [.setLoader (fun n => if n = 2 then .src 7 else .missing), .addOwned 0 3,
                                .addBorrowed 0 4, .addOwned 1 5, .get 2, .get 3]
    s.iter = [(0, (4, cfgA)), (2, (7, cfgA)), (1, (5, cfgA))] := by
  decide +kernel

/-- Which arm of `insert_cow` an addition takes is decided as the model says — the borrowed arm needs
    BOTH the name and the source borrowed — and the patterns of the two arms in the source are the
    ones this was read off. -/
theorem insert_arm_selection :
    MJ.Gen.c15InsertArmPatterns = ["(Cow::Borrowed(source), Cow::Borrowed(name))", "(source, name)"] ∧
    insertArmOf true true = true ∧ insertArmOf true false = false ∧
    insertArmOf false true = false ∧ insertArmOf false false = false :=
  ⟨rfl, rfl, rfl, rfl, rfl⟩

/-- … and whichever arm is taken, whatever was stored under the name in EITHER tier is replaced: the
    name afterwards denotes the new source under the current configuration, and `templates()` lists
    it — once, like every name. -/
theorem any_arm_replaces_both_tiers (c : LtCfg → Source → Bool) (s : Store) (hs : s.Inv) (n : Name)
    (src : Source) (nb sb : Bool) (h : c s.cfg src = true) :
    let op := if insertArmOf nb sb then Op.addBorrowed n src else Op.addOwned n src
    ((s.step c op).1.get c n).2 = .found (src, s.cfg) ∧
    (n, (src, s.cfg)) ∈ (s.step c op).1.iter ∧ ((s.step c op).1.iter.map (·.1)).Nodup := by
  intro op
  have hi : (s.step c op).1.Inv := Store.step_inv c s op hs
  have hc : (s.step c op).1.flat.contents n = some (src, s.cfg) :=
    add_contents c s n src h op (by cases insertArmOf nb sb <;> simp [op])
  exact ⟨found_of_contents c _ n _ hc, (Store.mem_iter_iff _ hi n _).mpr hc, Store.iter_names_nodup _ hi⟩

example : -- name borrowed, source owned (owned arm) over a borrowed template: one entry afterwards
    let c : LtCfg → Source → Bool := fun _ _ => true
    let s := Store.empty.run c [.addBorrowed 0 1]
    let op := if insertArmOf true false then Op.addBorrowed 0 2 else Op.addOwned 0 2
    (s.step c op).1.iter = [(0, (2, cfgA))] := by
  decide +kernel

/-- `add_*`/`remove_*` through `Arc::make_mut` act as map update on the environment they are called
    on and are invisible to every other handle of the same `Arc` -/
theorem registry_refines_map (r : Cow Registry) (h : r.WF) (e j : Nat) (he : e < r.ptr.length)
    (name : Name) (v : Nat) :
    regView (r.makeMut e (fun m => ins m name v)) j
        = (if j = e then upd (regView r e) name (some v) else regView r j) ∧
    regView (r.makeMut e (fun m => del m name)) j
        = (if j = e then upd (regView r e) name none else regView r j) :=
  ⟨regView_makeMut_upd r h he (fun m => find_ins m name v) j, regView_makeMut_upd r h he (fun m => find_del m name) j⟩

example : -- two handles sharing one allocation: the write goes to a copy
    let r : Cow Registry := ⟨[[(1, 9)]], [0, 0]⟩
    r.WF ∧ (r.makeMut 1 (fun m => ins m 0 5)).view 0 = some [(1, 9)] ∧
    (r.makeMut 1 (fun m => ins m 0 5)).view 1 = some [(0, 5), (1, 9)] := by
  refine ⟨?_, by decide +kernel, by decide +kernel⟩
  intro a ha
  simp at ha
  subst ha
  decide +kernel

/-- the invariant the isolation theorems need holds initially and is preserved by every step -/
theorem world_wf (c : LtCfg → Source → Bool) (f t g : Registry) (k : List WOp) :
    ((World.init f t g).run c k).WF :=
  World.run_WF c k _ (World.init_WF f t g)

/-- … and so does every world grown from `Environment::empty()` -/
theorem world_wf_empty (c : LtCfg → Source → Bool) (k : List WOp) : (World.initEmpty.run c k).WF :=
  World.run_WF c k _ World.initEmpty_WF

/-- An environment is unaffected by anything done to other environments (its clones, or the
    original it was cloned from): for every sequence of operations none of which targets
    environment `j`, environment `j` looks exactly as before — store abstraction, run-time
    configuration and registries. -/
theorem clone_isolated (c : LtCfg → Source → Bool) (w : World) (hw : w.WF) (k : List WOp) (j : Nat)
    (hj : j < w.stores.length) (hk : ∀ op ∈ k, op.target ≠ j) :
    (w.run c k).view j = w.view j :=
  World.run_view_other c k w hw j hj fun op ho _ => hk op ho

/-- … and the clone starts out indistinguishable from the original (templates with their
    compilations, both configurations, registries) -/
theorem clone_starts_equal (c : LtCfg → Source → Bool) (w : World) (hw : w.WF) (e : Nat)
    (he : e < w.stores.length) : (w.step c (.clone e)).1.view w.stores.length = w.view e :=
  World.clone_view_new c w e hw he

/-- every operation on environment `e` (store operation, load-time or run-time configuration
    change, registry change) acts on `e`'s value exactly like the specification `EnvSpec.step` -/
theorem world_step_refines (c : LtCfg → Source → Bool) (w : World) (hw : w.WF) (e : Nat)
    (he : e < w.stores.length) (op : EOp) :
    ∃ v, w.flatView e = some v ∧
      (w.step c (op.at e)).1.flatView e = some (v.step c op).1 ∧
      (w.step c (op.at e)).2 = (v.step c op).2 := by
  obtain ⟨v, hv⟩ := World.flatView_isSome w he
  exact ⟨v, hv, World.step_local c w hw op hv⟩

/-- The behaviour of an environment is a function of its value — (run-time configuration;
    load-time configuration for future loads; loader; per template: source and load-time
    configuration at its last load; registries) — and of nothing else: two environments, in the same
    or in different worlds (original/clone, differently built), that have the same value answer
    every sequence of further operations identically and end with the same value. -/
theorem env_history_independent (c : LtCfg → Source → Bool) (w₁ w₂ : World) (h₁ : w₁.WF) (h₂ : w₂.WF)
    (e₁ e₂ : Nat) (l₁ : e₁ < w₁.stores.length) (l₂ : e₂ < w₂.stores.length)
    (hv : w₁.flatView e₁ = w₂.flatView e₂) (k : List EOp) :
    w₁.resultsAt c e₁ k = w₂.resultsAt c e₂ k ∧
    (w₁.runAt c e₁ k).flatView e₁ = (w₂.runAt c e₂ k).flatView e₂ := by
  obtain ⟨v, hv1⟩ := World.flatView_isSome w₁ l₁
  obtain ⟨v₂, hv2⟩ := World.flatView_isSome w₂ l₂
  obtain rfl : v = v₂ := Option.some.inj (hv1.symm.trans (hv.trans hv2))
  obtain ⟨a1, a2⟩ := World.run_local c k w₁ h₁ e₁ v hv1
  obtain ⟨b1, b2⟩ := World.run_local c k w₂ h₂ e₂ v hv2
  exact ⟨a2.trans b2.symm, a1.trans b1.symm⟩

example : -- original, clone; the clone changes a filter, a template and both configurations, the
          -- original does not move
    let c : LtCfg → Source → Bool := fun _ _ => true
    let w := (World.init [(1, 9)] [(1, 9)] [(1, 9)]).run c [.store 0 (.addOwned 0 3), .clone 0]
    let w' := w.run c [.regAdd .filter 1 0 5, .store 1 (.setCfg cfgB), .store 1 (.addOwned 0 3),
                       .setRt 1 { RtCfg.default with undefined := 1 }, .regRemove .global 1 1]
    (w'.view 0).map (fun v => (v.store.explicit 0, v.rt.undefined, v.filters 0, v.globals 1))
        = some (some (3, cfgA), 0, none, some 9) ∧
    (w'.view 1).map (fun v => (v.store.explicit 0, v.rt.undefined, v.filters 0, v.globals 1))
        = some (some (3, cfgB), 1, some 5, none) := by
  decide +kernel

/-- `Environment::empty()` is `Environment::new()` with everything taken out again: after removing
    every builtin filter, test and global and installing the auto-escape callback that never escapes,
    an environment created by `new()` has the value of one created by `empty()` — and therefore
    (`env_history_independent`) behaves like it under every continuation. -/
theorem empty_env_is_stripped_new (c : LtCfg → Source → Bool) (f t g : Registry) (k : List EOp) :
    ((World.init f t g).runAt c 0 (stripOps f t g)).resultsAt c 0 k = World.initEmpty.resultsAt c 0 k := by
  have h1 := World.runAt_WF c 0 (stripOps f t g) _ (World.init_WF f t g)
  have hv := World.stripped_new_value c f t g
  exact (env_history_independent c _ _ h1 World.initEmpty_WF 0 0
    (World.lt_of_flatView (hv.trans (World.flatView_of_store (s := _) rfl))) Nat.zero_lt_one hv k).1

example : -- new() has `upper`; stripped it is unknown as in empty(), and a template is compiled unescaped
    let c : LtCfg → Source → Bool := fun _ _ => true
    let w := (World.init [(1, 9)] [(1, 9)] [(1, 9)]).runAt c 0 (stripOps [(1, 9)] [(1, 9)] [(1, 9)])
    (w.view 0).map (fun v => (v.filters 1, v.tests 1, v.globals 1, v.store.cfg.autoEscape)) = some (none, none, none, 2) ∧
    (World.initEmpty.view 0).map (fun v => (v.filters 1, v.tests 1, v.globals 1, v.store.cfg.autoEscape)) = some (none, none, none, 2) := by
  decide +kernel

/-- With ONE process-wide counter, for any interleaving `ts` of renders started by any number of
    threads: a macro stamped by the `p`-th state is refused by every other state `q ≠ p` — no
    matter on which threads the two renders ran or what those threads rendered before. -/
theorem foreign_macro_rejected (ts : List Nat) (p q tp ip tq iq : Nat)
    (hp : (IdSys.init.run ts).created[p]? = some (tp, ip))
    (hq : (IdSys.init.run ts).created[q]? = some (tq, iq)) (hne : p ≠ q) :
    macroAccepted iq ip = false := by
  have hinv := IdSys.run_inv ts _ IdSys.init_inv
  have e1 := IdSys.id_eq_index _ hinv hp
  have e2 := IdSys.id_eq_index _ hinv hq
  subst e1; subst e2
  simp [macroAccepted]
  exact fun e => hne e.symm

/-- … and it is accepted by its own state -/
theorem own_macro_accepted (i : Nat) : macroAccepted i i = true := by simp [macroAccepted]

example : -- three threads, five renders; the export of render 1 (thread 7) is foreign to render 3 (thread 9)
    (IdSys.init.run [7, 7, 8, 9, 7]).created[1]? = some (7, 1) ∧
    (IdSys.init.run [7, 7, 8, 9, 7]).created[3]? = some (9, 3) := by decide +kernel

/-- Why the counter has to be process-wide (the seeded mutant C15-2): with one counter per thread
    the first renders of two different threads get the same id, so a macro exported from one is
    accepted by the other. -/
theorem per_thread_counter_collides :
    ∃ (ts : List Nat) (p q tp ip tq iq : Nat), p ≠ q ∧ tp ≠ tq ∧
      (perThreadRun [] ts)[p]? = some (tp, ip) ∧ (perThreadRun [] ts)[q]? = some (tq, iq) ∧
      macroAccepted iq ip = true :=
  ⟨[0, 1], 0, 1, 0, 0, 1, 0, by decide +kernel⟩

/-- A `Value::from(Serde(x))` conversion that is entered outside any conversion, does anything inside
    (nested conversions, parking and taking back engine values, in any order and number) and is then
    left by a PANIC which the host catches, leaves the thread's serialisation flag exactly as it was
    and no guard alive: what `impl Serialize for Value` emits afterwards (`tojson`, JSON auto-escape)
    is what it emitted before — on this thread as on any other. -/
theorem caught_panic_restores_thread_state (t : ThreadState) (ht : t.guards = []) (body : List ConvEv) :
    (panickingConversion true t body).serializing = t.serializing ∧
    (panickingConversion true t body).guards = [] ∧
    emitsData (panickingConversion true t body) = emitsData t := by
  have h1 : FlagInv t.serializing ((t.step .enter).run body) :=
    FlagInv.run t.serializing body _ (FlagInv.step t.serializing t .enter (FlagInv.of_no_guards ht))
  obtain ⟨hg, hs⟩ := unwind_all _ ((t.step .enter).run body) rfl
  have hs' := hs.trans h1
  exact ⟨hs', hg, by unfold emitsData; unfold panickingConversion; rw [hs']⟩

example : -- a context whose Serialize impl parks a value, starts a nested conversion and panics there
    (panickingConversion true ThreadState.clean [.park 7, .take, .park 8, .enter, .park 9]).serializing = false ∧
    ((ThreadState.clean.step .enter).run [.park 7, .take, .park 8, .enter, .park 9]).serializing = true := by
  decide +kernel

/-- the same holds for conversions that return (with a value, or an invalid value for an `Err`):
    any well-formed or ill-formed sequence of events keeps the flag tied to the live guards -/
theorem conversion_keeps_flag_invariant (t : ThreadState) (ht : t.guards = []) (evs : List ConvEv) :
    FlagInv t.serializing (t.run evs) :=
  FlagInv.run t.serializing evs t (FlagInv.of_no_guards ht)

/-- handles handed out while parking are fresh: a value leaked into the registry by an unwound
    conversion can never be returned for a later handle -/
theorem parked_handles_are_fresh (evs : List ConvEv) (p : Nat × Nat)
    (hp : p ∈ (ThreadState.clean.run evs).handles) : p.1 ≤ (ThreadState.clean.run evs).lastHandle :=
  HandlesInv.run evs ThreadState.clean (by intro p hp; simp [ThreadState.clean] at hp) p hp

/-- Why the guard must reset while unwinding (the seeded change C15-4, `&& !std::thread::panicking()`):
    one caught panic leaves the thread marked forever, and later conversions no longer clear it. -/
theorem seeded_guard_leaves_thread_marked :
    (panickingConversion false ThreadState.clean []).serializing = true ∧
    emitsData (panickingConversion false ThreadState.clean []) = false ∧
    emitsData (((panickingConversion false ThreadState.clean []).step .enter).step .leave) = false := by
  decide +kernel

/-- a loader that panics (the unwind is caught by the caller) leaves the store identical -/
theorem panicking_lookup_changes_nothing (c : LtCfg → Source → Bool) (s : Store) (n : Name)
    (h : (s.get c n).2 = .panicked) : (s.get c n).1 = s :=
  failed_lookup_not_cached c s n (by intro t ht; rw [h] at ht; cases ht)

example :
    let s : Store := { loader := some (fun _ => .panics), cfg := cfgA, borrowed := [], owned := [] }
    (s.get (fun _ _ => true) 0).2 = .panicked := by decide +kernel

open MJ.Hidden in
/-- The list of process-global, thread-local and interior-mutable state regenerated from
    `minijinja/src` for this run is exactly the list `MJ/Model/Hidden.lean` classifies: a new static,
    `thread_local!`, `OnceLock`, `Cell`/`RefCell`/`Mutex`/atomic field, memo map or pool — or one
    `OnceLock` filled at a second site — fails this theorem until it is given a class. -/
theorem all_hidden_state_classified : MJ.Gen.c15HiddenState = modelHiddenState.map (·.1) :=
  rfl

open MJ.Hidden in
example : -- every class is inhabited
    ∀ cls : StateClass, ∃ row ∈ modelHiddenState ++ modelHiddenStateExt, row.2 = cls := by
  intro cls; cases cls <;> decide +kernel

open MJ.Hidden in
/-- … and the same enumeration over the other two crates an application links with the engine,
    minijinja-contrib and minijinja-autoreload: everything there is either state of a VALUE a
    template creates (`cycler()`, `joiner()`) or belongs to the reloader (a layer above `Environment`
    with a property of its own, C20). -/
theorem all_hidden_state_classified_ext : MJ.Gen.c15HiddenStateExt = modelHiddenStateExt.map (·.1) :=
  rfl

open MJ.Hidden in
/-- `compile_depends_only_on`, the part that can be read off the source (regenerated as
    `C15_COMPILE_READS`): a compile is handed (name, source, the store's current load-time
    configuration) and nothing else, reads exactly the fields of that configuration, cannot reach the
    environment, the VM, the loader or the registries through its imports, and the only hidden state
    inside the compiler modules is of classes that carry nothing from one compile to the next (pools:
    `pool_buffer_is_cleared`; once-cells: `once_cache_is_content_determined`; copy-on-write delimiters
    of the syntax builder; the empty instruction list).  That the compiler's OUTPUT is the same for the
    same three inputs is what the fingerprint tables of the harness observe — across processes that
    compile in different orders. -/
theorem compile_depends_only_on :
    MJ.Gen.c15CompileReads = modelCompileReads ∧
    compileReadsSafe MJ.Gen.c15CompileReads MJ.Gen.c15TemplateConfig modelHiddenState = true :=
  ⟨rfl, by decide +kernel⟩

open MJ.Hidden in
/-- `onceCache`: whatever threads read a once-cell, in whatever order and however often, starting
    from an empty cell, every read returns the value of the (one, argument-less) initialiser: the
    cell's content is determined by the code, not by the history. -/
theorem once_cache_is_content_determined {α : Type} (init : Unit → α) (n : Nat) :
    ∀ v ∈ (Once.mk (none : Option α)).reads init n, v = init () :=
  Once.reads_eq_init init n _ (Or.inl rfl)

open MJ.Hidden in
example : (Once.mk (none : Option Nat)).reads (fun _ => 7) 3 = [7, 7, 7] := by decide +kernel

open MJ.Hidden in
/-- Why "filled at one site" is part of the table: a cell shared by two initialisers keeps the value
    of whichever ran first — what `Environment::empty()` gets would depend on whether an
    `Environment::new()` was created before (the own mutation m15). -/
theorem shared_once_cell_depends_on_history :
    ∃ (a b : Unit → Nat),
      (((Once.mk none).getOrInit a).1.getOrInit b).2 ≠ (((Once.mk none).getOrInit b).1.getOrInit b).2 :=
  ⟨fun _ => 0, fun _ => 2, by decide +kernel⟩

open MJ.Hidden in
/-- `pool`: when taking a buffer clears it, or recycling does, every buffer ever handed out by `take`
    is empty — whatever the holders pushed, whether they recycled their buffer, dropped it while
    unwinding, or found the pool full. -/
theorem pool_buffer_is_cleared {α : Type} (takeClears recycleClears : Bool)
    (h : (takeClears || recycleClears) = true) (evs : List (PoolEv α)) :
    ∀ b ∈ (Pool.empty.run takeClears recycleClears evs).handedOut, b = [] :=
  (Pool.run_clean takeClears recycleClears h evs _ (Pool.empty_clean recycleClears)).2

open MJ.Hidden in
example : -- a buffer comes back with two spans in it and is taken again
    (Pool.empty.run true false [.take, .push 0 (5 : Nat), .push 0 6, .recycle 0, .take]).handedOut = [[], []] ∧
    (Pool.empty.run false true [.take, .push 0 (5 : Nat), .push 0 6, .recycle 0, .take]).handedOut = [[], []] := by
  decide +kernel

open MJ.Hidden in
/-- … and with neither clear a later generator starts with the leftovers of an earlier one -/
theorem pool_without_clears_leaks :
    ∃ evs : List (PoolEv Nat), ∃ b ∈ (Pool.empty.run false false evs).handedOut, b ≠ [] :=
  ⟨[.take, .push 0 5, .recycle 0, .take], [5], by decide +kernel, by decide +kernel⟩

open MJ.Hidden in
/-- the pools found in the source are the modelled ones and each has at least one of the two clears
    (dropping ONE of them is a harmless change and does not fail this) -/
theorem source_pools_safe :
    MJ.Gen.c15Pools.map (·.1) = modelPools.map (·.1) ∧ ∀ row ∈ MJ.Gen.c15Pools, poolSafe row = true :=
  ⟨rfl, by decide +kernel⟩

open MJ.Hidden in
/-- `freshKeyRegistry`: the value-handle registry with its one-entry fast path is a map.  Whatever it
    holds (entries a foreign serializer or an unwound conversion left behind), parking a value under
    a handle that is not in use and taking it back returns that value and leaves every other entry
    as it was. -/
theorem leaked_handles_never_returned (r : HandleReg) (hr : r.Inv) (h v : Nat) (hf : r.lookup h = none) :
    ((r.insert h v).remove true h).2 = some v ∧
    ((r.insert h v).remove true h).1.Inv ∧
    ∀ k, ((r.insert h v).remove true h).1.lookup k = r.lookup k := by
  clear hr  -- `insert` establishes the invariant from any state
  have hi := HandleReg.insert_inv r h v
  refine ⟨?_, HandleReg.remove_inv _ h hi, fun k => ?_⟩
  · rw [HandleReg.remove_result, HandleReg.lookup_insert]; simp
  · rw [HandleReg.remove_lookup _ h k hi, HandleReg.lookup_insert]
    by_cases e : k = h
    · subst e; simp [hf]
    · simp [e]

open MJ.Hidden in
example : -- two leaked entries, then a conversion parks and takes back a third value
    let r := (HandleReg.empty.insert 1 100).insert 2 200
    r.lookup 3 = none ∧ ((r.insert 3 7).remove true 3).2 = some 7 ∧
    ((r.insert 3 7).remove true 3).1.lookup 1 = some 100 := by
  decide +kernel

open MJ.Hidden in
/-- The single slot holds an entry only while it is the registry's ONLY entry, so taking it whenever
    it is occupied ("handles come back in LIFO order") is the same as comparing its handle — for
    every handle that is in the registry.  (The own mutation m08 is therefore not a behavioural
    change for handles the engine hands out.) -/
theorem lifo_remove_agrees_when_present (r : HandleReg) (hr : r.Inv) (h : Nat) (hp : r.lookup h ≠ none) :
    r.remove false h = r.remove true h :=
  HandleReg.lifo_agrees_when_present r h hr hp

open MJ.Hidden in
example : ((HandleReg.empty.insert 1 100).insert 2 200).lookup 2 ≠ none := by decide +kernel

open MJ.Hidden in
/-- the facts about `ValueHandleRegistry` found in the source are the modelled ones; `insert` keeps the
    single-slot invariant (the comparison in `remove` is recorded, not demanded: see above) -/
theorem source_handle_registry_as_modelled :
    MJ.Gen.c15HandleRegistry.map (·.1) = modelHandleRegistry.map (·.1) ∧
    handleRegistrySafe MJ.Gen.c15HandleRegistry = true :=
  ⟨rfl, by decide +kernel⟩

/-! ## the memoising tier under concurrency: all interleavings at lock granularity

`MJ/Model/MemoConc.lean`: any number of threads perform lookups on ONE shared store; a lookup that
misses the borrowed tier goes through `acquire` / `look` / `create + insert` / `release` as separate
steps; the schedule — which thread moves next, and when the outside world changes what the loader
answers — is arbitrary. -/

open MJ.MemoConc in
/-- Linearizability against the plain sequential store.  For EVERY schedule, the run of the threads
    is equivalent to the sequential history `σ.history` (each lookup placed where it took effect,
    each change of the outside world where it happened):
    * the shared store is exactly what `Store.run` — the sequential model all other theorems are
      about — makes of that history,
    * every thread got, for each of its lookups, the answer the sequential run gives at that place,
    * and the history contains every thread's lookups in that thread's own order (what it has
      answered so far followed by what it still has to do is its program). -/
theorem concurrent_lookups_linearizable (c : LtCfg → Source → Bool) (s : Store) (todos : List (List Name))
    (sched : List Ev) :
    let σ := (Sys.start s todos).run c sched
    σ.store = Store.run c s σ.history ∧
    (∀ i t, σ.thr[i]? = some t → t.answers = seqAnswers c s σ.trace (some i)) ∧
    (∀ (i : Nat) (t : Thr), σ.thr[i]? = some t → todos[i]? = some ((t.done.map (·.1)).reverse ++ t.todo)) := by
  intro σ
  have h := reach_ref c s todos sched
  exact ⟨h.1.symm, fun i t hi => (h.2 i t hi).1, fun i t hi => (h.2 i t hi).2⟩

open MJ.MemoConc in
example : -- three threads, one of them answered from the borrowed tier without the lock; thread 1 is
          -- blocked while thread 0 creates; the outside world changes in between
    let c : LtCfg → Source → Bool := fun _ _ => true
    let s : Store := { loader := some (fun _ => .src 1), cfg := cfgA, borrowed := [(5, (9, cfgA))], owned := [] }
    let σ := (Sys.start s [[0, 5], [0], [5, 0]]).run c
      [.thread 0, .thread 1, .thread 0, .thread 2, .world (fun _ => .src 2), .thread 0, .thread 1, .thread 0,
       .thread 1, .thread 1, .thread 1, .thread 0, .thread 2, .thread 2, .thread 2]
    σ.thr.map (·.answers) =
      [[(5, .found (9, cfgA)), (0, .found (2, cfgA))], [(0, .found (2, cfgA))], [(0, .found (2, cfgA)), (5, .found (9, cfgA))]] ∧
    σ.history.length = 6 := by
  decide +kernel

open MJ.MemoConc in
/-- Mutual exclusion is a consequence of the model's mutex, not an assumption: in every reachable
    state at most one thread is between `acquire` and `release`. -/
theorem concurrent_mutual_exclusion (c : LtCfg → Source → Bool) (s : Store) (todos : List (List Name))
    (sched : List Ev) (i j : Nat) (ti tj : Thr)
    (hi : ((Sys.start s todos).run c sched).thr[i]? = some ti)
    (hj : ((Sys.start s todos).run c sched).thr[j]? = some tj)
    (hni : ti.pc ≠ .idle) (hnj : tj.pc ≠ .idle) : i = j :=
  (reach_inv c s todos sched).holder_unique hi hj hni hnj

open MJ.MemoConc in
/-- Progress (no deadlock, no lost wake-up at this granularity): in every reachable state in which some
    thread still has a lookup to do, some thread can take a step that gets it somewhere (its program
    counter changes or its to-do list shrinks) — the mutex is always held by a thread that is inside
    its critical section and can move on, and when it is free any thread with work can take it or is
    answered by the borrowed tier.  So every fair schedule completes all lookups. -/
theorem concurrent_progress (c : LtCfg → Source → Bool) (s : Store) (todos : List (List Name)) (sched : List Ev)
    (hwork : ∃ (i : Nat) (t : Thr), ((Sys.start s todos).run c sched).thr[i]? = some t ∧ t.todo ≠ []) :
    ∃ j, ((Sys.start s todos).run c sched).Moves c j :=
  progress_of_inv c _ (reach_inv c s todos sched) hwork

open MJ.MemoConc in
example : -- thread 1 is blocked (thread 0 holds the mutex, inside the creator): thread 0 moves
    let c : LtCfg → Source → Bool := fun _ _ => true
    let s : Store := { loader := some (fun _ => .src 1), cfg := cfgA, borrowed := [], owned := [] }
    let σ := (Sys.start s [[0], [0]]).run c [.thread 0, .thread 0, .thread 1]
    σ.lock = some 0 ∧ (σ.stepThr c 1).lock = some 0 ∧ (σ.stepThr c 0).thr.map (·.answers) = [[(0, .found (1, cfgA))], []] := by
  decide +kernel

open MJ.MemoConc in
/-- Stickiness under concurrency: whatever the threads do and however the outside world changes, an
    entry of the memo map — a loader-backed template once loaded by ANY thread — is never replaced
    while the environment is shared: from any reachable state on, it stays what it is. -/
theorem concurrent_entries_never_replaced (c : LtCfg → Source → Bool) (s : Store) (todos : List (List Name))
    (sched more : List Ev) (n : Name) (x : Tmpl × Origin)
    (h : find ((Sys.start s todos).run c sched).store.owned n = some x) :
    find (((Sys.start s todos).run c sched).run c more).store.owned n = some x :=
  run_keeps c (step_owned_kept c n x) more _ (reach_inv c s todos sched) h

open MJ.MemoConc in
/-- "The same template gives the same result from any number of threads at once": when the outside
    world does not change during the concurrent phase (the loader answers as a function of the name),
    EVERY answer ANY thread gets for a name, under EVERY schedule, is the answer a single lookup in
    the store as it was before the phase gives. -/
theorem concurrent_same_answer (c : LtCfg → Source → Bool) (s : Store) (todos : List (List Name))
    (sched : List Ev) (hs : onlyThreads sched = true) (i : Nat) (t : Thr)
    (hi : ((Sys.start s todos).run c sched).thr[i]? = some t) :
    ∀ p ∈ t.answers, p.2 = (s.get c p.1).2 := by
  have h := reach_ref c s todos sched
  rw [(h.2 i t hi).1]
  exact seqAnswers_pure c s (some i) _
    (run_trace_gets c sched hs _ (start_inv s todos) (fun x hx => nomatch hx))

open MJ.MemoConc in
/-- What the mutex is for: with `acquire`/`release` doing nothing, two threads can both miss and both
    create — with a loader whose answer changed in between, they return DIFFERENT templates for one
    name, and the first one's entry has been replaced behind its back.  With the mutex the same
    schedule gives both the same template. -/
theorem without_mutex_answers_diverge :
    ∃ (s : Store) (sched : List Ev),
      ((Sys.start s [[0], [0]]).runNoLock (fun _ _ => true) sched).thr.map (·.answers)
        = [[(0, .found (1, cfgA))], [(0, .found (2, cfgA))]] ∧
      ((Sys.start s [[0], [0]]).run (fun _ _ => true) (sched ++ [.thread 1, .thread 1, .thread 1])).thr.map (·.answers)
        = [[(0, .found (1, cfgA))], [(0, .found (1, cfgA))]] :=
  ⟨{ loader := some (fun _ => .src 1), cfg := cfgA, borrowed := [], owned := [] },
   [.thread 0, .thread 0, .thread 1, .thread 1, .thread 0, .world (fun _ => .src 2), .thread 1, .thread 0, .thread 1],
   by decide +kernel⟩

open MJ.MemoConc in
/-- the facts about memo-map (the version in Cargo.lock, read from the cargo registry) are the ones
    the concurrent model was written against -/
theorem memo_map_source_as_modelled :
    MJ.Gen.c15MemoMap = modelMemoMap ∧ memoMapSafe MJ.Gen.c15MemoMap = true :=
  ⟨rfl, by decide +kernel⟩

/-! ## rendering: what a render can depend on

`MJ/Model/RenderProg.lean`: a render is a program (`Prog`) of template lookups — adaptive: which name
comes next may depend on the earlier answers — determined by the name and context it is called
with, the run-time configuration, the registries and what it can read of the hidden state
(`Renderer`; that the real VM is such a function is the validated hypothesis `render_reads_only`,
that an answer is determined by (name, source, load-time configuration) the validated hypothesis
`compile_depends_only_on`).  Proved here: nothing else gets in. -/

open MJ.Render in
/-- History independence INCLUDING rendering: two environments — in the same or in different worlds
    (original / clone / freshly built), reached by whatever histories, rendered on whatever threads —
    that have the same value, on threads that present the same hidden view, render every template
    with every context to the same output (every renderer, every compile predicate), and have the
    same value afterwards. -/
theorem render_history_independent {Ctx Out : Type} (c : LtCfg → Source → Bool) (R : Renderer Ctx Out)
    (w₁ w₂ : World) (h₁ : w₁.WF) (h₂ : w₂.WF) (e₁ e₂ : Nat) (l₁ : e₁ < w₁.stores.length)
    (l₂ : e₂ < w₂.stores.length) (hv : w₁.flatView e₁ = w₂.flatView e₂) (t₁ t₂ : ThreadHidden)
    (ht : t₁.view = t₂.view) (name : Name) (ctx : Ctx) :
    (render c R w₁ e₁ t₁ name ctx).map (·.1) = (render c R w₂ e₂ t₂ name ctx).map (·.1) ∧
    (render c R w₁ e₁ t₁ name ctx).bind (·.2.flatView e₁) = (render c R w₂ e₂ t₂ name ctx).bind (·.2.flatView e₂) := by
  obtain ⟨v, hv1⟩ := World.flatView_isSome w₁ l₁
  obtain ⟨v₂, hv2⟩ := World.flatView_isSome w₂ l₂
  obtain rfl : v = v₂ := Option.some.inj (hv1.symm.trans (hv.trans hv2))
  unfold render
  rw [hv1, hv2, ht]
  obtain ⟨a1, a2⟩ := runAt_local c e₁ (R.prog v.rt v.filters v.tests v.globals t₂.view name ctx) w₁ h₁ v hv1
  obtain ⟨b1, b2⟩ := runAt_local c e₂ (R.prog v.rt v.filters v.tests v.globals t₂.view name ctx) w₂ h₂ v hv2
  exact ⟨congrArg some (a1.trans b1.symm), a2.trans b2.symm⟩

open MJ.Render in
/-- Renders do not influence each other: after ANY other activity that only renders and looks up
    (any program `p` of lookups: other templates, other contexts, failing renders, the same render
    before), every template renders with every context exactly as it would have before — in
    particular the same template and context give the same result every time.  (Between the two
    nothing but lookups happens: the outside world — what the loader answers — is the same.) -/
theorem renders_do_not_influence_each_other {Ctx Out Out' : Type} (c : LtCfg → Source → Bool)
    (R : Renderer Ctx Out) (v : EnvSpec) (hv : HiddenView) (p : Prog Out') (name : Name) (ctx : Ctx) :
    (renderSpec c R (p.runOn c v).2 hv name ctx).1 = (renderSpec c R v hv name ctx).1 := by
  obtain ⟨_, hs⟩ := runOn_same c p v v (EnvSpec.Same.refl c v)
  obtain ⟨hf, h1, h2, h3, h4⟩ := hs
  unfold renderSpec
  rw [h1, h2, h3, h4]
  exact (runOn_same c _ v _ ⟨hf, h1, h2, h3, h4⟩).1

open MJ.Render in
example : -- a renderer that includes what the first answer names; rendering "1" (which loads 2 and 3
          -- through the loader) does not change what rendering "0" gives
    let c : LtCfg → Source → Bool := fun _ _ => true
    let R : Renderer Nat (List Res) :=
      ⟨fun _ _ _ _ _ n _ => .lookup n (fun r => match r with
          | .found (src, _) => .lookup src (fun r2 => .ret [r, r2])
          | _ => .ret [r])⟩
    let v : EnvSpec := { flat := { loader := some (fun n => .src (n + 1)), cfg := cfgA, contents := fun _ => none },
                         rt := RtCfg.default, filters := fun _ => none, tests := fun _ => none, globals := fun _ => none }
    (renderSpec c R v HiddenView.clean 0 7).1 = [.found (1, cfgA), .found (2, cfgA)] ∧
    (renderSpec c R (renderSpec c R v HiddenView.clean 1 7).2 HiddenView.clean 0 7).1 = [.found (1, cfgA), .found (2, cfgA)] := by
  decide +kernel

open MJ.Render MJ.Hidden in
/-- What a render can read of the hidden state is the same on every thread, whatever that thread did
    before: after any sequence of conversion events that leaves no guard alive (complete
    conversions, nested ones, conversions left by caught panics — `caught_panic_restores_thread_state`)
    and any use of the code generator pools (given one of the two clears, `source_pools_safe`), the
    hidden view is the clean one. -/
theorem hidden_view_is_clean (evs : List ConvEv) (hg : (ThreadState.clean.run evs).guards = [])
    (takeClears recycleClears : Bool) (hp : (takeClears || recycleClears) = true) (pevs : List (PoolEv Nat)) :
    ThreadHidden.view ⟨ThreadState.clean.run evs, Pool.empty.run takeClears recycleClears pevs⟩ = HiddenView.clean := by
  have hs : (ThreadState.clean.run evs).serializing = false :=
    flag_of_no_guards (conversion_keeps_flag_invariant ThreadState.clean rfl evs) hg
  have hb := pool_buffer_is_cleared takeClears recycleClears hp pevs
  unfold ThreadHidden.view HiddenView.clean
  simp only [hs]
  congr 1
  exact List.flatten_eq_nil_iff.mpr hb

open MJ.Render MJ.Hidden in
example : -- a thread that went through a caught panic inside a nested conversion and whose generators
          -- pushed spans into pooled buffers
    ThreadHidden.view ⟨panickingConversion true ThreadState.clean [.park 7, .enter, .park 9],
                       Pool.empty.run true true [.take, .push 0 5, .recycle 0, .take]⟩ = HiddenView.clean := by
  decide +kernel

open MJ.Render MJ.Hidden MJ.MemoConc in
/-- **C15, full strength** (for code generator pools with the given clears — `C15_main_source` plugs in
    what the source has).  For every compile predicate `c` (`compile_depends_only_on`: whether and to
    what a source compiles is a function of name, source and load-time configuration) and every
    renderer `R` (`render_reads_only`):

    1. *contents, not history* — take ANY two worlds in which the registries are well-formed heaps
       (`World.WF`; by the second clause that is every world reached from `Environment::new()` or
       `Environment::empty()` by ANY history of operations: add / replace / remove templates in
       either tier, clear, set_loader, every load-time and run-time setter, add / remove filters,
       tests, globals, clone, lookups = renders succeeding or failing), ANY environments `e₁`, `e₂`
       alive in them (originals or clones), ANY two threads with arbitrary pasts (conversions incl. caught panics that leave no guard alive,
       code generator pool traffic): if the two environments have the same value — run-time
       configuration, load-time configuration, loader, per template (source, load-time configuration
       of its last load), registries — then every template renders with every context to the SAME
       output in both (`k₂` = the shortest way to build those contents: "a freshly built
       environment with the same final contents"), and they have the same value afterwards;
    2. *an addition that fails to compile leaves the environment as it was* (the state itself);
    3. *renders do not influence each other* — after any other renders / lookups `p` (succeeding or
       failing) every template renders as before; the same template and context give the same
       result every time;
    4. *from any number of threads at once* — under EVERY interleaving (lock granularity, explicit
       mutex) of any number of threads looking up any names on a shared environment, every answer
       any thread gets is the answer of a single lookup before the phase;
    5. *a loader-backed template keeps the source it had when first requested* until it is removed,
       re-added or the cache is cleared — sequentially across any other operations incl. set_loader
       and configuration changes, and concurrently across any schedule incl. changes of what the
       loader answers. -/
def C15_full (takeClears recycleClears : Bool) : Prop :=
  ∀ (Ctx Out : Type) (c : LtCfg → Source → Bool) (R : Renderer Ctx Out),
    (∀ (w₁ w₂ : World) (e₁ e₂ : Nat) (evs₁ evs₂ : List ConvEv) (pevs₁ pevs₂ : List (PoolEv Nat))
        (name : Name) (ctx : Ctx),
        w₁.WF → w₂.WF → e₁ < w₁.stores.length → e₂ < w₂.stores.length →
        (ThreadState.clean.run evs₁).guards = [] → (ThreadState.clean.run evs₂).guards = [] →
        w₁.flatView e₁ = w₂.flatView e₂ →
        (render c R w₁ e₁ ⟨ThreadState.clean.run evs₁, Pool.empty.run takeClears recycleClears pevs₁⟩ name ctx).map (·.1)
          = (render c R w₂ e₂ ⟨ThreadState.clean.run evs₂, Pool.empty.run takeClears recycleClears pevs₂⟩ name ctx).map (·.1)) ∧
    (∀ (f t g : Registry) (k : List WOp),
        ((World.init f t g).run c k).WF ∧ (World.initEmpty.run c k).WF) ∧
    (∀ (s : Store) (n : Name) (src : Source), c s.cfg src = false →
        s.step c (.addBorrowed n src) = (s, .compileError) ∧ s.step c (.addOwned n src) = (s, .compileError)) ∧
    (∀ (v : EnvSpec) (hv : HiddenView) (p : Prog Out) (name : Name) (ctx : Ctx),
        (renderSpec c R (p.runOn c v).2 hv name ctx).1 = (renderSpec c R v hv name ctx).1) ∧
    (∀ (s : Store) (todos : List (List Name)) (sched : List Ev), onlyThreads sched = true →
        ∀ (i : Nat) (t : Thr), ((Sys.start s todos).run c sched).thr[i]? = some t →
          ∀ p ∈ t.answers, p.2 = (s.get c p.1).2) ∧
    ((∀ (s : Store) (n : Name) (t : Tmpl) (k : List Op),
        (s.step c (.get n)).2 = .found t → (∀ op ∈ k, op.evicts n = false) →
        (((s.step c (.get n)).1.run c k).step c (.get n)).2 = .found t) ∧
     (∀ (s : Store) (todos : List (List Name)) (sched more : List Ev) (n : Name) (x : Tmpl × Origin),
        find ((Sys.start s todos).run c sched).store.owned n = some x →
        find (((Sys.start s todos).run c sched).run c more).store.owned n = some x))

open MJ.Render MJ.Hidden MJ.MemoConc in
/-- **C15_main.**  The only hypothesis left explicit is about the source: each code generator pool
    clears its buffers when taking or when recycling (`pools_clear`, discharged from the regenerated
    table in `C15_main_source`).  The two VALIDATED hypotheses are parameters by type —
    `compile_depends_only_on` is `c : LtCfg → Source → Bool` together with `Tmpl = Source × LtCfg`,
    `render_reads_only` is `R : Renderer Ctx Out` — and are tied to the code by the regenerated lists
    `C15_COMPILE_READS` / `C15_HIDDEN_STATE` (nothing else exists that a compile / a render could
    read) and by the differential histories.  Everything else is proved. -/
theorem C15_main (takeClears recycleClears : Bool) (pools_clear : (takeClears || recycleClears) = true) :
    C15_full takeClears recycleClears := by
  intro Ctx Out c R
  refine ⟨?_, ?_, failed_insert_noop c, renders_do_not_influence_each_other c R, ?_,
          cached_source_sticky c, concurrent_entries_never_replaced c⟩
  · intro w₁ w₂ e₁ e₂ evs₁ evs₂ pevs₁ pevs₂ name ctx h₁ h₂ l₁ l₂ g₁ g₂ hv
    refine (render_history_independent c R _ _ h₁ h₂ e₁ e₂ l₁ l₂ hv _ _ ?_ name ctx).1
    rw [hidden_view_is_clean evs₁ g₁ takeClears recycleClears pools_clear pevs₁,
        hidden_view_is_clean evs₂ g₂ takeClears recycleClears pools_clear pevs₂]
  · intro f t g k
    exact ⟨world_wf c f t g k, world_wf_empty c k⟩
  · intro s todos sched hs i t hi
    exact concurrent_same_answer c s todos sched hs i t hi

open MJ.Hidden in
/-- … with the clears the code generator pools of the current source have (regenerated table) -/
theorem C15_main_source : ∀ row ∈ MJ.Gen.c15Pools, C15_full row.2.1 row.2.2.2 := by
  intro row hrow
  exact C15_main _ _ (source_pools_safe.2 row hrow)

example : -- the pools of the source: all of them clear on both sides today
    MJ.Gen.c15Pools.map (fun r => (r.2.1, r.2.2.2)) = [(true, true), (true, true), (true, true)] := by decide +kernel

/-- The structural facts of `loader.rs`, `environment.rs`, `template.rs`, `lexer.rs` and
    `vm/state.rs` that the model transcribes, as regenerated from `/repo` for this run, are the ones
    the model was written against: the classification of every `Environment::set_*` into load-time /
    loader / run-time, the fields of the load-time configuration, the event order in both
    `insert_cow` arms (compile, evict, insert — no early return, no look at the stored entry), the
    lookup order of `get`, the tiers `remove`/`clear` touch, the process-wide `STATE_ID`, the
    derived `Clone`s, every `thread_local!` of the crate and every `Drop` guard that restores one (its
    condition must be the guard's own flag and nothing else).  (Pools, the handle registry and the full
    list of hidden state: `source_pools_safe`, `source_handle_registry_as_modelled`,
    `all_hidden_state_classified`.) -/
theorem source_tables_match_model :
    MJ.Gen.c15Setters = modelSetters ∧
    MJ.Gen.c15TemplateConfig = modelTemplateConfig ∧ MJ.Gen.c15WhitespaceConfig = modelWhitespaceConfig ∧
    MJ.Gen.c15InsertArms = modelInsertArms ∧ MJ.Gen.c15GetOrder = modelGetOrder ∧
    MJ.Gen.c15RemoveTiers = modelRemoveTiers ∧ MJ.Gen.c15ClearTiers = modelClearTiers ∧
    MJ.Gen.c15StateId = modelStateId ∧ MJ.Gen.c15CloneDerives = modelCloneDerives ∧
    MJ.Gen.c15ThreadLocals = modelThreadLocals.map (·.1) ∧ MJ.Gen.c15DropGuards = modelDropGuards :=
  ⟨rfl, rfl, rfl, rfl, rfl, rfl, rfl, rfl, rfl, rfl, rfl⟩

end MJ.C15
