import MJ.Proofs.BlocksTerm
import MJ.Proofs.BlocksClosure
import MJ.Proofs.BlocksAct
/-!
# C06 — inheritance, super(), include and import compose templates as specified

Property theorems only (lemmas: `MJ/Proofs/Blocks*.lean`).

* `MJ.Blocks.evalImpl` / `render` (`MJ/Model/Blocks.lean`) is the model of the engine: per-name
  block stacks with a depth cursor, `LoadBlocks`, the switch to the parent's instructions at the
  end of the instructions, `call_block` (block tags, `self.name()`, required blocks),
  `perform_super` (emitted and captured), `perform_include`, import/from-import, loops, macro
  calls, variable frames, and the recursion limit (`outer_stack_depth` + frames, include and
  macro costs);
* `MJ.Blocks.specRender` (`MJ/Model/BlocksSpec.lean`) is the specification: no stacks, no
  cursor, no capture stack, no loaded set — `defs env chain n` lists the bodies of block `n` from
  the most- to the least-derived template, a block reference renders `(defs n)[0]`, `super()` at
  level `k` renders `(defs n)[k+1]`, statements behind an executed `extends` run silently and
  render no blocks, a repeated or missing parent is an error, an include is "the first existing
  template, as a chain of its own, on the includer's frames".
-/
namespace MJ.C06
open MJ.Blocks

/-- an empty render context, lenient undefined behaviour -/
abbrev c0 : Cfg := { rootCtx := [] }

/-- Full-strength statement: for every environment in the fragment `EnvOK` — layouts and block
    bodies made of text, variables, `set`, macros, block tags, `self.name()` (emitted or
    captured), `super()` (emitted or captured; **anywhere**: in block bodies, in macro bodies,
    and outside of blocks — where, in an included chain, the engine resolves it against the name
    of the block the include tag stands in), required blocks, conditional `extends` (executed or
    not, with anything in front of and behind it), `include` / `import` / `from … import` of
    **any argument value** (a name, a non-string scalar, a list / tuple / lazily evaluated
    iterable / one-shot iterator / map / enumerable object of candidates, an object that cannot
    be iterated; `ignore missing`), loops, `{% autoescape %}` blocks and macro calls (whose
    bodies may reference blocks and include / import like any other statement list); block
    references inside a block go to higher-numbered blocks (well-founded nesting) — for every render context,
    every template and **every amount of fuel** (so: chains and include nests of any depth,
    cyclic ones and runs that hit the recursion limit included) the driver returns exactly what
    the spec returns: the same output or the same error chain. -/
def C06_full : Prop :=
  ∀ (env : Env) (ctx : Cfg) (fuel main : Nat), EnvOK env →
    render env ctx fuel main = specRender env ctx fuel main

theorem blocks_refine_spec : C06_full := by
  intro env ctx fuel main henv
  unfold render specRender
  cases hT : env[main]? with
  | none => rfl
  | some T =>
    obtain ⟨_, _, _, hc⟩ := (hyp_all env ctx henv fuel).chain [main] T.layout (initSt T) none false 0 T.ae
      (initChainSt env main T hT (initSt T)) (henv.layout hT) (by simp)
    simp only []
    cases hL : T.loadErr with
    | some kk => rfl
    | none =>
    simp only []
    rw [hc, show (initSt T).frames = Vars.init from rfl]
    cases (specAll env ctx fuel).chain [main] none false 0 T.ae T.layout Vars.init with
    | error e => rfl
    | ok r => rfl

/-! a three-level chain: the child overrides `b0` and calls `super()`, the middle template only
    defines the nested block `b1`, the root defines both -/
def exEnv : Env :=
  [ { layout := [.text "<pre0>", .extends true 1, .text "<post0>", .callBlock 0],
      blocks := [(0, [.text "<c0>", .super])] },
    { layout := [.extends true 2, .text "<post1>", .callBlock 1],
      blocks := [(1, [.text "<m1>"])] },
    { layout := [.text "<top>", .callBlock 0, .text "<end>"],
      blocks := [(0, [.text "<r0>", .callBlock 1]), (1, [.text "<r1>"])] } ]

example : EnvOK exEnv := by decide +kernel
example : render exEnv c0 10 0 = .ok ["<pre0>", "<top>", "<c0>", "<r0>", "<m1>", "<end>"] := by decide +kernel
example : specRender exEnv c0 10 0 = .ok ["<pre0>", "<top>", "<c0>", "<r0>", "<m1>", "<end>"] := by decide +kernel

/-! an include of a template that is an inheritance chain of its own and fills a required block;
    the includer's block `b0` does not leak into it -/
def exEnv2 : Env :=
  [ { layout := [.callBlock 0, .incl (.names [9, 1]) false], blocks := [(0, [.text "<a0>"])] },
    { layout := [.extends true 2, .callBlock 0], blocks := [(0, [.text "<i0>"])] },
    { layout := [.text "<q:", .callBlock 0, .text ">"], blocks := [(0, [.required])] } ]

example : EnvOK exEnv2 := by decide +kernel
example : render exEnv2 c0 8 0 = .ok ["<a0>", "<q:", "<i0>", ">"] := by decide +kernel
example : render exEnv2 c0 8 2 = .error [.invalidOperation] := by decide +kernel

/-- `call_block` (block tags and `self.name()`): whenever the engine is in a state that arises
    while rendering the definitions `D` (`Good`: stacks = `D`, cursor of the current block at its
    level, cursors of all blocks that can still be entered at 0), a block reference renders the
    **most-derived** definition `(D m)[0]` (`specBlock`: unknown block and a lone `required`
    definition are errors) and leaves block stacks, cursors and loaded set as they were. -/
theorem block_renders_most_derived (env : Env) (ctx : Cfg) (henv : EnvOK env)
    (D : Nat → List (List Item)) (hwf : WF D) (f : Nat) (cur : Option Nat) (k m : Nat)
    (disc : Bool) (outer : Nat) (ae : AE) (st : St) (hg : Good D cur true k st)
    (hm : ∀ n, cur = some n → n < m) :
    callBlock (evalImpl env ctx f) disc outer ae m st =
      liftS (specBlock (specAll env ctx f) D disc outer ae m st.frames) st :=
  callBlock_sim (hyp_all env ctx henv f) D hwf cur k m disc outer ae st hg hm

/-- `super()` inside the `k`-th definition of block `n` renders the `k+1`-st definition — the
    next one up the chain, skipping templates that do not define the block, since `defs` only
    lists definitions — wraps its errors in `EvalBlock`, and puts the cursor back; when there is
    no further definition it is an error, not empty output (`specSuper`). -/
theorem super_goes_one_up (env : Env) (ctx : Cfg) (henv : EnvOK env)
    (D : Nat → List (List Item)) (hwf : WF D) (f n k : Nat) (disc : Bool) (outer : Nat) (ae : AE) (st : St)
    (hg : Good D (some n) true k st) :
    performSuper (evalImpl env ctx f) (some n) disc outer ae st =
      liftS (specSuper (specAll env ctx f) D (some (n, k)) disc outer ae st.frames) st :=
  performSuper_sim (hyp_all env ctx henv f) D hwf _ _ disc outer ae st hg.blocks hg.superCtx

example : WF (defs exEnv [0, 1, 2]) := WF_defs exEnv (by decide +kernel) [0, 1, 2]
example : Good (defs exEnv [0, 1, 2]) (some 0) true 0
    { blocks := defs exEnv [0, 1, 2], depth := fun _ => 0, loaded := [2, 1], frames := Vars.init } :=
  ⟨rfl, by intro n hn; cases hn; exact ⟨rfl, by decide +kernel⟩, fun _ _ _ => rfl⟩
example : defs exEnv [0, 1, 2] 0 = [[.text "<c0>", .super], [.text "<r0>", .callBlock 1]] := rfl

/-- the spec's answer for a block call as a plain result -/
def blockResult (r : SRes) : Except Err (List String) :=
  match r with
  | .ok (o, _) => .ok o
  | .error e => .error e

/-- `State::render_block` after `Template::render_captured` (the entry point that renders one
    block of a — possibly extending — template): when the render succeeded, the state it leaves
    behind holds the definitions of the whole chain `main :: more` that was followed, and
    `render_block(n)` renders the most-derived definition of `n` along that chain (`specBlock`:
    an unknown block or a lone `required` definition is an error). -/
theorem render_block_most_derived (env : Env) (cfg : Cfg) (henv : EnvOK env) (fuel main n : Nat)
    (T : Template) (o : List String) (st' : St) (hT : env[main]? = some T) (hL : T.loadErr = none)
    (hr : evalImpl env cfg fuel none false false 0 T.ae T.layout (initSt T) = .ok (o, st')) :
    ∃ more, renderThenBlock env cfg fuel main n =
      blockResult (specBlock (specAll env cfg fuel) (defs env (main :: more)) false 0 T.ae n st'.frames) := by
  obtain ⟨more, fin, hfin, hc⟩ := (hyp_all env cfg henv fuel).chain [main] T.layout (initSt T) none false 0 T.ae
    (initChainSt env main T hT (initSt T)) (henv.layout hT) (by simp)
  refine ⟨more, ?_⟩
  have hst : ChainSt env ([main] ++ more) st' := by
    rw [hc] at hr
    rw [(liftS_ok hr).2]
    exact hfin.setFrames _
  have hc := callBlock_sim (hyp_all env cfg henv fuel) _ (WF_defs env henv ([main] ++ more)) none 0 n false 0
    T.ae st' hst.good (by intro k hk; cases hk)
  simp only [renderThenBlock, hT, hL, hr, hc, List.singleton_append]
  cases specBlock (specAll env cfg fuel) (defs env (main :: more)) false 0 T.ae n st'.frames with
  | error e => rfl
  | ok r => rfl

/-- `Template::new_state().render_block(n)`: on a fresh state only the template's own blocks are
    known — the block renders its own definition, `super()` inside it has no parent -/
theorem render_block_on_fresh_state (env : Env) (cfg : Cfg) (henv : EnvOK env) (fuel main n : Nat)
    (T : Template) (hT : env[main]? = some T) (hL : T.loadErr = none) :
    blockOnFreshState env cfg fuel main n =
      blockResult (specBlock (specAll env { cfg with rootCtx := [] } fuel) (defs env [main]) false 0 T.ae n Vars.empty) := by
  have hg : Good (defs env [main]) none true 0 { initSt T with frames := Vars.empty } :=
    (initChainSt env main T hT { initSt T with frames := Vars.empty }).good
  have hc := callBlock_sim (hyp_all env { cfg with rootCtx := [] } henv fuel) _ (WF_defs env henv [main]) none 0 n
    false 0 T.ae _ hg (by intro k hk; cases hk)
  simp only [blockOnFreshState, hT, hL, hc]
  cases specBlock (specAll env { cfg with rootCtx := [] } fuel) (defs env [main]) false 0 T.ae n Vars.empty with
  | error e => rfl
  | ok r => rfl

example : renderThenBlock exEnv c0 10 0 0 = .ok ["<c0>", "<r0>", "<m1>"] := by decide +kernel
example : blockOnFreshState exEnv c0 10 0 0 = .error [.invalidOperation] := by decide +kernel

/-- a template that does not define block `n` contributes nothing to `defs`: the block falls
    through to the nearest ancestor that defines it -/
theorem untouched_falls_through (env : Env) (i : Nat) (chain : List Nat) (n : Nat)
    (h : blockOf env i n = none) :
    defs env (i :: chain) n = defs env chain n ∧
      (defs env (i :: chain) n)[0]? = chain.findSome? (fun j => blockOf env j n) := by
  have h1 : defs env (i :: chain) n = defs env chain n := by
    simp [defs, h]
  refine ⟨h1, ?_⟩
  rw [h1, ← List.head?_eq_getElem?]
  exact List.head?_filterMap

example : blockOf exEnv 1 0 = none := rfl
example : (defs exEnv [1, 2] 0)[0]? = some [.text "<r0>", .callBlock 1] := rfl

/-- behind an executed `extends` tag everything outside blocks is discarded: text produces no
    output and block tags are skipped (they only *define*), whatever the reader, the callback
    and the state are -/
theorem child_text_discarded (rd : Rd) (rec : Rec) (p post : List Item) (st : St)
    (h : post.all Item.isPlain = true) :
    stepItems rd rec (some p) post st = .ok ([], st, some p) := by
  induction post with
  | nil => rfl
  | cons it rest ih =>
    simp only [List.all_cons, Bool.and_eq_true] at h
    rw [stepItems_plain rd rec p h.1, ih h.2]

example : stepItems ⟨exEnv, c0, none, false, false, 0, .none⟩ (evalImpl exEnv c0 5) (some [])
    [.text "<post0>", .callBlock 0] (initSt exEnv[0]) = .ok ([], initSt exEnv[0], some []) :=
  child_text_discarded _ _ _ _ _ rfl

/-- `LoadBlocks` bookkeeping: a successful load adds a *new* existing template to the loaded set;
    the set therefore stays duplicate-free and bounded by the number of templates, and once it
    holds `|env|` templates every further `LoadBlocks` fails (with the cycle error or with
    template-not-found).  So a chain performs at most `|env|` successful `LoadBlocks` and the
    `|env|+1`-st attempt is an error. -/
theorem extends_terminates (env : Env) (t : Nat) (st : St)
    (hnd : st.loaded.Nodup) (hlt : ∀ x ∈ st.loaded, x < env.length) :
    (∀ st' l, loadBlocks env t st = .ok (st', l) →
        t ∉ st.loaded ∧ st'.loaded = t :: st.loaded ∧ st'.loaded.Nodup ∧
        (∀ x ∈ st'.loaded, x < env.length) ∧ st'.loaded.length ≤ env.length) ∧
    (env.length ≤ st.loaded.length →
        loadBlocks env t st = .error [.invalidOperation] ∨
        loadBlocks env t st = .error [.templateNotFound]) := by
  refine ⟨?_, loadBlocks_exhausted env t st hnd hlt⟩
  intro st' l h
  obtain ⟨h1, _, h3, _⟩ := loadBlocks_ok env t st st' l h
  obtain ⟨i1, i2, _, i4⟩ := loadBlocks_inv env t st st' l h hnd hlt
  exact ⟨h1, h3, i1, i2, i4⟩

example : ∃ st' l, loadBlocks exEnv 1 (initSt exEnv[0]) = .ok (st', l) ∧ st'.loaded = [1] :=
  ⟨_, _, rfl, rfl⟩

/-- rendering terminates on its own: the recursion limit (`outer_stack_depth` + frames against
    `recursion_limit`, an include costing `INCLUDE_RECURSION_COST ≥ 1`) bounds every nest of
    blocks, `super()`s, includes, imports, loops and macro calls, and an inheritance chain has at
    most `|env|` links; `{% autoescape %}` blocks nested directly in one another cost the engine no
    depth and the model one level of fuel each (followed up to `AE_NEST_MAX` deep); so with
    `renderFuel env = (LIMIT - 1)·(|env| + 3 + AE_NEST_MAX) + |env| + 2 + AE_NEST_MAX` levels of
    model fuel — or more — the fuel is never what stops a render: the result is the output or a genuine error
    (cycle, missing template, recursion limit, …). -/
theorem rendering_terminates (env : Env) (ctx : Cfg) (henv : EnvOK env) (main fuel : Nat)
    (hfuel : renderFuel env ≤ fuel) :
    ∀ e, render env ctx fuel main = .error e → Kind.recursion ∉ e := by
  rw [blocks_refine_spec env ctx fuel main henv]
  intro e he
  cases hT : env[main]? with
  | none => simp only [specRender, hT] at he; cases he; simp
  | some T =>
    cases hL : T.loadErr with
    | some kk => simp only [specRender, hT, hL] at he; cases he; cases kk <;> simp [loadErrKind]
    | none =>
      rw [specRender_loaded hT hL] at he
      have hl : 0 + Vars.init.length ≤ LIMIT := by decide
      have := (term_all env ctx fuel).chain [main] none false 0 T.ae T.layout Vars.init (by simp) (by simp) (by simp) hl
        (by have : Vars.init.length = 1 := rfl; simpa [renderFuel, this] using hfuel)
      cases hr : (specAll env ctx fuel).chain [main] none false 0 T.ae T.layout Vars.init with
      | error e' => rw [hr] at he this; cases he; exact this
      | ok r => rw [hr] at he; cases he

/-- every inheritance cycle ends in a *detected* error: if every template of the environment
    extends something (text, an executed `extends`, then text / block tags / `extends` tags),
    rendering any template with fuel for `|env| + 1` template activations — or any larger
    amount — is the cycle error or template-not-found; never success, never truncated output,
    and not the recursion limit. -/
theorem cycle_is_detected_error (env : Env) (ctx : Cfg) (henv : EnvOK env)
    (hall : ∀ T ∈ env, extendsAfterText T.layout = true) (hload : ∀ T ∈ env, T.loadErr = none)
    (main fuel : Nat) (hmain : main < env.length) (hfuel : env.length + 1 ≤ fuel) :
    render env ctx fuel main = .error [.invalidOperation] ∨
      render env ctx fuel main = .error [.templateNotFound] := by
  rw [render_loaded (List.getElem?_eq_getElem hmain) (hload _ (List.getElem_mem hmain))]
  rcases cycle_detected env ctx hall hload fuel none false false 0 env[main].ae env[main].layout (initSt env[main])
    List.nodup_nil (by intro x hx; cases hx) (by simpa [initSt] using hfuel) (hall _ (List.getElem_mem hmain)) with h | h <;>
    simp [h]

def cycEnv : Env :=
  [ { layout := [.text "<a>", .extends true 1, .callBlock 0], blocks := [(0, [.text "<a0>", .super])] },
    { layout := [.text "<b>", .extends true 0], blocks := [] } ]

example : EnvOK cycEnv := by decide +kernel
example : ∀ T ∈ cycEnv, extendsAfterText T.layout = true := by decide +kernel
example : render cycEnv c0 3 0 = .error [.invalidOperation] := by decide +kernel

/-- include cycles end in the recursion-limit error: if every template includes some existing
    template (text, then an unconditional `include`), rendering any template is an error for
    every fuel — `BadInclude` wrappers around the innermost error — and with the fuel of
    `rendering_terminates` that innermost error is the engine's `InvalidOperation` (recursion
    limit exceeded), not the model's fuel. -/
theorem include_cycle_errors (env : Env) (ctx : Cfg) (henv : EnvOK env)
    (hall : ∀ T ∈ env, includesAfterText env T.layout = true) (hload : ∀ T ∈ env, T.loadErr = none)
    (main fuel : Nat) (hmain : main < env.length) :
    (∃ e, render env ctx fuel main = .error e ∧ IncErr e) ∧
    (renderFuel env ≤ fuel →
      ∃ j, render env ctx fuel main = .error (List.replicate j Kind.badInclude ++ [.invalidOperation])) := by
  have hT : env[main]? = some env[main] := List.getElem?_eq_getElem hmain
  obtain ⟨e, he, hie⟩ := include_cycle env ctx hall hload fuel main _ hT none false false 0 env[main].ae (initSt env[main])
  have hr : render env ctx fuel main = .error e := by
    rw [render_loaded hT (hload _ (List.getElem_mem hmain)), he]
  refine ⟨⟨e, hr, hie⟩, ?_⟩
  intro hf
  obtain ⟨j, k, hjk, hk⟩ := hie
  have hno := rendering_terminates env ctx henv main fuel hf e hr
  rcases hk with rfl | rfl
  · exact ⟨j, by rw [hr, hjk]⟩
  · exact absurd (by rw [hjk]; simp) hno

def incCycEnv : Env :=
  [ { layout := [.text "<a>", .incl (.name 1) true, .text "<z>"], blocks := [] },
    { layout := [.incl (.name 0) false], blocks := [] } ]

example : EnvOK incCycEnv := by decide +kernel
example : ∀ T ∈ incCycEnv, includesAfterText incCycEnv T.layout = true := by decide +kernel

/-- once a template has executed an `extends`, a further executed `extends` in the same template
    is an error, whatever stands in between and whatever its target is -/
theorem double_extends_error (rd : Rd) (rec : Rec) (p mid post : List Item) (t : Nat)
    (hmid : mid.all Item.isPost = true) (st : St) :
    stepItems rd rec (some p) (mid ++ .extends true t :: post) st = .error [.invalidOperation] := by
  rw [stepItems_append, stepItems_post rd rec p mid hmid]; split <;> rfl

example : render
    [ { layout := [.extends true 1, .text "<x>", .extends true 1], blocks := [] },
      { layout := [.text "<p>"], blocks := [] } ] c0 10 0 = .error [.invalidOperation] := by decide +kernel

/-- missing templates are errors, not truncated output: `extends` of a missing name fails with
    template-not-found at the tag; an include list of which no name exists fails unless
    `ignore missing` is given (then it renders nothing and changes nothing) -/
theorem missing_is_error_not_truncation (rd : Rd) (rec : Rec) (st : St) :
    (∀ t rest, t ∉ st.loaded → rd.env.length ≤ t →
        stepItems rd rec none (.extends true t :: rest) st = .error [.templateNotFound]) ∧
    (∀ cur disc ign outer (names : List Nat), (∀ m ∈ names, rd.env[m]? = none) →
        performInclude rd.env rec cur disc ign outer (names.map some) false st =
          if !names.isEmpty && !ign then .error [.templateNotFound] else .ok ([], st)) := by
  refine ⟨fun t rest h1 h2 => by simp [stepItems, loadBlocks, h1, List.getElem?_eq_none h2], ?_⟩
  intro cur disc ign outer names h
  rw [performInclude_select, select_all_missing rd.env (names.map some) false (by simpa using h)]
  simp

example : render [ { layout := [.text "<a>", .extends true 7], blocks := [] } ] c0 10 0
    = .error [.templateNotFound] := by decide +kernel
example : render [ { layout := [.text "<a>", .incl (.names [7, 8]) false, .text "<z>"], blocks := [] } ] c0 10 0
    = .error [.templateNotFound] := by decide +kernel
example : render [ { layout := [.text "<a>", .incl (.names [7, 8]) true, .text "<z>"], blocks := [] } ] c0 10 0
    = .ok ["<a>", "<z>"] := by decide +kernel

/-- an include renders the **first existing** name of its list: missing names in front of it are
    skipped, the names behind it are irrelevant, `ignore missing` plays no role.  The template is
    rendered as a chain of its own (fresh block table, empty loaded set) on the includer's frames
    (= with the includer's current variables) at `INCLUDE_RECURSION_COST` more depth (an error
    when that exceeds the recursion limit); afterwards the includer's block stacks, cursors and
    loaded set are back; an error inside it is wrapped in `BadInclude` — never swallowed.  The
    closure of the includer's frame is detached while the included template runs (its assignments
    do not reach the includer's macros, its own macros get a closure of their own) and attached
    again afterwards. -/
theorem include_first_existing (env : Env) (rec : Rec) (cur : Option Nat) (disc ign : Bool) (outer : Nat)
    (missing : List Nat) (more : List Cand) (t : Nat) (T : Template)
    (hmiss : ∀ m ∈ missing, env[m]? = none) (hT : env[t]? = some T) (hL : T.loadErr = none) (st : St) :
    performInclude env rec cur disc ign outer (missing.map some ++ some t :: more) false st =
      if outer + INCLUDE_COST + st.frames.length > LIMIT then .error [.invalidOperation]
      else
        match rec cur disc false (outer + INCLUDE_COST) T.ae T.layout
            { st with blocks := prepare T.blocks, depth := fun _ => 0, loaded := [],
                      frames := st.frames.setTopClosure none } with
        | .error e => .error (.badInclude :: e)
        | .ok (o, st') =>
          .ok (o, { blocks := st.blocks, depth := st.depth, loaded := st.loaded,
                    frames := (st'.frames.take st.frames.length).setTopClosure st.frames.topClosure }) := by
  rw [performInclude_select, select_first env missing more t T hmiss hT hL false]
  rfl

/-- the auto-escape mode across template boundaries: an included template runs in the mode its
    own name selects (`T.ae` in `include_first_existing`), not in the includer's current mode —
    an html page escapes `{{ v0 }}` itself while the text note it includes does not, a text mail
    including an html card gets the card escaped, and an `{% autoescape %}` block around the
    include tag does not leak into the included template -/
example : render [ { layout := [.emitVar 0, .incl (.name 1) false], blocks := [], ae := .html },
                   { layout := [.emitVar 0], blocks := [], ae := .none } ] { rootCtx := [(0, .str "a<b")] } 8 0
    = .ok ["a&lt;b", "a<b"] := by decide +kernel
example : render [ { layout := [.emitVar 0, .incl (.name 1) false], blocks := [], ae := .none },
                   { layout := [.emitVar 0], blocks := [], ae := .html } ] { rootCtx := [(0, .str "a<b")] } 8 0
    = .ok ["a<b", "a&lt;b"] := by decide +kernel
example : render [ { layout := [.autoesc .html [.emitVar 0, .incl (.name 1) false]], blocks := [], ae := .none },
                   { layout := [.emitVar 0], blocks := [], ae := .json } ] { rootCtx := [(0, .str "a<b")] } 8 0
    = .ok ["a&lt;b", "\"a<b\""] := by decide +kernel
/-- … whereas the parent's layout reached through `extends`, block bodies and `super()` keep the
    mode of the template that was rendered -/
example : render [ { layout := [.extends true 1, .callBlock 0], blocks := [(0, [.emitVar 0, .super])], ae := .none },
                   { layout := [.emitVar 0, .callBlock 0], blocks := [(0, [.emitVar 0])], ae := .html } ]
    { rootCtx := [(0, .str "a<b")] } 8 0 = .ok ["a<b", "a<b", "a<b"] := by decide +kernel

/-- `ignore missing` forgives only *missing* names.  A name that exists but cannot be loaded —
    the template does not compile, the loader returns an error — is not missing: the lookup
    error (with its own kind; a syntax error names the broken template) is the result of the
    include, with or without `ignore missing`, whatever names precede (missing ones) or follow
    it; the next candidate is *not* tried and nothing is rendered as a success. -/
theorem include_ignore_missing_forgives_only_missing (env : Env) (rec : Rec) (cur : Option Nat)
    (disc ign : Bool) (outer : Nat) (missing : List Nat) (more : List Cand) (t : Nat) (T : Template) (k : LoadErr)
    (hmiss : ∀ m ∈ missing, env[m]? = none) (hT : env[t]? = some T) (hL : T.loadErr = some k) (st : St) :
    performInclude env rec cur disc ign outer (missing.map some ++ some t :: more) false st = .error [loadErrKind t k] := by
  rw [performInclude_select, select_loadError env missing more t T k hmiss hT hL false]

/-- `broken` exists but does not compile, `fallback` is fine: with and without `ignore missing`
    the include is the syntax error of `broken`; a broken parent of `extends` and a broken
    `import` likewise -/
def brokenEnv : Env :=
  [ { layout := [.text "<a>", .incl (.names [9, 1, 2]) true, .text "<z>"], blocks := [] },
    { layout := [], blocks := [], loadErr := some .syntax },
    { layout := [.text "<fallback>"], blocks := [] },
    { layout := [.extends true 1], blocks := [] },
    { layout := [.importAs (.name 1) 5], blocks := [] } ]

example : render brokenEnv c0 8 0 = .error [.syntaxError 1] := by decide +kernel
example : render brokenEnv c0 8 3 = .error [.syntaxError 1] := by decide +kernel
example : render brokenEnv c0 8 4 = .error [.syntaxError 1] := by decide +kernel
example : render brokenEnv c0 8 1 = .error [.syntaxError 1] := by decide +kernel

def incEnv : Env :=
  [ { layout := [.setVar 1 "L", .incl (.names [9, 1, 2]) false], blocks := [] },
    { layout := [.text "<x:", .emitVar 1, .text ">"], blocks := [] },
    { layout := [.text "<y>"], blocks := [] } ]

example : render incEnv c0 10 0 = .ok ["<x:", "L", ">"] := by decide +kernel

/-- `import` / `from … import` expose exactly the imported template's top-level assignments.
    The argument `a` may be a name or any iterable of candidates (`hc`, `hmiss`: `t` is its first
    existing candidate).  For a module template (text, `set`, macro definitions at top level —
    `assigns` lists what they leave behind): `{% import t as v %}` binds `v` to a module whose entries are exactly
    those assignments, `{% from t import name as alias %}` binds `alias` to the module's value of
    `name` and to *undefined* when the module does not assign `name` — independently of the
    importer's frames and render context — and neither changes anything else in the state.
    (`hd`: the import stays below the recursion limit.) -/
theorem import_exports_toplevel (env : Env) (ctx : Cfg) (f : Nat) (cur : Option Nat) (d0 e0 : Bool)
    (outer : Nat) (ae : AE) (parent : Option (List Item)) (a : Arg) (missing : List Nat) (more : List Cand)
    (t : Nat) (T : Template) (hc : a.cands = missing.map some ++ some t :: more)
    (hmiss : ∀ m ∈ missing, env[m]? = none) (hT : env[t]? = some T)
    (hL : T.loadErr = none) (hs : T.layout.all Item.isAssign = true) (rest : List Item) (st : St)
    (hwf : st.frames.WF) (hd : outer + INCLUDE_COST + (st.frames.length + 1) ≤ LIMIT) :
    (∀ v, stepItems ⟨env, ctx, cur, d0, e0, outer, ae⟩ (evalImpl env ctx (f + 1)) parent (.importAs a v :: rest) st =
        stepItems ⟨env, ctx, cur, d0, e0, outer, ae⟩ (evalImpl env ctx (f + 1)) parent rest
          { st with frames := store st.frames v (.module (dedupKeys (assigns T.layout []))) }) ∧
    (∀ name alias,
        stepItems ⟨env, ctx, cur, d0, e0, outer, ae⟩ (evalImpl env ctx (f + 1)) parent (.fromImport a name alias :: rest) st =
        stepItems ⟨env, ctx, cur, d0, e0, outer, ae⟩ (evalImpl env ctx (f + 1)) parent rest
          { st with frames := store st.frames alias ((lookupVal name (assigns T.layout [])).getD .undef) }) ∧
    (∀ name, T.layout.all (fun it => !assignsVar name it) = true →
        lookupVal name (assigns T.layout []) = none) := by
  have hpf := (pushFails_false_iff outer st.frames).2 (by omega)
  -- the include into the fresh frame leaves the module's assignments there
  have hinc : ∀ disc, ∃ o, performInclude env (evalImpl env ctx (f + 1)) cur disc false outer (choices a) false
      { st with frames := st.frames.push [[]] } = .ok (o, { st with frames := st.frames.push [assigns T.layout []] }) := by
    intro disc
    obtain ⟨o, ho⟩ := evalImpl_assigns env ctx f cur disc false (outer + INCLUDE_COST) T.ae T.layout hs
      { blocks := prepare T.blocks, depth := fun _ => 0, loaded := [], frames := st.frames.push [[]] } st.frames [] rfl
    refine ⟨o, ?_⟩
    rw [choices_eq_cands, hc, performInclude_select, select_first env missing more t T hmiss hT hL false]
    exact includeTemplate_push _ cur disc outer T st _ o _ hwf hd ho rfl
  refine ⟨fun v => ?_, fun name alias => ?_, fun name h => by rw [lookup_assigns_other name T.layout [] h]; rfl⟩
  · obtain ⟨o, ho⟩ := hinc false
    rw [importAs_step ⟨env, ctx, cur, d0, e0, outer, ae⟩ _ parent a v rest st _ o hpf ho]
    simp only [topFrame_push, take_push _ _ hwf]
  · obtain ⟨o, ho⟩ := hinc true
    rw [fromImport_step ⟨env, ctx, cur, d0, e0, outer, ae⟩ _ parent a name alias rest st _ o hpf ho]
    simp only [topFrame_push, take_push _ _ hwf]

/-- importing a template that itself *extends*: for a child `pre ++ [extends p] ++ post` and a
    parent `p` made of top-level assignments, `{% import child as v %}` binds `v` to the module
    of the child's assignments in front of and behind the `extends` tag followed by the parent's
    (a later assignment of the same name wins) — the imported template is rendered as an
    inheritance chain of its own into the fresh frame. -/
theorem import_of_extending_template (env : Env) (ctx : Cfg) (henv : EnvOK env) (f : Nat)
    (cur : Option Nat) (d0 e0 : Bool) (outer : Nat) (ae : AE) (parent : Option (List Item))
    (a : Arg) (t p v : Nat) (T P : Template) (pre post : List Item) (hc : a.cands = [some t])
    (hT : env[t]? = some T) (hP : env[p]? = some P) (hLT : T.loadErr = none) (hLP : P.loadErr = none)
    (hl : T.layout = pre ++ .extends true p :: post)
    (hpre : pre.all Item.isAssign = true) (hpost : post.all Item.isAssign = true)
    (hpl : P.layout.all Item.isAssign = true) (rest : List Item) (st : St) (hwf : st.frames.WF)
    (hd : outer + INCLUDE_COST + (st.frames.length + 1) ≤ LIMIT) :
    stepItems ⟨env, ctx, cur, d0, e0, outer, ae⟩ (evalImpl env ctx (f + 2)) parent (.importAs a v :: rest) st =
      stepItems ⟨env, ctx, cur, d0, e0, outer, ae⟩ (evalImpl env ctx (f + 2)) parent rest
        { st with frames := (store st.frames v
            (Val.module (dedupKeys (assigns P.layout (assigns post (assigns pre [])))))) } := by
  obtain ⟨o, st', ho, hfr⟩ := evalImpl_assigns_extends env ctx f cur false false (outer + INCLUDE_COST) T.ae pre post p P
    hP hLP hpre hpost hpl
    { blocks := prepare T.blocks, depth := fun _ => 0, loaded := [], frames := st.frames.push [[]] } st.frames [] rfl
    (by simp)
  have hinc : performInclude env (evalImpl env ctx (f + 2)) cur false false outer (choices a) false
      { st with frames := st.frames.push [[]] } =
        .ok (o, { st with frames := st.frames.push [assigns P.layout (assigns post (assigns pre []))] }) := by
    rw [choices_eq_cands, hc, performInclude_select,
      show select env [some t] false = .render t T from select_first env [] [] t T (by simp) hT hLT false]
    exact includeTemplate_push _ cur false outer T st st' o _ hwf hd (hl ▸ ho) hfr
  rw [importAs_step ⟨env, ctx, cur, d0, e0, outer, ae⟩ _ parent a v rest st _ o ((pushFails_false_iff outer st.frames).2 (by omega)) hinc]
  simp only [topFrame_push, take_push _ _ hwf]

example : render
    [ { layout := [.importAs (.name 1) 8, .emitAttr 8 2, .emitAttr 8 3, .emitAttr 8 4], blocks := [] },
      { layout := [.setVar 2 "c2", .extends true 2, .setVar 3 "c3"], blocks := [] },
      { layout := [.setVar 4 "p4", .setVar 2 "p2"], blocks := [] } ] c0 10 0
    = .ok ["p2", "c3", "p4"] := by decide +kernel

def modT : Template :=
  { layout := [.text "<m>", .setVar 2 "a", .defMacro 4 "<mac>", .setVar 2 "b"], blocks := [] }

/-- the importer's own `v3` (local and in the render context) is not what `m.v3` or
    `from m import v3` yield; the module's last assignment of `v2` and its macro are -/
example : render [ { layout := [.setVar 3 "mine", .importAs (.name 1) 8, .emitAttr 8 3, .text "|", .emitAttr 8 2],
                     blocks := [] }, modT ] { rootCtx := [(3, .str "ctx")] } 10 0 = .ok ["|", "b"] := by decide +kernel
example : render [ { layout := [.fromImport (.name 1) 3 7, .text "[", .emitVar 7, .text "]"], blocks := [] }, modT ]
    { rootCtx := [(3, .str "ctx")] } 10 0 = .ok ["[", "]"] := by decide +kernel
example : render [ { layout := [.fromImport (.name 1) 4 6, .callVar 6], blocks := [] }, modT ]
    { rootCtx := [(3, .str "ctx")] } 10 0 = .ok ["<mac>"] := by decide +kernel

/-- Macro closures across an include (`Context::take_closure` … `reset_closure` in
    `perform_include`).  Every frame has a closure slot; a macro with free variables captures the
    closure of the frame that defines it (`Enclose`, `GetClosure`), an assignment in a frame is
    written through to that frame's closure, and a macro body looks its free variables up in the
    closure it captured.  An include runs the included file in the includer's frame — so the
    two files would share one closure — and the engine keeps them apart by detaching the frame's
    closure for the duration.  For every environment of the proven fragment, every amount of
    fuel and every successful include (`hwf`, `hcl`: the state is well formed — every frame has
    its slot and the slot on top points into the closure heap — as in every state `render`
    reaches):

    1. whatever the included file (and everything it includes, imports or extends) assigned,
       every closure that existed before the include — the includer's own and those captured by
       any macro defined so far — holds what it held before: the includer's macros do not
       observe the included file's assignments;
    2. the includer's closure is attached again afterwards (the part C05 states as "state
       restored after the construct");
    3. vice versa: the closures the included file opened for its own macros (the heap slots that
       did not exist before) are not reached by anything the includer assigns or encloses
       afterwards. -/
theorem include_keeps_closures_apart (env : Env) (ctx : Cfg) (fuel : Nat) (henv : EnvOK env)
    (cur : Option Nat) (disc ign : Bool) (outer : Nat) (names : List Cand) (tried : Bool)
    (st st' : St) (o : List String) (hwf : st.frames.WF)
    (hcl : ∀ c, st.frames.topClosure = some c → c < st.frames.heap.length)
    (h : performInclude env (evalImpl env ctx fuel) cur disc ign outer names tried st = .ok (o, st')) :
    (∀ c w, c < st.frames.heap.length →
        lookupVal w (st'.frames.heap[c]?.getD []) = lookupVal w (st.frames.heap[c]?.getD [])) ∧
    st'.frames.topClosure = st.frames.topClosure ∧
    (∀ i, st.frames.heap.length ≤ i → i < st'.frames.heap.length →
        (∀ v x, (store st'.frames v x).heap[i]? = st'.frames.heap[i]?) ∧
        (∀ w, (enclose ctx.rootCtx st'.frames w).heap[i]? = st'.frames.heap[i]?)) := by
  rw [include_sim (hyp_all env ctx henv fuel) henv] at h
  obtain ⟨hold, htop⟩ := specInclude_apart env ctx fuel cur disc ign outer names tried st.frames st'.frames o hwf
    (liftS_ok h).1
  refine ⟨fun c w hc => by rw [hold c hc], htop, ?_⟩
  intro i hi hlt
  have hne : ∀ c, st'.frames.topClosure = some c → i ≠ c := by
    intro c hc
    rw [htop] at hc
    have := hcl c hc
    omega
  exact ⟨fun v x => store_heap_other _ v x i hne, fun w => enclose_heap_other ctx.rootCtx _ w i hlt hne⟩

/-- the hypotheses hold at the start of every render, and the conclusion is not vacuous: -/
example : (initSt { layout := [], blocks := [] }).frames.WF ∧
    ∀ c, (initSt { layout := [], blocks := [] }).frames.topClosure = some c →
      c < (initSt { layout := [], blocks := [] }).frames.heap.length := by
  refine ⟨rfl, ?_⟩
  intro c hc; cases hc

/-- the included file reassigns `v1`: the includer's macro `v5` (free variable `v1`) still sees
    the includer's value, although the includer itself now sees the new one -/
example : render [ { layout := [.setVar 1 "a", .defMacroV 5 1, .incl (.name 1) false, .callVar 5, .emitVar 1], blocks := [] },
                   { layout := [.setVar 1 "b"], blocks := [] } ] c0 10 0
    = .ok ["<m5:a>", "b"] := by decide +kernel
/-- vice versa: the included file's macro `v6` keeps seeing the included file's value when the
    includer reassigns `v1` after the include -/
example : render [ { layout := [.incl (.name 1) false, .setVar 1 "c", .callVar 6, .emitVar 1], blocks := [] },
                   { layout := [.setVar 1 "b", .defMacroV 6 1], blocks := [] } ] c0 10 0
    = .ok ["<m6:b>", "c"] := by decide +kernel
/-- both at once, with calls on both sides of the tag: inside the included file each macro sees
    its own file's `v1`; after the include the includer's closure is attached again, so its own
    later assignment does reach its own macro -/
example : render [ { layout := [.setVar 1 "a", .defMacroV 5 1, .incl (.name 1) false, .setVar 1 "c", .callVar 5, .callVar 6],
                     blocks := [] },
                   { layout := [.setVar 1 "b", .defMacroV 6 1, .callVar 5, .callVar 6], blocks := [] } ] c0 10 0
    = .ok ["<m5:a>", "<m6:b>", "<m5:c>", "<m6:b>"] := by decide +kernel

/-! ## the argument of `include` / `import` / `from … import`

`perform_include` receives the *value* of the expression behind the tag (`Arg`): a string, some
other primitive, or an object — a list literal, a tuple, a `Vec` from the context (`ObjectRepr::Seq`),
a slice, `|reverse`, `Value::make_iterable`, a one-shot iterator, a repeated list
(`ObjectRepr::Iterable`), a map (`ObjectRepr::Map`: its keys), a function or plain object that
cannot be iterated.  The candidates, the selection among them and what happens when nothing is
selected are functions of the model (`choices`, `select`, `includeTemplate`); `choices` and the
tail condition follow tables regenerated from `vm/mod.rs`. -/

/-- The candidates are read off the value of the argument: a value that can be iterated yields
    its elements in iteration order **whatever kind of object carries them**; a value that is
    not an object is one name; an object that cannot be iterated is one name too (which is not
    a string, hence an error) — it is never "no candidates".  `choices` interprets the shape of
    the Rust expression as the extractor read it off the sources (which `ObjectRepr`s reach
    `try_iter()`, what the fallback arm is): an added filter on the object kind makes this
    theorem false.  The model's `ORepr` covers exactly the variants of `ObjectRepr`. -/
theorem include_candidates_any_iterable :
    (∀ (r : ORepr) (items : List Cand), choices (.object r (some items)) = items) ∧
    (∀ c, choices (.single c) = [c]) ∧
    (∀ r, choices (.object r none) = [none]) ∧
    (∀ a, choices a = a.cands) ∧
    MJ.Gen.c06ObjectReprs = ORepr.all.map ORepr.name := by
  refine ⟨fun r items => choices_eq_cands (.object r (some items)), fun c => choices_eq_cands (.single c),
    fun r => choices_eq_cands (.object r none), choices_eq_cands, rfl⟩

example : choices (.object .iterable (some [some 7, none, some 1])) = [some 7, none, some 1] := rfl
example : choices (.object .map (some [some 1])) = choices (.object .seq (some [some 1])) := rfl

/-- `perform_include` is "select, then act": walk the candidates in iteration order (`select`:
    a missing name is skipped, the first name that exists decides, a candidate that is not a
    string is an error where it is reached) and then render the selected template
    (`includeTemplate`), return its load error, or — when no candidate exists — raise
    `TemplateNotFound` exactly if something was looked up and `ignore missing` was not given
    (the condition as extracted from the sources). -/
theorem include_follows_selection (env : Env) (rec : Rec) (cur : Option Nat) (disc ign : Bool) (outer : Nat)
    (cands : List Cand) (tried : Bool) (st : St) :
    performInclude env rec cur disc ign outer cands tried st =
      match select env cands tried with
      | .render _ T => includeTemplate rec cur disc outer T st
      | .loadError t k => .error [loadErrKind t k]
      | .notAString => .error [.invalidOperation]
      | .nothing tr => if tr && !ign then .error [.templateNotFound] else .ok ([], st) :=
  performInclude_select env rec cur disc ign outer cands tried st

/-- the selected template is the **first candidate that exists, in iteration order**, for every
    kind of object that carries the candidates; conversely whatever is selected has only
    missing names in front of it. -/
theorem selection_is_first_existing (env : Env) :
    (∀ (r : ORepr) (missing : List Nat) (more : List Cand) (t : Nat) (T : Template) (tried : Bool),
      (∀ m ∈ missing, env[m]? = none) → env[t]? = some T → T.loadErr = none →
      select env (choices (.object r (some (missing.map some ++ some t :: more)))) tried = .render t T) ∧
    (∀ (cands : List Cand) (tried : Bool) (t : Nat) (T : Template), select env cands tried = .render t T →
      ∃ (missing : List Nat) (more : List Cand), cands = missing.map some ++ some t :: more ∧
        (∀ m ∈ missing, env[m]? = none) ∧ env[t]? = some T ∧ T.loadErr = none) := by
  refine ⟨?_, fun cands tried t T h => select_render_inv env cands tried t T h⟩
  intro r missing more t T tried hmiss hT hL
  rw [choices_eq_cands]
  exact select_first env missing more t T hmiss hT hL tried

/-- the statement: `{% include arg %}` with an argument of **any** iterable kind whose first
    existing candidate is `t` renders `t` (and continues with the rest of the statements) —
    `ignore missing`, the candidates behind `t` and the object kind play no role. -/
theorem include_renders_first_existing (rd : Rd) (rec : Rec) (parent : Option (List Item)) (r : ORepr)
    (missing : List Nat) (more : List Cand) (t : Nat) (T : Template) (ign : Bool) (rest : List Item) (st : St)
    (hmiss : ∀ m ∈ missing, rd.env[m]? = none) (hT : rd.env[t]? = some T) (hL : T.loadErr = none) :
    stepItems rd rec parent (.incl (.object r (some (missing.map some ++ some t :: more))) ign :: rest) st =
      (includeTemplate rec rd.cur (rd.disc0 || parent.isSome) rd.outer T st).andThen
        (fun st' => stepItems rd rec parent rest st') := by
  simp only [stepItems]
  rw [performInclude_select, (selection_is_first_existing rd.env).1 r missing more t T false hmiss hT hL]

/-- one environment, the same candidates `[t9 (missing), t1, t2]` carried by a list, a lazily
    evaluated iterable, the keys of a map and an enumerable plain object: always `t1` -/
def argEnv (a : Arg) (ign : Bool) : Env :=
  [ { layout := [.text "<a>", .incl a ign, .text "<z>"], blocks := [] },
    { layout := [.text "<one>"], blocks := [] },
    { layout := [.text "<two>"], blocks := [] } ]

example : render (argEnv (.object .seq (some [some 9, some 1, some 2])) false) c0 8 0 = .ok ["<a>", "<one>", "<z>"] := by decide +kernel
example : render (argEnv (.object .iterable (some [some 9, some 1, some 2])) false) c0 8 0 = .ok ["<a>", "<one>", "<z>"] := by decide +kernel
example : render (argEnv (.object .map (some [some 9, some 1, some 2])) true) c0 8 0 = .ok ["<a>", "<one>", "<z>"] := by decide +kernel
example : render (argEnv (.object .plain (some [some 9, some 2, some 1])) false) c0 8 0 = .ok ["<a>", "<two>", "<z>"] := by decide +kernel
/-- a candidate that is not a string is an error where it is reached, not before -/
example : render (argEnv (.object .iterable (some [some 9, none, some 1])) true) c0 8 0 = .error [.invalidOperation] := by decide +kernel
example : render (argEnv (.object .iterable (some [some 1, none])) false) c0 8 0 = .ok ["<a>", "<one>", "<z>"] := by decide +kernel
/-- a value that is neither a string nor iterable is not a template name -/
example : render (argEnv (.object .plain none) true) c0 8 0 = .error [.invalidOperation] := by decide +kernel
example : render (argEnv (.single none) true) c0 8 0 = .error [.invalidOperation] := by decide +kernel

/-- if **no candidate exists and something was asked for** — the argument yields at least one
    candidate and all of them are names of missing templates — the include is
    `TemplateNotFound`, unless `ignore missing` was given (then it renders nothing and changes
    nothing); whatever kind of value carried the candidates. -/
theorem include_nothing_exists (env : Env) (rec : Rec) (cur : Option Nat) (disc ign : Bool) (outer : Nat)
    (a : Arg) (st : St) (hne : a.cands ≠ [])
    (hall : ∀ c ∈ a.cands, ∃ m, c = some m ∧ env[m]? = none) :
    performInclude env rec cur disc ign outer (choices a) false st =
      if ign then .ok ([], st) else .error [.templateNotFound] := by
  rw [choices_eq_cands, performInclude_select, select_all_missing env a.cands false hall]
  cases ign <;> simp [hne]

example : render (argEnv (.object .iterable (some [some 9, some 8])) false) c0 8 0 = .error [.templateNotFound] := by decide +kernel
example : render (argEnv (.object .iterable (some [some 9, some 8])) true) c0 8 0 = .ok ["<a>", "<z>"] := by decide +kernel
example : render (argEnv (.name 9) false) c0 8 0 = .error [.templateNotFound] := by decide +kernel

/-- **an include never succeeds without either rendering a candidate or being entitled to
    skip.**  Whenever `perform_include` returns `Ok` for an argument `a`, one of three things is
    the case: (1) a candidate was selected — the argument's candidates are missing names, then
    the name of an existing, loadable template `t` — and the result *is* the result of rendering
    `t`; (2) nothing was asked for: the argument is an iterable that yields no candidate (the
    empty list), nothing is rendered, nothing changes; (3) `ignore missing` was given and every
    candidate is the name of a missing template.  In particular an argument that yields
    candidates is never skipped silently. -/
theorem include_never_silently_skips (env : Env) (rec : Rec) (cur : Option Nat) (disc ign : Bool) (outer : Nat)
    (a : Arg) (st st' : St) (o : List String)
    (h : performInclude env rec cur disc ign outer (choices a) false st = .ok (o, st')) :
    (∃ (missing : List Nat) (more : List Cand) (t : Nat) (T : Template),
        a.cands = missing.map some ++ some t :: more ∧ (∀ m ∈ missing, env[m]? = none) ∧
        env[t]? = some T ∧ T.loadErr = none ∧ includeTemplate rec cur disc outer T st = .ok (o, st')) ∨
    (a.cands = [] ∧ o = [] ∧ st' = st) ∨
    (ign = true ∧ a.cands ≠ [] ∧ (∀ c ∈ a.cands, ∃ m, c = some m ∧ env[m]? = none) ∧ o = [] ∧ st' = st) := by
  rw [choices_eq_cands, performInclude_select] at h
  cases hs : select env a.cands false with
  | render t T =>
    rw [hs] at h
    obtain ⟨missing, more, h1, h2, h3, h4⟩ := select_render_inv env a.cands false t T hs
    exact Or.inl ⟨missing, more, t, T, h1, h2, h3, h4, h⟩
  | loadError t k => rw [hs] at h; cases h
  | notAString => rw [hs] at h; cases h
  | nothing tr =>
    rw [hs] at h
    obtain ⟨h1, rfl⟩ := select_nothing_inv env a.cands false tr hs
    simp only [] at h
    split at h
    · cases h
    · rename_i hno
      cases h
      by_cases hc : a.cands = []
      · exact Or.inr (Or.inl ⟨hc, rfl, rfl⟩)
      · refine Or.inr (Or.inr ⟨?_, hc, h1, rfl, rfl⟩)
        -- nothing was raised although something was asked for
        cases ign with
        | true => rfl
        | false => simp [hc] at hno

/-- all three alternatives occur -/
example : render (argEnv (.object .iterable (some [])) false) c0 8 0 = .ok ["<a>", "<z>"] := by decide +kernel
example : render (argEnv (.object .iterable (some [some 9])) true) c0 8 0 = .ok ["<a>", "<z>"] := by decide +kernel
example : render (argEnv (.object .iterable (some [some 9, some 2])) false) c0 8 0 = .ok ["<a>", "<two>", "<z>"] := by decide +kernel

/-- `import` / `from … import` take the same kinds of argument (they compile to the same
    `Include` instruction): the module is the one of the first existing candidate -/
example : render [ { layout := [.importAs (.object .iterable (some [some 9, some 1])) 8, .emitAttr 8 2, .text "|",
                                .fromImport (.object .map (some [some 7, some 1])) 4 6, .callVar 6], blocks := [] }, modT ]
    c0 10 0 = .ok ["b", "|", "<mac>"] := by decide +kernel
example : render [ { layout := [.importAs (.object .iterable (some [some 9, some 7])) 8], blocks := [] }, modT ]
    c0 10 0 = .error [.templateNotFound] := by decide +kernel

/-- **An include renders the template with the includer's current variables.**  The included
    template runs on the includer's own frame stack (only the macro-closure slot of the top
    frame is detached, which no lookup goes through: `load` does not depend on it).  Made
    concrete for an included template that consists of `{{ v }}`: it prints exactly what a
    lookup of `v` *at the include tag* finds — frames from the top down (loop variable, block
    frame, every `set` made so far), then the render context —, formatted in the included
    template's own auto-escape mode, and leaves the state as it was. -/
theorem include_sees_includer_variables (env : Env) (ctx : Cfg) (f : Nat) (cur : Option Nat) (disc : Bool)
    (outer : Nat) (T : Template) (v : Nat) (st : St) (hl : T.layout = [.emitVar v]) (hwf : st.frames.WF)
    (hd : outer + INCLUDE_COST + st.frames.length ≤ LIMIT) :
    (∀ c w, load ctx.rootCtx (st.frames.setTopClosure c) w = load ctx.rootCtx st.frames w) ∧
    includeTemplate (evalImpl env ctx (f + 1)) cur disc outer T st =
      match emitVarOut ctx disc T.ae (load ctx.rootCtx st.frames v) with
      | .ok o => .ok (o, st)
      | .error e => .error (.badInclude :: e) := by
  refine ⟨fun c w => load_setTopClosure ctx.rootCtx st.frames c w, ?_⟩
  have hd' : ¬ (outer + INCLUDE_COST + st.frames.length > LIMIT) := by omega
  simp only [includeTemplate, hd', if_false, hl, evalImpl, stepItems, varItem_emitVar, load_setTopClosure,
    Option.isSome_none, Bool.or_false]
  cases emitVarOut ctx disc T.ae (load ctx.rootCtx st.frames v) with
  | error e => rfl
  | ok o => simp only [Res.andThen, List.append_nil, setTopClosure_roundtrip _ hwf]

/-- the includer's variables as the included template sees them: a `set` made before the tag, the
    loop variable of the enclosing loop (each iteration its own), a variable of the render
    context; a `set` made *after* the tag is not visible, a shadowing loop variable wins -/
def visEnv : Env :=
  [ { layout := [.setVar 1 "early", .incl (.name 1) false, .setVar 2 "late",
                 .loop 1 ["i1", "i2"] [.incl (.object .iterable (some [some 9, some 1])) false],
                 .incl (.name 1) false],
      blocks := [] },
    { layout := [.text "<", .emitVar 1, .text "|", .emitVar 2, .text "|", .emitVar 0, .text ">"], blocks := [] } ]

example : render visEnv { rootCtx := [(0, .str "ctx")] } 10 0 =
    .ok ["<", "early", "|", "|", "ctx", ">",
         "<", "i1", "|", "late", "|", "ctx", ">", "<", "i2", "|", "late", "|", "ctx", ">",
         "<", "early", "|", "late", "|", "ctx", ">"] := by decide +kernel

/-- **An include assigns into the includer's current frame only.**  Whatever the included
    template (and everything it includes, imports or extends) does, a successful include returns
    the same number of frames, and every frame *below* the current one holds exactly what it
    held: `set`s of the included template land in the frame the include tag runs in (they are
    visible to the includer afterwards, and gone when that frame — a loop iteration, a block —
    ends), never further down. -/
theorem include_assigns_into_current_frame_only (env : Env) (ctx : Cfg) (fuel : Nat) (henv : EnvOK env)
    (cur : Option Nat) (disc ign : Bool) (outer : Nat) (a : Arg) (st st' : St) (o : List String)
    (hwf : st.frames.WF)
    (h : performInclude env (evalImpl env ctx fuel) cur disc ign outer (choices a) false st = .ok (o, st')) :
    st'.frames.stack.length = st.frames.stack.length ∧
      ∀ i, i + 1 < st.frames.stack.length → st'.frames.stack[i]? = st.frames.stack[i]? :=
  include_frames env ctx fuel henv cur disc ign outer (choices a) false st st' o hwf h

/-- the included template sets `v6`: visible to the includer after the tag; set inside a loop
    iteration it is gone after the loop -/
example : render [ { layout := [.incl (.name 1) false, .emitVar 6, .text "|",
                                .loop 1 ["a"] [.incl (.name 2) false, .emitVar 7], .text "|", .emitVar 7], blocks := [] },
                   { layout := [.setVar 6 "six"], blocks := [] },
                   { layout := [.setVar 7 "seven"], blocks := [] } ] c0 10 0
    = .ok ["six", "|", "seven", "|"] := by decide +kernel

/-- **An import changes nothing in the importer's variables except the name it binds.**
    `{% import a as v %}` / `{% from a import n as x %}` run the imported template in a *fresh*
    frame on top of the importer's frames; when that succeeds there is exactly one frame more
    and *all* of the importer's frames — the current one included — hold exactly what they
    held.  The statement then drops the fresh frame, binding `v` to the module made of exactly
    that frame's locals (`dedupKeys (topFrame …)`, the imported template's top-level `set`s and
    macros: `import_exports_toplevel`) resp. `x` to that frame's value of `n` — nothing of the
    importer's own variables is in the module, nothing the imported template assigns reaches
    the importer. -/
theorem import_leaves_importer_variables (env : Env) (ctx : Cfg) (fuel : Nat) (henv : EnvOK env)
    (cur : Option Nat) (d0 e0 : Bool) (outer : Nat) (ae : AE) (parent : Option (List Item))
    (a : Arg) (rest : List Item) (st stI : St) (o1 : List String) (hwf : st.frames.WF)
    (hpf : pushFails outer st.frames = false) (disc : Bool)
    (hinc : performInclude env (evalImpl env ctx fuel) cur disc false outer (choices a) false
              { st with frames := st.frames.push [[]] } = .ok (o1, stI)) :
    stI.frames.length = st.frames.length + 1 ∧
    (stI.frames.take st.frames.length).stack = st.frames.stack ∧
    (disc = false → ∀ v,
      stepItems ⟨env, ctx, cur, d0, e0, outer, ae⟩ (evalImpl env ctx fuel) parent (.importAs a v :: rest) st =
        stepItems ⟨env, ctx, cur, d0, e0, outer, ae⟩ (evalImpl env ctx fuel) parent rest
          { stI with frames := store (stI.frames.take st.frames.length) v (.module (dedupKeys (topFrame stI.frames))) }) ∧
    (disc = true → ∀ n x,
      stepItems ⟨env, ctx, cur, d0, e0, outer, ae⟩ (evalImpl env ctx fuel) parent (.fromImport a n x :: rest) st =
        stepItems ⟨env, ctx, cur, d0, e0, outer, ae⟩ (evalImpl env ctx fuel) parent rest
          { stI with frames := store (stI.frames.take st.frames.length) x ((lookupVal n (topFrame stI.frames)).getD .undef) }) := by
  obtain ⟨h1, h2⟩ := import_frames env ctx fuel henv cur disc false outer (choices a) false st stI o1 hwf hinc
  refine ⟨h1, h2, ?_, ?_⟩
  · intro hd v
    subst hd
    exact importAs_step ⟨env, ctx, cur, d0, e0, outer, ae⟩ _ parent a v rest st stI o1 hpf hinc
  · intro hd n x
    subst hd
    exact fromImport_step ⟨env, ctx, cur, d0, e0, outer, ae⟩ _ parent a n x rest st stI o1 hpf hinc

/-- the importer's own `v3` is neither exported nor changed by the module's assignment of `v3`;
    the module's `v2` does not become a variable of the importer -/
example : render [ { layout := [.setVar 3 "mine", .importAs (.name 1) 8, .emitVar 3, .text "|", .emitAttr 8 3, .text "|",
                                .emitVar 2, .text "|", .emitKeys 8], blocks := [] },
                   { layout := [.setVar 3 "theirs", .setVar 2 "m2"], blocks := [] } ] c0 10 0
    = .ok ["mine", "|", "theirs", "|", "|", "v2,v3"] := by decide +kernel

/-- `super()` outside of blocks.  In the template that is rendered it is an error (there is no
    current block).  In an *included* template the engine's `current_block` still names the block
    the include tag stands in, and `super()` is resolved against the included template's **own**
    block table (`BlockState::Replace`) — never against the includer's definitions: at the top
    level of an included template that has not executed an `extends`, every block has at most
    one definition, so `super()` is the error "no parent block exists", whatever the includer's
    chain looks like.  (Behind an executed `extends` of the included template the table holds the
    included chain's definitions; `blocks_refine_spec` covers that case through `specChain`'s
    `inh`: the recorded finding `super-inherited`.) -/
theorem super_outside_blocks (rec : Rec) (disc : Bool) (outer : Nat) (ae : AE) (st : St) :
    performSuper rec none disc outer ae st = .error [.invalidOperation] ∧
    (∀ (n : Nat) (T : Template),
      performSuper rec (some n) disc outer ae
        { st with blocks := prepare T.blocks, depth := fun _ => 0, loaded := [] } = .error [.invalidOperation]) := by
  refine ⟨rfl, ?_⟩
  intro n T
  have hl : (prepare T.blocks n).length ≤ 1 := by
    simp only [prepare]; cases lookupBlock n T.blocks <;> simp
  simp only [performSuper]
  have : ¬ (0 + 1 < (prepare T.blocks n).length) := by omega
  simp [this]

/-- the includer's block `b0` has a parent definition, the included template calls `super()` at
    its top level: an error, wrapped in `BadInclude` (not the includer's parent block) -/
example : render [ { layout := [.extends true 2, .callBlock 0], blocks := [(0, [.text "<c0>", .incl (.name 1) false])] },
                   { layout := [.text "<inc>", .super], blocks := [] },
                   { layout := [.callBlock 0], blocks := [(0, [.text "<p0>"])] } ] c0 10 0
    = .error [.badInclude, .invalidOperation] := by decide +kernel

/-- the recorded finding: the include stands in `b0`, the included template extends a parent, both
    define `b0`, and `{% set v5 = super() %}` runs behind the `extends` tag — the parent's `b0` is
    what `super()` yields; driver and specification agree on it and the environment lies in the
    proven fragment -/
def superInhEnv : Env :=
  [ { layout := [.callBlock 0], blocks := [(0, [.text "<T0:b0>", .incl (.name 1) false])] },
    { layout := [.extends true 2, .setSuper 5, .callBlock 0], blocks := [(0, [.text "(", .emitVar 5, .text ")"])] },
    { layout := [.text "<T2>", .callBlock 0], blocks := [(0, [.text "<T2:b0>"])] } ]

example : EnvOK superInhEnv := by decide +kernel
example : render superInhEnv c0 10 0 = .ok ["<T0:b0>", "<T2>", "(", "<T2:b0>", ")"] := by decide +kernel
example : specRender superInhEnv c0 10 0 = .ok ["<T0:b0>", "<T2>", "(", "<T2:b0>", ")"] := by decide +kernel

/-- `{% autoescape %}` blocks nested directly in one another: each `endautoescape` gives the
    enclosing block's mode back; an include inside them still runs in the included template's
    own mode.  Inside the fragment of `blocks_refine_spec` and of `rendering_terminates`. -/
def aeNestEnv : Env :=
  [ { layout := [.autoesc .html [.emitVar 0, .autoesc .json [.emitVar 0, .autoesc .none [.emitVar 0, .incl (.name 1) false],
                                                             .emitVar 0], .emitVar 0], .emitVar 0],
      blocks := [] },
    { layout := [.text "<", .emitVar 0, .text ">"], blocks := [], ae := .html } ]

example : EnvOK aeNestEnv := by decide +kernel
example : render aeNestEnv { rootCtx := [(0, .str "a<b")] } (renderFuel aeNestEnv) 0 =
    .ok ["a&lt;b", "\"a<b\"", "a<b", "<", "a&lt;b", ">", "\"a<b\"", "a&lt;b", "a<b"] := by decide +kernel

/-- block references from inside a macro body: a macro call keeps the block table and its
    cursors (`BlockState::Isolate` restores them afterwards), `current_block` is `None` inside —
    `self.b1()` renders the most-derived `b1`, `super()` is an error there.  Both lie in the
    fragment of `blocks_refine_spec`. -/
def macroBlockEnv : Env :=
  [ { layout := [.extends true 1, .callBlock 0, .callBlock 1],
      blocks := [(0, [.text "<c0>", .inMacro 9 1 "a" [.text "[", .callBlock 1, .text "]"]]), (1, [.text "<c1>"])] },
    { layout := [.text "<p>", .callBlock 0], blocks := [(0, [.text "<p0>"]), (1, [.text "<p1>"])] } ]

example : EnvOK macroBlockEnv := by decide +kernel
example : render macroBlockEnv c0 12 0 = .ok ["<p>", "<c0>", "[", "<c1>", "]"] := by decide +kernel
example : render [ { layout := [.callBlock 0], blocks := [(0, [.inMacro 9 1 "a" [.super]])] } ] c0 12 0
    = .error [.invalidOperation] := by decide +kernel

/-! ## The state of the activation across the switch to the parent template

`MJ/Model/BlocksAct.lean`: streams name their filters / tests by per-stream local ids, the
activation caches what it resolved per id, the end-of-instructions arm re-targets the activation to
the parent's stream.  Tables `MJ.Gen.c06ActivationLocals` / `c06StateAtParentSwitch` are regenerated
from `vm/mod.rs` / `vm/state.rs` on every run. -/
section Activation
open MJ.BlocksAct

/-- A cache that is wiped at every switch is transparent: whatever the extending template and its
    parents (any number of switches, any streams) used before, every use resolves the name the
    *current* stream gives the id — the specification has no cache at all. -/
theorem wiped_cache_is_transparent (wipe : Cache → Bool) (hw : ∀ c, wipe c = true)
    (s : Stream) (evs : List Ev) : run wipe s Cache.empty evs = runSpec s evs :=
  run_eq_spec_of_coherent wipe hw evs s _ (coherent_empty s)

/-- the table's verdict on the id-indexed locals -/
theorem idIndexed_reset : ∀ row ∈ idIndexed, row.2.2 = "reset" := by decide +kernel

/-- The tie to the code: every local of `eval_impl` that is indexed by local ids (the table finds
    them as the first argument of `get_or_lookup_local(&mut x, *local_id, …)`) is assigned
    unconditionally in the end-of-instructions arm — and therefore, for every chain of parent
    switches, behaves like no cache.  A reset moved under a condition makes the table say
    `conditional`, and this theorem stops building. -/
theorem parent_switch_resets_per_template_state :
    idIndexed ≠ [] ∧
    ∀ row ∈ idIndexed, ∀ (s : Stream) (evs : List Ev),
      run (wipeOf row.2.2) s Cache.empty evs = runSpec s evs := by
  refine ⟨by decide +kernel, ?_⟩
  intro row hrow s evs
  exact wiped_cache_is_transparent _ (by intro c; simp [wipeOf, idIndexed_reset row hrow]) s evs

example : idIndexed.map (·.1) = ["loaded_filters", "loaded_tests"] := rfl

/-- The whole render: block bodies, `super()` definitions, included / imported templates and
    macro bodies are activations of their own (`call` / `ret`), each of which may switch to parents
    of its own; callers are suspended with their caches and resume on their own stream.  With
    the treatment the table reports for the id-indexed locals, every use in every activation
    resolves the name its own current stream gives the id: nothing id-indexed survives a parent
    switch, an include, an import, a block call or a `super()`. -/
theorem every_activation_resolves_its_own_names :
    ∀ row ∈ idIndexed, ∀ (s : Stream) (evs : List Ev2),
      run2 (wipeOf row.2.2) s Cache.empty [] evs = runSpec2 s [] evs := by
  intro row hrow s evs
  exact run2_eq_spec _ (by intro c; simp [wipeOf, idIndexed_reset row hrow]) evs s _ [] (coherent_empty s) (by simp)

/-- a child that fills slot 1 only, calls a block (own numbering), switches to its parent, which
    includes a template that extends another one: every use names its own stream's id -/
example : run2 (wipeOf "reset") ["pprint", "lower"] Cache.empty []
      [.use 1, .call ["title"], .use 0, .ret, .use 1, .switch ["upper", "trim"], .use 1,
       .call ["first", "last"], .use 1, .switch ["min", "max"], .use 1, .use 0, .ret, .use 0]
    = [some "lower", some "title", some "lower", some "trim", some "last", some "max", some "min", some "upper"] := by
  decide

/-- Why the reset has to be unconditional: a cache that is carried (a `conditional` row whose
    condition does not hold) answers with the child's name for the parent's id. -/
theorem carried_cache_is_wrong :
    ∃ (s : Stream) (evs : List Ev), run (wipeOf "conditional") s Cache.empty evs ≠ runSpec s evs :=
  ⟨["lower", "odd"], [.use 1, .switch ["upper", "defined"], .use 1], by decide +kernel⟩

/-- … and the "cheap" variant — wipe only when slot 0 is filled, ids being handed out in order —
    is wrong as well: ids are handed out in *source* order, slots are filled in *execution* order
    (the first filter of the child sits in a macro body or in a branch that is not taken). -/
theorem wipe_if_slot0_is_wrong :
    ∃ (s : Stream) (evs : List Ev), run wipeIfSlot0 s Cache.empty evs ≠ runSpec s evs :=
  ⟨["pprint", "lower"], [.use 1, .switch ["upper", "title"], .use 1], by decide +kernel⟩

/-- with slot 0 filled the cheap variant happens to work on the same streams (the situation of
    the engine's own regression tests) — the defect needs the hidden first use -/
example : run wipeIfSlot0 ["pprint", "lower"] Cache.empty [.use 0, .use 1, .switch ["upper", "title"], .use 1]
    = runSpec ["pprint", "lower"] [.use 0, .use 1, .switch ["upper", "title"], .use 1] := rfl

/-- Classification of everything that is live across the switch.  Locals of the activation: the
    id-indexed ones are reset, `pc` is reset, `parent_instructions` is taken (so a template
    extends once per switch), everything else — operand stack, auto-escape stack, loop recursion
    state — is carried and is *not* id-indexed.  Fields of `State`: exactly `instructions` is
    re-targeted; block table, loaded set, current block, auto-escape mode, context frames,
    closures and macro tables are carried (which is what `MJ.Blocks.evalImpl` models: the parent
    runs on the child's frames, in the child's mode, with the merged block stacks). -/
theorem activation_state_classified :
    (∀ r ∈ MJ.Gen.c06ActivationLocals, r.2.2 ∈ ["reset", "taken", "carried"]) ∧
    (∀ r ∈ MJ.Gen.c06ActivationLocals, r.2.2 = "carried" → r.2.1 = false) ∧
    treatment "pc" = some (false, "reset") ∧
    treatment "parent_instructions" = some (false, "taken") ∧
    MJ.Gen.c06StateAtParentSwitch.filter (·.2 != "carried") = [("instructions", "retargeted")] ∧
    (∀ f ∈ ["blocks", "loaded_templates", "current_block", "auto_escape", "ctx"],
      (f, "carried") ∈ MJ.Gen.c06StateAtParentSwitch) := by
  decide +kernel

end Activation

end MJ.C06
