import MJ.Proofs.Fuel
import MJ.Proofs.FuelMachine
import MJ.Proofs.FuelProg
import MJ.Proofs.FuelEdge
/-!
# C13 — fuel gives every render a fixed, exact success threshold

A render is represented by its *trace*: the instruction names the VM dispatches in the unlimited
run (`runNoFuel trace = trace`).  `runFuel B trace` is the same render with `set_fuel(Some(B))`:
`FuelTracker::track` is charged for every instruction before it is dispatched.  `thr trace` depends
on the trace only.  All statements hold for **every** budget `B < 2^64` (`u64`), in particular for
`2^63 − 1`, `2^63` and `2^64 − 1`.
-/
namespace MJ.C13
open MJ MJ.Fuel MJ.Fuel.Tracker

/-- Full-strength statement: for every trace and every `u64` budget,
    * at or above the threshold every instruction of the unlimited run is dispatched (hence the
      same output), the run ends normally and exactly `total trace` was consumed;
    * below it the run ends with out-of-fuel after a proper prefix of the unlimited run (nothing
      else is dispatched, no other failure is introduced);
    * in both cases the levels left in the state add up to the budget and fit `u64`. -/
def C13_full : Prop :=
  ∀ (trace : List String) (B : Nat), B < u64Bound →
    (thr trace ≤ B →
      (runFuel B trace).status = .done ∧ (runFuel B trace).executed = runNoFuel trace ∧
      (runFuel B trace).tracker.consumed = total trace) ∧
    (B < thr trace →
      (runFuel B trace).status = .outOfFuel ∧ (runFuel B trace).executed <+: runNoFuel trace ∧
      (runFuel B trace).executed.length < trace.length) ∧
    (runFuel B trace).tracker.consumed + (runFuel B trace).tracker.remainingFuel = B ∧
    (runFuel B trace).tracker.consumed < u64Bound ∧ (runFuel B trace).tracker.remainingFuel < u64Bound

/-- the levels in the state always add up to the budget: after any run, successful or not -/
theorem levels_sum (B : Nat) (trace : List String) :
    (runFuel B trace).tracker.consumed + (runFuel B trace).tracker.remainingFuel = B := by
  rcases Nat.lt_or_ge B (thr trace) with h | h
  · rw [(levels_of_lt_thr h).1, (levels_of_lt_thr h).2]; rfl
  · have := thr_le_iff.mp h
    rw [(levels_of_thr_le h).1, (levels_of_thr_le h).2]
    omega

theorem threshold_exact : C13_full := by
  intro trace B hB
  have hsum := levels_sum B trace
  refine ⟨fun h => ?_, fun h => ?_, hsum, by omega, by omega⟩
  · have e := runFuel_of_thr_le h
    exact ⟨by rw [e], by rw [e]; rfl, (levels_of_thr_le h).1⟩
  · obtain ⟨hs, _, hp, hl⟩ := runFuel_of_lt_thr h
    exact ⟨hs, hp, hl⟩

/-- a loop-shaped trace (whatever the current cost table says): the largest budget and the
    threshold itself succeed, one below the threshold runs out of fuel -/
example :
    let t := ["Lookup", "PushLoop", "Iterate", "Emit", "Jump", "Iterate", "PopLoopFrame"]
    (runFuel 18446744073709551615 t).status = .done ∧ (runFuel (thr t) t).status = .done
    ∧ (thr t = 0 ∨ (runFuel (thr t - 1) t).status = .outOfFuel) := by decide +kernel

/-- `fuel_levels()` add up to the budget at every point of a run (after any number `k` of charged
    instructions), whatever happens later -/
theorem levels_add_up (B : Nat) (trace : List String) (k : Nat) :
    (levelsAt B trace k).1 + (levelsAt B trace k).2 = B :=
  levels_sum B (trace.take k)

example : (levelsAt 9223372036854775808 ["Lookup", "DupTop", "Emit", "EmitRaw"] 3).1
    + (levelsAt 9223372036854775808 ["Lookup", "DupTop", "Emit", "EmitRaw"] 3).2 = 9223372036854775808 := by decide +kernel

/-- consumption is a function of the render, not of the budget or of the repetition: every
    sufficient budget dispatches the same instructions and reports the same consumed amount -/
theorem deterministic (trace : List String) (B B' : Nat) (h : thr trace ≤ B) (h' : thr trace ≤ B') :
    (runFuel B trace).executed = (runFuel B' trace).executed ∧
    (runFuel B trace).tracker.consumed = (runFuel B' trace).tracker.consumed ∧
    (runFuel B trace).tracker.consumed = total trace := by
  have a := (levels_of_thr_le h).1
  have b := (levels_of_thr_le h').1
  exact ⟨by rw [runFuel_of_thr_le h, runFuel_of_thr_le h'], a.trans b.symm, a⟩

example : thr ["Lookup", "Emit"] ≤ thr ["Lookup", "Emit"] + 3 ∧ thr ["Lookup", "Emit"] ≤ 18446744073709551615 := by decide +kernel

/-- Nested evaluations (macro call, include, block, `super()`) run on the caller's `State`, so the
    trace of the whole render is `pre ++ nested ++ post`:
    * the nested part continues with the tracker the caller left behind (no fresh budget),
    * costs add up, and so does the threshold (for parts that consume anything),
    * a nested evaluation that would fit the budget on its own still fails when the caller has
      already used too much. -/
theorem nested_shares_tracker (pre nested post : List String) (B : Nat) :
    total (pre ++ nested ++ post) = total pre + total nested + total post ∧
    ((runFuel B pre).status = .done →
      runFuel B (pre ++ nested) =
        { runFrom (runFuel B pre).tracker nested with
          executed := pre ++ (runFrom (runFuel B pre).tracker nested).executed }) ∧
    (total nested ≠ 0 → B ≤ total pre + total nested → (runFuel B (pre ++ nested ++ post)).status = .outOfFuel) := by
  refine ⟨by simp only [total_append], fun hd => ?_, fun hn hB => ?_⟩
  · have hp := runFrom_of_thr_le _ pre ((runFrom_done_iff _ _).mp hd)
    simp only [runFuel, runFrom_append, hp]
  · refine (runFuel_of_lt_thr (Nat.lt_of_not_le fun h => ?_)).1
    have := thr_le_iff.mp h
    simp only [total_append] at this
    omega

/-- caller and nested part each fit the budget on their own, together they do not -/
example :
    let a := ["Lookup", "Emit"]
    let b := ["CallFunction", "Emit"]
    let B := max (thr a) (thr b)
    (runFuel B a).status = .done ∧ (runFuel B b).status = .done
    ∧ (total a = 0 ∨ total b = 0 ∨ (runFuel B (a ++ b ++ ["EmitRaw"])).status = .outOfFuel) := by decide +kernel

/-- NON-INTERFERENCE.  For every machine (arbitrary state, arbitrary fetch and dispatch functions
    that do not receive the tracker), every start state whose unlimited run terminates (normally or
    with an error `e` of the dispatch) and every budget `B : u64`: the limited run terminates within
    the same number of steps, and
    * the instructions it dispatches and the states it goes through are a prefix of those of the
      unlimited run — all of them iff `B ≥ thr (unlimited trace)`;
    * at or above the threshold it returns exactly what the unlimited run returns (the same final
      state, or the SAME error) and reports `total` consumed;
    * below the threshold it returns out-of-fuel — never another state, never another error;
    * the levels add up to the budget in every case. -/
theorem fuel_does_not_steer {S E : Type} (m : Machine S E) (n : Nat) (s : S) (u : URun S E)
    (h : m.run n s = some u) (B : Nat) (hB : B < u64Bound) :
    ∃ f, m.runFuel n (Tracker.new B) s = some f ∧
      f.trace <+: u.trace ∧ f.states = u.states.take f.trace.length ∧ f.states <+: u.states ∧
      ((f.trace = u.trace ∧ f.states = u.states) ↔ thr u.trace ≤ B) ∧
      (thr u.trace ≤ B → f.result = sameResult u.result ∧ f.tracker.consumed = total u.trace) ∧
      (B < thr u.trace → f.result = .error .outOfFuel ∧ f.trace.length < u.trace.length) ∧
      f.tracker.consumed + f.tracker.remainingFuel = B := by
  have hlen := Machine.run_states_length m n s u h
  obtain ⟨hge, hlt, hsum, _, _⟩ := threshold_exact u.trace B hB
  refine ⟨_, Machine.runFuel_of_run m n (Tracker.new B) s u h, executed_prefix _ _, rfl, List.take_prefix _ _,
    ⟨fun ⟨h1, _⟩ => Nat.le_of_not_lt fun hb => ?_, fun hb => ?_⟩, fun hb => ?_, fun hb => ?_, hsum⟩
  · have hl := (hlt hb).2.2
    rw [show (runFuel B u.trace).executed = u.trace from h1] at hl
    exact Nat.lt_irrefl _ hl
  · have h2 : (runFrom (Tracker.new B) u.trace).executed = u.trace := (hge hb).2.1
    simp only [h2, ← hlen, List.take_length, and_self]
  · exact ⟨(hge hb).1 ▸ limitedResult_done u.result, (hge hb).2.2⟩
  · exact ⟨(hlt hb).1 ▸ limitedResult_outOfFuel u.result, (hlt hb).2.2⟩

/-- a machine that counts down and then fails with error 7: the unlimited run dispatches four
    instructions and ends with that error; budget 2^63 gives the same error, budget 0 out-of-fuel -/
private def demoCountdown : Machine Nat Nat :=
  { fetch := fun _ => some "Emit", exec := fun k => if k = 0 then .error 7 else .ok (k - 1) }

example :
    (demoCountdown.run 10 3).map (·.result) = some (.error 7) ∧
    (demoCountdown.runFuel 10 (Tracker.new 9223372036854775808) 3).map (·.result) = some (.error (.other 7)) ∧
    ((demoCountdown.run 10 3).map (fun u => thr u.trace) = some 0 ∨
      (demoCountdown.runFuel 10 (Tracker.new 0) 3).map (·.result) = some (.error .outOfFuel)) := by
  refine ⟨rfl, rfl, ?_⟩
  first
    | exact Or.inr rfl
    | exact Or.inl rfl

/-- the property in the words of C13 for an arbitrary machine: one threshold, a function of the
    unlimited run only; every budget at or above it reproduces the unlimited outcome (final state or
    the same error), every budget below it gives out-of-fuel -/
theorem machine_threshold_exact {S E : Type} (m : Machine S E) (n : Nat) (s : S) (u : URun S E)
    (h : m.run n s = some u) :
    ∃ T, T = thr u.trace ∧ ∀ B, B < u64Bound →
      (T ≤ B → (m.runFuel n (Tracker.new B) s).map (·.result) = some (sameResult u.result)) ∧
      (B < T → (m.runFuel n (Tracker.new B) s).map (·.result) = some (.error .outOfFuel)) := by
  refine ⟨_, rfl, ?_⟩
  intro B hB
  obtain ⟨f, hf, _, _, _, _, hge, hlt, _⟩ := fuel_does_not_steer m n s u h B hB
  constructor
  · intro hb; simp [hf, (hge hb).1]
  · intro hb; simp [hf, (hlt hb).1]

example : ∃ u, (({ fetch := fun k => if k = 0 then none else some "Lookup", exec := fun k => .ok (k - 1) } : Machine Nat Unit).run 5 2) = some u
    ∧ u.trace = ["Lookup", "Lookup"] := ⟨_, rfl, rfl⟩

/-- Running over the call tree of a render — every nested activation (macro, include, block,
    `super()`, `render_block`/`call_macro` from Rust) continuing with the caller's tracker and
    handing it back — is the same as running over the flattened instruction trace, for call trees
    of any depth.  Hence all trace-level theorems hold for arbitrarily nested renders, and the cost
    of a render is the sum over all activations. -/
theorem call_tree_flattens (t : Tracker) (e : Evs) : runTree t e = runFrom t (flatten e) := by
  induction e generalizing t with
  | nil => rfl
  | instr n r ih =>
    simp only [runTree, flatten, runFrom]
    cases h : t.track (costOf n) with
    | outOfFuel t' => rfl
    | ok t' => simp only [ih t']
  | call n sub r ihs ihr =>
    simp only [runTree, flatten, runFrom]
    cases h : t.track (costOf n) with
    | outOfFuel t' => rfl
    | ok t' =>
      -- the nested activation and the rest are two consecutive pieces of the flat trace
      simp only [ihs t', runFrom_append]
      cases hs : (runFrom t' (flatten sub)).status with
      | outOfFuel => simp [hs]
      | done => simp [ihr]

example : (Evs.call "CallFunction" (.instr "Emit" (.call "Include" (.instr "EmitRaw" .nil) .nil)) (.instr "Emit" .nil)).depth = 2
    ∧ flatten (Evs.call "CallFunction" (.instr "Emit" (.call "Include" (.instr "EmitRaw" .nil) .nil)) (.instr "Emit" .nil))
      = ["CallFunction", "Emit", "Include", "EmitRaw", "Emit"] := by decide +kernel

/-- threshold exactness for an interpreter whose dispatch starts nested activations sharing the
    tracker: the threshold is the one of the flattened call tree of the unlimited run -/
theorem nested_threshold_exact {S E : Type} (m : NMachine S E) (n : Nat) (s : S) (u : NURun S E)
    (h : m.run n s = some u) (B : Nat) (hB : B < u64Bound) :
    ∃ f, m.runFuel n (Tracker.new B) s = some f ∧
      f.executed <+: flatten u.tree ∧
      (thr (flatten u.tree) ≤ B →
        f.executed = flatten u.tree ∧ f.result = sameResult u.result ∧ f.tracker.consumed = total (flatten u.tree)) ∧
      (B < thr (flatten u.tree) → f.result = .error .outOfFuel ∧ f.executed.length < (flatten u.tree).length) ∧
      f.tracker.consumed + f.tracker.remainingFuel = B := by
  have hrun := NMachine.runFuel_of_run m n (Tracker.new B) s u h
  rw [call_tree_flattens] at hrun
  obtain ⟨hge, hlt, hsum, _, _⟩ := threshold_exact (flatten u.tree) B hB
  refine ⟨_, hrun, executed_prefix _ _, fun hb => ?_, fun hb => ?_, hsum⟩
  · obtain ⟨h1, h2, h3⟩ := hge hb
    exact ⟨h2, h1 ▸ limitedResult_done u.result, h3⟩
  · obtain ⟨h1, _, h3⟩ := hlt hb
    exact ⟨h1 ▸ limitedResult_outOfFuel u.result, h3⟩

/-- a macro-like machine: state = (pc, depth); at pc 1 of depth 0 it calls a nested activation -/
private def demoMacro : NMachine (Nat × Nat) Unit :=
  { fetch := fun s => if s.1 < 3 then some (if s.1 = 1 ∧ s.2 = 0 then "CallFunction" else "Emit") else none,
    exec := fun s => if s.1 = 1 ∧ s.2 = 0 then .call (0, 1) (fun _ => (2, 0)) else .step (.ok (s.1 + 1, s.2)) }

example : (demoMacro.run 20 (0, 0)).map (fun u => flatten u.tree)
    = some ["Emit", "CallFunction", "Emit", "Emit", "Emit", "Emit"] := by decide +kernel

/-- OUT OF FUEL IS STICKY.  Once `track` has reported out-of-fuel the tank is empty and stays
    empty; from an empty tank every charged instruction is refused again.  So when a Rust callback
    swallows the error of a nested evaluation (`state.call_macro(..).unwrap_or_default()`), whatever
    the render does afterwards (`rest`, not necessarily what the unlimited run did) ends out of fuel
    at its first charged instruction: only free instructions can still run, nothing more is
    consumed, and the levels still add up. -/
theorem out_of_fuel_is_sticky (t : Tracker) (nested rest : List String)
    (h : (runFrom t nested).status = .outOfFuel) :
    (runFrom t nested).tracker.remaining = 0 ∧
    (∀ c, c ≠ 0 → (runFrom t nested).tracker.track c = .outOfFuel (runFrom t nested).tracker) ∧
    (total rest ≠ 0 →
      (runFrom (runFrom t nested).tracker rest).status = .outOfFuel ∧
      (runFrom (runFrom t nested).tracker rest).tracker = (runFrom t nested).tracker ∧
      total (runFrom (runFrom t nested).tracker rest).executed = 0) := by
  have hlt : t.remaining < thr nested := Nat.lt_of_not_le fun hle => by
    rw [(runFrom_done_iff t nested).mpr hle] at h; cases h
  have h0 : (runFrom t nested).tracker.remaining = 0 := by rw [(runFrom_of_lt_thr t nested hlt).2.1]
  exact ⟨h0, fun c hc => track_empty _ c hc h0, fun hr => runFrom_empty _ rest h0 hr⟩

example : (runFrom (Tracker.new 1) ["Emit"]).status = .outOfFuel ∨ total ["Emit"] = 0 := by decide +kernel

/-- in particular a budget of 0 refuses the first charged instruction -/
theorem zero_budget_refuses (trace : List String) (h : total trace ≠ 0) :
    (runFuel 0 trace).status = .outOfFuel ∧ total (runFuel 0 trace).executed = 0 := by
  have := runFrom_empty (Tracker.new 0) trace rfl h
  exact ⟨this.1, this.2.2⟩

example : total ["PushLoop", "Iterate"] ≠ 0 ∨ total ["PushLoop", "Iterate"] = 0 := by decide +kernel

/-- NO OBSERVATION DEPENDS ON THE BUDGET.  Whatever the program (or a Rust callable it invokes, or
    a `Debug`/`Display` rendering of its state) computes from the instructions it ran, the states
    it went through and its result — any function `obs` of those — is the same for every two
    sufficient budgets and the same as without a budget.  The tracker is the only component that
    differs, by exactly the difference of the budgets; it is visible through the Rust API
    `State::fuel_levels` only (tie `no_budget_observer`). -/
theorem observations_budget_independent {S E O : Type} (m : Machine S E) (n : Nat) (s : S) (u : URun S E)
    (h : m.run n s = some u) (B B' : Nat) (hB : B < u64Bound) (hB' : B' < u64Bound)
    (hb : thr u.trace ≤ B) (hb' : thr u.trace ≤ B')
    (obs : List String → List S → Except (FErr E) S → O) :
    ∃ f f', m.runFuel n (Tracker.new B) s = some f ∧ m.runFuel n (Tracker.new B') s = some f' ∧
      obs f.trace f.states f.result = obs f'.trace f'.states f'.result ∧
      obs f.trace f.states f.result = obs u.trace u.states (sameResult u.result) ∧
      f.tracker.consumed = f'.tracker.consumed ∧
      f.tracker.remainingFuel + B' = f'.tracker.remainingFuel + B := by
  obtain ⟨f, hf, _, _, _, hiff, hge, _, hsum⟩ := fuel_does_not_steer m n s u h B hB
  obtain ⟨f', hf', _, _, _, hiff', hge', _, hsum'⟩ := fuel_does_not_steer m n s u h B' hB'
  obtain ⟨ht, hs⟩ := hiff.mpr hb
  obtain ⟨ht', hs'⟩ := hiff'.mpr hb'
  obtain ⟨hr, hc⟩ := hge hb
  obtain ⟨hr', hc'⟩ := hge' hb'
  refine ⟨f, f', hf, hf', ?_, ?_, ?_, ?_⟩
  · rw [ht, hs, hr, ht', hs', hr']
  · rw [ht, hs, hr]
  · rw [hc, hc']
  · omega

example : thr (["Lookup", "Emit"] : List String) ≤ 4294967296 ∧ thr ["Lookup", "Emit"] ≤ 18446744073709551615 := by decide +kernel

/-- WHO CAN SEE THE LEVELS.  The readers of `fuel_tracker` / `fuel_levels()` / `.remaining()` /
    `.consumed()` in the crate (and minijinja-contrib), regenerated from the sources with a class
    per row, are: the charge in `eval_impl` and the body of the Rust API `State::fuel_levels`.
    No row is classed "reachable from template output" (a `fmt` of a `Debug`/`Display` impl, a
    builtin function/filter/test, a value object, the output machinery). -/
theorem no_budget_observer :
    MJ.Gen.fuelReaders = [
      ("vm/mod.rs", "fn eval_impl", "reads fuel_tracker", "accounting"),
      ("vm/state.rs", "fn fuel_levels", "reads fuel_tracker", "rust api State::fuel_levels"),
      ("vm/state.rs", "fn fuel_levels", "reads levels", "rust api State::fuel_levels")] ∧
    MJ.Gen.fuelReaders.all (fun r => r.2.2.2 != "reachable from template output") = true :=
  ⟨rfl, by decide +kernel⟩

/-- Every evaluation reads the budget when its `State` is created.
    * `set_fuel(None)` — also after an earlier `set_fuel(Some(_))` — is unmetered: the unlimited run,
      `fuel_levels() = None`;
    * the last `set_fuel` wins, a clone carries the budget of the moment it was taken and is not
      affected by a later `set_fuel` on the original;
    * `set_fuel(Some(B))` is `runFuel` from a fresh tracker with `B`: renders do not share fuel. -/
theorem config_path {S E : Type} (m : Machine S E) (n : Nat) (s : S) (e : EnvCfg) (a : Option Nat) (B : Nat) :
    m.render n ((e.setFuel a).setFuel none) s =
      (m.run n s).map (fun u => { trace := u.trace, states := u.states, result := sameResult u.result, levels := none }) ∧
    ((e.setFuel a).setFuel (some B)).fuel = some B ∧
    ((e.setFuel (some B)).clone.fuel = some B ∧ (((e.setFuel (some B)).clone, (e.setFuel (some B)).setFuel a).1).fuel = some B) ∧
    m.render n (e.setFuel (some B)) s =
      (m.runFuel n (Tracker.new B) s).map (fun f =>
        { trace := f.trace, states := f.states, result := f.result,
          levels := some (f.tracker.consumed, f.tracker.remainingFuel) }) := by
  refine ⟨rfl, rfl, ⟨rfl, rfl⟩, rfl⟩

example : (({ fuel := some 5 } : EnvCfg).setFuel none).fuel = none ∧ newTracker { fuel := some 7 } = some (Tracker.new 7) := by decide +kernel

/-- the budget semantics through the configuration path: for every machine whose unlimited run
    terminates, rendering with `set_fuel(Some(B))` gives the unlimited result iff `B ≥ thr`, else
    out-of-fuel, and the reported levels add up to `B` -/
theorem render_threshold_exact {S E : Type} (m : Machine S E) (n : Nat) (s : S) (u : URun S E)
    (h : m.run n s = some u) (e : EnvCfg) (B : Nat) (hB : B < u64Bound) :
    ∃ r, m.render n (e.setFuel (some B)) s = some r ∧
      (thr u.trace ≤ B → r.trace = u.trace ∧ r.states = u.states ∧ r.result = sameResult u.result) ∧
      (B < thr u.trace → r.result = .error .outOfFuel) ∧
      (∃ c l, r.levels = some (c, l) ∧ c + l = B) := by
  obtain ⟨f, hf, _, _, _, hiff, hge, hlt, hsum⟩ := fuel_does_not_steer m n s u h B hB
  refine ⟨{ trace := f.trace, states := f.states, result := f.result,
            levels := some (f.tracker.consumed, f.tracker.remainingFuel) },
          by simp [Machine.render, newTracker, EnvCfg.setFuel, hf], ?_, ?_, ⟨_, _, rfl, hsum⟩⟩
  · intro hb
    exact ⟨(hiff.mpr hb).1, (hiff.mpr hb).2, (hge hb).1⟩
  · intro hb
    exact (hlt hb).1

example : ∃ u, (({ fetch := fun k => if k = 0 then none else some "Emit", exec := fun k => .ok (k - 1) } : Machine Nat Unit).run 5 2) = some u := ⟨_, rfl⟩

/-- ENTRY POINTS.  In the call graph regenerated from the sources every public way to start an
    evaluation — `Template::render`, `render_captured`, `render_captured_to`, `Template::new_state`,
    `Expression::eval`, `Environment::render_str`, `render_named_str`, `empty_state` — reaches
    `State::new`, where the tracker is created from `env.fuel()` (`uses_as_modelled`). -/
theorem entry_points_reach_state_new :
    ["Template::render", "Template::render_captured", "Template::render_captured_to", "Template::new_state",
     "Expression::eval", "Environment::render_str", "Environment::render_named_str", "Environment::empty_state"].all
      (reaches MJ.Gen.fuelEntryCalls "State::new" 8) = true := by decide +kernel

/-- WRAPPERS PRESERVE OUT-OF-FUEL.  However deep the activation in which the tank ran empty is
    nested, and whatever frames the error passes on its way up — propagation (`?`) or a wrapper
    that keeps the original as `source()` (include: `BadInclude`, parent block: `EvalBlock`) — the
    error the caller of `render` receives still has `OutOfFuel` as its root cause, and the kinds
    around it are exactly the kinds of the wrapping frames.  A frame that *replaces* the error
    (new `Error` from the text of the old one) destroys this — that is the hypothesis tied to the
    sources by `error_consumers_keep_source`. -/
theorem wrappers_preserve_out_of_fuel (hs : List Handler) (e : RErr) (h : ∀ x ∈ hs, x.keepsSource = true) :
    (passThrough hs e).rootIsOutOfFuel = e.rootIsOutOfFuel := by
  induction hs generalizing e with
  | nil => rfl
  | cons x rest ih =>
    rw [passThrough_cons, ih _ fun y hy => h y (List.mem_cons_of_mem _ hy)]
    cases x with
    | propagate | wrapKeepingSource => rfl
    | replace k => cases h _ List.mem_cons_self

example : (passThrough [.propagate, .wrapKeepingSource "BadInclude", .propagate, .wrapKeepingSource "EvalBlock"] .outOfFuel).rootIsOutOfFuel = true
    ∧ (passThrough [.propagate, .wrapKeepingSource "BadInclude", .propagate, .wrapKeepingSource "EvalBlock"] .outOfFuel).wrapperKinds = ["EvalBlock", "BadInclude"]
    ∧ (passThrough [.propagate, .replace "InvalidOperation", .wrapKeepingSource "EvalBlock"] .outOfFuel).rootIsOutOfFuel = false := by decide +kernel

/-- the only wrappers that appear around the root cause are those the frames put there -/
theorem wrapper_kinds_come_from_frames (hs : List Handler) (e : RErr) (h : ∀ x ∈ hs, x.keepsSource = true) :
    (passThrough hs e).wrapperKinds =
      (hs.filterMap fun x => match x with | .wrapKeepingSource k => some k | _ => none).reverse ++ e.wrapperKinds := by
  induction hs generalizing e with
  | nil => simp [passThrough]
  | cons x rest ih =>
    rw [passThrough_cons, ih _ fun y hy => h y (List.mem_cons_of_mem _ hy)]
    cases x with
    | propagate => simp [Handler.apply]
    | wrapKeepingSource k => simp [Handler.apply, RErr.wrapperKinds]
    | replace k => cases h _ List.mem_cons_self

example : (passThrough [.wrapKeepingSource "BadInclude", .wrapKeepingSource "BadInclude"] .outOfFuel).wrapperKinds = ["BadInclude", "BadInclude"] := by decide +kernel

def keepsOriginal (d : String) : Bool :=
  d == "propagates original" || d == "wraps, original kept as source" ||
  d == "io error of the writer takes precedence, else original"

def notAnEvaluationError : List (String × String × String) :=
  [("vm/macro_object.rs", "prepare_args", "var:kwargs"), ("vm/mod.rs", "eval_impl", "var:n")]

/-- WHO CONSUMES AN ERROR OF A NESTED EVALUATION.  Table regenerated from `minijinja/src/**`
    (outside compiler/, vendor/): every `map_err(`, `.ok()`, `unwrap_or*`, `or_else(`, `.or(`, `map_or*(`,
    `is_err()`, `is_ok_and(`, `is_err_and(`, `if let Err(`, `if let Ok(`, `Err(_)` and `Err(e) =>` whose
    consumed value comes from a call that receives the
    `State`, starts an evaluation, or could not be resolved; with what happens to the original.
    Every such site propagates the original, wraps it keeping it as `source()`, or (the two
    `*_to_write` entry points) reports the writer's I/O error instead when the writer had failed —
    except the listed rows, which are not errors of an evaluation at all:
    * `macro_object.rs prepare_args var:kwargs` — an `Option<Kwargs>` out of a tuple pattern;
      `.get("caller").ok()` is a map lookup on the macro's own keyword arguments;
    * `vm/mod.rs eval_impl var:n` — the `Option<usize>` operand of `UnpackList(s)`.
    (The remaining sites of the crate consume values of calls that do not get the `State`:
    `MJ.Gen.fuelErrConsumersNoVm` of them.) -/
theorem error_consumers_keep_source :
    MJ.Gen.fuelErrConsumers.all (fun r =>
      keepsOriginal r.2.2.2.2.2 || notAnEvaluationError.contains (r.1, r.2.1, r.2.2.1)) = true ∧
    (MJ.Gen.fuelErrConsumers.filter (fun r => r.2.2.2.2.2 == "wraps, original kept as source")).map (fun r => r.2.1)
      = ["perform_include", "perform_super"] := by decide +kernel

/-- WHO TOUCHES THE TRACKER.  Every occurrence of `fuel_tracker`, `FuelTracker`, `fuel_levels`,
    `.track(`, `.remaining()`, `.consumed()`, `.fuel()`, `set_fuel`, `self.fuel` and `State::new(`
    in `minijinja/src/**` and `minijinja-contrib/src/**` outside `vm/fuel.rs` (regenerated from the
    sources on every run) is one of the modelled ones:
    * the budget is configuration of the `Environment` (`set_fuel` / `fuel`);
    * `State::new` creates the one tracker of a render from `env.fuel()`; states are only created
      by `Executor::eval` (a render), `Template::new_state` and `Environment::empty_state`
      (stand-alone states for API users) — never for a nested evaluation;
    * `eval_impl` borrows it mutably and calls `track` (nothing else, once);
    * `State::fuel_levels` reads `consumed()` / `remaining()`.
    In particular no dispatch code, filter, test or function reads or writes it, nothing copies,
    replaces or restores it: the `fetch`/`exec` functions of the machine model do not depend on it. -/
theorem uses_as_modelled :
    MJ.Gen.fuelUses = [
      ("environment.rs", "fn empty_state", "State::new"),
      ("environment.rs", "fn fuel", "self.fuel"),
      ("environment.rs", "fn set_fuel", "self.fuel:assign"),
      ("environment.rs", "impl Environment", "set_fuel:mut:def"),
      ("template.rs", "fn new_state", "State::new"),
      ("vm/mod.rs", "fn eval", "State::new:mut"),
      ("vm/mod.rs", "fn eval_impl", "fuel_tracker:mut"),
      ("vm/mod.rs", "fn eval_impl", "track()"),
      ("vm/state.rs", "<top>", "FuelTracker:import"),
      ("vm/state.rs", "fn fuel_levels", "fuel_tracker"),
      ("vm/state.rs", "fn fuel_levels", "remaining()+consumed()"),
      ("vm/state.rs", "fn new", "fuel_tracker+FuelTracker+env.fuel()"),
      ("vm/state.rs", "fn new_for_env", "State::new"),
      ("vm/state.rs", "impl State", "fuel_levels:def"),
      ("vm/state.rs", "struct State", "fuel_tracker+FuelTracker")] := rfl

/-- WHERE IT IS CHARGED.  In `eval_impl` the landmarks appear exactly once each and in this order:
    the `loop`, the instruction fetch, (the verification hook,) the mutable borrow of the tracker,
    `ctx_ok!(tracker.track(instr))` — an error aborts the activation — and only then the
    `match instr` dispatch; `track` is called nowhere else in `vm/mod.rs`.  This is the shape of
    `Machine.runFuel` / `NMachine.runFuel`. -/
theorem track_before_dispatch :
    MJ.Gen.fuelTrackSite = ["loop", "fetch", "hook", "borrow", "track-or-abort", "dispatch"] := rfl

/-- what was wrong before the repair (`remaining: fuel as isize`, checked `-=`, `<= 0`), for an
    instruction of cost 1: the largest budget failed on the first charge and `2^63` panicked while
    `2^63 − 1` worked; the repaired tracker accepts all three -/
theorem legacy_defect :
    Legacy.track (Legacy.new 18446744073709551615) 1 = .ok .outOfFuel ∧
    Legacy.track (Legacy.new 9223372036854775808) 1 = .panic ∧
    Legacy.track (Legacy.new 9223372036854775807) 1 = .ok (.ok ⟨9223372036854775807, 9223372036854775806⟩) ∧
    (Tracker.new 18446744073709551615).track 1 = .ok ⟨18446744073709551615, 18446744073709551614⟩ ∧
    (Tracker.new 9223372036854775808).track 1 = .ok ⟨9223372036854775808, 9223372036854775807⟩ := by decide +kernel

/-- THE COST TABLE IS TOTAL.  `MJ.Gen.instrVariants` = every variant of `enum Instruction` with its
    `#[cfg(feature = …)]`, `MJ.Gen.fuelCostArms` = every arm of `fuel_for_instruction` with its `#[cfg]`
    and cost, both regenerated from the sources on every run.  For the four feature sets over
    {`macros`, `multi_template`}:
    * every arm that is compiled names a variant that exists in that configuration (otherwise the
      crate does not compile there — the defect repaired by f3f0dd2: `LoadBlocks` in the `macros` arm);
    * the variant names are distinct, every variant has exactly one row, every cost is 0 or 1;
    * the cost of a variant is the same in every configuration in which it exists, and it is the
      model's `costOf`;
    * the full configuration has all variants; every explicit row of `MJ.Gen.fuelCosts`, the table
      `costOf` reads, names a variant. -/
theorem cost_table_total :
    (MJ.Gen.fuelCostArms.all fun a => featureSets.all fun fs => !cfgOn fs a.2.1 || (variantsUnder fs).contains a.1) = true ∧
    (MJ.Gen.instrVariants.map (·.1)).Nodup ∧
    (featureSets.all fun fs =>
      (costTable fs).map (·.1) == variantsUnder fs && (costTable fs).all (fun r => r.2 == 0 || r.2 == 1)) = true ∧
    (featureSets.all fun fs => (variantsUnder fs).all fun n => costUnder fs n == costOf n) = true ∧
    (variantsUnder allFeatures = MJ.Gen.instrVariants.map (·.1)) ∧
    (MJ.Gen.fuelCosts.all fun r => (MJ.Gen.instrVariants.map (·.1)).contains r.1) = true := by
  decide +kernel

example : costUnder ["multi_template"] "LoadBlocks" = 0 ∧ costUnder [] "Emit" = 1 ∧ (variantsUnder ["macros"]).contains "LoadBlocks" = false
    ∧ (costTable allFeatures).length = MJ.Gen.instrVariants.length := by decide +kernel

/-- every instruction costs at most 1 (also names that are no variants: the `_` arm), so a render
    never consumes more than it dispatches and its threshold is at most the trace length + 1 -/
theorem cost_at_most_one : (∀ n, costOf n ≤ 1) ∧ (∀ trace, total trace ≤ trace.length) ∧ (∀ trace, thr trace ≤ trace.length + 1) := by
  have h : ∀ n, costOf n ≤ 1 := costOf_le_one (by decide) (by decide)
  exact ⟨h, total_le_length h, fun trace => thr_le_iff.mpr (.inr (Nat.lt_succ_of_le (total_le_length h trace)))⟩

example : costOf "Emit" ≤ 1 ∧ costOf "no such instruction" ≤ 1 := by decide +kernel

/-- the call edges among the nested-evaluation functions; a `callable::call` on a macro value is
    `Macro::call` -/
def nestedGraph : List (String × List String) :=
  (MJ.Gen.nestedFns.map fun r => (r.1, r.2.2.2.2)) ++ [("callable::call", ["Macro::call"])]

/-- WHO CREATES, REPLACES, CLONES OR RESTORES A TRACKER OR A STATE.  Regenerated from
    `minijinja/src/**` and `minijinja-contrib/src/**`: every `State { … }` / `FuelTracker { … }` struct
    literal, every call of `State::new` / `State::new_for_env` / `vm::eval` / `Executor::eval`, every
    `FuelTracker::new`, every assignment to, method call on, mutable borrow of and
    `mem::replace/take/swap` over `fuel_tracker`, every overwrite of a whole state (`*state = …`), and
    the derives and `Clone`/`Copy`/`Default` impls of both types.  The list is exactly:
    * the one constructor `State::new` (literal, field initialiser, `FuelTracker::new`);
    * its callers, the documented roots: `Executor::eval` (reached from `Template::_eval`,
      `Expression::_eval` and the machinery re-export `lib.rs eval`), `Template::new_state`, and
      `State::new_for_env` ← `Environment::empty_state`;
    * the mutable borrow in `eval_impl` (the charge);
    * `FuelTracker::new`'s own literal; neither type derives or implements `Clone`, `Copy`, `Default`.
    A second creation or replacement site (`seeded/C13-1`, `C13-5`) changes this list. -/
theorem tracker_sites_as_modelled :
    MJ.Gen.trackerSites = [
      ("environment.rs", "fn empty_state", "State::new_for_env()"),
      ("expression.rs", "fn _eval", "vm::eval()"),
      ("lib.rs", "fn eval", "vm::eval()"),
      ("template.rs", "fn _eval", "vm::eval()"),
      ("template.rs", "fn new_state", "State::new()"),
      ("vm/fuel.rs", "fn new", "FuelTracker-literal"),
      ("vm/fuel.rs", "struct FuelTracker", "derive:none"),
      ("vm/mod.rs", "fn eval", "Executor::eval()"),
      ("vm/mod.rs", "fn eval", "State::new()"),
      ("vm/mod.rs", "fn eval_impl", "fuel_tracker:mut-borrow"),
      ("vm/state.rs", "fn new", "FuelTracker::new"),
      ("vm/state.rs", "fn new", "State-literal"),
      ("vm/state.rs", "fn new", "fuel_tracker:field-init"),
      ("vm/state.rs", "fn new_for_env", "State::new()"),
      ("vm/state.rs", "struct State", "derive:none"),
      ("vm/state.rs", "struct State", "fuel_tracker:field-init")] := rfl

/-- EVERY NESTED EVALUATION RUNS ON ITS CALLER'S STATE.  For the 22 functions through which a nested
    evaluation is entered (regenerated: how they get the state, creation/render/tracker tokens in
    their bodies, whom they call): each takes the `State` by `&mut`, none contains a creation token
    (`State {`, `State::new`, `vm::eval`, `FuelTracker`, an assignment/replace/take of `fuel_tracker`,
    `*state =`, `.new_state(`, `.empty_state(`, `.render*(`, `.eval(`), none but `eval_impl` mentions
    `fuel_tracker`, and every entry reaches the single charge site `Executor::eval_impl`. -/
theorem nested_evaluations_share_state :
    (MJ.Gen.nestedFns.all fun r => r.2.1 == "&mut" && r.2.2.1 == "" &&
      (r.2.2.2.1 == "" || r.1 == "Executor::eval_impl")) = true ∧
    (["State::render_block", "State::render_block_to_write", "State::call_macro", "State::apply_filter",
      "State::perform_test", "Macro::call", "Value::call", "Value::call_method", "vm::call_block", "vm::eval_macro",
      "Executor::perform_include", "Executor::perform_super", "Executor::call_block", "Executor::eval_macro"].all
        (reaches nestedGraph "Executor::eval_impl" 8)) = true ∧
    MJ.Gen.nestedFns.length = 22 := by decide +kernel

/-- ONE TRACKER PER RENDER.  A call tree whose nested activations all share the caller's tracker
    (what the two table theorems above say about the code) is accounted exactly like its flattened
    instruction trace: all trace-level theorems apply to it. -/
theorem one_tracker_per_render (t : Tracker) (e : PEvs) (h : e.allShare = true) :
    runTreeP t e = runFrom t (flatten e.erase) := by
  rw [runTreeP_share t e h, call_tree_flattens]

example : (PEvs.call "Include" .share (.instr "Emit" (.call "CallFunction" .share (.instr "Emit" .nil) .nil)) (.instr "Emit" .nil)).allShare = true
    ∧ flatten (PEvs.call "Include" .share (.instr "Emit" (.call "CallFunction" .share (.instr "Emit" .nil) .nil)) (.instr "Emit" .nil)).erase
      = ["Include", "Emit", "CallFunction", "Emit", "Emit"] := by decide +kernel

/-- … and that hypothesis is needed: with ONE nested activation that runs on a fresh tracker (a
    second creation site) or whose level is restored afterwards, the budget `c` (the cost, one below
    the threshold) succeeds instead of running out of fuel and a sufficient budget reports less
    than `c` consumed. -/
theorem second_tracker_breaks_accumulation :
    let tree (pol : Pol) := PEvs.instr "Emit" (.call "CallFunction" pol (.instr "Emit" (.instr "Emit" .nil)) (.instr "Emit" .nil))
    let c := total (flatten (tree .share).erase)
    c ≠ 0 →
      (runTreeP (Tracker.new c) (tree .share)).status = .outOfFuel ∧
      (runTreeP (Tracker.new c) (tree (.fresh c))).status = .done ∧
      (runTreeP (Tracker.new c) (tree .restore)).status = .done ∧
      (runTreeP (Tracker.new (c + 1)) (tree .share)).tracker.consumed = c ∧
      (runTreeP (Tracker.new (c + 1)) (tree (.fresh (c + 1)))).tracker.consumed < c ∧
      (runTreeP (Tracker.new (c + 1)) (tree .restore)).tracker.consumed < c := by
  decide +kernel

/-- CONSUMPTION ADDS UP OVER AN EDGE.  Whatever the callees execute (their traces are parameters:
    empty, one `EmitRaw`, free instructions only, anything) and wherever they are spliced into the
    edge's own instructions: the edge consumes the cost of its own instructions plus what every
    callee consumes when rendered on its own, its threshold is that sum + 1 (0 when nothing is
    charged), and for every `u64` budget outcome and levels are the ones predicted from the parts
    (`edgeRun`: success with exactly that consumption at or above the threshold, out of fuel with an
    empty tank below). -/
theorem edge_consumption_adds_up {callees : List (List String)} {frame s : List String} (h : Splice callees frame s)
    (B : Nat) (hB : B < u64Bound) :
    total s = total frame + calleesTotal callees ∧ thr s = edgeThr frame callees ∧
    ((runFuel B s).status, (runFuel B s).tracker.consumed, (runFuel B s).tracker.remainingFuel) = edgeRun B frame callees := by
  have ht : total s = edgeTotal frame callees := splice_total h
  have hthr : thr s = edgeThr frame callees := by simp only [thr, edgeThr, ht]
  refine ⟨ht, hthr, ?_⟩
  obtain ⟨hge, hlt, _⟩ := threshold_exact s B hB
  rw [edgeRun, ← hthr, ← ht]
  split
  · next hb => rw [(hge hb).1, (levels_of_thr_le hb).1, (levels_of_thr_le hb).2]
  · next hb =>
    have hb := Nat.lt_of_not_le hb
    rw [(hlt hb).1, (levels_of_lt_thr hb).1, (levels_of_lt_thr hb).2]

/-- the same for one callee run `m` times (an include in a loop, a macro called twice) -/
theorem edge_repeated_callee {frame s callee : List String} (m : Nat) (h : Splice (List.replicate m callee) frame s) :
    total s = total frame + m * total callee := by
  rw [splice_total h, calleesTotal_replicate]

/-- an include of a text-only partial in a loop over two items -/
example : Splice (List.replicate 2 ["EmitRaw"]) ["LoadConst", "Include", "Jump", "LoadConst", "Include", "Jump"]
      ["LoadConst", "Include", "EmitRaw", "Jump", "LoadConst", "Include", "EmitRaw", "Jump"] :=
  Splice.own _ (Splice.own _ (Splice.callee ["EmitRaw"] (Splice.own _ (Splice.own _ (Splice.own _
    (Splice.callee ["EmitRaw"] (Splice.own _ Splice.nil)))))))

/-- an include whose callee is a single `EmitRaw` (literal text only), an empty callee, and what
    `edgeRun` predicts for such an include one below its threshold and at the threshold -/
example :
    Splice [["EmitRaw"]] ["LoadConst", "Include", "EmitRaw"] ["LoadConst", "Include", "EmitRaw", "EmitRaw"] ∧
    Splice [[]] ["LoadConst", "Include"] ["LoadConst", "Include"] ∧
    edgeRun 3 ["LoadConst", "Include"] [["EmitRaw"]] = (.outOfFuel, 3, 0) ∧
    edgeRun 4 ["LoadConst", "Include"] [["EmitRaw"]] = (.done, 3, 1) := by
  refine ⟨?_, ?_, by decide +kernel, by decide +kernel⟩
  · exact Splice.own _ (Splice.own _ (Splice.callee ["EmitRaw"] (Splice.own _ Splice.nil)))
  · exact Splice.callee [] (Splice.own _ (Splice.own _ Splice.nil))

/-- … and why every executed instruction has to go through the charge: an engine that does the
    work of a callee outside the metered loop (charged trace = the edge's own instructions only)
    accepts budgets below the threshold of the work that was really done and reports less than it
    consumed; the gap is exactly what the callees cost. -/
theorem uncharged_work_breaks_accumulation {callees : List (List String)} {frame s : List String} (h : Splice callees frame s)
    (hc : calleesTotal callees ≠ 0) (B : Nat) (hB : thr frame ≤ B) :
    (unchargedRun B frame).status = .done ∧ (unchargedRun B frame).tracker.consumed + calleesTotal callees = total s ∧
    thr frame < thr s := by
  have ht := splice_total h
  refine ⟨by rw [unchargedRun, runFuel_of_thr_le hB], by rw [unchargedRun, (levels_of_thr_le hB).1, ht],
    Nat.lt_of_not_le fun hle => ?_⟩
  have := thr_le_iff.mp hle
  have : thr frame ≤ total frame + 1 := thr_le_iff.mpr (.inr (Nat.lt_succ_self _))
  omega

example : calleesTotal [["EmitRaw"]] ≠ 0 ∧ thr ["LoadConst", "Include"] ≤ 3 := by decide +kernel

/-- classification of a row `(file, function, instruction arm, kind)` of the regenerated table of
    every place in `minijinja/src` (outside the compiler, which builds instructions, and `vm/fuel.rs`,
    which prices them) that writes to the render's `Output`, fetches an instruction, starts an
    evaluation of instructions, or looks at an `Instruction` outside the dispatch loop -/
def outputSiteOk : String × String × String × String → Bool
  | (file, fn, arm, kind) =>
    if ["write:write_str", "write:write!", "write:write_escaped", "write:write_fmt", "write:env.format", "write:target()"].contains kind then
      -- output is written by the arms of EmitRaw and Emit only
      file == "vm/mod.rs" && fn == "fn eval_impl" && (arm == "EmitRaw" || arm == "Emit")
    else if kind == "fetch" then
      -- the one fetch at the head of the loop (in front of the charge); `BlockStack::instructions`
      -- picks an instruction LIST of the block stack
      (file == "vm/mod.rs" && fn == "fn eval_impl" && arm == "-") || (file == "vm/state.rs" && fn == "fn instructions")
    else if kind == "eval-call:eval_impl" then file == "vm/mod.rs" && fn == "fn do_eval"
    else if kind == "eval-call:do_eval" then file == "vm/mod.rs" && (fn == "fn eval_macro" || fn == "fn eval_state")
    else if kind == "eval-call:eval_state" then
      file == "vm/mod.rs" && ["fn eval", "fn call_block", "fn perform_include", "fn perform_super"].contains fn
    else false  -- in particular: any pattern on an `Instruction` outside the dispatch loop

/-- OUTPUT SITES ARE INSTRUCTION ARMS.  In the sources as they are now every write to the render's
    output sits in an arm of the dispatch `match instr` of `eval_impl` (after the charge of that
    instruction), instructions are fetched at one place (the head of that loop), and the nested
    evaluations of `perform_include` / `perform_super` / `call_block` / `eval_macro` / `Executor::eval`
    only go through `eval_state → do_eval → eval_impl`: none of them writes output, fetches or
    inspects an instruction itself.  This is the hypothesis under which the executed trace of an edge
    is a `Splice` of the callee traces into the edge's own instructions (`edge_consumption_adds_up`). -/
theorem output_sites_are_instruction_arms :
    MJ.Gen.outputSites.all outputSiteOk = true ∧
    (MJ.Gen.outputSites.filter (fun r => r.1 == "vm/mod.rs" && r.2.2.2 == "fetch")).length = 1 ∧
    MJ.Gen.outputSites.contains ("vm/mod.rs", "fn eval_impl", "EmitRaw", "write:write_str") = true ∧
    MJ.Gen.outputSites.contains ("vm/mod.rs", "fn perform_include", "-", "eval-call:eval_state") = true := by decide +kernel

/-- the classification is not vacuous: a fast path that writes in `perform_include` is refused -/
example : outputSiteOk ("vm/mod.rs", "fn perform_include", "-", "write:write_str") = false
    ∧ outputSiteOk ("template.rs", "fn _render", "-", "instruction-pattern") = false := by decide +kernel

/-- the cost computed on the program — a function of the context — is the total of the trace the
    unlimited run executes, and both agree on whether the render ends with an error of its own -/
theorem prog_cost_is_total (c : Ctx) (p : P) :
    (cost c [] p).1 = total (exec c [] p).1 ∧ (cost c [] p).2 = (exec c [] p).2 := by
  rw [cost_eq]; exact ⟨rfl, rfl⟩

/-- the threshold of a structured program in a context -/
def progThr (c : Ctx) (p : P) : Nat := if (cost c [] p).1 = 0 then 0 else (cost c [] p).1 + 1

/-- THRESHOLD FOR PROGRAMS WITH DATA-DEPENDENT LOOPS.  For every structured program, every context
    (trip counts and failing instructions as functions of the iteration path) and every `u64` budget:
    at or above `cost + 1` (0 when nothing is charged) the render dispatches exactly the unlimited
    run's instructions, ends the same way (normally or with the program's own error) and consumes
    exactly `cost`; below it ends out of fuel after a proper prefix; the levels add up. -/
theorem prog_threshold_exact (c : Ctx) (p : P) (B : Nat) (hB : B < u64Bound) :
    (progThr c p ≤ B →
      (runProg B c p).1 = (runProgNoFuel c p).1 ∧ (runProg B c p).2.executed = (runProgNoFuel c p).2 ∧
      (runProg B c p).2.tracker.consumed = (cost c [] p).1) ∧
    (B < progThr c p →
      (runProg B c p).1 = .outOfFuel ∧ (runProg B c p).2.executed <+: (runProgNoFuel c p).2 ∧
      (runProg B c p).2.executed.length < (runProgNoFuel c p).2.length) ∧
    (runProg B c p).2.tracker.consumed + (runProg B c p).2.tracker.remainingFuel = B := by
  obtain ⟨hge, hlt, hsum, _, _⟩ := threshold_exact (exec c [] p).1 B hB
  have hc : (cost c [] p).1 = total (exec c [] p).1 := (prog_cost_is_total c p).1
  have hthr : progThr c p = thr (exec c [] p).1 := by simp [progThr, thr, hc]
  refine ⟨?_, ?_, hsum⟩
  · intro h
    obtain ⟨h1, h2, h3⟩ := hge (hthr ▸ h)
    refine ⟨?_, h2, by rw [hc]; exact h3⟩
    simp only [runProg, runProgNoFuel, h1]
  · intro h
    obtain ⟨h1, h2, h3⟩ := hlt (hthr ▸ h)
    refine ⟨?_, h2, h3⟩
    simp only [runProg, h1]

/-- a loop whose body costs the same `k` in every iteration (and does not fail): the cost is linear in
    the trip count, which comes from the context -/
theorem uniform_loop_cost_linear (c : Ctx) (id : Nat) (head iter : List String) (body : P) (back exit : List String) (k : Nat)
    (h : ∀ i, i < c.count id [] → cost c [i] body = (k, true)) :
    cost c [] (.loop id head iter body back exit)
      = (total head + c.count id [] * (total iter + k + total back) + total exit, true) := by
  simp only [cost, List.cons_append]
  rw [chainN, chainN_map_uniform _ _ (total iter + k + total back)]
  · simp [chainN, Nat.add_assoc]
  · intro i hi
    simp [chainN, h i (List.mem_range.mp hi), Nat.add_assoc]

/-- a render that fails for a reason of its own -/
theorem error_threshold_exact (c : Ctx) (p : P) (hfail : (exec c [] p).2 = false) (B B' : Nat)
    (hB : B < u64Bound) (hB' : B' < u64Bound) :
    (runProgNoFuel c p).1 = .ownError ∧
    (progThr c p ≤ B → (runProg B c p).1 = .ownError ∧ (runProg B c p).2.executed = (exec c [] p).1) ∧
    (B < progThr c p → (runProg B c p).1 = .outOfFuel) ∧
    (progThr c p ≤ B → progThr c p ≤ B' →
      (runProg B c p).1 = (runProg B' c p).1 ∧ (runProg B c p).2.executed = (runProg B' c p).2.executed ∧
      (runProg B c p).2.tracker.consumed = (runProg B' c p).2.tracker.consumed) := by
  have hn : (runProgNoFuel c p).1 = .ownError := by simp [runProgNoFuel, hfail]
  obtain ⟨hge, hlt, _⟩ := prog_threshold_exact c p B hB
  obtain ⟨hge', _, _⟩ := prog_threshold_exact c p B' hB'
  refine ⟨hn, ?_, fun h => (hlt h).1, ?_⟩
  · intro h
    obtain ⟨h1, h2, _⟩ := hge h
    exact ⟨h1.trans hn, h2⟩
  · intro h h'
    obtain ⟨h1, h2, h3⟩ := hge h
    obtain ⟨h1', h2', h3'⟩ := hge' h'
    exact ⟨h1.trans h1'.symm, h2.trans h2'.symm, h3.trans h3'.symm⟩

/-- CONDITIONALS, FOR-ELSE, LOOP FILTERS.  A conditional costs what the side selected by the data
    costs (the test and the `JumpIfFalse` in front of it are ordinary instructions of the enclosing
    sequence), so `prog_threshold_exact` covers programs with `{% if %}`/`{% elif %}`/`{% else %}`, loops
    with an else part and loops with a filter: their cost is still a function of the context. -/
theorem branch_cost_selects (c : Ctx) (path : List Nat) (id : Nat) (a b : P) :
    cost c path (.branch id a b) = (if c.cond id path then cost c path a else cost c path b) ∧
    exec c path (.branch id a b) = (if c.cond id path then exec c path a else exec c path b) := by
  simp [cost, exec]

/-- `{% for %}…{% else %}…{% endfor %}`: the else part (first side of the conditional that follows the
    loop, taken when the loop did not iterate) is charged exactly when the trip count is 0; otherwise
    the cost is that of the loop (with the `PushDidNotIterate`, `PopLoopFrame`, `JumpIfFalse` that
    follow it as `after`) -/
theorem for_else_cost (c : Ctx) (lid cid : Nat) (head iter : List String) (body : P) (back exit : List String) (after : List String) (els : P)
    (hc : c.cond cid [] = decide (c.count lid [] = 0)) (hl : (cost c [] (.loop lid head iter body back exit)).2 = true) :
    cost c [] (.seq (.loop lid head iter body back exit) (.seq (afterP after) (.branch cid els .skip)))
      = if c.count lid [] = 0 then ((cost c [] (.loop lid head iter body back exit)).1 + (total after + (cost c [] els).1), (cost c [] els).2)
        else ((cost c [] (.loop lid head iter body back exit)).1 + (total after + 0), true) := by
  have ha : cost c [] (afterP after) = (total after, true) := afterP_cost c [] after
  have hseq : ∀ (a b : P), cost c [] (.seq a b) = chainN [cost c [] a, cost c [] b] := fun a b => by simp only [cost]
  have hbr : cost c [] (.branch cid els .skip) = if c.count lid [] = 0 then cost c [] els else (0, true) := by
    simp only [cost, hc, decide_eq_true_eq]
  generalize hk : cost c [] (.loop lid head iter body back exit) = k at hl ⊢
  obtain ⟨k1, k2⟩ := k
  simp only at hl
  subst hl
  rw [hseq, hseq, hk, ha, hbr]
  by_cases h0 : c.count lid [] = 0
  · generalize cost c [] els = e
    obtain ⟨e1, e2⟩ := e
    cases e2 <;> simp [chainN, h0]
  · simp [chainN, h0]

/-- an if/else inside a loop over three items whose test holds for the items 0 and 2, a loop with
    an else part that did not iterate, and a fallible `Rem` -/
private def demoCtx2 : Ctx :=
  { count := fun id _ => if id = 0 then 3 else 0, fails := fun _ _ => false,
    cond := fun id path => if id = 0 then path == [0] || path == [2] else true }
private def demoProg2 : P :=
  .seq (.loop 0 ["Lookup", "PushLoop"] ["Iterate", "StoreLocal"]
      (.seq (.instr "Lookup") (.seq (.instr "JumpIfFalse") (.branch 0 (.seq (.instr "EmitRaw") (.instr "Jump")) (.mayFail "Rem" 0))))
      ["Jump"] ["Iterate", "PopLoopFrame"])
    (.seq (.loop 1 ["Lookup", "PushLoop"] ["Iterate", "StoreLocal"] (.instr "Emit") ["Jump"] ["Iterate"])
      (.seq (afterP ["PushDidNotIterate", "PopLoopFrame", "JumpIfFalse"]) (.branch 1 (.instr "EmitRaw") .skip)))

example : (exec demoCtx2 [] demoProg2).2 = true
    ∧ (exec demoCtx2 [] demoProg2).1 = ["Lookup", "PushLoop", "Iterate", "StoreLocal", "Lookup", "JumpIfFalse", "EmitRaw", "Jump", "Jump",
        "Iterate", "StoreLocal", "Lookup", "JumpIfFalse", "Rem", "Jump", "Iterate", "StoreLocal", "Lookup", "JumpIfFalse", "EmitRaw", "Jump", "Jump",
        "Iterate", "PopLoopFrame", "Lookup", "PushLoop", "Iterate", "PushDidNotIterate", "PopLoopFrame", "JumpIfFalse", "EmitRaw"]
    ∧ (cost demoCtx2 [] demoProg2).1 = total (exec demoCtx2 [] demoProg2).1 := by
  decide +kernel

/-- two nested loops: the inner trip count is the outer index (a triangle), the innermost
    instruction fails in iteration (2, 1) -/
private def demoCtx : Ctx := { count := fun id path => if id = 0 then 3 else path.getLastD 0, fails := fun _ path => path == [2, 1] }
private def demoProg : P :=
  .loop 0 ["Lookup", "PushLoop"] ["Iterate", "StoreLocal"]
    (.loop 1 ["Lookup", "PushLoop"] ["Iterate", "StoreLocal"] (.seq (.mayFail "IntDiv" 0) (.instr "Emit")) ["Jump"] ["Iterate", "PopLoopFrame"])
    ["Jump"] ["Iterate", "PopLoopFrame"]

example : (exec demoCtx [] demoProg).2 = false ∧ (exec demoCtx [] demoProg).1.length = 33
    ∧ (exec { demoCtx with fails := fun _ _ => false } [] demoProg).2 = true
    ∧ (cost { demoCtx with fails := fun _ _ => false } [] demoProg).1 = total (exec { demoCtx with fails := fun _ _ => false } [] demoProg).1 := by
  decide +kernel

end MJ.C13
