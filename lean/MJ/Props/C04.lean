import MJ.Proofs.Fold
import MJ.Proofs.FoldTables
import MJ.Proofs.FoldPrimsLawful
import MJ.Proofs.FoldStmt
import MJ.Proofs.FoldCode
/-!
# C04 — compile-time evaluation is transparent: literals behave like variables

Property theorems only (helper lemmas live in `MJ/Proofs/Fold*.lean`, the model in
`MJ/Model/Fold*.lean`).

* `asConst` is the transcription of the constant folder (`Expr::as_const`, `eval_binop`,
  `eval_compare`), `evalRt` the value computed by the *unfolded* run-time code of an expression
  (short-circuit jumps, `CompareAndPreserve` chains, `op_binop!` undefined assertions …), `evalC`
  the value computed by what `compile_expr` really emits (fold first at every level, the `Neg`
  shortcut, static keyword arguments), `compileTop`/`exec` the whole-expression view.
* All theorems hold for **every** implementation `P : Prims` of the value operations that the
  folder and the VM share in the Rust code, provided `P.Lawful`: no operation returns `undefined`,
  `is_true(Bool(b)) = b`, `contains` returns a boolean.
* `Expr.WF`: what lexer and parser guarantee — no constant is `undefined`, a `Compare` node has
  at least one operator.
* The operator tables of the model (`evalBinop`, `evalCompare`, `binInstr`, `finalCompare`,
  `compareAndPreserve`, the jump chosen for `and`/`or`) are proved equal to the tables regenerated from
  the source on every run: `MJ.Fold.Tables.*_from_source` in `MJ/Proofs/FoldTables.lean`.
* `Hoist P ρ e e'`: `e'` is `e` with any subset of its literal sub-expressions (anything the folder
  evaluates) replaced by variables that `ρ` binds to the same values.
-/
namespace MJ.C04
open MJ.Fold

/-- Full-strength statement.  For all shared primitives, undefined-behaviour modes, contexts and
    well-formed expressions: (1) hoisting any subset of literals into variables bound to the same
    values changes neither the value nor the error of the compiled code; (2) code generation itself
    cannot fail, and whenever evaluation fails the failing operation is in run-time code (it was not
    folded), so the error surfaces only when that code is executed. -/
def C04_full : Prop :=
  ∀ (P : Prims), P.Lawful → ∀ (m : Mode) (ρ : Env) (e : Expr), e.WF →
    (∀ e', Hoist P ρ e e' → exec P m ρ (compileTop P e') = exec P m ρ (compileTop P e)) ∧
    (∀ err, exec P m ρ (compileTop P e) = .error err → compileTop P e = .runtime e) ∧
    (∀ err, evalRt P m ρ e = .error err → exec P m ρ (compileTop P e) = .error err)

/-! A small concrete instance of the primitives for the satisfiability examples. -/

/-- the callee of the small instance: receiver and argument values in the order the callee gets them -/
def P0callX (recv : List V) (pieces : List ArgV) : Except Err V :=
  .ok (.list (recv ++ pieces.map fun p => match p with
    | .pos v | .posSplat v | .kw _ v | .kwSplat v => v))

@[simp] def P0add (a b : V) : Except Err V :=
  match a, b with
  | .int x, .int y => .ok (.int (x + y))
  | _, _ => .error .invalidOperation

@[simp] def P0fdiv (a b : V) : Except Err V :=
  match a, b with
  | .int x, .int y => if y = 0 then .error .invalidOperation else .ok (.int (x / y))
  | _, _ => .error .invalidOperation

@[simp] def P0neg (a : V) : Except Err V :=
  match a with
  | .int x => .ok (.int (-x))
  | _ => .error .invalidOperation

def P0 : Prims where
  add := P0add
  sub _ _ := .error .invalidOperation
  mul _ _ := .error .invalidOperation
  div _ _ := .error .invalidOperation
  fdiv := P0fdiv
  rem _ _ := .error .invalidOperation
  pow _ _ := .error .invalidOperation
  neg := P0neg
  concat _ _ := .str ""
  eq a b := match a, b with
    | .int x, .int y => x == y
    | _, _ => false
  cmp a b := match a, b with
    | .int x, .int y => compare x y
    | _, _ => .eq
  contains _ _ := .ok (.bool false)
  isTrue a := match a with
    | .bool b => b
    | .int x => x != 0
    | _ => false
  mkMap ps := .map ps
  getAttr _ _ := none
  getItem c i := match c, i with
    | .list xs, .int n => if 0 ≤ n then xs[n.toNat]? else none
    | _, _ => none
  slice _ _ _ _ := .error .invalidOperation
  callKw _ _ ps ks := .ok (.list (ps ++ ks.map (·.2)))
  filter _ _ _ _ := .error (.named "UnknownFilter")
  test _ _ _ _ := .error (.named "UnknownTest")
  callX _ _ _ recv pieces := P0callX recv pieces
  foldsVariant _ := true
  codegenSpecial _ := true

theorem P0_lawful : P0.Lawful where
  add a b := by
    show Defd (P0add a b)
    unfold P0add
    split <;> simp [defd_ok, defd_error]
  sub _ _ := defd_error
  mul _ _ := defd_error
  div _ _ := defd_error
  fdiv a b := by
    show Defd (P0fdiv a b)
    unfold P0fdiv
    split <;> simp [defd_ok, defd_error, defd_ite]
  rem _ _ := defd_error
  pow _ _ := defd_error
  neg a := by
    show Defd (P0neg a)
    unfold P0neg
    split <;> simp [defd_ok, defd_error]
  concat _ _ := nofun
  contains _ _ := defd_ok.2 nofun
  mkMap _ := nofun
  isTrue_bool _ := rfl
  contains_bool _ _ _ h := ⟨false, by cases h; rfl⟩

def ρ0 : Env := fun x => if x = "v0" then some (.int 0) else if x = "v1" then some (.int 1) else none

/-- `0 and 1` -/
def e_and : Expr := .bin .and (.const (.int 0)) (.const (.int 1))
/-- `1 < 2 < 3 // 0` (the last operand fails when evaluated) -/
def e_chain : Expr := .cmp (.const (.int 1))
  (.cons .lt (.const (.int 2)) (.cons .lt (.bin .fdiv (.const (.int 3)) (.const (.int 0))) .nil))
/-- `1 // 0` -/
def e_div0 : Expr := .bin .fdiv (.const (.int 1)) (.const (.int 0))

/-! ## the folder never changes a value and never turns a failure into a success -/

theorem asConst_sound (P : Prims) (hP : P.Lawful) (e : Expr) (hw : e.WF) (v : V)
    (h : asConst P e = some v) : ∀ (m : Mode) (ρ : Env), evalRt P m ρ e = .ok v :=
  fun m ρ => asConst_sound' m ρ hP e v hw h

example : e_and.WF ∧ asConst P0 e_and = some (.int 0) :=
  ⟨by simp [e_and, Expr.WF], rfl⟩

/-- contrapositive: a run-time failure is never folded into a value -/
theorem fold_never_masks_error (P : Prims) (hP : P.Lawful) (e : Expr) (hw : e.WF) (m : Mode) (ρ : Env)
    (err : Err) (h : evalRt P m ρ e = .error err) : asConst P e = none := by
  cases hc : asConst P e with
  | none => rfl
  | some v => rw [asConst_sound P hP e hw v hc m ρ] at h; cases h

example : e_div0.WF ∧ evalRt P0 .lenient ρ0 e_div0 = .error .invalidOperation :=
  ⟨by simp [e_div0, Expr.WF], rfl⟩

/-- the code `compile_expr` emits (folding at every level, `Neg` shortcut, static keyword
    arguments) computes exactly what the unfolded run-time code computes -/
theorem fold_transparent (P : Prims) (hP : P.Lawful) (m : Mode) (ρ : Env) (e : Expr) (hw : e.WF) :
    evalC P m ρ e = evalRt P m ρ e :=
  evalC_eq_evalRt' m ρ hP e hw

theorem exec_compileTop (P : Prims) (hP : P.Lawful) (m : Mode) (ρ : Env) (e : Expr) (hw : e.WF) :
    exec P m ρ (compileTop P e) = evalRt P m ρ e := by
  unfold compileTop
  split
  · next v hv => simp [exec, asConst_sound P hP e hw v (gate_some hv) m ρ]
  · simp [exec, fold_transparent P hP m ρ e hw]

example : e_chain.WF ∧ exec P0 .strict ρ0 (compileTop P0 e_chain) = .error .invalidOperation :=
  ⟨by simp [e_chain, Expr.WF, Chain.WF], rfl⟩

/-! ## a failing constant expression is reported when executed, never when loaded -/

/-- when the folder gives up, the emitted code is the run-time code of the expression -/
theorem asConst_none_is_runtime (P : Prims) (m : Mode) (ρ : Env) (e : Expr) (h : asConst P e = none) :
    compileTop P e = .runtime e ∧ exec P m ρ (compileTop P e) = evalC P m ρ e := by
  simp [compileTop, foldFirst_none h, exec]

example : asConst P0 e_div0 = none := rfl

/-- `compileTop` is a total function (loading has no error channel in the folder); if evaluating
    the expression fails, nothing was folded at the top, the emitted code is run-time code, and
    executing it reports that same error -/
theorem load_never_fails_on_const_error (P : Prims) (hP : P.Lawful) (m : Mode) (ρ : Env) (e : Expr)
    (hw : e.WF) (err : Err) (h : evalRt P m ρ e = .error err) :
    compileTop P e = .runtime e ∧ exec P m ρ (compileTop P e) = .error err := by
  have hn := fold_never_masks_error P hP e hw m ρ err h
  refine ⟨(asConst_none_is_runtime P m ρ e hn).1, ?_⟩
  rw [exec_compileTop P hP m ρ e hw, h]

example : compileTop P0 e_div0 = .runtime e_div0 ∧
    exec P0 .lenient ρ0 (compileTop P0 e_div0) = .error .invalidOperation :=
  load_never_fails_on_const_error P0 P0_lawful .lenient ρ0 e_div0 (by simp [e_div0, Expr.WF]) _ rfl

/-! ## literals behave like variables -/

/-- replacing any subset of the literal sub-expressions by variables bound to the same values
    changes neither value nor error of the unfolded run-time semantics -/
theorem hoist_transparent_rt (P : Prims) (hP : P.Lawful) (m : Mode) (ρ : Env) (e e' : Expr)
    (hw : e.WF) (h : Hoist P ρ e e') : evalRt P m ρ e' = evalRt P m ρ e :=
  (hoist_spec ρ e e' hw h).2 hP m

/-- … nor of the code that is really emitted (where hoisting turns folded constants into run-time
    code all the way up to the root) -/
theorem hoist_transparent (P : Prims) (hP : P.Lawful) (m : Mode) (ρ : Env) (e e' : Expr)
    (hw : e.WF) (h : Hoist P ρ e e') : evalC P m ρ e' = evalC P m ρ e := by
  obtain ⟨hw', hr⟩ := hoist_spec ρ e e' hw h
  rw [fold_transparent P hP m ρ e' hw', fold_transparent P hP m ρ e hw, hr hP]

/-- `0 and 1` with the left literal hoisted: `v0 and 1` -/
example : Hoist P0 ρ0 e_and (.bin .and (.var "v0") (.const (.int 1))) := by
  simp only [e_and, Hoist]
  exact Or.inl ⟨_, _, rfl, Or.inr ⟨"v0", .int 0, rfl, rfl, rfl⟩, Or.inl rfl⟩

/-- the whole literal expression `0 and 1` hoisted -/
example : Hoist P0 ρ0 e_and (.var "v0") := by
  simp only [e_and, Hoist]
  exact Or.inr ⟨"v0", .int 0, rfl, rfl, rfl⟩

/-- `[7, 8][0]`: item access is never folded, its operands are; hoisting the index keeps the value -/
example : Hoist P0 ρ0 (.getItem (.list (.cons (.const (.int 7)) (.cons (.const (.int 8)) .nil))) (.const (.int 0)))
      (.getItem (.list (.cons (.const (.int 7)) (.cons (.const (.int 8)) .nil))) (.var "v0")) ∧
    evalC P0 .strict ρ0 (.getItem (.list (.cons (.const (.int 7)) (.cons (.const (.int 8)) .nil))) (.var "v0")) = .ok (.int 7) := by
  refine ⟨?_, rfl⟩
  simp only [Hoist, HoistList]
  exact ⟨_, _, rfl, Or.inl ⟨_, rfl, _, _, rfl, Or.inl rfl, _, _, rfl, Or.inl rfl, rfl⟩,
    Or.inr ⟨"v0", .int 0, rfl, rfl, rfl⟩⟩

/-- `7 if 0` (no `else`): the silent undefined -/
example : evalC P0 .strict ρ0 (.ifExpr (.const (.int 0)) (.const (.int 7)) .none) = .ok .silent := rfl

/-- a call, filter or test whose keyword arguments are all constants (collected into one
    `LoadConst(Kwargs)` at compile time) behaves like the dynamic path that evaluates them one by
    one (`BuildKwargs`): the static keyword map is what run-time evaluation of the keyword arguments
    yields, and the emitted code equals the unfolded run-time semantics (which only has the dynamic
    path) -/
theorem static_kwargs_eq_dynamic (P : Prims) (hP : P.Lawful) (m : Mode) (ρ : Env) (kws : Kws) (hw : kws.WF)
    (ks : List (String × V)) (hk : constKws kws = some ks) :
    evalCKws P m ρ kws = .ok ks ∧ evalRtKws P m ρ kws = .ok ks ∧
    (∀ name pos, pos.WF → evalC P m ρ (.call name pos kws) = evalRt P m ρ (.call name pos kws)) ∧
    (∀ name e pos, e.WF → pos.WF → evalC P m ρ (.filter name e pos kws) = evalRt P m ρ (.filter name e pos kws)) ∧
    (∀ name e pos, e.WF → pos.WF → evalC P m ρ (.test name e pos kws) = evalRt P m ρ (.test name e pos kws)) := by
  have h1 : evalRtKws P m ρ kws = .ok ks := constKws_sound P m ρ kws ks hk
  refine ⟨by rw [evalCKws_eq' m ρ hP kws hw, h1], h1, ?_, ?_, ?_⟩
  · intro name pos hp
    exact fold_transparent P hP m ρ _ ⟨hp, hw⟩
  · intro name e pos he hp
    exact fold_transparent P hP m ρ _ ⟨he, hp, hw⟩
  · intro name e pos he hp
    exact fold_transparent P hP m ρ _ ⟨he, hp, hw⟩

/-- the static path really is taken: with constant keyword arguments the emitted code does not
    evaluate them -/
theorem static_kwargs_path (P : Prims) (m : Mode) (ρ : Env) (name : String) (pos : Exprs) (kws : Kws)
    (hs : P.codegenSpecial "static-kwargs" = true)
    (ks : List (String × V)) (hk : constKws kws = some ks) :
    evalC P m ρ (.call name pos kws) =
      (match evalCList P m ρ pos with
       | .error e => .error e
       | .ok ps => P.callKw m name ps ks) := by
  rw [evalC]; simp only [hk, hs, gate]
  cases evalCList P m ρ pos <;> rfl

example : P0.codegenSpecial "static-kwargs" = true := rfl

example : constKws (.cons "a" (.const (.int 1)) (.cons "b" (.const (.str "x")) .nil))
    = some [("a", .int 1), ("b", .str "x")] := rfl

/-! ## every call form: function, method, object, filter, test - with `*args` and `**kwargs`

`compile_call_args` serves all of them.  The general form `.callx kind recv name args` carries the
receiver (method call), callee (object call) or subject (filter, test) and any mix of positional,
`*splat`, keyword and `**splat` arguments; its run-time meaning is the two loops of
`compile_call_args` (positional and `*` values first, keyword and `**` values second) handed to the
shared `callX` (`MergeKwargs`, `UnpackLists`, the callee). -/

/-- static keyword arguments equal the dynamic path for EVERY call form: when all keyword values are
    constants and there is no `**splat` (a `*splat` may be present) the keyword pieces collected at
    compile time are what run-time evaluation of the second loop yields, and the emitted code equals
    the unfolded run-time semantics - for a function, a method, an object, a filter and a test call
    alike, and for the call of a `{% call %}` block on any of them (which adds the caller) -/
theorem static_kwargs_eq_dynamic_all_forms (P : Prims) (hP : P.Lawful) (m : Mode) (ρ : Env) (args : Args)
    (hw : args.WF) (ks : List (String × V)) (hk : constKwArgs args = some ks) :
    evalCArgsKw P m ρ args = .ok (kwPieces ks) ∧ evalRtArgsKw P m ρ args = .ok (kwPieces ks) ∧
    (∀ kind recv name, recv.WF →
      evalC P m ρ (.callx kind recv name args) = evalRt P m ρ (.callx kind recv name args)) ∧
    (∀ kind recv name caller, recv.WF → P.codegenSpecial "static-kwargs-off-for-caller" = true →
      evalCallBlockXC P m ρ kind recv name args caller = evalCallBlockXRt P m ρ kind recv name args caller) := by
  have h1 : evalRtArgsKw P m ρ args = .ok (kwPieces ks) := constKwArgs_sound P m ρ args ks hk
  refine ⟨by rw [(evalCArgs_eq' m ρ hP args hw).2, h1], h1, ?_, ?_⟩
  · intro kind recv name hr
    exact fold_transparent P hP m ρ _ ⟨hr, hw⟩
  · intro kind recv name caller hr hs
    exact evalCallBlockX_eq m ρ hP hs kind recv name args caller hr hw

/-- … and without any hypothesis on the arguments (computed keyword values, `**splat`s): the emitted
    code of every call form is its run-time semantics, and hoisting literals anywhere in receiver and
    arguments - inside a splatted list or map too, or the whole splatted container - changes nothing -/
theorem call_forms_transparent (P : Prims) (hP : P.Lawful) (m : Mode) (ρ : Env) (kind : CallKind)
    (recv : Exprs) (name : String) (args : Args) (hr : recv.WF) (ha : args.WF) :
    evalC P m ρ (.callx kind recv name args) = evalRt P m ρ (.callx kind recv name args) ∧
    ∀ recv' args', HoistList P ρ recv recv' → HoistArgs P ρ args args' →
      evalC P m ρ (.callx kind recv' name args') = evalC P m ρ (.callx kind recv name args) := by
  have hw : (Expr.callx kind recv name args).WF := by simp only [Expr.WF]; exact ⟨hr, ha⟩
  refine ⟨fold_transparent P hP m ρ _ hw, ?_⟩
  intro recv' args' h1 h2
  exact hoist_transparent P hP m ρ _ _ hw (by rw [Hoist]; exact ⟨recv', args', rfl, h1, h2⟩)

/-- the static path really is taken in the general form, also next to a `*splat` -/
theorem static_kwargs_path_all_forms (P : Prims) (m : Mode) (ρ : Env) (kind : CallKind) (recv : Exprs)
    (name : String) (args : Args) (hs : P.codegenSpecial "static-kwargs" = true)
    (ks : List (String × V)) (hk : constKwArgs args = some ks) :
    evalC P m ρ (.callx kind recv name args) =
      (match evalCList P m ρ recv with
       | .error e => .error e
       | .ok rv => match evalCArgsPos P m ρ args with
         | .error e => .error e
         | .ok ps => P.callX m kind name rv (ps ++ kwPieces ks)) := by
  rw [evalC]; simp only [hk, hs, gate]
  cases evalCList P m ρ recv with
  | error e => rfl
  | ok rv => cases evalCArgsPos P m ρ args <;> rfl

/-- `**splat` switches the static path off, `*splat` does not (`static_kwargs = false` only in the
    `KwargSplat` arm and for a non-constant keyword value) -/
theorem splats_and_the_static_path (e : Expr) (rest : Args) :
    constKwArgs (.kwSplat e rest) = none ∧ constKwArgs (.posSplat e rest) = constKwArgs rest ∧
    constKwArgs (.pos e rest) = constKwArgs rest := by
  simp [constKwArgs]

/-- `ob.m(*[1, 2], ka=3)`: a method call with a `*splat` and a static keyword argument -/
example : constKwArgs (.posSplat (.list (.cons (.const (.int 1)) (.cons (.const (.int 2)) .nil)))
      (.kw "ka" (.const (.int 3)) .nil)) = some [("ka", .int 3)] ∧
    evalC P0 .strict ρ0 (.callx .method (.cons (.var "v0") .nil) "m"
      (.posSplat (.list (.cons (.const (.int 1)) (.cons (.const (.int 2)) .nil))) (.kw "ka" (.const (.int 3)) .nil)))
      = .ok (.list [.int 0, .list [.int 1, .int 2], .int 3]) :=
  ⟨rfl, rfl⟩

/-- the call of a `{% call %}` block on any callee with any arguments keeps its caller, and literal
    and variable arguments behave alike -/
theorem call_block_all_forms_keep_caller (P : Prims) (hP : P.Lawful)
    (hs : P.codegenSpecial "static-kwargs-off-for-caller" = true) (m : Mode) (ρ : Env) (kind : CallKind)
    (recv recv' : Exprs) (name : String) (args args' : Args) (caller : V) (hr : recv.WF) (ha : args.WF)
    (h1 : HoistList P ρ recv recv') (h2 : HoistArgs P ρ args args') :
    evalCallBlockXC P m ρ kind recv name args caller = evalCallBlockXRt P m ρ kind recv name args caller ∧
    evalCallBlockXC P m ρ kind recv' name args' caller = evalCallBlockXC P m ρ kind recv name args caller := by
  have e1 := evalCallBlockX_eq m ρ hP hs kind recv name args caller hr ha
  obtain ⟨hr', er⟩ := hoistList_spec ρ recv recv' hr h1
  obtain ⟨ha', ea⟩ := hoistArgs_spec ρ args args' ha h2
  refine ⟨e1, ?_⟩
  rw [evalCallBlockX_eq m ρ hP hs kind recv' name args' caller hr' ha', e1]
  unfold evalCallBlockXRt
  rw [er hP, (ea hP m).1, (ea hP m).2]

/-- `{% call ob.m(ka=1) %}`: the keyword pieces are `ka` and the caller -/
example : evalCallBlockXC P0 .lenient ρ0 .method (.cons (.var "v1") .nil) "m" (.kw "ka" (.const (.int 5)) .nil) (.other 7)
    = .ok (.list [.int 1, .int 5, .other 7]) := rfl

/-! ## `a in <literal container>`: one relation for every container length and item kind

The seeded change C04-5 compiled the right operand of `in` into a lookup map (searched through `Ord`)
when it was a literal list of eight or more plain literals and the left operand was not constant,
while the folder and lists supplied through variables are scanned with `==`.  In the code as it is,
the right operand of `in` is compiled like any other operand: a literal container is ONE `LoadConst` of
the very list the folder builds, followed by `In`. -/

/-- the emitted code, for every number of items and every kind of item: the code of the left operand,
    `LoadConst(list)`, `In` -/
theorem in_literal_container_code (P : Prims) (hL : P.foldsVariant "List" = true)
    (hF : P.codegenSpecial "fold-first" = true) (l : Expr) (items : Exprs) (vs : List V)
    (hc : constValues items = some vs) (hl : asConst P l = none) :
    constsC P (.bin .in_ l (.list items)) = constsC P l ++ [.list vs] ∧
    ∀ (m : Mode) (ρ : Env), evalC P m ρ (.bin .in_ l (.list items)) =
      (match evalC P m ρ l with
       | .error e => .error e
       | .ok a => inInstr P m a (.list vs)) := by
  have h2 : foldFirst P (.list items) = some (.list vs) := by
    simp [foldFirst, asConst, hc, gate, hL, hF]
  exact in_folded_operand_code P l _ _ hl (by simp [constsC, foldedK, h2]) fun m ρ => by simp [evalC, folded, h2]

/-- … and the same for a tuple literal -/
theorem in_literal_tuple_code (P : Prims) (hL : P.foldsVariant "Tuple" = true)
    (hF : P.codegenSpecial "fold-first" = true) (l : Expr) (items : Exprs) (vs : List V)
    (hc : constValues items = some vs) (hl : asConst P l = none) :
    constsC P (.bin .in_ l (.tuple items)) = constsC P l ++ [.tuple vs] ∧
    ∀ (m : Mode) (ρ : Env), evalC P m ρ (.bin .in_ l (.tuple items)) =
      (match evalC P m ρ l with
       | .error e => .error e
       | .ok a => inInstr P m a (.tuple vs)) := by
  have h2 : foldFirst P (.tuple items) = some (.tuple vs) := by
    simp [foldFirst, asConst, hc, gate, hL, hF]
  exact in_folded_operand_code P l _ _ hl (by simp [constsC, foldedK, h2]) fun m ρ => by simp [evalC, folded, h2]

/-- All four hoisting variants of `a in [c₁, …, cₙ]` - everything literal (folded at compile time),
    the left operand a variable, the container a variable, both variables - ask the SAME question
    `contains([c₁, …, cₙ], a)` of the shared `ops::contains`, whatever n and whatever the kinds of `a`
    and of the items: no variant goes through another comparison relation. -/
theorem in_literal_container_same_relation (P : Prims) (hB : P.foldsVariant "BinOp" = true)
    (hL : P.foldsVariant "List" = true) (hF : P.codegenSpecial "fold-first" = true)
    (m : Mode) (ρ : Env) (a : V) (ha : a ≠ .undef) (items : Exprs) (vs : List V)
    (hc : constValues items = some vs) (x xs : String) (hx : ρ x = some a) (hxs : ρ xs = some (.list vs)) :
    asConst P (.bin .in_ (.const a) (.list items)) = Except.toOpt (P.contains (.list vs) a) ∧
    evalC P m ρ (.bin .in_ (.var x) (.list items)) = P.contains (.list vs) a ∧
    evalC P m ρ (.bin .in_ (.const a) (.var xs)) = P.contains (.list vs) a ∧
    evalC P m ρ (.bin .in_ (.var x) (.var xs)) = P.contains (.list vs) a := by
  have hin : inInstr P m a (.list vs) = P.contains (.list vs) a := inInstr_ok P m ha nofun
  refine ⟨?_, ?_, ?_, ?_⟩
  · simp [asConst, hc, gate, hB, hL, evalBinop]
  · have := (in_literal_container_code P hL hF (.var x) items vs hc (by simp [asConst])).2 m ρ
    rw [this]
    simp [evalC, lookup, hx, hin]
  · rw [evalC] <;> try (intro h; cases h)
    simp [folded, foldFirst, asConst, gate, evalC, lookup, hxs, binInstr, hin]
  · rw [evalC] <;> try (intro h; cases h)
    simp [folded, foldFirst, asConst, gate, evalC, lookup, hx, hxs, binInstr, hin]

/-- nine items, a boolean asked for among numbers (the shape of the seeded change's failing input) -/
example : constValues (.cons (.const (.int 0)) (.cons (.const (.int 1)) (.cons (.const (.int 2)) (.cons (.const (.int 3))
      (.cons (.const (.int 5)) (.cons (.const (.int 8)) (.cons (.const (.int 13)) (.cons (.const (.int 21))
      (.cons (.const (.int 34)) .nil)))))))))
    = some [.int 0, .int 1, .int 2, .int 3, .int 5, .int 8, .int 13, .int 21, .int 34] := rfl

example : asConst P0 (.var "v0") = none ∧ P0.foldsVariant "List" = true ∧ P0.codegenSpecial "fold-first" = true ∧
    (V.bool true) ≠ .undef :=
  ⟨rfl, rfl, rfl, nofun⟩

/-- `not in` on a literal container: a one-link comparison chain ends in `In; Not` on the same list -/
theorem not_in_literal_container_code (P : Prims) (hL : P.foldsVariant "List" = true)
    (hF : P.codegenSpecial "fold-first" = true) (l : Expr) (items : Exprs) (vs : List V)
    (hc : constValues items = some vs) (hl : asConst P l = none) (m : Mode) (ρ : Env) :
    evalC P m ρ (.cmp l (.cons .notIn (.list items) .nil)) =
      (match evalC P m ρ l with
       | .error e => .error e
       | .ok a => match inInstr P m a (.list vs) with
         | .error e => .error e
         | .ok v => notInstr P m v) := by
  have h1 : foldFirst P (.cmp l (.cons .notIn (.list items) .nil)) = none := foldFirst_none (by simp [asConst, hl, gate])
  have h2 : foldFirst P (.list items) = some (.list vs) := by
    simp [foldFirst, asConst, hc, gate, hL, hF]
  rw [evalC] <;> try (intro h; cases h)
  simp only [folded, h1]
  cases evalC P m ρ l with
  | error e => rfl
  | ok a =>
    simp [evalCChain, evalC, folded, h2, finalCompare]
    cases inInstr P m a (.list vs) <;> rfl

theorem C04_holds : C04_full := by
  intro P hP m ρ e hw
  refine ⟨?_, ?_, ?_⟩
  · intro e' h
    obtain ⟨hw', hr⟩ := hoist_spec ρ e e' hw h
    rw [exec_compileTop P hP m ρ e' hw', exec_compileTop P hP m ρ e hw, hr hP]
  · intro err h
    rw [exec_compileTop P hP m ρ e hw] at h
    exact (load_never_fails_on_const_error P hP m ρ e hw err h).1
  · intro err h
    exact (load_never_fails_on_const_error P hP m ρ e hw err h).2

/-- The call of a call block (`{% call m(title="Hello") %}…{% endcall %}`) passes the user's keyword
    arguments followed by the generated `caller` macro, also when every keyword value is a literal:
    under the guard found in the source (`static_kwargs = caller.is_none()`) the emitted code equals
    the run-time semantics, so literal and variable keyword values behave alike. -/
theorem call_block_static_kwargs_keep_caller (P : Prims) (hP : P.Lawful)
    (hs : P.codegenSpecial "static-kwargs-off-for-caller" = true) (m : Mode) (ρ : Env)
    (name : String) (pos : Exprs) (kws : Kws) (caller : V) (hp : pos.WF) (hk : kws.WF) :
    evalCallBlockC P m ρ name pos kws caller = evalCallBlockRt P m ρ name pos kws caller := by
  unfold evalCallBlockC evalCallBlockRt
  rw [evalCList_eq' m ρ hP pos hp, evalCKws_eq' m ρ hP kws hk]
  simp [hs, gate]

/-- … and hoisting literals of its arguments into variables changes nothing -/
theorem call_block_hoist_transparent (P : Prims) (hP : P.Lawful)
    (hs : P.codegenSpecial "static-kwargs-off-for-caller" = true) (m : Mode) (ρ : Env)
    (name : String) (pos pos' : Exprs) (kws kws' : Kws) (caller : V) (hp : pos.WF) (hk : kws.WF)
    (h1 : HoistList P ρ pos pos') (h2 : HoistKws P ρ kws kws') :
    evalCallBlockC P m ρ name pos' kws' caller = evalCallBlockC P m ρ name pos kws caller := by
  obtain ⟨hp', ep⟩ := hoistList_spec ρ pos pos' hp h1
  obtain ⟨hk', ek⟩ := hoistKws_spec ρ kws kws' hk h2
  rw [call_block_static_kwargs_keep_caller P hP hs m ρ name pos' kws' caller hp' hk',
    call_block_static_kwargs_keep_caller P hP hs m ρ name pos kws caller hp hk]
  unfold evalCallBlockRt
  rw [ep hP, ek hP]

example : P0.codegenSpecial "static-kwargs-off-for-caller" = true := rfl

/-- `m(title="Hello")` of a call block: the keyword map is `[title, caller]` -/
example : evalCallBlockC P0 .lenient ρ0 "m" .nil (.cons "title" (.const (.str "Hello")) .nil) (.other 7)
    = .ok (.list [.str "Hello", .other 7]) := rfl

/-- without that guard (the seeded change C04-4: `static_kwargs = true`) the static path drops the
    caller exactly when all keyword values are literals: the emitted code differs from the run-time
    semantics, and from the same call with the literal hoisted -/
theorem call_block_without_guard_drops_caller :
    ∃ (P : Prims), P.Lawful ∧ P.codegenSpecial "static-kwargs-off-for-caller" = false ∧
      ∃ m ρ name kws caller, kws.WF ∧
        evalCallBlockC P m ρ name .nil kws caller ≠ evalCallBlockRt P m ρ name .nil kws caller := by
  refine ⟨{ P0 with codegenSpecial := fun s => s != "static-kwargs-off-for-caller" }, ?_, by decide, .lenient, ρ0, "m",
    .cons "title" (.const (.str "Hello")) .nil, .other 7, by simp [Kws.WF, Expr.WF], ?_⟩
  · exact { P0_lawful with }
  · exact nofun

/-! ## statements: literals in statement heads

A statement is compiled by compiling its head expressions through `compile_expr` and ALL of its
statement lists, unconditionally (`stmt_traversal_from_source`): the block table - the compile-time
effect of a template - and the set of macro declarations are functions of the tree's shape, and what
a statement does at run time is a function of the values its compiled heads take. -/

/-- Statement-level transparency: hoisting any subset of the literal sub-expressions of any heads of
    a template (conditions of `if`, the iterable of `for`, the value of `set`/`with`, macro
    defaults, filter arguments, include/extends/import targets, the arguments of `call`/`do`) into
    variables changes neither the block table the code generator registers, nor the macro
    declarations, nor the value (or error) of any compiled head in any environment of the scopes'
    family `R` - in particular a condition that folds to a constant registers the blocks of BOTH
    branches, exactly as a variable condition does. -/
theorem stmt_hoist_transparent (P : Prims) (hP : P.Lawful) (R : Env → Prop) (s s' : Stmt) (hw : s.WF)
    (h : HoistS P R s s') :
    registeredBlocks s' = registeredBlocks s ∧ declaredMacros s' = declaredMacros s ∧
    ∀ (m : Mode) (ρ : Env), R ρ → headVals P m ρ s' = headVals P m ρ s :=
  let ⟨hb, hm, hv⟩ := hoistS_spec s s' h
  ⟨hb, hm, hv hP hw⟩

/-- `{% if false %}{% block b %}…{% endblock %}{% endif %}` and the same with the condition hoisted -/
def s_if_lit : Stmt := .mk "IfCond" "" (.cons (.const (.bool false)) .nil)
  (.cons (.cons (.mk "Block" "b" .nil (.cons .nil .nil)) .nil) (.cons .nil .nil))
def s_if_var : Stmt := .mk "IfCond" "" (.cons (.var "c") .nil)
  (.cons (.cons (.mk "Block" "b" .nil (.cons .nil .nil)) .nil) (.cons .nil .nil))
/-- the scopes bind `c` to the literal's value -/
def Rc : Env → Prop := fun ρ => ρ "c" = some (.bool false)

theorem s_if_hoist (P : Prims) : HoistS P Rc s_if_lit s_if_var := by
  simp only [s_if_lit, s_if_var, HoistS, HoistBodies, HoistStmts, HoistList]
  refine ⟨_, _, rfl, ?_, _, _, rfl, ⟨_, _, rfl, ⟨_, _, rfl, ?_, _, _, rfl, rfl, rfl⟩, rfl⟩, _, _, rfl, rfl, rfl⟩
  · intro ρ hρ
    exact ⟨_, _, rfl, by rw [Hoist]; exact Or.inr ⟨"c", .bool false, rfl, by simp [asConst], hρ⟩, rfl⟩
  · intro ρ _; rfl

example : s_if_lit.WF ∧ registeredBlocks s_if_lit = ["b"] ∧ registeredBlocks s_if_var = ["b"] :=
  ⟨by simp [s_if_lit, Stmt.WF, Bodies.WF, Stmts.WF, Exprs.WF, Expr.WF], rfl, rfl⟩

/-- Constant-condition elimination (the seeded change C04-3: only the taken branch of an `if` whose
    condition folds is compiled) is NOT transparent: the block of the untaken branch is registered
    when the condition is a variable and missing when it is the literal - so the theorem above is a
    statement about the traversal the source has, not about any traversal. -/
theorem const_if_elimination_breaks_block_table :
    ∃ (P : Prims) (R : Env → Prop) (s s' : Stmt), P.Lawful ∧ s.WF ∧ HoistS P R s s' ∧
      registeredBlocksElim P s' ≠ registeredBlocksElim P s ∧ registeredBlocks s' = registeredBlocks s := by
  refine ⟨P0, Rc, s_if_lit, s_if_var, P0_lawful, ?_, s_if_hoist P0, by decide +kernel, rfl⟩
  simp [s_if_lit, Stmt.WF, Bodies.WF, Stmts.WF, Exprs.WF, Expr.WF]

/-! ## the concrete, source-tied instance

`Conc.prims` is the transcription of `value/ops.rs` & co. that the driver runs against the real
engine on every harness case (i128 range checks, string concat/repeat, exact binary64, `==`/`Ord`,
`in`, map construction with duplicate keys, truthiness, item access, slices, the modelled filters
and tests), with the folder's dispatch tables read from the regenerated `MJ.Gen` tables. -/

/-- it satisfies the laws the theorems assume -/
theorem concrete_prims_lawful : Conc.prims.Lawful := Conc.prims_lawful

/-- its folder dispatches over the arms of `Expr::as_const` and the special cases of
    `compile_expr`/`compile_call_args` as regenerated from the source -/
theorem concrete_tables_are_source :
    (∀ v, Conc.prims.foldsVariant v = MJ.Gen.asConstArms.contains v) ∧
    (∀ s, Conc.prims.codegenSpecial s = MJ.Gen.codegenSpecials.contains s) :=
  ⟨fun _ => rfl, fun _ => rfl⟩

/-- the guard is in the source (regenerated: `let mut static_kwargs = caller.is_none();`), so the
    call-block theorem applies to the source-tied instance; the seeded change C04-4 makes this
    `decide` fail -/
theorem concrete_call_block_keeps_caller (m : Mode) (ρ : Env) (name : String) (pos : Exprs) (kws : Kws)
    (caller : V) (hp : pos.WF) (hk : kws.WF) :
    evalCallBlockC Conc.prims m ρ name pos kws caller = evalCallBlockRt Conc.prims m ρ name pos kws caller :=
  call_block_static_kwargs_keep_caller Conc.prims concrete_prims_lawful (by decide +kernel) m ρ name pos kws caller hp hk

/-- `in` on a literal container for the source-tied instance: the arms `List`/`BinOp` of `as_const` and
    the fold-first scheme are in the regenerated tables, so every hoisting variant of
    `a in [c₁, …, cₙ]` evaluates `Conc.contains [c₁, …, cₙ] a` (the transcription of `ops::contains`:
    a scan with `==`) for every n and every kind of `a` and of the items -/
theorem concrete_in_literal_container (m : Mode) (ρ : Env) (a : V) (ha : a ≠ .undef) (items : Exprs) (vs : List V)
    (hc : constValues items = some vs) (x xs : String) (hx : ρ x = some a) (hxs : ρ xs = some (.list vs)) :
    asConst Conc.prims (.bin .in_ (.const a) (.list items)) = Except.toOpt (Conc.prims.contains (.list vs) a) ∧
    evalC Conc.prims m ρ (.bin .in_ (.var x) (.list items)) = Conc.prims.contains (.list vs) a ∧
    evalC Conc.prims m ρ (.bin .in_ (.const a) (.var xs)) = Conc.prims.contains (.list vs) a ∧
    evalC Conc.prims m ρ (.bin .in_ (.var x) (.var xs)) = Conc.prims.contains (.list vs) a :=
  in_literal_container_same_relation Conc.prims (by decide +kernel) (by decide +kernel) (by decide +kernel) m ρ a ha items vs hc x xs hx hxs

/-- the call-block theorem in its general form for the source-tied instance -/
theorem concrete_call_block_all_forms (m : Mode) (ρ : Env) (kind : CallKind) (recv : Exprs) (name : String)
    (args : Args) (caller : V) (hr : recv.WF) (ha : args.WF) :
    evalCallBlockXC Conc.prims m ρ kind recv name args caller = evalCallBlockXRt Conc.prims m ρ kind recv name args caller :=
  evalCallBlockX_eq m ρ concrete_prims_lawful (by decide +kernel) kind recv name args caller hr ha

/-- the full statement for the concrete model: no hypothesis about the value operations is left -/
theorem C04_concrete (m : Mode) (ρ : Env) (e : Expr) (hw : e.WF) :
    (∀ e', Hoist Conc.prims ρ e e' →
      exec Conc.prims m ρ (compileTop Conc.prims e') = exec Conc.prims m ρ (compileTop Conc.prims e)) ∧
    (∀ err, exec Conc.prims m ρ (compileTop Conc.prims e) = .error err → compileTop Conc.prims e = .runtime e) ∧
    (∀ err, evalRt Conc.prims m ρ e = .error err → exec Conc.prims m ρ (compileTop Conc.prims e) = .error err) :=
  C04_holds Conc.prims concrete_prims_lawful m ρ e hw

example : (Expr.bin .and (.const (.int 0)) (.const (.int 1))).WF := by simp [Expr.WF]

/-- duplicate keys: in the concrete model the LAST pair of a map literal determines the value of
    its key - on the folder's side (`Map::as_const`) and on the VM's side (`BuildMap`) alike, since
    both go through the same `mkMap` in source order (the seeded change C04-1 broke exactly this in
    the VM) -/
theorem concrete_map_last_wins (ps : List (V × V)) (k v : V) :
    ∃ m, Conc.prims.mkMap (ps ++ [(k, v)]) = .map m ∧ Conc.mapGet k m = some v :=
  Conc.mkMap_last_wins ps k v

example : ∃ m, Conc.prims.mkMap ([(.str "a", .int 1), (.str "b", .int 5)] ++ [(.str "a", .int 2)]) = .map m ∧
    Conc.mapGet (.str "a") m = some (.int 2) :=
  concrete_map_last_wins _ _ _

/-- … and the last keyword argument of a name wins (`f(a=1, a=2)`) -/
theorem concrete_kwargs_last_wins (k : String) (v : V) (m : List (String × V)) :
    (Conc.kwInsert k v m).lookup k = some v :=
  Conc.kwInsert_self k v m

example : (Conc.kwInsert "a" (.int 2) [("a", .int 1)]).lookup "a" = some (.int 2) :=
  concrete_kwargs_last_wins _ _ _

/-! ## the instruction stream of `compile_expr` (`MJ/Model/FoldCode.lean`)

`codeC e` is the list of instructions the code generator emits for `e` (compared with the real stream of
every dumped hoisting variant on every run: instruction names, operands, relative jump targets, argument
counts); `run` executes it on a value stack with the VM's handlers.  For the whole call-free expression
language (`Expr.Core`: constants, variables, lists, tuples, maps, `not`, `-`, every binary operator incl.
the jumps of `and`/`or`, comparison chains with `CompareAndPreserve` and their cleanup code, attribute
and item access, slices, conditional expressions) running the code pushes exactly the value of the
unfolded run-time semantics and fails exactly when it fails - whatever literals were folded.  A code
generator rewrite of a NON-constant expression (a peephole) therefore either changes the stream (the
correspondence breaks) or has to be added to `codeC`, where this theorem has to be proved again. -/

theorem compile_transparent (P : Prims) (hP : P.Lawful) (m : Mode) (ρ : Env) (e : Expr) (hw : e.WF) (hc : e.Core)
    (rest : List Instr) (st : List V) :
    run P m ρ (codeC P e ++ rest) 0 st =
      match evalRt P m ρ e with
      | .ok v => run P m ρ rest 0 (v :: st)
      | .error err => .error err := by
  rw [← evalC_eq_evalRt' m ρ hP e hw]
  exact run_codeC P m ρ hP.isTrue_bool e hc rest st

/-- the whole expression on an empty stack: one value, or the error of the run-time semantics -/
theorem compile_transparent_top (P : Prims) (hP : P.Lawful) (m : Mode) (ρ : Env) (e : Expr) (hw : e.WF) (hc : e.Core) :
    run P m ρ (codeC P e) 0 [] =
      match evalRt P m ρ e with
      | .ok v => .ok [v]
      | .error err => .error err := by
  have := compile_transparent P hP m ρ e hw hc [] []
  simp only [List.append_nil] at this
  rw [this]
  cases evalRt P m ρ e <;> simp [run]

/-- `not (v0 >= 0)` with `v0 = 0`: a chain inside, jumps, a conditional - a non-trivial member of `Expr.Core` -/
def e_core : Expr :=
  .ifExpr (.not (.bin .ge (.var "v0") (.const (.int 0))))
    (.const (.int 7))
    (.some (.bin .and (.cmp (.var "v0") (.cons .le (.var "v1") (.cons .lt (.const (.int 2)) .nil))) (.var "v1")))

example : e_core.WF ∧ e_core.Core ∧ (codeC P0 e_core).length = 18 ∧
    run P0 .strict ρ0 (codeC P0 e_core) 0 [] = .ok [.int 1] := by
  refine ⟨by simp [e_core, Expr.WF, OptExpr.WF, Chain.WF], by simp [e_core, Expr.Core, OptExpr.Core, Chain.Core], by rfl, by rfl⟩

/-- The seeded peephole (`not (a >= b)` compiled to `a; b; Lte`) is NOT transparent in this model: at equal
    operands the rewritten stream computes `true`, the run-time semantics (and the folder) `false`. -/
theorem negated_ge_peephole_is_not_transparent :
    ∃ (P : Prims), P.Lawful ∧ ∃ (m : Mode) (ρ : Env) (a b : Expr),
      (Expr.not (.bin .ge a b)).WF ∧ (Expr.not (.bin .ge a b)).Core ∧
      run P m ρ (codeC P a ++ codeC P b ++ [.bin .le]) 0 [] ≠
        (match evalRt P m ρ (.not (.bin .ge a b)) with
         | .ok v => .ok [v]
         | .error err => .error err) := by
  refine ⟨P0, P0_lawful, .lenient, ρ0, .var "v0", .const (.int 0), by simp [Expr.WF], by simp [Expr.Core], ?_⟩
  have h1 : run P0 .lenient ρ0 (codeC P0 (.var "v0") ++ codeC P0 (.const (.int 0)) ++ [.bin .le]) 0 [] = .ok [.bool true] := rfl
  have h2 : evalRt P0 .lenient ρ0 (.not (.bin .ge (.var "v0") (.const (.int 0)))) = .ok (.bool false) := rfl
  rw [h1, h2]
  exact nofun

/-! ## the defect that was fixed (`fix:` commit 25af7fa)

Before the fix `eval_binop` folded `a and b` to `false` whenever an operand was falsy
(`evalBinopOld`), while the jump code returns the deciding operand: the folder was unsound. -/

theorem old_and_fold_unsound :
    ∃ (P : Prims), P.Lawful ∧ ∃ a b v, a ≠ .undef ∧ b ≠ .undef ∧
      evalBinopOld P .and a b = some v ∧
      ∀ (m : Mode) (ρ : Env), evalRt P m ρ (.bin .and (.const a) (.const b)) ≠ .ok v := by
  refine ⟨P0, P0_lawful, .int 0, .int 1, .bool false, nofun, nofun, rfl, fun m ρ => ?_⟩
  -- the folder as it is yields the deciding operand `0`, and it is sound
  rw [asConst_sound P0 P0_lawful _ (by simp [Expr.WF]) (.int 0) rfl m ρ]
  exact nofun

end MJ.C04
