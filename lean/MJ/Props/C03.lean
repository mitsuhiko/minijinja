import MJ.Proofs.EvalFrame
import MJ.Proofs.StmtSim
import MJ.Proofs.DiscardSim
import MJ.Proofs.C03Tables
import MJ.Proofs.ArgBind
import MJ.Model.VmM
/-!
# C03 — core constructs render according to the documented semantics

Stage 3: `vm_refines_eval` — the model VM running the code of the model code generator refines the
reference semantics on the fragment `MJ.Compile.CoreFragment`: text, `{{ e }}`, `set` (with
unpacking), set-blocks and filter-blocks with filter chains, `if`/`elif`/`else`, `with`,
`for … if … else` with unpacking targets and loop filter, `break` and `continue` (also out of
`with` / capture scopes), **macro declarations** (at any depth: in loops, in `with`, in macro bodies;
the closure machinery `Enclose` / `GetClosure` / `BuildMacro` with its write-through cells against the
by-reference scoping of the reference semantics) with **parameter defaults**, **macro calls with
positional and keyword arguments** (`Macro::prepare_args`, the `Kwargs` bundle, the callee's fresh
context, its captured output), **call blocks** and the **`caller`** of a macro (the hidden keyword
argument, `caller(args)` with positional and keyword arguments, call blocks with parameters and
defaults); expressions with constant folding, short-circuit `and`/`or`, conditional expressions,
filters, tests, attribute/item access, list and map literals, chained comparisons.  What the
fragment excludes (`wfStmt` / `wfExpr` say it precisely): parameter defaults that contain a
call or read a parameter (`wfDefault`; the engine binds parameters back to front, the reference
semantics front to back), macros used as values (`{{ m }}`, a macro passed as an argument: macro names
are only called or tested with `is defined` / `is undefined`), an explicit `caller=` keyword argument, calls of names that
are not declared macros, reads inside a macro body that `find_macro_closure` does not enclose.
`C03_full` states the theorem for everything the model generator compiles, on the extended model VM
`MJ.VmM` (the live loop object); beyond the fragment it is *checked* on every generated program
(model VMs vs. `exec` vs. the engine, model code vs. the real instruction stream) but not proved.

Stage 1: laws of the reference semantics `MJ.Eval.exec` (`MJ/Model/Eval.lean`).  Each law is an
unbounded theorem (all programs / bodies / lists / states / fuel values) and is followed by an
`example` that exhibits a concrete, non-trivial instance (checked by kernel evaluation).

The engine (`/repo`) is tied to `exec` by the differential oracle of `lib/props/c03.py`
(`harness/src/bin/c03.rs`): the theorems say what `exec` guarantees, the oracle checks that
`Template::render` agrees with `exec` on generated programs.
-/
namespace MJ.C03
open MJ.Eval

/-! The equations of the interpreter that state a law by themselves — **for/else** `for_else_iff_empty` (with `keptItems`,
`loopSized`), **`if` opens no scope** `if_no_scope`, **every iteration has a scope of its own** `iteration_scope`, **a default
is evaluated iff it is used** `arg_default_evaluated_iff_used` — stand in `MJ/Proofs/EvalFrame.lean`, where the proofs about
`exec` read them. -/

/-- **Assignments inside a loop are invisible outside**: a `for` (without `else` branch), whatever
its body does (`set`, nested loops, macro declarations, …), leaves every scope cell as it was. -/
theorem set_in_loop_invisible {fuel ctx stack σ target iter flt body σ' fl}
    (h : exec fuel ctx stack σ (.forS target iter flt body []) = .ok (σ', fl)) :
    σ'.heap = σ.heap := by
  cases fuel with
  | zero => simp [exec] at h
  | succ n =>
    obtain ⟨_, _, _, _, _, _, σi, hit, hc⟩ := exec_forS_ok h
    rcases hc with ⟨_, rfl, hels⟩ | ⟨_, rfl, _⟩
    · rw [(execBlock_nil hels).1]
    · exact execIters_heap hit

/-- the general form: with an `else` branch only the innermost visible cell can change (the `else`
branch runs in the enclosing scope, like the branch of an `if`) -/
theorem for_frame {fuel ctx stack σ target iter flt body els σ' fl}
    (h : exec fuel ctx stack σ (.forS target iter flt body els) = .ok (σ', fl)) :
    Frame stack σ.heap σ'.heap := exec_frame h

/-- **Assignments inside `with` are invisible outside.** -/
theorem set_in_with_invisible {fuel ctx stack σ binds body σ' fl}
    (h : exec fuel ctx stack σ (.withS binds body) = .ok (σ', fl)) : σ'.heap = σ.heap := by
  cases fuel with
  | zero => simp [exec] at h
  | succ n =>
    simp only [exec, bind_ok] at h
    obtain ⟨heap1, hw, r, hr, h⟩ := h
    cases h
    simpa using take_of_frame σ.heap [] stack r.1.heap ((bindWith_frame _ _ _ _ _ _ hw).trans (execBlock_frame hr))

/-- **Assignments inside a macro are invisible outside** (1): evaluating an expression — including
any macro calls in it — cannot change a scope: `emit` only appends to the output. -/
theorem set_in_macro_invisible {fuel ctx stack σ e σ' fl}
    (h : exec fuel ctx stack σ (.emit e) = .ok (σ', fl)) :
    σ'.heap = σ.heap ∧ ∃ v, evalExpr (fuel - 1) ctx σ.heap stack e = .ok v ∧ σ'.out = σ.out ++ render v := by
  cases fuel with
  | zero => simp [exec] at h
  | succ n =>
    simp only [exec, bind_ok] at h
    obtain ⟨v, hv, h⟩ := h
    cases h
    exact ⟨rfl, v, by simpa using hv, rfl⟩

/-- **Assignments inside a macro are invisible outside** (2): a call block (macro call with a
`caller` body) leaves every scope cell as it was. -/
theorem set_in_call_block_invisible {fuel ctx stack σ callee args params defaults body uc σ' fl}
    (h : exec fuel ctx stack σ (.callBlock callee args params defaults body uc) = .ok (σ', fl)) :
    σ'.heap = σ.heap := by
  cases fuel with
  | zero => simp [exec] at h
  | succ n =>
    simp only [exec, bind, Except.bind] at h
    repeat' (split at h)
    all_goals first
      | (simp at h; done)
      | (simp at h; rw [← h.1])


/-- **Assignments at template level persist** (in fact: in whatever scope the `set` stands): the
statement succeeds, writes exactly the innermost visible cell, and a later lookup from that scope
finds the value; the output is untouched. -/
theorem set_toplevel_persists {m ctx cell rest σ x e v}
    (he : evalExpr m ctx σ.heap (cell :: rest) e = .ok v) (hcell : cell < σ.heap.length) :
    ∃ σ', exec (m + 1) ctx (cell :: rest) σ (.set (.var x) e) = .ok (σ', .normal) ∧
      lookup ctx σ'.heap (cell :: rest) x = some v ∧ σ'.out = σ.out ∧
      Frame (cell :: rest) σ.heap σ'.heap :=
  ⟨_, exec_set_var he, lookup_heapSet_same _ _ _ _ _ _ hcell, rfl, Frame.heapSet (by simp [topCell]) _ _ _⟩

/-- **Assignments inside an if-branch persist** after the `if`. -/
theorem set_in_if_persists {m ctx cell rest σ c x e els cv v}
    (hc : evalExpr (m + 3) ctx σ.heap (cell :: rest) c = .ok cv) (ht : truthy cv = true)
    (he : evalExpr (m + 1) ctx σ.heap (cell :: rest) e = .ok v) (hcell : cell < σ.heap.length) :
    ∃ σ', exec (m + 4) ctx (cell :: rest) σ (.ifS c [.set (.var x) e] els) = .ok (σ', .normal) ∧
      lookup ctx σ'.heap (cell :: rest) x = some v ∧ σ'.out = σ.out := by
  refine ⟨{ σ with heap := heapSet σ.heap cell x v }, ?_, lookup_heapSet_same _ _ _ _ _ _ hcell, rfl⟩
  rw [if_no_scope]
  simp [Except.bind, hc, ht, execBlock, exec_set_var he]


/-- The loop bookkeeping (running counter, carried previous item, peeked next item) describes the
sequence actually iterated: entry `i` is `⟨i, len, xs[i-1]?, xs[i+1]?⟩`. -/
theorem loopInfosFrom_getElem? (len : Option Nat) (xs : List Val) :
    ∀ (idx : Nat) (prev : Option Val) (i : Nat), i < xs.length →
      (loopInfosFrom len idx prev xs)[i]? =
        some { index0 := idx + i, length := len,
               prev := if i = 0 then prev else xs[i - 1]?, next := xs[i + 1]? } := by
  induction xs with
  | nil => intro idx prev i h; simp at h
  | cons x rest ih =>
    intro idx prev i h
    cases i with
    | zero => simp [loopInfosFrom, List.head?_eq_getElem?]
    | succ j =>
      have hj : j < rest.length := by simpa using h
      simp only [loopInfosFrom, List.getElem?_cons_succ]
      rw [ih (idx + 1) (some x) j hj]
      cases j with
      | zero => simp
      | succ k => simp <;> omega

theorem loopInfos_length (sized : Bool) (xs : List Val) : (loopInfos sized xs).length = xs.length := by
  unfold loopInfos
  generalize (if sized then some xs.length else none) = len
  generalize (0 : Nat) = idx
  generalize (none : Option Val) = prev
  induction xs generalizing idx prev with
  | nil => rfl
  | cons x rest ih => simp [loopInfosFrom, ih]

/-- **The loop object of iteration `i`** over any list `xs`:
`⟨i, xs.length, xs[i-1]?, xs[i+1]?⟩` (length unknown for a lazy iterator). -/
theorem loop_info (sized : Bool) (xs : List Val) (i : Nat) (h : i < xs.length) :
    (loopInfos sized xs)[i]? =
      some { index0 := i, length := if sized then some xs.length else none,
             prev := if i = 0 then none else xs[i - 1]?, next := xs[i + 1]? } := by
  simpa [loopInfos] using loopInfosFrom_getElem? _ xs 0 none i h

/-- what the template reads through `loop.<name>` -/
def loopAttr (l : LoopInfo) (name : String) : Res Val := getAttr (loopVal l) name

theorem loop_index (xs : List Val) (i : Nat) (h : i < xs.length) :
    ∃ l, (loopInfos true xs)[i]? = some l ∧
      loopAttr l "index" = .ok (.int (i + 1)) ∧ loopAttr l "index0" = .ok (.int i) := by
  refine ⟨_, loop_info true xs i h, ?_, ?_⟩ <;> simp [loopAttr, loopVal, getAttr, assocGet]

theorem loop_revindex (xs : List Val) (i : Nat) (h : i < xs.length) :
    ∃ l, (loopInfos true xs)[i]? = some l ∧
      loopAttr l "revindex" = .ok (.int (xs.length - i)) ∧
      loopAttr l "revindex0" = .ok (.int (xs.length - i - 1)) := by
  refine ⟨_, loop_info true xs i h, ?_, ?_⟩ <;> simp [loopAttr, loopVal, getAttr, assocGet]

theorem loop_first_last (xs : List Val) (i : Nat) (h : i < xs.length) :
    ∃ l, (loopInfos true xs)[i]? = some l ∧
      loopAttr l "first" = .ok (.bool (i == 0)) ∧
      loopAttr l "last" = .ok (.bool (i + 1 == xs.length)) := by
  refine ⟨_, loop_info true xs i h, ?_, ?_⟩ <;> simp [loopAttr, loopVal, getAttr, assocGet]

theorem loop_length (xs : List Val) (i : Nat) (h : i < xs.length) :
    ∃ l, (loopInfos true xs)[i]? = some l ∧ loopAttr l "length" = .ok (.int xs.length) := by
  refine ⟨_, loop_info true xs i h, ?_⟩; simp [loopAttr, loopVal, getAttr, assocGet]

theorem loop_prev_next (sized : Bool) (xs : List Val) (i : Nat) (h : i < xs.length) :
    ∃ l, (loopInfos sized xs)[i]? = some l ∧
      loopAttr l "previtem" = .ok (if i = 0 then .undef else (xs[i - 1]?).getD .undef) ∧
      loopAttr l "nextitem" = .ok ((xs[i + 1]?).getD .undef) := by
  refine ⟨_, loop_info sized xs i h, ?_, ?_⟩
  · by_cases h0 : i = 0 <;> simp [loopAttr, loopVal, getAttr, assocGet, h0]
  · simp [loopAttr, loopVal, getAttr, assocGet]

/-- a lazy iterator (the characters of a string): `length`, `revindex`, `revindex0` are undefined
and `last` is never true, as documented in `syntax.rs` -/
theorem loop_unsized (xs : List Val) (i : Nat) (h : i < xs.length) :
    ∃ l, (loopInfos false xs)[i]? = some l ∧ loopAttr l "length" = .ok .undef ∧
      loopAttr l "revindex" = .ok .undef ∧ loopAttr l "last" = .ok (.bool false) ∧
      loopAttr l "index" = .ok (.int (i + 1)) := by
  refine ⟨_, loop_info false xs i h, ?_, ?_, ?_, ?_⟩ <;> simp [loopAttr, loopVal, getAttr, assocGet]

/-! ## Argument binding of macros and call-block callers (`Macro::prepare_args`)

`bindArgs params usesCaller pos kw` is the binder of the reference semantics (`MJ/Model/Eval.lean`:
parameter names, positional values, keyword values → value of every parameter + hidden `caller`, or
`TooManyArguments`), `slotOf` decides between the bound value and the default.  `callValue` (a macro
call, a `caller(…)` call) goes through both.  The engine's binder is compared with them on the
exhaustive box of `harness/src/bin/c03_args.inc`. -/

/-- **An explicitly passed value — whatever it is, `none` included — is bound as it is**: when the
call is accepted, parameter `i` holds the positional value number `i` if there is one, else the
keyword value of its name; the value is not looked at. -/
theorem arg_explicit_value_bound_as_is {params uc pos kw bound c}
    (h : bindArgs params uc pos kw = .ok (bound, c)) (i : Nat) (p : String) (hp : params[i]? = some p) :
    (∀ v, pos[i]? = some v → bound[i]? = some (p, v)) ∧
    (∀ v, pos[i]? = none → assocGet p kw = some v → bound[i]? = some (p, v)) ∧
    (pos[i]? = none → assocGet p kw = none → bound[i]? = some (p, .undef)) := by
  have := MJ.ArgBind.bindParams_getElem? params pos kw bound (MJ.Vm.bindArgs_ok h).1 i p hp
  refine ⟨fun v hv => ?_, fun v hn hk => ?_, fun hn hk => ?_⟩ <;>
    simp [MJ.ArgBind.boundValue, *] at this <;> exact this

/-- **The default is evaluated iff the parameter is missing or undefined**: the body sees the
default of a parameter exactly when the parameter is bound to `undef` (nothing passed, or an
undefined value passed) and has a default; `none`, `false`, `0`, `""`, `[]` are kept. -/
theorem arg_default_iff_missing_or_undefined (v : Val) (dflt : Option Expr) (d : Expr) :
    (slotOf v dflt = .dflt d ↔ v = .undef ∧ dflt = some d) ∧
    (v ≠ .undef → slotOf v dflt = .passed v) ∧ slotOf v none = .passed v :=
  ⟨MJ.ArgBind.slotOf_dflt_iff v dflt d, MJ.ArgBind.slotOf_passed_of_ne_undef v dflt, MJ.ArgBind.slotOf_no_default v⟩

/-- **Positional and keyword passing of the same value bind the same**: one more positional value
`v` is the same call as `p=v` for the next free parameter `p`. -/
theorem arg_positional_eq_keyword (params : List String) (uc : Bool) (pos : List Val) (kw : List (String × Val))
    (p : String) (v : Val) (hnd : params.Nodup) (hp : params[pos.length]? = some p)
    (hk : assocGet p kw = none) (hc : p ≠ "caller") :
    bindArgs params uc (pos ++ [v]) kw = bindArgs params uc pos (kw ++ [(p, v)]) :=
  MJ.ArgBind.bindArgs_pos_eq_kw params uc pos kw p v hnd hp hk hc

/-- **Every keyword is either consumed or an error**: in an accepted call every keyword names a
parameter that was not filled by position, and that parameter holds the keyword's value — or it is
the hidden `caller` of a macro that refers to `caller`. -/
theorem arg_keyword_consumed_or_error {params uc pos kw bound c}
    (h : bindArgs params uc pos kw = .ok (bound, c)) (k : String) (v : Val) (hm : (k, v) ∈ kw) :
    (∃ i w, params[i]? = some k ∧ pos.length ≤ i ∧ assocGet k kw = some w ∧ bound[i]? = some (k, w)) ∨
      (uc = true ∧ k = "caller") :=
  MJ.ArgBind.bindArgs_keywords_consumed h k v hm

/-- the error cases, exactly: too many positional values, a parameter filled by position and named
by a keyword (duplicate — whatever the keyword's value), an unknown keyword -/
theorem arg_error_iff (params : List String) (uc : Bool) (pos : List Val) (kw : List (String × Val)) :
    bindArgs params uc pos kw = .error .tooManyArgs ↔
      (params.length < pos.length ∨ (∃ i p, i < pos.length ∧ params[i]? = some p ∧ (assocGet p kw).isSome) ∨
        ∃ k v, (k, v) ∈ kw ∧ k ∉ params ∧ ¬ (uc = true ∧ k = "caller")) :=
  MJ.ArgBind.bindArgs_error_iff params uc pos kw

/-- the model VM's `Macro::prepare_args` (`MJ.Vm.prepareArgs`: the last value of a call is the
keyword bundle) is the binder of the reference semantics -/
theorem vm_prepare_args_is_bindArgs (spec : List String) (cref : Bool) (pos : List Val) (kw : List (String × Val)) :
    MJ.Vm.prepareArgs spec cref (pos ++ [.kwargs kw]) =
      (bindArgs spec cref pos kw).map (fun r => (r.1.map (·.2), r.2)) ∧
    ((∀ kvs, pos.getLast? ≠ some (.kwargs kvs)) →
      MJ.Vm.prepareArgs spec cref pos = (bindArgs spec cref pos []).map (fun r => (r.1.map (·.2), r.2))) :=
  ⟨MJ.ArgBind.prepareArgs_kwargs spec cref pos kw, MJ.ArgBind.prepareArgs_positional spec cref pos⟩

/-! ## Refinement: compiled code on the VM vs. the reference semantics -/

/-- The full statement: for every template the model code generator compiles (macros, call blocks
and calls included) and every context, the extended model VM on the generated code renders what
the reference semantics renders.  Not proved (checked on every generated program). -/
def C03_full : Prop :=
  ∀ (prog : List Stmt) (ctx : Scope) (code : List MJ.Compile.Instr) (fuel : Nat) (out : String),
    MJ.Compile.compileTemplate prog = some code → renderTemplate fuel ctx prog = .ok out →
    ∃ k, ∀ j, MJ.VmM.renderCodeM (k + j) ctx code = .ok out

/-- **The refinement theorem.**  For every template of `MJ.Compile.CoreFragment` (see the head of this
file: everything but defaults that call or read parameters and macros used as values) and every render
context of plain data (`undefined`, `none`, booleans, integers, strings, lists, maps), whatever the
reference semantics renders, the model VM `MJ.Vm` renders on the code the model code generator emits —
macro declarations with closures and defaults, macro calls with positional and keyword arguments, call
blocks and `caller` included. -/
theorem vm_refines_eval (prog : List Stmt) (hfrag : MJ.Compile.CoreFragment prog) (ctx : Scope)
    (hctx : MJ.Vm.CtxPlain ctx)
    (code : List MJ.Compile.Instr) (hcode : MJ.Compile.compileTemplate prog = some code) (fuel : Nat)
    (out : String) (hev : renderTemplate fuel ctx prog = .ok out) :
    ∃ k, ∀ j, MJ.Vm.renderCode (k + j) ctx code = .ok out :=
  MJ.Vm.vm_refines_eval prog hfrag ctx hctx code hcode fuel out hev

/-- expressions: the code the back-patching generator appends for `e` makes the VM push the value
of `e` (constant folding, short-circuit `and` / `or`, `if` expressions, filters, tests, macro calls
with positional and keyword arguments, …); `E` = where the expression stands (cells, closures, what
may be read), `E.ok s` = the VM state mirrors it -/
theorem compileExpr_correct {n e v} (E : MJ.Vm.ECtx) (hev : evalExpr n E.K.ctx E.heap (E.loc ++ E.env) e = .ok v)
    (hwf : MJ.Compile.wfExpr E.K.M E.P E.A e = true) (g : MJ.Compile.CG) (post : List MJ.Compile.Instr)
    (hC : E.K.C = (MJ.Compile.cExpr e g).code ++ post)
    (hoof : (MJ.Compile.cExpr e g).oof = false) {s : MJ.Vm.VmState} (hpc : s.pc = g.next) (hok : E.ok s) :
    MJ.Vm.Pushed E s (MJ.Compile.cExpr e g).next (v :: s.stack) :=
  MJ.Vm.compileExpr_correct E hev hwf g post hC hoof hpc hok

/-- a macro call (`Macro::call`): for a macro value `w` of the reference semantics and the macro object
`u` of the VM that mirrors it, the VM binds the arguments with `prepare_args` (`ArgsRel`: the same plain
data, and — for a call block — corresponding `caller` macros), evaluates the defaults, runs the macro's
code in a fresh context up to its `Return`, and the captured output is the value of the call -/
theorem macro_call_correct (n : Nat) (K : MJ.Vm.Cfg) (G : MJ.Vm.Ghost) (heap : Heap) (cls : List Scope) (w u : Val)
    (as : List (Option String × Val)) (args : List Val) (v : Val)
    (hcall : callValue n K.ctx heap w as = .ok v) (hrel : MJ.Vm.MacroRel K G cls heap.length u w)
    (hargs : MJ.Vm.ArgsRel K G cls heap.length as args) (hinv : MJ.Vm.GInv K G heap cls)
    (hplain : PlainSt K.M K.ctx heap) :
    ∃ nm spec off clo cref vals caller s1, u = .vmMacro nm spec off clo cref ∧
      MJ.Vm.prepareArgs spec cref args = .ok (vals, caller) ∧
      MJ.Vm.Reach K.ctx K.C (MJ.Vm.calleeState off clo caller vals cls) s1 ∧ K.C[s1.pc]? = some .return_ ∧
      v = .str (s1.outs.getLast?.getD "") ∧ MJ.Vm.Ext cls s1.closures :=
  (MJ.Vm.all_sim n n (Nat.le_refl _)).2.1 K G heap cls w u as args v hcall hrel hargs hinv hplain

/-- the values that flow through expressions of the fragment are plain data (no macro, no keyword
bundle, no other engine object), provided the render context and the variables hold plain data: macro
values only sit in variables with macro names, which are only called -/
theorem expr_value_plain {M : List String} {ctx : Scope} {heap : Heap} {st : List Nat} (hp : PlainSt M ctx heap)
    {P A} (n : Nat) (e : Expr) (v : Val) (hwf : MJ.Compile.wfExpr M P A e = true)
    (hev : evalExpr n ctx heap st e = .ok v) : plain v = true :=
  evalExpr_plain hp n e v hwf hev

/-- … so that a positional argument of a call is never taken for the keyword-argument bundle of
`Value::call`'s calling convention -/
theorem plain_args_are_positional {as : List (Option String × Val)} (h : ∀ v, v ∈ (splitArgs as).1 → plain v = true) :
    callArgs as = ((splitArgs as).1, (splitArgs as).2) :=
  callArgs_plain h

/-- the other entry form: `prog` is the top level of a child template / of an imported module —
its output is discarded (`Output::begin_capture(Discard)`), its assignments and the macros it declares
persist — and `tail` the layout / importing template that reads / calls them (`renderAfter`).  The
model VM runs the code of `prog` with a discarding output and the rest with a fresh one; captures begun
under the discarding output (`{% set x %}…{% endset %}`, filter blocks, macro calls) still record what
is written into them. -/
theorem vm_refines_eval_discard (prog tail : List Stmt) (hfrag : MJ.Compile.CoreFragment (prog ++ tail)) (ctx : Scope)
    (hctx : MJ.Vm.CtxPlain ctx)
    (code : List MJ.Compile.Instr) (hcode : MJ.Compile.compileTemplate (prog ++ tail) = some code)
    (fuel : Nat) (out : String) (hev : renderAfter fuel ctx prog tail = .ok out) :
    ∃ codeP, MJ.Compile.compileTemplate prog = some codeP ∧
      ∃ k, ∀ j, MJ.Vm.renderCodeAfter (k + j) ctx code codeP.length = .ok out :=
  MJ.Vm.vm_refines_eval_discard prog tail hfrag ctx hctx code hcode fuel out hev

/-- a run with a discarding output goes through the same program counters, operand stacks, frames
and capture buffers (above the bottom entry) as the ordinary run -/
theorem discard_run_follows_run (ctx : Scope) (C : List MJ.Compile.Instr) (k : Nat) (s s' : MJ.Vm.VmState)
    (h : MJ.Vm.run ctx C k s = .ok s') :
    MJ.Vm.runD ctx C k (MJ.Vm.eraseBottom s) = .ok (MJ.Vm.eraseBottom s') :=
  MJ.Vm.run_erase ctx C k s s' h

/-- constant folding (`Expr::as_const`) never changes a value -/
theorem asConst_sound {e : Expr} {v : Val} (h : MJ.Compile.asConst e = .val v) (n : Nat) (ctx : Scope)
    (heap : Heap) (stack : List Nat) :
    evalExpr n ctx heap stack e = .ok v ∨ evalExpr n ctx heap stack e = .error .fuel :=
  MJ.Compile.asConst_sound h n ctx heap stack

/-- the back-patching generator (absolute targets patched through `pending`) emits exactly the
structured code with resolved targets — for the whole core fragment `coreBlock`: every statement form,
macro declarations (jump over the body, prologue with defaults, `Enclose` / `GetClosure` / `BuildMacro`)
and call blocks, calls with positional, static and dynamic keyword arguments included; inside a loop (`lc`) the `break` jumps of the block are
still placeholders that are recorded in the pending entry of the loop (`withBreaks`) — the loop
patches them when it ends (`relBlock_patched`) -/
theorem codegen_eq_structured (prog : List Stmt) (g : MJ.Compile.CG) (lc : Option MJ.Compile.LoopCtx)
    (h : MJ.Compile.coreBlock lc.isSome prog = true) (hc : MJ.Compile.Compat g.pending lc) :
    MJ.Compile.cBlock prog g =
      (g.extend (MJ.Compile.relBlock prog g.next g.aux (MJ.Compile.setExit 0 lc)).1).withBreaks
        (MJ.Compile.relBlock prog g.next g.aux (MJ.Compile.setExit 0 lc)).2 :=
  MJ.Compile.cBlock_eq_core prog g lc h hc

/-- a whole template: no placeholders are left -/
theorem codegen_eq_structured_top (prog : List Stmt) (h : MJ.Compile.coreBlock false prog = true) :
    MJ.Compile.cBlock prog {} = ({} : MJ.Compile.CG).extend (MJ.Compile.relBlock prog 0 {} none).1 :=
  MJ.Vm.cBlock_top prog h

/-! ## Non-vacuity: concrete instances, evaluated by the kernel -/

section Examples

private def ci (i : Int) : Expr := .const (.int i)
private def xs3 : Expr := .list [ci 10, ci 20, ci 30]
private def run (p : List Stmt) : Option String := (renderTemplate defaultFuel [] p).toOption

/-- `{% set y = 1 %}{% for a in [10,20,30] %}{% set y = a %}{{ y }},{% endfor %}{{ y }}`:
the loop body sees its own `y`, afterwards `y` is 1 again (`set_in_loop_invisible`) -/
example : run [.set (.var "y") (ci 1),
    .forS (.var "a") xs3 none [.set (.var "y") (.var "a"), .emit (.var "y"), .text ","] [],
    .emit (.var "y")] = some "10,20,30,1" := by decide +kernel

/-- `set` in a `with` body is dropped, `set` in an `if` branch and at top level persists -/
example : run [.withS [(.var "w", ci 5)] [.set (.var "y") (.var "w"), .emit (.var "y")],
    .emit (.test "defined" (.var "y") []),
    .ifS (.const (.bool true)) [.set (.var "z") (ci 7)] [],
    .emit (.var "z")] = some "5False7" := by decide +kernel

/-- a macro assigns a name of the enclosing scope: only the macro's own scope changes; a later
assignment in the declaring scope is seen by the macro (closure by reference) -/
example : run [.set (.var "v") (ci 1),
    .macroS "m" [] [] [.set (.var "v") (.binop .add (.var "v") (ci 1)), .emit (.var "v")] false,
    .emit (.call (.var "m") []), .text ";", .emit (.var "v"),
    .set (.var "v") (ci 5), .emit (.call (.var "m") [])] = some "2;16" := by decide +kernel

/-- the loop variable: index, revindex, first/last, length, previtem, nextitem -/
example : run [.forS (.var "a") xs3 none
    [.emit (.getattr (.var "loop") "index"), .emit (.getattr (.var "loop") "revindex0"),
     .emit (.getattr (.var "loop") "first"), .emit (.getattr (.var "loop") "last"),
     .emit (.getattr (.var "loop") "length"), .text "[", .emit (.getattr (.var "loop") "previtem"),
     .text "|", .emit (.getattr (.var "loop") "nextitem"), .text "] "] []] =
    some "12TrueFalse3[|20] 21FalseFalse3[10|30] 30FalseTrue3[20|] " := by decide +kernel

/-- loop filter: `loop` describes the filtered sequence; `else` runs iff it is empty, also when
the first iteration ends with `break` -/
example : run [.forS (.var "a") xs3 (some (.binop .ne (.var "a") (ci 20)))
      [.emit (.getattr (.var "loop") "index"), .text "/", .emit (.getattr (.var "loop") "length"), .text " "] [.text "E"],
    .forS (.var "a") xs3 (some (.binop .gt (.var "a") (ci 99))) [.emit (.var "a")] [.text "E"],
    .forS (.var "a") xs3 none [.breakS] [.text "E2"]] = some "1/2 2/2 E" := by decide +kernel

/-- macros: positional, default, keyword arguments; call block with `caller(arg)`; unpacking -/
example : run [
    .macroS "m" ["a", "b"] [ci 2] [.emit (.var "a"), .emit (.var "b"), .emit (.call (.var "caller") [(none, .var "a")])] true,
    .callBlock (.var "m") [(none, ci 1)] ["q"] [] [.text "<", .emit (.var "q"), .text ">"] false,
    .callBlock (.var "m") [(some "b", ci 9), (some "a", ci 3)] ["q"] [] [.emit (.binop .mul (.var "q") (ci 2))] false,
    .forS (.tuple [.var "k", .var "v"]) (.list [.list [ci 1, .const (.str "x")]]) none [.emit (.var "v"), .emit (.var "k")] []]
    = some "12<1>396x1" := by decide +kernel

/-- argument binding: `m(a=none)` binds `none` (no default), `m(none)` the same; `m(1, a=none)` is a
duplicate argument; an undefined keyword value takes the default; `caller` is a keyword of its own -/
example : bindArgs ["a", "b"] false [] [("a", .none)] = .ok ([("a", .none), ("b", .undef)], none) := by
  simp [bindArgs, bindParams, assocGet]
example : bindArgs ["a", "b"] false [.none] [] = bindArgs ["a", "b"] false [] [("a", .none)] := by
  simp [bindArgs, bindParams, assocGet]
example : bindArgs ["a", "b"] false [.int 1] [("a", .none)] = .error .tooManyArgs := by
  simp [bindArgs, bindParams, assocGet]
example : bindArgs ["a"] false [] [("zz", .int 1)] = .error .tooManyArgs := by
  simp [bindArgs, bindParams, assocGet]
example : bindArgs ["a"] true [] [("caller", .int 5)] = .ok ([("a", .undef)], some (.int 5)) := by
  simp [bindArgs, bindParams, assocGet]
example : slotOf .none (some (ci 1)) = .passed .none ∧ slotOf .undef (some (ci 1)) = .dflt (ci 1) ∧
    slotOf (.bool false) (some (ci 1)) = .passed (.bool false) := by simp [slotOf]
/-- hypotheses of `arg_positional_eq_keyword` / `arg_keyword_consumed_or_error` / `arg_explicit_value_bound_as_is` hold for … -/
example : bindArgs ["a", "b"] false ([.int 1] ++ [.none]) [] = bindArgs ["a", "b"] false [.int 1] ([] ++ [("b", .none)]) :=
  arg_positional_eq_keyword ["a", "b"] false [.int 1] [] "b" .none (by decide) (by decide) (by simp [assocGet]) (by decide)
example : bindArgs ["a", "b"] false [.int 1] [("b", .none)] = .ok ([("a", .int 1), ("b", .none)], none) := by
  simp [bindArgs, bindParams, assocGet]
example : ∃ i w, ["a", "b"][i]? = some "b" ∧ [Val.int 1].length ≤ i ∧ assocGet "b" [("b", Val.none)] = some w ∧
    [("a", Val.int 1), ("b", Val.none)][i]? = some ("b", w) := by
  have h : bindArgs ["a", "b"] false [.int 1] [("b", .none)] = .ok ([("a", .int 1), ("b", .none)], none) := by
    simp [bindArgs, bindParams, assocGet]
  simpa using arg_keyword_consumed_or_error h "b" .none (by simp)
/-- `{% macro m(a=1, b='x') %}[{{ a }}|{{ b }}]{% endmacro %}{{ m(a=none) }}{{ m(none, none) }}{{ m(2, b=none) }}{{ m(a=u) }}` -/
example : run [.macroS "m" ["a", "b"] [ci 1, .const (.str "x")] [.text "[", .emit (.var "a"), .text "|", .emit (.var "b"), .text "]"] false,
    .emit (.call (.var "m") [(some "a", .const .none)]), .emit (.call (.var "m") [(none, .const .none), (none, .const .none)]),
    .emit (.call (.var "m") [(none, ci 2), (some "b", .const .none)]), .emit (.call (.var "m") [(some "a", .var "u")])]
    = some "[None|x][None|None][2|None][1|x]" := by decide +kernel
/-- … and the model VM on the compiled code renders the same -/
example : ((MJ.Compile.compileTemplate [.macroS "m" ["a", "b"] [ci 1, .const (.str "x")] [.text "[", .emit (.var "a"), .text "|", .emit (.var "b"), .text "]"] false,
    .emit (.call (.var "m") [(some "a", .const .none)]), .emit (.call (.var "m") [(none, .const .none), (none, .const .none)]),
    .emit (.call (.var "m") [(none, ci 2), (some "b", .const .none)]), .emit (.call (.var "m") [(some "a", .var "u")])]).bind fun code =>
    (MJ.VmM.renderCodeM 1000 [] code).toOption) = some "[None|x][None|None][2|None][1|x]" := by decide +kernel

/-- an instance of the hypotheses of `set_in_if_persists` / `set_toplevel_persists` -/
example : ∃ σ', exec 6 [] [0] { heap := [[]], out := "" }
      (.ifS (.const (.bool true)) [.set (.var "x") (ci 3)] []) = .ok (σ', .normal) ∧
    lookup [] σ'.heap [0] "x" = some (.int 3) ∧ σ'.out = "" :=
  set_in_if_persists (m := 2) (cv := .bool true) (by rfl) (by rfl) (by rfl) (by decide)

/-- a template of the fragment with short-circuit operators, constant folding, an `if` expression,
`elif`, loop filters, `break` and `continue`: hypotheses of `vm_refines_eval` hold, and the VM indeed renders the same -/
private def fragProg : List Stmt :=
  [.set (.var "x") (.binop .add (ci 2) (ci 3)),
   .ifS (.binop .and (.var "x") (.binop .gt (.var "x") (ci 9))) [.text "big"]
     [.ifS (.binop .or (.var "nope") (.var "x")) [.emit (.ife (.var "x") (.filter "upper" (.const (.str "ok")) []) none)] [.text "no"]],
   .emit (.list [.var "x", .getattr (.var "m") "k"]),
   .withS [(.var "w", .binop .mul (.var "x") (ci 2))]
     [.forS (.var "a") (.list [.var "w", ci 7, .var "x"]) none
        [.set (.var "x") (.var "a"), .emit (.var "x"), .text ":", .emit (.getattr (.var "loop") "revindex"),
         .ifS (.getattr (.var "loop") "last") [.text "."] [.text ","]] []],
   .emit (.var "x"), .emit (.test "defined" (.var "w") []),
   .forS (.tuple [.var "k", .var "v"]) (.list [.list [ci 1, .const (.str "p")], .list [ci 2, .const (.str "q")]]) none
     [.emit (.var "v"), .emit (.var "k")] [.text "never"],
   .forS (.var "z") (.var "nothing") none [.text "never"] [.text "|empty|"],
   .setBlock "cap" [("upper", []), ("default", [(none, .const (.str "d"))])] [.text "ab", .emit (.var "x")],
   .set (.tuple [.var "p", .tuple [.var "q", .var "r"]]) (.list [ci 1, .list [ci 2, ci 3]]),
   .filterBlock [("lower", [])] [.emit (.var "cap"), .text "XY", .emit (.binop .add (.var "q") (.var "r"))],
   .emit (.cmp (ci 1) [(.lt, .var "q"), (.le, .var "r"), (.notin, .list [ci 4, .var "x"])]),
   .emit (.cmp (ci 1) [(.lt, .var "q"), (.gt, .var "r"), (.eq, .getattr (.var "nope") "boom")]),
   .forS (.var "f") (.list [ci 1, ci 2, ci 3, ci 4]) (some (.test "odd" (.var "f") []))
     [.emit (.var "f"), .emit (.getattr (.var "loop") "length")] [.text "none"],
   .forS (.var "f") (.list [ci 1, ci 2]) (some (.binop .gt (.var "f") (ci 9))) [.emit (.var "f")] [.text "none"],
   -- `continue` / `break` out of `if`, `with`, set-block and filter-block bodies
   .forS (.var "b") (.list [ci 1, ci 2, ci 3, ci 4, ci 5]) none
     [.ifS (.binop .eq (.var "b") (ci 2)) [.continueS] [],
      .withS [(.var "w2", .binop .mul (.var "b") (ci 10))]
        [.setBlock "cp" [("upper", [])] [.text "x", .ifS (.binop .eq (.var "b") (ci 4)) [.breakS] [], .emit (.var "w2")],
         .emit (.var "cp"), .text ";"],
      .filterBlock [("lower", [])] [.text "Q", .ifS (.getattr (.var "loop") "first") [.continueS] [], .emit (.var "b")]]
     [.text "never"],
   .forS (.var "b") (.list [ci 1, ci 2]) (some (.binop .gt (.var "b") (ci 1))) [.breakS] [.text "E"]]

example : MJ.Compile.CoreFragment fragProg := by decide +kernel
private theorem fragProg_vm : ((MJ.Compile.compileTemplate fragProg).bind fun code =>
    (MJ.Vm.renderCode 1000 [("m", .map [("k", .str "v")])] code).toOption) = some "OK[5, 'v']10:3,7:2,5:1.5Falsep1q2|empty|ab5xy5TrueFalse1232noneX10;X30;q3" := by
  decide +kernel
example : (MJ.Compile.compileTemplate fragProg).isSome = true := by
  cases h : MJ.Compile.compileTemplate fragProg with
  | none => have := fragProg_vm; rw [h] at this; cases this
  | some _ => rfl
example : (renderTemplate defaultFuel [("m", .map [("k", .str "v")])] fragProg).toOption = some "OK[5, 'v']10:3,7:2,5:1.5Falsep1q2|empty|ab5xy5TrueFalse1232noneX10;X30;q3" := by
  decide +kernel
example : ((MJ.Compile.compileTemplate fragProg).bind fun code =>
    (MJ.Vm.renderCode 1000 [("m", .map [("k", .str "v")])] code).toOption) = some "OK[5, 'v']10:3,7:2,5:1.5Falsep1q2|empty|ab5xy5TrueFalse1232noneX10;X30;q3" :=
  fragProg_vm

/-- macros with defaults and keyword arguments, a call block with `caller(arg)`, a closure: the program
is in the fragment of `codegen_eq_structured` and the structured code is the generated code -/
private def macroProg : List Stmt :=
  [.set (.var "v") (ci 1),
   .macroS "m" ["a", "b"] [ci 2] [.emit (.var "a"), .emit (.var "b"), .emit (.var "v"),
      .emit (.call (.var "caller") [(none, .var "a"), (some "k", .var "b")])] true,
   .callBlock (.var "m") [(none, ci 1), (some "b", .var "v")] ["q", "k"] [ci 0] [.text "<", .emit (.var "q"), .emit (.var "k"), .text ">"] false,
   .emit (.call (.var "m") [(some "a", ci 3), (some "caller", .const .none)])]
example : MJ.Compile.coreBlock false macroProg = true := by decide +kernel
example : (MJ.Compile.compileTemplate macroProg).map (·.length) =
    some (MJ.Compile.relBlock macroProg 0 {} none).1.1.length := by decide +kernel

/-- closures: `m` reads the template-level `v` (which changes after the declaration: the closure cell is
written through), `g` is declared in a loop body, encloses the loop variable and `m`, and calls `m` with
a keyword argument; arguments by position, by keyword (in any order), `none` passed explicitly, a
missing argument that gets its default — evaluated at call time, reading the enclosed `v`.  The hypotheses of `vm_refines_eval` hold, and the VM indeed renders the same:
`{% set v = 1 %}{% macro m(a, b=v + 100) %}[{{ a }}|{{ b }}|{{ v }}]{% endmacro %}{% for i in [1, 2] %}{% macro g(x) %}{{ x }}{{ i }}{{ m(x, b=i) }}{% endmacro %}{{ g(i * 10) }}{% set v = 5 %}{% endfor %}{{ m(b=2, a=none) }}{% set v = 7 %}{{ m(1) }}{{ g is defined }}{{ m is defined }}` -/
private def closProg : List Stmt :=
  [.set (.var "v") (ci 1),
   .macroS "m" ["a", "b"] [.binop .add (.var "v") (ci 100)] [.text "[", .emit (.var "a"), .text "|", .emit (.var "b"), .text "|", .emit (.var "v"), .text "]"] false,
   .forS (.var "i") (.list [ci 1, ci 2]) none
     [.macroS "g" ["x"] [] [.emit (.var "x"), .emit (.var "i"), .emit (.call (.var "m") [(none, .var "x"), (some "b", .var "i")])] false,
      .emit (.call (.var "g") [(none, .binop .mul (.var "i") (ci 10))]), .set (.var "v") (ci 5)] [],
   .emit (.call (.var "m") [(some "b", ci 2), (some "a", .const .none)]),
   .set (.var "v") (ci 7),
   .emit (.call (.var "m") [(none, ci 1)]),
   .emit (.test "defined" (.var "g") []), .emit (.test "defined" (.var "m") [])]
example : MJ.Compile.CoreFragment closProg := by decide +kernel
example : MJ.Vm.CtxPlain [] := by intro x v h; cases h
example : MJ.Vm.CtxPlain [("m", .map [("k", .str "v")]), ("xs", .list [.int 1, .none])] := by
  intro x v h; simp only [assocGet] at h; split at h
  · cases h; decide
  · split at h
    · cases h; decide
    · cases h
example : (MJ.Compile.compileTemplate closProg).map (·.length) = some 74 := by decide +kernel
example : (renderTemplate defaultFuel [] closProg).toOption = some "101[10|1|1]202[20|2|1][None|2|1][1|107|7]FalseTrue" := by
  decide +kernel
example : ((MJ.Compile.compileTemplate closProg).bind fun code =>
    (MJ.Vm.renderCode 1000 [] code).toOption) = some "101[10|1|1]202[20|2|1][None|2|1][1|107|7]FalseTrue" := by
  decide +kernel

example : callArgs [(none, .int 1), (none, .map [("a", .int 2)])] = ([.int 1, .map [("a", .int 2)]], []) :=
  plain_args_are_positional (by intro v hv; simp [splitArgs] at hv; rcases hv with rfl | rfl <;> decide)
/-- (a keyword bundle as last positional value — what a caller from Rust passes — *is* taken for the keyword arguments) -/
example : callArgs [(none, .int 1), (none, .kwargs [("a", .int 2)])] = ([.int 1], [("a", .int 2)]) := by
  simp [callArgs, splitArgs]

/-- call blocks and `caller`: `box` calls its `caller` with a positional and a keyword argument; the first
call block has two parameters, the second a parameter with a default and stands in a loop (its body reads
the loop variable: the `caller` macro is a closure); `w` is passed by default and by keyword:
`{% macro box(title, w=2) %}<{{ title }}:{{ w }}>{{ caller(title, k=w) }}</>{% endmacro %}{% set v = 3 %}{% call(t, k) box("a") %}[{{ t }}{{ k }}{{ v }}]{% endcall %}{% for i in [1, 2] %}{% call(t, k=9) box(i, w=i * 10) %}{{ t }}-{{ k }}-{{ i }}{% endcall %}{% endfor %}` -/
private def cbProg : List Stmt :=
  [.macroS "box" ["title", "w"] [ci 2]
     [.text "<", .emit (.var "title"), .text ":", .emit (.var "w"), .text ">",
      .emit (.call (.var "caller") [(none, .var "title"), (some "k", .var "w")]), .text "</>"] true,
   .set (.var "v") (ci 3),
   .callBlock (.var "box") [(none, .const (.str "a"))] ["t", "k"] [] [.text "[", .emit (.var "t"), .emit (.var "k"), .emit (.var "v"), .text "]"] false,
   .forS (.var "i") (.list [ci 1, ci 2]) none
     [.callBlock (.var "box") [(none, .var "i"), (some "w", .binop .mul (.var "i") (ci 10))] ["t", "k"] [ci 9]
        [.emit (.var "t"), .text "-", .emit (.var "k"), .text "-", .emit (.var "i")] false] []]
example : MJ.Compile.CoreFragment cbProg := by decide +kernel
example : (MJ.Compile.compileTemplate cbProg).map (·.length) = some 86 := by decide +kernel
example : (renderTemplate defaultFuel [] cbProg).toOption = some "<a:2>[a23]</><1:10>1-10-1</><2:20>2-20-2</>" := by
  decide +kernel
example : ((MJ.Compile.compileTemplate cbProg).bind fun code =>
    (MJ.Vm.renderCode 1000 [] code).toOption) = some "<a:2>[a23]</><1:10>1-10-1</><2:20>2-20-2</>" := by
  decide +kernel

/-- a macro declared at the top level of a "child template" (its own call there is discarded) is called
from the "layout", and sees the layout's later assignment -/
private def childM : List Stmt :=
  [.text "dropped", .set (.var "t") (.const (.str "T")), .macroS "hd" ["x"] [] [.text "<", .emit (.var "x"), .emit (.var "t"), .text ">"] false,
   .emit (.call (.var "hd") [(none, ci 0)])]
private def layoutM : List Stmt :=
  [.emit (.call (.var "hd") [(some "x", ci 1)]), .set (.var "t") (ci 2), .emit (.call (.var "hd") [(none, ci 3)])]
example : MJ.Compile.CoreFragment (childM ++ layoutM) := by decide +kernel
example : (renderAfter defaultFuel [] childM layoutM).toOption = some "<1T><32>" := by decide +kernel
example : ((MJ.Compile.compileTemplate (childM ++ layoutM)).bind fun code =>
    (MJ.Compile.compileTemplate childM).bind fun codeP =>
    (MJ.Vm.renderCodeAfter 1000 [] code codeP.length).toOption) = some "<1T><32>" := by decide +kernel

/-- a set-block at the top level of a "child template": its output is discarded, the captured value
reaches the "layout" — in the reference semantics and on the model VM -/
private def childProg : List Stmt :=
  [.text "dropped", .setBlock "title" [("upper", [])] [.text "Hello ", .emit (.var "name")],
   .ifS (.var "name") [.setBlock "sub" [] [.forS (.var "c") (.list [ci 1, ci 2]) none [.emit (.var "c")] []]] []]
private def layoutProg : List Stmt :=
  [.text "<", .emit (.var "title"), .text "|", .emit (.var "sub"), .text ">"]
example : (renderAfter defaultFuel [("name", .str "World")] childProg layoutProg).toOption = some "<HELLO WORLD|12>" := by
  decide +kernel
example : ((MJ.Compile.compileTemplate (childProg ++ layoutProg)).bind fun code =>
    (MJ.Compile.compileTemplate childProg).bind fun codeP =>
    (MJ.Vm.renderCodeAfter 1000 [("name", .str "World")] code codeP.length).toOption) = some "<HELLO WORLD|12>" := by
  decide +kernel

end Examples

/-! ## keyword arguments: static fast path = dynamic path -/

/-- the constant bundle of the static fast path holds, under every name, the literal written for it -/
theorem staticKwargs_lits : ∀ (kws : List (String × Lit)), (kws.map (·.1)).Nodup →
    ∃ m, MJ.Compile.staticKwargs (kws.map fun p => (p.1, Expr.const p.2)) = some m ∧
      ∀ k, assocGet k m = assocGet k (kws.map fun p => (p.1, litVal p.2))
  | [], _ => ⟨[], by simp [MJ.Compile.staticKwargs], fun k => by simp [assocGet]⟩
  | (k0, l0) :: rest, hnd => by
    have hnd' : (rest.map (·.1)).Nodup := (List.nodup_cons.1 (by simpa using hnd)).2
    have hknot : k0 ∉ rest.map (·.1) := (List.nodup_cons.1 (by simpa using hnd)).1
    obtain ⟨m', hm', hget⟩ := staticKwargs_lits rest hnd'
    have hk0 : assocGet k0 m' = none := by
      rw [hget k0]
      exact MJ.Vm.assocGet_none_of_not_mem (by simpa [List.map_map, Function.comp_def] using hknot)
    refine ⟨mapInsert k0 (litVal l0) m', by simp [MJ.Compile.staticKwargs, hm', hk0], fun k => ?_⟩
    rw [MJ.Vm.assocGet_mapInsert]
    by_cases h : k = k0
    · subst h; simp [assocGet]
    · have : ¬ k0 = k := fun e => h e.symm
      simp [assocGet, h, this, hget k]

/-- **the static and the dynamic keyword-argument path of `compile_call_args` make the same call**: for
keyword arguments that are all literals (distinct names) the constant bundle of the fast path
(`LoadConst Kwargs{…}`, `MJ.Compile.staticKwargs`) and the bundle `BuildKwargs` builds from the
`LoadConst name; LoadConst literal` pairs of the slow path (`insertPairs`, what `MJ.Vm.step` runs) hold the
same value under every name — `Macro::prepare_args` (`bindArgs`) reads the bundle by name only.  (Call
blocks always take the slow path: `cStmt (.callBlock …)` has no static branch, and the regenerated
instruction streams are compared with it on every generated call block.) -/
theorem static_kwargs_eq_dynamic (kws : List (String × Lit)) (hnd : (kws.map (·.1)).Nodup) :
    ∃ m d, MJ.Compile.staticKwargs (kws.map fun p => (p.1, Expr.const p.2)) = some m ∧
      insertPairs (kws.map fun p => (Val.str p.1, litVal p.2)) [] = .ok d ∧
      ∀ k, assocGet k m = assocGet k d := by
  obtain ⟨m, hm, hget⟩ := staticKwargs_lits kws hnd
  have hnd2 : ((kws.map fun p => (p.1, litVal p.2)).map (·.1)).Nodup := by
    have e : (kws.map fun p => (p.1, litVal p.2)).map (·.1) = kws.map (·.1) := by simp [List.map_map, Function.comp_def]
    rw [e]; exact hnd
  obtain ⟨d, hd, hdget⟩ := MJ.Vm.insertPairs_kw (kws.map fun p => (p.1, litVal p.2)) [] hnd2 (fun k _ => by simp [assocGet])
  have e2 : ((kws.map fun p => (p.1, litVal p.2)).map fun p => (Val.str p.1, p.2)) = kws.map fun p => (Val.str p.1, litVal p.2) := by
    simp [List.map_map, Function.comp_def]
  rw [e2] at hd
  refine ⟨m, d, hm, hd, fun k => ?_⟩
  rw [hget k, hdget k]
  cases assocGet k (kws.map fun p => (p.1, litVal p.2)) <;> simp [assocGet]

example : ∃ m d, MJ.Compile.staticKwargs [("title", Expr.const (.str "x")), ("n", Expr.const (.int 2))] = some m ∧
    insertPairs [(Val.str "title", .str "x"), (Val.str "n", .int 2)] [] = .ok d ∧ ∀ k, assocGet k m = assocGet k d :=
  static_kwargs_eq_dynamic [("title", .str "x"), ("n", .int 2)] (by decide)

/-! ## neutral twins: statements that do nothing, in the reference semantics

The auto-escape streams of the check compare a program with its *neutral twin* under HTML / JSON
escaping (`harness/src/bin/c03_esc.inc`).  The rewrites that make a twin are laws of `exec` (the
driver also renders every pair and reports a pair that differs as broken): -/

/-- `{% if false %}…{% endif %}` does nothing, whatever its body is -/
theorem twin_if_false (n : Nat) (ctx : Scope) (st : List Nat) (σ : State) (t : List Stmt) :
    exec (n + 2) ctx st σ (.ifS (.const (.bool false)) t []) = .ok (σ, .normal) := by
  simp [exec, evalExpr, litVal, truthy, execBlock, bind, Except.bind]

/-- `{% if x %}{% endif %}` does nothing, whatever `x` is -/
theorem twin_if_empty (n : Nat) (ctx : Scope) (st : List Nat) (σ : State) (x : String) :
    exec (n + 2) ctx st σ (.ifS (.var x) [] []) = .ok (σ, .normal) := by
  simp [exec, evalExpr, execBlock, bind, Except.bind]

/-- `{% for x in [] %}…{% endfor %}` without an `else` does nothing -/
theorem twin_for_empty (n : Nat) (ctx : Scope) (st : List Nat) (σ : State) (x : String) (body : List Stmt) :
    exec (n + 3) ctx st σ (.forS (.var x) (.list []) none body []) = .ok (σ, .normal) := by
  simp [exec, evalExpr, evalList, iterate, execBlock, bind, Except.bind]

/-- `{% if true %}B{% endif %}` is `B` (an `if` opens no scope) -/
theorem twin_if_true (n : Nat) (ctx : Scope) (st : List Nat) (σ : State) (body : List Stmt) :
    exec (n + 2) ctx st σ (.ifS (.const (.bool true)) body []) = execBlock (n + 1) ctx st σ body := by
  simp [exec, evalExpr, litVal, truthy, bind, Except.bind]

/-- template data split in two prints the same -/
theorem twin_text_split (n : Nat) (ctx : Scope) (st : List Nat) (σ : State) (a b : String) (rest : List Stmt) :
    execBlock (n + 3) ctx st σ (.text a :: .text b :: rest) = execBlock (n + 1) ctx st { σ with out := σ.out ++ (a ++ b) } rest := by
  simp [execBlock, exec, String.append_assoc]

/-- a statement that does nothing in front of `rest` (costs one unit of fuel) -/
theorem twin_block_noop (n : Nat) (ctx : Scope) (st : List Nat) (σ : State) (s : Stmt) (rest : List Stmt)
    (h : exec (n + 2) ctx st σ s = .ok (σ, .normal)) :
    execBlock (n + 3) ctx st σ (s :: rest) = execBlock (n + 2) ctx st σ rest := by
  simp [execBlock, h]

example : (renderTemplate 50 [] [.text "a", .ifS (.const (.bool false)) [.text "x"] [], .forS (.var "zq") (.list []) none [] [],
      .ifS (.const (.bool true)) [.text "b"] []]).toOption = (renderTemplate 50 [] [.text "ab"]).toOption := by decide +kernel
example : exec 5 [] [0] { heap := [[]], out := "o" } (.ifS (.var "nope") [] []) = .ok ({ heap := [[]], out := "o" }, .normal) :=
  twin_if_empty 3 [] [0] _ "nope"

end MJ.C03
