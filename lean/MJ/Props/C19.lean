import MJ.Proofs.OutputProg
import MJ.Proofs.OutputEmit
import MJ.Proofs.OutputUser
/-!
# C19 — a failing output sink stops the render with the sink's own error

Property theorems only (lemmas: `MJ/Proofs/Output*.lean`, model: `MJ/Model/Output*.lean`).

* `ops : List Op` — the output operations a render performs (writes of chunks, begin/end of
  captures and discards, entering/leaving nested evaluations that wrap errors, failures that are
  not about the output).  *Every* sequence is covered, also ill-formed ones.
* `script : List Beh` — what the sink does at its 1st, 2nd, … `write` call (accept all / at most
  `k` bytes / half / `Err(e)` of any kind incl. `Interrupted`); afterwards it accepts everything.
* `renderTo ops script` — `Template::render_captured_to` / `State::render_block_to_write`:
  the log of all `write` calls the sink saw and the returned result.
* `renderString ops` — the plain render into a `String` (`Template::render`,
  `State::render_block`): the string built and the result.
-/
namespace MJ.C19
open MJ MJ.Output

/-- Full-strength statement, for every operation sequence and every sink behaviour. -/
def C19_full : Prop :=
  ∀ (ops : List Op) (script : List Beh),
    -- (1) what the sink accepted is a prefix of what the plain render builds
    delivered (renderTo ops script).calls <+: (renderString ops).buf ∧
    -- (2) a call at which the sink failed is the last call it ever sees
    (∀ (i : Nat) (h : i < (renderTo ops script).calls.length),
        ((renderTo ops script).calls[i]).failure ≠ none → i + 1 = (renderTo ops script).calls.length) ∧
    -- (3) if the sink failed with `e`, the call returns `WriteFailure` with source `e`
    (∀ c ∈ (renderTo ops script).calls, ∀ e, c.failure = some e →
        (renderTo ops script).result = .ok (.error (.writeFailure (some e)))) ∧
    -- (4) if the sink never failed the result is the plain render's and everything was delivered
    ((∀ c ∈ (renderTo ops script).calls, c.failure = none) →
        (renderTo ops script).result = (renderString ops).result ∧
        delivered (renderTo ops script).calls = (renderString ops).buf) ∧
    -- (5) captured/discarded regions are invisible to the sink and to the result
    renderTo (erase 0 ops) script = renderTo ops script ∧
    -- (6) no panic for well-bracketed captures
    (balanced 0 ops = true → (renderTo ops script).result ≠ .panic)

/-- **Delivered bytes are a prefix** of the string the plain render of the same operations builds
    — in order, nothing duplicated, nothing omitted — whether the render succeeds or fails. -/
theorem delivered_is_prefix (ops : List Op) (script : List Beh) :
    delivered (renderTo ops script).calls <+: (renderString ops).buf :=
  (log_facets (render_tracks ops script)).1

example : delivered (renderTo [.write (.str [104, 105]), .write (.str [33])]
      [.accept 1, .err ⟨.brokenPipe, 7, .msg⟩]).calls = [104] ∧
    (renderString [.write (.str [104, 105]), .write (.str [33])]).buf = [104, 105, 33] := by decide +kernel

/-- **Nothing after an error**: a `write` call at which the sink failed (a non-`Interrupted`
    error, or `Ok(0)`) is the last call the sink ever receives. -/
theorem nothing_after_error (ops : List Op) (script : List Beh) (i : Nat)
    (h : i < (renderTo ops script).calls.length)
    (hf : ((renderTo ops script).calls[i]).failure ≠ none) :
    i + 1 = (renderTo ops script).calls.length :=
  (log_facets (render_tracks ops script)).2.1 i h hf

example : (renderTo [.write (.str [1, 2]), .write (.str [3]), .write (.str [4])]
      [.all, .err ⟨.other, 9, .bare⟩]).calls.length = 2 := by decide +kernel

/-- **The error is the sink's own**: if the sink failed with `e` at any call, the API returns
    `Err` of kind `WriteFailure` whose source is `e` — not `Ok`, not another kind (whatever nested
    include/super evaluation was being unwound), not a panic.  `e` ranges over ALL error tokens
    (`script` is arbitrary): bare kinds, raw OS errors, string and custom payloads, payloads that
    are engine errors themselves (of kind `WriteFailure` too, with source chains), nested
    `io::Error`s — the token comes back untouched. -/
theorem error_is_write_failure_with_source (ops : List Op) (script : List Beh) (c : Call)
    (hc : c ∈ (renderTo ops script).calls) (e : IoErr) (hf : c.failure = some e) :
    (renderTo ops script).result = .ok (.error (.writeFailure (some e))) :=
  (log_facets (render_tracks ops script)).2.2.1 c hc e hf

example : (renderTo [.enter .badInclude, .write (.str [1]), .leave] [.err ⟨.wouldBlock, 5, .engine (.leaf .invalidOperation)⟩]).result
    = .ok (.error (.writeFailure (some ⟨.wouldBlock, 5, .engine (.leaf .invalidOperation)⟩))) := by rfl
example : (renderTo [.write (.str [1, 2])] [.accept 1, .accept 0]).result
    = .ok (.error (.writeFailure (some writeZeroErr))) := by rfl

/-- **Without a sink failure nothing is lost or invented**: the result is exactly the plain
    render's result (no spurious `WriteFailure`) and every byte was delivered. -/
theorem clean_sink_same_as_plain (ops : List Op) (script : List Beh)
    (h : ∀ c ∈ (renderTo ops script).calls, c.failure = none) :
    (renderTo ops script).result = (renderString ops).result ∧
    delivered (renderTo ops script).calls = (renderString ops).buf :=
  (log_facets (render_tracks ops script)).2.2.2 h

/-- **Success delivers all**: `Ok` is returned only if the plain render succeeds too and the sink
    received the complete output. -/
theorem success_delivers_all (ops : List Op) (script : List Beh)
    (h : (renderTo ops script).result = .ok (.ok ())) :
    (renderString ops).result = .ok (.ok ()) ∧
    delivered (renderTo ops script).calls = (renderString ops).buf := by
  obtain ⟨err, ht, hq, hr⟩ := render_tracks ops script
  cases err with
  | none => exact ⟨by rw [← hq rfl, h], ht.2⟩
  | some e => rw [hr e rfl] at h; cases h

example : (renderTo [.write (.str [1, 2, 3]), .write (.chr [4])]
      [.accept 1, .err ⟨.interrupted, 1, .msg⟩, .half]).result = .ok (.ok ()) ∧
    delivered (renderTo [.write (.str [1, 2, 3]), .write (.chr [4])]
      [.accept 1, .err ⟨.interrupted, 1, .msg⟩, .half]).calls = [1, 2, 3, 4] := ⟨by rfl, by decide +kernel⟩

/-- Short (non-empty) writes and `Interrupted` are absorbed: with such a sink the render behaves
    exactly like the plain render. -/
theorem benign_sink_same_as_plain (ops : List Op) (script : List Beh)
    (hb : ∀ b ∈ script, b.benign = true) :
    (renderTo ops script).result = (renderString ops).result ∧
    delivered (renderTo ops script).calls = (renderString ops).buf := by
  obtain ⟨ht, hi⟩ := feed_init (chunksOf ops) script
  have he := hi.1 (feed_benign (chunksOf ops) ⟨script, [], none⟩ hb rfl)
  rw [he] at ht
  rw [renderTo_feed, he]
  exact ⟨rfl, ht.2.trans (renderString_buf ops).symm⟩

example : ∀ b ∈ [Beh.accept 1, .err ⟨.interrupted, 1, .msg⟩, .half, .all], b.benign = true := by decide +kernel

/-- **Captures do not touch the sink** (local form): while a capture or discard is open a write
    leaves the base writer untouched and cannot fail. -/
theorem capture_write_local {B : Type} [FmtWrite B] (o : Out B) (c : Chunk) (h : o.stack ≠ []) :
    (o.write c).1.w = o.w ∧ (o.write c).2 = true :=
  Out.write_captured o c h

/-- **Captures do not touch the sink** (global form): deleting every captured or discarded
    region from the operations changes neither the sink's call log nor the returned result, for
    any sink behaviour; the same holds for the plain render. -/
theorem captures_do_not_touch_sink (ops : List Op) (script : List Beh) :
    renderTo (erase 0 ops) script = renderTo ops script ∧
    renderString (erase 0 ops) = renderString ops := by
  constructor
  · rw [renderTo, run_erase_init]; rfl
  · rw [renderString, run_erase_init]; rfl

example : erase 0 [.write (.str [1]), .beginCapture false, .write (.str [2]), .endCapture,
      .beginCapture true, .write (.str [3]), .endCapture, .write (.str [4])]
    = [.write (.str [1]), .write (.str [4])] := by decide +kernel

/-- **No panic**: with well-bracketed captures (no `end_capture` without `begin_capture`) neither
    render panics, whatever the sink does. -/
theorem no_panic (ops : List Op) (script : List Beh) (hb : balanced 0 ops = true) :
    (renderTo ops script).result ≠ .panic ∧ (renderString ops).result ≠ .panic :=
  ⟨finish_ne_panic _ _ (run_no_panic ops _ [] [] hb), run_no_panic ops _ [] [] hb⟩

example : balanced 0 [.beginCapture false, .write (.str [2]), .endCapture, .write (.str [4])] = true := by
  decide +kernel
/-- the hypothesis is needed: an unmatched `end_capture` is `pop().unwrap()` on an empty stack -/
example : (renderTo [.endCapture] []).result = .panic := by rfl

/-- **C19**, all parts, for every operation sequence and every sink behaviour. -/
theorem C19_holds : C19_full := by
  intro ops script
  exact ⟨delivered_is_prefix ops script,
    fun i h hf => nothing_after_error ops script i h hf,
    fun c hc e hf => error_is_write_failure_with_source ops script c hc e hf,
    clean_sink_same_as_plain ops script,
    (captures_do_not_touch_sink ops script).1,
    fun hb => (no_panic ops script hb).1⟩

/-- **`Output::null()`** (`Expression::eval`): evaluating on the null output ends exactly like
    evaluating the same operations into a `String` under a discard — a write can never fail there,
    so no `WriteFailure` can originate from it. -/
theorem null_output_same_as_string (ops : List Op) :
    renderNull ops = (run ops (⟨⟨([] : Bytes), [none]⟩, []⟩ : St Bytes)).2 := by
  -- neither writer ever fails, so both get the result that does not depend on the writer
  obtain ⟨cs, R, h⟩ := run_feed ops [none] []
  exact ((h ()).2.1 (by rw [feed_null])).trans ((h ([] : Bytes)).2.1 (by rw [feed_string])).symm

example : renderNull [.write (.str [1]), .endCapture, .write (.str [2])] = .ok (.ok ()) := by rfl

/-- **Structured renders are operation sequences.**  A render in which later output depends on
    captured values (set/filter blocks, macro results, `super()`) and nested evaluations wrap
    their errors on the way out, evaluated big-step (`exec`), is exactly the flat render of
    `flatten p` — an operation sequence computed without looking at the writer — and its captures
    are well bracketed. -/
theorem structured_render_is_op_sequence (p : Prog) (script : List Beh) :
    renderProgTo p script = renderTo (flatten p) script ∧
    renderProgString p = renderString (flatten p) ∧
    balanced 0 (flatten p) = true := by
  refine ⟨(renderProg_eq p script).1, (renderProg_eq p script).2, ?_⟩
  rw [← List.append_nil (flatten p)]
  exact balanced_flatten p 0 []

/-- **C19 for structured renders**: all parts, and no panic without further hypothesis. -/
theorem C19_structured (p : Prog) (script : List Beh) :
    delivered (renderProgTo p script).calls <+: (renderProgString p).buf ∧
    (∀ (i : Nat) (h : i < (renderProgTo p script).calls.length),
        ((renderProgTo p script).calls[i]).failure ≠ none → i + 1 = (renderProgTo p script).calls.length) ∧
    (∀ c ∈ (renderProgTo p script).calls, ∀ e, c.failure = some e →
        (renderProgTo p script).result = .ok (.error (.writeFailure (some e)))) ∧
    ((∀ c ∈ (renderProgTo p script).calls, c.failure = none) →
        (renderProgTo p script).result = (renderProgString p).result ∧
        delivered (renderProgTo p script).calls = (renderProgString p).buf) ∧
    (renderProgTo p script).result ≠ .panic := by
  obtain ⟨h1, h2, h3⟩ := structured_render_is_op_sequence p script
  rw [h1, h2]
  obtain ⟨a, b, c, d, _, f⟩ := C19_holds (flatten p) script
  exact ⟨a, b, c, d, f h3⟩

/-- a set block whose captured value is printed twice, transformed, inside an include -/
example :
    let p : Prog := .seq (.emit (.str [1]))
      (.nested .badInclude (.capture false (.emit (.str [2, 3])) fun v =>
        .seq (.emit (.str (v.getD []))) (.emit (.str ((v.getD []).reverse)))))
    flatten p = [.write (.str [1]), .enter .badInclude, .beginCapture false, .write (.str [2, 3]),
      .endCapture, .write (.str [2, 3]), .write (.str [3, 2]), .leave] ∧
    (renderProgTo p [.all, .accept 1, .err ⟨.brokenPipe, 3, .os 11⟩]).result
      = .ok (.error (.writeFailure (some ⟨.brokenPipe, 3, .os 11⟩))) ∧
    delivered (renderProgTo p [.all, .accept 1, .err ⟨.brokenPipe, 3, .os 11⟩]).calls = [1, 2] :=
  ⟨by decide +kernel, by rfl, by decide +kernel⟩

/-- **`Interrupted` is retried and invisible**: deleting every `Interrupted` answer from the
    sink's script changes neither the returned result nor the bytes delivered (only the log gets
    shorter) — for every operation sequence and every script. -/
theorem interrupted_is_invisible (ops : List Op) (script : List Beh) :
    (renderTo ops (dropInterrupts script)).result = (renderTo ops script).result ∧
    delivered (renderTo ops (dropInterrupts script)).calls = delivered (renderTo ops script).calls := by
  obtain ⟨_, _, he, hd⟩ := feed_dropInterrupts (chunksOf ops)
    (w' := ⟨dropInterrupts script, [], none⟩) (w := ⟨script, [], none⟩) ⟨rfl, rfl, rfl⟩
  rw [renderTo_feed, renderTo_feed, he]
  exact ⟨rfl, hd⟩

example : dropInterrupts [.err ⟨.interrupted, 1, .msg⟩, .accept 1, .err ⟨.interrupted, 2, .msg⟩, .err ⟨.brokenPipe, 3, .os 11⟩]
    = [.accept 1, .err ⟨.brokenPipe, 3, .os 11⟩] := by decide +kernel

/-- **`HtmlEscape` chunking**: the pieces `HtmlEscape::fmt` writes are non-empty (each one is a
    real call of the sink) and concatenate to the byte-wise escaped text — with the escape table
    regenerated from the source. -/
theorem html_pieces_spec (s : Bytes) :
    (htmlPieces s).flatten = htmlEscape s ∧ ∀ p ∈ htmlPieces s, p ≠ [] :=
  ⟨htmlPieces_flatten s, htmlPiecesAux_nonempty [] s⟩

example : htmlPieces "a<b&&c".toUTF8.toList
    = ["a".toUTF8.toList, "&lt;".toUTF8.toList, "b".toUTF8.toList, "&amp;".toUTF8.toList,
       "&amp;".toUTF8.toList, "c".toUTF8.toList] := by decide +kernel

/-- **Emit of a string under HTML auto-escaping into a failing sink**: whatever the sink does,
    what it accepted is a prefix of the escaped text (also when the failure hits between an
    ordinary run and an escape sequence), and `Ok` means all of it arrived. -/
theorem emit_html_string (s : Bytes) (script : List Beh) :
    delivered (renderTo (emitOps .html (.str s)) script).calls <+: htmlEscape s ∧
    ((renderTo (emitOps .html (.str s)) script).result = .ok (.ok ()) →
      delivered (renderTo (emitOps .html (.str s)) script).calls = htmlEscape s) := by
  -- with or without the fast path, the pieces written concatenate to the escaped text
  have hs : renderString (emitOps .html (.str s)) = ⟨htmlEscape s, .ok (.ok ())⟩ := by
    show renderString (if needsHtmlEscaping s then (htmlPieces s).map strOp else [s].map strOp) = _
    cases hn : needsHtmlEscaping s with
    | true => rw [if_pos rfl, renderString_strs, htmlPieces_flatten]
    | false =>
      rw [if_neg Bool.false_ne_true, renderString_strs, htmlEscape_of_not_needs s hn]
      exact congrArg (StrOutcome.mk · _) (List.append_nil s)
  have h1 := delivered_is_prefix (emitOps .html (.str s)) script
  have h2 := success_delivers_all (emitOps .html (.str s)) script
  rw [hs] at h1 h2
  exact ⟨h1, fun h => (h2 h).2⟩

example : (match (renderTo (emitOps .html (.str [60, 62])) [.all, .accept 2, .err ⟨.other, 4, .custom⟩]).result with
      | .ok (.error (.writeFailure (some e))) => e.id == 4
      | _ => false) = true ∧
    delivered (renderTo (emitOps .html (.str [60, 62])) [.all, .accept 2, .err ⟨.other, 4, .custom⟩]).calls
      = "&lt;&g".toUTF8.toList := by decide +kernel

/-- **User formatting code that fails by itself** (an `Object::render`, `Display` or custom
    formatter returning `Err(fmt::Error)` after writing `ps`): if the sink never failed the call
    returns `WriteFailure` *without* source, exactly as the plain render does; if the sink failed
    with `e`, its error wins. -/
theorem self_error_vs_sink_error (ps : Pieces) (script : List Beh) :
    ((∀ c ∈ (renderTo (compile [.emitCustom ps true]) script).calls, c.failure = none) →
      (renderTo (compile [.emitCustom ps true]) script).result = .ok (.error (.writeFailure none))) ∧
    (∀ c ∈ (renderTo (compile [.emitCustom ps true]) script).calls, ∀ e, c.failure = some e →
      (renderTo (compile [.emitCustom ps true]) script).result = .ok (.error (.writeFailure (some e)))) := by
  constructor
  · intro h
    rw [(clean_sink_same_as_plain _ script h).1]
    show (run (ps.map Op.write ++ [.fail Err.fromFmt] ++ []) (St.init ([] : Bytes))).2 = _
    rw [List.append_nil, run_append, St.init, run_writes_string]
    rfl
  · intro c hc e hf
    exact error_is_write_failure_with_source _ script c hc e hf

example : (renderTo (compile [.emitCustom [.str [1], .chr [2]] true]) [.half]).result
    = .ok (.error (.writeFailure none)) := by rfl

/-- **Every write site of the engine propagates** (regenerated list of all `write_str` /
    `write_char` / `write_fmt` / `write!` / `write_all` calls in output.rs, utils.rs, the VM and the
    value formatting code): none swallows the result, none panics on it, none is unclassified.
    This is what "the evaluation stops at the first `fmt::Error`" rests on in the source. -/
theorem write_sites_propagate :
    MJ.Gen.c19WriteSites.all (fun r => r.2.2 == "propagate") = true ∧ 40 ≤ MJ.Gen.c19WriteSites.length := by
  decide +kernel

/-- the public entry points that take an `io::Write` are exactly the two the model and the
    harness cover, and each builds one `WriteWrapper` and passes its failure through `take_err` -/
theorem writer_apis_covered :
    MJ.Gen.c19WriterApis = [("template.rs", "render_captured_to"), ("vm/state.rs", "render_block_to_write")] ∧
    MJ.Gen.c19WrapperSites.map (fun r => (r.1, r.2.1)) = MJ.Gen.c19WriterApis ∧
    MJ.Gen.c19WrapperSites.all (fun r => r.2.2 == 1) = true :=
  ⟨rfl, rfl, rfl⟩

/-- every row of the escape table lies inside the range pre-filter of `HtmlEscape::fmt`, so the
    filter hides none of them -/
theorem html_table_inside_filter :
    MJ.Gen.htmlEscapeTable.all (fun r => MJ.Gen.htmlEscapeFilterLo ≤ r.1.toNat ∧ r.1.toNat ≤ MJ.Gen.htmlEscapeFilterHi) = true := by
  decide +kernel

/-- the only code of output.rs that is compiled without `verif_hooks` but not with it is the
    dereference of the current target; every write of `Output` exists once, for both builds.
    NOTE: `target()` itself differs between the builds (hooked: a logging tap that turns a
    `write_fmt` into `write_str`/`write_char` calls; unhooked: the concrete target), so an override
    of `write_fmt`/`write_char` on a concrete target (`WriteWrapper`, `String`, `NullWriter`) is
    reachable only in the unhooked build: the harness runs all sink-level streams, in particular
    every user-writer program, against the unhooked build as well, and
    `writewrapper_methods_store` pins the adapter's method set. -/
theorem unhooked_bodies_pinned :
    MJ.Gen.c19UnhookedBodies = [("target", "unsafe·{·&mut·*self.target·}")] :=
  rfl

/-- **The adapter stores the error and is poisoned by it**: whenever a `fmt::Write` method of a
    `WriteWrapper` that holds no error reports `fmt::Error`, the error slot holds the error with
    which the sink's last call failed (and that call is the last one logged); when it reports
    success the slot stays empty; and a wrapper that holds an error reports `fmt::Error` without
    calling the sink, keeping that first error. -/
theorem adapter_stores_error (w : WriteWrapper) (c : Chunk) :
    (w.err = none → (put w c).2 = false → ∃ e new, (put w c).1.err = some e ∧
        (put w c).1.calls = w.calls ++ new ∧ FailsWith new e) ∧
    (w.err = none → (put w c).2 = true → (put w c).1.err = none) ∧
    (∀ e, w.err = some e → put w c = (w, false)) := by
  refine ⟨fun hw => ?_, fun _ => (put_ok_iff w c).1, fun e he => put_poisoned he c⟩
  have hs := writeAll_spec w.script c.bytes
  rw [put_of_none hw]
  cases he : (writeAll w.script c.bytes).err with
  | none => nofun
  | some e => rw [he] at hs; exact fun _ => ⟨e, _, rfl, rfl, hs.1⟩

example : (put (⟨[.accept 1, .err ⟨.other, 2, .io .other .msg⟩], [], none⟩ : WriteWrapper) (.chr [195, 169])).1.err
    = some ⟨.other, 2, .io .other .msg⟩ := by decide +kernel

/-- the methods implemented in `impl fmt::Write for WriteWrapper` (regenerated from the source)
    are exactly the two of the model, and each stores the io::Error on every failing path; an
    additional override (e.g. a `write_fmt` fast path) is a new row and has to be modelled -/
theorem writewrapper_methods_store :
    MJ.Gen.c19WriteWrapperMethods = [("write_str", true), ("write_char", true)] :=
  rfl

/-- **Dropped errors change nothing.**  Let user code (a custom formatter, an `Object::render`)
    ignore the result of any of its writes and go on — write more, return `Ok`, return another
    error.  For every such render and every sink behaviour (also a sink that fails once and then
    works again): the sink sees exactly the calls it sees when the same operations respect every
    write result, and the API returns the same result — or a panic raised later by that user code. -/
theorem dropped_errors_change_nothing (uops : List UOp) (script : List Beh) :
    (renderToU uops script).calls = (renderTo (strictU uops) script).calls ∧
    ((renderToU uops script).result = (renderTo (strictU uops) script).result ∨
     (renderToU uops script).result = .panic) := by
  have h := renderToX_flattenX (uops.map UOp.toX) script
  rw [flattenX_toX] at h
  rwa [renderToU, runU_eq]

/-- **C19 against careless user code**: whatever user code does with the results of its writes,
    what the sink accepted is a prefix of the plain render's string, the call at which the sink
    failed is the last call it ever receives (also if it would have worked again), and if it failed
    with `e` the API returns `WriteFailure` with source `e` (or the user code panicked later). -/
theorem C19_with_careless_user_code (uops : List UOp) (script : List Beh) :
    delivered (renderToU uops script).calls <+: (renderString (strictU uops)).buf ∧
    (∀ (i : Nat) (h : i < (renderToU uops script).calls.length),
        ((renderToU uops script).calls[i]).failure ≠ none → i + 1 = (renderToU uops script).calls.length) ∧
    (∀ c ∈ (renderToU uops script).calls, ∀ e, c.failure = some e →
        (renderToU uops script).result = .ok (.error (.writeFailure (some e))) ∨
        (renderToU uops script).result = .panic) := by
  obtain ⟨hc, hr⟩ := dropped_errors_change_nothing uops script
  obtain ⟨a, b, c, _⟩ := C19_holds (strictU uops) script
  rw [hc]
  exact ⟨a, b, fun cl hcl e hf => hr.imp (fun hr => hr.trans (c cl hcl e hf)) id⟩

/-- an object that keeps writing after a failed write and returns `Ok`, a sink that fails once
    (`WouldBlock`) and would work again: one failed call, nothing after it, `WriteFailure` -/
example :
    let r := renderToU [.strict (.write (.str [97])), .writeIgn (.str [120]), .writeIgn (.str [62]),
      .strict (.write (.str [98]))] [.all, .err ⟨.wouldBlock, 3, .engine (.overIo .writeFailure .brokenPipe 3)⟩]
    r.calls.length = 2 ∧ delivered r.calls = [97] ∧
    (match r.result with | .ok (.error (.writeFailure (some e))) => e.id == 3 | _ => false) = true := by
  decide +kernel

/-- **The tracker of `render_guarded` is "any write failed"** (`failed |= rv.is_err()` folded
    over the results of the object's writes), not "the last write failed". -/
theorem tracker_is_any (results : List Bool) :
    trackFailed results = results.any (fun ok => !ok) :=
  (trackFailed_acc results false).trans (Bool.false_or _)

example : trackFailed [true, false, true] = true := by decide +kernel

/-- both forwarding methods of the tracker update the flag with `|=` (regenerated from
    value/object.rs) -/
theorem tracker_update_is_or :
    MJ.Gen.c19TrackerUpdate = [("write_str", "|="), ("write_char", "|=")] :=
  rfl

/-- **The boundary returns the token untouched.**  With `io` in the adapter's error slot —
    whatever `io` is, also an `io::Error` whose payload is an engine error — `write_failure` is
    `WriteFailure` with source `io`; `take_err` returns that instead of any evaluation error,
    `check` instead of any success, and so does the API (`finish`) unless the evaluation panicked. -/
theorem boundary_returns_token_untouched (w : WriteWrapper) (io : IoErr) (h : w.err = some io) :
    writeFailure io = .writeFailure (some io) ∧
    (∀ original, w.takeErr original = .writeFailure (some io)) ∧
    w.check = .error (.writeFailure (some io)) ∧
    (∀ r, r ≠ .panic → w.finish r = .ok (.error (.writeFailure (some io)))) :=
  ⟨rfl, takeErr_of_some h, check_of_some h, fun r hr => finish_of_some h r hr⟩

example : (⟨[], [], some ⟨.other, 1, .engine (.leaf .invalidOperation)⟩⟩ : WriteWrapper).check
    = .error (.writeFailure (some ⟨.other, 1, .engine (.leaf .invalidOperation)⟩)) := by rfl

/-- **A sink error is never unwrapped.**  If the sink's error carries an engine error as payload
    (`e.unwrapped = some x`: it "looks like" an error of the engine — an `InvalidOperation`, an
    `UndefinedError`, even a `WriteFailure` with or without an I/O source of its own), the API
    still returns `WriteFailure` with the sink's error `e` as source, and never the payload `x`. -/
theorem source_is_never_unwrapped (ops : List Op) (script : List Beh) (c : Call)
    (hc : c ∈ (renderTo ops script).calls) (e : IoErr) (hf : c.failure = some e) (x : Err)
    (hx : e.unwrapped = some x) :
    (renderTo ops script).result = .ok (.error (.writeFailure (some e))) ∧
    (renderTo ops script).result ≠ .ok (.error x) := by
  have h := error_is_write_failure_with_source ops script c hc e hf
  refine ⟨h, fun hcontra => ?_⟩
  have hx' : x = .writeFailure (some e) := by
    rw [h] at hcontra
    injection hcontra with h1
    injection h1 with h2
    exact h2.symm
  subst hx'
  -- `e` carries an engine error, but the source of what that error unwraps to carries a string
  obtain ⟨k, i, pl⟩ := e
  cases pl with
  | engine ee => cases EngErr.toErr_source (Option.some.inj hx)
  | _ => cases hx

/-- the sink answers with `io::Error::new(Other, minijinja::Error::new(WriteFailure, ..).with_source(
    io::Error::new(BrokenPipe, ..)))` at its second call, inside an include -/
example :
    let tok : IoErr := ⟨.other, 8, .engine (.overIo .writeFailure .brokenPipe 8)⟩
    tok.unwrapped = some (.writeFailure (some ⟨.brokenPipe, 8, .msg⟩)) ∧
    (renderTo [.write (.str [1]), .enter .badInclude, .write (.str [2]), .leave] [.all, .err tok]).result
      = .ok (.error (.writeFailure (some tok))) := ⟨by decide +kernel, by rfl⟩

/-- **`write_failure`, `take_err`, `check` do not look at the io::Error** (regenerated from
    output.rs): `write_failure` only hands its parameter on to `with_source` and mentions no kind
    but `WriteFailure`, without any branch; `take_err` maps the slot through `write_failure`;
    `check` has the one `match` on the slot and hands the error to `write_failure`.  A branch that
    inspects the error before wrapping it (`get_ref`, `kind`, `into_inner`, `downcast`, …) is a
    new use and a new branch, and this fails. -/
theorem boundary_wraps_untouched :
    MJ.Gen.c19BoundaryBodies =
      [("write_failure", "arg:with_source", "", 0, "WriteFailure"),
       ("take_err", "", "take.map(write_failure).unwrap_or", 0, ""),
       ("check", "arg:write_failure", "take", 1, "")] :=
  rfl

/-- both functions that build a `WriteWrapper` pass a success through `check` and a failure
    through `take_err`, once each, on the `Ok` / `Err` arm of the evaluation's result -/
theorem boundary_sites_check_and_take :
    MJ.Gen.c19BoundarySites =
      [("template.rs", "render_captured_to", 1, 1, 1, 1),
       ("vm/state.rs", "render_block_to_write", 1, 1, 1, 1)] :=
  rfl

/-- **Sticky after the first error.**  Once the adapter holds the sink's error `e`, nothing that
    follows — engine operations and user code of ANY behaviour (`UserCode`: strategies that see
    the result of each write and go on writing, swallow the error, return `Ok` or `Err`) — gets
    another call through to the sink or changes the error slot; every write that reaches the base
    writer reports `fmt::Error`; and the API returns `WriteFailure` with source `e` whatever the
    rest of the evaluation returned (unless it panicked). -/
theorem sticky_after_error (xops : List XOp) (st : St WriteWrapper) (e : IoErr)
    (h : st.out.w.err = some e) :
    (runX xops st).1.out.w = st.out.w ∧
    (∀ (u : UserCode), (u.run st.out).1.w = st.out.w) ∧
    (∀ c, st.out.stack = [] → (st.out.write c).2 = false) ∧
    ((runX xops st).2 ≠ .panic →
      (runX xops st).1.out.w.finish (runX xops st).2 = .ok (.error (.writeFailure (some e)))) := by
  have hw := runX_poisoned xops st h
  refine ⟨hw, fun u => UserCode.run_poisoned u st.out h, ?_, fun hp => finish_of_some (by rw [hw]; exact h) _ hp⟩
  intro c hs
  obtain ⟨⟨w, stack⟩, wraps⟩ := st
  cases hs
  rw [Out.write_base, put_poisoned h]

/-- an object that keeps writing after the failure, looks at the results, and returns `Ok`;
    the sink would accept everything again: it is not called -/
example :
    let w : WriteWrapper := ⟨[.all, .all], [⟨[1], .err ⟨.wouldBlock, 2, .custom⟩⟩], some ⟨.wouldBlock, 2, .custom⟩⟩
    let u : UserCode := .write (.str [7]) fun ok => if ok then .ret true else .write (.chr [8]) fun _ => .ret true
    (runX [.user u, .strict (.write (.str [9]))] ⟨⟨w, []⟩, []⟩).1.out.w = w ∧
    (u.run ⟨w, []⟩).2 = true := ⟨by rfl, by rfl⟩

/-- the methods of `impl fmt::Write for WriteWrapper` (regenerated) return `Err(fmt::Error)` when
    the slot is set, before anything is handed to the sink — the guard the model's `writeBytes` has -/
theorem writewrapper_methods_sticky :
    MJ.Gen.c19WriteWrapperSticky = [("write_str", true), ("write_char", true)] :=
  rfl

/-- **C19 with user code of any behaviour.**  Let user formatting code be arbitrary strategies
    (`XOp.user`).  For every render and every sink: what the sink accepted is a prefix of the
    string the plain render builds (in which every strategy takes its all-writes-succeeded path);
    a call at which the sink failed is the last one it receives; if it failed with `e` the API
    returns `WriteFailure` with source `e` (or the user code panicked afterwards); and if it never
    failed, result and bytes are the plain render's. -/
theorem C19_with_user_strategies (xops : List XOp) (script : List Beh) :
    delivered (renderToX xops script).calls <+: (renderStringX xops).buf ∧
    (∀ (i : Nat) (h : i < (renderToX xops script).calls.length),
        ((renderToX xops script).calls[i]).failure ≠ none → i + 1 = (renderToX xops script).calls.length) ∧
    (∀ c ∈ (renderToX xops script).calls, ∀ e, c.failure = some e →
        (renderToX xops script).result = .ok (.error (.writeFailure (some e))) ∨
        (renderToX xops script).result = .panic) ∧
    ((∀ c ∈ (renderToX xops script).calls, c.failure = none) →
        (renderToX xops script).result = (renderStringX xops).result ∧
        delivered (renderToX xops script).calls = (renderStringX xops).buf) :=
  log_facets (renderX_tracks xops script)

/-- a formatter that writes a prefix, and on failure writes an apology and returns `Ok`: the sink
    fails at the formatter's first write with an error that carries an engine error -/
example :
    let u : UserCode := .write (.str [40]) fun ok =>
      if ok then .write (.str [41]) fun _ => .ret true else .write (.str [33, 33]) fun _ => .ret true
    let r := renderToX [.strict (.write (.str [97])), .user u, .strict (.write (.str [98]))]
      [.all, .err ⟨.other, 5, .engine (.leaf .undefinedError)⟩]
    r.calls.length = 2 ∧ delivered r.calls = [97] ∧
    r.result = .ok (.error (.writeFailure (some ⟨.other, 5, .engine (.leaf .undefinedError)⟩))) ∧
    (renderStringX [.strict (.write (.str [97])), .user u, .strict (.write (.str [98]))]).buf = [97, 40, 41, 98] :=
  ⟨by decide +kernel, by decide +kernel, by rfl, by decide +kernel⟩

/-- **An `Output` of its own is invisible to the caller's sink**: a macro / `caller()` body
    (`Fresh.string`), an expression evaluation (`Fresh.null`) or a block rendered into another
    writer from a function (`Fresh.sink`) contributes no operation to the caller's output; the
    caller goes on with the string that was built, or fails with the error of the call. -/
theorem own_output_is_isolated {B : Type} [FmtWrite B] (f : Fresh) (body : Prog) (k : Bytes → Prog)
    (o : Out B) :
    ((ownRun f body).2 = .ok (.ok ()) → exec (.own f body k) o = exec (k (ownRun f body).1) o) ∧
    (∀ e, (ownRun f body).2 = .ok (.error e) → exec (.own f body k) o = (o, .ok (.error e))) ∧
    (ownRun f body).2 ≠ .panic := by
  have hp := ownRun_no_panic f body
  rw [exec_own]
  generalize ownRun f body = r at hp
  obtain ⟨v, res⟩ := r
  exact ⟨fun h => by cases h; rfl, fun e h => by cases h; rfl, hp⟩

/-- **`render_block_to_write` from inside a function**: the render into the function's own sink
    is a writer render of the block (so `C19_structured` holds for it: prefix, nothing after the
    error, `WriteFailure` with the sink's error), and that error is what the function call
    returns to the outer render. -/
theorem block_render_inside_function (script : List Beh) (body : Prog) :
    ownOutcome script body = renderProgTo body script ∧
    (ownRun (.sink script) body).2 = (renderProgTo body script).result ∧
    (∀ c ∈ (ownOutcome script body).calls, ∀ e, c.failure = some e →
      ∀ {B : Type} [FmtWrite B] (k : Bytes → Prog) (o : Out B),
        exec (.own (.sink script) body k) o = (o, .ok (.error (.writeFailure (some e))))) := by
  refine ⟨rfl, rfl, ?_⟩
  intro c hc e hf B _ k o
  have h := (C19_structured body script).2.2.1 c hc e hf
  exact (own_output_is_isolated (.sink script) body k o).2.1 _ h

/-- a macro whose result is printed in upper case inside an include, and a block rendered into a
    second sink from a function: the second sink fails with a custom error -/
example :
    let mac : Prog := .own .string (.seq (.emit (.str [104])) (.emit (.str [105]))) fun v =>
      .emit (.str (v.map fun b => b - 32))
    let p : Prog := .seq (.emit (.str [1])) (.nested .badInclude mac)
    flatten p = [.write (.str [1]), .enter .badInclude, .write (.str [72, 73]), .leave] ∧
    delivered (renderProgTo p [.all, .accept 1, .err ⟨.brokenPipe, 3, .custom⟩]).calls = [1, 72] ∧
    (exec (.own (.sink [.err ⟨.timedOut, 4, .custom⟩]) (.emit (.str [5])) fun _ => .skip)
      (⟨([] : Bytes), []⟩ : Out Bytes)).2 = .ok (.error (.writeFailure (some ⟨.timedOut, 4, .custom⟩))) :=
  ⟨by decide +kernel, by decide +kernel, by rfl⟩

/-- **Every result of a write propagates** (regenerated: `C19_WRITE_SITES` = every call of
    `write_str`/`write_char`/`write_fmt`/`write!`/`write_all` on a handle of the render output;
    `C19_RESULT_FLOW` = every other use of such a handle — `&mut Output`, `&mut fmt::Formatter`,
    `&mut dyn fmt::Write`, builders and wrapper structs made from one, `Output`s created in place —
    in the crate outside the compiler: `?` / `ok!` / `ctx_ok!` / `return` / tail value / the value of a
    closure whose caller propagates / a bound result that is only consumed): no site drops,
    inspects or unwraps a `fmt::Result` or the `Result` of a function that was given the output. -/
theorem every_write_result_propagates :
    MJ.Gen.c19WriteSites.all (fun r => r.2.2 == "propagate") = true ∧
    MJ.Gen.c19ResultFlow.all (fun r => r.2.2 == "propagate" || r.2.2 == "noresult") = true ∧
    60 ≤ MJ.Gen.c19WriteSites.length ∧ 100 ≤ MJ.Gen.c19ResultFlow.length :=
  ⟨write_sites_propagate.1, by decide +kernel, by decide +kernel, by decide +kernel⟩

example : ("vm/mod.rs:eval_impl#1", "write_str", "propagate") ∈ MJ.Gen.c19WriteSites ∧
    ("vm/mod.rs:perform_include#2", "call:eval_state", "propagate") ∈ MJ.Gen.c19ResultFlow ∧
    ("vm/mod.rs:eval_impl#2", "out.begin_capture", "noresult") ∈ MJ.Gen.c19ResultFlow := by
  repeat constructor

/-- **Every entry point checks the adapter** (regenerated: `C19_OUTPUT_CREATIONS` = every
    `Output::new` / `Output::null` of the crate with its base writer): an `Output` is only ever
    created over a `String`, the null writer or a `WriteWrapper`; and wherever it is a
    `WriteWrapper`, the result of the evaluation goes through `check` on the `Ok` arm and through
    `take_err` on the `Err` arm (in the function that builds the adapter, or in every caller of the
    helper that creates the `Output`).  The public functions generic over `io::Write` are among them. -/
theorem every_entry_point_checks_wrapper :
    (∀ r ∈ MJ.Gen.c19OutputCreations,
      (r.2.2.1 = "String" ∨ r.2.2.1 = "Null" ∨ r.2.2.1 = "WriteWrapper") ∧ r.2.2.2.1 = 1 ∧ r.2.2.2.2 = 1) ∧
    (∀ a ∈ MJ.Gen.c19WriterApis, ∃ r ∈ MJ.Gen.c19OutputCreations,
      r.2.2.1 = "WriteWrapper" ∧ (r.2.1 = a.2 ∨ r.2.1.endsWith ("<-" ++ a.2) = true)) ∧
    (∀ r ∈ MJ.Gen.c19BoundarySites, r.2.2.1 = 1 ∧ r.2.2.2.1 = 1 ∧ r.2.2.2.2.1 = 1 ∧ r.2.2.2.2.2 = 1) := by
  decide +kernel

example : (MJ.Gen.c19OutputCreations.filter (fun r => r.2.2.1 == "WriteWrapper")).length = 2 ∧
    (MJ.Gen.c19OutputCreations.filter (fun r => r.2.2.1 == "String")).length ≥ 5 := by decide +kernel

/-- **The source has every fact the model needs**: both methods of the adapter are sticky and store
    the error, both entry points check and take, every write site propagates. -/
theorem code_facts_hold :
    codeFacts.adapter = AdapterFacts.ok ∧ (∀ a, codeFacts.api a = ApiFacts.ok) ∧
    (∀ i, i < MJ.Gen.c19WriteSites.length → codeFacts.site i = true) := by
  refine ⟨by decide +kernel, fun a => by cases a <;> decide +kernel, ?_⟩
  intro i hi
  show (match MJ.Gen.c19WriteSites[i]? with | some r => r.2.2 == "propagate" | none => false) = true
  rw [List.getElem?_eq_getElem hi]
  exact List.all_eq_true.1 write_sites_propagate.1 _ (List.getElem_mem hi)

example : codeFacts.site 0 = true ∧ codeFacts.site 100000 = false := by decide +kernel

/-- the engine, as far as C19 can see it: for every program (templates, context, environment,
    which API) the plain render and the render into a sink that behaves as `script` says -/
structure Engine (P : Type) where
  plain : P → StrOutcome
  toSink : P → List Beh → Outcome

/-- **C19, full strength, about an engine**: for ALL programs and EVERY behaviour of the sink
    (failure at the k-th `write` call for every k, any error kind incl. `Interrupted`/`WouldBlock`,
    short writes, zero-length writes, any way the error is built):
    (1) the bytes the sink accepted are a prefix of the string the plain render builds;
    (2) a call at which the sink failed is the last call it ever receives;
    (3) if the sink failed with `e` the call returns `WriteFailure` whose source is `e` (unless
        user code panicked later) — not `Ok`, not another kind, not another source;
    (4) if the sink never failed, result and bytes are the plain render's. -/
def C19_statement {P : Type} (E : Engine P) : Prop :=
  ∀ (p : P) (script : List Beh),
    delivered (E.toSink p script).calls <+: (E.plain p).buf ∧
    (∀ (i : Nat) (h : i < (E.toSink p script).calls.length),
        ((E.toSink p script).calls[i]).failure ≠ none → i + 1 = (E.toSink p script).calls.length) ∧
    (∀ c ∈ (E.toSink p script).calls, ∀ e, c.failure = some e →
        (E.toSink p script).result = .ok (.error (.writeFailure (some e))) ∨
        (E.toSink p script).result = .panic) ∧
    ((∀ c ∈ (E.toSink p script).calls, c.failure = none) →
        (E.toSink p script).result = (E.plain p).result ∧
        delivered (E.toSink p script).calls = (E.plain p).buf)

/-- **H_ops — the one hypothesis that is validated, not proved** (hook log of every run: same
    operations for `String` and `io::Write` base writers; the log of every failing run is the clean
    log cut at the failing write; the model run on the logged operations reproduces calls, bytes,
    digest, result): every program performs a sequence of output operations and calls of user
    code that does not depend on the writer, each operation issued by one of the write sites of
    the table, through one of the two functions that build a `WriteWrapper` — i.e. the engine is
    the model instantiated with the facts `F` of the source. -/
def EngineIsModel {P : Type} (F : CodeFacts) (nSites : Nat) (E : Engine P) : Prop :=
  ∃ (opsOf : P → List SXOp) (apiOf : P → Api),
    (∀ p i o, SXOp.op i o ∈ opsOf p → i < nSites) ∧
    ∀ p script, E.toSink p script = renderToF F (apiOf p) (opsOf p) script ∧
      E.plain p = renderStringF F (opsOf p)

/-- **C19, main theorem.**  The named hypotheses are: the adapter's guard and store (`hAdapter`),
    `check` / `take_err` at every entry point (`hApi`) — both discharged from the regenerated
    tables by `code_facts_hold` in `C19_main` below — and `H_ops` (validated only).  The write
    sites need NOT propagate for the four sink-level claims: a site that dropped a `fmt::Error`
    is covered by the sticky adapter and the check at the boundary (it matters for "rendering
    stops": `render_stops_at_failing_write`, `each_code_fact_is_needed` (6)). -/
theorem C19_from_facts {P : Type} (F : CodeFacts) (n : Nat) (E : Engine P)
    (hAdapter : F.adapter = AdapterFacts.ok) (hApi : ∀ a, F.api a = ApiFacts.ok)
    (H_ops : EngineIsModel F n E) : C19_statement E := by
  obtain ⟨opsOf, apiOf, _, h⟩ := H_ops
  intro p script
  rw [(h p script).1, (h p script).2, renderToF_eq F _ _ _ hAdapter (hApi _), renderStringF_eq]
  exact C19_with_user_strategies _ script

theorem C19_main {P : Type} (E : Engine P)
    (H_ops : EngineIsModel codeFacts MJ.Gen.c19WriteSites.length E) : C19_statement E :=
  C19_from_facts codeFacts _ E code_facts_hold.1 code_facts_hold.2.1 H_ops

/-- the hypothesis is satisfiable by a non-trivial engine: the model itself over all operation
    sequences with sites of the table, both APIs -/
example : ∃ E : Engine (Api × List SXOp), EngineIsModel codeFacts 3 E ∧
    (match (E.toSink (.blockToWrite, [.op 0 (.write (.str [1])), .op 2 (.write (.chr [2]))]) [.all, .err ⟨.other, 7, .custom⟩]).result with
      | .ok (.error (.writeFailure (some e))) => e.id == 7
      | _ => false) = true := by
  refine ⟨⟨fun p => renderStringF codeFacts (p.2.filter fun x => match x with | .op i _ => i < 3 | _ => true),
           fun p s => renderToF codeFacts p.1 (p.2.filter fun x => match x with | .op i _ => i < 3 | _ => true) s⟩,
          ⟨fun p => p.2.filter fun x => match x with | .op i _ => i < 3 | _ => true, fun p => p.1, ?_, fun _ _ => ⟨rfl, rfl⟩⟩, ?_⟩
  · intro p i o hm
    have := (List.mem_filter.1 hm).2
    simpa using this
  · decide +kernel

/-- With every site propagating (the table), the engine's loop IS `run`: it stops at the first
    `fmt::Error`. -/
theorem engine_loop_is_run {B : Type} [FmtWrite B] (ops : List (Nat × Op)) (st : St B)
    (h : ∀ x ∈ ops, x.1 < MJ.Gen.c19WriteSites.length) :
    runSX codeFacts.site (ops.map fun x => .op x.1 x.2) st = run (ops.map (·.2)) st := by
  rw [runSX_eq, toXWith_propagate, ← runX_strict, List.map_map, List.map_map]
  · rfl
  · intro i o hm
    obtain ⟨x, hx, he⟩ := List.mem_map.1 hm
    cases he
    exact code_facts_hold.2.2 _ (h x hx)

example : runSX codeFacts.site [.op 0 (.write (.str [1])), .op 1 (.write (.str [2]))] (St.init ([] : Bytes))
    = run [.write (.str [1]), .write (.str [2])] (St.init ([] : Bytes)) :=
  engine_loop_is_run [(0, .write (.str [1])), (1, .write (.str [2]))] _ (by decide +kernel)

/-- **Both entry points are `renderTo`.**  With the facts of the source (`codeFacts`), the render
    through either function that builds a `WriteWrapper`, of operations issued by sites of the
    table, is the `renderTo` of `Output.lean` — so every theorem about `renderTo` (`C19_holds`,
    short writes and `Interrupted` absorbed, `WouldBlock` and every other kind reported with the
    sink's own error, nothing after the failure) holds for `Template::render_captured_to` and for
    `State::render_block_to_write` alike. -/
theorem both_entry_points_are_renderTo (api : Api) (ops : List (Nat × Op))
    (h : ∀ x ∈ ops, x.1 < MJ.Gen.c19WriteSites.length) (script : List Beh) :
    renderToF codeFacts api (ops.map fun x => .op x.1 x.2) script = renderTo (ops.map (·.2)) script := by
  rw [renderToF, renderTo, code_facts_hold.1, code_facts_hold.2.1 api, fmtWriteF_ok,
    engine_loop_is_run ops _ h, finishF_ok]

example : ∀ api : Api,
    delivered (renderToF codeFacts api [.op 0 (.write (.str [1, 2, 3])), .op 5 (.write (.chr [4]))]
      [.accept 1, .err ⟨.interrupted, 1, .msg⟩, .half, .err ⟨.wouldBlock, 9, .os 11⟩]).calls = [1, 2] := by
  intro api; cases api <;> decide +kernel

/-- **Rendering stops at the failing write.**  If the sink failed during `renderTo ops script`,
    the operations split into `pre ++ write c :: post`: `pre` ran through, the write of `c` went
    to the base writer (no capture open) and is the one that failed, and the evaluation ended
    there with the `fmt::Error` turned into an error (which the boundary then replaces): the final
    state is the state right after that write — nothing of `post` was executed. -/
theorem render_stops_at_failing_write (ops : List Op) (script : List Beh) (c0 : Call)
    (hc : c0 ∈ (renderTo ops script).calls) (e : IoErr) (hf : c0.failure = some e) :
    ∃ pre c post, ops = pre ++ .write c :: post ∧
      (run pre (St.init (⟨script, [], none⟩ : WriteWrapper))).2 = .ok (.ok ()) ∧
      (run pre (St.init (⟨script, [], none⟩ : WriteWrapper))).1.out.stack = [] ∧
      run ops (St.init (⟨script, [], none⟩ : WriteWrapper)) =
        ((step (.write c) (run pre (St.init (⟨script, [], none⟩ : WriteWrapper))).1).1,
         .ok (.error (wrapAll (run pre (St.init (⟨script, [], none⟩ : WriteWrapper))).1.wraps Err.fromFmt))) := by
  obtain ⟨_, _, hstop⟩ := run_init_feed ops (⟨script, [], none⟩ : WriteWrapper)
  refine hstop.resolve_left fun hok => ?_
  -- had every chunk been accepted, the slot would be empty and the log clean
  obtain ⟨ht, hi⟩ := feed_init (chunksOf ops) script
  rw [hi.1 hok] at ht
  rw [renderTo_feed] at hc
  rw [ht.1 c0 hc] at hf; cases hf

example : (run [.write (.str [1]), .write (.str [2]), .beginCapture false, .write (.str [3])]
      (St.init (⟨[.all, .err ⟨.brokenPipe, 1, .msg⟩], [], none⟩ : WriteWrapper))).1.out.stack = [] := by decide +kernel

def factsWith (a : AdapterFacts) (ok take : Bool) (site : Nat → Bool) : CodeFacts :=
  ⟨a, fun _ => ⟨ok, take⟩, site⟩

/-- user code that goes on writing after a failed write and reports success -/
def carelessUser : UserCode := .write (.str [120]) fun _ => .write (.chr [121]) fun _ => .ret true

/-- **Each fact is needed.**  (1) without the guard in `write_str` / (2) in `write_char`, careless
    user code gets a call through to the sink after it failed; (3) without the store the source
    is lost; (4) without `check` on the `Ok` arm (seeded C19-7) a failure that user code swallowed
    at the last write is reported as success; (5) without `take_err` on the `Err` arm the caller
    gets "formatting failed" without the sink's error; (6) a site that drops the `fmt::Error`
    makes the engine go on after the failure (more operations executed), although sink and result
    are still right thanks to guard and check. -/
theorem each_code_fact_is_needed :
    -- (1)
    (renderToF (factsWith ⟨false, true, true, true⟩ true true fun _ => true) .capturedTo
        [.op 0 (.write (.str [97])), .user (.write (.str [120]) fun _ => .write (.str [121]) fun _ => .ret true)]
        [.all, .err ⟨.wouldBlock, 3, .msg⟩]).calls.length = 3 ∧
    -- (2)
    (renderToF (factsWith ⟨true, false, true, true⟩ true true fun _ => true) .capturedTo
        [.op 0 (.write (.str [97])), .user carelessUser] [.all, .err ⟨.wouldBlock, 3, .msg⟩]).calls.length = 3 ∧
    -- (3)
    (renderToF (factsWith ⟨true, true, true, false⟩ true true fun _ => true) .blockToWrite
        [.op 0 (.write (.chr [97]))] [.err ⟨.brokenPipe, 3, .msg⟩]).result = .ok (.error (.writeFailure none)) ∧
    -- (4)
    (renderToF (factsWith AdapterFacts.ok false true fun _ => true) .blockToWrite
        [.op 0 (.write (.str [97])), .user carelessUser] [.all, .err ⟨.brokenPipe, 3, .msg⟩]).result = .ok (.ok ()) ∧
    -- (5)
    (renderToF (factsWith AdapterFacts.ok true false fun _ => true) .capturedTo
        [.op 0 (.write (.str [97]))] [.err ⟨.brokenPipe, 3, .msg⟩]).result = .ok (.error (.writeFailure none)) ∧
    -- (6)
    (execCountF (factsWith AdapterFacts.ok true true fun _ => false) [.op 0 (.write (.str [97])), .op 1 (.beginCapture false), .op 1 .endCapture]
        [.err ⟨.brokenPipe, 3, .msg⟩] = 3 ∧
     execCountF (factsWith AdapterFacts.ok true true fun _ => true) [.op 0 (.write (.str [97])), .op 1 (.beginCapture false), .op 1 .endCapture]
        [.err ⟨.brokenPipe, 3, .msg⟩] = 1 ∧
     (renderToF (factsWith AdapterFacts.ok true true fun _ => false) .capturedTo [.op 0 (.write (.str [97])), .op 1 (.beginCapture false), .op 1 .endCapture]
        [.err ⟨.brokenPipe, 3, .msg⟩]).result = .ok (.error (.writeFailure (some ⟨.brokenPipe, 3, .msg⟩)))) := by
  refine ⟨by decide +kernel, by decide +kernel, by rfl, by rfl, by rfl, by decide +kernel, by decide +kernel, by rfl⟩

/-- **The sink-level claims hold for ANY classification of the write sites** (with the adapter and
    the boundary as they are): sites that drop a `fmt::Error` behave like user code that does. -/
theorem sink_claims_for_any_site_classification (site : Nat → Bool) (api : Api) (xs : List SXOp) (script : List Beh) :
    let F : CodeFacts := ⟨AdapterFacts.ok, fun _ => ApiFacts.ok, site⟩
    delivered (renderToF F api xs script).calls <+: (renderStringF F xs).buf ∧
    (∀ (i : Nat) (h : i < (renderToF F api xs script).calls.length),
        ((renderToF F api xs script).calls[i]).failure ≠ none → i + 1 = (renderToF F api xs script).calls.length) ∧
    (∀ c ∈ (renderToF F api xs script).calls, ∀ e, c.failure = some e →
        (renderToF F api xs script).result = .ok (.error (.writeFailure (some e))) ∨
        (renderToF F api xs script).result = .panic) := by
  intro F
  rw [renderToF_eq F api xs script rfl rfl, renderStringF_eq]
  obtain ⟨a, b, c, _⟩ := C19_with_user_strategies (xs.map (SXOp.toXWith site)) script
  exact ⟨a, b, c⟩

/-- a site that swallows, careless user code, a sink that fails once: one failed call, nothing after it -/
example :
    let F : CodeFacts := ⟨AdapterFacts.ok, fun _ => ApiFacts.ok, fun i => i != 1⟩
    let r := renderToF F .blockToWrite [.op 0 (.write (.str [1])), .op 1 (.write (.str [2])), .user carelessUser, .op 2 (.write (.str [3]))]
      [.all, .err ⟨.timedOut, 4, .custom⟩]
    r.calls.length = 2 ∧ delivered r.calls = [1] := by decide +kernel

/-- **Well-behaved user code is part of the operation sequence.**  If every piece of user
    formatting code (custom formatter, `Object::render`, `Display`) *forwards* — after a failed write
    it writes nothing more and returns `Err(fmt::Error)`, the `?` after every write — then the render
    is the flat render of `flattenX xops`, an operation sequence computed without looking at the
    writer: every theorem about `renderTo` applies (no "or the user code panicked" escape), and the
    evaluation stops at the failing write (`render_stops_at_failing_write`). -/
theorem forwarding_user_code_is_engine_ops (xops : List XOp) (h : ∀ u, XOp.user u ∈ xops → u.forwards)
    (script : List Beh) :
    renderToX xops script = renderTo (flattenX xops) script ∧
    renderStringX xops = renderString (flattenX xops) := by
  constructor
  · rw [renderToX, renderTo, runX_flattenX xops (Or.inl h)]
  · rw [renderStringX, renderString, runX_flattenX xops (Or.inl h)]

/-- the harness's `Obj::render`: `f.write_str("<obj ")?; write!(f, "{}", 42)?; f.write_char('&')?; …` -/
example :
    let obj : UserCode := .write (.str [60]) fun ok => if ok then .write (.str [52, 50]) fun ok =>
      if ok then .write (.chr [38]) fun ok => .ret ok else .ret false else .ret false
    obj.forwards ∧ obj.okOps = [.write (.str [60]), .write (.str [52, 50]), .write (.chr [38])] := by
  refine ⟨⟨rfl, rfl, ?_⟩, rfl⟩
  exact ⟨rfl, trivial⟩

/-- **C19 with forwarding user code**, all parts at full strength. -/
theorem C19_with_forwarding_user_code (xops : List XOp) (h : ∀ u, XOp.user u ∈ xops → u.forwards)
    (script : List Beh) :
    delivered (renderToX xops script).calls <+: (renderStringX xops).buf ∧
    (∀ (i : Nat) (hi : i < (renderToX xops script).calls.length),
        ((renderToX xops script).calls[i]).failure ≠ none → i + 1 = (renderToX xops script).calls.length) ∧
    (∀ c ∈ (renderToX xops script).calls, ∀ e, c.failure = some e →
        (renderToX xops script).result = .ok (.error (.writeFailure (some e)))) ∧
    ((∀ c ∈ (renderToX xops script).calls, c.failure = none) →
        (renderToX xops script).result = (renderStringX xops).result ∧
        delivered (renderToX xops script).calls = (renderStringX xops).buf) := by
  obtain ⟨h1, h2⟩ := forwarding_user_code_is_engine_ops xops h script
  rw [h1, h2]
  exact log_facets (render_tracks (flattenX xops) script)

end MJ.C19
