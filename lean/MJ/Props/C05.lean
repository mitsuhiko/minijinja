import MJ.Proofs.Bal
import MJ.Proofs.BalFrame
import MJ.Proofs.Nested
import MJ.Proofs.BalGen
import MJ.Proofs.BalPatch
import MJ.Proofs.Ops
import MJ.Proofs.OpsBal
import MJ.Model.OpsArms
import MJ.Proofs.Extends
import MJ.Proofs.BalExpr
import MJ.Gen.Tables
/-!
# C05 — scoped constructs restore scope, capture and escape state on every path

The theorems are about the verified certificate checker `MJ.Bal.checkCert` of
`MJ/Model/Bal.lean`; the check executes it (through `drive_c05`) on every instruction stream the
real compiler produces for the repository's templates and for an exhaustive enumeration of
nestings (translation validation).  The code generator is modelled twice, `MJ.BalGen.comp` (jump targets
from block sizes, code together with its certificate) and `MJ.BalPatch.gen` (back-patching, as `codegen.rs`
is written), and proved to emit only code the checker accepts (`compile_has_cert`,
`backpatching_generator_eq`); that `codegen.rs` emits what `gen` emits is not proved but the hypothesis
`h_codegen` of `C05_main`, validated by comparing the streams.  The guarantee for a concrete template that
rests on no such hypothesis is "its streams were accepted by the verified checker" (`C05_main_validated`).
-/
namespace MJ.C05
open MJ.Bal

/-- What an accepted certificate guarantees for a stream: from every region entry (pc 0 and every
macro body), in EVERY reachable state of the abstract machine — all control-flow paths, all
iteration counts, all recursion depths of `loop(...)` — the next instruction neither pops a frame /
capture / auto-escape entry the region did not push nor a frame of the wrong kind, and whenever the
region is left (end of stream, `Return`) frames, capture depth and auto-escape depth are exactly
those of the entry. -/
def Balanced (code : Code) : Prop :=
  ∀ e ∈ entries code, ∀ s, Reach code (initAt e) s →
    step code s ≠ .stuck ∧
    (step code s = .exit → s.frames = [] ∧ s.caps = 0 ∧ s.escs = 0)

/-- soundness of the certificate checker, as a statement (the property at full strength, `C05_full`,
and the final theorem `C05_main` are further down in this file) -/
def CheckerSound : Prop :=
  ∀ (code : Code) (cert : Cert), checkCert code cert = true → Balanced code

/-- soundness of the certificate checker -/
theorem checkCert_sound : CheckerSound :=
  fun _ _ hc _ he _ hr => reach_sound hc he hr

/-- the certificate proposed by the untrusted inference is checked by the verified checker at run
time: `validate` is what `drive_c05` computes for every real stream -/
theorem inferCert_checked (code : Code) (h : validate code = true) : Balanced code :=
  checkCert_sound code (inferCert code) h

/-- Path independence of the output target: in the outermost activation of a region (no pending
`loop(...)` recursion), two runs that reach the same pc have the same frames, the same capture depth
and the same auto-escape depth — those the certificate records for that pc.  In particular the
text after a construct (`EmitRaw` at that pc) is written at the same capture depth no matter which
path was taken through the construct (`break`, `continue`, empty iteration, else branch). -/
theorem text_after_reaches_output {code : Code} {cert : Cert} (hc : checkCert code cert = true)
    {e : Nat} (he : e ∈ entries code) {s : VmState} (hr : Reach code (initAt e) s)
    (hn : noReturn s.frames = true) :
    ∃ A, look cert s.pc = some A ∧
      s.frames = A.frames.map toR ∧ s.caps = A.caps ∧ s.escs = A.escs := by
  obtain ⟨A, hA, hrel⟩ := reach_inv hc (init_inv hc he) hr
  exact ⟨A, hA, hrel.outermost hn⟩

theorem same_pc_same_target {code : Code} {cert : Cert} (hc : checkCert code cert = true)
    {e : Nat} (he : e ∈ entries code) {s₁ s₂ : VmState}
    (h₁ : Reach code (initAt e) s₁) (h₂ : Reach code (initAt e) s₂)
    (n₁ : noReturn s₁.frames = true) (n₂ : noReturn s₂.frames = true) (hpc : s₁.pc = s₂.pc) :
    s₁.caps = s₂.caps ∧ s₁.frames = s₂.frames ∧ s₁.escs = s₂.escs := by
  obtain ⟨A, hA, f1, c1, e1⟩ := text_after_reaches_output hc he h₁ n₁
  obtain ⟨B, hB, f2, c2, e2⟩ := text_after_reaches_output hc he h₂ n₂
  rw [hpc, hB] at hA
  cases hA
  exact ⟨c1.trans c2.symm, f1.trans f2.symm, e1.trans e2.symm⟩

/-! ## The hypotheses are satisfiable; the checker is not vacuous -/

/-- `{% for %}{% with %}{% if %}{% break %}{% endif %}{% endwith %}{% endfor %}` as compiled
with the scope clean-up in front of the jump -/
def goodBreak : Code := #[
  .pushLoop true false, .iterate 8, .pushWith, .jumpIfFalse 6,
  .popFrame, .jump 8,                      -- break: leave the `with` scope, then jump
  .popFrame, .jump 1, .popLoopFrame, .other]

/-- the same with `break` compiled to a bare jump -/
def bareBreak : Code := #[
  .pushLoop true false, .iterate 8, .pushWith, .jumpIfFalse 6,
  .other, .jump 8,
  .popFrame, .jump 1, .popLoopFrame, .other]

/-- recursive loop with the recursion inside a `with` and inside a capture -/
def recursive : Code := #[
  .pushLoop true true, .iterate 10, .pushWith, .fastRecurse, .beginCapture, .callFunction,
  .endCapture, .popFrame, .jump 1, .other, .popLoopFrame, .pushDidNotIterate]

/-- a macro body (entry 1) with a filter block; the main region jumps over it -/
def withMacro : Code := #[
  .jump 6, .beginCapture, .pushAutoEscape, .popAutoEscape, .endCapture, .ret,
  .other, .buildMacro 1, .other]

example : validate goodBreak = true := by decide +kernel
example : validate recursive = false := by decide +kernel  -- PushDidNotIterate after the loop is gone
example : validate withMacro = true := by decide +kernel
example : entries withMacro = [0, 1] := by decide

example : Balanced goodBreak := inferCert_checked _ (by decide +kernel)

/-- the checker rejects the bare jump … -/
theorem bareBreak_rejected : validate bareBreak = false := by decide +kernel

/-- … and rightly so: the machine really gets stuck (`PopLoopFrame` finds the `with` frame) -/
theorem bareBreak_gets_stuck : ¬ Balanced bareBreak := by
  intro h
  have hr : Reach bareBreak (initAt 0)
      ⟨8, [.withF, .loopF true none none], 0, 0⟩ := by
    have r0 : Reach bareBreak (initAt 0) (initAt 0) := .refl _
    have r1 : Reach bareBreak (initAt 0) ⟨1, [.loopF true none none], 0, 0⟩ :=
      .tail r0 (l := [⟨1, [.loopF true none none], 0, 0⟩]) (by decide) (by simp)
    have r2 : Reach bareBreak (initAt 0) ⟨2, [.loopF true none none], 0, 0⟩ :=
      .tail r1 (l := [⟨2, [.loopF true none none], 0, 0⟩, ⟨8, [.loopF true none none], 0, 0⟩])
        (by decide) (by simp)
    have r3 : Reach bareBreak (initAt 0) ⟨3, [.withF, .loopF true none none], 0, 0⟩ :=
      .tail r2 (l := [⟨3, [.withF, .loopF true none none], 0, 0⟩]) (by decide) (by simp)
    have r4 : Reach bareBreak (initAt 0) ⟨4, [.withF, .loopF true none none], 0, 0⟩ :=
      .tail r3 (l := [⟨4, [.withF, .loopF true none none], 0, 0⟩, ⟨6, [.withF, .loopF true none none], 0, 0⟩])
        (by decide) (by simp)
    have r5 : Reach bareBreak (initAt 0) ⟨5, [.withF, .loopF true none none], 0, 0⟩ :=
      .tail r4 (l := [⟨5, [.withF, .loopF true none none], 0, 0⟩]) (by decide) (by simp)
    exact .tail r5 (l := [⟨8, [.withF, .loopF true none none], 0, 0⟩]) (by decide) (by simp)
  exact (h 0 (by decide) _ hr).1 (by decide)

/-! ## A certified stream leaves its caller's stacks alone — wherever it stops -/

/-- `certified_run_keeps_callers_stacks`: the abstract machine started ON TOP of arbitrary stacks of a
caller (`F0`: `with` frames and loop frames of other instruction streams, `c0` open captures, `e0`
auto-escape entries) instead of on empty ones.  For a stream with an accepted certificate, in EVERY
state it can reach — i.e. wherever a nested evaluation (block, `super()`, include, macro body, call
block) is stopped by a failing instruction — the caller's frames are still there underneath, in
order and untouched, with only frames of the stream's own on top, at least the caller's captures and
auto-escape entries are open, and the next instruction does not pop any of the caller's; when the
stream is left normally exactly the caller's stacks remain.  These are the hypotheses `FramesOnTop`
and `BalancedOnOk` under which `nested_restores` is proved, for every program counter. -/
theorem certified_run_keeps_callers_stacks {code : Code} {cert : Cert} (hc : checkCert code cert = true)
    {e : Nat} (he : e ∈ entries code) {F0 : List RFrame} (hF : ∀ f ∈ F0, Foreign f) (c0 e0 : Nat)
    {t : VmState} (hr : Reach code ⟨e, F0, c0, e0⟩ t) :
    ∃ own k m, t.frames = own ++ F0 ∧ t.caps = k + c0 ∧ t.escs = m + e0 ∧
      step code t ≠ .stuck ∧
      (∀ l, step code t = .next l → ∀ u ∈ l, ∃ own', u.frames = own' ++ F0 ∧ c0 ≤ u.caps ∧ e0 ≤ u.escs) ∧
      (step code t = .exit → own = [] ∧ k = 0 ∧ m = 0) := by
  have h0 : (⟨e, F0, c0, e0⟩ : VmState) = lift F0 c0 e0 (initAt e) := by
    simp only [lift, initAt, List.nil_append, Nat.zero_add]
  rw [h0] at hr
  obtain ⟨rel, hrel, rfl⟩ := reach_lift hc he hF c0 e0 hr
  have hs := reach_sound hc he hrel
  refine ⟨rel.frames, rel.caps, rel.escs, rfl, rfl, rfl, ?_⟩
  rw [step_lift hF c0 e0 rel hs.1]
  cases h : step code rel with
  | stuck => exact absurd h hs.1
  | exit => exact ⟨nofun, nofun, fun _ => hs.2 h⟩
  | next l =>
    refine ⟨nofun, fun l' hst u hu => ?_, nofun⟩
    cases hst
    obtain ⟨r', _, rfl⟩ := List.mem_map.mp hu
    exact ⟨r'.frames, rfl, Nat.le_add_left _ _, Nat.le_add_left _ _⟩

/-- non-vacuity: `goodBreak` on top of a caller with a loop frame, a `with` frame and two open
captures; the state inside the `with` of the loop body is reachable -/
example : ∃ t, Reach goodBreak ⟨0, [.loopF true none none, .withF], 2, 0⟩ t ∧
    t.frames = [.withF, .loopF true none none] ++ [.loopF true none none, .withF] ∧ t.caps = 2 := by
  have r0 : Reach goodBreak ⟨0, [.loopF true none none, .withF], 2, 0⟩ ⟨0, [.loopF true none none, .withF], 2, 0⟩ := .refl _
  have r1 : Reach goodBreak ⟨0, [.loopF true none none, .withF], 2, 0⟩
      ⟨1, [.loopF true none none, .loopF true none none, .withF], 2, 0⟩ :=
    .tail r0 (l := [⟨1, [.loopF true none none, .loopF true none none, .withF], 2, 0⟩]) (by decide) (by simp)
  have r2 : Reach goodBreak ⟨0, [.loopF true none none, .withF], 2, 0⟩
      ⟨2, [.loopF true none none, .loopF true none none, .withF], 2, 0⟩ :=
    .tail r1 (l := [⟨2, [.loopF true none none, .loopF true none none, .withF], 2, 0⟩,
      ⟨8, [.loopF true none none, .loopF true none none, .withF], 2, 0⟩]) (by decide) (by simp)
  have r3 : Reach goodBreak ⟨0, [.loopF true none none, .withF], 2, 0⟩
      ⟨3, [.withF, .loopF true none none, .loopF true none none, .withF], 2, 0⟩ :=
    .tail r2 (l := [⟨3, [.withF, .loopF true none none, .loopF true none none, .withF], 2, 0⟩]) (by decide) (by simp)
  exact ⟨_, r3, rfl, rfl⟩

/-! ## Nested evaluations give the execution state back on success AND on failure -/

open MJ.Nested in
/-- `nested_restores` (model `MJ/Model/Nested.lean` of `with_execution_state`, `eval_macro`
(= `Macro::call`, `State::call_macro`), `call_block` (= `CallBlock`, `State::render_block`),
`perform_super`, `perform_include`): for every wrapper and for BOTH outcomes of the nested run —
the statements do not mention the result — frames, recursion depth, instructions, auto-escape mode,
current block, block table and loaded templates afterwards are what they were before.  Macro calls
and `render_block` write into an `Output` of their own, so the caller's capture stack is untouched;
the instruction-driven wrappers share the `Output` and leave its capture depth as it was when the
nested run ends normally.

Hypotheses on the nested run (an arbitrary function otherwise): it only pushes frames on top of
the ones it found — what `checkCert_sound` gives for a certified stream — (an included template may
also set the closure of the frame it starts on), nested includes give their recursion cost back,
`LoadBlocks` only lets block stacks grow (macro calls) / does not occur (blocks, `super()`), and a
normal exit leaves the capture depth alone (`checkCert_sound` again).  Nothing is assumed about
what the nested run does to the auto-escape mode, the instructions, the current block or — for macro
calls — the frame stack and the depth. -/
def NestedRestores : Prop :=
    (∀ instr cost limit base closureF body, BlocksGrow body → ∀ s o,
      Same (macroCall instr cost limit base closureF body s o).2.1 s ∧
      (macroCall instr cost limit base closureF body s o).2.2 = o) ∧
    (∀ name limit required newFrame body, FramesOnTop body → KeepsOuter body → NoLoad body → ∀ s o,
      Same (renderBlock name limit required newFrame body s o).2.1 s ∧
      (renderBlock name limit required newFrame body s o).2.2 = o) ∧
    (∀ name limit required newFrame body, FramesOnTop body → KeepsOuter body → NoLoad body → ∀ s o,
      Same (callBlock name limit required newFrame body s o).2.1 s ∧
      (BalancedOnOk body → (callBlock name limit required newFrame body s o).1 = .ok →
        (callBlock name limit required newFrame body s o).2.2.caps = o.caps)) ∧
    (∀ limit capture newFrame body, FramesOnTop body → KeepsOuter body → NoLoad body → ∀ s o,
      Same (performSuper limit capture newFrame body s o).2.1 s) ∧
    (∀ instr tmplAe cost limit newBlocks body, TopClosureOnly body → KeepsOuter body → ∀ s o,
      Same (performInclude instr tmplAe cost limit newBlocks body s o).2.1 s ∧
      (BalancedOnOk body → (performInclude instr tmplAe cost limit newBlocks body s o).1 = .ok →
        (performInclude instr tmplAe cost limit newBlocks body s o).2.2.caps = o.caps))

open MJ.Nested in
theorem nested_restores : NestedRestores :=
  ⟨macroCall_restores, renderBlock_restores,
   fun name limit required newFrame body hf ho hn s o =>
      ⟨callBlock_restores name limit required newFrame body hf ho hn s o,
       fun hc => callBlock_caps name limit required newFrame body hc s o⟩,
   performSuper_restores,
   fun instr tmplAe cost limit newBlocks body hf ho s o =>
      ⟨performInclude_restores instr tmplAe cost limit newBlocks body hf ho s o,
       fun hc => performInclude_caps instr tmplAe cost limit newBlocks body hc s o⟩⟩

/-- the hypotheses are satisfiable by a body that really does something and fails: it pushes two
frames, switches auto-escaping, changes instructions and current block, opens a capture — and
returns `Err` -/
example : ∃ body : MJ.Nested.Body,
    MJ.Nested.FramesOnTop body ∧ MJ.Nested.KeepsOuter body ∧ MJ.Nested.NoLoad body ∧
    MJ.Nested.BlocksGrow body ∧ (∀ s o, (body s o).1 = .err) ∧
    (∀ s o, (body s o).2.1.frames ≠ s.frames) :=
  ⟨fun s o => (.err, { s with frames := ⟨7, none⟩ :: ⟨8, some 1⟩ :: s.frames, autoEscape := s.autoEscape + 1,
                              instructions := 99, currentBlock := some 5 }, ⟨o.caps + 1⟩),
   fun s _ => ⟨[⟨7, none⟩, ⟨8, some 1⟩], rfl⟩, fun _ _ => rfl, fun _ _ => ⟨rfl, rfl⟩,
   fun s _ n b h => ⟨b, h, by simp⟩, fun _ _ => rfl,
   fun s _ h => by
     have := congrArg List.length h
     simp at this
     omega⟩

/-- the model tells the two apart: with the nested run of `eval_macro` wrapped in `ok!(..)` (early
return on `Err`, before the caller's context is swapped back) the caller's frames are NOT restored -/
theorem earlyReturn_is_not_a_restore :
    ∃ (body : MJ.Nested.Body) (s : MJ.Nested.St),
      (MJ.Nested.evalMacroEarlyReturn 7 4 500 ⟨100, none⟩ ⟨101, none⟩ body s).1 = .err ∧
      ¬ MJ.Nested.Same (MJ.Nested.evalMacroEarlyReturn 7 4 500 ⟨100, none⟩ ⟨101, none⟩ body s).2 s :=
  MJ.Nested.earlyReturn_does_not_restore

/-! ## The include statement on every way through it (closure register included) -/

/-- `include_statement_restores`: the whole `perform_include` — candidate loop included — hands back
frames *with their closure attachment* (`Frame::closure`, the register macros declared in the frame
are written through), depth, instructions, escape mode, current block, block table and loaded
templates, whether a template was found and evaluated (successfully or not), a lookup failed, or
nothing was found and the statement did nothing (`ignore missing`, empty list). -/
theorem include_statement_restores (cost limit : Nat) (ignoreMissing : Bool)
    (choices : List MJ.Nested.Choice) (h : ∀ c ∈ choices, MJ.Nested.ChoiceOk c)
    (tried : Nat) (s : MJ.Nested.St) (o : MJ.Nested.Out) :
    MJ.Nested.Same (MJ.Nested.includeStmt cost limit ignoreMissing choices tried s o).2.1 s :=
  MJ.Nested.includeStmt_restores cost limit ignoreMissing choices h tried s o

/-- on the ways through the statement that evaluate no template nothing at all is touched -/
theorem include_noop_untouched (cost limit : Nat) (ignoreMissing : Bool)
    (choices : List MJ.Nested.Choice)
    (h : ∀ c ∈ choices, ∀ i a nb b, c ≠ MJ.Nested.Choice.found i a nb b)
    (tried : Nat) (s : MJ.Nested.St) (o : MJ.Nested.Out) :
    (MJ.Nested.includeStmt cost limit ignoreMissing choices tried s o).2.1 = s ∧
    (MJ.Nested.includeStmt cost limit ignoreMissing choices tried s o).2.2 = o :=
  MJ.Nested.includeStmt_noop cost limit ignoreMissing choices h tried s o

example : ∀ c ∈ [MJ.Nested.Choice.missing, .found 3 1 (fun _ => none)
      (fun s o => (.err, { s with frames := ⟨9, none⟩ :: MJ.Nested.setTopClosure (some 4) s.frames,
                                  autoEscape := 7 }, ⟨o.caps + 2⟩))],
    MJ.Nested.ChoiceOk c := by
  intro c hc
  simp only [List.mem_cons, List.not_mem_nil, or_false] at hc
  rcases hc with rfl | rfl
  · trivial
  · exact ⟨fun s _ => ⟨[⟨9, none⟩], some 4, rfl⟩, fun _ _ => rfl⟩

/-- the model tells the variants apart: with `take_closure()` hoisted in front of the candidate
loop (and `reset_closure` left behind the evaluation) a forgiven include that finds nothing
succeeds with the frame's closure detached, while the real statement restores it -/
theorem hoisted_take_closure_is_not_a_restore :
    ∃ (s : MJ.Nested.St) (o : MJ.Nested.Out),
      (MJ.Nested.includeStmtHoisted 10 500 true [.missing] s o).1 = .ok ∧
      ¬ MJ.Nested.Same (MJ.Nested.includeStmtHoisted 10 500 true [.missing] s o).2.1 s ∧
      MJ.Nested.Same (MJ.Nested.includeStmt 10 500 true [.missing] 0 s o).2.1 s :=
  MJ.Nested.hoisted_take_closure_loses_closure

/-! ## `with_auto_escape`: the one save/restore outside `with_execution_state` and the instruction pairs -/

/-- `with_auto_escape_restores`: in the model of `State::with_auto_escape` the auto-escape mode after
the helper is the mode before it whenever the override changed it — whatever the callee does, Ok and
Err alike — and with a callee that leaves the state alone (the formatter gets `&State`) the whole
state is untouched on both branches of the helper. -/
theorem with_auto_escape_restores (ae : Nat) (f : MJ.Nested.Body) (s : MJ.Nested.St) (o : MJ.Nested.Out) :
    (s.autoEscape ≠ ae → (MJ.Nested.withAutoEscape ae f s o).2.1.autoEscape = s.autoEscape) ∧
    ((∀ s o, (f s o).2.1 = s) → (MJ.Nested.withAutoEscape ae f s o).2.1 = s) :=
  ⟨MJ.Nested.withAutoEscape_mode ae f s o, fun hf => MJ.Nested.withAutoEscape_restores ae f hf s o⟩

example : ∃ (f : MJ.Nested.Body), (∀ s o, (f s o).2.1 = s) ∧ ∀ s o, (f s o).1 = .err :=
  ⟨fun s o => (.err, s, ⟨o.caps + 1⟩), fun _ _ => rfl, fun _ _ => rfl⟩

/-- the model tells the variants apart: with the restore guarded by `old == auto_escape` the override
stays installed whenever it changed the mode -/
theorem inverted_restore_guard_leaks :
    ∃ (f : MJ.Nested.Body) (s : MJ.Nested.St) (o : MJ.Nested.Out), (∀ s o, (f s o).2.1 = s) ∧
      (MJ.Nested.withAutoEscapeInverted 2 f s o).2.1.autoEscape ≠ s.autoEscape ∧
      (MJ.Nested.withAutoEscape 2 f s o).2.1 = s :=
  MJ.Nested.withAutoEscapeInverted_leaks

/-! ## The code generator only produces balanced code -/

open MJ.BalGen in
/-- `compile_has_cert`: for EVERY statement tree the parser accepts (`ok false`: `break`/`continue`
only where a `for` body encloses them, the `else` block of a loop belongs to the enclosing loop,
macro and call bodies start afresh), the model of `compile_stmt` (`MJ/Model/BalGen.lean`: if / elif /
else, for with and without else, recursive or not, with, set- and filter-blocks, autoescape, macros and
call blocks, import / from-import, break and continue with `leave_scopes_of_innermost_loop`, any
nesting, any amount of straight-line code in between) emits code together with a certificate that
the verified checker accepts.  Block bodies are compiled by a sub-generator as templates of their
own, so the statement covers every stream of a template. -/
theorem compile_has_cert (s : Stmt) (h : ok false s = true) :
    checkCert (codeOf (compileTemplate s)) (certOf (compileTemplate s) AbsState.init) = true :=
  compileTemplate_checked s h

open MJ.BalGen in
/-- `compiled_code_balanced`: the generator model composed with the soundness of the checker — every
run of the abstract machine on the code of every accepted statement tree, from every entry (pc 0,
every macro body), never pops what it did not push (or a frame of the wrong kind) and leaves with
exactly the entry depths. -/
theorem compiled_code_balanced (s : Stmt) (h : ok false s = true) :
    Balanced (codeOf (compileTemplate s)) :=
  checkCert_sound _ _ (compile_has_cert s h)

open MJ.BalGen in
/-- a statement tree with everything in it: a recursive loop with an else block, inside it a `with`
holding a set-block holding an autoescape block with a conditional `break` and a `continue`, a
`loop(…)` recursion, a macro with a loop and a `break` of its own, a `from … import` -/
def everything : Stmt :=
  .seq (.simple [.other, .callFunction])
    (.forElse true true 2 1
      (.seq (.withS 2 (.capture (.autoEscape 1
              (.seq (.ifS 3 .breakS) (.seq (.simple [.other, .fastRecurse]) (.ifElse 1 .continueS (.simple [.other]))))) 1))
        (.seq (.macroS 1 (.forS true false 1 1 (.seq (.importS 1 4) (.ifS 1 .breakS))) 2 1)
          (.simple [.callFunction, .other])))
      (.simple [.other]))

example : MJ.BalGen.ok false everything = true := by decide +kernel
example : Balanced (MJ.BalGen.codeOf (MJ.BalGen.compileTemplate everything)) :=
  compiled_code_balanced everything (by decide +kernel)
/-- the `break` inside with > set-block > autoescape is compiled with its clean-up in front of the
jump to the loop end: `PopAutoEscape, EndCapture, DiscardTop, PopFrame, Jump` -/
example : (((MJ.BalGen.compileTemplate everything).map (·.1)).drop 17).take 5 =
    [.popAutoEscape, .endCapture, .other, .popFrame, .jump 67] := by decide +kernel

/-! ## The generator as the Rust is written: `pending_block` back-patching -/

open MJ.BalGen in
/-- `backpatching_generator_eq`: the model of `CodeGenerator` that works the way `codegen.rs` does —
`add` appends one instruction, jumps are emitted with a placeholder target and remembered on the
`pending_block` stack (`Branch { jump_instr }`, `Loop { iter_instr, jump_instrs }`, `Scope(..)`),
`end_condition` / `end_for_loop` / `compile_macro_expression` write the target into the remembered
instructions afterwards, `break` registers its jump with the innermost pending loop, `continue` reads
that loop's `iter_instr`, `leave_scopes_of_innermost_loop` walks the stack down to it
(`MJ/Model/BalPatch.lean`) — emits, for EVERY statement tree, exactly the instruction list of the
generator `compileTemplate` that computes targets from block sizes, and leaves `pending_block` empty. -/
theorem backpatching_generator_eq (s : Stmt) :
    MJ.BalPatch.genTemplate s = (compileTemplate s).map (·.1) ∧
    (MJ.BalPatch.gen s ⟨[], []⟩).pending = [] :=
  MJ.BalPatch.genTemplate_eq s

open MJ.BalGen in
/-- `backpatched_code_balanced`: hence the code the back-patching generator emits for a statement tree
the parser accepts is balanced on every path -/
theorem backpatched_code_balanced (s : Stmt) (h : ok false s = true) :
    Balanced (MJ.BalPatch.genTemplate s).toArray := by
  rw [(backpatching_generator_eq s).1]
  exact compiled_code_balanced s h

example : (MJ.BalPatch.genTemplate everything).length = 71 := by decide +kernel
example : Balanced (MJ.BalPatch.genTemplate everything).toArray :=
  backpatched_code_balanced everything (by decide +kernel)

/-! ## The model agrees with tables regenerated from the sources on every run

`MJ.Gen.c05*` are rewritten by `lib/tables/c05.py` from `compiler/instructions.rs`, `vm/mod.rs`
(`eval_impl`), `compiler/codegen.rs` and the harness; a change there re-checks (or breaks) these.

The facts are finite and hold by evaluation.  Comparing two strings is dear for the kernel (a literal
is utf-8 encoded before it is looked at) and dearer for the elaborator, so the sweeps over the tables
use `decide +kernel`, which evaluates once, in the kernel; a table that is stated literally is `rfl`,
which compares the literals as they stand. -/

open MJ.Gen in
/-- every instruction of the enum has an arm in `eval_impl` and is either projected to `other` by the
harness or mapped to a letter of the model's alphabet — never both, nothing else -/
theorem alphabet_covers_enum :
    c05Instructions.all (fun n => c05VmArms.any (fun a => a.1 == n)) = true ∧
    c05VmArms.all (fun a => c05Instructions.contains a.1) = true ∧
    c05Instructions.all (fun n => (c05HarnessOther.contains n) != (c05HarnessMapped.contains n)) = true ∧
    (c05HarnessOther ++ c05HarnessMapped).all (fun n => c05Instructions.contains n) = true := by decide +kernel

open MJ.Gen in
/-- the arms of `eval_impl` for the instructions the model treats as `other` mention neither the frame
stack nor the auto-escape stack nor the program counter; the only one that touches the capture
stack is `LoadBlocks` (its discard capture is closed by the end-of-stream logic) -/
theorem other_arms_touch_nothing :
    c05VmArms.all (fun a =>
      !(c05HarnessOther.contains a.1) ||
      (!a.2.1 && !a.2.2.2.1 && !a.2.2.2.2.1 && (!a.2.2.1 || a.1 == "LoadBlocks"))) = true := by decide +kernel

/-- what the model says each letter of its alphabet touches: (frames, captures, escape stack, pc) -/
def modelTouches : List (String × Bool × Bool × Bool × Bool) := [
  ("PushWith", true, false, false, false), ("PopFrame", true, false, false, false),
  ("PushLoop", true, false, false, false), ("Iterate", true, false, false, true),
  ("PushDidNotIterate", true, false, false, false), ("PopLoopFrame", true, true, false, true),
  ("BeginCapture", false, true, false, false), ("EndCapture", false, true, false, false),
  ("PushAutoEscape", false, false, true, false), ("PopAutoEscape", false, false, true, false),
  ("Jump", false, false, false, true), ("JumpIfFalse", false, false, false, true),
  ("JumpIfFalseOrPop", false, false, false, true), ("JumpIfTrueOrPop", false, false, false, true),
  ("FastRecurse", true, false, false, true), ("CallFunction", false, false, false, true),
  ("Return", false, false, false, true), ("BuildMacro", false, false, false, false)]

open MJ.Gen in
/-- … and the arms of the mapped instructions mention exactly what the abstract machine models -/
theorem mapped_arms_as_modelled :
    c05HarnessMapped.all (fun n =>
      match c05VmArms.find? (fun a => a.1 == n), modelTouches.find? (fun a => a.1 == n) with
      | some a, some m => a.2.1 == m.2.1 && a.2.2.1 == m.2.2.1 && a.2.2.2.1 == m.2.2.2.1 && a.2.2.2.2.1 == m.2.2.2.2
      | _, _ => false) = true := by decide +kernel

def instrName : Instr → String
  | .other => "other" | .pushWith => "PushWith" | .popFrame => "PopFrame" | .pushLoop _ _ => "PushLoop"
  | .iterate _ => "Iterate" | .pushDidNotIterate => "PushDidNotIterate" | .popLoopFrame => "PopLoopFrame"
  | .beginCapture => "BeginCapture" | .endCapture => "EndCapture" | .pushAutoEscape => "PushAutoEscape"
  | .popAutoEscape => "PopAutoEscape" | .jump _ => "Jump" | .jumpIfFalse _ => "JumpIfFalse"
  | .jumpIfFalseOrPop _ => "JumpIfFalseOrPop" | .jumpIfTrueOrPop _ => "JumpIfTrueOrPop"
  | .fastRecurse => "FastRecurse" | .callFunction => "CallFunction" | .ret => "Return"
  | .buildMacro _ => "BuildMacro"

/-- names of what the model generator emits for a statement (straight-line instructions as `other`) -/
def modelNames (s : MJ.BalGen.Stmt) : List String :=
  (MJ.BalGen.compileTemplate s).map (fun x => instrName x.1)

/-- a row of the extracted table, instructions only, the ones the model calls `other` renamed -/
def rowNames (row : List String) : List String :=
  (row.filter (fun s => !(["startscope:With", "startscope:Capture", "startscope:AutoEscape", "endscope",
      "leavescopesofinnermostloop"].contains s))).map
    (fun s => if s == "Include" || s == "ExportLocals" || s == "DiscardTop" then "other" else s)

def codegenRow (n : String) : List String :=
  match MJ.Gen.c05CodegenArms.find? (fun a => a.1 == n) with
  | some a => a.2
  | none => ["<missing>"]

open MJ.BalGen in
/-- the scoped arms of `compile_stmt` add exactly the instructions the model generator emits, in the
same order, with the scope tracking (`start_scope` right behind the opening instruction,
`end_scope` right in front of the closing one); `leave_scopes_of_innermost_loop` emits for each
open scope what `cleanup` emits and stops at the innermost loop; `break` / `continue` call it in
front of their jump -/
theorem codegen_arms_as_modelled :
    codegenRow "WithBlock" = ["PushWith", "startscope:With", "endscope", "PopFrame"] ∧
    rowNames (codegenRow "WithBlock") = modelNames (.withS 0 .skip) ∧
    codegenRow "SetBlock" = ["BeginCapture", "startscope:Capture", "endscope", "EndCapture"] ∧
    codegenRow "FilterBlock" = ["BeginCapture", "startscope:Capture", "endscope", "EndCapture"] ∧
    rowNames (codegenRow "SetBlock") = modelNames (.capture .skip 0) ∧
    codegenRow "AutoEscape" = ["PushAutoEscape", "startscope:AutoEscape", "endscope", "PopAutoEscape"] ∧
    rowNames (codegenRow "AutoEscape") = modelNames (.autoEscape 0 .skip) ∧
    rowNames (codegenRow "Import") = modelNames (.importS 0 0) ∧
    (rowNames (codegenRow "FromImport")).take 6 = modelNames (.importS 0 0) ∧
    codegenRow "Break" = ["leavescopesofinnermostloop", "Jump"] ∧
    codegenRow "Continue" = ["leavescopesofinnermostloop", "Jump"] ∧
    codegenRow "start_for_loop" = ["PushLoop", "Iterate"] ∧
    (codegenRow "end_for_loop").take 3 = ["Jump", "PushDidNotIterate", "PopLoopFrame"] ∧
    modelNames (.forElse true false 0 0 .skip .skip)
      = codegenRow "start_for_loop" ++ (codegenRow "end_for_loop").take 3 ++ ["JumpIfFalse"] ∧
    rowNames (codegenRow "leave:With") = (cleanup [.withS] AbsState.init).1.map (fun x => instrName x.1) ∧
    rowNames (codegenRow "leave:Capture") = (cleanup [.capture] AbsState.init).1.map (fun x => instrName x.1) ∧
    rowNames (codegenRow "leave:AutoEscape") = (cleanup [.autoEscape] AbsState.init).1.map (fun x => instrName x.1) ∧
    (codegenRow "compile_macro_expression").filter (· != "DiscardTop") = ["Jump", "Return", "BuildMacro", "Jump"] ∧
    modelNames (.macroS 0 .skip 0 0) = ["Jump", "Return", "BuildMacro"] := by decide +kernel

open MJ.Gen in
/-- in `eval_macro`, `perform_super` and `perform_include` the state is given back between the nested
run and the first look at its result (what `nested_restores` models), and `perform_include` detaches
the closure of the including frame inside the loop over the candidates (what `includeStmt` models) -/
theorem restore_order_as_modelled :
    c05RestoreOrder = [
      ("eval_macro", ["run", "restore", "result"]),
      ("perform_super", ["run", "restore", "restore2", "result"]),
      ("perform_include", ["loop", "take", "run", "restore", "restore2", "result"])] := rfl

/-- no hook site of C05 keeps the real call in a `cfg(not(feature = "verif_hooks"))` branch: the
line the users' build runs is the line the checks run -/
theorem hook_sites_call_once : MJ.Gen.c05HookNotBranches = [] := rfl

/-- every writer of the scoped state anywhere in the crate, classed: (a) an instruction of a
Push/Pop pair or a primitive only such instructions and the wrappers use — checked by the
certificate; (b) `with_execution_state`; (c) another save/restore helper — modelled in
`MJ/Model/Nested.lean`; (d) a reset of something the construct itself owns -/
def writerClass : List ((String × String × String) × String) := [
  (("auto_escape", "assign", "vm/mod.rs::eval_impl"), "a"),            -- PushAutoEscape / PopAutoEscape
  (("auto_escape", "assign", "vm/state.rs::with_auto_escape"), "c"),
  (("auto_escape", "replace", "vm/state.rs::with_auto_escape"), "c"),
  (("auto_escape", "assign", "vm/state.rs::with_execution_state"), "b"),
  (("auto_escape", "replace", "vm/state.rs::with_execution_state"), "b"),
  (("blocks", "assign", "vm/state.rs::with_execution_state"), "b"),
  (("blocks", "replace", "vm/state.rs::with_execution_state"), "b"),
  (("captures", "pop", "output.rs::end_capture"), "a"),                -- EndCapture (+ recursion return, super, end of stream)
  (("captures", "push", "output.rs::begin_capture"), "a"),
  (("closure", "assign", "vm/context.rs::next_loop_item"), "d"),       -- fresh closure for the next iteration of the loop's own frame
  (("closure", "assign", "vm/context.rs::reset_closure"), "c"),        -- perform_include, Enclose
  (("closure", "take", "vm/context.rs::take_closure"), "c"),
  (("ctx", "replace", "vm/mod.rs::eval_macro"), "c"),
  (("current_block", "assign", "vm/state.rs::with_execution_state"), "b"),
  (("current_block", "replace", "vm/state.rs::with_execution_state"), "b"),
  (("depth", "+=", "vm/context.rs::incr_depth"), "c"),
  (("depth", "-=", "vm/context.rs::decr_depth"), "c"),
  (("depth", "-=", "vm/context.rs::incr_depth"), "c"),
  (("depth", "=", "vm/context.rs::clear"), "d"),                       -- recycling of a macro context
  (("frames", "clear", "vm/context.rs::clear"), "d"),
  (("frames", "pop", "vm/context.rs::pop_frame"), "a"),
  (("frames", "pop", "vm/context.rs::push_frame"), "a"),               -- a frame that exceeds the depth limit is taken off again
  (("frames", "push", "vm/context.rs::push_frame"), "a"),
  (("frames", "push", "vm/context.rs::reset_with_frame"), "d"),
  (("frames", "truncate", "vm/context.rs::restore_stack_depth"), "b"),
  (("instructions", "assign", "vm/mod.rs::eval_impl"), "a"),           -- end of stream: switch to the parent template
  (("instructions", "assign", "vm/state.rs::with_execution_state"), "b"),
  (("instructions", "replace", "vm/state.rs::with_execution_state"), "b"),
  (("loaded_templates", "assign", "vm/state.rs::with_execution_state"), "b"),
  (("loaded_templates", "take", "vm/state.rs::with_execution_state"), "b")]

open MJ.Gen in
/-- the table of writers regenerated from the sources contains exactly the classed sites: a new
writer of scoped state (or the disappearance of one) breaks this -/
theorem state_writers_classified :
    c05StateWriters.all (fun w => writerClass.any (fun c => c.1 == w)) = true ∧
    writerClass.all (fun c => c05StateWriters.contains c.1) = true := by decide +kernel

open MJ.Gen in
/-- every save/restore helper restores after the nested run, with no `return` / early-return macro
between the run and the restore, at the nesting depth of the run itself (`with_execution_state`:
inside its `cfg` / mode switch) — in particular `with_auto_escape` restores unconditionally -/
theorem helper_restores_unconditional :
    c05HelperRestores = [
      ("state.rs::with_auto_escape", "auto_escape", 0, false),
      ("state.rs::with_execution_state", "frames", 1, false),
      ("state.rs::with_execution_state", "instructions", 0, false),
      ("state.rs::with_execution_state", "auto_escape", 0, false),
      ("state.rs::with_execution_state", "current_block", 1, false),
      ("state.rs::with_execution_state", "blocks", 3, false),
      ("state.rs::with_execution_state", "loaded_templates", 3, false),
      ("vm/mod.rs::eval_macro", "ctx", 0, false),
      ("vm/mod.rs::perform_super", "frames", 0, false),
      ("vm/mod.rs::perform_super", "blocks", 0, false),
      ("vm/mod.rs::perform_include", "closure", 0, false),
      ("vm/mod.rs::perform_include", "depth", 0, false)] := rfl

open MJ.Gen in
/-- every builtin filter / test / function that is handed the `State` (by its signature) is applied
by the harness inside every scoped construct -/
theorem state_builtins_covered :
    c05StateBuiltins.all (fun n => c05HarnessBuiltins.contains n) = true := by decide +kernel

end MJ.C05

namespace MJ.C05
open MJ.Ops MJ.Gen

/-! ## The operand stack across `loop(...)` recursion

Model `MJ/Model/Ops.lean`: one activation of `eval_impl` with the height of the operand stack, the
frames it pushed, `next_loop_recursion_jump` and `loop_recursion_bases` as in the engine, and as
ghost state the base each loop frame's own `PushLoop` recorded.  The machine is run along the
operand-stack heights observed on the real engine for every generated template with a recursive loop
(`drive_c05`, `O` lines): any transition the engine makes and the machine does not have is reported. -/

/-- `recursion_bases_paired`: in every reachable state of a stream whose `PopFrame`s only meet `with`
frames (what an accepted certificate guarantees, `checkCert_sound`), the engine's
`loop_recursion_bases` is exactly the list of the bases recorded by the `PushLoop`s of the loop frames
that are live, innermost first, and a loop frame has recorded one iff it carries a recursion return
(`current_recursion_jump`): pushes and pops of `loop_recursion_bases` are paired with the loop frames
of `loop(...)` levels — for `CallFunction` (captured) and `FastRecurse` entries alike, under any
nesting, on every path. -/
theorem recursion_bases_paired {code : Code} {s0 s : State} (hd : Disciplined code s0) (h0 : Inv s0)
    (hr : Reach condReal code s0 s) :
    s.bases = basesOf s.frames ∧ framesOk s.frames = true :=
  reach_inv hd h0 hr

/-- `popLoopFrame_truncates_to_own_base`: when a level of `loop(...)` ends — `PopLoopFrame` on a loop
frame with a recursion return `(t, cap)`, whichever entry form `cap` — the base on top of
`loop_recursion_bases` is the one the `PushLoop` of that very frame recorded, the operand stack is
truncated to it (then the captured output is pushed for the `CallFunction` form) and the remaining
bases are those of the remaining frames.  This is the only successor. -/
theorem popLoopFrame_truncates_to_own_base {code : Code} {s0 s : State} (hd : Disciplined code s0)
    (h0 : Inv s0) (hr : Reach condReal code s0 s) (hi : code[s.pc]? = some .popLoopFrame)
    {l : Loop} {fs : List Frame} {t : Nat} {cap : Bool}
    (hfr : s.frames = .loopF l :: fs) (hret : l.ret = some (t, cap)) :
    ∃ b, l.gbase = some b ∧ s.bases = b :: basesOf fs ∧
      ∀ k, step condReal code s k =
        [{ s with pc := t, h := if cap then min s.h b + 1 else min s.h b, frames := fs,
                  bases := basesOf fs, caps := if cap then s.caps.tail else s.caps }] := by
  obtain ⟨hb, hf⟩ := reach_inv hd h0 hr
  rw [hfr] at hb hf
  have hg := (framesOk_loop.mp hf).1
  rw [hret] at hg
  obtain ⟨b, hgb⟩ := Option.isSome_iff_exists.mp hg
  have hb' : s.bases = b :: basesOf fs := by simpa [basesOf, hgb] using hb
  refine ⟨b, hgb, hb', fun k => ?_⟩
  rw [step_eq_exec hi, exec, doPopLoopFrame, hfr]
  simp only [hret, hb', truncated]

/-- `pushLoop_records_height_under_argument`: the base a `PushLoop` records when it is reached through
`loop(...)` is the height of the operand stack once the argument of the call is popped — everything
below belongs to the caller, everything above will have been pushed by the level. -/
theorem pushLoop_records_height_under_argument {code : Code} {s t : State} {k : Nat} {v r : Bool}
    (hi : code[s.pc]? = some (.pushLoop v r)) {nx : Nat × Bool} (hn : s.next = some nx)
    (ht : t ∈ step condReal code s k) :
    t.h = s.h - 1 ∧ t.bases = (s.h - 1) :: s.bases ∧ t.next = none ∧
      ∃ l, t.frames = .loopF l :: s.frames ∧ l.gbase = some (s.h - 1) ∧ l.ret = some nx := by
  rw [step_eq_exec hi] at ht
  obtain rfl := List.mem_singleton.mp (mem_of_mem_ite' ht)
  obtain ⟨pc, h, fs, caps, escs, bases, nx'⟩ := s
  obtain rfl : nx' = some nx := hn
  exact ⟨rfl, rfl, rfl, _, rfl, rfl, rfl⟩

/-- `recursion_restores_operands`: a level that did not go below its base (no underflow within the
level: C01's `no_underflow`; checked on every replayed run) hands the operand stack back at exactly
that base plus the one captured value of the `CallFunction` form: whatever the level left behind (the
flag for its `else` block) is dropped, nothing of the caller is. -/
theorem recursion_restores_operands {code : Code} {s0 s : State} (hd : Disciplined code s0)
    (h0 : Inv s0) (hr : Reach condReal code s0 s) (hi : code[s.pc]? = some .popLoopFrame)
    {l : Loop} {fs : List Frame} {t : Nat} {cap : Bool}
    (hfr : s.frames = .loopF l :: fs) (hret : l.ret = some (t, cap)) {b : Nat} (hb : l.gbase = some b)
    (hge : b ≤ s.h) {k : Nat} {u : State} (hu : u ∈ step condReal code s k) :
    u.pc = t ∧ u.h = b + (if cap then 1 else 0) ∧ u.frames = fs ∧ u.bases = basesOf fs := by
  obtain ⟨b', hb', _, hstep⟩ := popLoopFrame_truncates_to_own_base hd h0 hr hi hfr hret
  rw [hb] at hb'; cases hb'
  rw [hstep k] at hu
  simp only [List.mem_singleton] at hu
  subst hu
  cases cap <;> simp [Nat.min_eq_right hge]

/-- a recursive loop with an `else` block whose body calls `loop(x)` either inside an expression with a
waiting operand (pcs 6–10) or as a statement (12–13) -/
def mixedRecursion : Code := #[
  .eff 0 1, .pushLoop true true, .iterate 16, .eff 1 0, .eff 0 1, .jumpIfFalse 12,
  .eff 0 1, .eff 0 1, .call 1, .eff 2 1, .eff 1 0, .jump 15,
  .eff 0 1, .fastRecurse, .jump 15, .jump 2,
  .pushDidNotIterate, .popLoopFrame, .jumpIfFalse 19, .eff 0 0]

/-- outermost level → captured `loop(x)` → fast `loop(x)` → empty iteration → back to the second
level's `PopLoopFrame` (choices: count, index of the successor) -/
def mixedPath : List (Nat × Nat) :=
  [(0,0), (0,0), (0,0), (0,0), (0,0), (0,0), (0,0), (0,0), (0,1),   -- … 'p', x, loop(x) captured
   (0,0), (0,0), (0,0), (0,0), (0,1), (0,0), (0,0),                 -- level 1: …, else branch, x, loop(x) fast
   (0,0), (0,1), (0,0), (0,0),                                      -- level 2: empty, flag, PopLoopFrame
   (0,0), (0,0), (0,1), (0,0)]                                      -- level 1: next item: none, flag → PopLoopFrame

/-- the hypotheses of the recursion theorems are satisfiable: the second level of `mixedRecursion`
ends with a waiting operand of its caller below its base, its own `else` flag above it -/
example : ∃ s l fs, Disciplined mixedRecursion (init 0 0) ∧
    Reach condReal mixedRecursion (init 0 0) s ∧ mixedRecursion[s.pc]? = some .popLoopFrame ∧
    s.frames = .loopF l :: fs ∧ l.ret = some (9, true) ∧ l.gbase = some 1 ∧ s.h = 2 ∧ s.bases = [1] := by
  have hf : follow condReal mixedRecursion (init 0 0) mixedPath = some
      { pc := 17, h := 2,
        frames := [.loopF ⟨true, some 1, some (9, true), some 1, 1⟩, .loopF ⟨true, some 1, none, none, 0⟩],
        caps := [none], escs := [], bases := [1], next := none } := by decide +kernel
  exact ⟨_, _, _, disciplined_of_no_popFrame (by decide),
    follow_reach _ _ _ (.refl _) hf, by decide, rfl, rfl, rfl, rfl, rfl⟩

/-- `certified_recursion_bases_paired`: the two machines composed.  For every instruction stream whose
projection to the balance alphabet has a certificate accepted by the verified checker — what
`drive_c05` establishes for every real stream — from every region entry and any initial operand
height, EVERY reachable state of the operand-stack machine has `loop_recursion_bases` equal to the
bases recorded by the live loop frames: no hypothesis on the run is left (`Disciplined` is discharged
by `checkCert_sound` through the simulation `MJ.OpsBal.sim_reach`). -/
theorem certified_recursion_bases_paired {code : Code} {cert : MJ.Bal.Cert}
    (hc : MJ.Bal.checkCert (MJ.OpsBal.projCode code) cert = true)
    {e : Nat} (he : e ∈ MJ.Bal.entries (MJ.OpsBal.projCode code)) (h0 : Nat)
    {s : State} (hr : Reach condReal code (init e h0) s) :
    s.bases = basesOf s.frames ∧ framesOk s.frames = true :=
  recursion_bases_paired (MJ.OpsBal.certified_disciplined hc he h0) (init_inv e h0) hr

/-- … and so every level of `loop(...)` of a certified stream ends by truncating to the base its own
`PushLoop` recorded -/
theorem certified_recursion_return {code : Code}
    (hv : MJ.Bal.validate (MJ.OpsBal.projCode code) = true)
    {e : Nat} (he : e ∈ MJ.Bal.entries (MJ.OpsBal.projCode code)) (h0 : Nat)
    {s : State} (hr : Reach condReal code (init e h0) s) (hi : code[s.pc]? = some .popLoopFrame)
    {l : Loop} {fs : List Frame} {t : Nat} {cap : Bool}
    (hfr : s.frames = .loopF l :: fs) (hret : l.ret = some (t, cap)) :
    ∃ b, l.gbase = some b ∧ s.bases = b :: basesOf fs ∧
      ∀ k, step condReal code s k =
        [{ s with pc := t, h := if cap then min s.h b + 1 else min s.h b, frames := fs,
                  bases := basesOf fs, caps := if cap then s.caps.tail else s.caps }] :=
  popLoopFrame_truncates_to_own_base (MJ.OpsBal.certified_disciplined hv he h0) (init_inv e h0) hr hi hfr hret

/-- `mixedRecursion` is such a stream: its projection is accepted by the verified checker -/
example : MJ.Bal.validate (MJ.OpsBal.projCode mixedRecursion) = true := by decide +kernel

/-- `capturedOnly_leaks_else_flag`: the model tells the variants apart.  With a `PushLoop` that only
records a base for the captured form (`if let Some((_, true)) = recursion_jump`) while `PopLoopFrame`
still pops one per level, the same run of `mixedRecursion` comes back from the captured call with the
`else` flag of the level still on the operand stack (height 3 instead of 2: the string concatenation
at pc 9 then consumes the flag in place of the waiting operand), because the fast-path level inside
popped the base of the captured level around it. -/
theorem capturedOnly_leaks_else_flag :
    ∃ s₁ s₂ : State,
      follow condReal mixedRecursion (init 0 0) (mixedPath ++ [(0, 0)]) = some s₁ ∧
      follow condCapturedOnly mixedRecursion (init 0 0) (mixedPath ++ [(0, 0)]) = some s₂ ∧
      s₁.pc = 9 ∧ s₂.pc = 9 ∧ s₁.h = 2 ∧ s₂.h = 3 ∧ s₁.bases = [] ∧ s₂.bases = [] :=
  ⟨{ pc := 9, h := 2, frames := [.loopF ⟨true, some 1, none, none, 0⟩], caps := [], escs := [], bases := [],
     next := none },
   { pc := 9, h := 3, frames := [.loopF ⟨true, some 1, none, none, 0⟩], caps := [], escs := [], bases := [],
     next := none },
   by decide +kernel, by decide +kernel, rfl, rfl, rfl, rfl, rfl, rfl⟩

/-- `recursion_bases_sites_as_modelled`: every statement of `eval_impl` and `push_loop` that mentions
`loop_recursion_bases`, `next_loop_recursion_jump`, `recursion_jump`, `current_recursion_jump` or
truncates the operand stack, with the conditions it is under, regenerated from `vm/mod.rs` on every
run: the one push site is under `recursion_jump.is_some()` (`condReal`) where `recursion_jump` is what
`recurse_loop!` left in `next_loop_recursion_jump` and what `push_loop` stores as the frame's
`current_recursion_jump`; the one pop site (and the `truncate` that uses it) is under that field being
`Some`: push and pop sit under the same condition, as `doPushLoop` / `doPopLoopFrame` have it. -/
theorem recursion_bases_sites_as_modelled :
    c05RecursionBases = [
      ("prologue", "let mut next_loop_recursion_jump = None", []),
      ("prologue", "let mut loop_recursion_bases: Vec<usize> = Vec::new()", []),
      ("recurse_loop!", "next_loop_recursion_jump = Some((pc + 1, $capture))", []),
      ("PopLoopFrame", "if let Some((target, end_capture)) = l.current_recursion_jump.take()", []),
      ("PopLoopFrame", "if let Some(base) = loop_recursion_bases.pop()",
        ["if let Some((target, end_capture)) = l.current_recursion_jump.take()"]),
      ("PopLoopFrame", "stack.truncate(base)",
        ["if let Some((target, end_capture)) = l.current_recursion_jump.take()",
         "if let Some(base) = loop_recursion_bases.pop()"]),
      ("PushLoop", "let recursion_jump = next_loop_recursion_jump.take()", []),
      ("PushLoop", "if recursion_jump.is_some()", []),
      ("PushLoop", "loop_recursion_bases.push(stack.len())", ["if recursion_jump.is_some()"]),
      ("PushLoop", "ctx_ok!(Self::push_loop(state, a, *flags, pc, recursion_jump))", []),
      ("push_loop", "if let Some((jump_instr, _)) = current_recursion_jump", []),
      ("push_loop", "LoopState::new(.., current_recursion_jump, ..)", [])] := rfl

/-- `backpatch_sites_as_modelled`: the primitives of the `pending_block` back-patching in
`codegen.rs`, each as the sequence of its landmarks in textual order (instructions added, pending
blocks pushed / popped, which instruction variants get which target written, `break` registering its
jump, `continue` reading `iter_instr`), regenerated from the source on every run — what
`startIf` / `startElse` / `endIf` / `endCondition` / `startForLoop` / `endForLoop` / `startScope` /
`endScope`, the macro arm and the `break` / `continue` arms of `MJ.BalPatch.gen` transcribe. -/
theorem backpatch_sites_as_modelled :
    c05BackpatchSites = [
      ("start_if", ["add:JumpIfFalse", "push:Branch"]),
      ("start_else", ["add:Jump", "end_condition", "push:Branch"]),
      ("end_if", ["end_condition"]),
      ("end_condition", ["pop", "writes:JumpIfFalse", "writes:Jump", "target=new_jump_instr"]),
      ("start_for_loop", ["add:PushLoop", "add:Iterate", "push:Loop"]),
      ("end_for_loop", ["pop", "add:Jump", "add:PushDidNotIterate", "add:PopLoopFrame", "writes:Iterate",
        "writes:Jump", "target=loop_end"]),
      ("start_scope", ["push:Scope"]),
      ("end_scope", ["pop"]),
      ("compile_macro_expression", ["add:Jump", "add:Return", "add:BuildMacro", "writes:Jump", "target=macro_instr"]),
      ("Continue", ["leave", "reads:iter_instr", "add:Jump"]),
      ("Break", ["leave", "add:Jump", "register"])] := rfl

end MJ.C05

namespace MJ.C05
open MJ.Gen MJ.OpsArms MJ.Bal

/-! ## Every push and pop of every arm of `eval_impl`, regenerated from the source -/

def effRow (n : String) : List Nat × List String × Nat :=
  match c05VmEffects.find? (fun r => r.1 == n) with
  | some r => r.2
  | none => ([], ["<missing>"], 0)

/-- rows of `c05VmEffects` that are not instruction arms -/
def pseudoRows : List String := ["recurse_loop!", "end-of-stream", "prologue"]

/-- `vm_arm_effects_as_modelled`: for EVERY arm of `eval_impl` the number of `push_frame` / `pop_frame` /
`begin_capture` / `end_capture` / `auto_escape_stack.push` / `.pop` / `loop_recursion_bases.push` /
`.pop` calls in the arm's text (helper `push_loop` inlined, the `recurse_loop!` calls expanded with the
macro's own row, its capture under `if $capture`), regenerated from `vm/mod.rs` on every run, is what
one step of the machine `MJ.Ops.step` pushes / pops at most on the frame stack, the capture stack, the
auto-escape stack and `loop_recursion_bases` — measured by executing the machine on probe states
(`MJ.OpsArms.effOf`), not transcribed.  An arm that gains or loses a push or a pop (a second
`pop_frame` in `PopLoopFrame`, an `end_capture` in an instruction the machine treats as straight-line,
a `begin_capture` outside `if $capture`, a push in the prologue) breaks this.  The one capture the
machine does not count is the discard capture of `LoadBlocks`, whose `end_capture` is the only one in
the end-of-stream logic.  The arms that start a nested evaluation (another activation, certified on its
own stream, wrapper modelled in `MJ/Model/Nested.lean`) are exactly CallFunction (`super()`), FastSuper,
Include and CallBlock. -/
theorem vm_arm_effects_as_modelled :
    (c05VmEffects.all (fun r => pseudoRows.contains r.1 || r.1 == "LoadBlocks" ||
        expand (effRow "recurse_loop!").1 r.2.1 r.2.2.1 == effOf r.1)) = true ∧
    c05Instructions.all (fun n => c05VmEffects.any (fun r => r.1 == n)) = true ∧
    effRow "recurse_loop!" = ([0, 0, 1, 0, 0, 0, 0, 0], [], 0) ∧
    effRow "prologue" = (zero8, [], 0) ∧
    effRow "LoadBlocks" = ([0, 0, 1, 0, 0, 0, 0, 0], [], 0) ∧
    effRow "end-of-stream" = ([0, 0, 0, 1, 0, 0, 0, 0], [], 0) ∧
    (c05VmEffects.filter (fun r => r.2.2.2 != 0)).map (·.1) =
      ["CallFunction", "FastSuper", "Include", "CallBlock"] := by
  decide +kernel

/-- non-vacuity: the machine's rows are not all zero, and a `PopLoopFrame` arm with a second `pop_frame`
or a `CallFunction` whose recursion did not begin a capture would not agree with it -/
example : effOf "PopLoopFrame" = [0, 1, 0, 1, 0, 0, 0, 1] ∧ effOf "PushLoop" = [1, 0, 0, 0, 0, 0, 1, 0] ∧
    effOf "CallFunction" = [0, 0, 1, 0, 0, 0, 0, 0] ∧ effOf "FastRecurse" = zero8 ∧
    expand [0, 0, 1, 0, 0, 0, 0, 0] [0, 2, 0, 1, 0, 0, 0, 1] [] ≠ effOf "PopLoopFrame" ∧
    expand [0, 0, 1, 0, 0, 0, 0, 0] zero8 ["false"] ≠ effOf "CallFunction" := by decide +kernel

/-! ## The property at full strength and what is left between it and the theorems above -/

/-- What the real code is, as far as the statement needs it (the parameters of `C05_main`): the
templates the compiler accepts, the statement tree the parser builds for each (in the fragment
`MJ.BalGen.Stmt`: every scoped statement kind, `break` / `continue`, recursion, macros, call blocks,
imports, block references; expressions as straight-line / `flat` code), and the instruction stream
`CodeGenerator` emits for it, projected to the balance alphabet (harness `tok`). -/
structure Engine where
  Template : Type
  ast : Template → MJ.BalGen.Stmt
  stream : Template → MJ.Bal.Code

/-- **C05 at full strength**, over the abstract machine of `MJ/Model/Bal.lean`: for ALL templates the
compiler accepts and ALL control-flow paths through the emitted code (every branch of every
conditional jump and `Iterate`, any iteration count, `break` / `continue`, empty iteration, else
branches, any depth of `loop(...)` recursion), from every region entry (the stream, every macro and
call body):

1. no instruction ever pops a frame, a capture or an auto-escape entry that the region did not push,
   nor a frame of the wrong kind, and the region is left with exactly the entry stacks;
2. two paths that reach the same instruction find the same frames, capture depth and auto-escape
   depth: text after a construct is written to the same target whichever path was taken through it;
3. run as a nested evaluation (block, `super()`, include, macro or call body) on top of ANY stacks of
   a caller, wherever it stops — normally or at a failing instruction — the caller's frames are
   underneath, untouched and in order, and none of its captures / escape entries was closed;
and the wrappers around nested evaluations hand the execution state back on success and on failure
(`NestedRestores`). -/
def C05_full (E : Engine) : Prop :=
  (∀ t : E.Template,
    Balanced (E.stream t) ∧
    (∀ e ∈ entries (E.stream t), ∀ s₁ s₂ : VmState,
      Reach (E.stream t) (initAt e) s₁ → Reach (E.stream t) (initAt e) s₂ →
      noReturn s₁.frames = true → noReturn s₂.frames = true → s₁.pc = s₂.pc →
      s₁.caps = s₂.caps ∧ s₁.frames = s₂.frames ∧ s₁.escs = s₂.escs) ∧
    (∀ e ∈ entries (E.stream t), ∀ F0 : List RFrame, (∀ f ∈ F0, Foreign f) → ∀ (c0 e0 : Nat) (u : VmState),
      Reach (E.stream t) ⟨e, F0, c0, e0⟩ u →
      ∃ own k m, u.frames = own ++ F0 ∧ u.caps = k + c0 ∧ u.escs = m + e0 ∧
        step (E.stream t) u ≠ .stuck ∧
        (step (E.stream t) u = .exit → own = [] ∧ k = 0 ∧ m = 0))) ∧
  NestedRestores

/-- `C05_full` for any engine each of whose streams has a certificate the verified checker accepts:
the three clauses per stream are `checkCert_sound`, `same_pc_same_target` and
`certified_run_keeps_callers_stacks`.  `C05_main` gets the certificates from the generator model,
`C05_main_validated` from the run-time validation. -/
theorem C05_full_of_certified (E : Engine) (h : ∀ t, ∃ cert, checkCert (E.stream t) cert = true) :
    C05_full E := by
  refine ⟨fun t => ?_, nested_restores⟩
  obtain ⟨cert, hc⟩ := h t
  exact ⟨checkCert_sound _ _ hc,
    fun e he s₁ s₂ h₁ h₂ n₁ n₂ hpc => same_pc_same_target hc he h₁ h₂ n₁ n₂ hpc,
    fun e he F0 hF c0 e0 u hr => by
      obtain ⟨own, k, m, h1, h2, h3, h4, _, h6⟩ := certified_run_keeps_callers_stacks hc he hF c0 e0 hr
      exact ⟨own, k, m, h1, h2, h3, h4, h6⟩⟩

/-- **`C05_main`**: the full statement from two named hypotheses about the real code — everything else
is proved above.

* `h_parser` — the parser's `in_loop` discipline: `break` / `continue` only where a `for` body encloses
  them, not across macro / call / block bodies, not in a loop's `else` (`MJ.BalGen.ok false`).
  VALIDATED: every enumerated shape that violates it must be refused by the real parser (harness:
  `nocompile` with the expected message), every other shape must compile.
* `h_codegen` — `codegen.rs` emits what the back-patching generator model `MJ.BalPatch.gen` emits.
  VALIDATED by comparing the two streams on every enumerated and sampled shape (`gen=` verdicts of
  `drive_c05`, any difference is a model disagreement) and TIED by the regenerated tables
  `codegen_arms_as_modelled` and `backpatch_sites_as_modelled`.

That the abstract machine is `eval_impl` is not a hypothesis that can be stated here: it is tied by the
regenerated tables `alphabet_covers_enum`, `other_arms_touch_nothing`, `mapped_arms_as_modelled`,
`vm_arm_effects_as_modelled`, `recursion_bases_sites_as_modelled` and validated by the replay of the
engine's own traces on `MJ.Ops.step` and by the depth counters at entry and exit of every activation. -/
theorem C05_main (E : Engine)
    (h_parser : ∀ t, MJ.BalGen.ok false (E.ast t) = true)
    (h_codegen : ∀ t, E.stream t = (MJ.BalPatch.genTemplate (E.ast t)).toArray) :
    C05_full E :=
  C05_full_of_certified E fun t => ⟨_, by
    have hcode : E.stream t = MJ.BalGen.codeOf (MJ.BalGen.compileTemplate (E.ast t)) := by
      rw [h_codegen t, (backpatching_generator_eq (E.ast t)).1]; rfl
    rw [hcode]; exact compile_has_cert (E.ast t) (h_parser t)⟩

/-- the same conclusion for ANY stream the verified checker accepted at run time — what the check
establishes for every real stream (fixtures included) without `h_parser` / `h_codegen` -/
theorem C05_main_validated (E : Engine) (h_validated : ∀ t, validate (E.stream t) = true) :
    C05_full E :=
  C05_full_of_certified E fun t => ⟨_, h_validated t⟩

/-- the hypotheses of `C05_main` are satisfiable by an engine with a non-trivial template: the model
generators themselves on the statement tree `everything` -/
example : ∃ E : Engine, (∀ t, MJ.BalGen.ok false (E.ast t) = true) ∧
    (∀ t, E.stream t = (MJ.BalPatch.genTemplate (E.ast t)).toArray) ∧
    ∃ t, (E.stream t).size = 71 :=
  ⟨⟨Unit, fun _ => everything, fun _ => (MJ.BalPatch.genTemplate everything).toArray⟩,
   fun _ => (by decide +kernel : MJ.BalGen.ok false everything = true), fun _ => rfl, (),
   (by decide +kernel : (MJ.BalPatch.genTemplate everything).toArray.size = 71)⟩

end MJ.C05

namespace MJ.C05
open MJ.Extends

/-! ## `extends`: the discard capture of `LoadBlocks` and the end-of-stream logic -/

/-- `extends_pairs_with_end_of_stream` (model `MJ/Model/Extends.lean` of the `LoadBlocks` arm and of the
instruction fetch at the end of a stream): a `LoadBlocks` that runs where the stream's own captures are
all closed (`{% extends %}` outside set / filter blocks — relative capture depth 0), followed by capture
events that are balanced (what an accepted certificate gives for the rest of the stream: it ends at
the depth it was entered with), reaches the end of the stream with its own `Discard` entry on top: the
one `end_capture` of the end-of-stream logic pops exactly that entry, the evaluation continues with the
parent's instructions, `parent_instructions` is empty again and the capture stack is the one the
template found — whatever was open around it (`c`) untouched. -/
theorem extends_pairs_with_end_of_stream (c : List Entry) (q : List Entry) (p : Nat) (es : List Ev)
    (h : dyck 0 es = true) :
    ∃ s s', run { caps := c, parent := none, popped := q } (.loadBlocks p :: es) = some s ∧
      endOfStream s = some (p, .discard, s') ∧ s'.caps = c ∧ s'.parent = none := by
  obtain ⟨s, hr, hc, hp⟩ := dyck_run es 0 { caps := .discard :: c, parent := some p, popped := q } h (by simp)
  refine ⟨s, { s with caps := c, parent := none }, by simpa [run, ev] using hr, ?_, rfl, rfl⟩
  simp only [List.drop_zero] at hc
  simp [endOfStream, hp, hc]

/-- `extends_anywhere_restores_callers_captures`: the `LoadBlocks` / parent-switch pair as part of the
balance of a whole stream, crossed pairing allowed.  For ANY stream whose capture events never reach
below its entry, contain one `LoadBlocks` — at the top level, inside set / filter blocks, crossed with
them in any way — and end one entry above the entry depth (`bal false 0 es = some (true, 1)`: what
the certificate of the stream gives with `LoadBlocks` counted as an opening instruction): the run
reaches the end of the stream with exactly ONE entry on top of the caller's capture stack `c`, the
unconditional pop of the end-of-stream logic removes exactly that entry — the discard entry or, on the
crossed path, the buffer of the block around the `extends` — and the parent's instructions start on
exactly the caller's capture stack: their text reaches the output the template was given.  (With a pop
that looks at what is on top this fails: see `end_of_stream_pops_unconditionally`.) -/
theorem extends_anywhere_restores_callers_captures (c q : List Entry) (es : List Ev)
    (h : bal false 0 es = some (true, 1)) :
    ∃ s p e s', run { caps := c, parent := none, popped := q } es = some s ∧
      endOfStream s = some (p, e, s') ∧ s'.caps = c ∧ s'.parent = none := by
  obtain ⟨s, top, hr, hc, hl, hp⟩ := bal_run c es false 0 { caps := c, parent := none, popped := q } [] true 1
    rfl rfl rfl h
  match top, hl with
  | [e], _ =>
    cases hpar : s.parent with
    | none => simp [hpar] at hp
    | some p =>
      refine ⟨s, p, e, { s with caps := c, parent := none }, hr, ?_, rfl, rfl⟩
      simp only [List.cons_append, List.nil_append] at hc
      simp [endOfStream, hpar, hc]

/-- the crossed path `{% set x %}a{% extends … %}b{% endset %}` and a nested one satisfy the hypothesis -/
example : bal false 0 [.beginCapture 0, .loadBlocks 7, .endCapture] = some (true, 1) ∧
    bal false 0 [.beginCapture 0, .beginCapture 1, .loadBlocks 7, .endCapture, .beginCapture 2, .endCapture, .endCapture]
      = some (true, 1) := by decide

/-- `end_of_stream_pops_unconditionally`: the one `end_capture` of the end-of-stream logic, with the
`if` conditions it is under, regenerated from `vm/mod.rs` on every run: none — whenever a parent was
loaded one entry is popped, whatever is on top, as `MJ.Extends.endOfStream` has it (a pop that depends
on what the top entry is leaves an orphaned capture behind on the path of
`extends_inside_capture_mispairs`, which swallows the parent's output) -/
theorem end_of_stream_pops_unconditionally :
    MJ.Gen.c05EndOfStreamPop = ("out.end_capture(AutoEscape::None)", []) := rfl

/-- a second `extends` in the same evaluation fails instead of opening a second discard capture -/
theorem second_extends_fails (s : St) (p q : Nat) (h : s.parent = some p) : ev s (.loadBlocks q) = none := by
  simp [ev, h]

example : dyck 0 [.beginCapture 0, .beginCapture 1, .endCapture, .endCapture, .beginCapture 2, .endCapture] = true := by
  decide

/-- `extends_inside_capture_mispairs`: what the hypothesis "relative capture depth 0" excludes, and the
code does not: `{% set x %}{% extends … %}{% endset %}` compiles.  The `EndCapture` of the set block
pops the discard entry of `LoadBlocks` (`x` is undefined) and the end-of-stream logic pops the set
block's buffer.  The capture DEPTH is restored on this path as on every other (that is what the
certificate and the run-time counters check); the PAIRING is not.  Everything behind `extends` is
discarded anyway, so the only thing a template can observe is the value of `x` in a block. -/
theorem extends_inside_capture_mispairs :
    ∃ s s', run { caps := [], parent := none, popped := [] } [.beginCapture 0, .loadBlocks 7, .endCapture] = some s ∧
      s.popped = [.discard] ∧ endOfStream s = some (7, .block 0, s') ∧ s'.caps = [] :=
  ⟨{ caps := [.block 0], parent := some 7, popped := [.discard] }, { caps := [], parent := none, popped := [.discard] },
   by decide, rfl, by decide, rfl⟩

end MJ.C05

namespace MJ.C05
open MJ.BalExpr

/-! ## Expressions with internal jumps are `flat` blocks -/

/-- `expression_code_is_flat` (model `MJ/Model/BalExpr.lean` of the four places where `compile_expr`
emits jumps: `and` / `or` with `JumpIfFalseOrPop` / `JumpIfTrueOrPop` to the end of the operator, the
inline `a if c else b`, chained comparisons with their `JumpIfFalseOrPop` to the `Swap; DiscardTop`
clean-up behind a `Jump`, calls that may be a captured `loop(x)`, under any nesting): the code of EVERY
expression tree, jump targets as the back-patching leaves them, only jumps inside itself and consists
of state-preserving instructions — it is a `flat` block of the statement model, so `compile_has_cert`
and `compiled_code_balanced` cover statement trees whose expressions are generated this way and not
only assumed to be `flat`. -/
theorem expression_code_is_flat (e : Expr) (inLoop : Bool) :
    MJ.BalGen.ok inLoop (.flat (gen 0 e)) = true ∧ (gen 0 e).length = size e :=
  ⟨gen_flat e inLoop, length_gen e 0⟩

/-- `c and x is defined or 3 < k < 9` (the condition of the harness kind `ifa`) -/
def ifaCondition : Expr :=
  .scBool false (.scBool true (.leaf 1) (.leaf 2)) (.compare (.leaf 1) (.more (.leaf 1) (.last (.leaf 1))))

example : gen 0 ifaCondition =
    [.other, .jumpIfFalseOrPop 4, .other, .other, .jumpIfTrueOrPop 14,
     .other, .other, .other, .jumpIfFalseOrPop 12, .other, .other, .jump 14, .other, .other] := by decide

/-- a loop whose body tests that condition, breaks out of a `with` on it and emits an inline `if` with
a captured `loop(x)` in one arm -/
example : Balanced (MJ.BalGen.codeOf (MJ.BalGen.compileTemplate
    (.forS true true 1 1 (.withS 1 (.seq (.flat (gen 0 ifaCondition))
      (.seq (.ifS 1 .breakS) (.flat (gen 0 (.ifExpr (.leaf 1) .call (.leaf 1)))))))))) :=
  compiled_code_balanced _ (by decide +kernel)

end MJ.C05
