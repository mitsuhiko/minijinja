import MJ.Proofs.LocDebug
import MJ.Proofs.LocTables
import MJ.Proofs.LocCodegen
import MJ.Proofs.LocVmTie
import MJ.Proofs.LocAstStmt
import MJ.Proofs.LocParse
import MJ.Model.LocAstArms
import MJ.Proofs.LocEndToEnd
/-!
# C14 — errors point at the right template line; reported ranges are valid slices

The property theorems; the lemmas they rest on are in `MJ/Proofs/Loc*.lean`, the model in
`MJ/Model/Loc*.lean`.

The tokenizer is modelled as an arbitrary *script* of `advance` / `loc` / `span` / `syntax_error`
calls (`Loc.run`), so every statement about "the spans the lexer creates" holds for whatever the
tokenizer's rules do; that the real tokenizer, parser and code generator hand the span of the
failing construct to the error is validated by the harness, not proved.
-/
namespace MJ.C14
open MJ MJ.Loc

/-- run `advance` for each byte count in turn -/
def advanceAll : Tok → List Nat → Chk Tok
  | t, [] => .ok t
  | t, n :: ns =>
    match t.advance n with
    | .panic => .panic
    | .ok t' => advanceAll t' ns

/-- `k` is a character boundary of `src` (`0`, `src.len()` or between two characters) -/
def IsBoundary (src : List Char) (k : Nat) : Prop := ∃ n, n ≤ src.length ∧ utf8Len (src.take n) = k

/-- `src[s.start_offset..s.end_offset]` does not panic -/
def ValidRange (src : List Char) (s : Span) : Prop :=
  s.startOffset ≤ s.endOffset ∧ s.endOffset ≤ utf8Len src ∧
  IsBoundary src s.startOffset ∧ IsBoundary src s.endOffset

/-- line and column (both saturating at 65535) of the position after the prefix `p`: one more than
    the number of newlines in `p`; the number of characters after the last newline of `p` -/
def lineOf (p : List Char) : Nat := min (1 + p.count '\n') 65535
def colOf (p : List Char) : Nat := min (lastSeg p) 65535

/-! ## 1. `advance`: line, column, offset -/

/-- successful `advance`s leave the tokenizer behind a prefix `p` of the source whose byte length is what was asked
    for -/
theorem advanceAll_at (src : List Char) (ns : List Nat) (t : Tok) (h : advanceAll (Tok.new src) ns = .ok t) :
    ∃ p, At src t p ∧ utf8Len p = ns.sum := by
  suffices H : ∀ (ns : List Nat) (t0 : Tok) (p0 : List Char), At src t0 p0 → advanceAll t0 ns = .ok t →
      ∃ p, At src t p ∧ utf8Len p = utf8Len p0 + ns.sum by
    obtain ⟨p, hat, hs⟩ := H ns (Tok.new src) [] (At.new src) h
    exact ⟨p, hat, by simpa [utf8Len] using hs⟩
  intro ns
  induction ns with
  | nil => intro t0 p0 hat h; simp [advanceAll] at h; subst h; exact ⟨p0, hat, by simp⟩
  | cons n ns ih =>
    intro t0 p0 hat h
    simp only [advanceAll] at h
    split at h
    · cases h
    · rename_i t1 ha
      obtain ⟨q, hat1, hq⟩ := advance_at src t0 t1 p0 n hat ha
      obtain ⟨p, hatp, hp⟩ := ih t1 (p0 ++ q) hat1 h
      exact ⟨p, hatp, by rw [hp, utf8Len_append, hq, List.sum_cons]; omega⟩

/-- After any sequence of successful `advance` calls the tokenizer has consumed a whole prefix
    `src.take k` of the source whose byte length is the sum of the requested byte counts, the line is
    `min (1 + newlines consumed) 65535`, the column is the saturated number of characters since the
    last newline and the offset is the UTF-8 length of the consumed prefix. -/
theorem advance_position (src : List Char) (ns : List Nat) (t : Tok)
    (h : advanceAll (Tok.new src) ns = .ok t) :
    ∃ k, k ≤ src.length ∧ t.rest = src.drop k ∧ utf8Len (src.take k) = ns.sum ∧
      t.line = lineOf (src.take k) ∧ t.col = colOf (src.take k) ∧ t.offset = utf8Len (src.take k) := by
  obtain ⟨p, hat, hsum⟩ := advanceAll_at src ns t h
  have hp := hat.pos
  rw [posOf_eq] at hp
  injection hp with hl hc
  rw [← hat.take] at hsum hl hc
  exact ⟨p.length, hat.le, hat.rest, hsum, hl, hc, by rw [hat.take]; exact hat.off⟩

example : advanceAll (Tok.new "ä\n€x{{".toList) [3, 4, 2] = .ok ⟨[], 2, 4, 9⟩ := by decide +kernel

theorem advance_line (src : List Char) (ns : List Nat) (t : Tok) (h : advanceAll (Tok.new src) ns = .ok t) :
    ∃ p rest, src = p ++ rest ∧ t.rest = rest ∧ utf8Len p = ns.sum ∧ t.line = min (1 + p.count '\n') 65535 := by
  obtain ⟨k, _, hr, hs, hl, _, _⟩ := advance_position src ns t h
  exact ⟨src.take k, src.drop k, (List.take_append_drop k src).symm, hr, hs, hl⟩

theorem advance_offset (src : List Char) (ns : List Nat) (t : Tok) (h : advanceAll (Tok.new src) ns = .ok t) :
    ∃ p rest, src = p ++ rest ∧ t.rest = rest ∧ t.offset = utf8Len p ∧ t.offset = ns.sum := by
  obtain ⟨k, _, hr, hs, _, _, ho⟩ := advance_position src ns t h
  exact ⟨src.take k, src.drop k, (List.take_append_drop k src).symm, hr, ho, by rw [ho, hs]⟩

/-- what the column means: the number of characters after the last newline (the whole prefix when
    there is none), saturating at 65535 -/
theorem advance_col (src : List Char) (ns : List Nat) (t : Tok) (h : advanceAll (Tok.new src) ns = .ok t) :
    ∃ p rest, src = p ++ rest ∧ t.rest = rest ∧
      (∀ a b, p = a ++ '\n' :: b → '\n' ∉ b → t.col = min b.length 65535) ∧
      ('\n' ∉ p → t.col = min p.length 65535) := by
  obtain ⟨k, _, hr, _, _, hc, _⟩ := advance_position src ns t h
  refine ⟨src.take k, src.drop k, (List.take_append_drop k src).symm, hr, ?_, ?_⟩
  · intro a b hp hb; rw [hc, colOf, hp, lastSeg_append_nl a b hb]
  · intro hp; rw [hc, colOf, lastSeg_no_nl _ hp]

/-- `advance` panics exactly when asked to stop inside a multi-byte character or past the end -/
theorem advance_ok_iff_boundary (src : List Char) (ns : List Nat) (t : Tok) (n : Nat)
    (hsz : utf8Len src < 18446744073709551616) (h : advanceAll (Tok.new src) ns = .ok t) :
    (∃ t', t.advance n = .ok t') ↔ IsBoundary src (t.offset + n) := by
  obtain ⟨p, hat, _⟩ := advanceAll_at src ns t h
  constructor
  · rintro ⟨t', ha⟩
    obtain ⟨q, hat', hq⟩ := advance_at src t t' p n hat ha
    exact ⟨(p ++ q).length, hat'.le, by rw [hat'.take, utf8Len_append, hq, hat.off]⟩
  · rintro ⟨k', hk', hlen⟩
    rw [hat.off, ← hat.take] at hlen
    -- the boundary lies behind the consumed prefix: byte lengths of prefixes grow strictly
    have hkk : p.length ≤ k' := by
      rcases Nat.le_total p.length k' with h1 | h1
      · exact h1
      · have := utf8Len_take_mono src h1
        have := take_eq_of_utf8Len_eq src k' p.length hk' hat.le (by omega)
        omega
    have hq : src.take k' = p ++ t.rest.take (k' - p.length) := by
      rw [take_eq_take_append src hkk, hat.take, hat.rest]
    obtain ⟨t', ha, _⟩ := advance_ok_of_split src t p _ _ hat (List.take_append_drop (k' - p.length) t.rest).symm hsz
    refine ⟨t', ?_⟩
    rw [← ha]; congr 1
    rw [hq, utf8Len_append, hat.take] at hlen
    omega

example : (Tok.new "ä".toList).advance 1 = .panic ∧ (Tok.new "ä".toList).advance 3 = .panic := by decide +kernel

/-! ## 2. every span the tokenizer can create is a valid slice, and says where it is -/

theorem goodSpan_valid (src : List Char) (s : Span) (h : GoodSpan src s) :
    ValidRange src s := by
  cases h with
  | token a b hab hb h =>
    subst h
    exact ⟨utf8Len_take_mono src hab, utf8Len_take_le src b, ⟨a, by omega, rfl⟩, ⟨b, hb, rfl⟩⟩
  | error a ha h =>
    subst h
    exact ⟨utf8Len_take_mono src (by omega), utf8Len_take_le src _, ⟨a, ha, rfl⟩, ⟨min (a + 1) src.length, by omega, rfl⟩⟩

/-- For every script of tokenizer actions (after the initial `loc`): every span of a token and the
    span of the syntax error are in bounds, ordered and on character boundaries of the source. -/
theorem span_in_bounds_on_boundary (src : List Char) (hsz : utf8Len src < 4294967296) (ops : List Op)
    (m0 : Loc) (spans : List Span) (h : run (Tok.new src) m0 (.mark :: ops) = .ok spans) :
    ∀ s ∈ spans, ValidRange src s :=
  fun s hs => goodSpan_valid src s (run_mark_good src hsz ops m0 spans h s hs)

/-- … and they say where they are: a token span covers characters `a .. b` of the source and its
    start/end line and column are those of the prefixes of length `a` and `b`; the error span
    starts at the position of the prefix of length `a`, is one (saturated) column wide and covers
    exactly the next character (nothing at the end of the input). -/
theorem span_positions (src : List Char) (hsz : utf8Len src < 4294967296) (ops : List Op)
    (m0 : Loc) (spans : List Span) (h : run (Tok.new src) m0 (.mark :: ops) = .ok spans) :
    ∀ s ∈ spans,
      (∃ a b, a ≤ b ∧ b ≤ src.length ∧
        s = ⟨lineOf (src.take a), colOf (src.take a), utf8Len (src.take a),
             lineOf (src.take b), colOf (src.take b), utf8Len (src.take b)⟩) ∨
      (∃ a, a ≤ src.length ∧
        s = ⟨lineOf (src.take a), colOf (src.take a), utf8Len (src.take a),
             lineOf (src.take a), satInc (colOf (src.take a)), utf8Len (src.take a) + nextCharLen (src.drop a)⟩) := by
  intro s hs
  cases run_mark_good src hsz ops m0 spans h s hs with
  | token a b hab hb h =>
    left; refine ⟨a, b, hab, hb, ?_⟩
    rw [h]; simp [spanAt, locAt, posOf_eq, lineOf, colOf]
  | error a ha h =>
    right; refine ⟨a, ha, ?_⟩
    rw [h]; simp [errSpanAt, locAt, posOf_eq, lineOf, colOf, utf8Len_take_succ]

example : run (Tok.new "ä{{ €".toList) ⟨1, 0, 0⟩ [.mark, .adv 2, .emit, .mark, .adv 2, .emit, .adv 1, .err] =
    .ok [⟨1, 0, 0, 1, 1, 2⟩, ⟨1, 1, 2, 1, 3, 4⟩, ⟨1, 4, 5, 1, 5, 8⟩] := by decide +kernel

/-- The tokenizer works on the source without one trailing newline; its spans are valid slices of
    the *full* source (which is what `Error::template_source` returns). -/
theorem span_valid_in_full_source (keep : Bool) (src : List Char) (hsz : utf8Len src < 4294967296)
    (ops : List Op) (m0 : Loc) (spans : List Span)
    (h : run (Tok.new (tokSource keep src)) m0 (.mark :: ops) = .ok spans) :
    ∀ s ∈ spans, ValidRange src s := by
  obtain ⟨suf, hsuf⟩ := tokSource_prefix keep src
  generalize tokSource keep src = p at h hsuf
  have hlen : utf8Len p ≤ utf8Len src := by rw [← hsuf, utf8Len_append]; omega
  intro s hs
  obtain ⟨h1, h2, ⟨a, ha, ha'⟩, ⟨b, hb, hb'⟩⟩ := span_in_bounds_on_boundary p (by omega) ops m0 spans h s hs
  have htake : ∀ n, n ≤ p.length → src.take n = p.take n := by
    intro n hn; rw [← hsuf, List.take_append_of_le_length hn]
  have hpl : p.length ≤ src.length := by rw [← hsuf]; simp
  exact ⟨h1, by omega, ⟨a, by omega, by rw [htake a ha]; exact ha'⟩, ⟨b, by omega, by rw [htake b hb]; exact hb'⟩⟩

/-- `TokenStream::expand_span`: extending a token's span to the end of a later (or the same) token
    gives a span of the same kind -/
theorem expand_span_valid (src : List Char) (a b c d : Nat) (hab : a ≤ b) (_hcd : c ≤ d) (hd : d ≤ src.length)
    (hb : b ≤ src.length) (hoff : (spanAt src a b).startOffset ≤ (spanAt src c d).endOffset) :
    expandSpan (spanAt src a b) (spanAt src c d) = spanAt src a d ∧ a ≤ d := by
  refine ⟨rfl, ?_⟩
  rcases Nat.le_total a d with h | h
  · exact h
  · have h1 := utf8Len_take_mono src h
    simp only [spanAt, locAt] at hoff
    have := take_eq_of_utf8Len_eq src a d (by omega) hd (by omega)
    omega

/-! ## 3. inserting `N` lines of text above shifts every line by exactly `N` and nothing else -/

/-- Let `P` be whole lines of text (empty or ending in a newline) put in front of `src`.  Any
    script, run on `P ++ src` after skipping `P`, yields exactly the spans it yields on `src`, with
    both lines `+ N` (`N` = number of lines in `P`), both offsets `+` the byte length of `P`, and
    unchanged columns — and it panics on one iff on the other — as long as the line counter does
    not saturate (`1 + N + newlines of src ≤ 65535`). -/
theorem shift_lines (P src : List Char) (ops : List Op) (m0 m0' : Loc)
    (hP : P = [] ∨ ∃ a, P = a ++ ['\n'])
    (hl : 1 + P.count '\n' + src.count '\n' ≤ 65535)
    (hb : utf8Len P + utf8Len src < 4294967296) :
    run (Tok.new (P ++ src)) m0' (.adv (utf8Len P) :: .mark :: ops) =
      mapChk (List.map (shiftSpan (P.count '\n') (utf8Len P))) (run (Tok.new src) m0 (.mark :: ops)) := by
  have hadv : (Tok.new (P ++ src)).advance (utf8Len P) = .ok ⟨src, 1 + P.count '\n', 0, utf8Len P⟩ := by
    unfold Tok.advance
    simp only [Tok.new]
    rw [advanceGo_prefix P src (1, 0)]
    simp only [Nat.zero_add]
    rw [usize_ok _ (by omega)]
    have hpos : posOf P = (1 + P.count '\n', 0) := by
      rw [posOf_eq, lastSeg_whole_lines hP]; congr 1; omega
    rw [← posOf, hpos]
  have hsim : Sim (P.count '\n') (utf8Len P) (Tok.new src) ⟨src, 1 + P.count '\n', 0, utf8Len P⟩ :=
    ⟨rfl, by simp [Tok.new] <;> omega, rfl, by simp [Tok.new], by simp [Tok.new] <;> omega,
      by simp [Tok.new] <;> omega⟩
  simp only [run, hadv]
  rw [hsim.loc]
  exact run_sim _ _ ops _ _ _ hsim

/-- the special case of `N` empty lines -/
theorem shift_newlines (N : Nat) (src : List Char) (ops : List Op) (m0 m0' : Loc)
    (hl : 1 + N + src.count '\n' ≤ 65535) (hb : N + utf8Len src < 4294967296) :
    run (Tok.new (List.replicate N '\n' ++ src)) m0' (.adv N :: .mark :: ops) =
      mapChk (List.map (shiftSpan N N)) (run (Tok.new src) m0 (.mark :: ops)) := by
  have hc : (List.replicate N '\n').count '\n' = N := by simp
  have hu := utf8Len_replicate_nl N
  have := shift_lines (List.replicate N '\n') src ops m0 m0'
    (by cases N with
        | zero => left; rfl
        | succ n => right; exact ⟨List.replicate n '\n', by rw [List.replicate_succ']⟩)
    (by rw [hc]; exact hl) (by rw [hu]; exact hb)
  rw [hc, hu] at this
  exact this

example : run (Tok.new "x\ny\n{{ ?".toList) ⟨1, 0, 0⟩ [.adv 4, .mark, .adv 2, .emit, .adv 1, .err] =
    mapChk (List.map (shiftSpan 2 4)) (run (Tok.new "{{ ?".toList) ⟨1, 0, 0⟩ [.mark, .adv 2, .emit, .adv 1, .err]) := by
  decide +kernel

/-- Horizontal shift: text `H` without a newline inserted at a position `A` of the source.  The line
    of every later position is unchanged; a position on the same line (no newline between the
    insertion point and it) moves right by the number of characters of `H` (before the `u16`
    saturation), a position on a later line keeps its column; byte offsets grow by the length of `H`. -/
theorem shift_cols (A H B : List Char) (hH : '\n' ∉ H) :
    lineOf (A ++ H ++ B) = lineOf (A ++ B) ∧
    ('\n' ∈ B → colOf (A ++ H ++ B) = colOf (A ++ B)) ∧
    ('\n' ∉ B → colOf (A ++ H ++ B) = min (lastSeg (A ++ B) + H.length) 65535) ∧
    utf8Len (A ++ H ++ B) = utf8Len (A ++ B) + utf8Len H := by
  have hc : H.count '\n' = 0 := List.count_eq_zero.mpr hH
  refine ⟨?_, ?_, ?_, ?_⟩
  · simp [lineOf, List.count_append, hc]
  · intro hB
    simp [colOf, lastSeg_append, hB]
  · intro hB
    have h1 : lastSeg (A ++ H ++ B) = lastSeg A + H.length + B.length := by
      rw [lastSeg_append (A ++ H) B, if_neg hB, lastSeg_append A H, if_neg hH]
    have h2 : lastSeg (A ++ B) = lastSeg A + B.length := by
      rw [lastSeg_append A B, if_neg hB]
    rw [colOf, h1, h2]; congr 1; omega
  · simp [utf8Len_append]; omega

example : colOf ("a\nä€𝄞{{ x".toList) = 7 ∧ colOf ("a\n{{ x".toList) = 4 ∧ lineOf ("a\nä€𝄞{{ x".toList) = 2 := by decide +kernel

/-! ## 4. the instruction side tables return the recorded location -/

/-- `first_instruction` is strictly increasing in both tables (what `binary_search_by_key` needs) -/
theorem tables_sorted (ops : List Add) (hlen : ops.length < 4294967296) :
    ((addAll ops).lineInfos.map LineInfo.first).Pairwise (· < ·) ∧
    ((addAll ops).spanInfos.map SpanInfo.first).Pairwise (· < ·) :=
  ⟨(inv_addAll ops hlen).lsorted.1, (inv_addAll ops hlen).ssorted.1⟩

/-- For every sequence of `add` / `add_with_line` / `add_with_span` and every index (also beyond
    the end): `get_line` returns the line recorded by the most recent located add at or before that
    instruction, never panics. -/
theorem line_table_lookup (ops : List Add) (hlen : ops.length < 4294967296) (i : Nat) :
    (addAll ops).getLine i = .ok (lineSpec ops i) := (inv_addAll ops hlen).getLine i

/-- … and `get_span` the span recorded by it (`add_with_line` and `Span::default()` record "none") -/
theorem span_table_lookup (ops : List Add) (hlen : ops.length < 4294967296) (i : Nat) :
    (addAll ops).getSpan i = .ok (spanSpec ops i) := (inv_addAll ops hlen).getSpan i

/-- in particular an instruction added with a line / a span reports exactly that -/
theorem lookup_at_located (ops : List Add) (hlen : ops.length < 4294967296) (i : Nat) :
    (∀ l, ops[i]? = some (.withLine l) →
      (addAll ops).getLine i = .ok (some l) ∧ (addAll ops).getSpan i = .ok none) ∧
    (∀ sp, ops[i]? = some (.withSpan sp) →
      (addAll ops).getLine i = .ok (some sp.startLine) ∧ (addAll ops).getSpan i = .ok sp.nonDefault) := by
  have htake : ∀ op, ops[i]? = some op → ops.take (i + 1) = ops.take i ++ [op] := by
    intro op h
    rw [List.take_add_one, h]; rfl
  constructor
  · intro l h
    rw [line_table_lookup ops hlen, span_table_lookup ops hlen]
    simp [lineSpec, spanSpec, htake _ h, lastLine_snoc, lastSpan_snoc, lineStep, spanStep]
  · intro sp h
    rw [line_table_lookup ops hlen, span_table_lookup ops hlen]
    simp [lineSpec, spanSpec, htake _ h, lastLine_snoc, lastSpan_snoc, lineStep, spanStep]

example : (addAll [.plain, .withLine 3, .plain, .withSpan ⟨4, 2, 30, 4, 9, 37⟩, .plain, .withLine 4]).getLine 4 = .ok (some 4)
    ∧ (addAll [.plain, .withLine 3, .plain, .withSpan ⟨4, 2, 30, 4, 9, 37⟩, .plain, .withLine 4]).getSpan 4
        = .ok (some ⟨4, 2, 30, 4, 9, 37⟩)
    ∧ (addAll [.plain, .withLine 3, .plain, .withSpan ⟨4, 2, 30, 4, 9, 37⟩, .plain, .withLine 4]).getSpan 5 = .ok none
    ∧ (addAll [.plain, .withLine 3, .plain, .withSpan ⟨4, 2, 30, 4, 9, 37⟩, .plain, .withLine 4]).getLine 0 = .ok none := by
  decide +kernel

/-- `process_err` attaches the recorded span if there is one, else the recorded line -/
theorem process_err_attaches (ops : List Add) (hlen : ops.length < 4294967296) (pc : Nat) :
    processErr (addAll ops) pc =
      .ok (match spanSpec ops pc with
           | some sp => .span sp
           | none => match lineSpec ops pc with
             | some l => .line l
             | none => .nothing) := by
  unfold processErr
  rw [span_table_lookup ops hlen, line_table_lookup ops hlen]
  cases spanSpec ops pc <;> cases lineSpec ops pc <;> rfl

/-! ## 5. `render_debug_info` -/

/-- The window of source lines never panics (`idx + 1`, `saturating_sub`), the caret line is total
    by construction (`saturating_sub`), for any span and any line number. -/
theorem debug_render_total {α : Type} (lines : List α) (line : Option Nat) (sp : Span)
    (h : line.getD 1 < 18446744073709551616) :
    (∃ r, window lines line = .ok r) ∧ (caret sp = none ∨ ∃ c w, caret sp = some (c, w)) := by
  refine ⟨window_total lines line h, ?_⟩
  cases hc : caret sp with
  | none => left; rfl
  | some cw => right; exact ⟨cw.1, cw.2, rfl⟩

/-- For a line inside the source the window is that line, the (up to) three lines before and the
    (up to) three lines after it, each printed with its own number. -/
theorem debug_window (α : Type) (lines : List α) (line : Nat) (h1 : 1 ≤ line) (h2 : line ≤ lines.length)
    (hsz : lines.length < 18446744073709551616) :
    ∃ pre cur post, window lines (some line) = .ok (pre, some (line - 1, cur), post) ∧
      lines[line - 1]? = some cur ∧
      pre.map Prod.fst = List.range' (line - 1 - min 3 (line - 1)) (min 3 (line - 1)) ∧
      post.map Prod.fst = List.range' line (min 3 (lines.length - line)) ∧
      ∀ p ∈ pre ++ post, lines[p.1]? = some p.2 := by
  have hidx : line - 1 < lines.length := by omega
  refine ⟨(((List.range lines.length).zip lines).drop (line - 1 - 3)).take (min 3 (line - 1)), lines[line - 1],
    (((List.range lines.length).zip lines).drop line).take 3, ?_, by simp [hidx], ?_, ?_, ?_⟩
  · unfold window
    simp only [Option.getD_some]
    rw [usize_ok _ (by omega), enum_getElem? lines (line - 1) hidx]
    have : line - 1 + 1 = line := by omega
    simp only [this]
  · rw [List.map_take, List.map_drop, enum_fst, List.range_eq_range', List.drop_range', take_range'_min]
    congr 1 <;> omega
  · rw [List.map_take, List.map_drop, enum_fst, List.range_eq_range', List.drop_range', take_range'_min]
    congr 1 <;> omega
  · intro p hp
    apply mem_enum
    rcases List.mem_append.mp hp with hp | hp
    · exact List.mem_of_mem_drop (List.mem_of_mem_take hp)
    · exact List.mem_of_mem_drop (List.mem_of_mem_take hp)

example : window ["a", "b", "c", "d", "e", "f", "g", "h"] (some 5) =
    .ok ([(1, "b"), (2, "c"), (3, "d")], some (4, "e"), [(5, "f"), (6, "g"), (7, "h")]) := by decide +kernel

/-- For token spans on one unsaturated line the caret is exact: it starts at the start column and
    is `end_col - start_col` wide with `start_col ≤ end_col` (the `saturating_sub` never clamps). -/
theorem caret_exact (src : List Char) (a b : Nat) (hab : a ≤ b) (hb : b ≤ src.length)
    (hline : (spanAt src a b).startLine = (spanAt src a b).endLine) (hsat : (spanAt src a b).endLine < 65535) :
    (spanAt src a b).startCol ≤ (spanAt src a b).endCol ∧
    caret (spanAt src a b) = some ((spanAt src a b).startCol, (spanAt src a b).endCol - (spanAt src a b).startCol) := by
  refine ⟨cols_ordered src a b hab hline hsat, ?_⟩
  unfold caret
  rw [if_pos hline]

/-- the caret of a lexer syntax error is one column wide (none when the column is saturated) -/
theorem caret_error (src : List Char) (a : Nat) :
    caret (errSpanAt src a) = some ((locAt src a).col, if (locAt src a).col < 65535 then 1 else 0) := by
  unfold caret errSpanAt
  simp only [if_true]
  congr 2
  unfold satInc
  split <;> omega

/-! ## 6. the code generator: which line / span an instruction gets -/

/-- `pop_span` only pops: the current line is the one set by the last `set_line` / `push_span` of
    the script, whatever was pushed and popped in between -/
theorem cg_line_after (ops : List CgOp) (c : Cg) : (cgRun ops c).currentLine = lineAfter ops c.currentLine :=
  (cgRun_fields ops c).1

/-- a properly nested script leaves the span stack as it found it -/
theorem cg_balanced_keeps_stack (ops : List CgOp) (h : Balanced ops) (c : Cg) :
    (cgRun ops c).spanStack = c.spanStack := cgRun_stack_balanced ops h c

/-- A statement that (after any prefix `pre` of the compilation) runs a properly nested script
    `bal` — e.g. `set_line(tag)`, then the compilation of its argument expression with all its
    `push_span`/`pop_span` pairs — and then emits an instruction with `add`: that instruction
    reports the line set by the last `set_line`/`push_span` of `bal` (of `pre` if `bal` sets none),
    and the span that was innermost *before* the statement if that span starts on that very line,
    otherwise no span.  Spans pushed and popped inside `bal` do not leak into it. -/
theorem add_uses_statement_line (pre bal : List CgOp) (hb : Balanced bal)
    (hlen : (pre ++ bal).length + 1 < 4294967296) :
    ((cgRun (pre ++ bal ++ [.add]) Cg.new).instrs.getLine (cgRun (pre ++ bal) Cg.new).instrs.len =
      .ok (some (lineAfter bal (cgRun pre Cg.new).currentLine))) ∧
    ((cgRun (pre ++ bal ++ [.add]) Cg.new).instrs.getSpan (cgRun (pre ++ bal) Cg.new).instrs.len =
      .ok (match (cgRun pre Cg.new).spanStack with
           | sp :: _ => if sp.startLine = lineAfter bal (cgRun pre Cg.new).currentLine then sp.nonDefault else none
           | [] => none)) := by
  have hstack : (cgRun (pre ++ bal) Cg.new).spanStack = (cgRun pre Cg.new).spanStack := by
    rw [cgRun_append]; exact cgRun_stack_balanced bal hb _
  have hline : (cgRun (pre ++ bal) Cg.new).currentLine = lineAfter bal (cgRun pre Cg.new).currentLine := by
    rw [cgRun_append]; exact (cgRun_fields bal _).1
  generalize hL : lineAfter bal (cgRun pre Cg.new).currentLine = L at *
  generalize hA : cgAdds 0 [] (pre ++ bal) = A
  have hAlen : A.length ≤ (pre ++ bal).length := by rw [← hA]; exact cgAdds_length_le _ _ _
  have hinstr : (cgRun (pre ++ bal) Cg.new).instrs = addAll A := by rw [cgRun_new_instrs, hA]
  have hfinal : (cgRun (pre ++ bal ++ [.add]) Cg.new).instrs =
      addAll (A ++ [addOf L (cgRun pre Cg.new).spanStack]) := by
    rw [cgRun_append]
    show ((cgRun (pre ++ bal) Cg.new).step .add).instrs = _
    simp only [Cg.step, Cg.add_eq, hinstr, hstack, hline]
    rw [addAll_snoc]
  have hpc : (cgRun (pre ++ bal) Cg.new).instrs.len = A.length := by
    rw [hinstr]; exact (inv_addAll A (by omega)).len
  have hinv := inv_addAll (A ++ [addOf L (cgRun pre Cg.new).spanStack]) (by simp; omega)
  have hend : (A ++ [addOf L (cgRun pre Cg.new).spanStack]).length ≤ A.length + 1 := by simp
  rw [hfinal, hpc, hinv.getLine, hinv.getSpan, lineSpec_ge _ _ hend, spanSpec_ge _ _ hend, lastLine_snoc, lastSpan_snoc,
    lineStep_addOf, spanStep_addOf]
  exact ⟨rfl, rfl⟩

/-- `{% call m() %}` on line 1 (span still pushed), then on line 3 `{% autoescape cfg.mode %}`:
    `set_line(3)`, `cfg.mode` with its push/pop, `add(PushAutoEscape)` — the instruction is on line 3
    and does not inherit the span of `m()` -/
example : ((cgRun [.pushSpan ⟨1, 8, 8, 1, 11, 11⟩, .setLine 3, .setLine 3, .pushSpan ⟨3, 14, 40, 3, 22, 48⟩,
      .setLine 3, .add, .add, .popSpan, .add] Cg.new).instrs.getLine 2 = .ok (some 3)) ∧
    ((cgRun [.pushSpan ⟨1, 8, 8, 1, 11, 11⟩, .setLine 3, .setLine 3, .pushSpan ⟨3, 14, 40, 3, 22, 48⟩,
      .setLine 3, .add, .add, .popSpan, .add] Cg.new).instrs.getSpan 2 = .ok none) := by decide +kernel

/-! ## 7. source ties (tables regenerated from /repo on every run) -/

/-- Every fallible expression inside the instruction arms of `eval_impl` (table `c14VmRows`, extracted
    from `vm/mod.rs`) leaves the interpreter loop through `ctx_ok!` / `bail!` / a helper macro that
    ends in `bail!` — i.e. through `process_err`, which attaches name, line and span — except the
    rows listed in `allowedUnlocated` (the write of raw template data).  A plain `ok!`, `?` or
    `return Err` added to an arm makes this theorem fail. -/
theorem source_tie_vm_rows :
    MJ.Gen.c14VmRows.all rowLocated = true ∧ macroRowsPresent = true :=
  ⟨vm_rows_located, vm_macros_present⟩

/-- the `u16` / `u32` widths the model hard-codes are those of `Tokenizer`, `Span`, `LineInfo` -/
theorem source_tie_widths :
    (∀ x, satInc x = if x < 2 ^ MJ.Gen.c14Bits_line - 1 then x + 1 else 2 ^ MJ.Gen.c14Bits_line - 1) ∧
    (∀ x, asU32 x = x % 2 ^ MJ.Gen.c14Bits_span_offset) ∧
    MJ.Gen.c14Bits_col = MJ.Gen.c14Bits_line ∧ MJ.Gen.c14Bits_span_line = MJ.Gen.c14Bits_line ∧
    MJ.Gen.c14Bits_span_col = MJ.Gen.c14Bits_line ∧ MJ.Gen.c14Bits_table_line = MJ.Gen.c14Bits_line ∧
    MJ.Gen.c14Bits_first_instruction = MJ.Gen.c14Bits_span_offset :=
  ⟨satInc_width, asU32_width, by decide, by decide, by decide, by decide, by decide⟩

example : satInc 7 = 8 ∧ satInc 65535 = 65535 ∧ asU32 4294967301 = 5 := by decide +kernel

example : rowLocated ("CompareAndPreserve", "In|NotIn", "ctx_ok", "ops::contains") = true ∧
    rowLocated ("CompareAndPreserve", "In|NotIn", "ok", "ops::contains") = false := by decide +kernel

/-! ## 8. the parser: which token starts and which ends the span of a node -/

open MJ.LocParse in
/-- A parse function that remembers `current_span()` when it is entered (or the span of the first
    token it consumes), consumes `k ≥ 1` tokens and builds the node with `expand_span`: the span runs
    from the start of the first to the end of the last token of the construct. -/
theorem span_covers_construct (s : TS) (k : Nat) (hinv : Inv s) (hk : 1 ≤ k) (hlen : s.pos + k ≤ s.toks.length) :
    ∃ a b, s.toks[s.pos]? = some a ∧ s.toks[s.pos + k - 1]? = some b ∧ built .current s k = cover a b := by
  have hlt : s.pos < s.toks.length := by omega
  have hq : s.toks[s.pos]? = some s.toks[s.pos] := List.getElem?_eq_getElem hlt
  obtain ⟨_, _, h3⟩ := nextN_spec k s hlen
  refine ⟨s.toks[s.pos], (nextN k s).last, hq, h3 hk, ?_⟩
  simp [built, capture, TS.currentSpan, hq, TS.expand, expandSpan, cover]

open MJ.LocParse in
/-- … one that remembers `last_span()` instead (`parse_compare`, `parse_ifexpr`): the span starts at the
    token in FRONT of the construct, or is `Span::default()` (line 0) if there is none. -/
theorem span_from_last_span (s : TS) (k : Nat) (hinv : Inv s) (hk : 1 ≤ k) (hlen : s.pos + k ≤ s.toks.length) :
    ∃ b, s.toks[s.pos + k - 1]? = some b ∧
      (s.pos = 0 → built .last s k = cover Span.default b) ∧
      (∀ j, s.pos = j + 1 → ∃ p, s.toks[j]? = some p ∧ built .last s k = cover p b) := by
  obtain ⟨_, _, h3⟩ := nextN_spec k s hlen
  refine ⟨(nextN k s).last, h3 hk, ?_, ?_⟩
  · intro h0
    simp [built, capture, hinv.2.1 h0, TS.expand, expandSpan, cover]
  · intro j hj
    exact ⟨s.last, hinv.2.2 j hj, by simp [built, capture, TS.expand, expandSpan, cover]⟩

/-- the full invariant: whatever a parse function remembers, the span covers exactly its construct -/
def SpanCoversConstruct_full : Prop :=
  ∀ (c : MJ.LocParse.Cap) (s : MJ.LocParse.TS) (k : Nat), MJ.LocParse.Inv s → 1 ≤ k → s.pos + k ≤ s.toks.length →
    ∃ a b, s.toks[s.pos]? = some a ∧ s.toks[s.pos + k - 1]? = some b ∧ MJ.LocParse.built c s k = MJ.LocParse.cover a b

open MJ.LocParse in
/-- … is false: `{{ 1 in 2 }}` — `parse_compare` is entered after `{{`, consumes `1 in 2` and builds
    a `BinOp` whose span starts at `{{` -/
theorem span_covers_construct_counterexample : ¬ SpanCoversConstruct_full := by
  intro h
  have hinv : Inv (TS.new [⟨1, 0, 0, 1, 2, 2⟩, ⟨1, 3, 3, 1, 4, 4⟩, ⟨1, 5, 5, 1, 7, 7⟩, ⟨1, 8, 8, 1, 9, 9⟩]).next :=
    (Inv.new _).next
  obtain ⟨a, b, ha, hb, hc⟩ := h .last _ 3 hinv (by decide) (by decide)
  revert ha hb hc
  simp [TS.new, TS.next, built, capture, nextN, TS.expand, expandSpan, cover]
  intro ha hb
  subst ha; subst hb
  decide

open MJ.LocParse in
/-- it holds for every site that does not use `last_span()` … -/
theorem span_covers_construct_partial (c : Cap) (hc : c ≠ .last) (s : TS) (k : Nat) (hinv : Inv s) (hk : 1 ≤ k)
    (hlen : s.pos + k ≤ s.toks.length) :
    ∃ a b, s.toks[s.pos]? = some a ∧ s.toks[s.pos + k - 1]? = some b ∧ built c s k = cover a b := by
  cases c with
  | current => exact span_covers_construct s k hinv hk hlen
  | last => exact absurd rfl hc

open MJ.LocParse in
/-- … and those sites of parser.rs are (table `c14ParserSpans`, one row per `Spanned::new`): every site
    starts its span at `current_span()` on entry, at a token it has consumed or at a span handed in by
    such a site — except exactly the listed ones, which use `last_span()`: the root `Template` (no token
    in front: `Span::default()`), the caller macro of a call block (the token in front is the `call`
    keyword, which belongs to the construct) and `parse_compare` / `parse_ifexpr` (KNOWN finding:
    `BinOp` of a comparison, `UnaryOp` of `not in`, `Compare`, `IfExpr` start at the previous token). -/
theorem source_tie_parser_spans :
    ((MJ.Gen.c14ParserSpans.filter (fun r => !coveringStart r.2.2.1)).map (fun r => (r.1, r.2.1)) = lastSpanSites) ∧
    (MJ.Gen.c14ParserSpans.all (fun r => coveringStart r.2.2.1 || r.2.2.1 == "last_span") = true) := by
  decide +kernel

open MJ.LocParse in
/-- the start a row of the regenerated parser table stands for -/
def capOfRow (r : String × String × String × String) : Cap := if coveringStart r.2.2.1 then .current else .last

open MJ.LocParse in
/-- **Every node's span covers its tokens** — stated over the table regenerated from parser.rs: for every
    `Spanned::new` site (row) that is not one of the listed `last_span()` sites, whatever the token stream and
    however many tokens (≥ 1) the parse function consumes, the span it builds runs from the start of the
    first to the end of the last token of its construct.  A new site that takes its start from `last_span()`
    (or from anything the extractor does not know) is not in `lastSpanSites`, so this theorem stops building. -/
theorem every_node_span_covers_its_tokens :
    ∀ r ∈ MJ.Gen.c14ParserSpans, (r.1, r.2.1) ∉ lastSpanSites →
      ∀ (s : TS) (k : Nat), Inv s → 1 ≤ k → s.pos + k ≤ s.toks.length →
        ∃ a b, s.toks[s.pos]? = some a ∧ s.toks[s.pos + k - 1]? = some b ∧ built (capOfRow r) s k = cover a b := by
  intro r hr hnot s k hinv hk hlen
  have hcov : coveringStart r.2.2.1 = true := by
    cases h : coveringStart r.2.2.1 with
    | true => rfl
    | false =>
      exfalso
      apply hnot
      rw [← source_tie_parser_spans.1]
      exact List.mem_map.mpr ⟨r, List.mem_filter.mpr ⟨hr, by simp [h]⟩, rfl⟩
  have hc : capOfRow r = .current := by simp [capOfRow, hcov]
  rw [hc]
  exact span_covers_construct s k hinv hk hlen

example : MJ.LocParse.built .current (MJ.LocParse.TS.new [⟨1, 0, 0, 1, 2, 2⟩, ⟨1, 3, 3, 1, 4, 4⟩, ⟨2, 0, 6, 2, 2, 8⟩]).next 2 =
    ⟨1, 3, 3, 2, 2, 8⟩ := by decide +kernel

/-! ## 9. the code generator on whole programs: every instruction's line lies in its construct -/

open MJ.LocAst in
/-- `CodeGenerator::add` records the current line whichever branch it takes (the innermost span only if
    it starts on that very line): the rule `stepL` uses for `add` -/
theorem cg_add_records_current_line (c : Cg) :
    (∃ sp, c.add.instrs = (c.instrs.addWithSpan sp).1 ∧ sp.startLine = c.currentLine) ∨
    c.add.instrs = (c.instrs.addWithLine c.currentLine).1 := by
  unfold Cg.add
  cases hst : c.spanStack with
  | nil => exact Or.inr rfl
  | cons sp tl =>
    by_cases h : sp.startLine = c.currentLine
    · exact Or.inl ⟨sp, by simp [h], h⟩
    · exact Or.inr (by simp [h])

open MJ.LocAst in
/-- For every well-formed tree (`wf`: the line range of a construct contains those of its parts and —
    unless the node is a comparison / conditional expression that is not folded to a constant — the
    start line of its span; checked on every dumped AST of the real parser): every instruction that
    `compile_stmt` emits, in whatever context, is recorded with a line that lies within the first and
    the last line of the construct whose compile arm emitted it.  So an error raised by an instruction
    reports a line inside the failing construct. -/
theorem instr_line_in_construct (ctx : List Pend) (n : Node) (hw : wf n = true) (s : LS)
    (hs : n.lo ≤ s.cur ∧ s.cur ≤ n.hi) :
    ∀ e ∈ (execL s (cStmt ctx n)).2, ∃ l, e.line = some l ∧ e.lo ≤ l ∧ l ≤ e.hi :=
  fun e he => Em.line_of_ok (stmt_lines_ok_any ctx n hw s e he)

open MJ.LocAst in
/-- the same for a standalone expression (`Environment::compile_expression`): no assumption on the state -/
theorem instr_line_in_construct_expr (ctx : List Pend) (n : Node) (hw : wf n = true) (he : isE n = true) (s : LS) :
    ∀ e ∈ (execL s (cExpr ctx n)).2, ∃ l, e.line = some l ∧ e.lo ≤ l ∧ l ≤ e.hi :=
  fun e hm => Em.line_of_ok (expr_lines_ok ctx n hw he s e hm)

/-- `{{ foo(⏎ 1 == 1 and x) }}` as dumped from the real parser (line ranges from the token stream) -/
def witnessFolded (folded : Bool) : MJ.LocAst.Node :=
  .mk .template ⟨0, 0, 0, 2, 17, 25⟩ false "" 0 0 2
    [.mk .emitexpr ⟨1, 0, 0, 2, 14, 22⟩ false "" 0 1 2
      [.mk .call ⟨1, 3, 3, 2, 14, 22⟩ false "" 0 1 2
        [.mk .var ⟨1, 3, 3, 1, 6, 6⟩ false "foo" 0 1 1 [],
         .mk .apos Span.default false "" 0 1 2
          [.mk .bin ⟨2, 1, 9, 2, 13, 21⟩ false "ScAnd" 0 2 2
            [.mk .bin ⟨1, 6, 6, 2, 7, 15⟩ folded "Eq" 0 2 2
              [.mk .const ⟨2, 1, 9, 2, 2, 10⟩ true "" 0 2 2 [], .mk .const ⟨2, 6, 14, 2, 7, 15⟩ true "" 0 2 2 []],
             .mk .var ⟨2, 12, 20, 2, 13, 21⟩ false "x" 0 2 2 []]]]]]

/-- the statement over what the parser guarantees by itself (`wfP`) -/
def InstrLineInConstruct_full : Prop :=
  ∀ (ctx : List MJ.LocAst.Pend) (n : MJ.LocAst.Node), MJ.LocAst.wfP n = true → ∀ s : MJ.LocAst.LS, n.lo ≤ s.cur ∧ s.cur ≤ n.hi →
    ∀ e ∈ (MJ.LocAst.execL s (MJ.LocAst.cStmt ctx n)).2, ∃ l, e.line = some l ∧ e.lo ≤ l ∧ l ≤ e.hi

open MJ.LocAst in
/-- … is false: the comparison `1 == 1` is folded to a constant and its `LoadConst` is recorded on the
    start line of its span — line 1, the line of the `(` in front of it, outside the construct
    (line 2); the location-less jump of `and` inherits that line.  (Neither can fail.) -/
theorem instr_line_in_construct_counterexample : ¬ InstrLineInConstruct_full := by
  intro h
  have hw : wfP (witnessFolded true) = true := by decide +kernel
  have hm : (⟨"LoadConst", some 1, 2, 2⟩ : Em) ∈ (execL LS.init (cStmt [] (witnessFolded true))).2 := by decide +kernel
  obtain ⟨l, hl, h1, _⟩ := h [] (witnessFolded true) hw LS.init (by decide) _ hm
  cases hl
  exact absurd h1 (by decide)

open MJ.LocAst in
/-- the hypothesis of `instr_line_in_construct` is satisfiable, and says what it should on the same
    template without folding (`{{ foo(⏎ a == 1 and x) }}`-shaped): lines 2, 2, 2, 2 (plain jump), 2, 2, 2 -/
example : wf (witnessFolded false) = true ∧ wf (witnessFolded true) = false := by decide +kernel

open MJ.LocAst in
example : ((execL LS.init (cStmt [] (witnessFolded false))).2.map (fun e => e.line)) =
      [some 2, some 2, some 2, some 2, some 2, some 2, some 2] ∧
    ((execL LS.init (cStmt [] (witnessFolded true))).2.map (fun e => e.line)) = [some 1, some 1, some 2, some 2, some 2] := by
  decide +kernel

/-- the call sites of codegen.rs that decide a location (table `c14CodegenArms`, regenerated: function,
    call, instructions / argument, in source order) are the ones the model `MJ/Model/LocAst.lean` was
    written from and validated against -/
theorem source_tie_codegen_arms : MJ.Gen.c14CodegenArms = MJ.LocAst.expectedArms := rfl

/-- **Every span the code generator records is the span of an AST node** — decided on the table regenerated
    from codegen.rs (one row per `push_span` / `set_line_from_span` / `add_with_span` call): the argument is
    `<node>.span()` of a node of the arm at hand, the `span` parameter of a helper (`push_span`,
    `add_with_span`, `compile_call_args`, whose callers are rows of this table themselves) or the innermost
    pushed span inside `CodeGenerator::add`.  A call that passes a computed span, `Span::default()` or a span
    of something else makes this theorem fail. -/
theorem instr_span_is_node_span :
    MJ.Gen.c14CodegenSpanArgs.all (fun r => r.2.2.2.2 == "node" || r.2.2.2.2 == "stack" ||
      (r.2.2.2.2 == "param" && (r.1 == "push_span" || r.1 == "add_with_span" || r.1 == "compile_call_args"))) = true ∧
    MJ.Gen.c14CodegenSpanArgs.length ≥ 40 := by
  decide +kernel

example : ("compile_stmt", "add_with_span", "Include", "include.span()", "node") ∈ MJ.Gen.c14CodegenSpanArgs := by decide +kernel

/-! ## 10. end to end: the line an error reports is a line of the failing construct -/

open MJ.LocAst in
/-- **`execL` is what the real side tables answer.**
    For every script of location calls of one generator — whatever the compile arms emit — and every
    instruction `pc`: `process_err`, i.e. `get_span(pc)` else `get_line(pc)` on the run-length tables built
    by `Instructions::{add, add_with_line, add_with_span}` through `CodeGenerator::{add, add_with_span}`,
    attaches exactly the line the simple semantics `execL` assigns to that instruction (and a span only
    if it starts on that line). -/
theorem tables_answer_execL (evs : List Ev) (hf : evs.all flat = true) (hlen : evs.length < 4294967296)
    (pc : Nat) (e : Em) (he : (execL LS.init evs).2[pc]? = some e) :
    ∃ att, processErr (execG GS.init evs).cur.cg.instrs pc = .ok att ∧ (e.line = none ∨ attachedLine att = e.line) :=
  MJ.LocAst.tables_answer_execL evs hf hlen pc e he

open MJ.LocAst in
/-- the same for the sub-generator that compiles the body of a `{% block %}` (`new_subgenerator`: current
    line and innermost span carried over, no instruction yet), whatever generators are suspended below it:
    the per-generator bookkeeping of block bodies is the proved one too -/
theorem block_body_tables_answer_execL (line : Nat) (stack : List Span) (saved : List (Option Nat))
    (susp : List (Gen × String)) (done : List (String × Gen))
    (evs : List Ev) (hf : evs.all flat = true) (hlen : evs.length < 4294967296)
    (pc : Nat) (e : Em) (he : (execL ⟨line, none, saved⟩ evs).2[pc]? = some e) :
    ∃ att, processErr (execG ⟨⟨⟨line, stack, Instrs.empty⟩, []⟩, susp, done⟩ evs).cur.cg.instrs pc = .ok att ∧
      (e.line = none ∨ attachedLine att = e.line) :=
  MJ.LocAst.tables_answer_execL_from _ _ (rel_sub line stack saved susp done) evs hf hlen pc e he

open MJ.LocAst in
/-- **The reported line is a line of the failing construct.**  Composition of the code generator theorem
    (`instr_line_in_construct`: every compile arm records its instructions on lines of its own construct),
    the side tables (`line_table_lookup` / `span_table_lookup`, binary search included) and the VM's
    `process_err`: for a well-formed AST compiled by one generator, whatever instruction `pc` fails,
    the location `process_err` attaches to the error is a line `l` with `lo ≤ l ≤ hi`, the first and
    last line of the construct whose compile arm emitted that instruction.  (That every failing
    instruction reaches `process_err` is `source_tie_vm_rows`; that `lo..hi` are the lines of the
    construct's own tokens is `span_covers_construct` + the parser table.) -/
theorem error_line_is_construct_line (ctx : List Pend) (n : Node) (hw : wf n = true) (hroot : n.lo = 0)
    (hflat : (cStmt ctx n).all flat = true) (hlen : (cStmt ctx n).length < 4294967296)
    (pc : Nat) (e : Em) (he : (execL LS.init (cStmt ctx n)).2[pc]? = some e) :
    ∃ att l, processErr (execG GS.init (cStmt ctx n)).cur.cg.instrs pc = .ok att ∧
      attachedLine att = some l ∧ e.lo ≤ l ∧ l ≤ e.hi := by
  obtain ⟨att, hatt, hline⟩ := attachedLine_execL LS.init GS.init rel_init (cStmt ctx n) hflat hlen pc e he
  have hmem : e ∈ (execL LS.init (cStmt ctx n)).2 := List.mem_of_getElem? he
  obtain ⟨l, hl, h1, h2⟩ := Em.line_of_ok (stmt_lines_ok_any ctx n hw LS.init e hmem)
  exact ⟨att, l, hatt, hline.trans hl, h1, h2⟩

open MJ.LocAst in
/-- non-vacuity: `{{ foo(⏎ a == 1 and x) }}` — 7 instructions, all reported on line 2 through the real tables -/
example : wf (witnessFolded false) = true ∧ (witnessFolded false).lo = 0 ∧
    (cStmt [] (witnessFolded false)).all flat = true ∧
    ((List.range 7).map fun pc => (processErr (execG GS.init (cStmt [] (witnessFolded false))).cur.cg.instrs pc)) =
      [.ok (.line 2), .ok (.line 2), .ok (.line 2), .ok (.line 2),
       .ok (.span ⟨2, 1, 9, 2, 13, 21⟩), .ok (.line 2), .ok (.line 2)] := by
  decide +kernel

/-! ## the full statement -/

/-- Full-strength statement about the model (sources shorter than 2^32 bytes, instruction lists
    shorter than 2^32, at most 65535 lines where shifting is concerned). -/
def C14_full : Prop :=
  -- positions
  (∀ (src : List Char) (ns : List Nat) (t : Tok), advanceAll (Tok.new src) ns = .ok t →
    ∃ k, k ≤ src.length ∧ t.rest = src.drop k ∧ utf8Len (src.take k) = ns.sum ∧
      t.line = lineOf (src.take k) ∧ t.col = colOf (src.take k) ∧ t.offset = utf8Len (src.take k)) ∧
  -- ranges are valid slices of the reported source
  (∀ (keep : Bool) (src : List Char), utf8Len src < 4294967296 → ∀ (ops : List Op) (m0 : Loc) (spans : List Span),
    run (Tok.new (tokSource keep src)) m0 (.mark :: ops) = .ok spans → ∀ s ∈ spans, ValidRange src s) ∧
  -- N lines above shift the line by exactly N and change nothing else
  (∀ (P src : List Char) (ops : List Op) (m0 m0' : Loc), (P = [] ∨ ∃ a, P = a ++ ['\n']) →
    1 + P.count '\n' + src.count '\n' ≤ 65535 → utf8Len P + utf8Len src < 4294967296 →
    run (Tok.new (P ++ src)) m0' (.adv (utf8Len P) :: .mark :: ops) =
      mapChk (List.map (shiftSpan (P.count '\n') (utf8Len P))) (run (Tok.new src) m0 (.mark :: ops))) ∧
  -- the side tables return the recorded locations, process_err attaches them
  (∀ (ops : List Add), ops.length < 4294967296 → ∀ i,
    (addAll ops).getLine i = .ok (lineSpec ops i) ∧ (addAll ops).getSpan i = .ok (spanSpec ops i)) ∧
  -- rendering never panics
  (∀ (lines : List (List Char)) (line : Option Nat) (sp : Span), line.getD 1 < 18446744073709551616 →
    (∃ r, window lines line = .ok r) ∧ (caret sp = none ∨ ∃ c w, caret sp = some (c, w)))

theorem c14_full : C14_full :=
  ⟨advance_position, span_valid_in_full_source, shift_lines,
   fun ops hlen i => ⟨line_table_lookup ops hlen i, span_table_lookup ops hlen i⟩,
   fun lines line sp h => debug_render_total lines line sp h⟩

/-! ## the property at full strength, and what stands between it and what is proved -/

open MJ.LocAst in
/-- **C14 as stated**, over the model: for every source and every AST the parser yields for it
    (`parsed src ast`), every instruction `pc` of the compiled program that fails reports — through
    `process_err` on the real side tables — a line of the construct whose arm emitted it; every span the
    tokenizer can create on the source is a valid slice of it; `N` lines of text above shift every
    location by exactly `N` lines and nothing else; rendering the report never panics. -/
def C14_statement (parsed : List Char → Node → Prop) : Prop :=
  (∀ src ast, parsed src ast → ∀ (pc : Nat) (e : Em), (execL LS.init (cStmt [] ast)).2[pc]? = some e →
      ∃ att l, processErr (execG GS.init (cStmt [] ast)).cur.cg.instrs pc = .ok att ∧
        attachedLine att = some l ∧ e.lo ≤ l ∧ l ≤ e.hi) ∧
  C14_full

open MJ.LocAst in
/-- **Main theorem.**  `C14_statement` follows from three named facts about the parser's output, each
    either tied to the source by a regenerated table or checked on every AST the real parser produces in
    the correspondence streams (see META, level_note):
    * `h_parser_wf` — the construct line ranges of the AST nest and contain the start lines of the spans
      (VALIDATED on every dumped AST by the model driver, streams cga/cge incl. the grammar-drawn
      templates; what a span covers is proved in `span_covers_construct`, which parser site uses which
      start is decided on the regenerated table in `source_tie_parser_spans`; false only for the known
      finding: comparisons folded to constants, which cannot fail);
    * `h_root` — the root `Template` node starts at `Span::default()` (line 0);
    * `h_one_generator` — no `{% block %}` sub-generator (blocks: VALIDATED by the cga stream, the same
      bookkeeping per generator);
    * `h_size` — fewer than 2^32 instructions (`first_instruction: u32`).
    The remaining tie between model and code: `source_tie_codegen_arms`, `source_tie_vm_rows`,
    `source_tie_widths` (regenerated tables) and the differential streams. -/
theorem C14_main (parsed : List Char → Node → Prop)
    (h_parser_wf : ∀ src ast, parsed src ast → wf ast = true)
    (h_root : ∀ src ast, parsed src ast → ast.lo = 0)
    (h_one_generator : ∀ src ast, parsed src ast → (cStmt [] ast).all flat = true)
    (h_size : ∀ src ast, parsed src ast → (cStmt [] ast).length < 4294967296) :
    C14_statement parsed :=
  ⟨fun src ast hp pc e he =>
    error_line_is_construct_line [] ast (h_parser_wf src ast hp) (h_root src ast hp) (h_one_generator src ast hp)
      (h_size src ast hp) pc e he, c14_full⟩

open MJ.LocAst in
/-- the hypotheses of `C14_main` are satisfiable by a non-trivial parser relation -/
example : C14_statement (fun _ ast => ast = witnessFolded false) :=
  C14_main _ (by intro _ _ h; subst h; decide +kernel) (by intro _ _ h; subst h; decide +kernel)
    (by intro _ _ h; subst h; decide +kernel) (by intro _ _ h; subst h; decide +kernel)

end MJ.C14
