import MJ.Proofs.ReloaderGen
import MJ.Proofs.ReloaderOrd
import MJ.Proofs.ReloaderWatch
import MJ.Model.ReloaderV
import MJ.Model.LoaderStore
import MJ.Model.ReloaderLife
import MJ.Model.WatcherReg
import MJ.Gen.Tables
/-!
# C20 — the auto-reloader never loses a reload request

The protocol theorems are about `MJ.Reloader.Reachable`: every state reachable from an initial state with
*any* number of acquiring / requesting / fast-reload-switching threads under *any* schedule, with
creator callbacks that may issue requests, switch fast reload, or fail, and a freshness callback
that may answer `true`.  Clock values are ghost (one tick per atomic step).

`Env.freshAt` = clock at which the creator call that built the environment *started*, or of the
last `clear_templates` — the most conservative reading of "created / cleared after the request".
-/
namespace MJ.C20
open MJ.Reloader

/-- the property's clauses for ONE state of the protocol -/
def C20_at (σ : State) : Prop :=
    -- a request that returned before an acquire locked: that acquire hands out a fresh environment
    (∀ r ∈ σ.reqLog, ∀ a ∈ σ.acqLog, r.retAt < a.lockedAt → r.setAt < a.env.freshAt) ∧
    -- … in fact every flag set that precedes the acquire's reload check is served
    (∀ s ∈ σ.sets, ∀ a ∈ σ.acqLog, s < a.checkedAt → s < a.env.freshAt) ∧
    -- while a guard is held, no step of any thread replaces or clears the environment
    (∀ c, σ.cur = some c → c.pc = .holding →
      (∃ a ∈ σ.acqLog, a.tid = c.tid ∧ a.lockedAt = c.lockedAt ∧ σ.env = some a.env) ∧
      ∀ i σ', step σ i = some σ' →
        σ'.env = σ.env ∧ σ'.creates = σ.creates ∧ σ'.clears = σ.clears) ∧
    -- creator calls and clears are each caused by an observation; observations are caused by requests
    (σ.creates + σ.clears ≤ σ.noneObs + σ.flagObs + σ.cbObs ∧ σ.noneObs ≤ 1 + σ.failed + σ.panicked ∧
      σ.flagObs ≤ σ.sets.length + σ.failed) ∧
    -- a request that arrives while the creator runs keeps the flag up until the next acquire
    (∀ c, σ.cur = some c → (c.pc = .created ∨ (c.pc = .holding ∧ c.built = true) ∨
        (∃ ops, c.pc = .creating ops) ∨ (∃ s ops, c.pc = .innerSet s ops)) →
      ∀ s ∈ σ.sets, c.buildStart ≤ s → σ.flag = true) ∧
    (σ.cur = none → σ.poisoned = false →
      ∀ s ∈ σ.sets, σ.flag = true ∨ ∀ e, σ.env = some e → s < e.freshAt) ∧
    -- a creator panic poisons the mutex: no guard is ever handed out afterwards
    (∀ p, σ.panicAt = some p → ∀ a ∈ σ.acqLog, a.checkedAt < p) ∧
    -- every reload decision is taken under the cached_env lock, and nobody else locks in between
    ((∀ a ∈ σ.acqLog, a.lockedAt < a.checkedAt) ∧
      ∀ a ∈ σ.acqLog, ∀ b ∈ σ.acqLog, a.lockedAt < b.lockedAt → a.checkedAt < b.lockedAt) ∧
    -- one request (or one burst of requests between two reload checks) is served at most once
    (σ.flagObs + flagUnseen σ ≤ σ.risings + σ.failed ∧ σ.risings ≤ σ.sets.length)

/-- **the property at full strength, as one statement**: under every interleaving (every state reachable
    from any number of requesting / acquiring / switching threads, incl. requests issued from inside the
    creator callback, with and without fast reload and a freshness callback) a request that has returned is
    served by the next `acquire_env` (environment created — or, fast reload, cleared — after it), also when
    it arrives while a rebuild is in progress; while a guard is held the environment is not replaced; and
    without a request the creator is not called again. -/
def C20_full : Prop := ∀ σ : State, Reachable σ → C20_at σ

/-- **Every flag set that precedes an acquire's reload check is served by that acquire**: the
    environment it hands out was built (creator started) or cleared after the set. -/
theorem request_before_check {σ : State} (h : Reachable σ) :
    ∀ s ∈ σ.sets, ∀ a ∈ σ.acqLog, s < a.checkedAt → s < a.env.freshAt := by
  intro s hs a ha hlt
  exact ((inv_of_reachable h).acqLog a ha).2.2.1 s hs hlt

example : ∃ σ, Reachable σ ∧ ∃ s ∈ σ.sets, ∃ a ∈ σ.acqLog, s < a.checkedAt ∧ a.env.gen = 2 :=
  ⟨run (init [.acqIdle {}, .reqIdle, .acqIdle {}]) [0, 0, 0, 0, 0, 0, 0, 0, 1, 2, 2, 2, 2, 2, 2, 2, 2],
   reachable_run (.init _ (by decide)) _, by decide +kernel⟩

/-- **No lost request**: a request (from any thread, or from inside the creator) that returned
    before an acquire locked the cache ⇒ that acquire hands out an environment whose creator
    started, or whose templates were cleared, after the request had set the flag. -/
theorem no_lost_request {σ : State} (h : Reachable σ) :
    ∀ r ∈ σ.reqLog, ∀ a ∈ σ.acqLog, r.retAt < a.lockedAt →
      r.setAt < a.env.freshAt ∧ r.setAt < r.retAt := by
  intro r hr a ha hlt
  have hi := inv_of_reachable h
  have h1 := hi.reqLog r hr
  have h2 := hi.acqLog a ha
  exact ⟨h2.2.2.1 r.setAt h1.1 (by have := h2.1; omega), h1.2.1⟩

/-- non-vacuity: request returns, then an acquire over an existing environment (fast reload on,
    so the templates are cleared rather than the environment rebuilt) -/
example : ∃ σ, Reachable σ ∧ ∃ r ∈ σ.reqLog, ∃ a ∈ σ.acqLog, r.retAt < a.lockedAt ∧
    a.env.gen = 1 ∧ a.env.clears = 1 :=
  ⟨run (init [.acqIdle { script := [.setFast true] }, .reqIdle, .acqIdle {}])
      [0, 0, 0, 0, 0, 0, 0, 0, 0, 1, 1, 2, 2, 2, 2, 2, 2, 2],
   reachable_run (.init _ (by decide)) _, by decide +kernel⟩

/-- a concrete reachable state with a *pending* request (flag up, stale environment cached) -/
example : ∃ σ, Reachable σ ∧ σ.flag = true ∧ σ.cur = none ∧
    ∃ e, σ.env = some e ∧ ∃ s ∈ σ.sets, e.freshAt < s :=
  ⟨run (init [.acqIdle {}, .reqIdle, .acqIdle {}]) [0, 0, 0, 0, 0, 0, 0, 0, 1, 1],
   reachable_run (.init _ (by decide)) _, by decide +kernel⟩

/-- **A guard excludes replacement**: while a guard is held the cache holds exactly the
    environment that was handed out, and no step of any thread (another acquirer is blocked,
    requesters only touch the flag, the holder can only drop the guard) changes the environment,
    calls the creator or clears the templates. -/
theorem guard_excludes_replace {σ : State} (h : Reachable σ) {c : Active}
    (hc : σ.cur = some c) (hp : c.pc = .holding) :
    (∃ a ∈ σ.acqLog, a.tid = c.tid ∧ a.lockedAt = c.lockedAt ∧ σ.env = some a.env) ∧
    ∀ i σ', step σ i = some σ' →
      σ'.env = σ.env ∧ σ'.creates = σ.creates ∧ σ'.clears = σ.clears := by
  constructor
  · have := (inv_of_reachable h).hold
    simp only [HoldLink, hc, hp] at this
    obtain ⟨a, ha, h1, h2, _, h4⟩ := this
    exact ⟨a, ha, h1, h2, h4⟩
  · intro i σ' hs
    rcases step_cases hs with ⟨c', hc', -, hs⟩ | ⟨_, -, hn, -⟩ | ho
    · cases hc.symm.trans hc'
      simp [stepActive, hp] at hs
      cases hs
      exact ⟨rfl, rfl, rfl⟩
    · rw [hc] at hn; cases hn
    · exact ⟨ho.env, ho.creates, ho.clears⟩

/-- other acquirers are blocked while the mutex is held -/
theorem acquirers_blocked {σ : State} {c : Active} (hc : σ.cur = some c) {i : Nat} {cfg : AcqCfg}
    (hi : σ.threads[i]? = some (.acqIdle cfg)) : step σ i = none := by
  simp [step, hi, hc]

example : ∃ σ, Reachable σ ∧ ∃ c, σ.cur = some c ∧ c.pc = .holding ∧ step σ 1 ≠ none ∧
    step σ 2 = none :=
  ⟨run (init [.acqIdle {}, .reqIdle, .acqIdle {}]) [0, 0, 0, 0, 0, 0, 0],
   reachable_run (.init _ (by decide)) _, by decide +kernel⟩

/-- **No spurious creator call**: every creator call and every clear is caused by its own
    observation (cache empty / flag read as true / freshness callback true); the cache is found
    empty at most once plus once per failed creator call; the flag is read as true at most once
    per request (plus once per failed creator call, which re-arms it). -/
theorem no_spurious_create {σ : State} (h : Reachable σ) :
    σ.creates + σ.clears ≤ σ.noneObs + σ.flagObs + σ.cbObs ∧ σ.noneObs ≤ 1 + σ.failed + σ.panicked ∧
    σ.flagObs ≤ σ.sets.length + σ.failed := by
  have hi := inv_of_reachable h
  refine ⟨by have := hi.cntRebuild; omega, ?_, by have := hi.cntFlag; have := hi.risLe; omega⟩
  have := hi.cntNone
  have h1 := pendingFirst_le_one σ
  cases he : σ.env with
  | none => have := this.1 he; omega
  | some e => have := this.2 (by simp [he]); omega

/-- in particular: creator calls ≤ 1 + (times the flag was observed true) + (callback answers)
    as long as the creator does not fail, and ≤ 1 + (number of requests) without a callback -/
theorem creates_le {σ : State} (h : Reachable σ) (hf : σ.failed = 0) (hp : σ.panicked = 0) :
    σ.creates ≤ 1 + σ.flagObs + σ.cbObs ∧ σ.creates + σ.clears ≤ 1 + σ.sets.length + σ.cbObs := by
  have := no_spurious_create h
  omega

example : ∃ σ, Reachable σ ∧ σ.failed = 0 ∧ σ.panicked = 0 ∧ σ.creates = 2 ∧ σ.flagObs = 1 ∧ σ.acqLog.length = 3 :=
  ⟨run (init [.acqIdle {}, .reqIdle, .acqIdle {}, .acqIdle {}])
      [0, 0, 0, 0, 0, 0, 0, 0, 1, 1, 2, 2, 2, 2, 2, 2, 2, 2, 3, 3, 3, 3],
   reachable_run (.init _ (by decide)) _, by decide +kernel⟩

/-- **A request arriving while the creator runs is kept**: from the start of the creator call
    until the builder drops its guard, a flag set at or after the creator start leaves the flag up
    (only the mutex holder resets it, and it did so before calling the creator). -/
theorem flag_kept_during_build {σ : State} (h : Reachable σ) {c : Active} (hc : σ.cur = some c)
    (hp : c.pc = .created ∨ (c.pc = .holding ∧ c.built = true) ∨
      (∃ ops, c.pc = .creating ops) ∨ (∃ s ops, c.pc = .innerSet s ops)) :
    ∀ s ∈ σ.sets, c.buildStart ≤ s → σ.flag = true := by
  intro s hs hle
  have hi := inv_of_reachable h
  have h2 := hi.built
  -- the set is not among the served: what the builder made is fresh from `buildStart`, not later
  refine (hi.served (cur_not_poisoned hi hc).1 s hs).resolve_right fun h1 => ?_
  simp only [hc, BuiltOk, EnvFresh] at h1 h2
  rcases hp with hp | ⟨hp, hb⟩ | ⟨ops, hp⟩ | ⟨s', ops, hp⟩ <;> simp only [hp] at h1 h2
  · obtain ⟨_, e, he, _, hf, _⟩ := h2
    have := h1 e he; omega
  · obtain ⟨e, he, _, hf, _⟩ := h2 hb
    have := h1 e he; omega
  · omega
  · omega

/-- when nobody is inside `acquire_env`, every request is either still pending (flag up) or
    served by the cached environment -/
theorem unserved_request_is_pending {σ : State} (h : Reachable σ) (hc : σ.cur = none)
    (hp : σ.poisoned = false) :
    ∀ s ∈ σ.sets, σ.flag = true ∨ ∀ e, σ.env = some e → s < e.freshAt :=
  ((inv_of_reachable h).pcInv.idle hc).1 hp

/-- **… and the NEXT acquire rebuilds**: if acquire `a0` ran the creator (started at `b`) and a
    request set the flag at `s ≥ b` (during or after that build), every acquire whose check comes
    after `s` hands out an environment strictly fresher than the one `a0` built. -/
theorem request_during_build_kept {σ : State} (h : Reachable σ) :
    ∀ a0 ∈ σ.acqLog, ∀ b, a0.built = some b → ∀ s ∈ σ.sets, b ≤ s →
      ∀ a' ∈ σ.acqLog, s < a'.checkedAt →
        s < a'.env.freshAt ∧ a0.env.freshAt < a'.env.freshAt ∧ a0.env.builtAt = b := by
  intro a0 ha0 b hb s hs hle a' ha' hlt
  have hi := inv_of_reachable h
  have h0 := (hi.acqLog a0 ha0).2.2.2 b hb
  have h1 := (hi.acqLog a' ha').2.2.1 s hs hlt
  exact ⟨h1, by omega, h0.1⟩

/-- non-vacuity: the creator of acquire 0 itself issues a request; acquire 1 rebuilds (gen 2) -/
example : ∃ σ, Reachable σ ∧ ∃ a0 ∈ σ.acqLog, ∃ b, a0.built = some b ∧ ∃ s ∈ σ.sets, b ≤ s ∧
    ∃ a' ∈ σ.acqLog, s < a'.checkedAt ∧ a0.env.gen = 1 ∧ a'.env.gen = 2 :=
  ⟨run (init [.acqIdle { script := [.req] }, .acqIdle {}])
      [0, 0, 0, 0, 0, 0, 0, 0, 0, 0, 1, 1, 1, 1, 1, 1, 1, 1],
   reachable_run (.init _ (by decide)) _, by decide +kernel⟩

/-- non-vacuity of `flag_kept_during_build`: a requester thread sets the flag while the creator
    of acquire 0 is running -/
example : ∃ σ, Reachable σ ∧ ∃ c, σ.cur = some c ∧ c.pc = .creating [] ∧
    ∃ s ∈ σ.sets, c.buildStart ≤ s :=
  ⟨run (init [.acqIdle {}, .reqIdle]) [0, 0, 0, 0, 0, 1],
   reachable_run (.init _ (by decide)) _, by decide +kernel⟩

/-- the `unwrap`s on the cached environment never fail: the mutex holder can always step -/
theorem holder_never_stuck {σ : State} (h : Reachable σ) {c : Active} (hc : σ.cur = some c) :
    (stepActive σ c).isSome = true := by
  cases hs : stepActive σ c with
  | some _ => rfl
  | none =>
    obtain ⟨he, hpc⟩ := stepActive_eq_none hs
    have h6 := (inv_of_reachable h).envSome
    simp only [EnvSome, hc] at h6
    rcases hpc with hpc | hpc | hpc | hpc <;> simp only [hpc] at h6 <;> exact absurd he h6

/-- **a failed creator call does not lose the request** (repaired code): after the failure the
    flag is up again when the mutex is released -/
theorem failure_rearms {σ : State} (h : Reachable σ) {c : Active} (hc : σ.cur = some c)
    (hp : c.pc = .remarked) (hne : σ.sets ≠ []) : σ.flag = true := by
  obtain ⟨s, hs⟩ := List.exists_mem_of_ne_nil _ hne
  have hi := inv_of_reachable h
  have := hi.served (cur_not_poisoned hi hc).1 s hs
  simpa [Served, hc, hp] using this

/-- non-vacuity for the combination "rebuild triggered by the freshness callback (flag down) ×
    request from inside the creator × creator fails": the flag is forced up (not restored to its
    value before the rebuild), and the next acquire calls the creator again (generation 3) -/
example : ∃ σ, Reachable σ ∧ σ.failed = 1 ∧ σ.cbObs = 1 ∧ σ.flagObs = 1 ∧
    ∃ r ∈ σ.reqLog, ∃ a ∈ σ.acqLog, r.retAt < a.lockedAt ∧ a.tid = 2 ∧ a.env.gen = 3 :=
  ⟨run (init [.acqIdle {}, .acqIdle { cb := true, fails := true, script := [.req] }, .acqIdle {}])
      [0, 0, 0, 0, 0, 0, 0, 0, 1, 1, 1, 1, 1, 1, 1, 1, 1, 1, 2, 2, 2, 2, 2, 2, 2, 2],
   reachable_run (.init _ (by decide)) _, by decide +kernel⟩

example : ∃ σ, Reachable σ ∧ ∃ c, σ.cur = some c ∧ c.pc = .remarked ∧ c.sawFlag = false ∧
    σ.sets ≠ [] ∧ σ.flag = true :=
  ⟨run (init [.acqIdle {}, .acqIdle { cb := true, fails := true, script := [.req] }, .acqIdle {}])
      [0, 0, 0, 0, 0, 0, 0, 0, 1, 1, 1, 1, 1, 1, 1, 1, 1],
   reachable_run (.init _ (by decide)) _, by decide +kernel⟩


/-! ## one request is served at most once (the second half of the statement, as a sharp count) -/

/-- **A request is served at most once.**  `risings` counts the requests that found the flag DOWN
    (a burst of requests between two reload checks raises it once).  In every reachable state
    `(flag observed true so far) + (1 if the flag is up and that has not been observed yet)` is at
    most `risings + failed creator calls` — so a request whose flag-raise has been observed can never
    be observed again, and a burst of k requests before the next acquire causes ONE reload, not k.
    Together with `creates + clears + pendingRebuild = noneObs + flagObs + cbObs` (every reload has
    its own observation) this bounds the creator calls and clears exactly. -/
theorem request_served_at_most_once {σ : State} (h : Reachable σ) :
    σ.flagObs + flagUnseen σ ≤ σ.risings + σ.failed ∧ σ.risings ≤ σ.sets.length ∧
    σ.creates + σ.clears + pendingRebuild σ = σ.noneObs + σ.flagObs + σ.cbObs := by
  have hi := inv_of_reachable h
  exact ⟨by have := hi.cntFlag; omega, hi.risLe, hi.cntRebuild⟩

/-- … in the absence of other triggers (freshness callback never true, creator never fails or
    panics): reloads done + reload in progress + reload still owed ≤ 1 (the first build) + number of
    flag raises ≤ 1 + number of requests -/
theorem reloads_le_requests {σ : State} (h : Reachable σ) (hcb : σ.cbObs = 0) (hf : σ.failed = 0)
    (hp : σ.panicked = 0) :
    σ.creates + σ.clears + pendingRebuild σ + flagUnseen σ ≤ 1 + σ.risings ∧
    σ.risings ≤ σ.sets.length := by
  have h1 := request_served_at_most_once h
  have h2 := no_spurious_create h
  omega

/-- sharpness (equality): two requests, each followed by an acquire: 1 + 2 creator calls … -/
example : ∃ σ, Reachable σ ∧ σ.cbObs = 0 ∧ σ.failed = 0 ∧ σ.panicked = 0 ∧ σ.cur = none ∧
    σ.risings = 2 ∧ σ.creates = 3 ∧ σ.flagObs = 2 ∧ flagUnseen σ = 0 :=
  ⟨run (init [.acqIdle {}, .reqIdle, .acqIdle {}, .reqIdle, .acqIdle {}])
      [0, 0, 0, 0, 0, 0, 0, 0, 1, 1, 2, 2, 2, 2, 2, 2, 2, 2, 3, 3, 4, 4, 4, 4, 4, 4, 4, 4],
   reachable_run (.init _ (by decide)) _, by decide +kernel⟩

/-- … and coalescing: a burst of three requests before the next acquire is ONE flag raise and causes
    ONE creator call (`sets.length = 3`, `risings = 1`, `creates = 2`), and a further acquire without a
    request calls nothing -/
example : ∃ σ, Reachable σ ∧ σ.sets.length = 3 ∧ σ.risings = 1 ∧ σ.creates = 2 ∧ σ.flagObs = 1 ∧
    σ.acqLog.length = 3 ∧ σ.cur = none :=
  ⟨run (init [.acqIdle {}, .reqIdle, .reqIdle, .reqIdle, .acqIdle {}, .acqIdle {}])
      [0, 0, 0, 0, 0, 0, 0, 0, 1, 2, 3, 1, 2, 3, 4, 4, 4, 4, 4, 4, 4, 4, 5, 5, 5, 5],
   reachable_run (.init _ (by decide)) _, by decide +kernel⟩

/-- a pending request is owed exactly one reload: flag up, nobody inside ⇒ `flagUnseen = 1` -/
example : ∃ σ, Reachable σ ∧ σ.cur = none ∧ σ.flag = true ∧ flagUnseen σ = 1 ∧
    σ.flagObs + 1 = σ.risings + σ.failed :=
  ⟨run (init [.acqIdle {}, .reqIdle, .acqIdle {}]) [0, 0, 0, 0, 0, 0, 0, 0, 1, 1],
   reachable_run (.init _ (by decide)) _, by decide +kernel⟩

/-! ## the ORDER: the reload decision is taken while `cached_env` is held -/

/-- **check under lock** (schema over all reachable states): the holder locked before it decided; so
    did every acquire that handed out a guard; and the intervals `[lockedAt, checkedAt]` of any two
    acquires are disjoint and ordered — no other thread locks (let alone decides) between an
    acquire's lock and its decision.  This is what makes a decision CURRENT when it is acted upon. -/
theorem check_under_lock {σ : State} (h : Reachable σ) :
    (∀ c, σ.cur = some c → c.lockedAt < σ.now ∧
      (c.pc ≠ .locked → c.lockedAt < c.checkedAt ∧ c.checkedAt < σ.now)) ∧
    (∀ a ∈ σ.acqLog, a.lockedAt < a.checkedAt ∧ a.checkedAt < σ.now) ∧
    (∀ a ∈ σ.acqLog, ∀ b ∈ σ.acqLog, a.lockedAt < b.lockedAt → a.checkedAt < b.lockedAt) ∧
    (∀ c, σ.cur = some c → ∀ a ∈ σ.acqLog,
      (c.pc = .holding ∧ a.lockedAt = c.lockedAt ∧ a.checkedAt = c.checkedAt) ∨ a.checkedAt < c.lockedAt) := by
  have hi := inv_of_reachable h
  have ho := ordInv_of_reachable h
  exact ⟨fun _ hc => hi.time.holder hc, hi.acqLog_lt, ho.pair, ho.own⟩

/-- step form: **only the lock holder observes** — a step that bumps one of the observation counters
    (cache empty / flag true / callback true) is a step of the thread that holds `cached_env`, taken
    from `.locked` -/
theorem observation_only_by_holder {σ σ' : State} {i : Nat} (hs : step σ i = some σ')
    (hobs : σ'.noneObs ≠ σ.noneObs ∨ σ'.flagObs ≠ σ.flagObs ∨ σ'.cbObs ≠ σ.cbObs) :
    ∃ c, σ.cur = some c ∧ c.tid = i ∧ c.pc = .locked := by
  rcases step_cases hs with ⟨c, hc, htid, hs⟩ | ⟨_, -, -, -, rfl⟩ | ho
  · exact ⟨c, hc, htid, (stepActive_holder hs).obs.resolve_left fun h =>
      hobs.elim (· h.1) (·.elim (· h.2.1) (· h.2.2))⟩
  · simp at hobs
  · simp [ho.obs] at hobs

/-- non-vacuity: the step that reads the flag as true is a step of the holder, taken from `.locked` -/
example : ∃ σ i, Reachable σ ∧ (step σ i).map (·.flagObs) = some (σ.flagObs + 1) ∧
    σ.cur.map (fun c => (c.tid, c.pc)) = some (i, .locked) :=
  ⟨run (init [.acqIdle {}, .reqIdle, .acqIdle {}]) [0, 0, 0, 0, 0, 0, 0, 0, 1, 1, 2], 2,
   reachable_run (.init _ (by decide)) _, by decide +kernel⟩

example : ∃ σ, Reachable σ ∧ ∃ a ∈ σ.acqLog, ∃ b ∈ σ.acqLog, a.lockedAt < b.lockedAt ∧
    a.checkedAt < b.lockedAt ∧ b.env.gen = 2 :=
  ⟨run (init [.acqIdle {}, .reqIdle, .acqIdle {}]) [0, 0, 0, 0, 0, 0, 0, 0, 1, 2, 2, 2, 2, 2, 2, 2, 2],
   reachable_run (.init _ (by decide)) _, by decide +kernel⟩

/-! ### why the order matters: the VARIANT that checks before it locks (`MJ/Model/ReloaderV.lean`,
    the seeded change C20-6) violates both halves of the property -/

/-- the schedule of `variant_loses_request`: acquire 0 builds generation 1 · request 1 sets the flag
    and returns · acquire 2 (its creator will fail) pre-checks (true), locks, resets the flag, starts
    the creator · acquire 3 pre-checks NOW: the flag is down → "no reload" · acquire 2's creator
    fails, the flag is re-armed, the lock released · acquire 3 locks and acts on its stale decision -/
def variantLostSchedule : List Nat :=
  [0, 0, 0, 0, 0, 0, 0, 0, 0] ++ [1, 1] ++ [2, 2, 2, 2, 2, 2] ++ [3] ++ [2, 2, 2, 2] ++ [3, 3, 3, 3, 3]

/-- **check-before-lock loses a request**: in the variant a request that returned (clock 10) long
    before acquire 3 locked (clock 21) is not served — acquire 3 hands out generation 1, built at
    clock 5.  (`no_lost_request`'s statement is false for the variant.) -/
theorem variant_loses_request :
    let σ := (runV (vinit [.acqIdle {}, .reqIdle, .acqIdle { fails := true }, .acqIdle {}])
                variantLostSchedule).base
    ∃ r ∈ σ.reqLog, ∃ a ∈ σ.acqLog, r.retAt < a.lockedAt ∧ ¬ r.setAt < a.env.freshAt := by
  decide +kernel

/-- the same threads under the same schedule (minus the pre-check steps, which do not exist) in the
    REAL protocol: acquire 3 is blocked while acquire 2 rebuilds, then checks under the lock, sees the
    re-armed flag and rebuilds (generation 3) -/
example :
    let σ := run (init [.acqIdle {}, .reqIdle, .acqIdle { fails := true }, .acqIdle {}])
      ([0, 0, 0, 0, 0, 0, 0, 0] ++ [1, 1] ++ [2, 2, 2, 2, 2] ++ [3] ++ [2, 2, 2, 2] ++ [3, 3, 3, 3, 3, 3, 3, 3])
    ∃ a ∈ σ.acqLog, a.tid = 3 ∧ a.env.gen = 3 ∧ ∀ r ∈ σ.reqLog, r.setAt < a.env.freshAt := by
  decide +kernel

/-- **check-before-lock calls the creator twice for one request**: two acquirers pre-check while the
    flag of ONE request is up; both decide to reload; the creator runs for each (3 calls: first
    build + 2), the flag was observed true twice for one raise — `no_spurious_create`'s and
    `request_served_at_most_once`'s statements are false for the variant. -/
theorem variant_spurious_create :
    let σ := (runV (vinit [.acqIdle {}, .reqIdle, .acqIdle {}, .acqIdle {}])
      ([0, 0, 0, 0, 0, 0, 0, 0, 0] ++ [1, 1] ++ [2, 3] ++ [2, 2, 2, 2, 2, 2, 2, 2] ++ [3, 3, 3, 3, 3, 3, 3, 3])).base
    σ.sets.length = 1 ∧ σ.failed = 0 ∧ σ.cbObs = 0 ∧ σ.creates = 3 ∧
      ¬ (σ.flagObs ≤ σ.sets.length + σ.failed) ∧ ¬ (σ.flagObs + flagUnseen σ ≤ σ.risings + σ.failed) := by
  decide +kernel

/-- … and the ORDER invariant itself fails in the variant: acquire 3's decision (pre-check at clock
    17) was taken while acquire 2 held the lock (locked at 12, released at 21) -/
theorem variant_decides_without_lock :
    let v := runV (vinit [.acqIdle {}, .reqIdle, .acqIdle { fails := true }, .acqIdle {}])
                (variantLostSchedule.take 18)
    (v.pre.lookup 3).isSome = true ∧ ∃ c, v.base.cur = some c ∧ c.tid = 2 := by
  decide +kernel

/-! ## environment identity (fast reload keeps the object, full reload makes a new one) -/

/-- the generation number identifies the environment object: two guards that saw the same
    generation saw the same creator call's product -/
theorem same_gen_same_env {σ : State} (h : Reachable σ) :
    ∀ a1 ∈ σ.acqLog, ∀ a2 ∈ σ.acqLog, a1.env.gen = a2.env.gen → a1.env.builtAt = a2.env.builtAt :=
  (genInv_of_reachable h).pair

/-- every guard's environment is the cached one or a predecessor of it: generations never go
    back, and for the same generation the template cache was cleared at least as often since -/
theorem handed_out_not_newer_than_cache {σ : State} (h : Reachable σ) :
    ∀ a ∈ σ.acqLog, 1 ≤ a.env.gen ∧ a.env.gen ≤ σ.creates ∧ ∃ e, σ.env = some e ∧ a.env.gen ≤ e.gen ∧
      (a.env.gen = e.gen → a.env.builtAt = e.builtAt ∧ a.env.clears ≤ e.clears) := by
  intro a ha
  have hi := genInv_of_reachable h
  obtain ⟨h1, e, he, h2, h3⟩ := hi.log a ha
  have := (hi.env e he).2.1
  exact ⟨h1, by omega, e, he, h2, fun hg => ⟨(h3 hg).1, (h3 hg).2.2⟩⟩

/-- **fast reload keeps the environment object**: the clear step changes neither the generation
    nor the build time, it only empties the template cache (`clears + 1`) -/
theorem clear_keeps_identity {σ σ' : State} {c : Active} (hc : c.pc = .toClear)
    (hs : stepActive σ c = some σ') :
    ∃ e e', σ.env = some e ∧ σ'.env = some e' ∧ e'.gen = e.gen ∧ e'.builtAt = e.builtAt ∧
      e'.clears = e.clears + 1 ∧ σ'.creates = σ.creates := by
  unfold stepActive at hs
  simp only [hc] at hs
  split at hs
  · rename_i e he; cases hs; exact ⟨e, _, he, rfl, rfl, rfl, rfl, rfl⟩
  · cases hs

/-- **full reload makes a new object**: the environment stored by a successful creator call has a
    generation that no guard handed out so far has seen -/
theorem create_is_new {σ σ' : State} (h : Reachable σ) {c : Active} (hcur : σ.cur = some c)
    (hc : c.pc = .creating []) (hf : c.cfg.fails = false) (hnp : c.cfg.panics = false)
    (hs : stepActive σ c = some σ') :
    ∃ e', σ'.env = some e' ∧ e'.gen = σ.creates ∧ ∀ a ∈ σ.acqLog, a.env.gen < e'.gen := by
  have hi := genInv_of_reachable h
  unfold stepActive at hs
  simp [hc, hf, hnp] at hs
  cases hs
  refine ⟨_, rfl, rfl, ?_⟩
  intro a ha
  obtain ⟨_, e, he, h2, _⟩ := hi.log a ha
  have := (hi.building c hcur (Or.inl ⟨[], hc⟩)).2.2 e he
  simp; omega

example : ∃ σ, Reachable σ ∧ ∃ a1 ∈ σ.acqLog, ∃ a2 ∈ σ.acqLog, a1.env.gen = a2.env.gen ∧
    a1.env.clears ≠ a2.env.clears :=
  ⟨run (init [.acqIdle { script := [.setFast true] }, .reqIdle, .acqIdle {}])
      [0, 0, 0, 0, 0, 0, 0, 0, 0, 1, 1, 2, 2, 2, 2, 2, 2, 2],
   reachable_run (.init _ (by decide)) _, by decide +kernel⟩

/-! ## the tie to the source: every access to shared state, per function, as extracted from
    minijinja-autoreload/src/lib.rs on this run (lib/tables/c20.py → `MJ.Gen.reloaderAccesses`) -/

/-- the accesses the model's steps were written against.  Reading guide (model step ← tokens):
  * `acquire_env`: lock (`lockCached`) · check (`readEnv`, `call:should_reload` = one notifier
    critical section: `readFlag`, `pollCb`, `callOnCb`) · reset (`call:prepare_and_mark_reload` …
    both `readFast` in ONE critical section … `flag=false`; its `try` cannot fail) · decide
    (`readEnv` + the fast-reload value prepare_and_mark_reload returned: no second read, fix 5725511) · creator …
    (`creator`) · store (`env=new`) | remark (`call:keep_reload_pending` = `flag=true`) + `returnErr`
    · clear (`derefEnv`, `clear`) · handout.
  * `request_reload`: set (`lockHandle`, `flag=true`) · ret (`lockHandle`, `callOnCb`).
  * the fs-watcher closure in `with_fs_watcher`: the same four tokens after its `upgrade`; the call into
    the watcher (`watch` / `unwatch`, which waits for the watcher's thread) is made under the watcher's
    OWN mutex (`lockWatcher`), after the notifier mutex was released (fix: the watcher's thread takes
    the notifier mutex in the closure — holding it across the call deadlocked the two).
  * `set_fast_reload` / `set_callback`: one critical section each.
  * every entry point starts with `upgrade`: on a dead notifier it does nothing.
  * every `lock()` result is consumed by `.unwrap()`: a poisoned mutex panics (model: the lock step
    of `acquire_env` on a poisoned `cached_env` ends the acquire with a panic). -/
def assumedAccesses : List (String × List String) := [
  ("notifier", ["call:weak"]),
  ("acquire_env", ["lockCached.unwrap", "readEnv", "call:should_reload", "call:prepare_and_mark_reload", "try",
    "readEnv", "creator", "env=new", "call:keep_reload_pending", "returnErr",
    "derefEnv", "clear", "handout"]),
  ("deref", ["derefEnv"]),
  ("request_reload", ["upgrade", "lockHandle.unwrap", "flag=true", "lockHandle.unwrap", "callOnCb"]),
  ("set_fast_reload", ["upgrade", "lockHandle.unwrap", "fast=yes"]),
  ("set_callback", ["upgrade", "lockHandle.unwrap", "setCb"]),
  ("set_on_should_reload_callback", ["upgrade", "lockHandle.unwrap", "setOnCb"]),
  ("watch_path", ["call:with_fs_watcher"]),
  ("unwatch_path", ["call:with_fs_watcher"]),
  ("persistent_watch", ["upgrade", "lockHandle.unwrap"]),
  ("is_dead", ["upgrade"]),
  ("handle", ["upgrade"]),
  ("should_reload", ["upgrade", "lockHandle.unwrap", "readFlag", "pollCb", "callOnCb"]),
  ("with_fs_watcher", ["upgrade", "lockHandle.unwrap", "upgrade", "lockHandle.unwrap", "flag=true", "lockHandle.unwrap", "callOnCb",
    "lockWatcher.unwrap"]),
  ("prepare_and_mark_reload", ["upgrade", "lockHandle.unwrap", "readFast", "readFast", "lockHandle.unwrap", "flag=false"]),
  ("keep_reload_pending", ["upgrade", "lockHandle.unwrap", "flag=true"]),
  ("weak", ["upgrade"])]

/-- **the source performs exactly the shared accesses the model assumes, in that order** -/
theorem accesses_as_modelled : MJ.Gen.reloaderAccesses = assumedAccesses := rfl

/-- **the fs-watcher notification is `request_reload`**: after upgrading its weak handle it
    performs the same critical sections (it is a requester thread of the model) -/
theorem fs_callback_is_request :
    (((MJ.Gen.reloaderAccesses.lookup "with_fs_watcher").getD []).drop 2).take 5 =
      (MJ.Gen.reloaderAccesses.lookup "request_reload").getD ["?"] ∧
    (((MJ.Gen.reloaderAccesses.lookup "with_fs_watcher").getD []).drop 7) = ["lockWatcher.unwrap"] := by decide +kernel

/-! ## a PANICKING creator (third outcome besides Ok / Err) -/

/-- **no guard is handed out after a creator panic**: the unwinding skips the arm that re-arms the
    flag and leaves the old environment cached, but it also poisons the `cached_env` mutex, and
    `acquire_env` `unwrap()`s the lock result — every guard in the log had its reload check before
    the panic. -/
theorem panic_never_serves_stale {σ : State} (h : Reachable σ) :
    ∀ p, σ.panicAt = some p → ∀ a ∈ σ.acqLog, a.checkedAt < p :=
  fun p hp => ((inv_of_reachable h).pois p hp).2.2.2

/-- step form: once poisoned, an acquire can only panic; nothing is handed out, rebuilt or cleared -/
theorem poisoned_acquire_panics {σ σ' : State} (h : Reachable σ) (hp : σ.poisoned = true)
    {i : Nat} (hs : step σ i = some σ') :
    σ'.acqLog = σ.acqLog ∧ σ'.env = σ.env ∧ σ'.creates = σ.creates ∧ σ'.poisoned = true ∧
      σ'.cur = none := by
  have hi := inv_of_reachable h
  have hn := hi.norec
  obtain ⟨p, hpa⟩ := Option.ne_none_iff_exists'.mp (hi.pois2 hp)
  have hc := (hi.pois p hpa).2.1
  rcases step_cases hs with ⟨c, hc', -, -⟩ | ⟨_, -, -, hnp, -⟩ | ho
  · rw [hc] at hc'; cases hc'
  · simp [hp, hn] at hnp
  · exact ⟨ho.acqLog, ho.env, ho.creates, ho.poisoned.trans hp, ho.cur.trans hc⟩

/-- non-vacuity: request, rebuild whose creator panics, two more acquires: both panic on the lock -/
example : ∃ σ, Reachable σ ∧ σ.panicAt = some 15 ∧ σ.lockPanics = 2 ∧ σ.flag = false ∧
    σ.acqLog.length = 1 ∧ ∃ s ∈ σ.sets, ∃ e, σ.env = some e ∧ e.freshAt < s :=
  ⟨run (init [.acqIdle {}, .reqIdle, .acqIdle { panics := true }, .acqIdle {}, .acqIdle {}])
      [0, 0, 0, 0, 0, 0, 0, 0, 1, 1, 2, 2, 2, 2, 2, 2, 3, 4],
   reachable_run (.init _ (by decide)) _, by decide +kernel⟩

/-- **what the poison protects**: in the model VARIANT whose `lock()` recovers from the poison
    (`recoverPoison := true`, not reachable from `init`), the same schedule hands out the stale
    environment to a later acquire although the request had returned before it locked —
    `no_lost_request`'s statement is false there. -/
example :
    let σ := run { init [.acqIdle {}, .reqIdle, .acqIdle { panics := true }, .acqIdle {}] with
                   recoverPoison := true }
      [0, 0, 0, 0, 0, 0, 0, 0, 1, 1, 2, 2, 2, 2, 2, 2, 3, 3, 3, 3]
    ∃ r ∈ σ.reqLog, ∃ a ∈ σ.acqLog, r.retAt < a.lockedAt ∧ ¬ r.setAt < a.env.freshAt := by
  decide +kernel

/-! ## file-change notifications: which `notify` events request a reload
`MJ.Gen.fsEventFilter` = the `matches!` pattern of `with_fs_watcher`, evaluated by the extractor on
every concrete `EventKind` of the vendored notify-types crate (variant lists regenerated from it). -/

/-- **every event that denotes a change of file content or of the set of files requests a reload**
    (Create, Remove, Modify(Data), Modify(Name(m)) for every RenameMode m, Modify(Any)) -/
theorem every_namespace_change_event_requests :
    ∀ p ∈ MJ.Gen.fsEventFilter, fsChangesFiles p.1 = true → p.2 = true := by decide +kernel

/-- … and such a notification is a requester thread of the model (so `no_lost_request` covers it) -/
theorem fs_change_is_requester :
    ∀ p ∈ MJ.Gen.fsEventFilter, fsChangesFiles p.1 = true → fsThread p.2 = Thread.reqIdle := by decide +kernel

/-- the rename half that is the ONLY event for a file moved out of the tree / a moved root, and
    every other rename mode of the vendored notify version, are accepted -/
theorem all_rename_modes_request :
    ∀ m ∈ MJ.Gen.notifyRenameMode, (["Modify", "Name", m], true) ∈ MJ.Gen.fsEventFilter := by decide +kernel

/-- the table is exhaustive over the vendored enums: every top-level kind and every ModifyKind occurs -/
theorem fs_filter_table_exhaustive :
    (∀ k ∈ MJ.Gen.notifyEventKind, ∃ p ∈ MJ.Gen.fsEventFilter, p.1.head? = some k) ∧
    (∀ k ∈ MJ.Gen.notifyModifyKind, ∃ p ∈ MJ.Gen.fsEventFilter, p.1.take 2 = ["Modify", k]) ∧
    "From" ∈ MJ.Gen.notifyRenameMode := by decide +kernel

/-- access events (the reloader's own reads of the templates!) and metadata-only changes do not
    request a reload — "without a request the creator is not called again" -/
theorem fs_filter_excludes_access_and_metadata :
    ∀ p ∈ MJ.Gen.fsEventFilter,
      (p.1.head? = some "Access" ∨ p.1.take 2 = ["Modify", "Metadata"]) → p.2 = false := by decide +kernel

/-! ## the fs watcher's lifetime: a reload must not silence later file changes -/

/-- the source's drop condition (`if … { fs_watcher.take() }` in `prepare_and_mark_reload`, its
    4-row truth table regenerated on this run) is the model's `dropWatcher` -/
theorem drop_cond_as_modelled :
    MJ.Gen.watcherDropCond.length = 4 ∧
    ∀ p f, (MJ.Gen.watcherDropCond.lookup (p, f)) = some (dropWatcher p f) := by decide +kernel

/-- the watcher is thrown away ONLY when neither persistent_watch nor fast reload is on: with fast
    reload the creator (which registered the paths) never runs again, with persistent_watch the
    paths were registered once from outside — a dropped watcher would never be re-registered -/
theorem watcher_kept_if_fast_or_persistent :
    ∀ row ∈ MJ.Gen.watcherDropCond, (row.1.1 = true ∨ row.1.2 = true) → row.2 = false := by decide +kernel

/-- **registered paths stay watched across reloads**: in every reachable state, if `watch_path` was
    ever called then the watcher is alive, or it was thrown away by a reload that started with
    persistent_watch off AND fast reload off and nobody has re-registered since (the documented
    case: "when the environment is reloaded the watcher is cleared out, watch_path must be invoked
    again") -/
theorem watcher_alive_whenever_needed {σ : State} (h : Reachable σ) (hr : σ.registered = true) :
    σ.watching = true ∨ σ.lastDrop = some (false, false) :=
  (watchInv_of_reachable h).alive hr

/-- step form: a reload that starts while fast reload or persistent_watch is on keeps the watcher -/
theorem reload_keeps_watcher {σ σ' : State} {c : Active} (hc : c.pc = .checked true)
    (hk : σ.persistent = true ∨ σ.fast = true) (hs : stepActive σ c = some σ') :
    σ'.watching = σ.watching ∧ σ'.lastDrop = σ.lastDrop := by
  unfold stepActive at hs
  simp only [hc] at hs
  cases hs
  rcases hk with hk | hk <;> simp [dropWatcher, hk]

/-- … and a reload that dropped it goes on to run the creator (which can re-register): the
    create-or-clear decision uses the value of fast reload that the drop decision used
    (`prepare_and_mark_reload` returns it, fix 5725511), whatever other threads do in between -/
theorem dropped_then_creator_runs {σ σ' : State} {c : Active} (h : Reachable σ) (hcur : σ.cur = some c)
    (hc : c.pc = .reset) (hd : c.droppedW = true) (hs : stepActive σ c = some σ') :
    ∃ c', σ'.cur = some c' ∧ c'.pc = .toCreate := by
  have hf := ((watchInv_of_reachable h).hold c hcur).1 hd
  unfold stepActive at hs
  simp [hc, hf] at hs
  cases hs
  exact ⟨_, rfl, rfl⟩

/-- **no fast-reload clear is ever done by an acquire that threw the watcher away** — in every
    reachable state, under every interleaving with `set_fast_reload` calls of other threads -/
theorem no_clear_after_drop {σ : State} (h : Reachable σ) : σ.clearsAfterDrop = 0 :=
  (watchInv_of_reachable h).nocad

/-- a creator that calls `watch_path` re-registers -/
theorem creator_reregisters {σ σ' : State} {c : Active} {rest : List COp}
    (hc : c.pc = .creating (.watch :: rest)) (hs : stepActive σ c = some σ') :
    σ'.watching = true ∧ σ'.lastDrop = none := by
  unfold stepActive at hs
  simp [hc] at hs
  cases hs
  exact ⟨rfl, rfl⟩

/-- non-vacuity: fast reload, paths registered by the creator, a request, a reload: still watching -/
example : ∃ σ, Reachable σ ∧ σ.registered = true ∧ σ.watching = true ∧ σ.clears = 1 ∧ σ.creates = 1 :=
  ⟨run (init [.acqIdle { script := [.setFast true, .watch] }, .reqIdle, .acqIdle {}])
      [0, 0, 0, 0, 0, 0, 0, 0, 0, 0, 1, 1, 2, 2, 2, 2, 2, 2, 2],
   reachable_run (.init _ (by decide)) _, by decide +kernel⟩

/-- non-vacuity of the documented exception: registered once from OUTSIDE, neither persistent nor
    fast: the first reload silences the watcher -/
example : ∃ σ, Reachable σ ∧ σ.registered = true ∧ σ.watching = false ∧
    σ.lastDrop = some (false, false) :=
  ⟨run (init [.acqIdle {}, .watchIdle, .reqIdle, .acqIdle {}])
      [0, 0, 0, 0, 0, 0, 0, 0, 1, 2, 2, 3, 3, 3, 3, 3, 3, 3, 3],
   reachable_run (.init _ (by decide)) _, by decide +kernel⟩

/-- the schedule of the race the code had before commit 5725511 (drop decision and create-or-clear decision read
    `fast_reload` in two critical sections; another thread switches fast reload ON in between): with
    the decision taken once the acquire that dropped the watcher runs the creator, which
    re-registers — the paths are watched again.  (Before that commit this schedule ended with
    `watching = false ∧ fast = true ∧ creates = 1 ∧ clears = 1`.) -/
example : ∃ σ, Reachable σ ∧ σ.registered = true ∧ σ.watching = true ∧ σ.fast = true ∧
    σ.cur = none ∧ σ.creates = 2 ∧ σ.clears = 0 :=
  ⟨run (init [.acqIdle { script := [.watch] }, .reqIdle, .acqIdle { script := [.watch] }, .fastIdle true])
      [0, 0, 0, 0, 0, 0, 0, 0, 0, 1, 1, 2, 2, 2, 3, 2, 2, 2, 2, 2, 2, 2],
   reachable_run (.init _ (by decide)) _, by decide +kernel⟩


/-! ## fast reload: what "the template cache was cleared" means (`Environment::clear_templates` =
    `LoaderStore::clear`, minijinja/src/{environment,loader}.rs; model `MJ/Model/LoaderStore.lean`) -/

/-- the fields of `LoaderStore` on which some method of the store calls a method (`self.f.m(..)`): the
    containers a lookup consults or fills — template caches, and whatever cache or index is added later.
    (`loader` is only assigned and matched on, `template_config` only borrowed.)  Regenerated. -/
def storeContainerFields : List String :=
  (MJ.Gen.loaderStoreFields.map (·.1)).filter fun f =>
    MJ.Gen.loaderStoreUses.any fun u => u.2.any fun p => p.1 == f && p.2 != "use" && p.2 != "="

/-- **`clear_templates` empties every lookup cache of the store**, over the field list regenerated from
    the source on this run: the struct has exactly the fields the model's `Store` represents; EVERY
    container field is `.clear()`ed by `LoaderStore::clear` (a new cache that `clear` forgets — e.g. a
    negative lookup cache, seeded change C20-7 — breaks this); the containers are exactly the model's two
    maps; `Environment::clear_templates` does `self.templates.clear()` and nothing else, `templates` is a
    `LoaderStore`; and the fast-reload arm of `acquire_env` calls `clear_templates`. -/
theorem clear_empties_every_lookup_cache :
    MJ.Gen.loaderStoreFields.map (·.1) = MJ.LoaderStore.modelledFields ∧
    (∀ f ∈ storeContainerFields, (f, "clear") ∈ (MJ.Gen.loaderStoreUses.lookup "clear").getD []) ∧
    storeContainerFields = ["owned_templates", "borrowed_templates"] ∧
    MJ.Gen.envClearTemplatesCalls = ["templates.clear"] ∧ MJ.Gen.envTemplatesType = "LoaderStore" ∧
    "clear" ∈ (MJ.Gen.reloaderAccesses.lookup "acquire_env").getD [] := by decide +kernel

/-- the lookup (`get`) consults only the two maps and the loader, and `set_loader` only assigns the loader:
    nothing else the store holds decides what a name resolves to -/
theorem store_lookup_reads_maps_and_loader :
    (MJ.Gen.loaderStoreUses.lookup "get").getD [] =
      [("borrowed_templates", "get"), ("owned_templates", "get_or_try_insert"), ("loader", "use")] ∧
    (MJ.Gen.loaderStoreUses.lookup "set_loader").getD [] = [("loader", "=")] ∧
    (MJ.Gen.loaderStoreUses.lookup "remove").getD [] =
      [("borrowed_templates", "remove"), ("owned_templates", "remove")] := by decide +kernel

/-- **after the clear every lookup goes to the loader** — for every store state (whatever was added, loaded,
    removed or looked up in vain before), every name, every loader answer and every compiler: the lookup
    calls the loader and answers what the loader says NOW.  With `no_lost_request` (the clear step is after
    the request: `freshAt`) this is the fast-reload half of the property in terms of what a user sees. -/
theorem cleared_env_consults_loader (ok : String → Bool) (disk : String → MJ.LoaderStore.LoadAns)
    (s : MJ.LoaderStore.Store) (name : String) (hl : s.hasLoader = true) :
    (MJ.LoaderStore.get ok disk (MJ.LoaderStore.clear s) name).called = true ∧
    (MJ.LoaderStore.get ok disk (MJ.LoaderStore.clear s) name).res = MJ.LoaderStore.fromDisk ok (disk name) ∧
    (MJ.LoaderStore.clear s).hasLoader = true :=
  ⟨(MJ.LoaderStore.get_after_clear ok disk s name hl).1, (MJ.LoaderStore.get_after_clear ok disk s name hl).2, hl⟩

/-- non-vacuity: a name that was looked up in vain, then appears on disk: after the clear it is found -/
example :
    let ok := fun _ => true
    let s0 : MJ.LoaderStore.Store := { hasLoader := true }
    let s1 := (MJ.LoaderStore.get ok (fun _ => .missing) s0 "a").store
    (MJ.LoaderStore.get ok (fun _ => .found "new") (MJ.LoaderStore.clear s1) "a").res = .tmpl "new" := by decide +kernel

/-- **why the clear is needed** (and sufficient only together with it): without it a template that was
    loaded once is answered from the memo for ever, whatever the loader would say by then -/
theorem uncleared_env_serves_memo (ok : String → Bool) (disk disk' : String → MJ.LoaderStore.LoadAns)
    (s : MJ.LoaderStore.Store) (name src : String)
    (h : (MJ.LoaderStore.get ok disk s name).res = .tmpl src) :
    (MJ.LoaderStore.get ok disk' (MJ.LoaderStore.get ok disk s name).store name).called = false ∧
    (MJ.LoaderStore.get ok disk' (MJ.LoaderStore.get ok disk s name).store name).res = .tmpl src :=
  MJ.LoaderStore.get_memoises ok disk disk' s name src h

example : (MJ.LoaderStore.get (fun _ => true) (fun _ => .found "v0") { hasLoader := true } "a").res = .tmpl "v0" := by
  decide +kernel

/-- a lookup that fails memoises nothing (no negative cache): the next lookup asks the loader again -/
theorem failed_lookup_not_cached (ok : String → Bool) (disk : String → MJ.LoaderStore.LoadAns)
    (s : MJ.LoaderStore.Store) (name : String)
    (h : ∀ src, (MJ.LoaderStore.get ok disk s name).res ≠ .tmpl src) :
    (MJ.LoaderStore.get ok disk s name).store = s :=
  MJ.LoaderStore.failed_get_leaves_store ok disk s name h

example : ∀ src, (MJ.LoaderStore.get (fun _ => true) (fun _ => .missing) { hasLoader := true } "a").res ≠ .tmpl src := by
  intro src h; simp [MJ.LoaderStore.get, List.lookup] at h


/-! ## the window without a watcher (full reload without `persistent_watch`): what is promised -/

/-- **a creator that registers its paths leaves no silent window.**  From any initial thread list in which
    every acquire's creator calls `watch_path`, in every reachable state: when nobody is inside
    `acquire_env` and an environment is cached, the paths are watched; while a guard is held they are
    watched; and the watcher is missing (with an environment cached) ONLY while the acquire that dropped it
    holds the `cached_env` lock between its flag reset and its creator's `watch_path` call (`reset` with
    `droppedW`, `toCreate`, or inside the creator with `watch` still to come) — nobody can look at the old
    environment then, and the new one is built after the registration.  A file change in that window
    produces no notification (it is not a requester thread of the model); it is seen by whatever the new
    environment loads afterwards. -/
theorem registering_creator_leaves_no_silent_window {ths : List Thread}
    (h0 : ∀ t ∈ ths, t.initial = true)
    (hreg : ∀ t ∈ ths, ∀ cfg, t = .acqIdle cfg → COp.watch ∈ cfg.script)
    {σ : State} (h : ReachableFrom ths σ) :
    (σ.cur = none → σ.env ≠ none → σ.watching = true) ∧
    (∀ c, σ.cur = some c → c.pc = .holding → σ.watching = true) ∧
    (∀ c, σ.cur = some c → σ.env ≠ none → σ.watching = false →
      (c.pc = .reset ∧ c.droppedW = true) ∨ c.pc = .toCreate ∨
      ∃ rest, COp.watch ∈ rest ∧ (c.pc = .creating rest ∨ ∃ s, c.pc = .innerSet s rest)) := by
  have hw := (winOk_of_reachableFrom h0 hreg h).2
  have hes := (inv_of_reachable (h.reachable h0)).envSome
  refine ⟨?_, ?_, ?_⟩
  · intro hc; simpa [WinOk, hc] using hw
  · intro c hc hp
    simp only [WinOk, hc, hp] at hw
    simp only [EnvSome, hc, hp] at hes
    exact hw hes
  · intro c hc he hnw
    simp only [WinOk, hc] at hw
    cases hp : c.pc <;> simp only [hp] at hw <;> simp_all

/-- non-vacuity + the window itself: a registering creator, a request, a full reload: at `BeforeCreate`
    the watcher is gone (a file change now is silent) while the lock is held … -/
example : ∃ σ, ReachableFrom [.acqIdle { script := [.watch] }, .reqIdle, .acqIdle { script := [.watch] }] σ ∧
    σ.registered = true ∧ σ.watching = false ∧ σ.env ≠ none ∧ ∃ c, σ.cur = some c ∧ c.pc = .toCreate :=
  ⟨run (init _) [0, 0, 0, 0, 0, 0, 0, 0, 0, 1, 1, 2, 2, 2, 2], reachableFrom_run .init _, by decide +kernel⟩

/-- … and when that acquire hands its guard out the paths are watched again -/
example : ∃ σ, ReachableFrom [.acqIdle { script := [.watch] }, .reqIdle, .acqIdle { script := [.watch] }] σ ∧
    σ.watching = true ∧ σ.creates = 2 ∧ ∃ c, σ.cur = some c ∧ c.pc = .holding :=
  ⟨run (init _) [0, 0, 0, 0, 0, 0, 0, 0, 0, 1, 1, 2, 2, 2, 2, 2, 2, 2, 2], reachableFrom_run .init _, by decide +kernel⟩


/-! ## notifier handles that outlive the reloader, several reloaders (`MJ/Model/ReloaderLife.lean`) -/

/-- **one strong handle per reloader, and it never leaves it** (constructions of notifier handles
    regenerated from lib.rs): the only `NotifierImplHandle::Strong(..)` is built in the PRIVATE
    `Notifier::new`; only `AutoReloader::new` calls it (so every reloader has a `NotifierImpl` of its own and
    two reloaders never share a flag); `AutoReloader::notifier()` returns `self.notifier.weak()`; no other
    function hands `self.notifier` out; the creator's argument (`prepare_and_mark_reload`) and `weak` build
    `Weak` handles.  Hence dropping the reloader kills every handle (`lstep … .drop`), and while it lives
    every upgrade succeeds. -/
theorem one_strong_handle_per_reloader :
    MJ.Gen.notifierHandleSites.filter (fun s => s.2.2 == "makeStrong") = [("Notifier::new", "priv", "makeStrong")] ∧
    MJ.Gen.notifierHandleSites.filter (fun s => s.2.2 == "call:Notifier::new") =
      [("AutoReloader::new", "pub", "call:Notifier::new")] ∧
    MJ.Gen.notifierHandleSites.filter (fun s => s.1 == "AutoReloader::notifier") =
      [("AutoReloader::notifier", "pub", "returns:self.notifier.weak")] ∧
    MJ.Gen.notifierHandleSites.all (fun s =>
      ["makeStrong", "makeWeak", "call:Notifier::new", "returns:self.notifier.weak"].contains s.2.2) = true ∧
    (MJ.Gen.notifierHandleSites.filter (fun s => s.2.2 == "makeWeak")).map (·.1) =
      ["Notifier::prepare_and_mark_reload", "Notifier::weak"] := by decide +kernel

/-- **while the reloader exists, the lifetime model is the protocol model** — every theorem above holds for
    the base state of every reachable alive state -/
theorem alive_reloader_is_protocol {l : LState} (h : LReachable l) (ha : l.alive = true) :
    Reachable l.base := alive_base_reachable h ha

/-- **a notifier handle that outlived its reloader does nothing** (request_reload, set_fast_reload,
    set_callback, watch_path, persistent_watch through any clone): no step after the drop changes the flag,
    the switches, the callbacks, the watcher, the environment, the creator / clear counters or the guard
    log, and the notifier stays dead -/
theorem dead_notifier_does_nothing {l l' : LState} {ev : LEv} (hd : l.alive = false)
    (hs : lstep l ev = some l') :
    l'.alive = false ∧ protocolState l'.base = protocolState l.base :=
  ⟨(dead_notifier_is_inert hd hs).1, (dead_notifier_is_inert hd hs).2.1⟩

/-- the drop needs exclusive ownership (no acquire in progress, no guard alive); nobody acquires afterwards;
    and whoever is inside `acquire_env` has a live notifier, so `prepare_and_mark_reload`'s
    `expect("notifier unexpectedly went away")` cannot fire -/
theorem drop_excludes_acquire {l : LState} (h : LReachable l) :
    (∀ l', lstep l .drop = some l' → l.base.cur = none ∧ l'.alive = false) ∧
    (l.alive = false → ∀ i cfg, l.base.threads[i]? = some (.acqIdle cfg) → lstep l (.thread i) = none) ∧
    (l.base.cur ≠ none → l.alive = true) :=
  ⟨fun _ hs => ⟨(drop_needs_no_guard hs).2.1, (drop_needs_no_guard hs).2.2.1⟩,
   fun hd _ _ hi => no_acquire_after_drop hd hi, holder_implies_alive h⟩

/-- non-vacuity: build, drop, then a request and a fast-reload switch through surviving handles: 2 dead
    calls, flag still down, fast reload still off -/
example : ∃ l, LReachable l ∧ l.alive = false ∧ l.deadCalls = 2 ∧ l.base.flag = false ∧ l.base.fast = false ∧
    l.base.creates = 1 :=
  ⟨lrun (linit [.acqIdle {}, .reqIdle, .fastIdle true])
     ((List.replicate 8 (LEv.thread 0)) ++ [.drop, .thread 1, .thread 2]),
   lreachable_run (.init _ (by decide)) _, by decide +kernel⟩

/-- the one exception: a `request_reload` that upgraded before the drop finishes (it owns the state) -/
example : ∃ l, LReachable l ∧ l.alive = false ∧ l.deadCalls = 0 ∧ l.base.onCalls = 1 ∧ l.base.flag = true :=
  ⟨lrun (linit [.acqIdle {}, .reqIdle]) ((List.replicate 8 (LEv.thread 0)) ++ [.thread 1, .drop, .thread 1]),
   lreachable_run (.init _ (by decide)) _, by decide +kernel⟩

/-- **several reloaders are independent copies of the protocol**: a step on one leaves the other untouched,
    and each is a reachable state of the single-reloader system (so C20 holds for each) -/
theorem several_reloaders_independent {p : PState} (h : PReachable p) :
    LReachable p.r1 ∧ LReachable p.r2 ∧
    ∀ second ev p', pstep p second ev = some p' →
      (second = true → p'.r1 = p.r1) ∧ (second = false → p'.r2 = p.r2) :=
  ⟨(reloaders_independent h).1, (reloaders_independent h).2, fun _ _ _ hs => pstep_leaves_other hs⟩

example : ∃ p, PReachable p ∧ p.r1.base.flag = true ∧ p.r2.base.flag = false ∧ p.r2.base.creates = 1 :=
  ⟨prun ⟨linit [.reqIdle], linit [.acqIdle {}]⟩
     ((false, .thread 0) :: List.replicate 8 (true, LEv.thread 0)),
   preachable_run (.init _ _ (by decide) (by decide)) _, by decide +kernel⟩


/-! ## `watch_path` from several threads (`MJ/Model/WatcherReg.lean`: `with_fs_watcher` at lock granularity) -/

/-- **concurrent registrations share one watcher**: in every reachable state of any number of `watch_path`
    threads and reloads that take the watcher out, under every interleaving: the watchers ever created are
    at most 1 + the reloads that took one out (the look-up and the installation are ONE critical section:
    `get_or_insert_with` under the notifier mutex) — and while no reload has taken it out (persistent_watch,
    fast reload) there is at most one watcher and EVERY registration made so far sits on the installed one:
    no `watch_path` call is lost, whichever thread created the watcher. -/
theorem concurrent_watch_paths_share_one_watcher {σ : MJ.WatcherReg.WState} (h : MJ.WatcherReg.WReachable σ) :
    σ.next ≤ 1 + σ.drops ∧
    (σ.drops = 0 → σ.next ≤ 1 ∧ ∀ r ∈ σ.regs, σ.slot = some r.1) := by
  have hi := MJ.WatcherReg.winv_of_reachable h
  refine ⟨?_, ?_⟩
  · have h1 := hi.count; have h2 := hi.dle
    split at h1 <;> omega
  · intro h0
    have hd : σ.dropped = [] := List.eq_nil_of_length_eq_zero (by have := hi.dle; omega)
    refine ⟨?_, ?_⟩
    · have h1 := hi.count; simp [hd] at h1; split at h1 <;> omega
    · intro r hr
      rcases hi.regs r hr with h | h
      · exact h
      · simp [hd] at h

/-- **a registration is lost only to a reload that took the watcher out** between the caller's look-up and
    now (the documented "when the environment is reloaded the watcher is cleared out, watch_path must be
    invoked again") -/
theorem registration_lost_only_by_reload {σ : MJ.WatcherReg.WState} (h : MJ.WatcherReg.WReachable σ) :
    ∀ r ∈ σ.regs, σ.slot = some r.1 ∨ r.1 ∈ σ.dropped :=
  (MJ.WatcherReg.winv_of_reachable h).regs

/-- non-vacuity: three threads register concurrently (all look the watcher up before any registers): one
    watcher, three registrations on it -/
example : ∃ σ, MJ.WatcherReg.WReachable σ ∧ σ.drops = 0 ∧ σ.next = 1 ∧ σ.regs.length = 3 ∧ σ.slot = some 0 :=
  ⟨MJ.WatcherReg.wrun (MJ.WatcherReg.winit [.wIdle 1, .wIdle 2, .wIdle 3]) [2, 0, 1, 1, 0, 2],
   MJ.WatcherReg.wreachable_run (.init _ (by decide)) _, by decide +kernel⟩

/-- the NOT promised part, as a reachable state: a `watch_path` from outside that races with a full reload
    registers on the watcher the reload has just thrown away — the path is not watched afterwards -/
example : ∃ σ, MJ.WatcherReg.WReachable σ ∧ σ.regs = [(0, 7)] ∧ σ.slot = none ∧ σ.dropped = [0] :=
  ⟨MJ.WatcherReg.wrun (MJ.WatcherReg.winit [.wIdle 7, .dIdle]) [0, 1, 0],
   MJ.WatcherReg.wreachable_run (.init _ (by decide)) _, by decide +kernel⟩

theorem C20_holds : C20_full := by
  intro σ h
  unfold C20_at
  refine ⟨fun r hr a ha hlt => (no_lost_request h r hr a ha hlt).1, request_before_check h, ?_,
    no_spurious_create h, fun c hc hp => flag_kept_during_build h hc hp,
    unserved_request_is_pending h, panic_never_serves_stale h,
    ⟨fun a ha => ((check_under_lock h).2.1 a ha).1, (check_under_lock h).2.2.1⟩,
    ⟨(request_served_at_most_once h).1, (request_served_at_most_once h).2.1⟩⟩
  intro c hc hp
  exact guard_excludes_replace h hc hp


/-! ## the served-request clause over the reloader's whole lifetime -/

/-- the served-request clause, with the guards' lock times below the clock -/
def LifeOk (σ : State) : Prop :=
  (∀ a ∈ σ.acqLog, a.lockedAt < σ.now) ∧
  (∀ r ∈ σ.reqLog, ∀ a ∈ σ.acqLog, r.retAt < a.lockedAt → r.setAt < a.env.freshAt)

theorem lifeOk_of_reachable {σ : State} (h : Reachable σ) : LifeOk σ :=
  ⟨fun a ha => by have := (check_under_lock h).2.1 a ha; omega,
   fun r hr a ha hlt => (no_lost_request h r hr a ha hlt).1⟩

theorem lifeOk_stepDead {σ σ' : State} {i : Nat} (h : LifeOk σ) (hs : stepDead σ i = some σ') : LifeOk σ' := by
  obtain ⟨h1, h2⟩ := h
  have hlt : ∀ a ∈ σ.acqLog, a.lockedAt < σ.now + 1 := fun a ha => Nat.lt_succ_of_lt (h1 a ha)
  revert hs
  fun_cases stepDead σ i <;> intro hs <;> cases hs
  · exact ⟨hlt, h2⟩
  · -- a request that upgraded before the drop returns at the clock, after every guard's lock
    refine ⟨hlt, fun r hr a ha hra => ?_⟩
    rcases List.mem_cons.mp hr with rfl | hr
    · exact absurd hra (Nat.lt_asymm (h1 a ha))
    · exact h2 r hr a ha hra
  all_goals exact ⟨hlt, h2⟩

/-- **no request is lost over the whole lifetime**: the served-request clause holds in every state reachable
    in the lifetime model — before the drop (it is the protocol), and after it (no guard is handed out any
    more; a request that finishes late returns after every guard's lock) -/
theorem lifetime_no_lost_request {l : LState} (h : LReachable l) :
    ∀ r ∈ l.base.reqLog, ∀ a ∈ l.base.acqLog, r.retAt < a.lockedAt → r.setAt < a.env.freshAt := by
  suffices hs : LifeOk l.base from hs.2
  induction h with
  | init ths h0 => exact lifeOk_of_reachable (.init ths h0)
  | step ev hprev hs ih =>
    rename_i l0 l1
    cases hal : l1.alive with
    | true => exact lifeOk_of_reachable (alive_base_reachable (.step ev hprev hs) hal)
    | false =>
      cases ev with
      | drop =>
        simp only [lstep] at hs
        split at hs
        · cases hs
          exact ⟨fun a ha => by have := ih.1 a ha; simp only; omega, ih.2⟩
        · cases hs
      | thread i =>
        cases hal0 : l0.alive with
        | true =>
          simp only [lstep, hal0, if_true] at hs
          cases hb : step l0.base i with
          | none => simp [hb] at hs
          | some σ' => simp [hb] at hs; cases hs; simp at hal
        | false =>
          simp only [lstep, hal0] at hs
          cases hb : stepDead l0.base i with
          | none => simp [hb] at hs
          | some σ' => simp [hb] at hs; cases hs; exact lifeOk_stepDead ih hb


/-! ## `C20_main`: what is proved, and the gap to the code as named hypotheses -/

/-- the code, seen as a transition system: states, the step of thread `i` from one lock acquisition to
    the next, and the abstraction to the model's state.  (The harness realises `step` with the
    `verif_hooks` yield points and a deterministic scheduler; `abs` is what it observes.) -/
structure RealSystem where
  S : Type
  start : List Thread → S
  step : S → Nat → Option S
  abs : S → State

inductive RealReachable (R : RealSystem) : R.S → Prop where
  | init (ths : List Thread) (h : ∀ t ∈ ths, t.initial = true) : RealReachable R (R.start ths)
  | step {s s' : R.S} (i : Nat) (h : RealReachable R s) (hs : R.step s i = some s') : RealReachable R s'

/-- the ties to the source that are DISCHARGED on every run by theorems over regenerated tables -/
structure SourceTies : Prop where
  /-- every access to shared state in lib.rs, per function, in order, is what the model's steps assume -/
  accesses : MJ.Gen.reloaderAccesses = assumedAccesses
  /-- the watcher-drop condition of `prepare_and_mark_reload` is `dropWatcher` -/
  dropCond : ∀ p f, (MJ.Gen.watcherDropCond.lookup (p, f)) = some (dropWatcher p f)
  /-- every file-change event kind of the vendored notify requests a reload -/
  fsFilter : ∀ p ∈ MJ.Gen.fsEventFilter, fsChangesFiles p.1 = true → fsThread p.2 = Thread.reqIdle
  /-- `clear_templates` empties every container field of the template store; the store has the model's fields -/
  storeFields : MJ.Gen.loaderStoreFields.map (·.1) = MJ.LoaderStore.modelledFields ∧
    (∀ f ∈ storeContainerFields, (f, "clear") ∈ (MJ.Gen.loaderStoreUses.lookup "clear").getD []) ∧
    MJ.Gen.envClearTemplatesCalls = ["templates.clear"]
  /-- one strong notifier handle per reloader, made by the private constructor only -/
  handles : MJ.Gen.notifierHandleSites.filter (fun s => s.2.2 == "makeStrong") = [("Notifier::new", "priv", "makeStrong")]

theorem source_ties_hold : SourceTies :=
  ⟨accesses_as_modelled, drop_cond_as_modelled.2, fs_change_is_requester,
   ⟨clear_empties_every_lookup_cache.1, clear_empties_every_lookup_cache.2.1, clear_empties_every_lookup_cache.2.2.2.1⟩,
   one_strong_handle_per_reloader.1⟩

/-- **C20_main.**  For ANY system that refines the model — hypotheses `H_start`, `H_refines`: the two facts
    about the Rust code that are NOT proved but validated on every run (schedule replay of all / sampled
    model schedules on the real `AutoReloader` at hook granularity, mutual-exclusion pokes, probes; they
    presuppose that `std::sync::Mutex` excludes and that a hook-to-hook segment has one critical section,
    which `SourceTies.accesses` re-checks against the source) — every reachable state of the code satisfies
    every clause of the property.  `ties` is discharged by `source_ties_hold`; the user-visible meaning of
    "cleared" is `cleared_env_consults_loader` (all inputs) under the store correspondence stream; a
    notifier that outlives its reloader, and several reloaders, are `dead_notifier_does_nothing` /
    `several_reloaders_independent`. -/
theorem C20_main (R : RealSystem) (_ties : SourceTies)
    (H_start : ∀ ths, R.abs (R.start ths) = init ths)
    (H_refines : ∀ s i s', R.step s i = some s' → step (R.abs s) i = some (R.abs s')) :
    ∀ s, RealReachable R s → Reachable (R.abs s) ∧ C20_at (R.abs s) := by
  intro s hs
  have hr : Reachable (R.abs s) := by
    induction hs with
    | init ths h => rw [H_start]; exact .init ths h
    | step i _ hstep ih => exact .step i ih (H_refines _ _ _ hstep)
  exact ⟨hr, C20_holds _ hr⟩

/-- non-vacuity of `C20_main`: the model itself is such a system (identity abstraction), and a state with a
    pending obligation is reachable in it -/
example : ∃ s, RealReachable ⟨State, init, step, id⟩ s ∧ s.reqLog ≠ [] ∧ s.acqLog.length = 2 := by
  refine ⟨run (init [.acqIdle {}, .reqIdle, .acqIdle {}]) [0, 0, 0, 0, 0, 0, 0, 0, 1, 1, 2, 2, 2, 2, 2, 2, 2, 2], ?_, by decide +kernel⟩
  exact run_preserves (P := RealReachable ⟨State, init, step, id⟩)
    (fun i h hs => .step (R := ⟨State, init, step, id⟩) i h hs) (.init (R := ⟨State, init, step, id⟩) _ (by decide)) _

example : C20_main ⟨State, init, step, id⟩ source_ties_hold (fun _ => rfl) (fun _ _ _ h => h) =
    C20_main ⟨State, init, step, id⟩ source_ties_hold (fun _ => rfl) (fun _ _ _ h => h) := rfl

end MJ.C20
