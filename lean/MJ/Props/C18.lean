import MJ.Proofs.MetaSim
import MJ.Proofs.MetaNested
import MJ.Proofs.MetaSet
import MJ.Proofs.MetaArms
import MJ.Proofs.MetaEsc
import MJ.Gen.Tables
/-!
# C18 — `undeclared_variables` never omits a variable the template reads

Model: `MJ/Model/Meta.lean` (`findUndeclared` / `findUndeclaredNested` = `compiler/meta.rs`
after the `fix:` commits, `reads` = name resolution of the generated code under an arbitrary
choice tree: branches, iteration counts, `break`/`continue`, recursive loops re-entered through
`loop(..)`, blocks rendered in place and through `self.name()`, macro and call-block bodies,
the name expressions of include/import/extends, re-entries nested to any depth `d`, renders
that fail after any number of look-ups).

`MJ/Model/MetaSet.lean`: macro and call-block bodies run where they are *called* (`readsM`:
any statement can call any macro of the template, any number of times, nested and recursive),
the frames of `Context::load`, file sets (`setLog`).  `MJ/Model/MetaArms.lean`: the arms of
`track_walk` / `tracker_visit_expr` / `track_assign` as a table the walkers interpret.
`MJ/Model/MetaEsc.lean`: the closure heap of the engine (macro VALUES carry the id of a shared
closure object and escape their scope), calls of escaped values (`readsE`), host callables that
ask `State::lookup` and globals as explicit parameters (`readsH`).

`reads`, `readsM`, `readsE`, `readsH` run the same `execList` with another request handler
(`reenter`, `reenterM`, `reenterE`) and, for host callables, further request targets; the
`reads_subset_undeclared…` theorems are the instances of `Meta.template_sound` /
`Meta.template_sound_both` (`MJ/Proofs/MetaSim.lean`: any handler whose requests are accounted
for, any entry frames, any further request targets whose free names are known).
-/
namespace MJ.C18
open MJ.Meta

/-- Full-strength statement: every context key any execution asks for is reported. -/
def C18_full : Prop :=
  ∀ (t : List Stmt) (cs : List Ch) (d : Nat) (x : String),
    x ∈ reads t cs d → x ∈ findUndeclared t

/-- Every template, every choice tree, every nesting depth of re-entries, failing renders
included: a key the render asks the context for is reported by the analysis. -/
theorem reads_subset_undeclared : C18_full :=
  fun t cs d x hx => (template_sound (reenter d) (kok_reenter d) t [] [] cs x hx).1

/-- a recursive macro (its own name is looked up at the declaration and reported), a
closure, shadowing:
`{% set x = x %}{% macro m(a, b=q) %}{{ a }}{{ x }}{{ z }}{{ m() }}{% endmacro %}{{ m(y) }}` -/
example : ∃ t cs, reads t cs 0 = ["x", "m", "z", "q", "y"]
    ∧ findUndeclared t = ["y", "m", "z", "q", "x"] :=
  ⟨[.set (.var "x") (.var "x"),
    .macro "m" ["a", "b"] [.var "q"]
      [.emit (.var "a"), .emit (.var "x"), .emit (.var "z"), .emit (.call (.var "m") [])],
    .emit (.call (.var "m") [.pos (.var "y")])],
   [.default, .mk 0 [[]] [] 0, .default], by decide +kernel⟩

/-- a recursive loop re-entered from inside a `with`, a `continue`, a block rendered through
`self.b()` in front of the assignment it seems to rely on, a dynamic include, an import alias:
`{% for a in y recursive %}{% if c %}{% continue %}{% endif %}{% with w = 1 %}{{ loop(a) }}
 {{ q }}{% endwith %}{% endfor %}{{ self.b() }}{% set x = 1 %}{% block b %}{{ x }}{% endblock %}
 {% include tpl %}{% import lib as helpers %}{{ helpers }}` -/
example : ∃ t cs, reads t cs 1 = ["y", "c", "c", "q", "x", "tpl", "lib"]
    ∧ findUndeclared t = ["lib", "tpl", "x", "q", "c", "y"] :=
  ⟨[.forLoop (.var "a") (.var "y") none true
      [.ifCond (.var "c") [.cont] [],
       .withBlock [(.var "w", .const)]
         [.emit (.call (.var "loop") [.pos (.var "a")]), .emit (.var "q")]] [],
    .emit (.call (.getattr (.var "self") "b") []),
    .set (.var "x") .const,
    .block "b" [.emit (.var "x")],
    .include (.var "tpl"),
    .importAs (.var "lib") (.var "helpers"),
    .emit (.var "helpers")],
   [.mk 2 [[.mk 0 [] [] 0,
            .mk 0 [[.mk 0 [] [.mk 0 [[.mk 1 [[]] [] 0]] [] 0] 0, .default]] [] 0]] [] 0,
    .mk 0 [] [.mk 0 [[]] [] 0] 0, .default, .mk 0 [[]] [] 0],
   by decide +kernel⟩

/-- a render that fails in the middle of the second statement (after one of its look-ups)
is an execution of the model like any other:
`{{ a }}{{ b ~ c }}{{ d }}` failing after `b` -/
example : ∃ t cs, reads t cs 0 = ["a", "b"] ∧ findUndeclared t = ["d", "c", "b", "a"] :=
  ⟨[.emit (.var "a"), .emit (.binop (.var "b") (.var "c")), .emit (.var "d")],
   [.default, .mk 0 [] [] 2], by decide +kernel⟩

/-- The assumption "an aborted render performs a prefix of the look-ups" as a theorem of the
model: cutting a statement short (`ab = k + 1`) yields a prefix of the look-ups of the same
choices without the failure. -/
theorem abort_reads_prefix (K : Reenter) (rc : RC) (bt : BT) (top : Frame) (below : List Frame)
    (n : Nat) (subs : List (List Ch)) (reqs : List Ch) (k : Nat) (rest : List Ch)
    (s : Stmt) (ss : List Stmt) :
    (execList K rc bt top below (Ch.mk n subs reqs (k + 1) :: rest) (s :: ss)).reads <+:
      (execList K rc bt top below (Ch.mk n subs reqs 0 :: rest) (s :: ss)).reads := by
  -- `exec` does not consult the failure point: `execList` cuts the look-ups
  have hexec : ∀ a, exec K rc bt top below (Ch.mk n subs reqs a) s =
      exec K rc bt top below (Ch.mk n subs reqs 0) s := by
    intro a
    cases s <;> rfl
  rw [execList, execList]
  simp only [List.headD_cons, Ch.ab, Ch.reqs, List.tail_cons, hexec (k + 1),
    Nat.add_one_ne_zero, ne_eq, not_false_eq_true, if_true, not_true_eq_false, if_false,
    Nat.add_sub_cancel]
  refine (List.take_prefix _ _).trans ?_
  by_cases hs : (exec K rc bt top below (Ch.mk n subs reqs 0) s).stopped = true
  · simp only [hs, if_true]; exact List.prefix_refl _
  · simp only [hs, ← List.append_assoc]; exact List.prefix_append _ _

example : (execList (reenter 0) [] [] [] [] [Ch.mk 0 [] [] 2] [Stmt.emit (.binop (.var "b") (.var "c"))]).reads
    = ["b"] := by decide +kernel

/-- The `nested = true` report: every key the render asks the context for is the root of a
reported dotted name (`(x, attrs)` stands for `x.attr₁.attr₂…`). -/
theorem reads_root_of_nested (t : List Stmt) (cs : List Ch) (d : Nat) (x : String)
    (hx : x ∈ reads t cs d) : ∃ attrs, (x, attrs) ∈ findUndeclaredNested t :=
  (template_sound (reenter d) (kok_reenter d) t [] [] cs x hx).2

/-- `{{ foo.bar.baz }}{% set x = cfg.a %}{{ x.y }}{{ cfg }}`: the report is
`foo.bar.baz`, `cfg.a`, `cfg`; the render asks for `foo` and `cfg` -/
example : ∃ t cs, reads t cs 0 = ["foo", "cfg", "cfg"]
    ∧ findUndeclaredNested t = [("cfg", []), ("cfg", ["a"]), ("foo", ["bar", "baz"])] :=
  ⟨[.emit (.getattr (.getattr (.var "foo") "bar") "baz"),
    .set (.var "x") (.getattr (.var "cfg") "a"),
    .emit (.getattr (.var "x") "y"),
    .emit (.var "cfg")], [], by decide +kernel⟩

/-- … and every dotted name of the nested report is an attribute path that occurs in the
template: a variable followed by exactly these attribute look-ups. -/
theorem nested_reported_are_paths (t : List Stmt) :
    ∀ l ∈ findUndeclaredNested t, l ∈ leavesL t := by
  intro l hl
  rcases (piece_walkList t).within St.initNested l hl with h | h
  · simp [St.nestedList, St.initNested] at h
  · exact h

example : leavesL [Stmt.emit (.getattr (.getattr (.var "foo") "bar") "baz"),
    .set (.var "x") (.getattr (.var "cfg") "a")] =
    [("foo", ["bar", "baz"]), ("cfg", ["a"])] := by decide +kernel

/-- The assumption "macro bodies see only their closure frame, their locals and the base
context" as a theorem: in the frames `eval_macro` builds — `[closure ∪ caller, base]` — a
macro's prologue and body ask the render context for nothing (in a template without blocks;
with blocks: only what the blocks ask for): every free name was captured at the declaration. -/
theorem macro_body_asks_nothing (args : List String) (defaults : List Expr) (body : List Stmt)
    (kid : List Ch) (d : Nat) :
    (bindArgs (macroFrame args defaults body) [[]] args.reverse defaults.reverse).2 ++
      (execList (reenter d) [] []
        (bindArgs (macroFrame args defaults body) [[]] args.reverse defaults.reverse).1
        [[]] kid body).reads = [] :=
  -- a call of the macro where the block table is empty: there are no blocks to ask for anything
  List.eq_nil_iff_forall_not_mem.2 fun x hx => List.not_mem_nil
    (callMacro_ok (kok_reenter d) (ctx_freeOf []) ⟨args, defaults, body⟩ kid x hx)

/-- `{% macro m(a, b=q) %}{{ a }}{{ x }}{{ caller() }}{% endmacro %}`: closure `q`, `x`;
`caller` is a local -/
example : closureNames ["a", "b"] [.var "q"]
      [.emit (.var "a"), .emit (.var "x"), .emit (.call (.var "caller") [])] = ["x", "q"]
    ∧ macroFrame ["a", "b"] [.var "q"]
      [.emit (.var "a"), .emit (.var "x"), .emit (.call (.var "caller") [])] = ["caller", "x", "q"] :=
  by decide +kernel

/-- The assumption "expressions bind no names", tied to the source: the code
`compile_expr` and the functions it calls emit (regenerated from `codegen.rs`) contains none
of the instructions that change frames or locals; the only way out of expression code is the
macro expression of a call block. -/
theorem expression_code_binds_nothing :
    (∀ i ∈ MJ.Gen.c18ExprInstructions, i ∉ MJ.Gen.c18BindingInstructions) ∧
    (∀ f ∈ MJ.Gen.c18ExprCallees, f ∈ MJ.Gen.c18ExprFunctions ∨ f = "compile_macro_expression") := by
  decide +kernel

example : "Lookup" ∈ MJ.Gen.c18ExprInstructions ∧ "StoreLocal" ∈ MJ.Gen.c18BindingInstructions :=
  ⟨List.mem_of_getElem? (i := 27) rfl, List.mem_of_getElem? (i := 9) rfl⟩

/-- who may ask the render context for a key, by class -/
def allowedContextReaders : List (String × String) := [
  -- the resolution itself and its two VM callers (`Lookup`, `CallFunction`): the model's `lookups`
  ("minijinja/src/vm/context.rs::load", "name resolution"),
  ("minijinja/src/vm/state.rs::lookup", "name resolution (also the public API for host callables)"),
  ("minijinja/src/vm/mod.rs::eval_impl", "Lookup / CallFunction instructions"),
  -- macro closures: `Enclose` at the declaration, the base context handed to the macro frames
  ("minijinja/src/vm/context.rs::enclose", "macro closure construction"),
  ("minijinja/src/vm/mod.rs::eval_macro", "macro frames (base context)"),
  -- public API of `State` for host code: a host callable may read anything (outside the property)
  ("minijinja/src/vm/state.rs::call_macro", "public API"),
  ("minijinja/src/vm/state.rs::known_variables", "public API"),
  ("minijinja/src/vm/context.rs::known_variables", "public API / debug"),
  -- debug mode only: error reports and `debug()` dump the variables (documented exclusion,
  -- known finding debug-info:referenced-locals)
  ("minijinja/src/vm/state.rs::make_debug_info", "debug mode"),
  ("minijinja/src/vm/context.rs::fmt", "debug mode"),
  -- minijinja-contrib: documented configuration keys (TIMEZONE, DATETIME_FORMAT, DATE_FORMAT,
  -- TIME_FORMAT, TRUNCATE_LEEWAY, RAND_SEED) read by filters the host registers explicitly
  ("minijinja-contrib/src/filters/datetime.rs::dateformat", "contrib configuration key"),
  ("minijinja-contrib/src/filters/datetime.rs::datetimeformat", "contrib configuration key"),
  ("minijinja-contrib/src/filters/datetime.rs::get_timezone", "contrib configuration key"),
  ("minijinja-contrib/src/filters/datetime.rs::timeformat", "contrib configuration key"),
  ("minijinja-contrib/src/filters/mod.rs::truncate", "contrib configuration key"),
  ("minijinja-contrib/src/rand.rs::for_state", "contrib configuration key")]

/-- Source tie for "the VM's name resolution is the only reader of the context": every call
site of `State::lookup` / `Context::load` / the context value / `known_variables` /
`clone_base` / `call_macro` in `minijinja/src` and `minijinja-contrib/src` (regenerated from
the sources) is one of the classified sites above; in particular no builtin filter, test,
function or object method (`c18BuiltinFiles`: `filters.rs`, `tests.rs`, `functions.rs`,
`value/…`, contrib pycompat/globals/tests) reads the context. -/
theorem builtins_do_not_read_context :
    (∀ r ∈ MJ.Gen.c18ContextReaders,
      (r.1 ++ "::" ++ r.2) ∈ allowedContextReaders.map Prod.fst) ∧
    (∀ r ∈ MJ.Gen.c18ContextReaders, r.1 ∉ MJ.Gen.c18BuiltinFiles) := by
  decide +kernel

example : ("minijinja/src/vm/mod.rs", "eval_impl") ∈ MJ.Gen.c18ContextReaders
    ∧ "minijinja/src/filters.rs" ∈ MJ.Gen.c18BuiltinFiles :=
  ⟨List.mem_of_getElem? (i := 10) rfl, List.mem_of_getElem? (i := 3) rfl⟩

/-- The analysis cannot hit `unwrap()` on an empty scope stack (either mode). -/
theorem analysis_no_panic (t : List Stmt) :
    (walkList St.init t).bad = false ∧ (walkList St.initNested t).bad = false :=
  ⟨walkList_no_panic t rfl, walkList_no_panic t rfl⟩

example : (walkList St.init
    [.forLoop (.var "x") (.var "y") none false [.set (.var "z") .const] []]).bad = false :=
  (analysis_no_panic _).1

/-- `reads_subset_undeclared` for templates whose macros and call blocks run where they are
called: while ANY statement runs — at top level, inside a loop, a block, another macro's or
the macro's own body, after the names the macro mentions were rebound — the choice tree may
call any macro or call block of the template (`caller` included) any number of times, nested
to any depth `d`; both modes of the analysis.  Excluded: nothing of the template language;
the model calls a macro with the closure `find_macro_closure` computes (the engine's closure
object has at least these entries) and does not model values, so "which macro does this
expression call" is over-approximated by "any". -/
theorem reads_subset_undeclared_calls (t : List Stmt) (cs : List Ch) (d : Nat) (x : String)
    (hx : x ∈ readsM t cs d) :
    x ∈ findUndeclared t ∧ ∃ attrs, (x, attrs) ∈ findUndeclaredNested t :=
  template_sound (reenterM (macroDeclsL t) d) (kok_reenterM _ d) t [] [] cs x hx

/-- `{% set x = 1 %}{% macro m(a, b=q) %}{{ a }}{{ x }}{{ z }}{{ caller() }}{{ m() }}{% endmacro %}
{% set x = 2 %}{% for i in ys %}{% call m(i) %}{{ i }}{{ w }}{% endcall %}{% endfor %}{{ m(y) }}`:
the last statement calls `m` (after `x` was rebound), whose body calls the call block's
`caller` (declared inside the loop, called after the loop has ended) and `m` again. -/
example : ∃ t cs, readsM t cs 3 = ["m", "z", "q", "ys", "w", "y"]
    ∧ findUndeclared t = ["y", "w", "ys", "m", "z", "q"] ∧ (macroDeclsL t).length = 2 :=
  ⟨[.set (.var "x") .const,
    .macro "m" ["a", "b"] [.var "q"]
      [.emit (.var "a"), .emit (.var "x"), .emit (.var "z"), .emit (.call (.var "caller") []),
       .emit (.call (.var "m") [])],
    .set (.var "x") .const,
    .forLoop (.var "i") (.var "ys") none false
      [.callBlock (.var "m") [.pos (.var "i")] [] [] [.emit (.var "i"), .emit (.var "w")]] [],
    .emit (.call (.var "m") [.pos (.var "y")])],
   [.default, .default, .default,
    .mk 2 [[.mk 0 [] [.mk 0 [[]] [] 0] 0]] [] 0,
    .mk 0 [] [.mk 0 [[.default, .default, .default, .mk 0 [] [.mk 1 [[]] [] 0] 0,
      .mk 0 [] [.mk 0 [[]] [] 0] 0]] [] 0] 0],
   by decide +kernel⟩

/-- What a macro call asks the context for does not depend on where it is called from: not on
the frames at the call site, not on the loops running there. -/
theorem macro_call_site_independent (mt : List MacroDecl) (K : Reenter) (bt : BT)
    (rc rc' : RC) (top top' : Frame) (below below' : List Frame) (r : Ch)
    (hlen : rc'.length = rc.length) (hm : rc.length + bt.length ≤ r.n) :
    serveM mt K rc bt top below r = serveM mt K rc' bt top' below' r := by
  unfold serveM
  rw [hlen]
  simp [Nat.not_lt.2 hm]

example : serveM [⟨["a"], [], [.emit (.var "a"), .emit (.var "x")]⟩] (reenter 0) [] [] ["x"] []
    (.mk 0 [[]] [] 0) = [] ∧
    closureNames ["a"] [] [.emit (.var "a"), .emit (.var "x")] = ["x"] := by decide +kernel

/-- … and the closure is what keeps it quiet: the same body `{{ a }}{{ x }}` run in a closure
frame that lacks `x` asks the context for `x`, which the template
`{% set x = 1 %}{% macro m(a) %}{{ a }}{{ x }}{% endmacro %}{{ m(1) }}` does not report (what the
seeded changes C18-5 and C18-6 do to the engine / to `find_macro_closure`). -/
example : (execList (reenter 0) [] [] ["a"] [[]] [] [.emit (.var "a"), .emit (.var "x")]).reads = ["x"]
    ∧ (execList (reenter 0) [] [] ("a" :: macroFrame ["a"] [] [.emit (.var "a"), .emit (.var "x")]) [[]] []
        [.emit (.var "a"), .emit (.var "x")]).reads = []
    ∧ findUndeclared [.set (.var "x") .const,
        .macro "m" ["a"] [] [.emit (.var "a"), .emit (.var "x")],
        .emit (.call (.var "m") [.pos .const])] = [] := by decide +kernel

/-- `Context::load` as modelled (`load`): with frames that carry no context on top of the one
that does, the render context is asked (exactly once) iff no frame has the name among its
locals, as its `loop` variable or in the closure it reads from — `Meta.bound` on the frames'
names; the answer of the context and the globals (consulted last) play no role. -/
theorem context_asked_iff_no_frame_resolves (has : String → Bool) (top : RFrame)
    (below : List RFrame) (h : ∀ f ∈ top :: below, f.ctx = false) (x : String) :
    (load has ((top :: below) ++ [RFrame.root]) x).1 =
      if bound top.names (below.map RFrame.names) x then 0 else 1 :=
  asks_iff_unbound has top below h x

/-- a macro call `[closure frame (local a, closure {x}), base frame]`: `a` is a local, `x` comes
from the closure although the context has it too, `y` is asked of the context and then found
among the globals, `loop` is not special in a macro frame -/
example :
    let stack := [RFrame.macroCall ["a"] ["x"], RFrame.root]
    let has := fun k => k == "x"
    load has stack "a" = (0, .locals) ∧ load has stack "x" = (0, .closure) ∧
    load has stack "y" = (1, .globals) ∧ load has stack "loop" = (1, .globals) ∧
    load has [RFrame.loop ["i"], RFrame.root] "loop" = (0, .loopVar) := by decide +kernel

/-- Source tie for the run-time side of closures: the order of the checks in `Context::load`,
the frames `eval_macro` builds, and the code `compile_macro_expression` / `compile_macro` emit
(closure analysis → `caller` flag → one `Enclose` per name → `BuildMacro` → `StoreLocal`;
`Context::enclose` pins a name with its value or undefined) are as the model has them
(regenerated from `vm/context.rs`, `vm/mod.rs`, `compiler/codegen.rs`). -/
theorem closure_and_lookup_order_as_modelled :
    loadOrder = MJ.Gen.c18LoadOrder ∧ macroCallFrames = MJ.Gen.c18MacroCallFrames ∧
    macroCodegen = MJ.Gen.c18MacroCodegen := ⟨rfl, rfl, rfl⟩

example : "closure" ∈ MJ.Gen.c18LoadOrder ∧ "Enclose(each)" ∈ MJ.Gen.c18MacroCodegen :=
  ⟨List.mem_of_getElem? (i := 3) rfl, List.mem_of_getElem? (i := 8) rfl⟩

/-- Templates that include / import / extend others: in ANY execution of a file set — any
sequence of activations of the files' units (top level, block bodies, macros), each entered
with whatever frames the file running at that moment has built, each `include` leaving
whatever names behind — every look-up is reported by the analysis of the file whose code
performed it, in both modes.  Look-ups of included / imported / parent templates are theirs. -/
theorem multi_file_sound (files : List (List Stmt)) (acts : List Activation) :
    ∀ p ∈ setLog files acts, ∃ t, files[p.1]? = some t ∧ p.2 ∈ findUndeclared t ∧
      ∃ attrs, (p.2, attrs) ∈ findUndeclaredNested t := by
  intro p hp
  simp only [setLog, List.mem_flatMap, List.mem_map] at hp
  obtain ⟨a, _, x, hx, rfl⟩ := hp
  cases ht : files[a.file]? with
  | none => simp [Activation.reads, ht] at hx
  | some t => exact ⟨t, rfl, activation_sound files a t ht x hx⟩

/-- main = `{% extends "base" %}{% set x = 1 %}{% include "inc" %}{{ leaked }}{{ other }}
{% block b %}{{ x }}{{ u }}{% endblock %}`, inc = `{{ x }}{{ inc_var }}{% set leaked = 1 %}`,
base = `{{ base_var }}{% block b %}{{ base_b }}{% endblock %}`: main's top level (the include
leaves `leaked` behind), inc entered with main's frame (`x` bound), base as the parent in
main's root frame, main's block entered from base, and once more on its own
(`render_block`, nothing bound). -/
example : ∃ files acts,
    setLog files acts = [(0, "other"), (0, "u"), (1, "inc_var"), (2, "base_var"), (2, "base_b"),
      (0, "u"), (0, "x"), (0, "u")] ∧
    files.map findUndeclared = [["u", "x", "other", "leaked"], ["inc_var", "x"], ["base_b", "base_var"]] :=
  ⟨[[.extends .const, .set (.var "x") .const, .include .const, .emit (.var "leaked"),
      .emit (.var "other"), .block "b" [.emit (.var "x"), .emit (.var "u")]],
    [.emit (.var "x"), .emit (.var "inc_var"), .set (.var "leaked") .const],
    [.emit (.var "base_var"), .block "b" [.emit (.var "base_b")]]],
   [{ file := 0, unit := .top, cs := [.default, .default,
        .mk 0 [[.mk 108 [] [] 0, .mk 101 [] [] 0, .mk 97 [] [] 0, .mk 107 [] [] 0, .mk 101 [] [] 0,
          .mk 100 [] [] 0]] [] 0] },
    { file := 1, unit := .top, top := ["x"] },
    { file := 2, unit := .top, top := ["leaked", "x"] },
    { file := 0, unit := .block 0, top := ["leaked", "x"] },
    { file := 0, unit := .block 0 }],
   by decide +kernel⟩

/-- Source tie for the analysis itself: the operations of every arm of `track_walk`,
`tracker_visit_expr` and `track_assign` — which children are visited, in which order, where
the scope is pushed and popped, which names are assigned when — and the control skeletons of
`Expr::Var`, `Expr::GetAttr` and of the helper functions, regenerated from `meta.rs`, are the
tables of `MJ/Model/MetaArms.lean`. -/
theorem analysis_arms_as_modelled :
    renderRows modelWalkArms = MJ.Gen.c18TrackWalkArms ∧
    renderRows modelExprArms = MJ.Gen.c18VisitExprArms ∧
    renderRows modelAssignArms = MJ.Gen.c18TrackAssignArms ∧
    renderRows modelHelpers = MJ.Gen.c18TrackerHelpers := by
  -- the three rendered tables are decided together: they share most of their strings
  have h : renderRows modelWalkArms = MJ.Gen.c18TrackWalkArms ∧
      renderRows modelExprArms = MJ.Gen.c18VisitExprArms ∧
      renderRows modelAssignArms = MJ.Gen.c18TrackAssignArms := by decide +kernel
  exact ⟨h.1, h.2.1, h.2.2, rfl⟩

example : ("ForLoop", "", ["push", "visit @.iter", "assign_target @.target", "visit_opt @.filter_expr",
    "assign_lit loop", "each @.body $1 [", "walk $1", "]", "pop", "push", "each @.else_body $1 [",
    "walk $1", "]", "pop"]) ∈ MJ.Gen.c18TrackWalkArms := List.mem_of_getElem? (i := 3) rfl

/-- … and the model's walkers ARE the interpretation of those tables: a statement is walked by
running the operations of its row (`runOps`), an expression whose row is a list of operations
is visited by them (`opsLeaves`: the leaves in that order; `Var` and `GetAttr` are the two rows
with logic), an assignment target is tracked by its row (`opsAtoms`). -/
theorem walkers_interpret_arms :
    (∀ st s, walk st s = runOps walkList s.view (stmtOps s) st ∧
      ∃ cfg, (s.variant, cfg, Arm.ops (stmtOps s)) ∈ modelWalkArms) ∧
    (∀ st t, walkList st t =
      runOps walkList (fun f => if f = "children" then .stmts t else .unit) armTemplate st) ∧
    (∀ e os, exprOps e = some os →
      nvars e = opsLeaves e.view os ∧ (e.variant, "", Arm.ops os) ∈ modelExprArms) ∧
    (∀ e, targetAtoms e = opsAtoms e.view (targetOps e)) := by
  refine ⟨fun st s => ⟨walk_interprets_arm st s, stmtOps_row s⟩, walkList_interprets_template,
    fun e os h => ⟨nvars_interprets_arm e os h, ?_⟩, targetAtoms_interprets_arm⟩
  rcases exprOps_row e with ⟨os', h1, h2⟩ | ⟨h1, _⟩
  · rw [h] at h1; cases h1; exact h2
  · rw [h] at h1; cases h1

example : stmtOps (.forLoop (.var "x") (.var "y") none false [] []) = armForLoop ∧
    exprOps (.binop (.var "a") (.var "b")) = some eArmBinOp := ⟨rfl, rfl⟩

/-- The sharing discipline of closure objects, as a theorem about the closure heap machine:
after ANY history of the engine's operations (frames pushed and popped, stores, macro
declarations, loop iterations that clear the frame and detach its closure, includes that take
the closure away and put it back, macro calls in contexts of their own, in any order and
nesting) every macro value built so far — wherever the template parked it — still finds every
name its body captured (`find_macro_closure ∖ {caller}`) in the closure object it points to,
and a longer history only adds keys to the closure objects. -/
theorem closure_keys_never_lost (history more : List Ev) :
    (∀ v ∈ (Heap.run history).pool,
      ∀ x ∈ closureNames v.decl.args v.decl.defaults v.decl.body,
        x ∈ (Heap.run history).keys v.closure) ∧
    (∀ c k, (Heap.run history).has c k = true → (Heap.run (history ++ more)).has c k = true) :=
  ⟨fun v hv x hx => mem_keys_of_has _ _ _ (run_good history v hv x hx),
   fun c k hk => has_mono (run_mono history more) c k hk⟩

/-- `{% set y = 1 %}{% for i in [1, 2] %}{% if loop.first %}{% macro m() %}{{ y }}{% endmacro %}
{% set ns.m = m %}{% endif %}{% endfor %}{{ ns.m() }}` (the demo of the seeded change C18-7):
the macro is declared in the first iteration, the second iteration detaches the closure of the
loop frame; the value's closure object still has `y`. -/
example :
    let m : MacroDecl := ⟨[], [], [.emit (.var "y")]⟩
    let history := [Ev.store "y", .pushLoop, .iterate, .store "i", .declare m, .store "m",
      .iterate, .store "i", .popFrame]
    (Heap.run history).pool.map (fun v => (Heap.run history).keys v.closure) = [["m", "y"]] ∧
    (Heap.run history).complete = true := by decide +kernel

/-- … and the engine of the seeded change C18-7 (`next_loop_item` clears the closure object in
place and keeps it attached) violates exactly this: after the same history the parked macro's
closure object has lost `y` (it holds only the `i` stored after the clear). -/
theorem clearing_in_place_loses_keys :
    ∃ history, (Heap.runClearing history).complete = false ∧ (Heap.run history).complete = true :=
  ⟨[Ev.store "y", .pushLoop, .iterate, .store "i", .declare ⟨[], [], [.emit (.var "y")]⟩,
    .store "m", .iterate, .store "i", .popFrame], by decide +kernel⟩

/-- Source tie for the sharing discipline: every site of `minijinja/src` that creates, reads,
fills, detaches or shares a closure object or a closure field of a frame or of a macro value
(regenerated from the sources) is a row of the model's table, where it is assigned to an event
of the closure heap machine; the operations on closure OBJECTS among them are creation,
insertion and reads only (nothing clears, removes, truncates or replaces), and the only
assignments to `Frame::closure` are the detach of `next_loop_item` and `reset_closure`. -/
theorem closure_sites_as_modelled :
    closureSites.map (fun s => (s.file, s.fn, s.op)) = MJ.Gen.c18ClosureSites ∧
    (∀ s ∈ MJ.Gen.c18ClosureSites, s.2.2 ∈ closureObjectOps ∨ s.2.2 ∈ closureFieldOps) ∧
    (MJ.Gen.c18ClosureSites.filter (fun s => s.2.2 ∈ ["frame.closure=None", "frame.closure=closure",
        "frame.closure.take"])).map (fun s => s.2.1) =
      ["next_loop_item", "reset_closure", "take_closure"] :=
  ⟨rfl, by decide +kernel⟩

example : ("minijinja/src/vm/context.rs", "next_loop_item", "frame.closure=None") ∈ MJ.Gen.c18ClosureSites
    ∧ "map.clear" ∉ closureObjectOps ∧ "map.clear" ∉ closureFieldOps :=
  ⟨List.mem_of_getElem? (i := 12) rfl, by decide +kernel⟩

/-- `reads_subset_undeclared` for templates whose macro VALUES escape: while any statement
runs, the choice tree may call any macro value that ANY history of the engine produced (`W k`:
what the engine did with frames and closure objects before the call — in this template or in
the one that exported the value — and which value of the pool is called: parked in a namespace
attribute, a list, a map, a host object, handed over as an argument or as `caller`, imported),
any number of times, nested and recursive to any depth, besides everything
`reads_subset_undeclared_calls` allows.  The call runs in `[closure frame, base frame]` where
the closure frame resolves what the value's closure object holds at that moment (at least the
names the body captured: `closure_keys_never_lost`).  Every context key asked is reported, in
both modes of the analysis. -/
theorem escaped_macro_reads_subset_undeclared (W : Nat → EscCall) (t : List Stmt) (cs : List Ch)
    (d : Nat) (x : String) (hx : x ∈ readsE W t cs d) :
    x ∈ findUndeclared t ∧ ∃ attrs, (x, attrs) ∈ findUndeclaredNested t :=
  template_sound (reenterE W (macroDeclsL t) d) (kok_reenterE W _ d) t [] [] cs x hx

/-- the demo of C18-7 as an execution of the model: the last statement `{{ ns.m() }}` calls the
value the history built (request 1 = the first escaped value: the template has one macro);
the call asks the context for nothing (`y` and the free name `u`, pinned by `Enclose` at the
declaration, come from the closure object); the look-ups are `namespace` and the `Enclose` of
`u` at the declaration, both reported -/
example :
    let m : MacroDecl := ⟨[], [], [.emit (.var "y"), .emit (.var "u")]⟩
    let W : Nat → EscCall := fun _ =>
      ⟨[Ev.store "y", .pushLoop, .iterate, .store "i", .declare m, .store "m", .iterate, .store "i",
        .popFrame], 0⟩
    let t : List Stmt := [.set (.var "y") .const, .set (.var "ns") (.call (.var "namespace") []),
      .forLoop (.var "i") .const none false
        [.ifCond (.getattr (.var "loop") "first")
          [.macro "m" [] [] [.emit (.var "y"), .emit (.var "u")],
           .set (.getattr (.var "ns") "m") (.var "m")] []] [],
      .emit (.call (.getattr (.var "ns") "m") [])]
    readsE W t [.default, .default, .mk 2 [[.mk 1 [[]] [] 0], [.mk 0 [[]] [] 0]] [] 0,
        .mk 0 [] [.mk 1 [[]] [] 0] 0] 2 = ["namespace", "u"] ∧
    findUndeclared t = ["u", "namespace"] ∧
    (W 0).target.map Prod.snd = some ["m", "y", "u"] := by decide +kernel

/-- Host callables and globals as explicit parameters: `hosts` lists, for every host callable
of the environment (function, filter, test, object method), the names it may ask
`State::lookup` for.  While any statement runs the choice tree may invoke any of them, any
number of times, at any nesting depth; a callable sees the frames of that moment
(`Context::load`: a name some frame resolves does not reach the context) and may call template
values back.  Every context key a render asks for is then reported by the analysis (both
modes) or is one of the names a host callable asks for. -/
theorem reads_subset_undeclared_hosts (hosts : List (List String)) (W : Nat → EscCall)
    (t : List Stmt) (cs : List Ch) (d : Nat) (x : String) (hx : x ∈ readsH hosts W t cs d) :
    (x ∈ findUndeclared t ∧ ∃ attrs, (x, attrs) ∈ findUndeclaredNested t) ∨
      ∃ h ∈ hosts, x ∈ h :=
  template_sound_both (reenterE W (macroDeclsL t) d) (kok_reenterE W _ d) t _ (HostName hosts)
    (hosts_table t hosts) [] [] cs x hx

/-- a host callable that asks for `cfg` while `{% with cfg = 1 %}…{% endwith %}` runs sees the
with frame (nothing reaches the context); invoked after the block it asks the context -/
example :
    readsH [["cfg"]] (fun _ => {}) [.withBlock [(.var "cfg", .const)] [.emit (.call (.var "gf") [])],
      .emit (.call (.var "gf") [])]
      [.mk 0 [[.mk 0 [] [.mk 0 [[]] [] 0] 0]] [] 0, .mk 0 [] [.mk 0 [[]] [] 0] 0] 2 = ["gf", "cfg", "gf"] := by
  decide +kernel

/-- The statement of the property with its exception: when the host callables only ask for
names that are globals of the environment (contrib's `TIMEZONE`, `DATETIME_FORMAT`, … are
meant to be set as globals), every context key a render asks for is reported or is one of the
environment's globals.  Globals themselves never save a look-up: `Context::load` asks the
context first (`context_asked_iff_no_frame_resolves`). -/
theorem reads_subset_undeclared_or_global (globals : List String) (hosts : List (List String))
    (hg : ∀ h ∈ hosts, ∀ x ∈ h, x ∈ globals) (W : Nat → EscCall)
    (t : List Stmt) (cs : List Ch) (d : Nat) (x : String) (hx : x ∈ readsH hosts W t cs d) :
    x ∈ findUndeclared t ∨ x ∈ globals := by
  rcases reads_subset_undeclared_hosts hosts W t cs d x hx with h | ⟨h, hh, hx'⟩
  · exact Or.inl h.1
  · exact Or.inr (hg h hh x hx')

/-- `{% set y = 1 %}{% macro m() %}{{ y }}{{ peek() }}{% endmacro %}{{ m() }}{{ peek() }}` with
a host callable `peek` that asks for `y` and `TZ`: called from the macro body (request 0 of the
body's second statement: targets are `[host 0, macro 0]`) it sees the closure frame (`y`
resolved, `TZ` asked); called at top level it sees the root frame (`y` bound there too);
`peek` itself is asked at the declaration of `m` (`Enclose`) and by the last statement -/
example :
    let t : List Stmt := [.set (.var "y") .const,
      .macro "m" [] [] [.emit (.var "y"), .emit (.call (.var "peek") [])],
      .emit (.call (.var "m") []), .emit (.call (.var "peek") [])]
    readsH [["y", "TZ"]] (fun _ => {}) t
      [.default, .default,
       .mk 0 [] [.mk 1 [[.default, .mk 0 [] [.mk 0 [[]] [] 0] 0]] [] 0] 0,
       .mk 0 [] [.mk 0 [[]] [] 0] 0] 3 = ["peek", "TZ", "TZ", "peek"] ∧
    findUndeclared t = ["peek", "peek"] := by decide +kernel

end MJ.C18
