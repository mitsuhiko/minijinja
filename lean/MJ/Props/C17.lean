import MJ.Proofs.Path
import MJ.Proofs.PathPlat
import MJ.Proofs.PathRoutes
/-!
# C17 — the file-system loader never reads outside its base directory

The property's theorems with their test vectors (lemmas: `MJ/Proofs/Path.lean`, `PathPlat.lean`,
`PathRoutes.lean`; model: the files of the same names under `MJ/Model`).

`safeJoin base name` is the transcription of `loader::safe_join`, the only place where
`path_loader` turns a template name into a path; `push` is `PathBuf::push` *with* its
"an absolute argument replaces everything" branch.  Confinement is stated three ways:

* on components (`safe_join_segments`): the result's components are the base's components followed
  by the name's non-empty segments, each of which is a plain name;
* lexically (`normalize_stays_below`): normalising `.`/`..` away cannot leave the base;
* on an abstract directory tree without symbolic links (`walk_stays_below`): whatever the result
  resolves to is the directory the base resolves to, or something beneath it.

Further down: the loader over time (`loader_*`), the ties to the source, and — with the PLATFORM
as a parameter (`MJ/Model/PathPlat.lean`: separator set, drive prefixes; Unix and Windows
instances) — `checked_segments_are_pushed_components`: the arguments of `push` are exactly the
pieces the filter looked at and the result's components (split on every separator of the
platform) are the base's followed by those pieces.  Unix: unconditional.  Windows: for names
without a drive-prefixed segment; `C17_windows_counterexample` shows what a segment `C:x` does.
At the end: the engine's ROUTES (`MJ/Model/PathRoutes.lean`: `Environment::get_template`,
`State::get_template` + `join_template_path` with an arbitrary callback, include / import /
from-import / extends, lists of include choices) with `every_loader_call_passes_through_safe_join`
and the row-by-row tie `name_flow_as_modelled`; the property's own statement `C17_full` over
histories of link-free worlds, proved for the model (`C17_model`); and `C17_main`, whose two
hypotheses (`AnswersAsModel`, `OsWalksTree`) are exactly what is not machine-checked about the code.
-/
namespace MJ.C17
open MJ.Path MJ.PathPlat

/-- a segment that can only name an entry of the directory it is looked up in: not empty, not `.`,
    not `..`, not hidden, no separator of either flavour -/
def PlainName (s : Str) : Prop :=
  s ≠ [] ∧ s ≠ ['.'] ∧ s ≠ dotdot ∧ s.head? ≠ some '.' ∧ '/' ∉ s ∧ '\\' ∉ s

theorem PlainName.plain {s : Str} (h : PlainName s) : plain s := ⟨h.1, h.2.1, h.2.2.1⟩

def nameSegs (name : Str) : List Str := (splitOn '/' name).filter (fun s => s != [])

theorem mem_nameSegs {name s : Str} : s ∈ nameSegs name ↔ s ∈ splitOn '/' name ∧ s ≠ [] := by
  simp [nameSegs]

/-- `p` lies beneath `base` (or is `base`) in every sense modelled here -/
def Confined (base name p : Str) : Prop :=
  isAbs p = isAbs base ∧ base <+: p ∧
  comps p = comps base ++ nameSegs name ∧ (∀ s ∈ nameSegs name, PlainName s) ∧
  normalize (isAbs base) (comps base) <+: normalize (isAbs p) (comps p) ∧
  ∀ (fs : FS) (start e : fs.Node), walk fs start (comps p) = some e →
    ∃ b, walk fs start (comps base) = some b ∧ Below fs b e

/-- The statement about `safe_join` alone: for every base and every template name, `safe_join`
    answers `None` as soon as one segment is `.`, `..`, hidden or contains a backslash, and every
    path it does answer is confined to the base.  (The property's own statement — every entry
    point, every history of file systems, "content of a file beneath the base" — is `C17_full`
    at the end of this file.) -/
def C17_safe_join_full : Prop :=
  ∀ base name : Str,
    (∀ s ∈ splitOn '/' name, (s = ['.'] ∨ s = dotdot ∨ s.head? = some '.' ∨ '\\' ∈ s) →
      safeJoin base name = none) ∧
    (∀ p, safeJoin base name = some p → Confined base name p)

/-- every segment that reaches `PathBuf::push` is free of `/`, hence never absolute: the branch of
    `push` that throws the base away is dead, and the base stays a literal prefix -/
theorem push_never_replaces (name : Str) (s : Str) (hs : s ∈ splitOn '/' name) (rv : Str) :
    rv <+: push rv s ∧ isAbs (push rv s) = isAbs rv :=
  have h := sep_not_mem_of_mem_splitOn '/' name s hs
  ⟨prefix_push rv s h, isAbs_push rv s h⟩

example : push "/b".toList "/etc".toList = "/etc".toList := by decide +kernel   -- what the dead branch would do
example : push "/b".toList "etc".toList = "/b/etc".toList := by decide +kernel

/-- the result is the base followed by the name's non-empty segments, all of them plain names -/
theorem safe_join_segments (base name p : Str) (h : safeJoin base name = some p) :
    comps p = comps base ++ nameSegs name ∧ (∀ s ∈ nameSegs name, PlainName s) ∧
    isAbs p = isAbs base ∧ base <+: p := by
  have hg : ∀ s ∈ splitOn '/' name, badSeg s = false := by
    rw [safeJoin, sep_eq] at h; exact (safeJoinLoop_isSome_iff base _).1 (h ▸ rfl)
  have hsep := sep_not_mem_of_mem_splitOn '/' name
  rw [safeJoin_eq, if_neg (by simpa using hg), ← pushP_unix_fun] at h
  cases h
  -- the instance `unix` of the fold; the backslash rule of the filter is extra
  obtain ⟨h4, _, h6, h7⟩ := foldl_pushP_plain unix unix_wf _
    (fun s hs => ⟨plainArg_unix (hsep s hs), (good_seg (hg s hs)).1⟩) base
  rw [compsP_unix, compsP_unix] at h4
  rw [hasRoot_unix, hasRoot_unix] at h6
  refine ⟨h4, fun s hs => ?_, h6, h7⟩
  obtain ⟨hm, hne⟩ := mem_nameSegs.1 hs
  obtain ⟨g1, g2, g3, g4⟩ := good_seg (hg s hm)
  exact ⟨hne, g1, g2, g3, hsep s hm, g4⟩

example : safeJoin "/srv/t".toList "a//b.txt".toList = some "/srv/t/a/b.txt".toList := by decide +kernel
example : safeJoin "/srv/t".toList "/etc/passwd".toList = some "/srv/t/etc/passwd".toList := by decide +kernel
example : comps "/srv/t/a/b.txt".toList = ["srv".toList, "t".toList, "a".toList, "b.txt".toList] := by decide +kernel

/-- any `.`, `..`, hidden or backslash segment anywhere in the name makes `safe_join` answer `None` -/
theorem escape_rejected (base name s : Str) (hs : s ∈ splitOn '/' name)
    (hbad : s = ['.'] ∨ s = dotdot ∨ s.head? = some '.' ∨ '\\' ∈ s) : safeJoin base name = none := by
  apply safeJoinLoop_none_of_bad base _ s hs
  rcases hbad with h | h | h | h
  · subst h; exact badSeg_of_hidden rfl
  · subst h; exact badSeg_of_hidden rfl
  · exact badSeg_of_hidden h
  · exact badSeg_of_backslash h

example : safeJoin "/srv/t".toList "a/../../etc/passwd".toList = none := by decide +kernel
example : safeJoin "/srv/t".toList "a/..".toList = none := by decide +kernel
example : safeJoin "/srv/t".toList "..\\x".toList = none := by decide +kernel
example : safeJoin "/srv/t".toList "./a".toList = none := by decide +kernel

/-- nothing else is rejected: the filter is exactly "some segment is hidden or has a backslash" -/
theorem safe_join_some_iff (base name : Str) :
    (safeJoin base name).isSome = true ↔ ∀ s ∈ splitOn '/' name, badSeg s = false := by
  rw [safeJoin, sep_eq]
  exact safeJoinLoop_isSome_iff base _

example : (safeJoin "b".toList "a./%2e%2e/a..b".toList).isSome = true := by decide +kernel

/-- without a `..` (or `.`/empty) component after the base, lexical normalisation keeps the
    normalised base as a prefix — whatever the base itself looks like (relative, with `..`, with a
    trailing slash) and however many empty segments or trailing slashes the name has -/
theorem normalize_stays_below (base name p : Str) (h : safeJoin base name = some p) :
    normalize (isAbs p) (comps p) = normalize (isAbs base) (comps base) ++ nameSegs name := by
  obtain ⟨h1, h2, h3, _⟩ := safe_join_segments base name p h
  rw [h1, h3, normalize_append_plain _ _ _ fun s hs => (h2 s hs).plain]

example : normalize false (comps "../t/".toList) = ["..".toList, "t".toList] := by decide +kernel
example : normalize true (comps "/srv/t/a/../../../etc".toList) = ["etc".toList] := by decide +kernel  -- what `..` would do
example : normalize true (comps "/srv/t//a/b/".toList) = ["srv".toList, "t".toList, "a".toList, "b".toList] := by decide +kernel

/-- on any directory tree without symbolic links: if the joined path resolves at all, the base
    resolves too and the result is the base's directory or lies beneath it -/
theorem walk_stays_below (base name p : Str) (h : safeJoin base name = some p)
    (fs : FS) (start e : fs.Node) (hw : walk fs start (comps p) = some e) :
    ∃ b, walk fs start (comps base) = some b ∧ Below fs b e := by
  obtain ⟨h1, h2, _, _⟩ := safe_join_segments base name p h
  exact walk_append_plain fs start e _ _ (fun s hs => (h2 s hs).plain) (h1 ▸ hw)

/-- the free tree: a node is the list of names from the root -/
@[reducible] def freeFS : FS := { Node := List Str, child := fun d n => some (d ++ [n]), parent := List.dropLast }

example : walk freeFS [] (comps "/srv/t/a/b".toList) = some ["srv".toList, "t".toList, "a".toList, "b".toList] := by decide +kernel
example : walk freeFS [] (comps "/srv/t/../../x".toList) = some ["x".toList] := by decide +kernel  -- `..` does leave

theorem safe_join_confined : C17_safe_join_full := by
  intro base name
  refine ⟨escape_rejected base name, fun p h => ?_⟩
  obtain ⟨h1, h2, h3, h4⟩ := safe_join_segments base name p h
  refine ⟨h3, h4, h1, h2, ?_, walk_stays_below base name p h⟩
  rw [normalize_stays_below base name p h]
  exact List.prefix_append _ _

theorem confined_of_safeJoin {base name p : Str} (h : safeJoin base name = some p) : Confined base name p :=
  (safe_join_confined base name).2 p h

example : Confined "/srv/t".toList "a//b.txt".toList "/srv/t/a/b.txt".toList :=
  (safe_join_confined _ _).2 _ (by decide +kernel)
example : safeJoin "../t/".toList "x/..".toList = none :=
  (safe_join_confined _ _).1 dotdot (by decide +kernel) (by simp)

/-- `path_loader(dir)` keeps the configured spelling whatever the file system looks like when it
    is called (directory missing, created later, working directory elsewhere): the state of the
    disk at construction has no influence on the loader -/
theorem loader_base_is_configured (fs0 : Snapshot) (dir : Str) :
    (pathLoader fs0 dir).base = dir ∧ ∀ fs1 : Snapshot, pathLoader fs1 dir = pathLoader fs0 dir :=
  ⟨rfl, fun _ => rfl⟩

/-- a disk on which nothing can be read (say: the base does not exist yet) -/
def emptyDisk : Snapshot := fun _ => .notFound
def oneFile (path content : Str) : Snapshot := fun p => if p = path then .content content else .notFound

example : pathLoader emptyDisk "site/t".toList = pathLoader (oneFile "x".toList []) "site/t".toList := rfl

/-- every path a request hands to the file system is confined to the configured base -/
theorem loader_reads_confined (fs0 : Snapshot) (dir name p : Str)
    (h : p ∈ (pathLoader fs0 dir).reads name) : Confined dir name p :=
  confined_of_safeJoin (Loader.mem_reads.1 h)

example : (pathLoader emptyDisk "/srv/t".toList).reads "a/b".toList = ["/srv/t/a/b".toList] := by decide +kernel
example : (pathLoader emptyDisk "/srv/t".toList).reads "../b".toList = [] := by decide +kernel

/-- whatever the file system is at load time and was at construction time: returned content is
    what the load-time file system holds at a path confined to the configured base -/
theorem loader_found_confined (fs0 fs : Snapshot) (dir name s : Str)
    (h : (pathLoader fs0 dir).load fs name = .found s) :
    ∃ p, safeJoin dir name = some p ∧ fs p = .content s ∧ Confined dir name p := by
  obtain ⟨p, hp, hf⟩ := load_found h
  exact ⟨p, hp, hf, confined_of_safeJoin hp⟩

example : (pathLoader emptyDisk "b".toList).load (oneFile "b/x".toList "hi".toList) "x".toList
    = .found "hi".toList := by decide +kernel
example : (pathLoader emptyDisk "b".toList).load (oneFile "x".toList "canary".toList) "x".toList
    = .missing := by decide +kernel   -- a working-directory relative namesake is not served

/-- while nothing readable has the base as literal prefix (the base does not exist, or is empty),
    the only answers are "missing" and "unreadable" -/
theorem loader_absent_base_missing (fs0 fs : Snapshot) (dir name : Str)
    (habs : ∀ p s, dir <+: p → fs p ≠ .content s) (s : Str) :
    (pathLoader fs0 dir).load fs name ≠ .found s := by
  intro h
  obtain ⟨p, hp, hf, hc⟩ := loader_found_confined fs0 fs dir name s h
  exact habs p s hc.2.1 hf

example : ∀ p s, "b".toList <+: p → oneFile "x".toList "canary".toList p ≠ .content s := by
  intro p s hp h
  simp only [oneFile] at h
  split at h
  · rename_i e; subst e; revert hp; decide +kernel
  · cases h

/-- an answer sourced from the snapshots of the requests for its name, in the terms of the
    statements below -/
theorem sourcedIn_confined {h : List (Snapshot × Str)} {dir n s : Str}
    (hs : SourcedIn (fun fs n => (fs, n) ∈ h) dir n s) :
    ∃ x ∈ h, x.2 = n ∧ ∃ p, safeJoin dir n = some p ∧ x.1 p = .content s ∧ Confined dir n p :=
  let ⟨fs, hx, p, hp, hf⟩ := hs
  ⟨(fs, n), hx, rfl, p, hp, hf, confined_of_safeJoin hp⟩

/-- the environment's template store in front of the loader, over an arbitrary history of file
    systems (directories created, removed, recreated, the working directory changed between
    construction and loads): every source ever answered for a name, and everything the store
    holds afterwards (`Environment::templates`), is what some snapshot of the history held at the
    path `safe_join(configured base, name)`, which is confined to the configured base -/
theorem loader_history_confined (fs0 : Snapshot) (dir : Str) (h : List (Snapshot × Str)) :
    (∀ n s, (n, LoadResult.found s) ∈ (Env.mk (pathLoader fs0 dir) []).run h →
      ∃ x ∈ h, x.2 = n ∧ ∃ p, safeJoin dir n = some p ∧ x.1 p = .content s ∧ Confined dir n p) ∧
    (∀ n s, (n, s) ∈ ((Env.mk (pathLoader fs0 dir) []).after h).templates →
      ∃ x ∈ h, x.2 = n ∧ ∃ p, safeJoin dir n = some p ∧ x.1 p = .content s ∧ Confined dir n p) := by
  obtain ⟨h1, h2⟩ := Env.run_sourced (fun fs n => (fs, n) ∈ h) dir h (Env.mk (pathLoader fs0 dir) [])
    (fun _ hx => hx) rfl (fun _ _ hm => nomatch hm)
  exact ⟨fun n s hm => sourcedIn_confined (h1 n s hm), fun n s hm => sourcedIn_confined (h2 n s hm)⟩

/-- `clear_templates` forgets what was stored but not where the loader looks: after any history
    and a clear, every further answer comes from the snapshots AFTER the clear, at a path confined
    to the configured base -/
theorem loader_history_confined_after_clear (fs0 : Snapshot) (dir : Str) (h1 h2 : List (Snapshot × Str)) :
    ∀ n s, (n, LoadResult.found s) ∈ (((Env.mk (pathLoader fs0 dir) []).after h1).clear).run h2 →
      ∃ x ∈ h2, x.2 = n ∧ ∃ p, safeJoin dir n = some p ∧ x.1 p = .content s ∧ Confined dir n p := by
  have hb : (((Env.mk (pathLoader fs0 dir) []).after h1).clear).loader.base = dir :=
    congrArg Loader.base (Env.after_loader _ h1)
  intro n s hm
  exact sourcedIn_confined ((Env.run_sourced (fun fs n => (fs, n) ∈ h2) dir h2 _ (fun _ hx => hx) hb
    (fun _ _ hm => nomatch hm)).1 n s hm)

example : (((Env.mk (pathLoader emptyDisk "b".toList) []).after
      [(oneFile "b/x".toList "inside".toList, "x".toList)]).clear).run [(emptyDisk, "x".toList)]
    = [("x".toList, .missing)] := by decide +kernel

/-- base missing at construction and at the first request, created before the second, removed
    before the third (answered from the store) -/
example : (Env.mk (pathLoader emptyDisk "b".toList) []).run
      [(oneFile "x".toList "canary".toList, "x".toList),
       (oneFile "b/x".toList "inside".toList, "x".toList),
       (emptyDisk, "x".toList)]
    = [("x".toList, .missing), ("x".toList, .found "inside".toList), ("x".toList, .found "inside".toList)] := by
  decide +kernel

/-! The tables `MJ.Gen.c17…` of the theorems that tie the model to the source are regenerated from the
source by `lib/tables/c17.py`. -/

/-- spellings of "an owned copy of the path that was passed in" -/
def verbatimCopies : List String :=
  ["dir.as_ref().to_path_buf()", "dir.as_ref().to_owned()", "PathBuf::from(dir.as_ref())",
   "dir.as_ref().into()"]

/-- `path_loader` in the source has the shape `pathLoader`/`Loader.load` model:
    * it captures the directory it is given verbatim;
    * it joins with `safe_join(&dir, name)` and binds the result to an immutable variable;
    * exactly that variable (or a reference to it) is what the single `fs::read_to_string` gets,
      and the variable is mentioned nowhere else (no reassignment, shadowing, `.push(`, `.join(`);
    * no other call whose name belongs to a file-system vocabulary occurs, however it is spelled
      (`exists`, `is_file`, `metadata`, `canonicalize`, `File::open`, …);
    * the base is mentioned only in its binding and in the `safe_join` call, the name only as the
      closure parameter and in the `safe_join` call (so no second path is built from either). -/
theorem loader_model_matches_source :
    MJ.Gen.c17PathLoaderBase ∈ verbatimCopies ∧
    MJ.Gen.c17PathLoaderFsCalls = ["read_to_string"] ∧
    MJ.Gen.c17PathLoaderJoins = ["&dir,name"] ∧
    MJ.Gen.c17PathLoaderFsVocab = ["read_to_string"] ∧
    (MJ.Gen.c17PathLoaderJoinBinding.toList.all fun c => c.isAlphanum || c == '_') = true ∧
    (MJ.Gen.c17PathLoaderReadArgs = [MJ.Gen.c17PathLoaderJoinBinding] ∨
      MJ.Gen.c17PathLoaderReadArgs = ["&" ++ MJ.Gen.c17PathLoaderJoinBinding]) ∧
    MJ.Gen.c17PathLoaderPathUses = 2 ∧ MJ.Gen.c17PathLoaderDirUses = 3 ∧
    MJ.Gen.c17PathLoaderNameUses = 2 := by decide +kernel

/-- the rules the model's `badSeg`/`safeJoin` are built from, as the extractor reads them off the source -/
theorem safe_join_rules_from_source :
    MJ.Gen.c17SafeJoinSep = '/' ∧ '.' ∈ MJ.Gen.c17RejectPrefix ∧ '\\' ∈ MJ.Gen.c17RejectContains :=
  ⟨sep_eq, rules_cover.1, rules_cover.2⟩

/-- the functions of the engine that fetch a template by name, and the harness form driving each -/
def drivenSites : List (String × String × String) :=
  [("environment.rs", "templates", "templates.iter"),        -- form `templates`
   ("environment.rs", "get_template", "templates.get"),      -- form `get`
   ("vm/mod.rs", "perform_include", "get_template"),         -- forms include, import, from, inclist, macro, nested
   ("vm/mod.rs", "load_blocks", "join_template_path"),       -- forms extends, joincb
   ("vm/mod.rs", "load_blocks", "get_template"),             -- form extends
   ("vm/state.rs", "get_template", "get_template"),          -- form fn (State::get_template from a function)
   ("vm/state.rs", "get_template", "join_template_path")]    -- form joincb

/-- every place in the engine's source that fetches a template by name is driven by the harness -/
theorem entry_sites_covered : ∀ s ∈ MJ.Gen.c17LoaderEntrySites, s ∈ drivenSites := by decide +kernel

example : MJ.Gen.c17LoaderEntrySites ≠ [] := by decide +kernel

/-- names computed inside a template (`include`, `import`, `from`, `extends`) reach the loader
    unchanged when no join callback is installed -/
theorem get_template_passes_name (name parent : Str) : joinTemplatePath none name parent = name := rfl

example : joinTemplatePath (some fun n par => par ++ n) "x".toList "d/".toList = "d/x".toList := by decide +kernel

/-- every separator character of the platform is either the character the name is split on or a
    character the filter rejects (rules regenerated from the source) -/
def SepsCovered (pl : Plat) : Prop :=
  ∀ c, pl.isSep c = true → c = MJ.Gen.c17SafeJoinSep ∨ c ∈ MJ.Gen.c17RejectContains

theorem unix_seps_covered : SepsCovered unix := Plat.forall_isSep (by decide) (by decide)

theorem windows_seps_covered : SepsCovered windows := Plat.forall_isSep (by decide) (by decide)

theorem noSep_of_good (pl : Plat) (hcov : SepsCovered pl) (name s : Str)
    (hs : s ∈ splitOn '/' name) (hg : badSeg s = false) : NoSep pl s := by
  intro c hc
  cases hsep : pl.isSep c with
  | false => rfl
  | true =>
    exfalso
    rcases hcov c hsep with e | hm
    · rw [e, sep_eq] at hc
      exact sep_not_mem_of_mem_splitOn '/' name s hs hc
    · exact Bool.noConfusion ((badSeg_of_contains hm hc).symm.trans hg)

/-- a name in the strict sense on the platform `pl`: not empty, not `.`, not `..`, not hidden, free
    of every separator of the platform, no drive prefix -/
def PlainNameP (pl : Plat) (s : Str) : Prop :=
  s ≠ [] ∧ s ≠ ['.'] ∧ s ≠ dotdot ∧ s.head? ≠ some '.' ∧ NoSep pl s ∧ driveLen pl s = 0

theorem PlainNameP.plain {pl : Plat} {s : Str} (h : PlainNameP pl s) : plain s := ⟨h.1, h.2.1, h.2.2.1⟩

/-- **What is pushed is what was checked**, on every platform.  Whenever `safe_join` answers a path:
    * the filter looked at every piece of `name.split('/')`, in order, and passed each
      (`tr.checked`);
    * the arguments handed to `PathBuf::push` are exactly those pieces (`tr.pushed = tr.checked`);
    * the components of the result — the result split on EVERY separator of the platform, so a
      separator hidden inside a pushed argument would show up as extra components — are the
      base's components followed by the non-empty checked pieces, one component each;
    * each of them is a plain name on the platform; the drive prefix, the root and the literal
      text of the base are kept (no push replaced the base).
    Hypotheses: the platform's separators are the split character or rejected by the filter
    (`SepsCovered`, proved for Unix and Windows from the regenerated rules), and no piece has a
    drive prefix (vacuous on Unix; on Windows this is NOT established by the filter, see
    `windows_drive_segment_replaces_base`). -/
theorem checked_segments_are_pushed_components (pl : Plat) (hwf : pl.WF) (hcov : SepsCovered pl)
    (base name p : Str) (tr : Trace) (h : safeJoinTr pl base name = some (p, tr))
    (hdrive : ∀ s ∈ splitOn '/' name, driveLen pl s = 0) :
    tr.checked = splitOn '/' name ∧ tr.pushed = tr.checked ∧
    compsP pl p = compsP pl base ++ nameSegs name ∧
    (∀ s ∈ nameSegs name, PlainNameP pl s) ∧
    driveLen pl p = driveLen pl base ∧ hasRoot pl p = hasRoot pl base ∧ base <+: p := by
  rw [safeJoinTr_eq] at h
  split at h
  · cases h
  · rename_i hg
    have hg : ∀ s ∈ splitOn '/' name, badSeg s = false := by simpa using hg
    cases h
    have hplain : ∀ s ∈ splitOn '/' name, PlainArg pl s ∧ s ≠ ['.'] :=
      fun s hs => ⟨⟨noSep_of_good pl hcov name s hs (hg s hs), hdrive s hs⟩, (good_seg (hg s hs)).1⟩
    obtain ⟨h4, h5, h6, h7⟩ := foldl_pushP_plain pl hwf _ hplain base
    refine ⟨rfl, rfl, h4, fun s hs => ?_, h5, h6, h7⟩
    obtain ⟨hm, hne⟩ := mem_nameSegs.1 hs
    obtain ⟨g1, g2, g3, _⟩ := good_seg (hg s hm)
    exact ⟨hne, g1, g2, g3, (hplain s hm).1⟩

/-- a base with a drive and a root, a name with an empty and a dotted piece -/
example : safeJoinTr windows "C:\\srv\\t".toList "a//b.txt".toList
    = some ("C:\\srv\\t\\a\\b.txt".toList,
        ⟨["a".toList, [], "b.txt".toList], ["a".toList, [], "b.txt".toList]⟩) := by decide +kernel
example : compsP windows "C:\\srv\\t\\a\\b.txt".toList = ["srv".toList, "t".toList, "a".toList, "b.txt".toList] := by decide +kernel
/-- separators inside a pushed argument create several components on the platform … -/
example : compsP windows (pushP windows "t".toList "x\\..\\..\\y".toList)
    = ["t".toList, "x".toList, dotdot, dotdot, "y".toList] := by decide +kernel
/-- … and none on a platform where the character is not a separator -/
example : compsP unix (pushP unix "t".toList "x\\..\\..\\y".toList) = ["t".toList, "x\\..\\..\\y".toList] := by decide +kernel
/-- a bare drive gets no separator; a rooted argument keeps only the drive; an argument with a
    drive replaces everything -/
example : pushP windows "C:".toList "x".toList = "C:x".toList := by decide +kernel
example : pushP windows "C:\\a".toList "\\w".toList = "C:\\w".toList := by decide +kernel
example : pushP windows "C:\\a".toList "D:w".toList = "D:w".toList := by decide +kernel

/-- the seeded change C17-5 as an instance of the generic loop (filter without the backslash
    rule, the `\`-pieces of a checked segment pushed one by one): on Windows — and on Unix, where
    `push` of `..` simply appends it — the components are NOT the checked segments -/
example : (joinLoopG unix (fun s => s.head? == some '.') (splitOn '\\') "t".toList ⟨[], []⟩
      (splitOn '/' "a\\..\\..\\x".toList)).map (fun r => (compsP unix r.1, r.2.checked))
    = some (["t".toList, "a".toList, dotdot, dotdot, "x".toList], ["a\\..\\..\\x".toList]) := by decide +kernel

/-- Unix: no hypothesis is left -/
theorem unix_checked_are_pushed (base name p : Str) (tr : Trace)
    (h : safeJoinTr unix base name = some (p, tr)) :
    tr.checked = splitOn '/' name ∧ tr.pushed = tr.checked ∧
    compsP unix p = compsP unix base ++ nameSegs name ∧ (∀ s ∈ nameSegs name, PlainNameP unix s) ∧
    driveLen unix p = driveLen unix base ∧ hasRoot unix p = hasRoot unix base ∧ base <+: p :=
  checked_segments_are_pushed_components unix unix_wf unix_seps_covered base name p tr h
    (fun s _ => driveLen_nodrives unix rfl s)

example : safeJoinTr unix "/srv/t".toList "a//b.txt".toList
    = some ("/srv/t/a/b.txt".toList, ⟨["a".toList, [], "b.txt".toList], ["a".toList, [], "b.txt".toList]⟩) := by decide +kernel

/-- the Unix instance of the generic model IS the model that is compared with the real code byte
    for byte (`safeJoin`, `push`, `comps`) -/
theorem unix_instance_is_checked_model (base name p seg : Str) :
    safeJoinP unix base name = safeJoin base name ∧ pushP unix p seg = push p seg ∧
    compsP unix p = comps p :=
  ⟨by simp only [safeJoinP, safeJoinTr, safeJoin]; exact joinLoopG_unix _ _ _, pushP_unix p seg, compsP_unix p⟩

example : safeJoinP unix "/srv/t".toList "a//b.txt".toList = some "/srv/t/a/b.txt".toList := by decide +kernel

/-- Windows: what is pushed is what was checked as long as no piece of the name starts with a
    drive (`X:`) -/
theorem windows_checked_are_pushed (base name p : Str) (tr : Trace)
    (h : safeJoinTr windows base name = some (p, tr))
    (hdrive : ∀ s ∈ splitOn '/' name, startsWithDrive s = false) :
    tr.checked = splitOn '/' name ∧ tr.pushed = tr.checked ∧
    compsP windows p = compsP windows base ++ nameSegs name ∧ (∀ s ∈ nameSegs name, PlainNameP windows s) ∧
    driveLen windows p = driveLen windows base ∧ hasRoot windows p = hasRoot windows base ∧ base <+: p :=
  checked_segments_are_pushed_components windows windows_wf windows_seps_covered base name p tr h
    (fun s hs => by simp [driveLen, hdrive s hs])

example : ∀ s ∈ splitOn '/' "a//b.txt".toList, startsWithDrive s = false := by decide +kernel

def ConfinedP (pl : Plat) (base name p : Str) : Prop :=
  driveLen pl p = driveLen pl base ∧ hasRoot pl p = hasRoot pl base ∧ base <+: p ∧
  compsP pl p = compsP pl base ++ nameSegs name ∧ (∀ s ∈ nameSegs name, PlainNameP pl s) ∧
  normalize (hasRoot pl p) (compsP pl p) = normalize (hasRoot pl base) (compsP pl base) ++ nameSegs name ∧
  ∀ (fs : FS) (start e : fs.Node), walk fs start (compsP pl p) = some e →
    ∃ b, walk fs start (compsP pl base) = some b ∧ Below fs b e

/-- the full statement on a platform: whatever `safe_join` answers is confined -/
def C17_full_on (pl : Plat) : Prop := ∀ base name p, safeJoinP pl base name = some p → ConfinedP pl base name p

/-- … with the excluded region as a decidable hypothesis -/
def C17_partial_on (pl : Plat) : Prop :=
  ∀ base name p, (∀ s ∈ splitOn '/' name, driveLen pl s = 0) → safeJoinP pl base name = some p → ConfinedP pl base name p

theorem confined_on (pl : Plat) (hwf : pl.WF) (hcov : SepsCovered pl) : C17_partial_on pl := by
  intro base name p hdrive h
  obtain ⟨⟨q, tr⟩, ht, rfl⟩ := Option.map_eq_some_iff.1 h
  obtain ⟨_, _, h3, h4, h5, h6, h7⟩ :=
    checked_segments_are_pushed_components pl hwf hcov base name q tr ht hdrive
  have hpl : ∀ s ∈ nameSegs name, plain s := fun s hs => (h4 s hs).plain
  exact ⟨h5, h6, h7, h3, h4, by rw [h3, h6, normalize_append_plain _ _ _ hpl],
    fun fs start e hw => walk_append_plain fs start e _ _ hpl (h3 ▸ hw)⟩

/-- Unix: the full statement -/
theorem safe_join_confined_unix : C17_full_on unix :=
  fun base name p h => confined_on unix unix_wf unix_seps_covered base name p
    (fun s _ => driveLen_nodrives unix rfl s) h

example : ConfinedP unix "../t/".toList "x//y.html".toList "../t/x/y.html".toList :=
  safe_join_confined_unix _ _ _ (by decide +kernel)

/-- Windows: confined as long as no piece of the name starts with a drive -/
theorem safe_join_confined_windows_partial : C17_partial_on windows :=
  confined_on windows windows_wf windows_seps_covered

example : ConfinedP windows "C:\\srv\\t".toList "a//b.txt".toList "C:\\srv\\t\\a\\b.txt".toList :=
  safe_join_confined_windows_partial _ _ _ (by decide +kernel) (by decide +kernel)

/-- **Windows: the filter lets a drive prefix through, and `push` of an argument with a prefix
    replaces the base.**  `safe_join("templates", "C:secret.txt")` is `C:secret.txt` (the file
    `secret.txt` in the current directory of drive `C:`), `safe_join("C:\\srv\\t", "D:x/y")` is
    `D:x\\y`: the base is gone.  (Model of std's Windows `_push`/`parse_drive`; cannot be run
    against the real code on this platform.) -/
theorem windows_drive_segment_replaces_base :
    safeJoinP windows "templates".toList "C:secret.txt".toList = some "C:secret.txt".toList ∧
    compsP windows "C:secret.txt".toList = ["secret.txt".toList] ∧
    safeJoinP windows "C:\\srv\\t".toList "D:x/y".toList = some "D:x\\y".toList ∧
    (safeJoinTr windows "templates".toList "C:secret.txt".toList).map (·.2.pushed) = some ["C:secret.txt".toList] := by
  decide +kernel

/-- hence the full statement is false on Windows for the code as it is -/
theorem C17_windows_counterexample : ¬ C17_full_on windows := by
  intro h
  have := (h "templates".toList "C:secret.txt".toList "C:secret.txt".toList (by decide +kernel)).2.2.1
  revert this
  decide +kernel

/-- any loader that tries candidate NAMES (the name, the name with a suffix, …) and sends each
    through `safe_join` returns only content found at a path confined to the base — the shape a
    `.j2`/index/alias fallback must have (the seeded changes C17-2 and C17-4 built their candidate
    PATHS from the joined path's ancestors / from the unfiltered name instead) -/
theorem candidate_loader_found_confined (l : LoaderG) (fs : Snapshot) (name s : Str)
    (h : l.load fs name = .found s) :
    ∃ t ∈ l.cands, ∃ p, safeJoin l.base (t name) = some p ∧ fs p = .content s ∧ Confined l.base (t name) p := by
  obtain ⟨t, ht, p, hp, hf⟩ := loadCands_found h
  exact ⟨t, ht, p, hp, hf, confined_of_safeJoin hp⟩

example : (LoaderG.mk "b".toList [id, fun n => n ++ ".j2".toList]).load
      (oneFile "b/x.j2".toList "inside".toList) "x".toList = .found "inside".toList := by decide +kernel

/-- every path such a loader may hand to the file system is confined -/
theorem candidate_loader_reads_confined (l : LoaderG) (name p : Str) (h : p ∈ l.reads name) :
    ∃ t ∈ l.cands, Confined l.base (t name) p := by
  simp only [LoaderG.reads, List.mem_filterMap] at h
  obtain ⟨t, ht, hp⟩ := h
  exact ⟨t, ht, confined_of_safeJoin hp⟩

example : (LoaderG.mk "b".toList [id, fun n => n ++ ".j2".toList]).reads "a/x".toList
    = ["b/a/x".toList, "b/a/x.j2".toList] := by decide +kernel
example : (LoaderG.mk "b".toList [id, fun n => n ++ ".j2".toList]).reads "../x".toList = [] := by decide +kernel

/-- `path_loader` is the instance with the single candidate "the name itself" -/
theorem path_loader_is_single_candidate (fs0 fs : Snapshot) (dir name : Str) :
    (LoaderG.mk dir [id]).load fs name = (pathLoader fs0 dir).load fs name ∧
    (LoaderG.mk dir [id]).reads name = (pathLoader fs0 dir).reads name := by
  constructor
  · simp only [LoaderG.load, loadCands, id, Loader.load, pathLoader]
    cases safeJoin dir name with
    | none => rfl
    | some p => cases fs p <;> rfl
  · simp only [LoaderG.reads, Loader.reads, pathLoader, List.filterMap_cons, List.filterMap_nil, id]
    cases safeJoin dir name <;> rfl

/-- a `.j2` fallback done right: the canary next to the base is not served, the file beneath is -/
example : (LoaderG.mk "b".toList [id, fun n => n ++ ".j2".toList]).load
      (oneFile "b/x.j2".toList "inside".toList) "x".toList = .found "inside".toList := by decide +kernel
example : (LoaderG.mk "b".toList [id, fun n => n ++ ".j2".toList]).load
      (oneFile "/etc/x.j2".toList "canary".toList) "/etc/x".toList = .missing := by decide +kernel

/-- spellings of "an owned copy of the base" -/
def loopInits : List (List String) :=
  [["letmutrv=base.to_path_buf()"], ["letmutrv=PathBuf::from(base)"], ["letmutrv=base.to_owned()"],
   ["letmutrv=base.into()"]]

/-- spellings of "push the loop variable" -/
def loopPushes (var : String) : List (List String) :=
  [["rv.push(" ++ var ++ ")"], ["rv=rv.join(" ++ var ++ ")"], ["rv.push(Path::new(" ++ var ++ "))"]]

/-- `safe_join` in the source has the shape `joinLoopG … badSeg useSame` models: `rv` starts as a
    copy of the base; ONE split of the template name (on the extracted separator) is iterated; the
    filter's atoms all look at the loop variable; after the filter the loop body is ONE statement
    that pushes the loop variable itself — the same variable the filter looked at, mentioned once;
    the name and the base are mentioned nowhere else; the result is `Some(rv)`.  (The rules
    extractor already insists on one `split`, one `if`, one `return None`.) -/
theorem safe_join_loop_shape :
    MJ.Gen.c17LoopInit ∈ loopInits ∧
    MJ.Gen.c17LoopIter = "template.split('" ++ String.singleton MJ.Gen.c17SafeJoinSep ++ "')" ∧
    MJ.Gen.c17LoopFilterSubjects = [MJ.Gen.c17LoopVar] ∧
    MJ.Gen.c17LoopAfterFilter ∈ loopPushes MJ.Gen.c17LoopVar ∧
    MJ.Gen.c17LoopVarUsesAfterFilter = 1 ∧
    MJ.Gen.c17LoopTail = "Some(rv)" ∧
    MJ.Gen.c17SafeJoinTemplateUses = 1 ∧ MJ.Gen.c17SafeJoinBaseUses = 1 := by decide +kernel

example : MJ.Gen.c17LoopVar ≠ "" ∧ MJ.Gen.c17LoopAfterFilter ≠ [] := by decide +kernel

/-- the functions of the engine, of minijinja-contrib and of minijinja-autoreload that mention the
    file system or build a path (tests, verification hooks and the build-time embed crate aside):
    `safe_join` and `path_loader` (modelled above) and the autoreloader's `watch_path` /
    `unwatch_path`, which hand a path given by the HOST to the change notifier and never read a
    file or see a template name.  A new fallback, canonicalisation or loader shows up here. -/
def modelledPathProducers : List (String × String) :=
  [("minijinja/loader.rs", "safe_join"), ("minijinja/loader.rs", "path_loader"),
   ("minijinja-autoreload/lib.rs", "watch_path"), ("minijinja-autoreload/lib.rs", "unwatch_path")]

theorem path_producers_as_modelled :
    (∀ s ∈ MJ.Gen.c17PathProducers, s ∈ modelledPathProducers) ∧
    ("minijinja/loader.rs", "safe_join") ∈ MJ.Gen.c17PathProducers ∧
    ("minijinja/loader.rs", "path_loader") ∈ MJ.Gen.c17PathProducers := by decide +kernel

example : MJ.Gen.c17PathProducers.length ≥ 2 := by decide +kernel

inductive PathRole where
  /-- computes a path from (base, template name); no file-system access -/
  | buildsPath
  /-- hands a path to the file system and returns what it read -/
  | readsFile
  /-- registers a path given by the HOST with the change notifier: it never sees a template name,
      reads no file and returns no content -/
  | watchesHostPath
  deriving DecidableEq, Repr

/-- the classification of every path-touching function, with the reason -/
def pathProducerRoles : List ((String × String) × PathRole × String) :=
  [(("minijinja/loader.rs", "safe_join"), .buildsPath,
      "modelled (safeJoin); every path the loader reads comes from here"),
   (("minijinja/loader.rs", "path_loader"), .readsFile,
      "modelled (pathLoader / Loader.load); the only reader; reads exactly safe_join's answer (loader_model_matches_source)"),
   (("minijinja-autoreload/lib.rs", "watch_path"), .watchesHostPath,
      "the host's path goes to notify's Watcher::watch and nowhere else (C17_WATCH_ARGS); called by no code of the crates; a notification only triggers a reload, which goes through the loader again"),
   (("minijinja-autoreload/lib.rs", "unwatch_path"), .watchesHostPath,
      "the host's path goes to notify's Watcher::unwatch and nowhere else (C17_WATCH_ARGS)")]

/-- every path-touching function of the three crates has a role; exactly one of them reads files
    (`path_loader`); the watchers sit in minijinja-autoreload, and their `path` parameter is
    rebound once (`path.as_ref()`), handed to the notifier's `watch` / `unwatch` and mentioned
    nowhere else (3 mentions: parameter, rebinding, argument); minijinja-contrib has no such
    function at all. -/
theorem path_producers_classified :
    (MJ.Gen.c17PathProducers.all fun s => pathProducerRoles.any fun c => c.1 == s) = true ∧
    ((pathProducerRoles.filter fun c => c.2.1 == .readsFile).map (·.1)) = [("minijinja/loader.rs", "path_loader")] ∧
    ((pathProducerRoles.filter fun c => c.2.1 == .watchesHostPath).all fun c => c.1.1 == "minijinja-autoreload/lib.rs") = true ∧
    (MJ.Gen.c17PathProducers.all fun s => !("minijinja-contrib".toList.isPrefixOf s.1.toList)) = true ∧
    MJ.Gen.c17WatchArgs = [("watch_path", "path.as_ref()", "watcher.watch(path,mode)", 3),
                           ("unwatch_path", "path.as_ref()", "watcher.unwatch(path)", 3)] := by decide +kernel

example : pathProducerRoles.length = 4 := by decide +kernel

/-- rows of the regenerated flow table (`C17_NAME_FLOW`): file, function, call, argument text -/
def rowEnvGet : String × String × String × String :=
  ("environment.rs", "get_template", "self.templates.get", "name")
def rowCallback : String × String × String × String :=
  ("environment.rs", "join_template_path", "cb", "name,parent")
def rowStoreCallsLoader : String × String × String × String :=
  ("loader.rs", "get", "loader", "&name where name=name.into()")
def rowIncludeCallsState : String × String × String × String :=
  ("vm/mod.rs", "perform_include", "state.get_template", "name where name=ok!(choice.as_str()")
def rowExtendsJoins : String × String × String × String :=
  ("vm/mod.rs", "load_blocks", "state.env().join_template_path", "name,state.name()")
def rowExtendsGets : String × String × String × String :=
  ("vm/mod.rs", "load_blocks", "state.env().get_template",
   "&joined where joined=state.env().join_template_path(name,state.name())")
def rowStateGets : String × String × String × String :=
  ("vm/state.rs", "get_template", "self.env().get_template", "&self.env().join_template_path(name,self.name())")
def rowStateJoins : String × String × String × String :=
  ("vm/state.rs", "get_template", "self.env().join_template_path", "name,self.name()")

/-- the calls a name passes on its way from an entry to the store, in the source's terms -/
def flowRows : Entry → List (String × String × String × String)
  | .envGetTemplate => [rowEnvGet]
  | .stateGetTemplate => [rowStateJoins, rowStateGets, rowEnvGet]
  | .includeStmt => [rowIncludeCallsState, rowStateJoins, rowStateGets, rowEnvGet]
  | .importStmt => [rowIncludeCallsState, rowStateJoins, rowStateGets, rowEnvGet]
  | .fromImportStmt => [rowIncludeCallsState, rowStateJoins, rowStateGets, rowEnvGet]
  | .extendsStmt => [rowExtendsJoins, rowExtendsGets, rowEnvGet]

def allEntries : List Entry :=
  [.envGetTemplate, .stateGetTemplate, .includeStmt, .importStmt, .fromImportStmt, .extendsStmt]

/-- statement → instruction → fetching function, as `Entry` has it -/
def stmtRoute : Entry → List (String × String × String)
  | .includeStmt => [("codegen", "Stmt::Include", "Include"), ("vm", "Instruction::Include", "perform_include")]
  | .importStmt => [("codegen", "Stmt::Import", "Include"), ("vm", "Instruction::Include", "perform_include")]
  | .fromImportStmt => [("codegen", "Stmt::FromImport", "Include"), ("vm", "Instruction::Include", "perform_include")]
  | .extendsStmt => [("codegen", "Stmt::Extends", "LoadBlocks"), ("vm", "Instruction::LoadBlocks", "load_blocks")]
  | _ => []

/-- **The routes of the model are the routes of the source** (tables `C17_NAME_FLOW`,
    `C17_STMT_ROUTES`, regenerated on every run):
    * every call in the engine by which a template name travels towards the loader — with its
      receiver and its ARGUMENT TEXT — is a row of some `Entry`'s route, the one call of the loader
      closure (`LoaderStore::get`, with the name the store was asked for) or the one call of the
      path-join callback; and every such row exists in the source;
    * on every route the last call is `Environment::get_template(name)` → `templates.get(name)`;
    * a route contains a `join_template_path` call exactly when the model says the name is joined
      (`Entry.joins`), and the joined result — nothing else — is what is fetched;
    * include / import / from-import compile to `Include` → `perform_include`, extends to
      `LoadBlocks` → `load_blocks`, and these two functions are called nowhere else. -/
theorem name_flow_as_modelled :
    (MJ.Gen.c17NameFlow.all fun r => r == rowStoreCallsLoader || r == rowCallback ||
      allEntries.any fun e => (flowRows e).contains r) = true ∧
    (allEntries.all fun e => (flowRows e).all fun r => MJ.Gen.c17NameFlow.contains r) = true ∧
    MJ.Gen.c17NameFlow.contains rowStoreCallsLoader = true ∧ MJ.Gen.c17NameFlow.contains rowCallback = true ∧
    (MJ.Gen.c17NameFlow.filter fun r => r.2.2.1 == "loader").length = 1 ∧
    (allEntries.all fun e => (flowRows e).getLast? == some rowEnvGet) = true ∧
    (allEntries.all fun e => e.joins == ((flowRows e).any fun r => r == rowStateJoins || r == rowExtendsJoins)) = true ∧
    (allEntries.all fun e => (stmtRoute e).all fun r => MJ.Gen.c17StmtRoutes.contains r) = true ∧
    (MJ.Gen.c17StmtRoutes.all fun r => allEntries.any fun e => (stmtRoute e).contains r) = true ∧
    MJ.Gen.c17FetchFnCalls = 2 := by decide +kernel

/-- `allEntries` lists every constructor of `Entry` -/
theorem allEntries_complete (e : Entry) : e ∈ allEntries := by cases e <;> decide

example : MJ.Gen.c17NameFlow.length ≥ 8 ∧ MJ.Gen.c17StmtRoutes.length ≥ 6 := by decide +kernel

/-- `LoaderStore::get` in the source has the shape `Env.get` models: the name is looked up among the
    registered templates, then in the memo map under the SAME name (`name.into()`); on a miss the
    loader closure is called with that name, and what it returned (`loader_result`) — nothing
    else — is compiled and stored under that name.  (Table `C17_STORE_GET`: every call in `get`
    whose arguments mention the name or the loader's result.) -/
theorem store_get_as_modelled :
    MJ.Gen.c17StoreGetCalls =
      [("self.borrowed_templates.get", "name"), (".get_or_try_insert", "&name.clone()"), ("loader", "&name"),
       ("Error::new_not_found", "&name"), ("self.make_owned_template", "name,ok!(loader_result)")] ∧
    MJ.Gen.c17StoreGetNameBindings = ["name.into()"] := ⟨rfl, rfl⟩

example : MJ.Gen.c17StoreGetCalls.length = 5 := by decide +kernel

/-- **Every call of the loader passes through `safe_join`.**  Whatever the entry point
    (`Environment::get_template`, `State::get_template`, include, import, from-import, extends, a
    list of include choices), whatever the path-join callback of the host answers (ANY function of
    the two names — `g.cb` is arbitrary), whatever the store already holds and whatever the file
    system looks like: every path handed to the file system while the request is served is
    `safe_join(configured base, n)` for a name `n` the store was asked for by that request, and
    is confined to the configured base. -/
theorem every_loader_call_passes_through_safe_join (g : Engine) (fs : Snapshot) (r : Req) (p : Str)
    (hp : p ∈ g.fsReads fs r) :
    ∃ n ∈ g.storeNames r, n ∈ g.loaderCalls fs r ∧ safeJoin g.env.loader.base n = some p ∧
      Confined g.env.loader.base n p := by
  obtain ⟨n, hn, hr⟩ := List.mem_flatMap.1 hp
  have hj := Loader.mem_reads.1 hr
  exact ⟨n, loaderCalls_sub_storeNames g fs r n hn, hn, hj, confined_of_safeJoin hj⟩

/-- a callback that answers a climbing name, an include list whose first choice is missing -/
example : (Engine.new "b".toList (some fun _ _ => "../../etc/passwd".toList)).fsReads emptyDisk
    (.one .includeStmt "x".toList "p".toList) = [] := by decide +kernel
example : (Engine.new "b".toList none).fsReads emptyDisk (.choices ["x".toList, "../y".toList, "z".toList] "p".toList)
    = ["b/x".toList, "b/z".toList] := by decide +kernel
example : (Engine.new "b".toList (some docJoin)).fsReads emptyDisk (.one .extendsStmt "../l.html".toList "a/c/p.html".toList)
    = ["b/a/l.html".toList] := by decide +kernel
example : (Engine.new "b".toList (some docJoin)).fsReads emptyDisk (.one .envGetTemplate "../l.html".toList "a/c/p.html".toList)
    = [] := by decide +kernel

/-- the engine with an empty store, over a history all of whose snapshots count -/
theorem new_run_sourced (dir : Str) (cb : Option JoinCb) (h : List (Snapshot × Req)) :
    (∀ s, LoadResult.found s ∈ (Engine.new dir cb).run h →
      ∃ x ∈ h, ∃ n ∈ (Engine.new dir cb).storeNames x.2, Sourced dir (h.map (·.1)) n s) ∧
    StepOk dir (h.map (·.1)) (Engine.new dir cb) ((Engine.new dir cb).after h) :=
  run_sourced dir (h.map (·.1)) h (Engine.new dir cb) (fun _ hx => List.mem_map_of_mem hx) rfl
    (fun _ _ hm => nomatch hm)

theorem sourced_confined {h : List (Snapshot × Req)} {dir n s : Str} (hs : Sourced dir (h.map (·.1)) n s) :
    ∃ y ∈ h, ∃ p, safeJoin dir n = some p ∧ y.1 p = .content s ∧ Confined dir n p :=
  let ⟨_, hfs, p, hp, hf⟩ := hs
  let ⟨y, hy, e⟩ := List.mem_map.1 hfs
  ⟨y, hy, p, hp, e ▸ hf, confined_of_safeJoin hp⟩

/-- **Over any history of requests and file systems**, through any entry point and with any
    callback: every source the engine ever answers is what some snapshot of the history held at
    `safe_join(configured base, n)`, `n` one of the names that request asked the store for —
    a path confined to the configured base. -/
theorem engine_history_confined (dir : Str) (cb : Option JoinCb) (h : List (Snapshot × Req)) (s : Str)
    (hs : LoadResult.found s ∈ (Engine.new dir cb).run h) :
    ∃ x ∈ h, ∃ n ∈ (Engine.new dir cb).storeNames x.2, ∃ y ∈ h, ∃ p,
      safeJoin dir n = some p ∧ y.1 p = .content s ∧ Confined dir n p := by
  obtain ⟨x, hx, n, hn, hsrc⟩ := (new_run_sourced dir cb h).1 s hs
  exact ⟨x, hx, n, hn, sourced_confined hsrc⟩

/-- … and everything `Environment::templates()` lists after any such history is a source some
    snapshot of the history held at `safe_join(configured base, its name)` -/
theorem engine_templates_confined (dir : Str) (cb : Option JoinCb) (h : List (Snapshot × Req)) (n s : Str)
    (hm : (n, s) ∈ ((Engine.new dir cb).after h).env.templates) :
    ∃ y ∈ h, ∃ p, safeJoin dir n = some p ∧ y.1 p = .content s ∧ Confined dir n p :=
  sourced_confined ((new_run_sourced dir cb h).2.store n s hm)

example : ((Engine.new "b".toList none).after
      [(oneFile "b/x".toList "inside".toList, .one .importStmt "x".toList "p".toList),
       (emptyDisk, .one .envGetTemplate "y".toList [])]).env.templates = [("x".toList, "inside".toList)] := by decide +kernel

/-- the second request is answered from the store although the file is gone; the callback's
    climbing answer finds nothing -/
example : (Engine.new "b".toList none).run
      [(oneFile "b/x".toList "inside".toList, .one .importStmt "x".toList "p".toList),
       (oneFile "x".toList "canary".toList, .choices ["y".toList, "x".toList] "p".toList)]
    = [.found "inside".toList, .found "inside".toList] := by decide +kernel
example : (Engine.new "b".toList (some fun n _ => "../".toList ++ n)).run
      [(oneFile "b/../x".toList "canary".toList, .one .includeStmt "x".toList "p".toList)]
    = [.missing] := by decide +kernel

/-- the world at one moment: a directory tree without symbolic links (the property sets them
    aside), the root, the working directory, and what reading each node gives -/
structure World where
  fs : FS
  root : fs.Node
  cwd : fs.Node
  file : fs.Node → ReadResult

/-- where the resolution of a path string starts -/
def World.start (w : World) (p : Str) : w.fs.Node := if isAbs p then w.root else w.cwd

/-- `fs::read_to_string(p)` in that world: the path is resolved component by component -/
def World.snapshot (w : World) : Snapshot := fun p =>
  match walk w.fs (w.start p) (comps p) with
  | none => .notFound
  | some e => w.file e

/-- `s` is the content of a file that lies in the directory the configured base designates in
    that world, or beneath it -/
def World.BeneathBase (w : World) (dir s : Str) : Prop :=
  ∃ b e, walk w.fs (w.start dir) (comps dir) = some b ∧ Below w.fs b e ∧ w.file e = .content s

/-- **C17, as the property states it.**  For every configured base, every path-join callback,
    every history of requests — by the host (`Environment::get_template`, `State::get_template`)
    or computed inside a template (include, a list of include choices, import, from-import,
    extends), with ANY template name — while the world (directory tree, working directory, file
    contents) changes arbitrarily between the requests: whatever source the engine answers is
    the content of a file located in or beneath the directory the configured base designated in
    one of the worlds of the history.  Every other answer is "missing" or "unreadable"
    (`LoadResult` has no fourth case). -/
def C17_full : Prop :=
  ∀ (dir : Str) (cb : Option JoinCb) (h : List (World × Req)) (s : Str),
    LoadResult.found s ∈ (Engine.new dir cb).run (h.map fun x => (x.1.snapshot, x.2)) →
    ∃ x ∈ h, x.1.BeneathBase dir s

theorem world_read_confined (w : World) (dir n p s : Str) (hc : Confined dir n p)
    (hr : w.snapshot p = .content s) : w.BeneathBase dir s := by
  unfold World.snapshot at hr
  cases hw : walk w.fs (w.start p) (comps p) with
  | none => simp [hw] at hr
  | some e =>
    simp only [hw] at hr
    have hstart : w.start p = w.start dir := by simp only [World.start, hc.1]
    rw [hstart] at hw
    obtain ⟨b, hb, hbel⟩ := hc.2.2.2.2.2 w.fs (w.start dir) e hw
    exact ⟨b, e, hb, hbel, hr⟩

theorem C17_model : C17_full := by
  intro dir cb h s hs
  obtain ⟨_, _, n, _, y, hy, p, _, hf, hc⟩ := engine_history_confined dir cb _ s hs
  obtain ⟨x, hx, rfl⟩ := List.mem_map.1 hy
  exact ⟨x, hx, world_read_confined x.1 dir n p s hc hf⟩

def oneFileWorld (cwd at_ : List Str) (content : Str) : World :=
  { fs := freeFS, root := [], cwd := cwd, file := fun e => if e = at_ then .content content else .notFound }

example : (Engine.new "b".toList none).run
      [((oneFileWorld ["w".toList] ["w".toList, "b".toList, "x".toList] "inside".toList).snapshot,
        .one .includeStmt "x".toList "p".toList)] = [.found "inside".toList] := by decide +kernel
example : (oneFileWorld ["w".toList] ["w".toList, "b".toList, "x".toList] "inside".toList).BeneathBase
    "b".toList "inside".toList := by
  obtain ⟨x, hx, hb⟩ := C17_model "b".toList none
    [(oneFileWorld ["w".toList] ["w".toList, "b".toList, "x".toList] "inside".toList, .one .includeStmt "x".toList "p".toList)]
    "inside".toList (by decide +kernel)
  simp only [List.mem_singleton] at hx
  subst hx
  exact hb

/-- the real engine's template fetching as a black box: some state, how it is set up from a
    base directory and a callback, and what a request answers -/
structure Impl where
  St : Type
  init : Str → Option JoinCb → St
  serve : St → Snapshot → Req → LoadResult × St

def Impl.run (I : Impl) (st : I.St) : List (Snapshot × Req) → List LoadResult
  | [] => []
  | (fs, r) :: rest => (I.serve st fs r).1 :: I.run (I.serve st fs r).2 rest

/-- GAP 1 — **the code answers as the model does**: there is a reading of the code's state as a
    model `Engine` (configured base, store, callback) under which set-up and every request agree.
    NOT proved about the Rust code.  Tied by regenerated tables: the segment rules
    (`safe_join_rules_from_source`), the loop's shape (`safe_join_loop_shape`), `path_loader`'s
    shape (`loader_model_matches_source`), the routes (`name_flow_as_modelled`,
    `entry_sites_covered`), no other file-system code (`path_producers_as_modelled`).  Validated
    by the correspondence streams (`sj`, `ld`, `lc`, `tl`, `rt`, `tr`). -/
def AnswersAsModel (I : Impl) : Prop :=
  ∃ abs : I.St → Engine, (∀ dir cb, abs (I.init dir cb) = Engine.new dir cb) ∧
    ∀ st fs r, (I.serve st fs r).1 = ((abs st).serve fs r).1 ∧
      abs (I.serve st fs r).2 = ((abs st).serve fs r).2

/-- GAP 2 — **the operating system resolves a path component by component on a tree**: the
    file-system answers of the history are those of worlds without symbolic links
    (`World.snapshot`; Unix flavour: `comps`, `isAbs` — the transcription of std's
    `Path::components` validated byte for byte by the `comps`/`push` streams).  Validated on a
    real tree by the canary oracle and at system-call level (`tr` stream). -/
def OsWalksTree (h : List (Snapshot × Req)) (ws : List (World × Req)) : Prop :=
  h = ws.map fun x => (x.1.snapshot, x.2)

theorem impl_run_eq (I : Impl) (abs : I.St → Engine)
    (hstep : ∀ st fs r, (I.serve st fs r).1 = ((abs st).serve fs r).1 ∧
      abs (I.serve st fs r).2 = ((abs st).serve fs r).2)
    (h : List (Snapshot × Req)) (st : I.St) : I.run st h = (abs st).run h := by
  fun_induction Impl.run I st h with
  | case1 st => rfl
  | case2 st fs r rest ih => rw [Engine.run, (hstep st fs r).1, ih, (hstep st fs r).2]

/-- **C17_main**: for ANY implementation that answers as the model does (gap 1), on any history
    whose file-system answers are those of link-free worlds (gap 2), every source it answers is
    the content of a file in or beneath the directory its configured base designated in one of
    those worlds.  The two hypotheses are exactly what is not machine-checked about the code. -/
theorem C17_main (I : Impl) (gap1 : AnswersAsModel I)
    (dir : Str) (cb : Option JoinCb) (h : List (Snapshot × Req)) (ws : List (World × Req))
    (gap2 : OsWalksTree h ws) (s : Str) (hs : LoadResult.found s ∈ I.run (I.init dir cb) h) :
    ∃ x ∈ ws, x.1.BeneathBase dir s := by
  obtain ⟨abs, hinit, hstep⟩ := gap1
  rw [impl_run_eq I abs hstep, hinit, gap2] at hs
  exact C17_model dir cb ws s hs

/-- the model itself is an implementation that answers as the model does -/
def modelImpl : Impl := ⟨Engine, Engine.new, Engine.serve⟩
example : AnswersAsModel modelImpl := ⟨id, fun _ _ => rfl, fun _ _ _ => ⟨rfl, rfl⟩⟩
/-- … and one that serves the unfiltered name does not (the hypothesis is not vacuous) -/
example : ¬ AnswersAsModel ⟨Unit, fun _ _ => (), fun _ fs r =>
    (match r with | .one _ n _ => (match fs n with | .content s => .found s | _ => .missing) | _ => .missing, ())⟩ := by
  intro ⟨abs, hinit, hstep⟩
  have h := (hstep () (oneFile "../x".toList "canary".toList) (.one .envGetTemplate "../x".toList [])).1
  have hi := hinit "b".toList none
  simp only at hi
  rw [hi] at h
  revert h
  decide +kernel

end MJ.C17
