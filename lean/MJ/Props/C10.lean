import MJ.Proofs.LexerTop
import MJ.Proofs.LexerLine
import MJ.Proofs.LexerAC
import MJ.Proofs.LexerPieces
import MJ.Proofs.LexerRules
import MJ.Proofs.LexerTables
/-!
# C10 — text is verbatim and whitespace control exact under any delimiter configuration

Property theorems only (helper lemmas live in `MJ/Proofs/Lexer*.lean`).

* `Lexer.lex cfg d find src` is the model of the root tokenizer of `compiler/lexer.rs`
  (`MJ/Model/Lexer.lean`); `find` is the start-marker search — `Lexer.findStart d` is what the
  tokenizer uses: `find_start_marker_memchr` for the default delimiters and the model of the
  Aho-Corasick path (`acFind d`) otherwise; both are the leftmost-longest search `findLL d`
  (`findStart_eq_findLL`);
* `Lexer.Tmpl` is a template as a head text and (tag, text) pairs; tags are variable and block tags
  whose interior is any token list (`Lexer.Tok`: blanks, identifiers, decimal integers, string
  literals with escapes, operators, brackets — e.g. `{{ v }}`, `{{v}}`, `{% if t %}`,
  `{{ {'a': '}}'} }}`), comments with an arbitrary body (empty, blank, made of `-`/`+` characters,
  …) and raw blocks `{% raw %}…{% endraw %}` / `{%raw%}…{%endraw%}`, every marker in
  {none, -, +} on every side; `unparse d` writes it with the delimiters `d`;
* `Lexer.specRender` applies the five whitespace rules of the statement locally
  (`MJ/Model/LexerSpec.lean`); `renderRes vm bm` is the text a render prints when a variable tag
  prints `vm` and a block tag `bm`;
* `Lexer.delimFree d tm`: no start delimiter of `d` begins inside a text of `tm` (also not
  straddling into the next tag), at a tag the tag's own start delimiter is the longest match, raw
  content contains no block start, and every tag reads back as written (`tagOk`): the interior of
  a variable / block tag is a well-formed token list in which the tag does not end early
  (`interiorOk`: no token at bracket depth 0 starts with the end delimiter or with `-`/`+` directly
  in front of it — `{{ x - }}` is fine, `{{ x -}}` is the tag with a right marker), a comment body
  does not contain the comment end and is not ambiguous with a marker (`{#-#}` is the comment with
  a *left* `-`; `{# - #}` and `{#- - -#}` are fine; `<!---->` is `<!--` + `-` + an unclosed body), and
  an unmarked closing side is not read as a marked one (`closeOk`: the end delimiter `--` followed
  by the text `-x`);
* `Lexer.goodDelims d`: pairwise distinct non-empty start delimiters (block, variable, comment and,
  when set, the line statement and line comment prefixes) that do not begin with whitespace, line
  prefixes that do not end in a line break, non-empty end delimiters whose last character that is
  not horizontal whitespace is not a line break, variable / block end delimiters that do not begin
  with ASCII whitespace.  Every other set `SyntaxConfigBuilder::build` accepts is covered: end
  delimiters may begin with `-`/`+` (`-->`), digits, letters, quotes, operators, the comment end
  with whitespace; they may end in blanks.  What stays outside and why (real code probed at each
  point, see lib/props/c10.py META "not covered"): whitespace that belongs to a delimiter is at the
  same time whitespace a rule of the statement removes (a start delimiter ` {%` behind `-}}`, a
  trailing `\n` of the template that is the end of `%}\n`), so the statement contradicts itself
  there; a variable / block end delimiter that begins with ASCII whitespace is never found (every
  tag is a syntax error);
* line statements and line comments are tags of their own (`Kind.lineStmt`, `Kind.lineComment`): the
  tag is the prefix and the interior / comment text, the blanks up to the end of the line and the
  line break are the beginning of the text behind it; the rules treat them as the block / comment
  tag occupying that line, i.e. with `trim_blocks` and `lstrip_blocks` on for this tag (`cfgFor`), a
  line statement also takes the blanks up to the line break (`lineCut`).
-/
namespace MJ.C10
open MJ.Lexer

/-- Full-strength statement for the model: for all 8 settings, all marker placements, all line
    endings (texts are arbitrary character lists), every well-formed delimiter set and every
    delimiter-free template, the tokenizer's text output is exactly what the five rules say. -/
def C10_full : Prop :=
  ∀ (cfg : Cfg) (vm bm : List Char) (d : Delims) (tm : Tmpl),
    goodDelims d = true → delimFree d tm = true →
    renderRes vm bm (lex cfg d (findStart d) (unparse d tm)) = some (specRender cfg vm bm tm)

/-- The search the tokenizer uses is the leftmost-longest search for every delimiter set that
    `SyntaxConfigBuilder::build` accepts (`validatedStartDelims d ≠ none`): `findStart d` is
    `find_start_marker_memchr` for the default delimiters and otherwise the model of the
    Aho-Corasick path as `syntax.rs` builds it — the validated pattern list, `pattern_to_marker`,
    all overlapping matches in the order of their end offsets, and the `max_pattern_len` loop. -/
theorem findStart_is_leftmostLongest (d : Delims) (pats : List (List Char))
    (hv : validatedStartDelims d = some pats) : LeftmostLongest d (findStart d) := by
  rw [findStart_eq_findLL_of_validated hv]; exact findLL_leftmostLongest d

example : validatedStartDelims ⟨['<', '<'], ['>', '>'], ['<', '<', '<', '<'], ['>', '>'], ['<', '<', '#'], ['>'], ['#'], ['#', '#']⟩ =
    some [['<', '<', '<', '<'], ['<', '<'], ['<', '<', '#'], ['#'], ['#', '#']] := by decide +kernel

/-- invalid sets are rejected: duplicate or empty start delimiters -/
example : validatedStartDelims ⟨['{', '{'], ['}'], ['{', '{'], ['}'], ['{', '#'], ['}'], [], []⟩ = none ∧
    validatedStartDelims ⟨['{', '%'], ['}'], [], ['}'], ['{', '#'], ['}'], [], []⟩ = none := by decide +kernel

theorem findStart_eq_findLL (d : Delims) (hg : goodDelims d = true) : findStart d = findLL d :=
  findStart_eq_findLL_of_validated (validated_of_good (good_of_goodDelims hg))

theorem lex_eq_spec : C10_full := by
  intro cfg vm bm d tm hg hf
  rw [findStart_eq_findLL d hg]
  exact lex_spec cfg vm bm (good_of_goodDelims hg) tm hf

/-- hypotheses are satisfiable: default delimiters, trim_blocks + lstrip_blocks,
    `a\n  {% if t %}\r\n{{- v +}} x {# c -#}\n` -/
example : goodDelims defaultDelims = true ∧
    delimFree defaultDelims ⟨['a', '\n', ' ', ' '],
      [(⟨.block (vocabIf false), .none, .none⟩, ['\r', '\n']), (⟨.var (vocabV false), .minus, .plus⟩, [' ', 'x', ' ']),
       (⟨.comment [' ', 'c', ' '], .none, .minus⟩, ['\n'])]⟩ = true := by decide +kernel

/-- degenerate tags are inside the hypotheses: `a{#-#} {#+#}\n{##}{#--#}{# - #}{#- - -#}{{-v-}}{%-if t-%}\n{%-raw-%}{%-endraw-%}` -/
example : delimFree defaultDelims ⟨['a'],
      [(⟨.comment [], .minus, .none⟩, [' ']), (⟨.comment [], .plus, .none⟩, ['\n']),
       (⟨.comment [], .none, .none⟩, []), (⟨.comment [], .minus, .minus⟩, []),
       (⟨.comment [' ', '-', ' '], .none, .none⟩, []), (⟨.comment [' ', '-', ' '], .minus, .minus⟩, []),
       (⟨.var (vocabV true), .minus, .minus⟩, []), (⟨.block (vocabIf true), .minus, .minus⟩, ['\n']),
       (⟨.raw [] .minus .minus true, .minus, .minus⟩, [])]⟩ = true := by decide +kernel

/-- the ambiguous writing is excluded: "empty body, right `-` only" unparses to `{#-#}`, which
    is the comment with a left marker -/
example : delimFree defaultDelims ⟨[], [(⟨.comment [], .none, .minus⟩, [])]⟩ = false := by decide +kernel

/-- comment delimiters `<!--` / `-->`: the comment end begins with `-` -/
def html : Delims :=
  { bs := ['{', '{', '%'], be := ['%', '}', '}'], vs := ['<', '<', '<'], ve := ['>', '>', '>'],
    cs := ['<', '!', '-', '-'], ce := ['-', '-', '>'], ls := [], lc := [] }

/-- all three end delimiters begin with `-` -/
def dashEnds : Delims :=
  { bs := ['<', '%'], be := ['-', '%', '>'], vs := ['<', '='], ve := ['-', '>'],
    cs := ['<', '#'], ce := ['-', '#', '>'], ls := [], lc := [] }

/-- end delimiters that end in horizontal whitespace, a comment end that begins with a blank -/
def blankEnds : Delims :=
  { bs := ['{', '%'], be := ['%', '}', ' '], vs := ['{', '{'], ve := ['}', '}', '\t'],
    cs := ['{', '#'], ce := [' ', '#', '}'], ls := [], lc := [] }

/-- `lex_eq_spec` covers end delimiters that begin with `-`/`+`, a digit or a letter, comment ends
    that begin with whitespace and end delimiters that end in horizontal whitespace:
    `x<!--+-->\n](` (the empty comment with a left marker of KNOWN_FINDINGS 2cdfe64),
    `a <% raw -%> r <% endraw -%> <= v --> <%-if t-%>\n<#--#>\n`,
    `a\n {% if t %} \n {# c #}  {{- v }}\t` -/
example : goodDelims html = true ∧ goodDelims dashEnds = true ∧ goodDelims blankEnds = true ∧
    goodDelims ⟨['<', '1'], ['1', '>'], ['<', '2'], ['2', '>'], ['<', '3'], ['3', '>'], [], []⟩ = true ∧
    goodDelims ⟨['<', 'b'], ['b', '>'], ['<', 'v'], ['v', '>'], ['<', 'c'], ['c', '>'], [], []⟩ = true ∧
    delimFree html ⟨['x'], [(⟨.comment [], .plus, .none⟩, ['\n', ']', '('])]⟩ = true ∧
    delimFree dashEnds ⟨['a', ' '],
      [(⟨.raw [' ', 'r', ' '] .none .none false, .none, .none⟩, [' ']), (⟨.var (vocabV false), .none, .minus⟩, [' ']),
       (⟨.block (vocabIf true), .minus, .none⟩, ['\n']), (⟨.comment [], .minus, .none⟩, ['\n'])]⟩ = true ∧
    delimFree blankEnds ⟨['a', '\n', ' '],
      [(⟨.block (vocabIf false), .none, .none⟩, ['\n', ' ']), (⟨.comment [' ', 'c'], .none, .none⟩, [' ']),
       (⟨.var (vocabV false), .minus, .none⟩, [])]⟩ = true := by decide +kernel

/-- evaluated on the model: the whitespace behind `<!--+-->` stays, `<% raw -%>` is a raw tag -/
example :
    renderRes ['V'] [] (lex ⟨false, false, true⟩ html (findStart html)
      ['x', '<', '!', '-', '-', '+', '-', '-', '>', '\n', ']', '(']) = some ['x', '\n', ']', '('] ∧
    renderRes ['V'] [] (lex ⟨false, false, true⟩ dashEnds (findStart dashEnds)
      "a <% raw -%> r <% endraw -%> b".toList) = some "a  r  b".toList := by decide +kernel

/-- excluded, because the source reads differently: `<!---->` is a comment with a left `-`
    that never ends, `<= v --` followed by `-x` (end delimiter `--`) is read as `-` + `--` -/
example : delimFree html ⟨[], [(⟨.comment [], .none, .none⟩, [])]⟩ = false ∧
    closeOk ['-', '-'] .none ['-', 'x'] = false := by decide +kernel

/-- the same with the search as a parameter: any search that is leftmost-longest in the sense of
    `LeftmostLongest` (leftmost start, then longest pattern, line statement prefix only at line
    start) gives the rules -/
theorem lex_eq_spec_of_leftmostLongest (cfg : Cfg) (vm bm : List Char) (d : Delims) (find : FindStart)
    (tm : Tmpl) (hfind : LeftmostLongest d find) (hg : goodDelims d = true) (hf : delimFree d tm = true) :
    renderRes vm bm (lex cfg d find (unparse d tm)) = some (specRender cfg vm bm tm) := by
  rw [leftmostLongest_unique hfind]
  exact lex_spec cfg vm bm (good_of_goodDelims hg) tm hf

example (d : Delims) : LeftmostLongest d (findLL d) := findLL_leftmostLongest d

/-- `find_start_marker_memchr` meets the specification of the search for the default delimiters -/
theorem memchr_is_leftmostLongest :
    LeftmostLongest defaultDelims (fun _ rest => findStartDefault rest) := by
  rw [findStartDefault_eq]; exact findLL_leftmostLongest _

/-- `tokenize_block_or_var` finds the end of a tag exactly behind its interior: for every end
    delimiter whose first character is not ASCII whitespace (it may be `-`, `+`, a digit, a letter,
    a quote …), every well-formed token list (blanks, identifiers, integers, string literals with
    escapes, operators, balanced brackets) in which no token at bracket depth 0 starts like the end
    of the tag, and every marker `m`, scanning `interior ++ m ++ end ++ x` stops with `x` unread and
    reports `m` — provided an unmarked end is not read as a marked one (`closeOk`: the end
    delimiter `--` followed by the text `-x` is, by the lexer as by Jinja2, read as `-` + `--`). -/
theorem interior_end_found (e : List Char) (ts : List Tok) (m : Mark) (x : List Char)
    (he : headOk e = true) (h : interiorOk e 0 ts (m.src ++ (e ++ x)) = true)
    (hc : closeOk e m x = true) :
    scanTag e false .top 0 (srcs ts ++ (m.src ++ (e ++ x))) = .found x m.ws :=
  Lexer.interior_end_found he ts m x h hc

/-- end delimiters that begin with a marker character, a digit or a letter: `<= v ->`, `<= v -->`
    (marked), `{{ 1 2}`, `{{ v end`; the ambiguous `--` + `-x` is excluded by `closeOk` -/
example :
    headOk ['-', '>'] = true ∧ interiorOk ['-', '>'] 0 [.ws [' '], .ident ['v'], .ws [' ']] ['-', '>', 'z'] = true ∧
      closeOk ['-', '>'] .none ['z'] = true ∧
    interiorOk ['-', '>'] 0 [.ws [' '], .ident ['v'], .ws [' ']] ['-', '-', '>', 'z'] = true ∧
    headOk ['2', '}'] = true ∧ interiorOk ['2', '}'] 0 [.ws [' '], .int ['1'], .ws [' ']] ['2', '}'] = true ∧
    interiorOk ['2', '}'] 0 [.ws [' '], .int ['1']] ['2', '}'] = false ∧
    headOk ['e', 'n', 'd'] = true ∧ interiorOk ['e', 'n', 'd'] 0 [.ws [' '], .ident ['v'], .ws [' ']] ['e', 'n', 'd'] = true ∧
    closeOk ['-', '-'] .none ['-', 'x'] = false ∧ closeOk ['-', '-'] .none ['x'] = true ∧
    closeOk ['-', '-'] .minus ['-', 'x'] = true := by decide +kernel

/-- `{{ {'a': '}}'} }}`: the end delimiter inside a string inside braces does not end the tag;
    `{{ x - }}` has an operator at its end, `{{ 1 -}}` a marker -/
example :
    interiorOk ['}', '}'] 0 [.ws [' '], .op '{', .str '\'' ['a'], .op ':', .ws [' '], .str '\'' ['}', '}'], .op '}', .ws [' ']]
      ['}', '}', 'z'] = true ∧
    interiorOk ['}', '}'] 0 [.ws [' '], .ident ['x'], .ws [' '], .op '-', .ws [' ']] ['}', '}'] = true ∧
    interiorOk ['}', '}'] 0 [.ws [' '], .int ['1'], .ws [' ']] ['-', '}', '}'] = true ∧
    interiorOk ['}', '}'] 0 [.ws [' '], .ident ['x'], .ws [' '], .op '-'] ['}', '}'] = false := by decide +kernel

/-- A string literal is read as one token, whatever it contains: for every quote, every body that
    `utils::unescape` accepts (`strBodyOk`: no unescaped quote; `\uXXXX` with surrogates only as a
    high one directly followed by a low one, `\xXX`, octal escapes that fit a byte, any other
    character behind a backslash) and every end delimiter, scanning `"body"rest` inside a tag
    continues behind the closing quote — end delimiters, start delimiters and markers inside the
    string do not end the tag (`{{ "}}" }}`, `{% if x == "%}" %}`).  The string must not itself
    begin like the end of the tag (an end delimiter that begins with a quote). -/
theorem string_literal_is_one_token (e : List Char) (bal : Int) (q : Char) (body rest : List Char)
    (hq : q = '\'' ∨ q = '"') (hb : strBodyOk q 0 body = true)
    (hne : bal ≠ 0 ∨ endHere e (q :: (body ++ [q] ++ rest)) = false) :
    scanTag e false .top bal (q :: (body ++ [q]) ++ rest) = scanTag e false .top bal rest :=
  tok_str q body rest hq hb ⟨noLineEnd_false _ _, noEnd_of (Or.inr hne)⟩

/-- `"}}"`, `'\u007d}'`, a surrogate pair, `\x41\101\n\q`, `\u+041`; rejected: a lone surrogate,
    a high surrogate followed by text, `\400`, three hex digits, an unescaped quote -/
example :
    strBodyOk '"' 0 ['}', '}'] = true ∧ strBodyOk '\'' 0 "\\u007d}".toList = true ∧
    strBodyOk '"' 0 "\\ud83d\\ude00".toList = true ∧ strBodyOk '"' 0 "\\x41\\101\\n\\q\\\"".toList = true ∧
    strBodyOk '"' 0 "\\u+041\\x+f\\08".toList = true ∧
    strBodyOk '"' 0 "\\ud83d".toList = false ∧ strBodyOk '"' 0 "\\ud83dx".toList = false ∧
    strBodyOk '"' 0 "\\ude00\\ud83d".toList = false ∧ strBodyOk '"' 0 "\\400".toList = false ∧
    strBodyOk '"' 0 "\\u123".toList = false ∧ strBodyOk '"' 0 "a\"b".toList = false := by decide +kernel

/-- `{{ "}}" }}`, `{% if x == "%}" %}` and `{{ '\ud83d\ude00}}' -}}` are tags that read back as written -/
example :
    interiorOk ['}', '}'] 0 [.ws [' '], .str '"' ['}', '}'], .ws [' ']] ['}', '}', 'z'] = true ∧
    interiorOk ['%', '}'] 0 [.ws [' '], .ident ['i', 'f'], .ws [' '], .ident ['x'], .ws [' '], .op2 '=' '=', .ws [' '],
      .str '"' ['%', '}'], .ws [' ']] ['%', '}'] = true ∧
    interiorOk ['}', '}'] 0 [.ws [' '], .str '\'' "\\ud83d\\ude00}}".toList, .ws [' ']] ['-', '}', '}'] = true ∧
    delimFree defaultDelims ⟨['a'], [(⟨.var [.ws [' '], .str '"' "\\u007d}".toList, .ws [' ']], .none, .minus⟩, [' ', 'b'])]⟩ = true := by
  decide +kernel

/-- `scanPieces` (the expression-level lexer with the text of every token it emits and every blank
    it skips) is `scanTag` with bookkeeping: it ends the tag at the same place. -/
theorem pieces_same_end (e : List Char) (line : Bool) (s : List Char) (m : Mode) (bal : Int) (cur : List Char) :
    (scanPieces e line m bal s cur).2 = scanTag e line m bal s := scanPieces_snd e line s m bal cur

/-- **The lexer never loses or invents a character inside a tag**: whenever `tokenize_block_or_var`
    finds the end of an ordinary tag, the texts of the tokens it emitted and of the whitespace it
    skipped, concatenated in order, followed by the marker, the end delimiter and what is left
    unread, are exactly the input — for every end delimiter and every input (well-formed or not,
    any mixture of identifiers, numbers in every notation, string literals with escapes, one and
    two character operators, brackets). -/
theorem tokens_concat_verbatim (e s rest : List Char) (ws : Ws)
    (h : scanTag e false .top 0 s = .found rest ws) :
    s = piecesSrc (scanPieces e false .top 0 s []).1 ++ (ws.src ++ (e ++ rest)) := by
  have := scanPieces_concat e s .top 0 [] rest ws (by rw [scanPieces_snd]; exact h)
  simpa using this

/-- `{{ a.b //2 -}}x`: tokens `a`, `.`, `b`, `//`, `2` and three blanks; `0x1f**'}}'` -/
example :
    (scanPieces ['}', '}'] false .top 0 " a.b //2 -}}x".toList []).1 =
      [.blank [' '], .tok ['a'], .tok ['.'], .tok ['b'], .blank [' '], .tok ['/', '/'], .tok ['2'], .blank [' ']] ∧
    (scanPieces ['}', '}'] false .top 0 "0x1f**'}}'}}".toList []) =
      ([.tok "0x1f".toList, .tok ['*', '*'], .tok "'}}'".toList], .found [] .dflt) := by decide +kernel

/-- … and for a tag that reads back as written the pieces are a partition of its interior: their
    concatenation is the interior as written (`srcs ts`), nothing of the marker, the end delimiter
    or the text behind the tag is part of a token. -/
theorem interior_is_partitioned (e : List Char) (ts : List Tok) (m : Mark) (x : List Char)
    (he : headOk e = true) (h : interiorOk e 0 ts (m.src ++ (e ++ x)) = true) (hc : closeOk e m x = true) :
    piecesSrc (scanPieces e false .top 0 (srcs ts ++ (m.src ++ (e ++ x))) []).1 = srcs ts := by
  have hend := interior_end_found e ts m x he h hc
  have := tokens_concat_verbatim e _ x m.ws hend
  have hm : m.ws.src = m.src := by cases m <;> rfl
  rw [hm] at this
  exact (List.append_cancel_right this).symm

/-- A line statement ends at the end of its line: behind a well-formed interior (brackets closed;
    at depth 0 blanks contain no line break and are followed by another token) the blanks up to the
    line break and the line break itself (`\n`, `\r\n`, `\r`) or the end of the input are
    consumed, nothing more. -/
theorem line_interior_end_found (ts : List Tok) (fol : List Char)
    (h : lineInteriorOk 0 ts fol = true) (hf : lineFollow fol = true) :
    scanTag [] true .top 0 (srcs ts ++ fol) = .found (fol.drop (lineCut fol)) .dflt :=
  Lexer.line_interior_end_found ts fol h hf

example : lineInteriorOk 0 [.ws [' '], .ident ['i', 'f'], .ws [' '], .op '(', .ident ['t'], .ws ['\n'], .op ')']
      [' ', '\r', '\n', 'x'] = true ∧ lineFollow [' ', '\r', '\n', 'x'] = true ∧
    lineCut [' ', '\r', '\n', 'x'] = 3 := by decide +kernel

/-- default delimiters with the line statement prefix `#` and the line comment prefix `##` -/
def lineDelims : Delims := { defaultDelims with ls := ['#'], lc := ['#', '#'] }

/-- `lex_eq_spec` covers configurations with line prefixes:
    `a\n  # if t  \r\nb {{ v }}\n## note\n# endif` (last line without a line break) -/
example : goodDelims lineDelims = true ∧
    delimFree lineDelims ⟨['a', '\n', ' ', ' '],
      [(⟨.lineStmt (vocabIf false).dropLast, .none, .none⟩, [' ', ' ', '\r', '\n', 'b', ' ']),
       (⟨.var (vocabV false), .none, .none⟩, ['\n']),
       (⟨.lineComment [' ', 'n', 'o', 't', 'e'], .none, .none⟩, ['\n']),
       (⟨.lineStmt (vocabEndif false).dropLast, .none, .none⟩, [])]⟩ = true := by decide +kernel

/-- A line statement / line comment behaves as the block / comment tag occupying that whole line:
    with `trim_blocks` and `lstrip_blocks` on and nothing but the line break behind the line
    statements, the rules give the same text for the template and for its tag form (every line
    statement written as the block tag, every line comment as the comment tag, in place). -/
theorem line_statement_as_tag (cfg : Cfg) (vm bm : List Char) (tm : Tmpl) (h1 : cfg.trim = true)
    (h2 : cfg.lstrip = true) (hnt : noTrail tm.tail = true) (hm : lineMarksNone tm.tail = true) :
    specRender cfg vm bm tm = specRender cfg vm bm tm.tagForm :=
  specRender_tagForm cfg vm bm tm h1 h2 hnt hm

/-- … and so does the tokenizer: lexing the line form and lexing the tag form give the same text -/
theorem line_lex_as_tag (cfg : Cfg) (vm bm : List Char) (d : Delims) (tm : Tmpl)
    (hg : goodDelims d = true) (hf : delimFree d tm = true) (hf' : delimFree d tm.tagForm = true)
    (h1 : cfg.trim = true) (h2 : cfg.lstrip = true) (hnt : noTrail tm.tail = true)
    (hm : lineMarksNone tm.tail = true) :
    renderRes vm bm (lex cfg d (findStart d) (unparse d tm)) =
      renderRes vm bm (lex cfg d (findStart d) (unparse d tm.tagForm)) := by
  rw [lex_eq_spec cfg vm bm d tm hg hf, lex_eq_spec cfg vm bm d tm.tagForm hg hf',
    line_statement_as_tag cfg vm bm tm h1 h2 hnt hm]

/-- hypotheses are satisfiable: `x\n # if t\ny\n## c\n# endif\n` and its tag form
    `x\n {% if t%}\ny\n{# c#}\n{% endif%}\n` -/
example :
    (let tm : Tmpl := ⟨['x', '\n', ' '],
      [(⟨.lineStmt (vocabIf false).dropLast, .none, .none⟩, ['\n', 'y', '\n']),
       (⟨.lineComment [' ', 'c'], .none, .none⟩, ['\n']),
       (⟨.lineStmt (vocabEndif false).dropLast, .none, .none⟩, ['\n'])]⟩
     delimFree lineDelims tm = true ∧ delimFree lineDelims tm.tagForm = true ∧ noTrail tm.tail = true ∧
       lineMarksNone tm.tail = true) := by decide +kernel

/-- Text without a start marker is reproduced byte for byte, except for the one trailing line
    break that goes unless `keep_trailing_newline` is set. -/
theorem verbatim (cfg : Cfg) (vm bm : List Char) (d : Delims) (t : List Char)
    (hg : goodDelims d = true) (hf : noStartIn d t [] = true) :
    renderRes vm bm (lex cfg d (findStart d) t) = some (if cfg.keep then t else stripTrailingNl t) := by
  have := lex_eq_spec cfg vm bm d ⟨t, []⟩ hg (by simpa [delimFree, tailFree] using hf)
  simp only [unparse, unparseTail, List.append_nil] at this
  rw [this]
  cases hk : cfg.keep <;> simp [specRender, stripFinal, specTail, hk]

example : goodDelims defaultDelims = true ∧ noStartIn defaultDelims ['{', ' ', '{', '\n', '}', '%', '}', '\r', '\n'] [] = true := by
  decide +kernel

/-- What `tokenize_root` emits in front of a tag is the text without exactly the suffix the rules
    name for that side: all trailing whitespace for `-`, the horizontal whitespace back to the
    start of the line for an unmarked block/comment/raw tag under `lstrip_blocks`, nothing
    otherwise (`rightCut`).  `l` characters were already removed on the left. -/
theorem lead_rule (cfg : Cfg) (first : Bool) (ctx : List Char) (g : Tag) (t : List Char)
    (hc : CtxInv first ctx t) (hg : g.isLine = false) (l : Nat) :
    leadOf cfg g.l.ws g.marker (t.reverse ++ ctx) (t.drop l) =
      (t.drop l).take (t.length - l - rightCut cfg first g.blockish g.l t) :=
  Tag.marker_blockish g ▸ leadOf_eq_cut cfg cfg t hc g.l g.marker (by simp [g.marker_isLine.trans hg]) l

/-- … and in front of a line statement / line comment it is the text without the blanks back to
    the start of the line, whatever the `lstrip_blocks` setting. -/
theorem lead_rule_line (cfg : Cfg) (first : Bool) (ctx : List Char) (marker : Marker) (t : List Char)
    (hc : CtxInv first ctx t) (hm : marker = .lineStmt ∨ marker = .lineComment) (l : Nat) :
    leadOf cfg .dflt marker (t.reverse ++ ctx) (t.drop l) =
      (t.drop l).take (t.length - l - (if atLineStart first t then sufCount isHws t else 0)) := by
  refine (leadOf_eq_cut cfg { cfg with lstrip := true } t hc .none marker
    (by rcases hm with rfl | rfl <;> simp [Marker.isLine]) l).trans ?_
  rcases hm with rfl | rfl <;> simp [cut, rightCut]

example : CtxOk true [] := Or.inl ⟨rfl, rfl⟩
example : CtxOk false ['}', '%'] := Or.inr ⟨rfl, [], '}', ['%'], rfl, by simp, by decide⟩
example : CtxOk false [' ', '}', '%'] := Or.inr ⟨rfl, [' '], '}', ['%'], rfl, by simp [isHws, isWs, isNl], by decide⟩
example : CtxInv false [' ', 'c', '#', '#'] ['\n', ' ', ' '] := Or.inr ⟨'\n', by simp, by decide⟩

/-- What is skipped behind a block/comment/raw tag (`handle_tail_ws`: now, or by the pending
    `trim_leading_whitespace`) is exactly the prefix the rules name: all leading whitespace for
    `-`, one line break under `trim_blocks` for an unmarked tag, nothing for `+` (`leftCut`). -/
theorem tail_rule (cfg : Cfg) (m : Mark) (t' more : List Char) (hm : NoWsHead more) :
    leftCut cfg true m t' =
      (if (tailWs cfg m.ws (t' ++ more)).2 then wsPre t' else (tailWs cfg m.ws (t' ++ more)).1) := by
  rw [tailWs_eq cfg m t' more hm, leftCut_eq]

example : NoWsHead ['{', '{'] := Or.inr ⟨'{', ['{'], rfl, by decide⟩

/-- One round of the root loop on `text ++ tag ++ …`: it emits the text minus both cuts, then the
    tag, and continues behind the tag with the next text's left cut applied or pending. -/
theorem round_rule (cfg : Cfg) (d : Delims) (hg : goodDelims d = true) (first : Bool) (ctx : List Char)
    (t : List Char) (hc : CtxInv first ctx t) (l : Nat) (hl : l ≤ t.length) (g : Tag) (t' : List Char)
    (rest : List (Tag × List Char)) (hfree : tailFree d first t ((g, t') :: rest) = true) :
    step cfg d (findStart d) ((t.take l).reverse ++ ctx) (t.drop l ++ unparseTail d ((g, t') :: rest)) false =
      .next (dataOut (cut l (rightCutG cfg first g t) t) ++ tagOuts cfg g)
        ((t'.take (nextKG cfg g t')).reverse ++ ((g.src d).reverse ++ (t.reverse ++ ctx)))
        (t'.drop (nextKG cfg g t') ++ unparseTail d rest) (nextTf g.r) := by
  rw [findStart_eq_findLL d hg]
  exact step_text_tag cfg (good_of_goodDelims hg) t hc l g t' rest hfree

/-- A raw block emits its content: what is printed for the tag is the content minus the cuts the
    rules name for the inner sides of `{% raw %}` and `{% endraw %}` … -/
theorem raw_rule (cfg : Cfg) (vm bm : List Char) (d : Delims) (h t' c : List Char) (l ri l2 r : Mark)
    (tight : Bool)
    (hg : goodDelims d = true) (hf : delimFree d ⟨h, [(⟨.raw c ri l2 tight, l, r⟩, t')]⟩ = true) :
    ∃ a b, renderRes vm bm (lex cfg d (findStart d) (unparse d ⟨h, [(⟨.raw c ri l2 tight, l, r⟩, t')]⟩)) =
      some (a ++ cut (leftCut cfg true ri c) (rightCut cfg false true l2 c) c ++ b) := by
  rw [lex_eq_spec cfg vm bm d _ hg hf]
  cases hk : cfg.keep
  · exact ⟨cut 0 (rightCut cfg true true l h) h,
      (stripTrailingNl t').drop (leftCut cfg true r (stripTrailingNl t')),
      by simp [specRender, stripFinal, mapLastText, specTail, tagOut, hk, Tag.blockish, rightCutG, leftCutG, cfgFor,
        Tag.isLine, List.append_assoc]⟩
  · exact ⟨cut 0 (rightCut cfg true true l h) h, t'.drop (leftCut cfg true r t'),
      by simp [specRender, specTail, tagOut, hk, Tag.blockish, rightCutG, leftCutG, cfgFor, Tag.isLine,
        List.append_assoc]⟩

/-- … and the content is verbatim whenever no rule applies to those sides: `+` markers, or no
    marker with `trim_blocks` (start side) / `lstrip_blocks` (end side) off.  In particular the
    content is never scanned for tags. -/
theorem raw_verbatim (cfg : Cfg) (c : List Char) (ri l2 : Mark)
    (h1 : ri = .plus ∨ (ri = .none ∧ cfg.trim = false))
    (h2 : l2 = .plus ∨ (l2 = .none ∧ cfg.lstrip = false)) :
    cut (leftCut cfg true ri c) (rightCut cfg false true l2 c) c = c := by
  have hl : leftCut cfg true ri c = 0 := by
    rcases h1 with rfl | ⟨rfl, h⟩ <;> simp [leftCut, *]
  have hr : rightCut cfg false true l2 c = 0 := by
    rcases h2 with rfl | ⟨rfl, h⟩ <;> simp [rightCut, *]
  rw [hl, hr, cut_zero_right]; rfl

example : delimFree defaultDelims ⟨['x'], [(⟨.raw ['{', '{', ' ', 'v', ' ', '}', '}', '\n', ' '] .plus .none false, .none, .minus⟩, [' '])]⟩ = true := by
  decide +kernel

/-- Rewriting a template's tags to other delimiters does not change what it renders, as long as
    its texts contain no start delimiter of either set. -/
theorem delim_invariance (cfg : Cfg) (vm bm : List Char) (d d' : Delims) (tm : Tmpl)
    (hg : goodDelims d = true) (hg' : goodDelims d' = true)
    (hf : delimFree d tm = true) (hf' : delimFree d' tm = true) :
    renderRes vm bm (lex cfg d (findStart d) (unparse d tm)) =
      renderRes vm bm (lex cfg d' (findStart d') (unparse d' tm)) := by
  rw [lex_eq_spec cfg vm bm d tm hg hf, lex_eq_spec cfg vm bm d' tm hg' hf']

/-- the same for any two searches that meet the leftmost-longest specification -/
theorem delim_invariance_param (cfg : Cfg) (vm bm : List Char) (d d' : Delims) (find find' : FindStart)
    (tm : Tmpl) (hfind : LeftmostLongest d find) (hfind' : LeftmostLongest d' find')
    (hg : goodDelims d = true) (hg' : goodDelims d' = true)
    (hf : delimFree d tm = true) (hf' : delimFree d' tm = true) :
    renderRes vm bm (lex cfg d find (unparse d tm)) = renderRes vm bm (lex cfg d' find' (unparse d' tm)) := by
  rw [lex_eq_spec_of_leftmostLongest cfg vm bm d find tm hfind hg hf,
    lex_eq_spec_of_leftmostLongest cfg vm bm d' find' tm hfind' hg' hf']

/-- prefix-sharing ERB-style delimiters `<%` / `<%=` / `<%#` with a shared end marker -/
def erb : Delims :=
  { bs := ['<', '%'], be := ['%', '>'], vs := ['<', '%', '='], ve := ['%', '>'],
    cs := ['<', '%', '#'], ce := ['%', '>'], ls := [], lc := [] }

/-- nested-prefix delimiters `<<` / `<<<<` -/
def angle4 : Delims :=
  { bs := ['<', '<'], be := ['>', '>'], vs := ['<', '<', '<', '<'], ve := ['>', '>', '>', '>'],
    cs := ['<', '<', '#'], ce := ['#', '>', '>'], ls := [], lc := [] }

/-- hypotheses of `delim_invariance` are satisfiable by prefix-sharing families and a template
    with look-alike text -/
example : goodDelims erb = true ∧ goodDelims angle4 = true ∧ goodDelims defaultDelims = true ∧
    (let tm : Tmpl := ⟨[' ', '}', ' '], [(⟨.var (vocabV false), .none, .minus⟩, ['\n', '%', ' ']), (⟨.block (vocabIf true), .plus, .none⟩, ['\n']),
       (⟨.comment [], .plus, .none⟩, ['\n'])]⟩
     delimFree erb tm = true ∧ delimFree angle4 tm = true ∧ delimFree defaultDelims tm = true) := by
  decide +kernel

/-- Text that merely looks like the default delimiters is plain text under other delimiters: the
    tokenizer reproduces it (up to the trailing line break rule) although the default search
    would find a tag in it. -/
theorem lookalike_is_text (cfg : Cfg) (vm bm : List Char) (d : Delims) (t : List Char)
    (hg : goodDelims d = true) (hf : noStartIn d t [] = true)
    (_hlook : findStartDefault t ≠ none) :
    renderRes vm bm (lex cfg d (findStart d) t) = some (if cfg.keep then t else stripTrailingNl t) :=
  verbatim cfg vm bm d t hg hf

example : noStartIn erb ['a', '{', '{', ' ', 'x', ' ', '}', '}', '{', '%', ' ', 'y', ' ', '%', '}'] [] = true ∧
    findStartDefault ['a', '{', '{', ' ', 'x', ' ', '}', '}', '{', '%', ' ', 'y', ' ', '%', '}'] ≠ none := by
  decide +kernel

/-- Every text of a template is partitioned into what the tag on its left removes, what is printed
    and what the tag on its right removes (`specTail` prints `cut l r t`); when the two removed
    parts meet, nothing is printed. -/
theorem text_is_partitioned (l r : Nat) (t : List Char) :
    (l + r ≤ t.length → t = t.take l ++ (cut l r t ++ t.drop (t.length - r))) ∧
    (t.length ≤ l + r → cut l r t = []) :=
  ⟨cut_partition l r t, cut_nil_of_overlap l r t⟩

/-- The characters removed at the start of a text are the ones the statement names: all leading
    whitespace behind `-`; exactly one line break (`\n`, `\r\n` or `\r`) behind an unmarked block /
    comment / raw tag under `trim_blocks`; nothing behind `+`, behind a variable tag, or with
    `trim_blocks` off.  In every case only whitespace. -/
theorem removed_left_is_named (cfg : Cfg) (blockish : Bool) (m : Mark) (t : List Char) :
    (m = .minus → t.take (leftCut cfg blockish m t) = t.takeWhile isWs) ∧
    (m = .none → blockish = true → cfg.trim = true → t.take (leftCut cfg blockish m t) = t.take (nlLen t)) ∧
    (m = .plus ∨ (m = .none ∧ (blockish = false ∨ cfg.trim = false)) → leftCut cfg blockish m t = 0) ∧
    (∀ c ∈ t.take (leftCut cfg blockish m t), isWs c = true) := leftCut_named cfg blockish m t

/-- The characters removed at the end of a text: all trailing whitespace in front of `-`; only
    horizontal whitespace in front of an unmarked tag, and only for a block / comment / raw tag
    under `lstrip_blocks` whose line holds nothing else in front of it; nothing in front of `+`. -/
theorem removed_right_is_named (cfg : Cfg) (first blockish : Bool) (m : Mark) (t : List Char) :
    (m = .minus → ∀ c ∈ t.drop (t.length - rightCut cfg first blockish m t), isWs c = true) ∧
    (m = .none → ∀ c ∈ t.drop (t.length - rightCut cfg first blockish m t), isHws c = true) ∧
    (m = .plus ∨ (m = .none ∧ (blockish = false ∨ cfg.lstrip = false ∨ atLineStart first t = false)) →
      rightCut cfg first blockish m t = 0) := rightCut_named cfg first blockish m t

/-- **Whole-source partition.**  Let `tm'` be the template without its one trailing line break
    (rule 1; `tm` itself under `keep_trailing_newline`).  The spans `specParts` — for every text the
    prefix the tag on its left removes, the printed part and the suffix the tag on its right removes,
    and every tag — in order ARE the source (every character belongs to exactly one span); the
    output of the rules is what the printed spans and the tags contribute; and the removed spans hold
    nothing but whitespace.  With `lex_eq_spec` / `C10_main` the same holds for what the tokenizer
    prints.  (Inside a tag the finer partition into tokens and blanks is `interior_is_partitioned`.) -/
theorem source_is_partitioned (cfg : Cfg) (vm bm : List Char) (d : Delims) (tm : Tmpl) :
    let tm' := if cfg.keep then tm else stripFinal tm
    let parts := specParts cfg true 0 tm'.head tm'.tail
    parts.flatMap (Part.src d) = unparse d tm' ∧
    parts.flatMap (Part.out cfg vm bm) = specRender cfg vm bm tm ∧
    (∀ s, Part.removed s ∈ parts → ∀ c ∈ s, isWs c = true) := by
  intro tm' parts
  refine ⟨specParts_src cfg d _ true 0 _, ?_, ?_⟩
  · rw [specParts_out]; rfl
  · exact specParts_removed_ws cfg _ true 0 _ (by simp)

/-- … for a template inside the hypotheses of `lex_eq_spec` the partitioned text is the source as
    `Tokenizer::new` keeps it (`prepare`: without the one trailing line break unless
    `keep_trailing_newline`), and the output of the printed spans and the tags is what the
    tokenizer prints. -/
theorem lexed_source_is_partitioned (cfg : Cfg) (vm bm : List Char) (d : Delims) (tm : Tmpl)
    (hg : goodDelims d = true) (hf : delimFree d tm = true) :
    let tm' := if cfg.keep then tm else stripFinal tm
    let parts := specParts cfg true 0 tm'.head tm'.tail
    parts.flatMap (Part.src d) = prepare cfg (unparse d tm) ∧
    renderRes vm bm (lex cfg d (findStart d) (unparse d tm)) = some (parts.flatMap (Part.out cfg vm bm)) ∧
    (∀ s, Part.removed s ∈ parts → ∀ c ∈ s, isWs c = true) := by
  intro tm' parts
  obtain ⟨h1, h2, h3⟩ := source_is_partitioned cfg vm bm d tm
  refine ⟨?_, ?_, h3⟩
  · rw [prepare_unparse cfg (good_of_goodDelims hg) tm hf]; exact h1
  · rw [lex_eq_spec cfg vm bm d tm hg hf]; exact congrArg some h2.symm

/-- `a\n  {% if t -%} \n x{# c #}\n` under trim_blocks + lstrip_blocks: 10 spans -/
example :
    (specParts ⟨true, true, true⟩ true 0 ['a', '\n', ' ', ' ']
      [(⟨.block (vocabIf false), .none, .minus⟩, [' ', '\n', ' ', 'x']), (⟨.comment [' ', 'c', ' '], .none, .none⟩, ['\n'])]).length = 10 ∧
    (specParts ⟨true, true, true⟩ true 0 ['a', '\n', ' ', ' ']
      [(⟨.block (vocabIf false), .none, .minus⟩, [' ', '\n', ' ', 'x']), (⟨.comment [' ', 'c', ' '], .none, .none⟩, ['\n'])]).flatMap
        (Part.out ⟨true, true, true⟩ ['V'] ['B']) = ['a', '\n', 'B', 'x'] := by decide +kernel

/-- `x \r\n` behind `%}` under trim_blocks loses 0 characters (it does not start with the line
    break), `\r\nx` loses 2; `a\n \t` in front of `{%` under lstrip_blocks loses the 2 blanks, `a \t`
    none -/
example :
    leftCut ⟨true, false, false⟩ true .none ['x', ' ', '\r', '\n'] = 0 ∧
    leftCut ⟨true, false, false⟩ true .none ['\r', '\n', 'x'] = 2 ∧
    rightCut ⟨false, true, false⟩ false true .none ['a', '\n', ' ', '\t'] = 2 ∧
    rightCut ⟨false, true, false⟩ false true .none ['a', ' ', '\t'] = 0 ∧
    rightCut ⟨false, true, false⟩ false true .plus ['a', '\n', ' ', '\t'] = 0 := by decide +kernel

/-- What the proof uses about `aho_corasick::find_overlapping` is `AcSpec` (`Proofs/LexerAC.lean`): on
    every haystack the automaton reports exactly the occurrences of the patterns (nothing missed,
    nothing invented; multiplicity and the order among matches that end at the same offset are free)
    in the order of their end offsets.  Over ANY such report the `max_pattern_len` loop of
    `find_start_marker` returns the leftmost-longest match.  The `kac` stream evaluates the
    hypothesis on what the real automaton reports (hook `start_marker_matches`) on every haystack
    of length ≤ 5 (thorough 6) for every generated start delimiter family, decided by `acSpecB`. -/
theorem ac_loop_of_spec (d : Delims) (pats : List (List Char)) (hv : validatedStartDelims d = some pats)
    (pre rest : List Char) (ms : List AcMatch) (hspec : AcSpec pats rest ms) :
    acLoop d (maxPatternLen pats) pre rest none ms = findLL d pre rest :=
  acLoop_eq_findLL_of_spec hv pre rest ms hspec

/-- `acSpecB` (what the driver runs on the real report) decides `AcSpec` -/
theorem ac_spec_decided (pats : List (List Char)) (rest : List Char) (ms : List AcMatch) :
    acSpecB pats rest ms = true ↔ AcSpec pats rest ms := acSpecB_iff pats rest ms

/-- patterns `a`, `aa` on `aa`: the two matches that end at offset 2 may come in either order; a
    missing, an invented or a late match is refused -/
example :
    AcSpec [['a'], ['a', 'a']] ['a', 'a'] [⟨0, 0, 1⟩, ⟨0, 1, 2⟩, ⟨1, 0, 1⟩] ∧
    AcSpec [['a'], ['a', 'a']] ['a', 'a'] [⟨0, 0, 1⟩, ⟨1, 0, 1⟩, ⟨0, 1, 2⟩] ∧
    ¬ AcSpec [['a'], ['a', 'a']] ['a', 'a'] [⟨0, 0, 1⟩, ⟨1, 0, 1⟩] ∧
    ¬ AcSpec [['a'], ['a', 'a']] ['a', 'a'] [⟨0, 0, 1⟩, ⟨0, 1, 2⟩, ⟨1, 0, 1⟩, ⟨1, 1, 2⟩] ∧
    ¬ AcSpec [['a'], ['a', 'a']] ['a', 'a'] [⟨0, 1, 2⟩, ⟨0, 0, 1⟩, ⟨1, 0, 1⟩] := by
  refine ⟨(ac_spec_decided _ _ _).1 (by decide +kernel), (ac_spec_decided _ _ _).1 (by decide +kernel), ?_, ?_, ?_⟩ <;>
    exact fun h => absurd ((ac_spec_decided _ _ _).2 h) (by decide +kernel)

/-- **Main theorem, with the gap to the code as named hypotheses.**  Let `realLex` be the tokenizer
    of `lexer.rs` (its text output) and `report` the overlapping-match report of the real automaton.
    * `hAc`  — the automaton meets `AcSpec` on every haystack [validated: `kac` stream, exhaustive on
      short haystacks for every generated delimiter family, decided in Lean on the real report];
    * `hLex` — the tokenizer is the model `lex` run with the search built on that report [validated:
      `seg` / `rand` / `prog` / `line` / `entry` / `wrap` / `big` correspondence streams, token by
      token, incl. sources outside the hypotheses of the theorem and lexer errors; literal tables
      regenerated from the source: `table_*`].
    Then the statement of the property holds for the tokenizer itself: for all 8 settings, every
    marker placement and line-ending style, every well-formed delimiter set (`goodDelims`) and
    every template whose texts contain no start delimiter and whose tags read back as written
    (`delimFree`), the text output is exactly what the five whitespace rules give (`specRender`);
    hence (corollaries `delim_invariance`, `lookalike_is_text`, `line_lex_as_tag`, `raw_rule`) it
    does not depend on the delimiter set, default look-alikes are plain text under other
    delimiters, and line statements / comments behave as the tags occupying their lines.
    What stays between this theorem and a render of the real engine: the parser, code generator
    and VM print `TemplateData` tokens unchanged (`EmitRaw`) — covered by the differential
    streams through `Environment::render_str` and the other entry points only. -/
theorem C10_main
    (report : List (List Char) → List Char → List AcMatch)
    (realLex : Cfg → Delims → List Char → Res)
    (hAc : ∀ pats rest, AcSpec pats rest (report pats rest))
    (hLex : ∀ cfg d src, realLex cfg d src = lex cfg d (findStartWith report d) src) :
    ∀ (cfg : Cfg) (vm bm : List Char) (d : Delims) (tm : Tmpl),
      goodDelims d = true → delimFree d tm = true →
      renderRes vm bm (realLex cfg d (unparse d tm)) = some (specRender cfg vm bm tm) := by
  intro cfg vm bm d tm hg hf
  rw [hLex, findStartWith_eq_findLL hAc (validated_of_good (good_of_goodDelims hg))]
  exact lex_spec cfg vm bm (good_of_goodDelims hg) tm hf

/-- the hypotheses of `C10_main` are satisfiable: the model itself with the reference report -/
example : ∃ (report : List (List Char) → List Char → List AcMatch) (realLex : Cfg → Delims → List Char → Res),
    (∀ pats rest, AcSpec pats rest (report pats rest)) ∧
    (∀ cfg d src, realLex cfg d src = lex cfg d (findStartWith report d) src) :=
  ⟨acMatches, fun cfg d src => lex cfg d (findStartWith acMatches d) src, acSpec_acMatches, fun _ _ _ => rfl⟩

/-- `C10_main` instantiated with the model is `C10_full` -/
theorem C10_main_gives_full : C10_full := by
  intro cfg vm bm d tm hg hf
  have := C10_main acMatches (fun cfg d src => lex cfg d (findStartWith acMatches d) src) acSpec_acMatches
    (fun _ _ _ => rfl) cfg vm bm d tm hg hf
  simpa [findStartWith_acMatches] using this

/-- `memstr` (as the lexer uses it for the comment end and for the block start inside raw blocks):
    the model `findSub` returns the least offset at which the needle is a prefix of the rest of the
    haystack, and `none` only if there is no such offset. -/
theorem memstr_is_leftmost (pat s : List Char) : LeftmostOcc pat s (findSub pat s) :=
  findSub_leftmost pat s

/-- … and that determines the function: any search with this specification is `findSub` -/
theorem memstr_unique (pat s : List Char) (r : Option Nat) (h : LeftmostOcc pat s r) : r = findSub pat s :=
  leftmostOcc_unique h

/-- `--->` contains `-->` at offset 1 (the case a skipping matcher misses) -/
example : findSub ['-', '-', '>'] ['-', '-', '-', '>'] = some 1 ∧
    findSub ['{', '{', '%'] ['x', '{', '{', '{', '%', ' '] = some 2 ∧
    findSub ['a', 'b', 'a', 'b'] ['a', 'b', 'a', 'a', 'b', 'a', 'b'] = some 3 := by decide +kernel

/-- `memchr`: the least offset of the byte -/
theorem memchr_is_leftmost (c : Char) (s : List Char) : LeftmostChar c s (findChar c s) :=
  findChar_leftmost c s

example : findChar '{' ['a', '{', '{'] = some 1 ∧ findChar '{' ['a'] = none := by decide +kernel

/-! ## literals of the source the model transcribes (regenerated into `MJ.Gen` on every run) -/

/-- `DEFAULT_DELIMS` of `syntax.rs` = `defaultDelims` -/
theorem table_default_delims :
    MJ.Gen.c10DefaultDelims.map String.toList =
      [defaultDelims.bs, defaultDelims.be, defaultDelims.vs, defaultDelims.ve, defaultDelims.cs, defaultDelims.ce,
       defaultDelims.ls, defaultDelims.lc] := by decide +kernel

/-- order and `required` flags of `validated_start_delims` = what `validatedStartDelims` iterates -/
theorem table_validated_order :
    MJ.Gen.c10ValidatedOrder =
      [("variable_start", true), ("block_start", true), ("comment_start", true),
       ("line_statement_prefix", false), ("line_comment_prefix", false)] := rfl

/-- `pattern_to_marker` = `patternToMarker` -/
theorem table_pattern_to_marker :
    MJ.Gen.c10PatternToMarker =
      [("0", ["Variable"]), ("1", ["Block"]), ("2", ["Comment"]), ("3", ["LineStatement", "LineComment"]),
       ("4", ["LineComment"]), ("_", [])] := rfl

/-- `Whitespace::from_byte` = `wsOfChar` -/
theorem table_ws_from_byte :
    MJ.Gen.c10WsFromByte = [('-', "Remove"), ('+', "Preserve")] ∧ MJ.Gen.c10WsDefault = "Default" := ⟨rfl, rfl⟩

/-- the operator tables of `tokenize_block_or_var` = `singleOp` (on all of ASCII) / `twoCharOp` -/
theorem table_operators :
    (List.range 128).all (fun n =>
      singleOp (Char.ofNat n) == (MJ.Gen.c10SingleOps.find? (·.1 == Char.ofNat n)).map (·.2)) = true ∧
    MJ.Gen.c10TwoOps = [('/', '/'), ('*', '*'), ('=', '='), ('!', '='), ('>', '='), ('<', '=')] ∧
    MJ.Gen.c10Quotes = ['\'', '"'] :=
  ⟨List.all_eq_true.2 fun n _ => by rw [singleOp_eq_table]; exact beq_self_eq_true _, rfl, rfl⟩

/-- `twoCharOp` is membership in that table -/
theorem twoCharOp_iff (a b : Char) :
    twoCharOp a b = true ↔ (a, b) ∈ [('/', '/'), ('*', '*'), ('=', '='), ('!', '='), ('>', '='), ('<', '=')] := by
  simp [twoCharOp, or_assoc]

/-- the radix prefixes of `eat_number` = `radixPrefix` -/
theorem table_radix :
    MJ.Gen.c10RadixPrefixes.all (fun p => radixPrefix p.1 [p.2.1] == some p.2.2) = true ∧
    (List.range 128).all (fun n =>
      (radixPrefix '0' [Char.ofNat n]).isSome == MJ.Gen.c10RadixPrefixes.any (·.2.1 == Char.ofNat n)) = true :=
  ⟨by decide +kernel, List.all_eq_true.2 fun n _ => by rw [radixPrefix_isSome_eq_table]; exact beq_self_eq_true _⟩

/-- the escape table of `utils::unescape` = `strStep` behind a backslash: only `u`, `x` and the octal
    digits start an escape that takes further characters, every other character is taken as it is;
    `\u` takes 4 and `\x` 2 characters in radix 16, an octal escape up to 2 more digits, surrogates
    are `0xD800..=0xDFFF` -/
theorem table_unescape :
    MJ.Gen.c10UnescapeArms.filter (fun a => a.2 != "char") = [("'u'", "u16"), ("'x'", "hex"), ("'0'..='7'", "oct")] ∧
    MJ.Gen.c10UnescapeNums =
      [("u16_take", 4), ("u16_radix", 16), ("hex_take", 2), ("hex_radix", 16), ("oct_more", 2), ("oct_radix", 8),
       ("surrogate_first", 55296), ("surrogate_last", 57343)] ∧
    (List.range 128).all (fun n =>
      let c := Char.ofNat n
      match strStep '"' .bs 0 c with
      | .cont (.u 0 0) 0 => c == 'u'
      | .cont (.x 0) 0 => c == 'x'
      | .cont (.oct 2 v) 0 => isOct c && v == n - 48
      | .cont .txt 0 => !(c == 'u' || c == 'x' || isOct c)
      | _ => false) = true ∧
    (List.range 65536).all (fun v => isSurr v == (decide (55296 ≤ v) && decide (v ≤ 57343))) = true := by
  refine ⟨by decide +kernel, rfl, List.all_eq_true.2 fun n hn => ?_, ?_⟩
  · have := strStep_bs_table (Char.ofNat n)
    rwa [toNat_ofNat_of_lt (List.mem_range.1 hn)] at this
  · simp [isSurr]

/-- every substring / byte search of `lexer.rs` is one the model transcribes: `memchr` in
    `find_start_marker_memchr` (`findStartDefault`), `find_overlapping` and the line-start `find` in
    `find_start_marker` (`acFind`, `lineStartP`), `memstr` in `handle_start_marker` (comment end,
    `findSub`) and `handle_raw_tag` (`findEndraw`), `strip_prefix` in `skip_basic_tag` / `skip_nl`,
    `trim_*` in `lstrip_block`, `tokenize_root` and `handle_raw_tag`, `starts_with` for the end
    delimiters in `tokenize_block_or_var`, `ends_with` in `Tokenizer::new`, and the `take_while` /
    `map_while` / `position` scans of identifiers, numbers, strings, whitespace and line comments.
    A new call site or helper changes this table and breaks the theorem. -/
theorem table_search_sites :
    MJ.Gen.c10SearchSites =
      [("eat_number", "ends_with", 1), ("eat_number", "take_while", 1), ("eat_string", "take_while", 1),
       ("find_start_marker", "find", 1), ("find_start_marker", "find_overlapping", 1),
       ("find_start_marker_memchr", "memchr", 1), ("handle_raw_tag", "memstr", 1),
       ("handle_raw_tag", "starts_with", 2), ("handle_raw_tag", "trim_end", 1), ("handle_raw_tag", "trim_start", 1),
       ("handle_start_marker", "memstr", 1), ("handle_start_marker", "take_while", 1),
       ("lex_identifier", "map_while", 1), ("lex_identifier", "take_while", 1),
       ("lstrip_block", "trim_end_matches", 1), ("new", "ends_with", 2), ("skip_basic_tag", "strip_prefix", 9),
       ("skip_nl", "strip_prefix", 2), ("skip_whitespace", "map_while", 1),
       ("tokenize_block_or_var", "position", 1), ("tokenize_block_or_var", "starts_with", 4),
       ("tokenize_block_or_var", "take_while", 1), ("tokenize_root", "trim_end", 1)] := rfl

end MJ.C10
