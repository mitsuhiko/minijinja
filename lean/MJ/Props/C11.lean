import MJ.Proofs.Depth
import MJ.Proofs.DepthHop
import MJ.Proofs.DepthAmb
/-!
# C11 — run-time recursion is cut off by the recursion limit, never by the stack

Property theorems only (models: `MJ/Model/Depth*.lean`; equations and invariants: `MJ/Proofs/Depth*.lean`).

What is proved is the **accounting**: every native re-entry of the interpreter loop is preceded
by a *checked* increase of `Context::depth()` by the cost of its edge, so the sum of the edge
costs over the native nesting never exceeds the configured limit — one linear bound for every
mixture of edges — and a run that tries to nest deeper ends with the recursion error.  The edge
costs, the comparison in `check_depth`, the re-entry sites with their guards and the clamp of
`set_recursion_limit` are regenerated from the source (`MJ.Gen`).

What is **not** provable here: the number of bytes of native stack one re-entry of each kind
consumes.  Those are measured by the harness on every run (see `lib/props/c11.py`).
-/
namespace MJ.C11
open MJ.Depth MJ.Gen

/-- states reachable from the start of a render with limit `L` by accepted events -/
inductive Reach (L : Nat) : St → Prop where
  | init : Reach L (init L)
  | step {s s' : St} {e : Ev} : Reach L s → step s e = .ok s' → Reach L s'

theorem reach_inv {L : Nat} {s : St} (h : Reach L s) : Inv 1 s ∧ s.limit = L := by
  induction h with
  | init => exact ⟨inv_init L, rfl⟩
  | step _ hs ih => exact inv_limit_step ih hs

theorem reach_run {L : Nat} {s s' : St} (h : Reach L s) {evs : List Ev} (hr : run s evs = .ok s') :
    Reach L s' :=
  run_preserves Reach.step h hr

theorem reach_le_limit {L : Nat} {s : St} (h : Reach L s) : wsum s.acts ≤ L ∧ nativeDepth s ≤ max L 1 := by
  obtain ⟨hi, rfl⟩ := reach_inv h
  exact ⟨(wsum_le_limit hi).1, (wsum_le_limit hi).2.1⟩

/-- Full-strength statement of the accounting (everything of C11 that is logic): for every
    limit and every trace of depth events, (1) the weighted nesting — the sum of the edge costs
    of the native activations — stays within the limit, (2) the number of nested interpreter
    activations (root included) stays within `max limit 1`, (3) the bookkeeping never panics,
    (4) a trace with at least `max limit 1` pending re-entries cannot run to completion.
    The native stack *bytes* are outside the model (measured, not proved). -/
def C11_full : Prop :=
  ∀ (L : Nat) (evs : List Ev),
    (∀ s, run (init L) evs = .ok s →
      wsum s.acts ≤ L ∧ nativeDepth s ≤ max L 1 ∧ s.acts.length = pending evs 0) ∧
    run (init L) evs ≠ .panic ∧
    (max L 1 ≤ pending evs 0 → ∀ s, run (init L) evs ≠ .ok s)

/-- the regenerated costs are the ones the model charges, each at least 1 -/
theorem cost_table :
    cost .macroCall = macroRecursionCost + 2 ∧ cost .callerCall = macroRecursionCost + 2 ∧
    cost .includeTpl = includeRecursionCost ∧ cost .blockCall = 1 ∧ cost .superCall = 1 ∧
    ∀ k, 1 ≤ cost k := by
  exact ⟨rfl, rfl, rfl, rfl, rfl, cost_pos⟩

/-- every kind of native re-entry first increases `Context::depth()` by its cost (≥ 1) through a
    checked operation: when the nested interpreter starts, the new depth is the old depth plus the
    cost and is within the limit -/
theorem native_reentry_costs {s s' : St} {k : Kind} (h : step s (.enter k) = .ok s') :
    s'.cur.depth = s.cur.depth + cost k ∧ 1 ≤ cost k ∧ s'.cur.depth ≤ s.limit ∧
    s'.acts.length = s.acts.length + 1 := by
  obtain ⟨hle, rfl⟩ := enter_ok h
  exact ⟨entered_depth k s.cur, cost_pos k, by rw [entered_depth]; exact hle, rfl⟩

example : step (init 500) (.enter .macroCall) =
    .ok { limit := 500, cur := ⟨1 + macroRecursionCost, 2⟩, acts := [⟨.macroCall, ⟨0, 1⟩, 2⟩] } := by
  decide +kernel

/-- a macro's fresh context inherits the caller's depth: it starts at caller depth +
    `MACRO_RECURSION_COST` + its own two frames -/
theorem macro_ctx_inherits_depth {s s' : St} (h : step s (.enter .macroCall) = .ok s') :
    s'.cur.outer = s.cur.depth + macroRecursionCost ∧ s'.cur.frames = 2 ∧
    s'.cur.depth = s.cur.depth + macroRecursionCost + 2 := by
  obtain ⟨_, rfl⟩ := enter_ok h
  exact ⟨rfl, rfl, rfl⟩

example : step ⟨500, ⟨20, 3⟩, []⟩ (.enter .macroCall) =
    .ok ⟨500, ⟨23 + macroRecursionCost, 2⟩, [⟨.macroCall, ⟨20, 3⟩, 2⟩]⟩ := by decide +kernel

/-- the nested interpreter's return restores the caller's context exactly and cannot panic
    (`decr_depth` does not underflow, `pop_frame` finds its frame, `restore_stack_depth`'s
    assertion holds) -/
theorem leave_restores_context {L : Nat} {s : St} {a : Act} {rest : List Act}
    (h : Reach L s) (ha : s.acts = a :: rest) :
    step s .leave = .ok { s with cur := a.old, acts := rest } :=
  leave_restores (reach_inv h).1 ha

example : run (init 500) [.push, .enter .includeTpl, .push, .enter .blockCall, .push, .leave, .leave] =
    .ok { limit := 500, cur := ⟨0, 2⟩, acts := [] } := by decide +kernel

/-- an include/import that finds no template (`ignore missing`, every candidate of a list missing,
    or the `TemplateNotFound` error path) is depth neutral: it takes no charge and releases none,
    whatever the surrounding depth -/
theorem missing_include_depth_neutral (s : St) :
    step s .missingInclude = .ok s ∧
    ∀ evs, run s (.missingInclude :: evs) = run s evs := by
  exact ⟨rfl, fun _ => rfl⟩

example : run (init 30) [.enter .includeTpl, .missingInclude, .missingInclude, .enter .includeTpl,
    .missingInclude, .enter .includeTpl] = .recursionError := by decide +kernel

/-- an include, import or macro call that fails — at any nesting depth below it, `pre` being the
    activations entered after it that the error unwinds through — leaves the includer's context
    exactly as it was when the construct was entered: the error exits release what the entries
    charged, and nothing panics.  (`pre = []`: the included template itself fails or returns.) -/
theorem failed_include_depth_restored {L : Nat} {s : St} (pre : List Act) {a : Act}
    {rest : List Act} (h : Reach L s) (ha : s.acts = pre ++ a :: rest) :
    run s (List.replicate (pre.length + 1) .leave) = .ok { s with cur := a.old, acts := rest } :=
  unwind_restores pre (reach_inv h).1 ha

/-- a failed *attempt* to enter (the charge does not fit) leaves nothing to restore: the only
    outcomes of an attempt are the new state or the error (`enter_eq`), and the context operations
    are functional (`push_frame`/`incr_depth` undo themselves: `pushFrameChecked`, `incrDepthChecked`).
    Nested constructs that fit are unwound to the includer's context: -/
example : run (init 30) [.push, .enter .includeTpl, .enter .blockCall, .enter .includeTpl, .push,
      .leave, .leave, .leave] = .ok { limit := 30, cur := ⟨0, 2⟩, acts := [] } := by decide +kernel

/-- **weighted nesting**: in every reachable state the sum of the edge costs of the native
    activations on the stack is at most the limit (strictly below it while nested); the bound is
    linear, so it covers every mixture of edges -/
theorem weighted_nesting {L : Nat} {s : St} (h : Reach L s) :
    wsum s.acts + 1 ≤ s.cur.depth ∧ wsum s.acts ≤ L ∧ (s.acts ≠ [] → wsum s.acts + 1 ≤ L) := by
  obtain ⟨hi, rfl⟩ := reach_inv h
  exact ⟨wsum_add_le_depth hi, (wsum_le_limit hi).1, (wsum_le_limit hi).2.2⟩

example : ∃ s, Reach 500 s ∧ s.acts.length = 3 ∧
    wsum s.acts = (macroRecursionCost + 2) + includeRecursionCost + 1 :=
  ⟨⟨500, ⟨includeRecursionCost + 2 + macroRecursionCost, 2⟩,
      [⟨.macroCall, ⟨includeRecursionCost, 2⟩, 2⟩, ⟨.includeTpl, ⟨0, 2⟩, 2⟩, ⟨.blockCall, ⟨0, 1⟩, 2⟩]⟩,
    reach_run Reach.init
      (evs := [.enter .blockCall, .enter .includeTpl, .enter .macroCall]) (by decide),
    rfl, by decide +kernel⟩

/-- nested interpreter activations (root included) never exceed the limit; with `c` the smallest
    cost among the activations on the stack, `c × nesting ≤ limit` -/
theorem native_depth_le_limit {L : Nat} {s : St} (h : Reach L s) :
    nativeDepth s ≤ max L 1 ∧
    ∀ c, (∀ a ∈ s.acts, c ≤ cost a.kind) → c * s.acts.length + 1 ≤ max L 1 := by
  obtain ⟨hi, rfl⟩ := reach_inv h
  exact ⟨(wsum_le_limit hi).2.1, fun c hc =>
    Nat.le_trans (Nat.add_le_add_right (mul_length_le_wsum c s.acts hc) 1) (wsum_add_le_limit hi)⟩

/-- the error is raised exactly when the cost of the edge does not fit: an attempted re-entry
    fails with "recursion limit exceeded" iff `depth + cost > limit`; otherwise it succeeds —
    it never panics and is never skipped -/
theorem reentry_fails_iff {L : Nat} {s : St} (h : Reach L s) (k : Kind) :
    (step s (.enter k) = .recursionError ↔ L < s.cur.depth + cost k) ∧
    ((∃ s', step s (.enter k) = .ok s') ∨ step s (.enter k) = .recursionError) := by
  rw [← (reach_inv h).2, show step s (.enter k) = enter s k from rfl, enter_eq]
  split
  · exact ⟨⟨nofun, fun hlt => absurd ‹_› (Nat.not_le.2 hlt)⟩, Or.inl ⟨_, rfl⟩⟩
  · exact ⟨⟨fun _ => Nat.lt_of_not_le ‹_›, fun _ => rfl⟩, Or.inr rfl⟩

example : step ⟨10, ⟨0, 10⟩, []⟩ (.enter .blockCall) = .recursionError ∧
    step ⟨10, ⟨0, 9⟩, []⟩ (.enter .blockCall) ≠ .recursionError := by decide +kernel

/-- the error ends the run at the first failing attempt, whatever follows -/
theorem error_is_final (s : St) (pre post : List Ev) (e : Ev) {s1 : St}
    (h1 : run s pre = .ok s1) (h2 : step s1 e = .recursionError) :
    run s (pre ++ e :: post) = .recursionError := by
  rw [run_append, h1]
  show run s1 (e :: post) = _
  rw [run_cons, h2]

theorem run_never_panics {L : Nat} {s : St} (h : Reach L s) (evs : List Ev) :
    run s evs ≠ .panic :=
  run_ne_panic evs (reach_inv h).1

/-- **unbounded recursion errors**: a run that attempts at least `max limit 1` pending (entered,
    not yet left) native re-entries cannot return `ok` and cannot panic: it ends with the
    recursion error (or was not a well-formed trace).  With `error_is_final` and
    `reentry_fails_iff`: it fails at the first attempt whose cost does not fit. -/
theorem unbounded_recursion_errors (L : Nat) (evs : List Ev) (hp : max L 1 ≤ pending evs 0) :
    run (init L) evs = .recursionError ∨ run (init L) evs = .stuck := by
  cases hr : run (init L) evs with
  | ok s =>
    -- all pending re-entries are on the stack, and that many do not fit
    have h1 : s.acts.length = pending evs 0 := run_acts_length (inv_init L) hr
    have h2 := (reach_le_limit (reach_run Reach.init hr)).2
    simp only [nativeDepth] at h2
    omega
  | recursionError => exact Or.inl rfl
  | panic => exact absurd hr (run_never_panics Reach.init evs)
  | stuck => exact Or.inr rfl

example : run (init 10) (List.replicate 10 (.enter .blockCall)) = .recursionError := by decide +kernel
example : run (init 10) (List.replicate 9 (.enter .blockCall)) ≠ .recursionError := by decide +kernel
example : run (init 500) (List.replicate 500 (.enter .macroCall)) = .recursionError := by
  decide +kernel

/-- the accounting part of C11, all at once -/
theorem c11_accounting : C11_full := by
  intro L evs
  refine ⟨?_, run_never_panics Reach.init evs, ?_⟩
  · intro s hr
    obtain ⟨h1, h2⟩ := reach_le_limit (reach_run Reach.init hr)
    exact ⟨h1, h2, run_acts_length (inv_init L) hr⟩
  · intro hp s hr
    rcases unbounded_recursion_errors L evs hp with h | h <;> rw [h] at hr <;> cases hr

/-- `set_recursion_limit` (no `stacker`) clamps to `MAX_RECURSION`, which is also the default:
    whatever is configured, weighted nesting and native nesting stay within `MAX_RECURSION` -/
theorem limit_clamped (level : Nat) :
    setRecursionLimit level = min level maxRecursionEnv ∧
    setRecursionLimit level ≤ maxRecursionEnv ∧
    (level ≤ maxRecursionEnv → setRecursionLimit level = level) ∧
    defaultRecursionLimit = maxRecursionEnv ∧ recursionLimitDefaultIsMax = true ∧
    ∀ s, Reach (setRecursionLimit level) s →
      wsum s.acts ≤ maxRecursionEnv ∧ nativeDepth s ≤ maxRecursionEnv := by
  have hset : setRecursionLimit level = min level maxRecursionEnv :=
    if_pos (show recursionLimitClampedToMax = true from rfl)
  have hle : setRecursionLimit level ≤ maxRecursionEnv := hset ▸ Nat.min_le_right _ _
  refine ⟨hset, hle, fun h => hset.trans (Nat.min_eq_left h), rfl, rfl, fun s hs => ?_⟩
  obtain ⟨h1, h2⟩ := reach_le_limit hs
  have hmax : 1 ≤ maxRecursionEnv := by decide
  omega

example : setRecursionLimit 100000 = 500 ∧ setRecursionLimit 7 = 7 := by decide +kernel

/-! ## The native stack, with the bytes per re-entry as measured parameters

The model cannot exhibit how many bytes of native stack one re-entry consumes.  Taking them as
parameters (`bytes : Kind → Nat`, plus `root` bytes before the first activation) the property's
second sentence becomes a statement about the accounting: -/

/-- "never overflows a 2 MiB stack for any recursion limit up to the default" for given
    per-kind frame sizes -/
def C11_stack_full (bytes : Kind → Nat) (root : Nat) : Prop :=
  ∀ L, L ≤ maxRecursionEnv → ∀ s, Reach L s → root + stackBytes bytes s.acts ≤ 2097152

/-- frame sizes measured on the pinned tree in an unoptimised debug build (opt-level 0,
    x86-64 Linux, rustc 1.95, hooks on): bytes per native re-entry of each kind, and 15300 bytes
    before the first activation.  A snapshot — every run re-measures, reports the current numbers
    and compares them with this table: upper bounds for macro/caller/include (used by the partial
    theorem's instance), lower bounds for block/super (used by the counterexample). -/
def measuredDebugO0 : Kind → Nat
  | .macroCall => 16500
  | .callerCall => 16500
  | .includeTpl => 15000
  | .blockCall => 13000
  | .superCall => 13000

/-- the same in the release profile, upper bounds (block calls through `State::render_block`
    are the largest, 4122 bytes measured on the build without hooks); 5100 bytes before the first
    activation -/
def measuredRelease : Kind → Nat
  | .macroCall => 4900
  | .callerCall => 4900
  | .includeTpl => 3500
  | .blockCall => 4130
  | .superCall => 3700

theorem stack_le_weighted (P : Kind → Prop) (bytes : Kind → Nat) (ρ : Nat)
    (h : ∀ k, P k → bytes k ≤ ρ * cost k) :
    ∀ acts : List Act, (∀ a ∈ acts, P a.kind) → stackBytes bytes acts ≤ ρ * wsum acts :=
  fun acts hP => stackBytes_le_mul_wsum bytes ρ acts (fun a ha => h a.kind (hP a ha))

/-- at any limit up to the default, activations of kinds with at most `ρ` bytes per depth unit
    take at most `ρ × MAX_RECURSION` bytes -/
theorem stack_le_mul_max (P : Kind → Prop) (bytes : Kind → Nat) (ρ : Nat)
    (hρ : ∀ k, P k → bytes k ≤ ρ * cost k) {L : Nat} (hL : L ≤ maxRecursionEnv) {s : St}
    (hs : Reach L s) (hP : ∀ a ∈ s.acts, P a.kind) : stackBytes bytes s.acts ≤ ρ * maxRecursionEnv :=
  Nat.le_trans (stack_le_weighted P bytes ρ hρ s.acts hP)
    (Nat.mul_le_mul_left ρ (Nat.le_trans (reach_le_limit hs).1 hL))

/-- any number of re-entries of one kind can be nested as long as their cost fits -/
theorem reach_nest (bytes : Kind → Nat) (L : Nat) (k : Kind) :
    ∀ n, 1 + n * cost k ≤ L → ∃ s, Reach L s ∧ s.cur.depth = 1 + n * cost k ∧
      stackBytes bytes s.acts = n * bytes k := by
  intro n
  induction n with
  | zero => intro _; exact ⟨init L, Reach.init, by rw [Nat.zero_mul]; rfl, by rw [Nat.zero_mul]; rfl⟩
  | succ n ih =>
    intro hn
    rw [Nat.succ_mul] at hn
    obtain ⟨s, hr, hd, hb⟩ := ih (by omega)
    have hle : s.cur.depth + cost k ≤ s.limit := by rw [(reach_inv hr).2]; omega
    refine ⟨_, Reach.step hr (enter_of_le hle), ?_, ?_⟩
    · show (entered k s.cur).depth = _
      rw [entered_depth, hd, Nat.succ_mul]; omega
    · simp only [stackBytes, hb, Nat.succ_mul]; omega

/-- blocks can be nested up to the limit, one depth unit each -/
theorem reach_blocks (bytes : Kind → Nat) (L : Nat) :
    ∀ n, n + 1 ≤ L → ∃ s, Reach L s ∧ s.limit = L ∧ s.cur = ⟨0, n + 1⟩ ∧
      stackBytes bytes s.acts = n * bytes .blockCall := by
  intro n
  induction n with
  | zero => intro _; exact ⟨init L, Reach.init, rfl, rfl, by rw [Nat.zero_mul]; rfl⟩
  | succ n ih =>
    intro hn
    obtain ⟨s, hr, hl, hc, hb⟩ := ih (by omega)
    have hle : s.cur.depth + cost .blockCall ≤ s.limit := by
      rw [hc, hl]; show 0 + (n + 1) + 1 ≤ L; omega
    refine ⟨_, Reach.step hr (enter_of_le hle), hl, by rw [hc]; rfl, ?_⟩
    simp only [stackBytes, hb, Nat.succ_mul]; omega

/-- **the full statement is false on the current code** for the measured debug frame sizes:
    `{% block a %}{{ self.a() }}{% endblock %}` at the default limit nests 499 block calls of one
    depth unit each — at least 6.8 MB of native stack (the harness replays this witness on every run: the
    child dies with SIGABRT on a 2 MiB thread; KNOWN_FINDINGS.jsonl) -/
theorem C11_counterexample : ¬ C11_stack_full measuredDebugO0 15300 := by
  intro h
  obtain ⟨s, hr, _, _, hb⟩ := reach_blocks measuredDebugO0 500 499 (by omega)
  have := h 500 (by decide) s hr
  rw [hb] at this
  simp only [measuredDebugO0] at this
  omega

/-- **partial theorem**, the excluded region as explicit decidable hypotheses: for the re-entry
    kinds `P` whose measured bytes per depth unit are at most `ρ`, with `root + ρ × MAX_RECURSION`
    within 2 MiB, no mixture of such re-entries at any limit up to the default exceeds 2 MiB -/
theorem C11_partial (P : Kind → Prop) (bytes : Kind → Nat) (root ρ : Nat)
    (hρ : ∀ k, P k → bytes k ≤ ρ * cost k) (hfit : root + ρ * maxRecursionEnv ≤ 2097152) :
    ∀ L, L ≤ maxRecursionEnv → ∀ s, Reach L s → (∀ a ∈ s.acts, P a.kind) →
      root + stackBytes bytes s.acts ≤ 2097152 := by
  intro L hL s hs hP
  have := stack_le_mul_max P bytes ρ hρ hL hs hP
  omega

/-- release profile: every kind fits (ρ = 4130 bytes per depth unit; 27 KB to spare) -/
example : C11_stack_full measuredRelease 5100 := fun L hL s hs =>
  C11_partial (fun _ => True) measuredRelease 5100 4130 (by intro k _; cases k <;> decide)
    (by decide) L hL s hs (fun _ _ => trivial)

/-- unoptimised debug profile: everything except block calls and `super()` fits
    (ρ = 2750 bytes per depth unit) -/
example : ∀ L, L ≤ maxRecursionEnv → ∀ s, Reach L s →
    (∀ a ∈ s.acts, a.kind ≠ .blockCall ∧ a.kind ≠ .superCall) →
    15300 + stackBytes measuredDebugO0 s.acts ≤ 2097152 :=
  C11_partial (fun k => k ≠ .blockCall ∧ k ≠ .superCall) measuredDebugO0 15300 2750
    (by intro k hk; cases k <;> first | decide | exact absurd rfl hk.1 | exact absurd rfl hk.2)
    (by decide)

/-! ## A second resource: templates compiled lazily at depth

A template that a loader provides is compiled by the first `include`/`import`/`extends` that
names it — on top of the interpreter activations that are on the native stack at that moment.
The recursive-descent parser has its own guard (`MAX_RECURSION` of `compiler/parser.rs`,
`maxRecursionParser` levels), counted separately from the run-time depth.  The native stack is
therefore bounded by  root + Σ bytes(activation) + π × parse levels,  two budgets that add up. -/

/-- **partial theorem with both budgets**: for re-entry kinds `P` with at most `ρ` bytes per depth
    unit and a parser that needs at most `π` bytes per guarded level, if
    `root + ρ × MAX_RECURSION + π × MAX_RECURSION(parser)` fits in 2 MiB, no mixture of such
    re-entries with a lazy compilation on top of it exceeds 2 MiB -/
theorem C11_partial_lazy (P : Kind → Prop) (bytes : Kind → Nat) (root ρ π : Nat)
    (hρ : ∀ k, P k → bytes k ≤ ρ * cost k)
    (hfit : root + ρ * maxRecursionEnv + π * maxRecursionParser ≤ 2097152) :
    ∀ L, L ≤ maxRecursionEnv → ∀ s, Reach L s → (∀ a ∈ s.acts, P a.kind) →
      ∀ p, p ≤ maxRecursionParser → root + stackBytes bytes s.acts + π * p ≤ 2097152 := by
  intro L hL s hs hP p hp
  have h1 := stack_le_mul_max P bytes ρ hρ hL hs hP
  have h2 := Nat.mul_le_mul_left π hp
  omega

/-- release profile, macro/caller/include re-entries (ρ = 817 bytes per depth unit, parser
    π = 1700 bytes per level): both budgets together use less than 0.7 MB -/
example : ∀ L, L ≤ maxRecursionEnv → ∀ s, Reach L s →
    (∀ a ∈ s.acts, a.kind ≠ .blockCall ∧ a.kind ≠ .superCall) →
    ∀ p, p ≤ maxRecursionParser → 5100 + stackBytes measuredRelease s.acts + 1700 * p ≤ 2097152 :=
  C11_partial_lazy (fun k => k ≠ .blockCall ∧ k ≠ .superCall) measuredRelease 5100 817 1700
    (by intro k hk; cases k <;> first | decide | exact absurd rfl hk.1 | exact absurd rfl hk.2)
    (by decide)

/-- **the two budgets do not fit together in an unoptimised debug build** (measured lower bounds:
    15500 bytes per macro call, 8000 bytes per guarded parser level): 83 nested macro calls — what
    the default limit admits — and a lazily loaded template with 70 nested parentheses (140 parser
    levels, below the parser's own limit) need more than 2 MiB.  Witness replayed every run
    (`M:M000d 500 0 t2m`, KNOWN_FINDINGS.jsonl: lazy-parse-at-depth). -/
theorem C11_lazy_counterexample :
    ¬ (∀ L, L ≤ maxRecursionEnv → ∀ s, Reach L s → ∀ p, p ≤ maxRecursionParser →
        stackBytes (fun _ => 15500) s.acts + 8000 * p ≤ 2097152) := by
  intro h
  obtain ⟨s, hr, _, hb⟩ := reach_nest (fun _ => 15500) 500 .macroCall 83 (by decide)
  have := h 500 (by decide) s hr 140 (by decide)
  rw [hb] at this
  omega

/-- the tie for every place of the crate that creates a `Context`/`State`, starts a top-level
    evaluation, raises the depth or switches the execution state — each is either a *root* (a
    fresh render: its own limit budget, nothing inherited — `Template::_eval`, `Expression::_eval`,
    `machinery::eval`, the empty states of `new_state`/`empty_state`), a constructor, or one of the
    four guarded re-entries of the model; a `Context` reads its limit from the environment when it
    is created, the parser guards its own recursion -/
def contextSiteClass : List ((String × String × String) × String) := [
  (("environment.rs", "empty_state", "State::new_for_env"), "root:empty-state"),
  (("expression.rs", "_eval", "vm::eval"), "root:render"),
  (("lib.rs", "eval", "vm::eval"), "root:render"),
  (("template.rs", "_eval", "vm::eval"), "root:render"),
  (("template.rs", "new_state", "State::new"), "root:empty-state"),
  (("template.rs", "new_state", "Context::new"), "root:empty-state"),
  (("vm/context.rs", "new", "Context{}"), "constructor"),
  (("vm/context.rs", "new_with_frame", "Context::new"), "constructor"),
  (("vm/mod.rs", "eval", "Executor::eval"), "root:render"),
  (("vm/mod.rs", "eval", "State::new"), "root:render"),
  (("vm/mod.rs", "eval", "Context::new_with_frame"), "root:render"),
  (("vm/mod.rs", "eval_macro", "Context::new"), "guarded:macro"),
  (("vm/mod.rs", "eval_macro", "reset_with_frame"), "guarded:macro"),
  (("vm/mod.rs", "eval_macro", "incr_depth"), "guarded:macro"),
  (("vm/mod.rs", "eval_macro", "with_execution_state"), "guarded:macro"),
  (("vm/mod.rs", "perform_include", "incr_depth"), "guarded:include"),
  (("vm/mod.rs", "perform_include", "with_execution_state"), "guarded:include"),
  (("vm/mod.rs", "perform_super", "with_execution_state"), "guarded:super"),
  (("vm/mod.rs", "call_block", "with_execution_state"), "guarded:block"),
  (("vm/state.rs", "new_for_env", "State::new"), "root:empty-state"),
  (("vm/state.rs", "new_for_env", "Context::new"), "root:empty-state")]

theorem context_sites_classified :
    contextSites = contextSiteClass.map (·.1) ∧
    (∀ e ∈ contextSiteClass, e.2 ∈ ["root:render", "root:empty-state", "constructor",
      "guarded:macro", "guarded:include", "guarded:super", "guarded:block"]) ∧
    contextLimitSource = "env.recursion_limit()" ∧
    parserGuardCond = "$parser.depth > MAX_RECURSION" :=
  ⟨rfl, by decide +kernel, rfl, rfl⟩

/-- the helpers that fill a context push their frame unconditionally: a macro context is
    `[base frame, closure frame]` whatever the root context value is (undefined, none, a map, an
    object) — `enterMacro` starts from one frame and pushes the second — and `clear` drops the
    inherited depth of a pooled context -/
theorem context_helpers_unconditional :
    contextHelpers = [
      ("reset_with_frame", "self.clear(); self.stack.push(frame);"),
      ("clear", "self.stack.clear(); self.outer_stack_depth = 0;"),
      ("new_with_frame", "let mut rv = Context::new(env); rv.stack.push(frame); rv"),
      ("pop_frame", "self.stack.pop().unwrap()")] :=
  rfl

/-- the tie to the source text of the re-entry sites: the functions of `vm/mod.rs` that call
    `eval_state`/`do_eval`/`eval_impl`, with the depth-increasing calls that precede the nested
    interpreter and the restoring calls that follow it, are exactly the ones modelled
    (`eval` = root, `eval_state`/`do_eval` = trampolines); `check_depth` compares
    `depth()` with the *configured* limit and `push_frame`/`incr_depth` check and undo -/
theorem reentry_sites_guarded :
    reentrySites = [
      ("eval", "eval_state", "", ""),
      ("eval_macro", "do_eval",
        "iflet:ctx.push_frame(closure_frame);iflet:ctx.incr_depth(state.ctx.depth() + MACRO_RECURSION_COST)", ""),
      ("eval_state", "do_eval", "", ""),
      ("do_eval", "eval_impl", "", ""),
      ("do_eval", "eval_impl", "", ""),
      ("perform_include", "eval_state", "ok!:state.ctx.incr_depth(INCLUDE_RECURSION_COST)",
        "stmt:state.ctx.decr_depth(INCLUDE_RECURSION_COST)"),
      ("perform_super", "eval_state", "iflet:state.ctx.push_frame(Frame::default())",
        "stmt:state.ctx.pop_frame()"),
      ("call_block", "eval_state", "ok!:state.ctx.push_frame(Frame::default())", "")] ∧
    depthCheckCond = "self.depth() > self.recursion_limit" ∧
    depthCheckError = ("InvalidOperation", "recursion limit exceeded") ∧
    depthExprs = ["self.outer_stack_depth + self.stack.len()", "self.stack.len()"] ∧
    pushFrameChecked = true ∧ incrDepthChecked = true :=
  ⟨rfl, rfl, rfl, rfl, rfl, rfl⟩

/-- the tie for the exit paths of `perform_include`: exits (`ok!`, `return`, `continue`) occur
    only before the depth charge is taken or after it was released — none while it is held —,
    charge and release sit in the same block (the body of the candidate loop, so a candidate that
    does not exist is never released), both with `INCLUDE_RECURSION_COST`, and `decr_depth` is the
    plain checked subtraction (an unbalanced release panics in a debug build instead of being
    absorbed) -/
theorem include_exits_balanced :
    includeExits = [("before", "ok!"), ("before", "return"), ("before", "continue"), ("before", "ok!"),
      ("charge", "ok!"), ("released", "ok!"), ("released", "return")] ∧
    (∀ e ∈ includeExits, e.1 ≠ "held") ∧
    includeChargeScope = (1, 1) ∧
    includeChargeArgs = ("INCLUDE_RECURSION_COST", "INCLUDE_RECURSION_COST") ∧
    decrDepthBody = "self.outer_stack_depth -= delta;" :=
  ⟨rfl, by decide +kernel, rfl, rfl, rfl⟩

/-- how each function of the regenerated re-entry graph (`MJ.Gen.reentryGraph`: every function of
    the crate from which `eval_impl` is reachable by static calls) takes part in the accounting:
    `native` = the interpreter loop itself, `trampoline` = calls it without touching the depth,
    `charged k` = takes the checked depth charge of a model edge before the nested interpreter
    runs, `root` = starts a fresh render (new `Context`, its own budget), `wrapper` = reaches the
    interpreter only through a charged function or a root and leaves the depth alone -/
inductive SiteClass where
  | native | trampoline | charged (k : Kind) | root | wrapper
  deriving Repr, DecidableEq

def reentryClass : List ((String × String × String) × SiteClass) := [
  (("expression.rs", "Expression", "_eval"), .wrapper),
  (("expression.rs", "Expression", "eval"), .wrapper),
  (("template.rs", "Template", "_capture_state"), .wrapper),
  (("template.rs", "Template", "_capture_state_with_output"), .wrapper),
  (("template.rs", "Template", "_eval"), .wrapper),
  (("template.rs", "Template", "_render"), .wrapper),
  (("template.rs", "Template", "render"), .wrapper),
  (("template.rs", "Template", "render_captured"), .wrapper),
  (("template.rs", "Template", "render_captured_to"), .wrapper),
  (("vm/macro_object.rs", "Macro", "call"), .wrapper),
  (("vm/mod.rs", "", "call_block"), .wrapper),
  (("vm/mod.rs", "", "eval"), .wrapper),
  (("vm/mod.rs", "", "eval_macro"), .wrapper),
  (("vm/mod.rs", "Executor", "call_block"), .charged .blockCall),
  (("vm/mod.rs", "Executor", "do_eval"), .trampoline),
  (("vm/mod.rs", "Executor", "eval"), .root),
  (("vm/mod.rs", "Executor", "eval_impl"), .native),
  (("vm/mod.rs", "Executor", "eval_macro"), .charged .macroCall),
  (("vm/mod.rs", "Executor", "eval_state"), .trampoline),
  (("vm/mod.rs", "Executor", "perform_include"), .charged .includeTpl),
  (("vm/mod.rs", "Executor", "perform_super"), .charged .superCall),
  (("vm/state.rs", "State", "render_block"), .wrapper),
  (("vm/state.rs", "State", "render_block_to_write"), .wrapper)]

def classOf (q : String) : Option SiteClass :=
  (reentryClass.find? (fun e =>
    (if e.1.2.1 = "" then e.1.2.2 else e.1.2.1 ++ "::" ++ e.1.2.2) = q)).map (·.2)

/-- the callees a function of each class may reach the interpreter through -/
def calleeOK (c : SiteClass) (callee : String) : Bool :=
  match c, classOf callee with
  -- the trampolines and the guarded functions call a trampoline or the loop
  | .trampoline, some .trampoline | .trampoline, some .native => true
  | .charged _, some .trampoline => true
  | .root, some .trampoline => true
  -- the loop dispatches to the guarded functions only
  | .native, some (.charged _) => true
  -- a wrapper never reaches the loop or a trampoline directly
  | .wrapper, some (.charged _) | .wrapper, some .root | .wrapper, some .wrapper => true
  | _, _ => false

def chargedCost : String → Option Nat
  | "eval_macro" => some (cost .macroCall)
  | "perform_include" => some (cost .includeTpl)
  | "perform_super" => some (cost .superCall)
  | "call_block" => some (cost .blockCall)
  | _ => none

/-- **every re-entry is charged**: in the regenerated call graph of the crate (1) every function
    from which the interpreter loop is reachable is classified, (2) the loop and its trampolines
    are called only by trampolines, by the four guarded functions and by the root `Executor::eval`
    (fresh context) — so every path into a nested `eval_impl` passes a guarded function —,
    (3) wrappers and trampolines contain no depth operation at all (nothing between the public
    entry points — `State::render_block`, `render_block_to_write`, `Macro::call`, `Template::render*`,
    `Expression::eval` — and the guarded function can lower, reset or replace the depth),
    (4) each guarded function performs its checked charge (`push_frame` / `incr_depth` present in
    its body) and the charge computed from its source expressions with the current constants is the
    cost of the model's edge: 6, 10, 1, 1; only `eval_macro` starts from a fresh context and it
    inherits the caller's depth.  A new function that re-enters without charge, a depth operation
    in a wrapper, or a changed constant changes a table and breaks this theorem. -/
theorem every_reentry_charged :
    reentryGraph.map (fun r => (r.1, r.2.1, r.2.2.1)) = reentryClass.map (·.1) ∧
    (∀ r ∈ reentryGraph, ∀ c, classOf (if r.2.1 = "" then r.2.2.1 else r.2.1 ++ "::" ++ r.2.2.1) = some c →
      r.2.2.2.1.all (calleeOK c) = true) ∧
    (∀ r ∈ reentryGraph, (r.2.1, r.2.2.1) ∉ [("Executor", "eval_impl"), ("Executor", "eval_macro"),
        ("Executor", "perform_include"), ("Executor", "perform_super"), ("Executor", "call_block")] →
      r.2.2.2.2 = "") ∧
    reentryGraph.filterMap (fun r => if r.2.1 = "Executor" ∧ r.2.2.2.2 ≠ "" then some (r.2.2.1, r.2.2.2.2) else none) =
      [("call_block", "push_frame"),
       ("eval_impl", "push_frame,pop_frame,pop_frame"),
       ("eval_macro", "reset_with_frame,push_frame,clear,incr_depth,clear,clear,replace-ctx"),
       ("perform_include", "incr_depth,decr_depth"),
       ("perform_super", "push_frame,pop_frame")] ∧
    reentryChargeCosts = [("eval_macro", 6, true), ("perform_include", 10, false),
      ("perform_super", 1, false), ("call_block", 1, false)] ∧
    (∀ e ∈ reentryChargeCosts, chargedCost e.1 = some e.2.1 ∧ 1 ≤ e.2.1) := by
  refine ⟨rfl, by decide +kernel, by decide +kernel, rfl, rfl, by decide +kernel⟩

/-- non-vacuity: the graph has the five kinds of rows, and an un-charged caller of the loop would be
    rejected -/
example : calleeOK .wrapper "Executor::eval_state" = false ∧ calleeOK .wrapper "Executor::eval_impl" = false ∧
    calleeOK .wrapper "Executor::call_block" = true ∧ reentryGraph.length = 23 := by decide +kernel

/-- **callbacks leave the depth alone**: every function of the crate that hands the `State` to a
    callback (filter, test, function, object, method: `Value::call`, `Value::call_method`,
    `State::call_macro`, `State::apply_filter`, `State::perform_test`, the builtin `map` /
    `select` / `reject` filters and the five call instructions of `eval_impl`) contains no depth
    operation — except `eval_impl`, whose `PushWith`/`PopFrame`/`PopLoopFrame` are not around a
    call.  So a recursion that passes through Rust is charged on top of the depth the callback
    found (`rust_callbacks_transparent`). -/
theorem callbacks_depth_neutral :
    callbackSites = [
      ("filters.rs", "", "map", 1, ""),
      ("filters.rs", "", "select_or_reject", 1, ""),
      ("value/mod.rs", "Value", "_call_method", 1, ""),
      ("value/mod.rs", "Value", "call", 1, ""),
      ("value/mod.rs", "Value", "call_method", 1, ""),
      ("vm/mod.rs", "Executor", "eval_impl", 5, "push_frame,pop_frame,pop_frame"),
      ("vm/state.rs", "State", "apply_filter", 1, ""),
      ("vm/state.rs", "State", "call_macro", 1, ""),
      ("vm/state.rs", "State", "perform_test", 1, "")] ∧
    (∀ r ∈ callbackSites, r.2.2.1 ≠ "eval_impl" → r.2.2.2.2 = "") ∧
    contextMutators = ["clear", "current_locals_mut", "decr_depth", "incr_depth", "next_loop_item",
      "pop_frame", "push_frame", "reset_closure", "reset_with_frame", "restore_stack_depth", "store",
      "take_closure"] :=
  ⟨rfl, by decide +kernel, rfl⟩

example : callbackSites.length = 9 ∧ contextMutators.length = 12 := by decide +kernel

/-- **the depth is adjusted in seven functions only**: every function of the crate that performs a
    depth operation on a context (`push_frame`, `pop_frame`, `incr_depth`, `decr_depth`,
    `reset_with_frame`, `clear`, `restore_stack_depth`, or replaces `state.ctx`), with the operations
    in source order: the four guarded re-entries, the interpreter loop (`PushWith` / `PopFrame` /
    `PopLoopFrame`), `push_loop` (a checked frame per loop, also per level of a recursive loop) and
    `with_execution_state` (truncation to the depth saved at entry = the model's `leave`).  Every
    increase is one of the two checked operations; the only unchecked frame is the base frame of a
    fresh macro context (`reset_with_frame`, counted in the macro's cost). -/
theorem depth_ops_confined :
    depthOpSites = [
      ("vm/mod.rs", "Executor", "call_block", "push_frame"),
      ("vm/mod.rs", "Executor", "eval_impl", "push_frame,pop_frame,pop_frame"),
      ("vm/mod.rs", "Executor", "eval_macro", "reset_with_frame,push_frame,clear,incr_depth,clear,clear,replace-ctx"),
      ("vm/mod.rs", "Executor", "perform_include", "incr_depth,decr_depth"),
      ("vm/mod.rs", "Executor", "perform_super", "push_frame,pop_frame"),
      ("vm/mod.rs", "Executor", "push_loop", "push_frame"),
      ("vm/state.rs", "State", "with_execution_state", "restore_stack_depth")] ∧
    (∀ r ∈ depthOpSites, r.2.1 = "Executor" ∨ r.2.2.1 = "with_execution_state") :=
  ⟨rfl, by decide +kernel⟩

example : depthOpSites.length = 7 := by decide +kernel

/-- every constructor of `Environment` starts with the maximum as limit -/
theorem env_limit_defaults :
    envLimitDefaults = [("new", "MAX_RECURSION"), ("empty", "MAX_RECURSION")] ∧
    ∀ e ∈ envLimitDefaults, e.2 = "MAX_RECURSION" :=
  ⟨rfl, by decide +kernel⟩

example : envLimitDefaults.length = 2 := by decide +kernel

/-- **Rust callbacks are transparent for the accounting**: a trace in which callbacks are entered
    and left between the depth events (filter → `State::render_block` → template → filter → …)
    ends exactly like its depth events: same accounting state, same recursion error, no panic —
    so all theorems above hold for mixed cycles: weighted nesting ≤ limit, nesting ≤ limit, and
    the nested re-entry is charged on top of the full depth -/
theorem rust_callbacks_transparent (L : Nat) (evs : List EvH) :
    (runH (initH L) evs = .stuck ∨ (runH (initH L) evs).toOut = run (init L) (erase evs)) ∧
    runH (initH L) evs ≠ .panic ∧
    (∀ s, runH (initH L) evs = .ok s →
      Reach L s.st ∧ wsum s.st.acts ≤ L ∧ nativeDepth s.st ≤ max L 1 ∧
      s.saved.length = s.st.acts.length) := by
  have h0 := runH_erase evs (initH L)
  refine ⟨h0, ?_, ?_⟩
  · intro hp
    rcases h0 with h | h <;> rw [hp] at h
    · cases h
    · exact run_never_panics Reach.init (erase evs) h.symm
  · intro s hs
    obtain ⟨h1, h2⟩ := runH_ok_erase (invH_init L) hs
    have hr : Reach L s.st := reach_run Reach.init h1
    exact ⟨hr, (reach_le_limit hr).1, (reach_le_limit hr).2, h2.2⟩

/-- a mixed trace with at least `max L 1` pending re-entries ends like its depth events: with the
    recursion error, unless it was not well formed -/
theorem mixed_recursion_errors (L : Nat) (evs : List EvH) (hp : max L 1 ≤ pending (erase evs) 0) :
    runH (initH L) evs = .recursionError ∨ runH (initH L) evs = .stuck := by
  rcases runH_erase evs (initH L) with h | h
  · exact Or.inr h
  · refine toOut_eq_error_or_stuck ?_
    rw [h]
    exact unbounded_recursion_errors L (erase evs) hp

/-- filter → render_block → filter → call_macro at limit 20: the depth events alone decide -/
example : runH (initH 20) [.hop, .ev (.enter .blockCall), .hop, .hop, .ev (.enter .macroCall), .hop,
      .ev (.enter .includeTpl), .hop, .ev (.enter .macroCall)] = .recursionError ∧
    (runH (initH 20) [.hop, .ev (.enter .blockCall), .hop, .unhop, .hop, .hop, .ev (.enter .macroCall)]).toOut =
      run (init 20) [.enter .blockCall, .enter .macroCall] := by decide +kernel

/-- a callback between two re-entries changes nothing of what the second one is charged -/
theorem hop_then_enter (s : StH) (k : Kind) :
    (stepH s .hop = .ok { s with cur := s.cur + 1 }) ∧
    (runH s [.hop, .ev (.enter k)]).toOut = step s.st (.enter k) := by
  refine ⟨rfl, ?_⟩
  simp only [runH, stepH]
  cases step s.st (.enter k) <;> rfl

example : (runH ⟨⟨30, ⟨10, 2⟩, []⟩, 1, []⟩ [.hop, .ev (.enter .macroCall)]).toOut =
    .ok ⟨30, ⟨16, 2⟩, [⟨.macroCall, ⟨10, 2⟩, 2⟩]⟩ := by decide +kernel

/-- the callback frames on the native stack: at most `H` per activation when no activation nests
    more than `H` callbacks before template code runs again -/
theorem hop_frames_bounded (H L : Nat) (evs : List EvH) (s : StH)
    (hw : hopsWithin H (initH L) evs) (hr : runH (initH L) evs = .ok s) :
    totalHops s ≤ H * nativeDepth s.st ∧ totalHops s ≤ H * max L 1 := by
  have h1 := totalHops_le_nativeDepth hw hr
  obtain ⟨_, _, hn, _⟩ := (rust_callbacks_transparent L evs).2.2 s hr
  exact ⟨h1, Nat.le_trans h1 (Nat.mul_le_mul_left H hn)⟩

example : ∃ s, runH (initH 500) [.hop, .hop, .ev (.enter .blockCall), .hop, .ev (.enter .macroCall), .hop] = .ok s ∧
    hopsWithin 2 (initH 500) [.hop, .hop, .ev (.enter .blockCall), .hop, .ev (.enter .macroCall), .hop] ∧
    totalHops s = 4 ∧ nativeDepth s.st = 3 :=
  ⟨_, rfl, (hopsWithinB_iff 2 _ _).1 (by decide), by decide +kernel, by decide +kernel⟩

theorem budget_of_state (stack root hopBytes H : Nat) (bytes : Kind → Nat) (P : Kind → Bool)
    (hb : budgetOK stack root hopBytes H bytes P = true) {L : Nat} (hL : L ≤ maxRecursionEnv) {s : StH}
    (hr : Reach L s.st) (hh : totalHops s ≤ H * nativeDepth s.st) (hP : ∀ a ∈ s.st.acts, P a.kind = true) :
    root + stackBytesH bytes hopBytes s < stack := by
  have hb' : projected root hopBytes H bytes P < stack := of_decide_eq_true hb
  -- the activations, each counted with `H` callback frames: at most `ρ` per unit of weighted nesting
  have h1 := stack_le_mul_max (P · = true) _ _ (bytes_le_rho (withHops hopBytes H bytes) P) hL hr hP
  rw [stackBytes_withHops] at h1
  -- the callback frames: `H` below each activation and `H` in the innermost
  have h3 := Nat.mul_le_mul_left hopBytes hh
  rw [nativeDepth, Nat.mul_succ, Nat.mul_add, ← Nat.mul_assoc] at h3
  simp only [stackBytesH]
  simp only [projected] at hb'
  omega

/-- **the stack budget holds**: if the decidable check `budgetOK` — entry overhead + `MAX_RECURSION`
    × the largest measured bytes-per-depth-unit among the kinds `P` (a re-entry counted with the `H`
    callback frames of `hopBytes` that can sit below it) `<` the stack size — evaluates to `true` on
    the measured values
    (the driver evaluates this very function on every run's measurements, for every build profile
    and both stack sizes, with `P` = the edge kinds that are not known findings), then no mixture
    of re-entries of kinds `P` with at most `H` Rust callbacks nested per activation, at any limit
    up to the default, needs as much native stack as there is. -/
theorem stack_budget_holds (stack root hopBytes H : Nat) (bytes : Kind → Nat) (P : Kind → Bool)
    (hb : budgetOK stack root hopBytes H bytes P = true) :
    ∀ L, L ≤ maxRecursionEnv → ∀ (evs : List EvH) (s : StH),
      runH (initH L) evs = .ok s → hopsWithin H (initH L) evs →
      (∀ a ∈ s.st.acts, P a.kind = true) →
      root + stackBytesH bytes hopBytes s < stack :=
  fun L hL evs s hr hw hP => budget_of_state stack root hopBytes H bytes P hb hL
    ((rust_callbacks_transparent L evs).2.2 s hr).1 (totalHops_le_nativeDepth hw hr) hP

/-- a filter → `State::call_macro` → macro → filter → … → include cycle -/
def exampleMixedTrace : List EvH :=
  [.hop, .ev (.enter .macroCall), .hop, .ev (.enter .macroCall), .hop, .ev (.enter .includeTpl), .hop]

/-- an instance: release profile, macro / caller / include re-entries with one callback frame of
    600 bytes below each, at the default limit: below 2 MiB -/
example : ∃ s, runH (initH 500) exampleMixedTrace = .ok s ∧
    5100 + stackBytesH measuredRelease 600 s < 2097152 :=
  ⟨_, rfl, stack_budget_holds 2097152 5100 600 1 measuredRelease
    (fun k => k != .blockCall && k != .superCall) (by decide) 500 (by decide) exampleMixedTrace _ rfl
    ((hopsWithinB_iff 1 _ _).1 (by decide)) (by decide)⟩

/-- the same without callbacks, over the reachable states of the accounting model -/
theorem stack_budget_holds_plain (stack root : Nat) (bytes : Kind → Nat) (P : Kind → Bool)
    (hb : budgetOK stack root 0 0 bytes P = true) :
    ∀ L, L ≤ maxRecursionEnv → ∀ s, Reach L s → (∀ a ∈ s.acts, P a.kind = true) →
      root + stackBytes bytes s.acts < stack := by
  intro L hL s hs hP
  have := budget_of_state stack root 0 0 bytes P hb hL (s := ⟨s, 0, []⟩) hs (Nat.zero_le _) hP
  rwa [stackBytesH, Nat.zero_mul, Nat.add_zero] at this

/-- the snapshots: release fits 2 MiB for every kind, also with one callback frame of 600 bytes
    per activation for everything but block calls; the unoptimised debug build fits 2 MiB without
    block calls / `super()` and 8 MiB with them; with them it does not fit 2 MiB (known finding) -/
example : budgetOK 2097152 5100 0 0 measuredRelease (fun _ => true) = true ∧
    budgetOK 2097152 5100 600 1 measuredRelease (fun k => k != .blockCall && k != .superCall) = true ∧
    budgetOK 2097152 15300 0 0 measuredDebugO0 (fun k => k != .blockCall && k != .superCall) = true ∧
    budgetOK 8388608 15300 0 0 measuredDebugO0 (fun _ => true) = true ∧
    budgetOK 2097152 15300 0 0 measuredDebugO0 (fun _ => true) = false := by decide +kernel

/-- **the frame-size relevant declarations of `eval_impl` are tied**: its parameters, the locals
    declared before the interpreter loop, the fixed-size arrays among them with their lengths
    (`MAX_LOCALS` each), and the inline attributes of vm/mod.rs are the regenerated ones; the arrays
    alone (8 bytes per element) take `2 × MAX_LOCALS × 8` bytes of every native re-entry, and at
    the maximum nesting (`MAX_RECURSION` re-entries charged one unit each) that is within a quarter
    of the smallest supported stack.  A longer or additional array, a new local or a changed
    inline attribute changes a table; `frameLowerOK` (evaluated on the measurements of every run)
    checks that no measured frame is smaller than its arrays. -/
theorem frame_constants_tied :
    evalImplParams = ["state: &mut State<'_", "'env>", "out: &mut Output", "mut stack: Stack", "mut pc: u32"] ∧
    evalImplLocals = ["initial_auto_escape", "undefined_behavior", "strict_undefined", "auto_escape_stack",
      "next_loop_recursion_jump", "loop_recursion_bases", "loaded_filters", "loaded_tests",
      "parent_instructions"] ∧
    evalImplArrays = [("loaded_filters", "None", maxLocals), ("loaded_tests", "None", maxLocals)] ∧
    evalImplArrayBytes = 2 * maxLocals * 8 ∧
    vmInlineAttrs = [("eval_state", "inline(always)"), ("eval_impl", "inline"), ("process_err", "inline(never)")] ∧
    maxRecursionEnv * evalImplArrayBytes ≤ 2097152 / 4 ∧
    (∀ bytes : Kind → Nat, frameLowerOK bytes = true → ∀ k, evalImplArrayBytes ≤ bytes k) := by
  refine ⟨rfl, rfl, rfl, rfl, rfl, by decide, ?_⟩
  exact fun bytes h k => of_decide_eq_true (all_allKinds h k)

example : frameLowerOK measuredRelease = true ∧ frameLowerOK (fun _ => 700) = false := by decide +kernel

/-- the charge of an include does not depend on how many candidates of a list were tried before the
    template that is found, nor on `ignore missing` -/
theorem include_candidates_charged_once (s : St) (n : Nat) (evs : List Ev) :
    run s (List.replicate n .missingInclude ++ .enter .includeTpl :: evs) =
      run s (.enter .includeTpl :: evs) := by
  induction n with
  | zero => rfl
  | succ n ih =>
    exact ((missing_include_depth_neutral s).2 (List.replicate n .missingInclude ++ .enter .includeTpl :: evs)).trans ih

example : run (init 25) [.missingInclude, .enter .includeTpl, .missingInclude, .missingInclude,
    .enter .includeTpl, .missingInclude, .enter .includeTpl] = .recursionError := by decide +kernel

/-- **the charge of every edge is independent of the output state, the auto-escape setting, the
    undefined behaviour, the capture depth and the fuel.**  `enterA amb` is the re-entry computed
    from the REGENERATED cost expressions (`MJ.Gen.costSites`: the arguments of every `push_frame` /
    `incr_depth` / `decr_depth` call of the crate outside `Context`, term by term) evaluated in an
    ambient state `amb`; a term that is not a constant, a frame or the caller's depth reads its
    value from `amb`.  (1) every term of the table is closed, (2) therefore `enterA` is the same in
    any two ambient states, for every accounting state and every kind — proved from (1) alone,
    whatever the constants are —, (3) with the current constants `enterA` IS the model's `enter`,
    so every theorem above is a theorem about the charges the source expressions compute, (4) what
    a completed include releases is what it charged.  A cost expression that mentions anything else
    (`if out.is_discarding() { 1 } else { COST }`, a weight computed from the arguments, …) makes a
    term `opaque` and breaks (1). -/
theorem edge_cost_state_independent :
    (∀ r ∈ costSites, ∀ t ∈ r.2.2.2.2.1, termClosed t = true) ∧
    (∀ (amb amb' : Amb) (s : St) (k : Kind), enterA amb s k = enterA amb' s k) ∧
    (∀ (amb : Amb) (s : St) (k : Kind), enterA amb s k = step s (.enter k)) ∧
    termsOf "perform_include" "decr_depth" = termsOf "perform_include" "incr_depth" :=
  ⟨costSites_closed, enterA_indep_of_closed costSites_closed, enterA_eq_enter, by decide +kernel⟩

/-- non-vacuity: an opaque term WOULD make the charge depend on the ambient state -/
example : ∃ amb amb' : Amb, evalTerms amb 7 [("opaque", "weight", 0)] ≠ evalTerms amb' 7 [("opaque", "weight", 0)] :=
  ⟨⟨false, 0, 0, 0, none, fun _ => 0⟩, ⟨true, 1, 1, 3, some 5, fun _ => 4⟩, by decide +kernel⟩

example : enterA ⟨true, 3, 1, 3, some 0, fun _ => 99⟩ ⟨500, ⟨20, 3⟩, []⟩ .includeTpl =
    .ok ⟨500, ⟨20 + includeRecursionCost, 3⟩, [⟨.includeTpl, ⟨20, 3⟩, 3⟩]⟩ := by decide +kernel

/-- **no charge sits under a condition on the ambient state**: the regenerated table of the
    conditions (`if` / `match` headers and match arms; loops and closures are listed so that moving
    a call changes the table) that enclose each depth operation inside its function is the expected
    one, and none of the identifiers of those conditions is a name under which the code reads the
    output, the auto-escape setting, the undefined behaviour or the fuel.  The charges of
    `eval_macro`, `perform_include`, `perform_super` and `push_loop` are unconditional; the frame of
    `call_block` is pushed for every block that exists; `PushWith` is one arm of the instruction
    dispatch. -/
theorem cost_sites_unconditional :
    costSites.map (fun r => (r.2.2.1, r.2.2.2.1, r.2.2.2.2.2.1)) = [
      ("eval_macro", "push_frame", []),
      ("eval_macro", "incr_depth", []),
      ("eval_impl", "push_frame", ["loop:loop", "match instr", "arm:Instruction::PushWith"]),
      ("perform_include", "incr_depth", ["loop:for choice in choices"]),
      ("perform_include", "decr_depth", ["loop:for choice in choices"]),
      ("perform_super", "push_frame", []),
      ("call_block", "push_frame", ["if let Some((name, block_stack)) = state.blocks.get_key_value(name)", "closure"]),
      ("push_loop", "push_frame", [])] ∧
    (∀ r ∈ costSites, ∀ g ∈ r.2.2.2.2.2.2, g ∉ ambientNames) :=
  ⟨rfl, by decide +kernel⟩

example : costSites.length = 8 ∧ "out" ∈ ambientNames ∧ "fuel_tracker" ∈ ambientNames := by decide +kernel

/-- states reachable from the empty state (`Context::new`: no frame; no root activation) -/
inductive ReachE (L : Nat) : St → Prop where
  | init : ReachE L (initEmpty L)
  | step {s s' : St} {e : Ev} : ReachE L s → step s e = .ok s' → ReachE L s'

theorem reachE_inv {L : Nat} {s : St} (h : ReachE L s) : Inv 0 s ∧ s.limit = L := by
  induction h with
  | init => exact ⟨inv_initEmpty L, rfl⟩
  | step _ hs ih => exact inv_limit_step ih hs

/-- **a block or macro entered from Rust on an empty state is accounted like any other**: from
    `Template::new_state()` (a context without a frame, no root activation) every re-entry is
    charged its full cost from depth 0: the weighted nesting and the number of native activations
    stay within the limit itself (no root activation to add), returning restores the caller's
    context, nothing panics, and a run with at least `L + 1` pending re-entries cannot complete;
    entering costs exactly what it costs in a render (`enter` is the same function).  Compared with a
    render of the same program every depth is one less: the limit admits one more unit. -/
theorem empty_state_accounting (L : Nat) (evs : List Ev) :
    run (initEmpty L) evs ≠ .panic ∧
    (∀ s, run (initEmpty L) evs = .ok s →
      ReachE L s ∧ wsum s.acts ≤ s.cur.depth ∧ wsum s.acts ≤ L ∧ s.acts.length ≤ L) ∧
    (∀ s a rest, ReachE L s → s.acts = a :: rest → step s .leave = .ok { s with cur := a.old, acts := rest }) := by
  refine ⟨run_ne_panic evs (inv_initEmpty L), fun s hr => ?_,
    fun s a rest hs ha => leave_restores (reachE_inv hs).1 ha⟩
  have hre : ReachE L s := run_preserves ReachE.step ReachE.init hr
  obtain ⟨hi, rfl⟩ := reachE_inv hre
  exact ⟨hre, wsum_add_le_depth hi, (wsum_le_limit hi).1, (Nat.max_zero _ ▸ (wsum_le_limit hi).2.1 :)⟩

/-- `State::render_block` on an empty state at limit 3: three nested blocks fit (a render admits two) -/
example : (∃ s, run (initEmpty 3) [.enter .blockCall, .enter .blockCall, .enter .blockCall] = .ok s) ∧
    run (initEmpty 3) (List.replicate 4 (.enter .blockCall)) = .recursionError ∧
    run (init 3) (List.replicate 3 (.enter .blockCall)) = .recursionError := by
  refine ⟨⟨_, rfl⟩, by decide +kernel, by decide +kernel⟩

/-- **a render started from inside a render has a budget of its own, and the total is the product**:
    a Rust callback that calls `Template::render` (`Expression::eval`, `render_str`, …) creates a new
    root: (1) its context starts at depth 1 whatever the depth of the render below it, with the
    limit of the environment it renders with; (2) in every state a nest of renders reaches, each
    render on the native stack satisfies the accounting invariant of a single render, so with `R`
    renders on the stack and every limit `≤ M`: weighted nesting `≤ R × M`, native activations
    `≤ R × max M 1`, and for frame sizes with at most `ρ` bytes per depth unit the activations need
    at most `ρ × R × M` bytes; (3) nothing panics.  The library bounds each factor `M`, not the number
    `R` of renders the embedder's callbacks nest: with `R` unbounded the native stack is unbounded
    (outside the property: its recursions are the template-level ones). -/
theorem nested_renders_bounded (L M : Nat) (hL : L ≤ M) (evs : List EvN) (hf : freshLE M evs) :
    (∀ n l, stepN n (.fresh l) = .stuck ∨ stepN n (.fresh l) = .ok (init l :: n)) ∧
    runN [init L] evs ≠ .panic ∧
    ∀ n, runN [init L] evs = .ok n →
      wsumN n ≤ n.length * M ∧ nativeDepthN n ≤ n.length * max M 1 ∧
      ∀ (bytes : Kind → Nat) (ρ : Nat), (∀ k, bytes k ≤ ρ * cost k) →
        stackBytesN bytes n ≤ ρ * (n.length * M) := by
  have hi0 : NestInv M [init L] := List.forall_mem_cons.2 ⟨⟨inv_init L, hL⟩, nofun⟩
  obtain ⟨hp, hok⟩ := runN_inv evs hi0 hf
  refine ⟨fun n l => ?_, hp, fun n hr => ?_⟩
  · cases n with
    | nil => exact Or.inl rfl
    | cons s rest => exact Or.inr rfl
  · obtain ⟨h1, h2⟩ := wsumN_le n (hok n hr)
    exact ⟨h1, h2, fun bytes ρ hρ =>
      Nat.le_trans (stackBytesN_le bytes ρ hρ n) (Nat.mul_le_mul_left ρ h1)⟩

/-- a macro recursion near the limit, a callback that renders another template at limit 10, a
    block cycle there: the inner render is cut at ITS limit, counted from depth 1 -/
example : runN [init 500] ((List.replicate 80 (.ev (.enter .macroCall))) ++ [.fresh 10] ++
      List.replicate 9 (.ev (.enter .blockCall))) ≠ .recursionError ∧
    runN [init 500] ((List.replicate 80 (.ev (.enter .macroCall))) ++ [.fresh 10] ++
      List.replicate 10 (.ev (.enter .blockCall))) = .recursionError := by
  constructor <;> decide +kernel

/-- **the `stacker` feature as a configuration**: without it `set_recursion_limit` clamps to
    `MAX_RECURSION`; with it the configured limit is taken as it is (regenerated expression
    `level`) and the ACCOUNTING is unchanged — every theorem about `Reach L` holds for every `L` —,
    while the stack is no longer one block: `do_eval` enters the interpreter loop through
    `stacker::maybe_grow(red zone, segment)` (regenerated: 32 KiB, 1 MiB, one site, around
    `eval_impl`).  If `stackerOK` holds for the measured bytes — an activation with its `H`
    callback frames and the deepest leaf call fits the red zone — then at the entry of EVERY
    activation at least that much stack is free, at any nesting depth: no overflow at any limit. -/
theorem stacker_configuration :
    stackerLimitExpr = "level" ∧ stackerGrowCallee = "eval_impl" ∧ stackerGrowSites = 1 ∧
    (∀ level, setRecursionLimitCfg true level = level) ∧
    (∀ level, setRecursionLimitCfg false level = min level maxRecursionEnv) ∧
    (∀ level s, Reach (setRecursionLimitCfg true level) s → wsum s.acts ≤ level ∧ nativeDepth s ≤ max level 1) ∧
    (∀ (hopBytes H leaf : Nat) (bytes : Kind → Nat), stackerOK hopBytes H leaf bytes = true →
      ∀ free k, bytes k + hopBytes * H + leaf ≤ stackerFreeAtEntry free) := by
  have hcfg : ∀ level, setRecursionLimitCfg true level = level := by
    intro level; simp [setRecursionLimitCfg, show stackerLimitExpr = "level" from rfl]
  refine ⟨rfl, rfl, rfl, hcfg, ?_, ?_, ?_⟩
  · intro level
    simp [setRecursionLimitCfg, (limit_clamped level).1]
  · intro level s hs
    rw [hcfg] at hs
    exact reach_le_limit hs
  · intro hopBytes H leaf bytes hok free k
    obtain ⟨hall, hseg⟩ := Bool.and_eq_true_iff.1 hok
    have hk : bytes k + hopBytes * H + leaf ≤ stackerRedZone := of_decide_eq_true (all_allKinds hall k)
    have hseg : stackerRedZone ≤ stackerSegment := of_decide_eq_true hseg
    unfold stackerFreeAtEntry
    split <;> omega

/-- the measured unoptimised debug frames (16.5 KB) with two callback frames of 1.5 KB and 8 KB of
    leaf calls fit the red zone; a 40 KB frame would not -/
example : stackerOK 1500 2 8000 measuredDebugO0 = true ∧ stackerOK 0 0 0 (fun _ => 40000) = false ∧
    setRecursionLimitCfg true 100000 = 100000 ∧ setRecursionLimitCfg false 100000 = 500 := by decide +kernel

/-- **the stack budget with leaf calls**: `budgetLeafOK` is `budgetOK` with `leaf` more bytes — the
    deepest call the innermost activation makes that is not a re-entry (a builtin filter / test /
    function, the formatting of a value, the construction of the error at the cut-off; measured
    every run as the largest excursion below the interpreter of any filter / test / function of the
    environment applied to a probing object).  If it holds, no mixture of re-entries of kinds `P`
    with at most `H` callbacks per activation and one leaf call at the bottom overflows. -/
theorem stack_budget_holds_leaf (stack root hopBytes H leaf : Nat) (bytes : Kind → Nat) (P : Kind → Bool)
    (hb : budgetLeafOK stack root hopBytes H leaf bytes P = true) :
    ∀ L, L ≤ maxRecursionEnv → ∀ (evs : List EvH) (s : StH),
      runH (initH L) evs = .ok s → hopsWithin H (initH L) evs →
      (∀ a ∈ s.st.acts, P a.kind = true) →
      root + stackBytesH bytes hopBytes s + leaf < stack := by
  intro L hL evs s hr hw hP
  have hb' : projected root hopBytes H bytes P + leaf < stack := of_decide_eq_true hb
  have := stack_budget_holds (stack - leaf) root hopBytes H bytes P (decide_eq_true (by omega))
    L hL evs s hr hw hP
  omega

example : budgetLeafOK 2097152 5100 600 1 20000 measuredRelease (fun k => k != .blockCall && k != .superCall) = true ∧
    budgetLeafOK 2097152 5100 0 0 40000 measuredRelease (fun _ => true) = false := by decide +kernel

/-- what the model cannot exhibit: the native stack a thread has and the bytes its frames take -/
structure Measured where
  /-- bytes of native stack of the thread (2 MiB, 8 MiB) -/
  stack : Nat
  /-- bytes used before the first interpreter activation -/
  root : Nat
  /-- bytes of one native re-entry of each kind -/
  bytes : Kind → Nat
  /-- bytes of one Rust callback frame between two re-entries, and how many nest per activation -/
  hopBytes : Nat
  H : Nat
  /-- bytes of the deepest leaf call -/
  leaf : Nat

/-- **C11 as stated**: for every recursion limit from 1 up to the default and every program —
    every trace of macro / caller / include / import / block / `super()` re-entries, `with` / `for` /
    recursive-loop frames, includes that find nothing and Rust callbacks in between (cycles of any
    length, any mixture, any work on each frame) —
    (1) the run never panics in the bookkeeping,
    (2) whenever it is running, the native stack in use is strictly less than the thread has,
    (3) a recursion that goes on (at least `limit` re-entries pending) does not complete: it ends with
        "recursion limit exceeded", at the first re-entry whose charge does not fit,
    (4) and the limit that is configured is never above the maximum. -/
def C11_statement (m : Measured) : Prop :=
  ∀ level L, L = setRecursionLimit level → ∀ evs : List EvH,
    runH (initH L) evs ≠ .panic ∧
    (∀ s, runH (initH L) evs = .ok s → hopsWithin m.H (initH L) evs →
      m.root + stackBytesH m.bytes m.hopBytes s + m.leaf < m.stack) ∧
    (max L 1 ≤ pending (erase evs) 0 →
      runH (initH L) evs = .recursionError ∨ runH (initH L) evs = .stuck) ∧
    L ≤ maxRecursionEnv

/-- the accounting half of the statement needs no hypothesis at all -/
theorem C11_main_accounting (level : Nat) (evs : List EvH) :
    runH (initH (setRecursionLimit level)) evs ≠ .panic ∧
    (max (setRecursionLimit level) 1 ≤ pending (erase evs) 0 →
      runH (initH (setRecursionLimit level)) evs = .recursionError ∨
      runH (initH (setRecursionLimit level)) evs = .stuck) ∧
    setRecursionLimit level ≤ maxRecursionEnv :=
  ⟨(rust_callbacks_transparent _ evs).2.1, mixed_recursion_errors _ evs, (limit_clamped level).2.1⟩

example : runH (initH (setRecursionLimit 100000)) (List.replicate 500 (.ev (.enter .blockCall))) = .recursionError := by
  decide +kernel

/-- **main theorem**: the property as stated, with everything that is not proved as a named
    hypothesis.
    * `h_budget` — the decidable stack budget on the measured bytes (`budgetLeafOK`).  VALIDATED
      every run: the driver evaluates this function on the two-limit measurements of every build
      profile and stack size; it is FALSE for block calls / `super()` in the profiles of the known
      findings (`C11_counterexample`), which is why the kinds are restricted by `P`.
    * `h_kinds` — the program re-enters only through kinds in `P` (all kinds where the budget holds).
    Discharged by other audited theorems, not hypotheses here: the costs are the regenerated ones
    and state independent (`edge_cost_state_independent`, `cost_sites_unconditional`), every
    re-entry of the crate is one of the modelled kinds (`every_reentry_charged`,
    `reentry_sites_guarded`, `context_sites_classified`), callbacks cannot touch the depth
    (`callbacks_depth_neutral`, `depth_ops_confined`), the limit is clamped (`limit_clamped`,
    `env_limit_defaults`).  Outside Lean (validated differentially on every run): that the trace of
    depth events of a real run is the trace the model assigns to the program. -/
theorem C11_main (m : Measured) (P : Kind → Bool)
    (h_budget : budgetLeafOK m.stack m.root m.hopBytes m.H m.leaf m.bytes P = true)
    (h_kinds : ∀ L (evs : List EvH) (s : StH), runH (initH L) evs = .ok s → ∀ a ∈ s.st.acts, P a.kind = true) :
    C11_statement m := by
  intro level L hL evs
  subst hL
  obtain ⟨hpanic, herr, hle⟩ := C11_main_accounting level evs
  exact ⟨hpanic,
    fun s hr hw => stack_budget_holds_leaf m.stack m.root m.hopBytes m.H m.leaf m.bytes P h_budget
      _ hle evs s hr hw (h_kinds _ evs s hr),
    herr, hle⟩

/-- the release profile with every kind but block calls under callbacks satisfies `h_budget` -/
example : budgetLeafOK 2097152 5100 600 1 20000 measuredRelease (fun k => k != .blockCall && k != .superCall) = true := by
  decide +kernel

end MJ.C11
