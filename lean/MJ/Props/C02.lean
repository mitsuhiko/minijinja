import MJ.Proofs.SafeProg
import MJ.Proofs.SafeOnce
import MJ.Proofs.SafeCheck
import MJ.Proofs.SafeCallables
import MJ.Model.SafeSites
/-!
# C02 — HTML auto-escaping is sound: unsafe data is escaped exactly once

Property theorems only (helper lemmas: `MJ/Proofs/Safe*.lean`; model: `MJ/Model/Safe*.lean`).

Every execution of a template is a sequence of the primitive steps of `MJ.Safe.Step`: values enter
as `data` (context strings, string literals), template text is written by `raw`, expressions are
written by `emit`, captures (`set`/`filter`/`call` blocks, `super()`, recursive `loop(…)`) are
`beginCapture … endCapture`, macro and call-block results are `beginCapture … macroReturn`, and
every operator or filter is `apply g` for its model `g`.  The safe-marking-free fragment of the
property is: every `emit` happens in Html mode and every applied `g` preserves the invariant —
which is *proved* for the model of every operator and filter except `safe` and `tojson`, and which
for the class-only filters (`forward`, `normal`) follows from the class predicate that the harness
checks on the real filters.
-/
namespace MJ.C02
open MJ MJ.Safe

/-- the invariant: a `Safe` value (recursively in containers) contains no `< > " '` that came from data -/
abbrev Inv (v : V) : Prop := v.Inv

/-- Full-strength statement: whatever sequence of steps a template of the fragment performs —
    through operators, filters, loops, macros, call blocks, captured blocks, includes and blocks —
    the rendered output contains no `< > " '` that came from context data or string literals. -/
def C02_full : Prop :=
  ∀ (steps : List Step) (st : St), (∀ s ∈ steps, StepOk s) → run steps {} = some st → Clean st.out

/-- `HtmlEscape` leaves no metacharacter at all — re-proved against the table and the range
    pre-filter regenerated from `utils.rs` -/
theorem escape_kills_meta (s : TStr) : ∀ ch ∈ htmlEscape s, isMeta ch.c = false :=
  htmlEscape_noMeta s

/-- so does the string path of `write_with_html_escaping` with its own pre-filter
    `needs_html_escaping` (a string it lets through verbatim contains no metacharacter) -/
theorem write_string_kills_meta (s : TStr) : ∀ ch ∈ escapeStr s, isMeta ch.c = false :=
  escapeStr_noMeta s

/-- `<`, `>`, `"`, `'` and `&` all lie inside the range pre-filter of `HtmlEscape`, have a table
    row, and are seen by `needs_html_escaping` — none is skipped -/
theorem meta_in_prefilter_range :
    ∀ c ∈ ['<', '>', '"', '\'', '&'], (escapeOf c).isSome = true ∧ needsChar c = true := by decide

/-- `write_escaped` in Html mode is sound for values of **every** kind: a value that is not a Safe
    string — unmarked string, bytes (valid UTF-8 or not), number, boolean, none, undefined, list,
    map, any other object — is written without a single `< > " '` -/
theorem write_escaped_kills_meta_all_kinds (v : V) (h : ∀ s, v ≠ .str s true) :
    ∀ ch ∈ writeEscaped .html v, isMeta ch.c = false := by
  have : writeEscaped .html v = writeHtml v := by
    unfold writeEscaped
    split
    · rename_i s; exact absurd rfl (h s)
    · rfl
  rw [this]
  exact writeHtml_noMeta v

/-- the decision structure of `write_escaped` / `write_with_html_escaping` regenerated from
    `utils.rs` (safe bypass first, mode dispatch, the integer / boolean fast paths, the string path
    `as_str` → pre-filter or escaper, `Undefined | None | Bool | Number` → Display, everything else →
    escaper on `to_string()`) is the one the model transcribes -/
theorem write_escaped_dispatch_matches : Gen.c02WriteEscapedDispatch = modelDispatch := rfl

/-- `Value::as_str` gives text for strings and for valid UTF-8 bytes only, as the model assumes -/
theorem as_str_arms_match : Gen.c02AsStrArms = modelAsStrArms := rfl

/-- every `ValueRepr` variant (regenerated from `value/mod.rs` together with its `ValueKind`) is
    classed: "no metacharacter by construction" or "escaped via its text" -/
theorem all_value_reprs_classified : ∀ v ∈ Gen.c02ValueReprKinds, (reprClass v).isSome = true := by decide +kernel

/-- each primitive step of the fragment maps a state satisfying the invariant (all registers `Inv`,
    every capture buffer and the output free of data-tainted metacharacters) to such a state -/
theorem step_preserves_inv (s : Step) (st st' : St) (hok : StepOk s) (h : StInv st)
    (hr : s.run st = some st') : StInv st' := Safe.step_preserves_inv s st st' hok h hr

theorem run_preserves_inv (steps : List Step) (st st' : St) (hok : ∀ s ∈ steps, StepOk s) (h : StInv st)
    (hr : run steps st = some st') : StInv st' := Safe.run_preserves_inv steps st st' hok h hr

/-- **the property**: for every sequence of steps of the fragment from the initial state, nothing
    data-tainted is written raw (and every register and every open capture satisfies the invariant) -/
theorem no_raw_tainted_meta : C02_full := by
  intro steps st hok hr
  exact (run_preserves_inv steps {} st hok stInv_init hr).out_clean

/-- the same for the state reached from any state satisfying the invariant (e.g. a context that
    already holds captured values), including registers and open captures -/
theorem no_raw_tainted_meta_from (steps : List Step) (st st' : St) (hok : ∀ s ∈ steps, StepOk s)
    (h : StInv st) (hr : run steps st = some st') :
    Clean st'.out ∧ (∀ b ∈ st'.caps, Clean b) ∧ ∀ v ∈ st'.pool, Inv v :=
  let r := run_preserves_inv steps st st' hok h hr
  ⟨r.out_clean, r.2.1, r.1⟩

/-- **escaped once**: ending a capture in Html mode and printing the captured value in Html mode
    writes exactly the captured text into the enclosing target — byte for byte, nothing is escaped
    a second time (set-block, filter-block, `super()`, recursive loop call) -/
theorem escaped_once (st : St) (buf : TStr) (rest : List TStr) (hc : st.caps = buf.reverse :: rest) :
    run [.endCapture .html, .emit .html st.pool.size] st =
      some (({ st with caps := rest }.push (.str buf true)).write buf) := by
  have e : (Mode.html != Mode.none) = true := by decide
  simp [run, Step.run, hc, capturedValue, St.push_eq, writeEscaped, e]

/-- the same for the result of a macro or call block (`Macro::call`) -/
theorem escaped_once_macro (st : St) (buf : TStr) (rest : List TStr) (hc : st.caps = buf.reverse :: rest) :
    run [.macroReturn .html, .emit .html st.pool.size] st =
      some (({ st with caps := rest }.push (.str buf true)).write buf) :=
  escaped_once st buf rest hc  -- `Step.run` has the same arm for `macroReturn` as for `endCapture`

/-- a capture taken while auto-escaping is off is *not* marked, so printing it in Html mode escapes
    it (it satisfies the invariant whatever was written into it) -/
theorem capture_in_none_mode_is_unmarked (buf : TStr) : capturedValue .none buf = .str buf false := rfl

/-- every operator and filter model the driver can run in Html mode and that belongs to the
    fragment preserves the invariant (so `StepOk (.apply g _)` holds for it) -/
theorem named_models_preserve_inv (name : String) (ps : List Nat) (g : Fn)
    (h : lookupBase name .html ps = some (g, true)) : InvPreserving g :=
  Safe.named_models_preserve_inv name ps g h

/-- … and so does `map` with any such filter -/
theorem named_models_preserve_inv_map (name : String) (ps : List Nat) (g : Fn)
    (h : lookupF name .html ps = some (g, true)) : InvPreserving g :=
  Safe.named_models_preserve_inv_map name ps g h

/-- class `preserve`: any filter of the shape `value.preserve_safety(g(value.as_str()))` whose `g`
    adds no data-tainted metacharacter (validated for the real `upper`/`lower`/`capitalize` over all
    Unicode scalar values by the harness) -/
theorem class_preserve (g : TStr → TStr) (hg : Reflects g) : InvPreserving (preserveF g) := preserveF_inv hg
/-- class `pieces`: pieces of a string inherit its bit (`split`, `lines`, `last`, contrib `random`) -/
theorem class_pieces (g : TStr → List TStr) (hg : SubPieces g) : InvPreserving (piecesF g) := piecesF_inv hg
/-- class `forward`: every `Safe` leaf of the result is a `Safe` leaf of an argument -/
theorem class_forward (g : Fn) (hg : Forwards g) : InvPreserving g := forwards_inv hg
/-- class `select`: every string leaf of the result, text and bit, is a leaf of an argument -/
theorem class_select (g : Fn) (hg : Selects g) : InvPreserving g := forwards_inv (selects_forwards hg)
/-- class `normal`: the result has no `Safe` leaf -/
theorem class_normal (g : Fn) (hg : NormalOut g) : InvPreserving g := normalOut_inv hg
/-- class `mapped`: `map(filter)` of an invariant-preserving filter -/
theorem class_mapped (g : Fn) (hg : InvPreserving g) : InvPreserving (mapF g) := mapF_inv hg

/-- every filter and global function registered by `minijinja` and `minijinja-contrib` and every
    pycompat method (names regenerated from `defaults.rs`, contrib `lib.rs`, `pycompat.rs`) has a class -/
theorem all_registered_names_classified :
    ∀ n ∈ Gen.builtinFilterNames ++ Gen.contribFilterNames ++ Gen.globalFunctionNames ++ Gen.pycompatMethodNames,
      (classOf n).isSome = true := tables_ok.1

/-- every program point of the two crates that constructs a `Safe` string or calls
    `preserve_safety` (file, function and number of occurrences regenerated from the sources) is
    accounted for in the model — a new call site breaks this theorem before any oracle case exists -/
theorem all_safe_producer_sites_modelled :
    ∀ s ∈ Gen.safeProducerSites, s ∈ modelledSafeSites.map (·.1) := by
  -- member by member, each found by position (`List.Mem.head` at the same literal, `List.Mem.tail` before
  -- it): deciding the memberships would have the kernel compare UTF-8 encodings byte by byte
  repeat (first | exact List.forall_mem_nil _ | refine List.forall_mem_cons.mpr ⟨by repeat constructor, ?_⟩)

/-- **the safety-class table is complete**: for every callable registered by `minijinja` and
    `minijinja-contrib` — builtin filters, tests and functions (`defaults.rs`), contrib filters and
    functions (`add_to_environment`), pycompat methods (`unknown_method_callback`), with return type
    and body facts regenerated from the sources — that CAN construct a `Safe` string (its body calls
    `preserve_safety`, constructs one, or calls a registered implementation that does) there is an
    exact model `lookupBase ln`, which preserves the invariant for all numeric parameters unless the
    callable is outside the fragment (`safe`, `tojson`: class `markup`).  A newly registered callable
    with such a body, or an existing one that starts to mark strings, has no row in `producerModel`
    and breaks this theorem. -/
theorem all_safe_producers_modelled :
    ∀ c ∈ Gen.c02Callables, canProduceSafe c = true →
      ∃ ln, producerModel c.kind c.name = some ln ∧ (lookupBase ln .html []).isSome = true ∧
        (∀ ps g, lookupBase ln .html ps = some (g, true) → InvPreserving g) ∧
        (lookupBase ln .html [] |>.map (·.2)) ∈ [some true, if classOf c.name = some .markup then some false else some true] := by
  intro c hc hp
  have hrow := List.all_eq_true.mp producerRows_ok c hc
  simp only [producerRowOk, hp, Bool.not_true, Bool.false_or] at hrow
  cases hm : producerModel c.kind c.name with
  | none => simp [hm] at hrow
  | some ln =>
    simp only [hm, modelRowOk] at hrow
    cases hl : lookupBase ln .html [] with
    | none => simp [hl] at hrow
    | some p =>
      obtain ⟨g, ok⟩ := p
      refine ⟨ln, rfl, by rw [hl]; rfl, fun ps g h => Safe.named_models_preserve_inv ln ps g h, ?_⟩
      simp only [hl] at hrow ⊢
      cases ok with
      | true => simp
      | false =>
        simp only [Bool.false_or, beq_iff_eq] at hrow
        simp [hrow]

/-- every other registered callable provably returns unmarked strings by its signature: a test
    returns a boolean; a callable whose Rust return type is `String`/`bool`/integer (conversion into a
    `Value` builds `StringType::Normal`, `Gen.c02FromStringIsNormal`) is in class `normal` or has an
    exact model; one returning `Value` without constructing `Safe` strings can only hand on argument
    values and is in one of the forwarding classes (`forward`, `select`, `mapped`, `normal`, or an exact
    model) -/
theorem non_producers_classified :
    ∀ c ∈ Gen.c02Callables, canProduceSafe c = false → nonProducerRowOk c = true ∧ Gen.c02FromStringIsNormal = true := by
  intro c hc _
  exact ⟨List.all_eq_true.mp tables_ok.2.1 c hc, rfl⟩

/-- every program point that marks a string lies in one of the four primitives (`from_safe_string`,
    `preserve_safety`, `end_capture`, `Macro::call`) or inside the body of a registered callable — there
    is no helper function through which a callable could mark strings unnoticed by the table -/
theorem producer_sites_attributed : ∀ s ∈ Gen.c02ProducerSiteRows, siteRowOk s = true :=
  fun s hs => List.all_eq_true.mp tables_ok.2.2 s hs

/-- non-vacuity: the table is populated, has producers of every kind of callable, and non-producers -/
example : Gen.c02Callables.length ≥ 100 ∧ (Gen.c02Callables.filter canProduceSafe).length ≥ 15
    ∧ (Gen.c02Callables.filter fun c => canProduceSafe c && c.kind == "method").length ≥ 2
    ∧ (Gen.c02Callables.filter fun c => !canProduceSafe c && c.kind == "filter").length ≥ 30 := by decide +kernel
example : InvPreserving (randomF 1) := random_preserves_inv 1
example : (randomF 1 [.str (ofData "a<") true]).map (fun v => (text v.display, isSafeV v)) = some ("<", true) := by decide +kernel

/-- every program point that *reads* the `Safe` bit (`is_safe()`, patterns on `StringType::Safe`),
    with its number of reads, is accounted for — a new reader is a new way to forward the bit -/
theorem all_safe_bit_readers_modelled :
    ∀ s ∈ Gen.safeBitReaderSites, s ∈ modelledReaderSites.map (·.1) := by
  repeat (first | exact List.forall_mem_nil _ | refine List.forall_mem_cons.mpr ⟨by repeat constructor, ?_⟩)

/-- **every way text reaches an `Output` is accounted for**: the program points of crate `minijinja`
    that write to an `Output` directly, call `write_escaped`, call the environment's formatter or create
    a new sink (file, function, kind and number regenerated from ALL sources of the crate) are exactly
    the ones the model transcribes — the only raw write in the vm is `EmitRaw` (template text), values
    are written through `write_escaped` / the formatter only.  A new fast path that writes a value raw,
    or a new caller of `write_escaped` with a mode of its own, breaks this theorem. -/
theorem all_output_write_sites_modelled :
    (∀ s ∈ Gen.c02OutputWriteSites, s ∈ modelledWriteSites.map (·.1)) ∧
    (∀ s ∈ modelledWriteSites.map (·.1), s ∈ Gen.c02OutputWriteSites) :=
  -- the two lists are the same, in the same order
  have h : Gen.c02OutputWriteSites = modelledWriteSites.map (·.1) := rfl
  ⟨fun _ hs => h ▸ hs, fun _ hs => h ▸ hs⟩

/-- non-vacuity: the vm's value path and the template-text path are both in the regenerated list -/
example : "minijinja/src/vm/mod.rs::eval_impl::escapedx1" ∈ Gen.c02OutputWriteSites
    ∧ "minijinja/src/vm/mod.rs::eval_impl::rawx1" ∈ Gen.c02OutputWriteSites ∧ Gen.c02OutputWriteSites.length ≥ 15 :=
  ⟨by repeat constructor, by repeat constructor, by decide⟩

/-- **where the mode of an execution comes from**: every program point of crate `minijinja` that
    supplies the auto-escape mode an execution starts in — the compiled template's flag
    (`default_auto_escape(name)` of the name it is compiled under), `Template::_eval` / `new_state`
    (that flag), `Expression::_eval` (`None`), include (the included template's OWN flag), blocks,
    `super()` and macros (the current mode) — and every call of `Output::end_capture` with the mode it
    passes (the current mode; `None` only for the discarded top level of a child template) is exactly
    the list the interpreter transcribes.  An
    include that asks the callback about the name as written, an entry point that starts in another
    mode, or a new call of `with_execution_state` breaks this theorem. -/
theorem all_mode_sources_modelled :
    (∀ s ∈ Gen.c02ModeSources, s ∈ modelledModeSources.map (·.1)) ∧
    (∀ s ∈ modelledModeSources.map (·.1), s ∈ Gen.c02ModeSources) := by
  constructor <;>
    repeat (first | exact List.forall_mem_nil _ | refine List.forall_mem_cons.mpr ⟨by repeat constructor, ?_⟩)

example : "minijinja/src/vm/mod.rs::perform_include::with_execution_state::tmpl.initial_auto_escape() x1" ∈ Gen.c02ModeSources
    ∧ Gen.c02ModeSources.length ≥ 10 :=
  ⟨by repeat constructor, by decide⟩

/-! ## programs (stage "programs": the theorems are stated over template programs)

`execProg strict p ctx` (`MJ/Model/SafeProg.lean`) is the big-step interpreter of template programs
(text, `{{ expr }}`, if, for/else/recursive, set, set-block, filter-block, with, macros and calls,
call blocks with `caller()`, include, import / from-import with aliases, modules, extends with blocks,
`super()` and child statements outside blocks, `autoescape` with every documented value, a custom
auto-escape callback, a custom formatter; expressions: variables, literals, `~ + *`,
slice/index/attribute, filters and pycompat methods by name, list/map literals, conditionals, `not`,
`loop.index/first`, `loop(…)`).  Template names select their own mode; macros run in the mode of the
call site.  It drives the step machine above; the harness sends the AST of every generated program to
it and the engine output must be byte-equal.  `execBlock` = `render_captured` + `State::render_block`,
`execExpr` = `Expression::eval`. -/

/-- Full-strength statement over programs: a program of the safe-marking-free fragment `ProgOk`
    (`MJ/Proofs/SafeFrag.lean`: the rendered template and the templates it includes outside captures
    select Html — by the default or a custom callback —, an expression is written only under Html or into
    a target that never becomes a `Safe` string, no Json, every filter is modelled and none is
    `safe`/`tojson`; libraries whose name selects another mode may be imported, `autoescape false` may
    enclose statements that do not write), rendered with any context, never writes a `< > " '` that came
    from context data or from a string literal. -/
def C02_programs : Prop :=
  ∀ (p : Prog) (ctx : List (String × CV)) (st : St), ProgOk p → execProg false p ctx = some st → Clean st.out

theorem program_no_raw_tainted_meta : C02_programs := by
  intro p ctx st hp h
  exact (execProg_inv (strict := false) (fun _ => hp) ctx st h).out_clean

/-- the syntactic class is decidable: `progOkB` (the driver evaluates it on every generated program) is sound -/
theorem program_no_raw_tainted_meta_checked (p : Prog) (ctx : List (String × CV)) (st : St) (hp : progOkB p = true)
    (h : execProg false p ctx = some st) : Clean st.out :=
  program_no_raw_tainted_meta p ctx st (progOkB_sound hp) h

/-- the same without any syntactic premise for the *guarded* interpreter, which refuses to write an
    expression outside Html mode unless the target is opaque, to enter Json mode and to apply
    `safe`/`tojson` (this is the interpreter the driver runs first on every generated program; a program
    it refuses is run unguarded and counted as outside the fragment) -/
theorem program_no_raw_tainted_meta_strict (p : Prog) (ctx : List (String × CV)) (st : St)
    (h : execProg true p ctx = some st) : Clean st.out :=
  (execProg_inv (strict := true) nofun ctx st h).out_clean

/-- every register of the final state satisfies the invariant as well, and no capture is left open -/
theorem program_final_state_inv (p : Prog) (ctx : List (String × CV)) (st : St) (hp : ProgOk p)
    (h : execProg false p ctx = some st) : (∀ v ∈ st.pool, Inv v) ∧ st.caps = [] := by
  have r := execProg_inv (strict := false) (fun _ => hp) ctx st h
  exact ⟨r.1, List.eq_nil_of_length_eq_zero (CapsOk.length_eq r.2.1)⟩

/-- `Template::render_captured` + `State::render_block`: neither the rendered text nor the block
    rendered afterwards from the captured state contains a data-tainted metacharacter -/
theorem render_block_no_raw_tainted_meta (p : Prog) (block : String) (ctx : List (String × CV)) (st : St)
    (hp : ProgOk p) (h : execBlock false p block ctx = some st) : Clean st.out :=
  (execBlock_inv (strict := false) (fun _ => hp) block ctx st h).out_clean

theorem render_block_no_raw_tainted_meta_strict (p : Prog) (block : String) (ctx : List (String × CV)) (st : St)
    (h : execBlock true p block ctx = some st) : Clean st.out :=
  (execBlock_inv (strict := true) nofun block ctx st h).out_clean

/-- `Expression::eval` (mode `None`): the value handed back to the host satisfies the invariant — a
    `Safe` string in it (from `|e`, `format`, `replace` with a safe argument …) holds no data-tainted
    metacharacter, so printing it under Html later is sound -/
theorem expression_eval_inv (e : Expr) (ctx : List (String × CV)) (v : V) (st : St) (he : OkE .none e)
    (h : execExpr false e ctx = some (v, st)) : Inv v :=
  (execExpr_inv (strict := false) (fun _ => he) ctx v st h).1

theorem expression_eval_inv_strict (e : Expr) (ctx : List (String × CV)) (v : V) (st : St)
    (h : execExpr true e ctx = some (v, st)) : Inv v :=
  (execExpr_inv (strict := true) nofun ctx v st h).1

/-- the nine interpreter functions keep the (flagged) machine invariant, whatever the mode of the
    template they run: the induction behind the three theorems above, usable for any entry point -/
theorem interpreter_preserves_inv (strict : Bool) (fuel : Nat) (env : Env) (ss : List Stmt) (fl : List Bool)
    (hEnv : EnvInv strict env fl) (hs : strict = false → OkSs env.prog env.mode env.opaq ss) (st st' : St)
    (vars : List (String × Nat)) (h : StInvF fl st) (hr : execStmts strict fuel env ss st = some (vars, st')) : StInvF fl st' :=
  ((exec_ht strict fuel).2.2.2.2.2.1 env ss fl hEnv hs).apply h hr

/-! ### escaped once, for every capture construct of the program class

Printing a `Safe` string writes its text verbatim whatever template (and mode) produced it; each
capture construct under Html produces a `Safe` string that holds exactly the text its body wrote.  The
body is arbitrary: it may include templates whose name selects another mode, call macros imported from
such templates, run blocks — the statement only needs the mode at the *end* of the capture. -/

/-- a captured value prints verbatim (any mode, any origin — e.g. a variable imported from a template
    whose name selects another mode) -/
theorem escaped_once_print (strict : Bool) (env : Env) (r : Nat) (st : St) (s : TStr) (hw : env.writable = true)
    (hf : env.prog.fmt = .default) (hr : st.pool[r]? = some (.str s true)) :
    emitG strict env r st = some ((), st.write s) := print_safe_verbatim strict env r st s (fun _ => hw) hf hr

/-- … also through the custom formatter (which leaves strings alone): one more register, same text -/
theorem escaped_once_print_custom_formatter (strict : Bool) (env : Env) (r : Nat) (st : St) (s : TStr)
    (hw : env.writable = true) (hf : env.prog.fmt = .noneAsUndef) (hr : st.pool[r]? = some (.str s true)) :
    emitG strict env r st = some ((), (st.push (.str s true)).write s) := by
  unfold emitG
  simp only [hw, hf, Bool.not_true, Bool.and_false, Bool.false_eq_true, if_false]
  simp only [Bind.bind, M.bind, pushM, stepM, Step.run, St.args, List.mapM_cons, List.mapM_nil, hr, fmtPreF]
  simp [St.push_eq, writeEscaped]

/-- the value of a capture that ends in a mode other than `None`: a `Safe` string with exactly the
    text the body wrote into the capture -/
theorem escaped_once_capture_value {α : Type} (body : M α) (endS : Mode → Step) (hend : endS = .endCapture ∨ endS = .macroReturn)
    (m : Mode) (hm : m ≠ .none) (st st1 : St) (a : α) (buf : TStr) (rest : List TStr)
    (hb : body { st with caps := [] :: st.caps } = some (a, st1)) (hc : st1.caps = buf :: rest) :
    (stepM .beginCapture >>= fun _ => body >>= fun _ => pushM (endS m)) st =
      some (st1.pool.size, { st1 with caps := rest }.push (.str buf.reverse true)) :=
  capture_value body endS hend m hm st st1 a buf rest hb hc

/-- `{% set x %}body{% endset %}{{ x }}` -/
theorem escaped_once_set_block (strict : Bool) (n : Nat) (env : Env) (x : String) (body : List Stmt) (st st1 : St)
    (vs : List (String × Nat)) (buf : TStr) (rest : List TStr) (hm : env.mode = .html) (hf : env.prog.fmt = .default)
    (hb : execStmts strict (n + 2) env.inCapture body { st with caps := [] :: st.caps } = some (vs, st1))
    (hc : st1.caps = buf :: rest) :
    execStmts strict (n + 4) env [.setBlock x Option.none body, .emit (.var x)] st =
      some ((x, st1.pool.size) :: env.vars, ({ st1 with caps := rest }.push (.str buf.reverse true)).write buf.reverse) :=
  Safe.escaped_once_set_block strict n env x body st st1 vs buf rest hm hf hb hc

/-- `{% filter f %}body{% endfilter %}` -/
theorem escaped_once_filter_block (strict : Bool) (n : Nat) (env : Env) (name : String) (ps : List Nat) (body : List Stmt)
    (st st1 : St) (vs : List (String × Nat)) (buf : TStr) (rest : List TStr) (g : Fn) (v : V)
    (hm : env.mode = .html) (hf : env.prog.fmt = .default) (hl : lookupF name .html ps = some (g, true))
    (hg : g [.str buf.reverse true] = some v)
    (hb : execStmts strict (n + 2) env.inCapture body { st with caps := [] :: st.caps } = some (vs, st1))
    (hc : st1.caps = buf :: rest) :
    execStmt strict (n + 3) env (.filterBlock name ps body) st =
      some (env.vars, ((({ st1 with caps := rest }.push (.str buf.reverse true)).push v).write (writeEscaped .html v))) := by
  have e : capturedValue env.mode buf.reverse = .str buf.reverse true := by rw [hm]; rfl
  show ((_ : M Unit) >>= _) st = _
  rw [M.bind_eq (show stepM .beginCapture st = some ((), { st with caps := [] :: st.caps }) from rfl), M.bind_eq hb,
    M.bind_eq (pushM_endCapture .endCapture (Or.inl rfl) env.mode hc), e,
    M.bind_eq (applyNamed_html strict env name ps g st1.pool.size _ _ v hm hl (St.push_get { st1 with caps := rest } _) hg),
    M.bind_eq (emitG_html strict env _ _ v hm hf (St.push_get _ _))]
  rfl

/-- `{{ m(args) }}` — also for a macro imported from a template whose name selects another mode -/
theorem escaped_once_macro_call (strict : Bool) (n : Nat) (env : Env) (m g : String) (args : List Expr) (home : Tmpl) (md : MacroDef)
    (st sta stb st1 : St) (rs : List Nat) (params vs : List (String × Nat)) (buf : TStr) (rest : List TStr)
    (hm : env.mode = .html) (hf : env.prog.fmt = .default) (hvis : env.macros.lookup m = some g)
    (hfm : findMacro env.prog g = some (home, md))
    (hargs : evalArgs strict (n + 2) env args st = some (rs, sta))
    (hparams : bindParams md.params rs sta = some (params, stb))
    (hb : execStmts strict (n + 2) (env.forMacro home params Option.none) md.body { stb with caps := [] :: stb.caps } = some (vs, st1))
    (hc : st1.caps = buf :: rest) :
    execStmt strict (n + 5) env (.emit (.call m args)) st =
      some (env.vars, ({ st1 with caps := rest }.push (.str buf.reverse true)).write buf.reverse) := by
  have hcm := callMacro_value strict (n + 2) env g args Option.none home md st sta stb st1 rs params vs buf rest
    (by rw [hm]; decide) hfm hargs hparams hb hc
  show ((match env.macros.lookup m with | Option.none => _ | some g => _ : M Nat) >>= _) st = _
  rw [hvis, M.bind_eq hcm]
  exact print_pushed strict env { st1 with caps := rest } buf.reverse env.vars hm hf

/-- `{% call m(args) %}inner{% endcall %}` -/
theorem escaped_once_call_block (strict : Bool) (n : Nat) (env : Env) (m g : String) (args : List Expr) (inner : List Stmt)
    (home : Tmpl) (md : MacroDef) (st sta stb st1 : St) (rs : List Nat) (params vs : List (String × Nat)) (buf : TStr) (rest : List TStr)
    (hm : env.mode = .html) (hf : env.prog.fmt = .default) (hvis : env.macros.lookup m = some g)
    (hfm : findMacro env.prog g = some (home, md))
    (hargs : evalArgs strict (n + 2) env args st = some (rs, sta))
    (hparams : bindParams md.params rs sta = some (params, stb))
    (hb : execStmts strict (n + 2) (env.forMacro home params (some { body := inner, vars := env.vars, macros := env.macros, mods := env.mods }))
            md.body { stb with caps := [] :: stb.caps } = some (vs, st1))
    (hc : st1.caps = buf :: rest) :
    execStmt strict (n + 4) env (.callBlock m args inner) st =
      some (env.vars, ({ st1 with caps := rest }.push (.str buf.reverse true)).write buf.reverse) := by
  have hcm := callMacro_value strict (n + 2) env g args _ home md st sta stb st1 rs params vs buf rest
    (by rw [hm]; decide) hfm hargs hparams hb hc
  show (match env.macros.lookup m with | Option.none => _ | some g => _ : M (List (String × Nat))) st = _
  rw [hvis]
  show ((_ : M Nat) >>= _) st = _
  rw [M.bind_eq hcm]
  exact print_pushed strict env { st1 with caps := rest } buf.reverse env.vars hm hf

/-- `{{ caller() }}` -/
theorem escaped_once_caller (strict : Bool) (n : Nat) (env : Env) (c : CallerCl) (st st1 : St) (vs : List (String × Nat))
    (buf : TStr) (rest : List TStr) (hm : env.mode = .html) (hf : env.prog.fmt = .default) (hcl : env.caller = some c)
    (hb : execStmts strict (n + 2) (env.forCaller c) c.body { st with caps := [] :: st.caps } = some (vs, st1))
    (hc : st1.caps = buf :: rest) :
    execStmt strict (n + 4) env (.emit .caller) st =
      some (env.vars, ({ st1 with caps := rest }.push (.str buf.reverse true)).write buf.reverse) := by
  have h := capture_print strict env _ .macroReturn (Or.inr rfl) env.vars hm hf st st1 vs buf rest hb hc
  cases env; cases hcl; exact h

/-- `{{ super() }}` -/
theorem escaped_once_super (strict : Bool) (n : Nat) (env : Env) (b : List Stmt) (more : List (List Stmt)) (st st1 : St)
    (vs : List (String × Nat)) (buf : TStr) (rest : List TStr) (hm : env.mode = .html) (hf : env.prog.fmt = .default)
    (hsup : env.supers = b :: more)
    (hb : execStmts strict (n + 2) (env.forSuper more) b { st with caps := [] :: st.caps } = some (vs, st1))
    (hc : st1.caps = buf :: rest) :
    execStmt strict (n + 4) env (.emit .super) st =
      some (env.vars, ({ st1 with caps := rest }.push (.str buf.reverse true)).write buf.reverse) := by
  have h := capture_print strict env _ .endCapture (Or.inl rfl) env.vars hm hf st st1 vs buf rest hb hc
  cases env; cases hsup; exact h

/-- the side condition `st1.caps = buf :: rest` of the theorems above always holds for bodies of the
    interpreter: captures are balanced (the flags of the invariant have the length of the capture stack) -/
theorem escaped_once_capture_open (strict : Bool) (fuel : Nat) (env : Env) (body : List Stmt) (fl : List Bool)
    (hEnv : EnvInv strict env fl) (hok : strict = false → OkSs env.prog env.mode (env.mode != .html) body)
    (st st1 : St) (vs : List (String × Nat)) (hs : StInvF fl st)
    (hb : execStmts strict fuel env.inCapture body { st with caps := [] :: st.caps } = some (vs, st1)) :
    ∃ buf rest, st1.caps = buf :: rest :=
  capture_open ((exec_ht strict fuel).2.2.2.2.2.1 env.inCapture body _ hEnv.inCapture hok) hs hb

/-! ## the main theorem: the property of the ENGINE, the gap to what is proved as named hypotheses

Everything above is about the executable model.  `C02_main` states the property for the engine
itself, as far as the property observes it, and lists what separates the two:

* `Faithful E` (VALIDATED ONLY — streams P, W, T, K, M, N, B, R, E of the correspondence: the engine's
  text / value is byte-equal to the interpreter's on every generated program, through every entry
  point — `Template::render`, `render_captured`, `render_captured_to`, `Environment::render_named_str`,
  `new_state` + `render_block(_to_write)`, `State::call_macro` —, for templates registered or loaded,
  with any auto-escape callback, path-join callback and the documented formatter wrapper);
* that the interpreter's primitives are the engine's: tied by the regenerated tables
  (`write_escaped_dispatch_matches`, `as_str_arms_match`, `all_value_reprs_classified`,
  `all_safe_producers_modelled`, `non_producers_classified`, `producer_sites_attributed`,
  `all_safe_bit_readers_modelled`, `all_output_write_sites_modelled`, `all_mode_sources_modelled`) — theorems, not hypotheses;
* the fragment (`ProgOk`, `OkE`): the safe-marking-free programs of the property's quantifier. -/

/-- what the engine computes, as far as the property observes it: the text a template program
    renders to (the program holds the RESOLVED template names, each selects its own mode), the text of
    `render_captured` + `State::render_block`, the value of `Expression::eval`; `none` = an error
    (nothing is observed) -/
structure Engine where
  render : Prog → List (String × CV) → Option TStr
  renderBlock : Prog → String → List (String × CV) → Option TStr
  eval : Expr → List (String × CV) → Option V

/-- hypothesis FAITHFUL: whatever the engine produces, the interpreter produces the same (validated
    differentially, not proved) -/
structure Faithful (E : Engine) : Prop where
  render : ∀ p ctx out, E.render p ctx = some out → ∃ st, execProg false p ctx = some st ∧ st.out = out
  renderBlock : ∀ p b ctx out, E.renderBlock p b ctx = some out → ∃ st, execBlock false p b ctx = some st ∧ st.out = out
  eval : ∀ e ctx v, E.eval e ctx = some v → ∃ st, execExpr false e ctx = some (v, st)

/-- the property, for an engine: over the safe-marking-free fragment nothing data-tainted is written
    raw by any entry point, and a value handed back to the host carries no `Safe` string with a
    data-tainted metacharacter (so it is not written raw later either) -/
def C02_engine (E : Engine) : Prop :=
  (∀ p ctx out, ProgOk p → E.render p ctx = some out → Clean out) ∧
  (∀ p b ctx out, ProgOk p → E.renderBlock p b ctx = some out → Clean out) ∧
  (∀ e ctx v, OkE .none e → E.eval e ctx = some v → Inv v)

theorem C02_main (E : Engine) (hF : Faithful E) : C02_engine E := by
  refine ⟨?_, ?_, ?_⟩
  · intro p ctx out hp h
    obtain ⟨st, hs, ho⟩ := hF.render p ctx out h
    exact ho ▸ program_no_raw_tainted_meta p ctx st hp hs
  · intro p b ctx out hp h
    obtain ⟨st, hs, ho⟩ := hF.renderBlock p b ctx out h
    exact ho ▸ render_block_no_raw_tainted_meta p b ctx st hp hs
  · intro e ctx v he h
    obtain ⟨st, hs⟩ := hF.eval e ctx v h
    exact expression_eval_inv e ctx v st he hs

/-- non-vacuity: the interpreter itself is a faithful engine, so `Faithful` is satisfiable and
    `C02_engine` holds of it; it renders the demo program below to escaped text -/
def modelEngine : Engine where
  render p ctx := (execProg false p ctx).map (·.out)
  renderBlock p b ctx := (execBlock false p b ctx).map (·.out)
  eval e ctx := (execExpr false e ctx).map (·.1)

theorem modelEngine_faithful : Faithful modelEngine where
  render _ _ _ h := Option.map_eq_some_iff.mp h
  renderBlock _ _ _ _ h := Option.map_eq_some_iff.mp h
  eval _ _ _ h := by
    obtain ⟨⟨_, st⟩, hs, rfl⟩ := Option.map_eq_some_iff.mp h
    exact ⟨st, hs⟩

example : C02_engine modelEngine := C02_main modelEngine modelEngine_faithful

/-! ## the hypotheses are necessary (the excluded constructs really break the invariant) -/

/-- `|safe` is not invariant preserving -/
theorem safe_breaks_inv : ¬ InvPreserving safeF := by
  intro h
  have := h [.str (ofData "<") false] (.str (ofData "<") true) (by intro a ha; simp at ha; subst ha; exact inv_str_false _) rfl
  exact absurd (clean_of_inv this) (by decide)

/-- `tojson` keeps `"` from the data inside a `Safe` string -/
theorem tojson_breaks_inv : ¬ InvPreserving tojsonF := by
  intro h
  have := h [.str (ofData "\"") false] _ (by intro a ha; simp at ha; subst ha; exact inv_str_false _) rfl
  exact absurd (clean_of_inv this) (by decide)

/-- outside Html mode the statement is false: a block captured under `autoescape "json"` is marked
    safe and printed raw under Html (`{% autoescape "json" %}{% set x %}{{ d }}{% endset %}{%
    endautoescape %}{{ x }}`) — this is the recorded finding about mixing escape formats -/
theorem json_capture_counterexample :
    ∃ st, run [.data "<", .beginCapture, .emit .json 0, .endCapture .json, .emit .html 1] {} = some st
      ∧ ¬ Clean st.out := by
  refine ⟨_, rfl, ?_⟩
  decide

/-- whereas a block captured under `autoescape false` is escaped when printed under Html -/
example : (run [.data "<", .beginCapture, .emit .none 0, .endCapture .none, .emit .html 1] {}).map
    (fun st => text st.out) = some "&lt;" := by decide +kernel

/-! ## Non-vacuity: the hypotheses are met by ordinary programs and the statements have content -/

/-- `{% set x %}{{ d }}{% endset %}{{ x }}{{ x ~ d }}{{ [x, d]|join(d) }}` with `d = <a>"'&` -/
def demo : List Step :=
  [.data "<a>\"'&", .beginCapture, .emit .html 0, .endCapture .html, .emit .html 1,
   .apply concatF [1, 0], .emit .html 2, .mkSeq [1, 0], .apply (joinF .html) [3, 0], .emit .html 4]

example : ∀ s ∈ demo, StepOk s := by
  intro s hs
  simp only [demo, List.mem_cons, List.not_mem_nil, or_false] at hs
  rcases hs with rfl | rfl | rfl | rfl | rfl | rfl | rfl | rfl | rfl | rfl <;>
    first | trivial | rfl | exact concatF_inv | exact joinF_inv (by decide)

example : (run demo {}).map (fun st => text st.out) = some
    ("&lt;a&gt;&quot;&#x27;&amp;" ++ "&amp;lt;a&amp;gt;&amp;quot;&amp;#x27;&amp;amp;&lt;a&gt;&quot;&#x27;&amp;"
      ++ "&lt;a&gt;&quot;&#x27;&amp;&lt;a&gt;&quot;&#x27;&amp;&lt;a&gt;&quot;&#x27;&amp;") := by decide +kernel

example : text (htmlEscape (ofData "<a href=\"x\">'&/")) = "&lt;a href=&quot;x&quot;&gt;&#x27;&amp;&#x2f;" := by decide +kernel
example : ∃ st : St, StInv st ∧ st.caps = [ofData "a" ++ ofTmpl "&lt;"] := ⟨{ caps := [ofData "a" ++ ofTmpl "&lt;"] },
  ⟨fun v hv => (by simp [Array.mem_def] at hv), (by decide), Clean.nil⟩, rfl⟩
example : (replaceF .html [.str (ofData "<α>") false, .str (ofData "α") false, .str (ofTmpl "<b>") true]).map
    (fun v => v.display |> text) = some "&lt;<b>&gt;" := by decide +kernel
/-- A program with three template modes.

  `lib.txt` (its name selects **no** escaping):
      `{% set t %}[{{ d }}]{% endset %}{% macro m(a) %}({{ a }}{{ caller() }}{{ t }}){% endmacro %}`
  `t.html` (Html):
      `{% from "lib.txt" import m as mk, t %}{% set x %}{{ d|upper }}{% endset %}`
      `{% call mk(x) %}{% for c in [d, "'"] %}{{ c ~ x }}{% endfor %}{% endcall %}{{ t }}`
      `{% autoescape false %}{% set o %}{{ d }}{% endset %}{% endautoescape %}{{ o }}` -/
def demoProg : Prog :=
  { main := "t.html",
    templates := [
      { name := "lib.txt", parent := none, pre := [.setBlock "t" none [.text "[", .emit (.var "d"), .text "]"]],
        macros := [{ name := "m", params := ["a"], body := [.text "(", .emit (.var "a"), .emit .caller, .emit (.var "t"), .text ")"] }], body := [] },
      { name := "t.html", parent := none, imports := [.names "lib.txt" [("m", "mk"), ("t", "t")]], macros := [],
        body := [.setBlock "x" none [.emit (.filt "upper" [] [.var "d"])],
                 .callBlock "mk" [.var "x"] [.forIn "c" (.list [.var "d", .lit "'"]) false [.emit (.cat (.var "c") (.var "x"))] []],
                 .emit (.var "t"),
                 .auto .fals [.setBlock "o" none [.emit (.var "d")]], .emit (.var "o")] }] }

theorem filterOk_upper : FilterOk "upper" [] := filterOkB_sound (by decide +kernel)

theorem allows_html (k : Bool) : allows .html k := Or.inl rfl
theorem allows_none_opaque : allows .none true := Or.inr ⟨rfl, rfl⟩

/-- non-vacuity of the program theorems: a concrete program of the fragment — a library whose name
    selects no escaping, imported (with an alias) into an Html template, a call block, `autoescape false`
    around a capture — and its rendering: the variable captured unescaped in `lib.txt` and the capture made
    under `autoescape false` are escaped when printed, the Html captures are printed once -/
example : modeOf demoProg "t.html" = .html ∧ modeOf demoProg "lib.txt" = .none := by decide +kernel
example : ProgOk demoProg := progOkB_sound (by decide +kernel)

example : (execProg false demoProg [("d", .str "<a>")]).map (fun st => text st.out) =
    some "(&lt;A&gt;&lt;a&gt;&amp;lt;A&amp;gt;&#x27;&amp;lt;A&amp;gt;[&lt;a&gt;])[&lt;a&gt;]&lt;a&gt;" := by decide +kernel

example : progOkB demoProg = true := by decide +kernel
/-- the guarded interpreter accepts it too (it stays inside the fragment) -/
example : (execProg true demoProg [("d", .str "<a>")]).isSome = true := by decide +kernel

/-- `render_block` and `Expression::eval` have content as well -/
example : (execExpr true (.filt "replace" [] [.filt "escape" [] [.var "d"], .lit "a", .var "d"]) [("d", .str "<a>")]).map
    (fun r => (text r.1.display, isSafeV r.1)) = some ("&lt;<a>&gt;", false) := by decide +kernel

/-! non-vacuity of the program-level `escaped_once` theorems: their hypotheses are met by a concrete
capture (the body runs and leaves exactly its buffer on top), and the conclusion has content -/
def env0 : Env :=
  { mode := .html, initMode := .html, vars := [("d", 0)], globals := [], prog := { templates := [], main := "" },
    caller := Option.none, loopIdx := Option.none, recLoop := Option.none, supers := [], chains := [] }
def st0 : St := { pool := #[.str (ofData "<a>") false] }

example : ((execStmts true 5 env0.inCapture [.text "(", .emit (.var "d")] { st0 with caps := [] :: st0.caps }).map
    fun r => r.2.caps.map fun b => text b.reverse) = some ["(&lt;a&gt;"] := by decide +kernel
example : ((execStmts true 7 env0 [.setBlock "x" Option.none [.text "(", .emit (.var "d")], .emit (.var "x"), .emit (.var "x")] st0).map
    fun r => text r.2.out) = some "(&lt;a&gt;(&lt;a&gt;" := by decide +kernel
example : ((execStmt true 6 env0 (.filterBlock "upper" [] [.text "(", .emit (.var "d")]) st0).map fun r => text r.2.out) =
    some "(&LT;A&GT;" := by decide +kernel
example : env0.writable = true ∧ env0.prog.fmt = .default := by decide
def oneTmpl (name : String) (body : List Stmt) : Tmpl := { name := name, parent := Option.none, macros := [], body := body }
/-- a value captured in a template of another mode and imported: printed once (`lib.html` into `m.xml`),
    escaped when the library's name selects no escaping (`lib.txt`) -/
def crossProg (lib : String) : Prog :=
  { main := "m.xml",
    templates := [{ oneTmpl lib [] with pre := [.setBlock "x" Option.none [.text "(", .emit (.var "d"), .text ")"]] },
                  { oneTmpl "m.xml" [.emit (.var "y")] with imports := [.names lib [("x", "y")]] }] }
example : (execProg true (crossProg "lib.html") [("d", .str "<a>&")]).map (fun st => text st.out) = some "(&lt;a&gt;&amp;)" := by decide +kernel
example : (execProg true (crossProg "lib.txt") [("d", .str "<a>&")]).map (fun st => text st.out) = some "(&lt;a&gt;&amp;)" := by decide +kernel
/-- `render_block` -/
example : (execBlock true { main := "b.html", templates := [oneTmpl "b.html" [.text "T", .block "hi" [.text "[", .emit (.var "d"), .text "]"]]] }
    "hi" [("d", .str "<")]).map (fun st => text st.out) = some "T[&lt;][&lt;]" := by decide +kernel
/-- the custom formatter prints `none` as nothing and strings as the default one does -/
def fmtProg : Prog :=
  { main := "f.html", fmt := .noneAsUndef, templates := [oneTmpl "f.html" [.emit .none, .emit (.var "d"), .setBlock "x" Option.none [.emit (.var "d")], .emit (.var "x")]] }
example : (execProg true fmtProg [("d", .str "<")]).map (fun st => text st.out) = some "&lt;&lt;" := by decide +kernel
/-- a custom auto-escape callback: `page.tpl` is declared Html -/
example : (execProg true { main := "page.tpl", modes := [("page.tpl", .html)], templates := [oneTmpl "page.tpl" [.emit (.var "d")]] }
    [("d", .str "<")]).map (fun st => text st.out) = some "&lt;" := by decide +kernel
/-- … without it the guarded interpreter refuses (the name selects no escaping) and the unguarded one writes raw -/
example : (execProg true { main := "page.tpl", templates := [oneTmpl "page.tpl" [.emit (.var "d")]] } [("d", .str "<")]).isNone = true := by
  decide +kernel
example : (execProg false { main := "page.tpl", templates := [oneTmpl "page.tpl" [.emit (.var "d")]] } [("d", .str "<")]).map
    (fun st => text st.out) = some "<" := by decide +kernel

example : Forwards (defaultF false) := by
  intro args r hr l hl
  unfold defaultF at hr
  split at hr
  · rename_i v
    cases hr
    split at hl
    · simp [V.safeLeaves] at hl
    · split at hl
      · simp [V.safeLeaves] at hl
      · simpa [V.safeLeavesL] using hl
  · rename_i v d
    cases hr
    split at hl
    · simp [V.safeLeavesL]; exact Or.inr hl
    · split at hl
      · simp [V.safeLeavesL]; exact Or.inr hl
      · simp [V.safeLeavesL]; exact Or.inl hl
  · cases hr

end MJ.C02
