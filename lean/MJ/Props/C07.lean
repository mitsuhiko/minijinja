import MJ.Proofs.CmpNumFloatEq
import MJ.Proofs.CmpMap
import MJ.Proofs.CollV
import MJ.Proofs.CmpF64Order
import MJ.Proofs.CollGroup
import MJ.Proofs.CollRuns
import MJ.Proofs.CollX
import MJ.Proofs.CollD
import MJ.Model.CmpStr
/-!
# C07 — Value order / equality / hash laws and the algebra of the collection filters

Property theorems (helper lemmas live in `MJ/Proofs/Cmp*.lean`, `MJ/Proofs/Coll*.lean`).

* `Cmp.cmpV`, `Cmp.eqV`, `Cmp.hkey` are the models of `impl Ord / PartialEq / Hash for Value`;
* `CmpKey.key : V → List Tok` is an explicit key into a linearly ordered type (token lists under
  the lexicographic order `cmpK`; a token is four plain fields compared lexicographically);
* `Coll.*` are the models of the collection filters over an arbitrary item type and comparison.
-/
namespace MJ.C07
open MJ MJ.Val MJ.Cmp MJ.F64 MJ.CmpKey MJ.CmpNum MJ.CmpEq MJ.Coll MJ.CollV MJ.CollX Std

/-- every number inside the value is within the range of its Rust representation
    (`u64`/`i64`/`u128`/`i128`; a float is any 64-bit pattern, NaNs and infinities included) -/
abbrev InRange (v : V) : Prop := AllNum N.WF v

/-- `Value::cmp` is `compare` on the explicit, linearly ordered key — for all values: integers of
    every width, floats (compared exactly against integers, also beyond 2^53), strings, bytes,
    sequences, tuples, iterables, maps, plain objects and nestings thereof -/
theorem cmp_refines_key (a b : V) (ha : InRange a) (hb : InRange b) :
    cmpV a b = cmpK (key a) (key b) :=
  cmpV_eq_cmpK numSpec_wf a b ha hb

/-- the hypothesis is satisfiable by a non-trivial value: a list with `-1`, a map whose value is
    `u128::MAX`, `true`, the float `2^63` and a NaN -/
example : InRange (.seq [.num (.i64 (-1)), .map [(.str [97], .num (.u128 340282366920938463463374607431768211455))],
    .bool true, .num (.f64 0x43e0000000000000), .num (.f64 0x7ff8000000000000)]) := by
  simp [AllNum, AllNumL, AllNumPL, N.WF, i64Min, i64Max, u128Max, P64]

theorem cmp_refl (a : V) (ha : InRange a) : cmpV a a = .eq :=
  pullsBack_cmpV.refl ha

theorem cmp_antisymm (a b : V) (ha : InRange a) (hb : InRange b) :
    cmpV b a = (cmpV a b).swap :=
  pullsBack_cmpV.swap ha hb

theorem cmp_trans (a b c : V) (ha : InRange a) (hb : InRange b) (hc : InRange c)
    (h1 : cmpV a b ≠ .gt) (h2 : cmpV b c ≠ .gt) : cmpV a c ≠ .gt :=
  pullsBack_cmpV.le_trans ha hb hc h1 h2

/-- any two values are comparable: `a ≤ b` or `b ≤ a` -/
theorem cmp_total (a b : V) (ha : InRange a) (hb : InRange b) : cmpV a b ≠ .gt ∨ cmpV b a ≠ .gt := by
  rw [cmp_antisymm a b ha hb]
  cases cmpV a b <;> simp

/-- equal-by-order is a congruence for the order: `a ≡ b → cmp a c = cmp b c` -/
theorem cmp_congr (a b c : V) (ha : InRange a) (hb : InRange b) (hc : InRange c)
    (h : cmpV a b = .eq) : cmpV a c = cmpV b c :=
  pullsBack_cmpV.congr_left ha hb hc h

/-- the comparison is defined for every pair: whenever two values land in the same kind slot they
    are of the same class, so none of the `unreachable!()` / `unwrap()` arms of `Ord::cmp` is
    reachable (the slots come from the regenerated declaration order of `ValueKind`) -/
theorem cmp_no_unreachable (a b : V) (h : a.rank = b.rank) : cls a = cls b :=
  cls_eq_of_rank_eq h

/-- the numeric part is exact: numbers of all five representations are ordered by their exact
    values (`numKey` = value · 2^1074; ±0 identified, NaNs beyond the infinities in `total_cmp`
    order), in particular `cmp_f64_i128` / `cmp_f64_u128` never lose precision -/
theorem cmp_num_exact (x y : N) (hx : x.WF) (hy : y.WF) : cmpN x y = compare (numKey x) (numKey y) :=
  numSpec_wf x y hx hy

example : cmpN (.i64 9007199254740993) (.f64 0x4340000000000000) = .gt := by decide +kernel

/-! ## `==`, the order and the hash agree -/

/-- every number inside is within the range of its representation and no float is a NaN -/
abbrev NoNaN (v : V) : Prop := AllNum NumOK v
/-- every map inside holds its keys in strictly increasing order (a `BTreeMap`'s iteration order) -/
abbrev SortedMaps (v : V) : Prop := allV mapSorted v = true

/-- Full-strength statement: `==` holds exactly when the order says `Equal` (NaN aside), and `==`
    values feed the hasher the same items. -/
def C07_full : Prop :=
  ∀ a b : V, NoNaN a → NoNaN b → SortedMaps a → SortedMaps b →
    (eqV .btree a b = true ↔ cmpV a b = .eq) ∧ (eqV .btree a b = true → hkey a = hkey b)

/-- The full statement is false on the current code: `true == 1`, yet `cmp(true, 1) = Less` and the
    two feed the hasher different items (a known finding: both behaviours are pinned by the
    existing test suite). -/
theorem C07_counterexample : ¬ C07_full := by
  intro h
  have h1 := h (.bool true) (.num (.i64 1))
    (by simp [AllNum]) (by simp [AllNum, NumOK, N.WF, i64Min, i64Max])
    (by decide +kernel) (by decide +kernel)
  have he : eqV .btree (.bool true) (.num (.i64 1)) = true := by
    rw [eqV]; decide
  have hc : cmpV (.bool true) (.num (.i64 1)) = .lt := by decide +kernel
  rw [h1.1.mp he] at hc
  cases hc

/-- … and true outside the excluded region (`noClash`: no bool inside one value facing a number
    inside the other) -/
theorem C07_partial (a b : V) (ha : NoNaN a) (hb : NoNaN b) (sa : SortedMaps a) (sb : SortedMaps b)
    (hc : noClash a b = true) :
    (eqV .btree a b = true ↔ cmpV a b = .eq) ∧ (eqV .btree a b = true → hkey a = hkey b) :=
  eq_main numSpec_ok eqSpec_ok hashSpec_ok a b ⟨ha, hb, sa, sb, hc⟩

/-- `a == b` exactly when `a.cmp(b) == Equal` (NaN aside) -/
theorem eq_iff_cmp_eq (a b : V) (ha : NoNaN a) (hb : NoNaN b) (sa : SortedMaps a)
    (sb : SortedMaps b) (hc : noClash a b = true) : eqV .btree a b = true ↔ cmpV a b = .eq :=
  (C07_partial a b ha hb sa sb hc).1

/-- equal values hash identically: the same items are fed to the hasher -/
theorem eq_hash (a b : V) (ha : NoNaN a) (hb : NoNaN b) (sa : SortedMaps a)
    (sb : SortedMaps b) (hc : noClash a b = true) (he : eqV .btree a b = true) : hkey a = hkey b :=
  (C07_partial a b ha hb sa sb hc).2 he

/-- the hypotheses are satisfiable by a non-trivial pair: a list holding a map with two keys, a
    `u64` facing a float, `2^64` as `u128` facing the float `2^64`, and a nested tuple -/
example :
    let a : V := .seq [.map [(.str [97], .num (.u64 1)), (.str [98], .tuple [.none])],
      .num (.u128 18446744073709551616)]
    let b : V := .iter [.map [(.str [97], .num (.f64 0x3ff0000000000000)), (.str [98], .tuple [.none])],
      .num (.f64 0x43f0000000000000)]
    NoNaN a ∧ NoNaN b ∧ SortedMaps a ∧ SortedMaps b ∧ noClash a b = true ∧ cmpV a b = .eq := by
  refine ⟨?_, ?_, by decide +kernel, by decide +kernel, by decide +kernel, by decide +kernel⟩ <;>
    simp [AllNum, AllNumL, AllNumPL, NumOK, N.WF, u64Max, u128Max, P64] <;> decide

/-- the `SortedMaps` hypothesis is what insertion into a `BTreeMap` establishes: a map built from
    any list of pairs (keys within range) holds its keys in strictly increasing order -/
theorem map_from_pairs_sorted (ps : List (V × V)) (h : ∀ p ∈ ps, InRange p.1) :
    ∃ qs, mkMap .btree ps = .map qs ∧ (qs.map (·.1)).Pairwise (fun a b => cmpV a b = .lt) :=
  ⟨_, rfl, foldl_insertB_eq_dictCopy ps ▸ CollD.dictCopy_sorted pullsBack_cmpV ps h⟩

/-- `Enumerator::query_len` (the default of `Object::enumerator_len`, regenerated arm by arm from the
    source): it answers `Some n` only for a stored count or an exact size hint `(n, Some(n))` — so,
    the enumerator honouring the `size_hint` contract, `n` is the number of items it yields -/
theorem query_len_exact_or_none (s : EnumShape) (count n : Nat) (hy : s.Yields count)
    (h : queryLen s = some n) : n = count := by
  cases s with
  | empty | values k | str k | seq k =>
    -- a stored count: whatever the arm table says, an answer is that count
    simp only [queryLen] at h
    split at h
    · cases h; exact hy.symm
    · cases h
  | nonEnumerable => cases h
  | hinted v lo hi =>
    obtain ⟨hv, h1, h2⟩ := hy
    -- the regenerated guard of each of the four size-hint arms is `lo == hi`
    have arm : MJ.Gen.queryLenArms.lookup v = some "==" := by
      simp only [hintedVariants, List.mem_cons, List.not_mem_nil, or_false] at hv
      rcases hv with rfl | rfl | rfl | rfl <;> decide +kernel
    cases hi with
    | none => simp only [queryLen, arm] at h; cases h
    | some b =>
      have hg : guardHolds "==" lo b = (lo == b) := by simp [guardHolds]
      simp only [queryLen, arm, hg] at h
      split at h
      · rename_i hlb
        cases h
        have := h2 b rfl
        have := beq_iff_eq.mp hlb
        omega
      · cases h

/-- a `.filter(..)`-style hint `(0, Some(2))` over two items honours the contract and gives no length -/
example : (EnumShape.hinted "KeyValueIter" 0 (some 2)).Yields 2 ∧ queryLen (.hinted "KeyValueIter" 0 (some 2)) = none ∧
    queryLen (.hinted "KeyValueIter" 2 (some 2)) = some 2 := by
  refine ⟨⟨by decide +kernel, by decide +kernel, by intro b h; cases h; decide⟩, by decide +kernel, by decide +kernel⟩

/-- the Map/Map arm of `==` trusts the reported lengths (unequal → not equal; equal → only `a ⊆ b`
    is checked).  With lengths that are exact or absent — which `query_len_exact_or_none` provides —
    that is the map equality of the model, and therefore agrees with `cmp` and the hash
    (`C07_partial`) -/
theorem eq_map_agrees_with_cmp (la lb : Option Nat) (ps qs : List (V × V))
    (ha : ∀ n, la = some n → n = ps.length) (hb : ∀ n, lb = some n → n = qs.length)
    (na : NoNaN (.map ps)) (nb : NoNaN (.map qs)) (sa : SortedMaps (.map ps)) (sb : SortedMaps (.map qs))
    (hc : noClash (.map ps) (.map qs) = true) :
    (eqMapWithLen .btree la lb ps qs = true ↔ cmpV (.map ps) (.map qs) = .eq) ∧
    (eqMapWithLen .btree la lb ps qs = true → hkey (.map ps) = hkey (.map qs)) := by
  rw [eqMapWithLen_exact .btree la lb ps qs ha hb]
  exact C07_partial _ _ na nb sa sb hc

/-- without exactness the arm is wrong: a record reporting length 0 for two entries is not `==` to the
    map with the same entries -/
example : eqMapWithLen .btree (some 0) (some 2) [(.str [97], .none), (.str [98], .none)] [(.str [97], .none), (.str [98], .none)] = false := by
  decide

/-! ## dictionary lookup: all entry points agree -/

/-- The string-specialised lookup `get_value_by_str(s)` (behind `m.name`, `Value::get_attr`, context
    variable resolution and every `attribute=` filter) returns what the general lookup
    `get_value(&Value::from(s))` (behind `m["name"]`, `Value::get_item`, `"name" in m`) returns — on
    both sides of the 12-entry fast-path threshold, for `BTreeMap` and `IndexMap`, for every map. -/
theorem lookup_by_str_eq_lookup (m : Mode) (ps : List (V × V)) (s : List Nat) :
    getByStr m ps s = getV m ps (.str s) := by
  unfold getByStr
  split
  · cases m
    · exact scanStr_eq_getB s ps
    · exact scanStr_eq_getI _ s ps
  · rfl

/-- … and that lookup finds an entry exactly when some key of the map is `==` the string -/
theorem lookup_str_iff_some_key_eq (ps : List (V × V)) (s : List Nat) :
    (getByStr .btree ps s).isSome = true ↔ ∃ p ∈ ps, eqV .btree p.1 (.str s) = true := by
  rw [lookup_by_str_eq_lookup]; exact getB_str_isSome s ps

/-- in particular a bytes key never answers a string lookup -/
example : (getByStr .btree [(.bytes [97, 98, 99], .num (.i64 777))] [97, 98, 99]).isSome = false := by decide +kernel
example : (getByStr .btree [(.str [97, 98, 99], .num (.i64 777))] [97, 98, 99]).isSome = true := by decide +kernel

/-! ## the collection filters, for every input list and every total preorder `cmp` -/

section filters
variable {α κ : Type} (cmp : κ → κ → Ordering) [TransCmp cmp] (key : α → κ)

theorem sort_perm (rev : Bool) (xs : List α) : (Coll.sort cmp key rev xs).Perm xs :=
  (sort_sorted_on (.self (revCmp cmp rev)) key xs (fun _ _ => trivial)).1

/-- ascending: no item is greater than a later one -/
theorem sort_sorted (xs : List α) :
    (Coll.sort cmp key false xs).Pairwise (fun a b => cmp (key a) (key b) ≠ .gt) :=
  (sort_sorted_on (.self (revCmp cmp false)) key xs (fun _ _ => trivial)).2

/-- `reverse=true`: descending -/
theorem sort_reverse_sorted (xs : List α) :
    (Coll.sort cmp key true xs).Pairwise (fun a b => cmp (key a) (key b) ≠ .lt) :=
  (sort_sorted_on (.self (revCmp cmp true)) key xs (fun _ _ => trivial)).2.imp
    fun hab hc => hab (by simp [revCmp, hc])

/-- stable: every sub-sequence of the input that is in order is a sub-sequence of the output -/
theorem sort_stable (xs ys : List α) (hs : ys.Sublist xs)
    (ho : ys.Pairwise (fun a b => cmp (key a) (key b) ≠ .gt)) :
    ys.Sublist (Coll.sort cmp key false xs) :=
  sort_stable_on (.self (revCmp cmp false)) key xs (fun _ _ => trivial) ys hs ho

/-- still stable with `reverse=true`: items with equal keys keep their input order -/
theorem sort_reverse_stable (xs : List α) (a b : α) (hs : [a, b].Sublist xs)
    (he : cmp (key a) (key b) = .eq) : [a, b].Sublist (Coll.sort cmp key true xs) :=
  sort_stable_on (.self (revCmp cmp true)) key xs (fun _ _ => trivial) [a, b] hs (by simp [revCmp, he])

/-- the hypotheses are satisfiable: `compare` on `Nat` is such a total preorder, and pairs keyed by
    their first component have distinct items with `Equal` keys -/
example : TransCmp (compare : Nat → Nat → Ordering) := inferInstance
example : [((1 : Nat), (0 : Nat)), (1, 2)].Sublist [(1, 0), (2, 1), (1, 2)] ∧
    compare ((1, 0) : Nat × Nat).1 ((1, 2) : Nat × Nat).1 = .eq := by decide +kernel

/-- `unique`: an order-preserving sub-sequence without two `Equal` keys that represents every input
    key and keeps the first item of every key class -/
theorem unique_subseq_nodup_first (xs : List α) :
    (Coll.unique cmp key xs).Sublist xs ∧
    (Coll.unique cmp key xs).Pairwise (fun a b => cmp (key a) (key b) ≠ .eq) ∧
    (∀ x ∈ xs, ∃ y ∈ Coll.unique cmp key xs, cmp (key y) (key x) = .eq) ∧
    (∀ pre x post, xs = pre ++ x :: post → (∀ p ∈ pre, cmp (key p) (key x) ≠ .eq) →
      x ∈ Coll.unique cmp key xs) :=
  unique_spec cmp key xs fun _ _ => ReflCmp.compare_self

/-- `groupby`: the groups concatenate to the input sorted by key (so they partition the input), no
    group is empty, every member's key is `Equal` to its group's grouper, and the groupers are
    strictly increasing (one group per key class) -/
theorem groupby_partition (xs : List α) :
    ((Coll.groupby cmp key xs).flatMap (·.2) = Coll.sort cmp key false xs) ∧
    ((Coll.groupby cmp key xs).flatMap (·.2)).Perm xs ∧
    (∀ p ∈ Coll.groupby cmp key xs, p.2 ≠ [] ∧ ∀ y ∈ p.2, cmp p.1 (key y) = .eq) ∧
    (Coll.groupby cmp key xs).Pairwise (fun p q => cmp p.1 q.1 = .lt) := by
  obtain ⟨h1, h2, h3, h4⟩ := groupby_spec_on (.self (revCmp cmp false)) (key := key) xs fun _ _ => trivial
  exact ⟨h1, h1.symm ▸ h2, h3, h4⟩

theorem min_le_all (cmpa : α → α → Ordering) [TransCmp cmpa] (xs : List α) (m : α)
    (h : Coll.minBy cmpa xs = some m) : ∀ x ∈ xs, cmpa m x ≠ .gt :=
  ((minmax_on (.self cmpa) xs (fun _ _ => trivial) m).1 h).2

theorem min_mem (cmpa : α → α → Ordering) [TransCmp cmpa] (xs : List α) (m : α)
    (h : Coll.minBy cmpa xs = some m) : m ∈ xs :=
  ((minmax_on (.self cmpa) xs (fun _ _ => trivial) m).1 h).1

theorem max_ge_all (cmpa : α → α → Ordering) [TransCmp cmpa] (xs : List α) (m : α)
    (h : Coll.maxBy cmpa xs = some m) : (∀ x ∈ xs, cmpa m x ≠ .lt) ∧ m ∈ xs :=
  ((minmax_on (.self cmpa) xs (fun _ _ => trivial) m).2 h).symm

theorem min_max_empty (cmpa : α → α → Ordering) :
    Coll.minBy cmpa ([] : List α) = none ∧ Coll.maxBy cmpa ([] : List α) = none := ⟨rfl, rfl⟩

end filters

/-- `reverse` is an involution on every enumerator shape (index-based for `Enumerator::Seq`,
    collect-and-reverse for iterators), and both shapes give the reversed item list -/
theorem reverse_involutive {α : Type} (d : α) (xs : List α) :
    reverseSeq d xs = xs.reverse ∧ reverseIter xs = xs.reverse ∧
    reverseSeq d (reverseSeq d xs) = xs ∧ reverseIter (reverseIter xs) = xs ∧
    reverseIter (reverseSeq d xs) = xs ∧ reverseSeq d (reverseIter xs) = xs := by
  simp [reverseSeq_eq, reverseIter]

/-- `first` / `last` -/
theorem first_last {α : Type} (xs : List α) :
    Coll.first xs = xs.head? ∧ Coll.last xs = xs.getLast? := by
  simp [Coll.first, Coll.last, List.head?_reverse]

/-- without a fill value the runs concatenate to the input -/
theorem batch_concat {α : Type} (xs : List α) (n : Nat) (hn : 0 < n) :
    ∃ rs, batch xs n none = .ok rs ∧ rs.flatten = xs := by
  obtain ⟨rs, h1, h2, _⟩ := batch_nofill xs n hn
  exact ⟨rs, h1, h2⟩

/-- every run but the last has exactly `count` items, the last between 1 and `count`; with a fill
    value every run has `count` items and the concatenation is the input plus fewer than `count`
    fillers (or an `Err` when the padded run cannot be allocated); `count = 0` is an `Err`; no panic -/
theorem batch_lengths {α : Type} (xs : List α) (n : Nat) :
    (n = 0 → ∀ fill, batch xs n fill = .error) ∧
    (0 < n → ∃ rs, batch xs n none = .ok rs ∧ (∀ r ∈ rs.dropLast, r.length = n) ∧
      (∀ r, rs.getLast? = some r → 0 < r.length ∧ r.length ≤ n)) ∧
    (0 < n → ∀ f, batch xs n (some f) = .error ∨
      ∃ rs k, batch xs n (some f) = .ok rs ∧ k < n ∧ rs.flatten = xs ++ List.replicate k f ∧
        ∀ r ∈ rs, r.length = n) := by
  refine ⟨fun h fill => by subst h; exact batch_zero xs fill, ?_, fun hn f => batch_fill xs n hn f⟩
  intro hn
  obtain ⟨rs, h1, _, h3, h4⟩ := batch_nofill xs n hn
  exact ⟨rs, h1, h3, h4⟩

example : batch [1, 2, 3, 4, 5] 2 (some 0) = .ok [[1, 2], [3, 4], [5, 0]] := by decide +kernel
example : batch [1, 2, 3] 9223372036854775807 (none : Option Nat) = .ok [[1, 2, 3]] := by decide +kernel
example : batch [1, 2, 3] 9223372036854775807 (some 0) = .error := by decide +kernel

/-- `slice` returns exactly `count` runs that concatenate to the input (no fill value); `count = 0`
    and a `count` that cannot be reserved are an `Err`; it never panics (lists shorter than 2^64) -/
theorem slicef_concat {α : Type} (xs : List α) (count : Nat) (hlen : xs.length < 18446744073709551616) :
    (count = 0 ∨ reservable count = false → ∀ fill, slicef xs count fill = .error) ∧
    (0 < count → reservable count = true →
      ∃ rs, slicef xs count none = .ok rs ∧ rs.length = count ∧ rs.flatten = xs) := by
  refine ⟨fun h fill => slicef_error xs count fill h, ?_⟩
  intro hc hr
  refine ⟨_, slicef_ok xs count none hc hr hlen, by simp, ?_⟩
  have h := pieces_flatten xs (xs.length / count) (xs.length % count) count
    (by rw [pos_count _ _ hc]; exact Nat.le_refl _)
  rw [pos_count _ _ hc, List.take_length] at h
  exact h

/-- run `i` has `len / count` items, one more for the first `len % count` runs — so the lengths are
    non-increasing and differ by at most one; with a fill value all runs have `len / count + 1` items -/
theorem slicef_lengths_differ_le_one {α : Type} (xs : List α) (count : Nat) (hc : 0 < count)
    (hr : reservable count = true) (hlen : xs.length < 18446744073709551616) :
    (∃ rs, slicef xs count none = .ok rs ∧ rs.length = count ∧
      (∀ i (h : i < rs.length), rs[i].length = xs.length / count + (if i < xs.length % count then 1 else 0)) ∧
      (∀ i j (hi : i < rs.length) (hj : j < rs.length), i ≤ j →
        rs[j].length ≤ rs[i].length ∧ rs[i].length ≤ rs[j].length + 1)) ∧
    (∀ f, ∃ rs, slicef xs count (some f) = .ok rs ∧ rs.length = count ∧
      ∀ r ∈ rs, r.length = xs.length / count + 1) := by
  have hpos : ∀ i, i < count → pos (xs.length / count) (xs.length % count) (i + 1) ≤ xs.length := by
    intro i hi
    have := pos_mono (xs.length / count) (xs.length % count) (i + 1) count (by omega)
    rw [pos_count _ _ hc] at this; exact this
  have hlen_i : ∀ i (h : i < ((List.range count).map (runOf xs (xs.length / count) (xs.length % count) none)).length),
      (((List.range count).map (runOf xs (xs.length / count) (xs.length % count) none))[i]).length =
        xs.length / count + (if i < xs.length % count then 1 else 0) := by
    intro i h
    simp only [List.length_map, List.length_range] at h
    simp only [List.getElem_map, List.getElem_range]
    exact runOf_length_nofill xs _ _ i (hpos i h)
  refine ⟨⟨_, slicef_ok xs count none hc hr hlen, by simp, hlen_i, ?_⟩, ?_⟩
  · intro i j hi hj hij
    rw [hlen_i i hi, hlen_i j hj]
    by_cases h1 : i < xs.length % count <;> by_cases h2 : j < xs.length % count <;>
      simp [h1, h2] <;> omega
  · intro f
    refine ⟨_, slicef_ok xs count (some f) hc hr hlen, by simp, ?_⟩
    intro r hr'
    simp only [List.mem_map, List.mem_range] at hr'
    obtain ⟨i, hi, rfl⟩ := hr'
    exact runOf_length_fill xs _ _ i f (hpos i hi)

example : slicef [1, 2, 3, 4, 5, 6, 7] 3 (none : Option Nat) = .ok [[1, 2, 3], [4, 5], [6, 7]] := by decide +kernel
example : slicef [1, 2, 3, 4, 5, 6, 7] 3 (some 0) = .ok [[1, 2, 3], [4, 5, 0], [6, 7, 0]] := by decide +kernel
example : slicef [1, 2] 9223372036854775807 (none : Option Nat) = .error := by decide +kernel
example : reservable 3 = true ∧ (0 : Nat) < 3 := by decide +kernel

/-! ## the filters on values, as `filters.rs` writes them -/

/-- `cmp_helper` (case folding only when both operands are strings, `reverse` flips) is `Value::cmp`
    on the case-folded operands — so it is a total preorder on values within range -/
theorem cmp_helper_is_cmp_on_folded (cs rev : Bool) (a b : V) :
    cmpHelper cs rev a b = revCmp (fun x y => cmpV (foldCase cs x) (foldCase cs y)) rev a b :=
  cmpHelper_eq cs rev a b

example : cmpHelper false false (.str [65]) (.str [97]) = .eq ∧ cmpHelper true false (.str [65]) (.str [97]) = .lt ∧
    cmpHelper false true (.num (.i64 1)) (.str [97]) = .gt := by decide +kernel

/-- `sort(case_sensitive, reverse, attribute)` on values: a permutation, ordered by `cmp_helper` on
    the keys, items with `Equal` keys in input order (also with `reverse=true`) -/
theorem sort_values_spec (m : Mode) (cs rev : Bool) (attr : Option (List Nat)) (xs : List V)
    (h : ∀ x ∈ xs, MJ.C07.InRange (keyOf m attr x)) :
    (sortV m cs rev attr xs).Perm xs ∧
    (sortV m cs rev attr xs).Pairwise (fun a b => cmpHelper cs rev (keyOf m attr a) (keyOf m attr b) ≠ .gt) ∧
    (∀ a b, [a, b].Sublist xs → cmpHelper cs rev (keyOf m attr a) (keyOf m attr b) = .eq →
      [a, b].Sublist (sortV m cs rev attr xs)) :=
  sortBy_spec cs rev (keyOf m attr) xs h

/-- the hypothesis is satisfiable: two maps with attribute `k` holding `"a"` and `"A"` (equal keys
    when case-insensitive) and a NaN -/
example : ∀ x ∈ [V.map [(.str [107], .str [97])], .map [(.str [107], .str [65])], .map [(.str [107], .num (.f64 0x7ff8000000000000))]],
    MJ.C07.InRange (keyOf .btree (some [107]) x) := by
  intro x hx
  simp only [List.mem_cons, List.not_mem_nil, or_false] at hx
  rcases hx with rfl | rfl | rfl <;> simp [keyOf, attrOr, getByStr, scanStr, MJ.Gen.valueMapStrScanMax, AllNum, N.WF, P64, i64Min, i64Max, u64Max]

/-- `sort(attribute="a, b")` (several attributes): the same laws, keyed by the list of the attribute
    values (compared as a list: no case folding inside) -/
theorem sort_multi_attribute_spec (m : Mode) (cs rev : Bool) (names : List (List Nat)) (xs : List V)
    (h : ∀ x ∈ xs, MJ.C07.InRange (keyMulti m names x)) :
    (sortMultiV m cs rev names xs).Perm xs ∧
    (sortMultiV m cs rev names xs).Pairwise (fun a b => cmpHelper cs rev (keyMulti m names a) (keyMulti m names b) ≠ .gt) ∧
    (∀ a b, [a, b].Sublist xs → cmpHelper cs rev (keyMulti m names a) (keyMulti m names b) = .eq →
      [a, b].Sublist (sortMultiV m cs rev names xs)) :=
  sortBy_spec cs rev (keyMulti m names) xs h

example : MJ.C07.InRange (keyMulti .btree [[103], [107]] (.map [(.str [103], .num (.u64 1)), (.str [107], .str [65])])) := by
  simp [keyMulti, attrOr, getByStr, scanStr, MJ.Gen.valueMapStrScanMax, AllNum, AllNumL, N.WF, u64Max]

/-- `dictsort(case_sensitive, reverse, by)`: a stable sort of the `(key, value)` pairs by the key or
    the value projection -/
theorem dictsort_spec (cs rev byValue : Bool) (ps : List (V × V))
    (h : ∀ p ∈ ps, MJ.C07.InRange (if byValue then p.2 else p.1)) :
    (dictsortV cs rev byValue ps).Perm ps ∧
    (dictsortV cs rev byValue ps).Pairwise (fun a b =>
      cmpHelper cs rev (if byValue then a.2 else a.1) (if byValue then b.2 else b.1) ≠ .gt) ∧
    (∀ a b, [a, b].Sublist ps →
      cmpHelper cs rev (if byValue then a.2 else a.1) (if byValue then b.2 else b.1) = .eq →
      [a, b].Sublist (dictsortV cs rev byValue ps)) :=
  sortBy_spec cs rev (fun p : V × V => if byValue then p.2 else p.1) ps h

example : ∀ p ∈ [((V.str [98]), V.num (.i64 2)), (.str [66], .num (.f64 0))], MJ.C07.InRange (if true then p.2 else p.1) := by
  intro p hp
  simp only [List.mem_cons, List.not_mem_nil, or_false] at hp
  rcases hp with rfl | rfl <;> simp [keyOf, attrOr, getByStr, scanStr, MJ.Gen.valueMapStrScanMax, AllNum, N.WF, P64, i64Min, i64Max, u64Max]

/-- `unique(case_sensitive, attribute)`: an order-preserving sub-sequence without two `Equal`
    memorised keys that represents every input key and keeps first occurrences — whatever the
    lower-casing function (`str::to_lowercase`) does -/
theorem unique_values_spec (m : Mode) (lower : List Nat → List Nat) (cs : Bool) (attr : Option (List Nat)) (xs : List V)
    (h : ∀ x ∈ xs, MJ.C07.InRange (keyOf m attr x)) :
    (uniqueV m lower cs attr xs).Sublist xs ∧
    (uniqueV m lower cs attr xs).Pairwise
      (fun a b => cmpV (uniqKey m lower cs attr a) (uniqKey m lower cs attr b) ≠ .eq) ∧
    (∀ x ∈ xs, ∃ y ∈ uniqueV m lower cs attr xs,
      cmpV (uniqKey m lower cs attr y) (uniqKey m lower cs attr x) = .eq) ∧
    (∀ pre x post, xs = pre ++ x :: post →
      (∀ p ∈ pre, cmpV (uniqKey m lower cs attr p) (uniqKey m lower cs attr x) ≠ .eq) →
      x ∈ uniqueV m lower cs attr xs) :=
  uniqueKV_spec lower cs (keyOf m attr) xs h

/-- `groupby(attribute, default, case_sensitive)`: the groups concatenate to the input stably sorted
    by the attribute (hence partition it), no group is empty, every member's attribute is `Equal`
    to the grouper, groupers strictly increasing -/
theorem groupby_values_spec (m : Mode) (cs : Bool) (name : List Nat) (dflt : V) (xs : List V)
    (h : ∀ x ∈ xs, MJ.C07.InRange (attrOr m name dflt x)) :
    let G := groupbyV m cs name dflt xs
    let S := xs.mergeSort (fun a b => cmpHelper cs false (attrOr m name dflt a) (attrOr m name dflt b) != .gt)
    G.flatMap (·.2) = S ∧ S.Perm xs ∧
    (∀ p ∈ G, p.2 ≠ [] ∧ ∀ y ∈ p.2, cmpHelper cs false p.1 (attrOr m name dflt y) = .eq) ∧
    G.Pairwise (fun p q => cmpHelper cs false p.1 q.1 = .lt) :=
  groupbyKV_spec cs (attrOr m name dflt) xs h

example : ∀ x ∈ [V.map [(.str [107], .num (.u64 1))], .none], MJ.C07.InRange (attrOr .btree [107] (.num (.i64 0)) x) := by
  intro x hx
  simp only [List.mem_cons, List.not_mem_nil, or_false] at hx
  rcases hx with rfl | rfl <;> simp [keyOf, attrOr, getByStr, scanStr, MJ.Gen.valueMapStrScanMax, AllNum, N.WF, P64, i64Min, i64Max, u64Max]

/-- `min` / `max` on values within range -/
theorem min_max_values (xs : List V) (h : ∀ x ∈ xs, MJ.C07.InRange x) (r : V) :
    (Coll.minBy cmpV xs = some r → r ∈ xs ∧ ∀ x ∈ xs, cmpV r x ≠ .gt) ∧
    (Coll.maxBy cmpV xs = some r → r ∈ xs ∧ ∀ x ∈ xs, cmpV r x ≠ .lt) :=
  minmax_on pullsBack_cmpV xs h r

/-- `x in xs` (lists, tuples, iterables; also the `in` test): some item is `==` to `x` -/
theorem in_seq_iff (m : Mode) (xs : List V) (x : V) :
    (containsV m (.seq xs) x = some true ↔ ∃ y ∈ xs, eqV m y x = true) ∧
    (containsV m (.tuple xs) x = some true ↔ ∃ y ∈ xs, eqV m y x = true) ∧
    (containsV m (.iter xs) x = some true ↔ ∃ y ∈ xs, eqV m y x = true) := by
  simp [containsV, List.any_eq_true]

/-- `x in m` for a map: some key compares `Equal` to `x`; outside the excluded regions (NaN, a bool
    facing a number) that is "some key is `==` to `x`" -/
theorem in_map_iff (ps : List (V × V)) (x : V) :
    (containsV .btree (.map ps) x = some true ↔ ∃ p ∈ ps, cmpV x p.1 = .eq) ∧
    (NoNaN x → (∀ p ∈ ps, NoNaN p.1) → SortedMaps x → (∀ p ∈ ps, SortedMaps p.1) →
      (∀ p ∈ ps, noClash x p.1 = true) →
      (containsV .btree (.map ps) x = some true ↔ ∃ p ∈ ps, eqV .btree p.1 x = true)) :=
  ⟨contains_map_iff_cmp ps x, fun hx hps sx sps hc => contains_map_iff_eq ps x hx hps sx sps hc⟩

example : containsV .btree (.map [(.num (.i64 1), .none)]) (.num (.f64 0x3ff0000000000000)) = some true := by decide +kernel

/-- `select` / `reject` (and `selectattr` / `rejectattr`) with a test: the filter by the test and its
    complement, in input order; `eq` is `==`, `lt`…`ge` are `Value::cmp`, `in` is containment -/
theorem select_reject_spec (m : Mode) (attr : Option (List Nat)) (t : Test) (arg : V) (xs : List V) :
    selectV m false attr t arg xs = xs.filter (fun x => testV m t (keyOf m attr x) arg) ∧
    selectV m true attr t arg xs = xs.filter (fun x => !testV m t (keyOf m attr x) arg) ∧
    (selectV m false attr t arg xs ++ selectV m true attr t arg xs).Perm xs ∧
    (selectV m false attr t arg xs).Sublist xs ∧ (selectV m true attr t arg xs).Sublist xs :=
  select_reject m attr t arg xs

theorem select_tests_spec (m : Mode) (a b : V) :
    testV m .eq a b = eqV m a b ∧ testV m .ne a b = !eqV m a b ∧
    (testV m .lt a b = true ↔ cmpV a b = .lt) ∧ (testV m .le a b = true ↔ cmpV a b ≠ .gt) ∧
    (testV m .gt a b = true ↔ cmpV a b = .gt) ∧ (testV m .ge a b = true ↔ cmpV a b ≠ .lt) ∧
    (testV m .isIn a b = true ↔ containsV m b a = some true) :=
  select_tests m a b

/-- a map literal `{…, k: v, …}` (`BTreeMap::insert` pair by pair): looking `k` up gives the value
    inserted last, and the keys stay strictly increasing (an `Equal` key is never entered twice) -/
theorem map_literal_last_wins (k v : V) (hk : MJ.C07.InRange k) (ps : List (V × V))
    (hr : ∀ p ∈ ps, MJ.C07.InRange p.1) (hs : KeysSorted ps) :
    getB k (insertLit k v ps) = some v ∧ KeysSorted (insertLit k v ps) :=
  ⟨insertLit_lookup k v (cmp_refl k hk) ps, insertB_sorted k v hk ps hr hs⟩

example : (insertLit (.num (.f64 0x3ff0000000000000)) (.str [98]) [(.num (.i64 1), .str [97])]).length = 1 ∧
    (getB (.num (.i64 1)) (insertLit (.num (.f64 0x3ff0000000000000)) (.str [98]) [(.num (.i64 1), .str [97])])).isSome = true := by
  decide +kernel

/-- what the code guarantees about NaN: the *order* treats a NaN as equal to itself (so sorting and
    `BTreeMap` lookups stay well-defined — `cmp_refines_key` holds with NaNs), while `==` does not -/
theorem nan_eq_irreflexive (b : Nat) (h : isNaN b = true) :
    eqN (.f64 b) (.f64 b) = false ∧ cmpN (.f64 b) (.f64 b) = .eq := by
  refine ⟨?_, ?_⟩
  · simp [eqN, coerceN, feq, h]
  · simp only [cmpN, coerceN]
    rw [cmpF64_eq]; exact Int.compare_eq_eq.mpr rfl

example : isNaN 0x7ff8000000000000 = true := by decide +kernel

/-- the regenerated source facts the model reads: which kinds share an ordering slot, the size of
    the small-map fast path, which variants `Hash` feeds as a zero byte -/
theorem source_tables_tie :
    MJ.Gen.cmpKindAlias = [("Iterable", "Seq")] ∧ MJ.Gen.hashSharedZeroKinds = ["None", "Undefined"] ∧
    hkey .none = hkey .undef ∧ 0 < MJ.Gen.valueMapStrScanMax := by
  refine ⟨rfl, rfl, rfl, by decide +kernel⟩

/-- `sort(attribute="a.b.0")` (a dotted path with names and indexes) is the sort by the key function
    `get_path_or_default(path, undefined)`: the same laws as for a single attribute -/
theorem sort_path_spec (m : Mode) (cs rev : Bool) (path : List PathPart) (xs : List V)
    (h : ∀ x ∈ xs, MJ.C07.InRange (pathOr m path .undef x)) :
    (sortPathV m cs rev path xs).Perm xs ∧
    (sortPathV m cs rev path xs).Pairwise (fun a b => cmpHelper cs rev (pathOr m path .undef a) (pathOr m path .undef b) ≠ .gt) ∧
    (∀ a b, [a, b].Sublist xs → cmpHelper cs rev (pathOr m path .undef a) (pathOr m path .undef b) = .eq →
      [a, b].Sublist (sortPathV m cs rev path xs)) :=
  sortBy_spec cs rev (pathOr m path .undef) xs h

/-- a path of one name is the single attribute of `sort_values_spec`; an item on which the path fails
    (no such attribute, an attribute of a non-map, an attribute of undefined) sorts as undefined -/
theorem path_single_name_is_attr (m : Mode) (s : List Nat) (d x : V) :
    pathOr m [.name s] d x = attrOr m s d x := by
  cases x <;> simp [pathOr, getPath, getAttr, attrOr]
  case map ps =>
    cases h : getByStr m ps s with
    | none => simp
    | some v => cases v <;> simp

example : pathOr .btree [.name [97], .name [98]] .undef (.map [(.str [97], .map [(.str [98], .num (.i64 7))])]) = .num (.i64 7) ∧
    pathOr .btree [.name [97], .name [98]] .undef (.map [(.str [97], .num (.i64 7))]) = .undef ∧
    pathOr .btree [.name [97], .name [98]] .undef (.map []) = .undef ∧
    pathOr .btree [.idx 1] .undef (.seq [.none, .str [120]]) = .str [120] := by
  refine ⟨?_, ?_, ?_, ?_⟩ <;> simp [pathOr, getPath, getAttr, getIdx, getByStr, scanStr, MJ.Gen.valueMapStrScanMax]

/-- several attributes (`attribute="p, q, …"`): the composite key orders lexicographically — the first
    path decides, `Equal` first values hand over to the rest — and case folding never reaches inside -/
theorem multi_key_is_lexicographic (m : Mode) (cs : Bool) (p : List PathPart) (ps : List (List PathPart)) (a b : V) :
    cmpHelper cs false (keyMultiP m (p :: ps) a) (keyMultiP m (p :: ps) b) =
      (cmpV (pathOr m p .undef a) (pathOr m p .undef b)).then
        (cmpHelper cs false (keyMultiP m ps a) (keyMultiP m ps b)) ∧
    cmpHelper cs false (keyMultiP m [] a) (keyMultiP m [] b) = .eq := by
  simp only [cmpHelper, keyMultiP, List.map_cons, List.map_nil, cmpCore_seq, Bool.false_eq_true, if_false]
  exact ⟨cmpV_seq_cons _ _ _ _, cmpV_seq_nil⟩

theorem sort_multi_path_spec (m : Mode) (cs rev : Bool) (paths : List (List PathPart)) (xs : List V)
    (h : ∀ x ∈ xs, MJ.C07.InRange (keyMultiP m paths x)) :
    (sortMultiPathV m cs rev paths xs).Perm xs ∧
    (sortMultiPathV m cs rev paths xs).Pairwise (fun a b => cmpHelper cs rev (keyMultiP m paths a) (keyMultiP m paths b) ≠ .gt) ∧
    (∀ a b, [a, b].Sublist xs → cmpHelper cs rev (keyMultiP m paths a) (keyMultiP m paths b) = .eq →
      [a, b].Sublist (sortMultiPathV m cs rev paths xs)) :=
  sortBy_spec cs rev (keyMultiP m paths) xs h

example : MJ.C07.InRange (keyMultiP .btree [[.name [103]], [.name [112], .name [107]]]
    (.map [(.str [103], .num (.u64 1)), (.str [112], .map [(.str [107], .str [65])])])) := by
  simp [keyMultiP, pathOr, getPath, getAttr, getByStr, scanStr, MJ.Gen.valueMapStrScanMax, AllNum, AllNumL, N.WF, u64Max]

/-- `unique(attribute=path)` and `groupby(path, default)` obey the laws of `unique_values_spec` /
    `groupby_values_spec` with the path value as key -/
theorem unique_path_spec (m : Mode) (lower : List Nat → List Nat) (cs : Bool) (path : List PathPart) (xs : List V)
    (h : ∀ x ∈ xs, MJ.C07.InRange (pathOr m path .undef x)) :
    let key := memoKey lower cs (pathOr m path .undef)
    (uniquePathV m lower cs path xs).Sublist xs ∧
    (uniquePathV m lower cs path xs).Pairwise (fun a b => cmpV (key a) (key b) ≠ .eq) ∧
    (∀ x ∈ xs, ∃ y ∈ uniquePathV m lower cs path xs, cmpV (key y) (key x) = .eq) ∧
    (∀ pre x post, xs = pre ++ x :: post → (∀ p ∈ pre, cmpV (key p) (key x) ≠ .eq) →
      x ∈ uniquePathV m lower cs path xs) :=
  uniqueKV_spec lower cs (pathOr m path .undef) xs h

theorem groupby_path_spec (m : Mode) (cs : Bool) (path : List PathPart) (dflt : V) (xs : List V)
    (h : ∀ x ∈ xs, MJ.C07.InRange (pathOr m path dflt x)) :
    let G := groupbyPathV m cs path dflt xs
    let S := xs.mergeSort (fun a b => cmpHelper cs false (pathOr m path dflt a) (pathOr m path dflt b) != .gt)
    G.flatMap (·.2) = S ∧ S.Perm xs ∧
    (∀ p ∈ G, p.2 ≠ [] ∧ ∀ y ∈ p.2, cmpHelper cs false p.1 (pathOr m path dflt y) = .eq) ∧
    G.Pairwise (fun p q => cmpHelper cs false p.1 q.1 = .lt) :=
  groupbyKV_spec cs (pathOr m path dflt) xs h

example : ∀ x ∈ [V.map [(.str [112], .map [(.str [107], .num (.u64 1))])], .map [(.str [112], .num (.i64 7))], .none],
    MJ.C07.InRange (pathOr .btree [.name [112], .name [107]] (.num (.i64 0)) x) := by
  intro x hx
  simp only [List.mem_cons, List.not_mem_nil, or_false] at hx
  rcases hx with rfl | rfl | rfl <;>
    simp [pathOr, getPath, getAttr, getByStr, scanStr, MJ.Gen.valueMapStrScanMax, AllNum, N.WF, i64Min, i64Max, u64Max]

/-- `sum` is the fold of the C08 integer addition from `0` over the integer items (undefined items are
    skipped; anything else that is not a number is an `Err`) — so by C08's `sum_exact` its result is the
    exact sum, and it does not depend on the order or the representation widths of the items -/
theorem sum_is_fold_of_add (xs : List V) (h : SumOK xs) :
    sumV xs = some (match MJ.Num.sumFilter (intItems xs) with
      | .ok r => .ok r
      | .err => .error) :=
  sumFrom_eq (.i64 0) xs h

example : SumOK [.num (.i64 1), .undef, .num (.u128 18446744073709551616)] ∧
    sumV [.num (.i64 1), .undef, .num (.u128 18446744073709551616)] = some (.ok (.i128 18446744073709551617)) ∧
    sumV [.num (.i64 1), .str [97]] = some .error := by
  refine ⟨by simp [SumOK, toRepr], by rfl, by rfl⟩

/-- `zip`: as many tuples as the shortest operand has items, tuple `i` holds item `i` of every operand
    in operand order (so every tuple has one entry per operand) -/
theorem zip_spec (xss : List (List V)) :
    (zipV xss).length = zipRounds xss ∧ (∀ xs ∈ xss, (zipV xss).length ≤ xs.length) ∧
    (∀ i (h : i < (zipV xss).length), (zipV xss)[i] = xss.map (fun xs => xs.getD i .undef)) ∧
    (∀ t ∈ zipV xss, t.length = xss.length) := by
  refine ⟨zipV_length xss, ?_, zipV_getElem xss, ?_⟩
  · intro xs hx; rw [zipV_length]; exact zipRounds_le xss xs hx
  · intro t ht
    simp only [zipV, List.mem_map, List.mem_range] at ht
    obtain ⟨i, _, rfl⟩ := ht
    simp

theorem zip_two (xs ys : List V) : (zipV [xs, ys]).length = min xs.length ys.length := by
  rw [zipV_length, zipRounds_two]

example : zipV [[.num (.i64 1), .num (.i64 2), .num (.i64 3)], [.str [97], .str [98]]] =
    [[.num (.i64 1), .str [97]], [.num (.i64 2), .str [98]]] := by rfl

/-- `chain` of sequences / iterables: the items of the operands one after the other; associative; the
    reported length is the sum of the known lengths; `[i]` is item `i` of the concatenation -/
theorem chain_spec (a b c : List V) (xss : List (List V)) (i : Nat) :
    chainSeq [chainSeq [a, b], c] = chainSeq [a, chainSeq [b, c]] ∧
    chainSeq [chainSeq [a, b], c] = chainSeq [a, b, c] ∧
    chainSeq [a, b] = a ++ b ∧
    chainLen (xss.map (fun xs => some xs.length)) = some (chainSeq xss).length ∧
    chainIdx xss i = (chainSeq xss)[i]? := by
  refine ⟨by simp [chainSeq], by simp [chainSeq], by simp [chainSeq], chainLen_known xss, chainIdx_eq xss i⟩

example : chainLen [some 2, Option.none, some 1] = Option.none ∧ chainLen [some 2, some 1] = some 3 := by decide +kernel

/-- `items` ↔ dict round trip: the tuples of `items` are the map's pairs in iteration order, one per entry -/
theorem items_roundtrip (ps : List (V × V)) :
    pairsOf (itemsV ps) = ps ∧ (itemsV ps).length = ps.length ∧
    listV (.map ps) = some (ps.map Prod.fst) := by
  refine ⟨pairsOf_itemsV ps, by simp [itemsV], rfl⟩

/-- … and building a `BTreeMap` from those pairs gives the map back (keys in strictly increasing order) -/
theorem items_rebuild (ps : List (V × V)) (h : ∀ p ∈ ps, MJ.C07.InRange p.1) (hs : KeysSorted ps) :
    mkMap .btree (pairsOf (itemsV ps)) = .map ps := by
  rw [pairsOf_itemsV]
  exact mkMap_btree_of_sorted ps h hs

example : (∀ p ∈ [((V.str [97]), V.num (.i64 1)), (.str [98], .none)], MJ.C07.InRange p.1) ∧
    KeysSorted [((V.str [97]), V.num (.i64 1)), (.str [98], .none)] := by
  refine ⟨by intro p hp; simp only [List.mem_cons, List.not_mem_nil, or_false] at hp; rcases hp with rfl | rfl <;> simp [AllNum], ?_⟩
  simp only [KeysSorted, List.map_cons, List.map_nil, List.pairwise_cons, List.mem_cons, List.not_mem_nil, or_false,
    forall_eq, false_imp_iff, implies_true, List.Pairwise.nil, and_true]
  decide +kernel

/-- `list`: the items of a sequence / tuple / iterable, the keys of a map, the characters of a string,
    nothing for undefined and none; idempotent -/
theorem list_spec (xs : List V) (v : V) (ys : List V) (_h : listV v = some ys) :
    listV (.seq xs) = some xs ∧ listV (.tuple xs) = some xs ∧ listV (.iter xs) = some xs ∧
    listV .undef = some [] ∧ listV .none = some [] ∧ listV (.seq ys) = some ys := by
  simp [listV]

example : listV (.str [97, 195, 169]) = some [.str [97], .str [195, 169]] ∧ listV (.num (.i64 1)) = Option.none := by
  refine ⟨by rfl, by rfl⟩

/-- the pycompat dict methods: `get` is the map lookup (so it finds a key exactly when `in` does),
    `keys` / `values` / `items` walk the pairs in iteration order and line up -/
theorem pycompat_dict_spec (m : Mode) (ps : List (V × V)) (k : V) (d : Option V) :
    (dictGet m ps k d = match getV m ps k with | some v => v | Option.none => d.getD .none) ∧
    ((getV m ps k).isSome = true ↔ containsV m (.map ps) k = some true) ∧
    (dictKeys ps).zip (dictValues ps) = ps ∧ pairsOf (dictItems ps) = ps ∧
    listV (.map ps) = some (dictKeys ps) := by
  refine ⟨rfl, by simp [containsV], ?_, pairsOf_itemsV ps, rfl⟩
  simp [dictKeys, dictValues, List.zip_map_left, List.zip_map_right]
  induction ps with
  | nil => rfl
  | cons p ps ih => simp [ih]

/-- `xs.count(x)` counts the items that are `==` to `x`: positive exactly when `x in xs` -/
theorem count_pos_iff_in (m : Mode) (xs : List V) (x : V) :
    0 < countV m xs x ↔ containsV m (.seq xs) x = some true := by
  simp [countV, containsV, List.length_pos_iff_exists_mem]

/-- `sameas` refines `==` on values that are not objects (same kind, both integers or both not, and
    `==`), and is object identity on objects -/
theorem sameas_spec (m : Mode) (sameObj : Bool) (a b : V) :
    (isObj a = false → isObj b = false → sameasV m sameObj a b = true → eqV m a b = true) ∧
    (isObj a = true → isObj b = true → sameasV m sameObj a b = sameObj) ∧
    (isObj a ≠ isObj b → sameasV m sameObj a b = false) := by
  refine ⟨?_, ?_, ?_⟩
  · intro ha hb h
    simp only [sameasV, ha, hb, Bool.and_self, Bool.false_eq_true, if_false, Bool.or_self, Bool.and_eq_true] at h
    exact h.2
  · intro ha hb; simp [sameasV, ha, hb]
  · intro h
    cases ha : isObj a <;> cases hb : isObj b <;> simp [ha, hb] at h <;> simp [sameasV, ha, hb]

/-- `1 is sameas 1.0` is false although `1 == 1.0`; `true is sameas 1` is false although `true == 1` -/
example : sameasV .btree false (.num (.i64 1)) (.num (.f64 0x3ff0000000000000)) = false ∧
    eqV .btree (.num (.i64 1)) (.num (.f64 0x3ff0000000000000)) = true ∧
    sameasV .btree false (.bool true) (.num (.i64 1)) = false ∧
    sameasV .btree false (.num (.u64 1)) (.num (.i64 1)) = true := by
  refine ⟨by decide +kernel, by decide +kernel, by decide +kernel, by decide +kernel⟩

/-! ## `reverse` / `last` on every enumerator shape -/

/-- Full-strength statement: `Value::reverse` yields the items backwards whatever the variant of the
    object's enumerator (anything that can be enumerated). -/
def reverse_full : Prop :=
  ∀ (v : EnumVar) (xs : List Nat), v ≠ .nonEnumerable → reverseEnum v xs = some xs.reverse

/-- False on the current code: the `Enumerator::RevIter` arm hands the iterator on without `.rev()`
    (regenerated arm table), so `BTreeSet`, `LinkedList` and user objects enumerating through
    `mapped_rev_enumerator` come back in forward order — pinned by the existing test `test_reverse`
    (a known finding). -/
theorem reverse_counterexample : ¬ reverse_full := by
  intro h
  have := h .revIter [1, 2] (by decide +kernel)
  revert this
  decide

/-- what the code does, exactly: every arm but `RevIter` reverses (`Empty` has nothing to reverse), `RevIter`
    is the identity, `NonEnumerable` an error; `last` is the head of that -/
theorem reverse_partial {α : Type} (v : EnumVar) (xs : List α) :
    (v ≠ .revIter → v ≠ .nonEnumerable → v ≠ .empty → reverseEnum v xs = some xs.reverse ∧
      (reverseEnum v xs).bind (reverseEnum .values) = some xs ∧ lastEnum v xs = some xs.getLast?) ∧
    (reverseEnum .revIter xs = some xs ∧ lastEnum .revIter xs = some xs.head?) ∧
    reverseEnum .empty ([] : List α) = some [] ∧
    reverseEnum .nonEnumerable xs = Option.none := by
  refine ⟨?_, ⟨by rfl, by rfl⟩, by rfl, by rfl⟩
  intro h1 h2 h3
  have hv : reverseEnum v xs = some xs.reverse := by
    cases v <;> first | (exact absurd rfl h1) | (exact absurd rfl h2) | (exact absurd rfl h3) | rfl
  refine ⟨hv, ?_, ?_⟩
  · rw [hv]
    show reverseEnum .values xs.reverse = some xs
    have : reverseEnum .values xs.reverse = some xs.reverse.reverse := by rfl
    rw [this, List.reverse_reverse]
  · simp [lastEnum, hv, List.head?_reverse]

/-- the variants are the ones of the source, arm for arm -/
theorem reverse_arms_tie : MJ.Gen.reverseArms.map Prod.fst = ["NonEnumerable", "Empty", "Seq", "Iter", "KeyValueIter",
    "RevIter", "RevKeyValueIter", "Str", "Values"] ∧
    allEnumVars.all (fun v => (MJ.Gen.reverseArms.lookup v.name).isSome) = true := by
  refine ⟨by rfl, by decide +kernel⟩

/-- two invalid values (`Value::from(Error)`): ordered by (kind, detail) — a total order that agrees
    with `==`, and `==` values feed the hasher the same items -/
theorem invalid_values_order (a b c : Inv) :
    cmpInv a a = .eq ∧ cmpInv b a = (cmpInv a b).swap ∧
    (cmpInv a b ≠ .gt → cmpInv b c ≠ .gt → cmpInv a c ≠ .gt) ∧
    (eqInv a b = true ↔ cmpInv a b = .eq) ∧ (eqInv a b = true → hkeyInv a = hkeyInv b) := by
  have ord : PullsBack cmpInv (fun _ => True) compare keyInv := fun a b _ _ => cmpInv_eq_key a b
  refine ⟨ord.refl trivial, ord.swap trivial trivial, ord.le_trans trivial trivial trivial, ?_, ?_⟩
  · simp only [eqInv, cmpInv, Bool.and_eq_true, beq_iff_eq, Ordering.then_eq_eq, Nat.compare_eq_eq, cmpOptBytes_eq_iff]
  · intro h
    simp only [eqInv, Bool.and_eq_true, beq_iff_eq] at h
    simp [hkeyInv, h.1, h.2]

example : cmpInv ⟨2, some [98, 111]⟩ ⟨2, some [98, 97]⟩ = .gt ∧ cmpInv ⟨2, Option.none⟩ ⟨2, some []⟩ = .lt ∧
    eqInv ⟨2, some [98]⟩ ⟨2, some [98]⟩ = true := by decide +kernel

/-- the identity short-cut (`is_same_object` → `Equal` / `true`) returns what the structural comparison
    of a value with itself returns: `Equal` always, `true` for NaN-free values -/
theorem identity_shortcut_sound (a : V) (ha : NoNaN a) (sa : SortedMaps a) (hc : noClash a a = true) :
    cmpV a a = .eq ∧ eqV .btree a a = true := by
  have hr : cmpV a a = .eq := PullsBack.refl (cmpV_eq_cmpK numSpec_ok) ha
  exact ⟨hr, (eq_iff_cmp_eq a a ha ha sa sa hc).mpr hr⟩

example : NoNaN (.seq [.num (.f64 0x3ff0000000000000), .map [(.str [97], .tuple [.none])]]) ∧
    SortedMaps (.seq [.num (.f64 0x3ff0000000000000), .map [(.str [97], .tuple [.none])]]) ∧
    noClash (.seq [.num (.f64 0x3ff0000000000000), .map [(.str [97], .tuple [.none])]])
      (.seq [.num (.f64 0x3ff0000000000000), .map [(.str [97], .tuple [.none])]]) = true := by
  refine ⟨?_, by decide +kernel, by decide +kernel⟩
  simp [AllNum, AllNumL, AllNumPL, NumOK, N.WF, P64] <;> decide

/-- … which is why NaN is excluded: a list holding a NaN is `==` to itself as the same object, but not
    to an equal list built separately -/
example : eqV .btree (.seq [.num (.f64 0x7ff8000000000000)]) (.seq [.num (.f64 0x7ff8000000000000)]) = false := by
  decide +kernel

/-- plain objects with object identity and a user `custom_cmp`: `==` holds exactly when `cmp` says
    `Equal` (ids identify objects); among objects of one type that all define `custom_cmp` the order is
    the order of their custom keys — total, reflexive, antisymmetric, transitive -/
theorem custom_cmp_spec (a b c : PObj) (hid : IdsCoherent [a, b, c]) :
    (eqPObj a b = true ↔ cmpPObj a b = .eq) ∧
    (a.ty = b.ty → b.ty = c.ty → a.ckey.isSome → b.ckey.isSome → c.ckey.isSome →
      cmpPObj a a = .eq ∧ cmpPObj b a = (cmpPObj a b).swap ∧
      (cmpPObj a b ≠ .gt → cmpPObj b c ≠ .gt → cmpPObj a c ≠ .gt)) := by
  refine ⟨?_, ?_⟩
  · unfold eqPObj cmpPObj
    by_cases h1 : a.id = b.id
    · simp [h1]
    · simp only [h1, if_false]
      by_cases h2 : a.ty = b.ty
      · simp only [h2, if_true]
        cases customCmp a b with
        | none => simp [cmpBytes_eq_iff]
        | some o => simp
      · simp [h2, cmpBytes_eq_iff]
  · intro hab hbc ha hb hc
    -- among objects of one type with keys, `cmp` is `compare` on the keys (same id → same object → same key)
    have key : ∀ x ∈ [a, b, c], ∀ y ∈ [a, b, c], x.ty = y.ty → ∀ kx ky, x.ckey = some kx → y.ckey = some ky →
        cmpPObj x y = compare kx ky := by
      intro x hxm y hym hty kx ky hx hy
      unfold cmpPObj
      by_cases h1 : x.id = y.id
      · have := hid x hxm y hym h1
        subst this
        rw [hx] at hy
        simp only [Option.some.injEq] at hy
        subst hy
        simp
      · simp [h1, hty, customCmp, hx, hy]
    obtain ⟨ka, hka⟩ := Option.isSome_iff_exists.mp ha
    obtain ⟨kb, hkb⟩ := Option.isSome_iff_exists.mp hb
    obtain ⟨kc, hkc⟩ := Option.isSome_iff_exists.mp hc
    rw [key a (by simp) a (by simp) rfl ka ka hka hka, key b (by simp) a (by simp) hab.symm kb ka hkb hka,
      key a (by simp) b (by simp) hab ka kb hka hkb, key b (by simp) c (by simp) hbc kb kc hkb hkc,
      key a (by simp) c (by simp) (hab.trans hbc) ka kc hka hkc]
    exact ⟨ReflCmp.compare_self, OrientedCmp.eq_swap, (PullsBack.self compare).le_trans trivial trivial trivial⟩

example : IdsCoherent [⟨1, 1, some 2, [97]⟩, ⟨2, 1, some 1, [98]⟩, ⟨3, 1, some 1, [99]⟩] := by
  unfold IdsCoherent; decide

/-- across types the engine falls back to the renderings, which a `custom_cmp` need not respect: three
    objects on which `cmp` is not transitive (a contract on user code, outside the property) -/
theorem custom_cmp_mixed_types_counterexample :
    ∃ a b c : PObj, cmpPObj a b = .lt ∧ cmpPObj b c = .lt ∧ cmpPObj a c = .gt :=
  ⟨⟨1, 1, some 2, [97]⟩, ⟨2, 2, Option.none, [98]⟩, ⟨3, 1, some 1, [99]⟩, by decide +kernel, by decide +kernel, by decide +kernel⟩

/-- which comparison every collection filter is built on, read off the source: `sort` (all three
    call sites), `dictsort` pass `case_sensitive` and `reverse` to `cmp_helper`, `groupby` passes
    `case_sensitive` and never reverses (twice: sorting and cutting), `unique` memorises case-folded string
    keys in a `BTreeSet`, `min` / `max` are `Iterator::min` / `max` on `Value::cmp`, `cmp_helper` folds only
    string values and reverses last, every sort ends in the stable `sort_by` -/
theorem filter_comparisons_tie : MJ.Gen.filterCmpCalls = [
    ("dictsort", "cmp_helper", "case_sensitive", "reverse"),
    ("sort", "cmp_helper", "case_sensitive", "reverse"), ("sort", "cmp_helper", "case_sensitive", "reverse"),
    ("sort", "cmp_helper", "case_sensitive", "reverse"),
    ("groupby", "cmp_helper", "case_sensitive", "false"), ("groupby", "cmp_helper", "case_sensitive", "false"),
    ("unique", "BTreeSet", "as_key_str", "to_lowercase"),
    ("min", "Iterator::min", "", ""), ("max", "Iterator::max", "", ""),
    ("cmp_helper", "Value::cmp", "as_key_str", "ordering.reverse()"),
    ("safe_sort", "sort_by", "", "")] := by rfl

/-! ## derived dictionaries: merged dictionaries (`chain`, layered contexts) and the copy `dict(m)` -/

open MJ.CollD in
/-- what a merged dictionary (`a|chain(b)`, `context! { ..a, ..b }`, `merge_maps`) FINDS is what it LISTS:
    `merged[k]` / `k in merged` succeed exactly for the probes `Equal` to a listed key, whatever values the
    entries hold (undefined ones included: fix 276e6ac) -/
theorem merged_dict_lookup_iff_listed (maps : List (List (V × V))) (k : V) (hk : InRange k)
    (h : ∀ ps ∈ maps, ∀ p ∈ ps, InRange p.1) :
    (mergeGetV maps k).isSome = true ↔ ∃ k' ∈ mergeKeysV maps, cmpV k k' = .eq :=
  merge_lookup_iff_listed cmpV (fun a => InRange a) (fun a ha => cmp_refl a ha)
    (fun _ _ _ ha hb hc => pullsBack_cmpV.eq_trans ha hb hc) isUndefV .undef maps k h hk

open MJ.CollD in
/-- the hypotheses are satisfiable, by the very input that failed before the fix: the only entry of the key
    holds an undefined value, the key is listed and found -/
example : (mergeGetV [[(.str [97], .undef)], []] (.str [97])).isSome = true ∧
    (mergeKeysV [[(.str [97], .undef)], []]).length = 1 := by decide +kernel

open MJ.CollD in
/-- the listing of a merged dictionary holds the keys of its operands and nothing else: every operand key has an
    `Equal` representative, every listed key comes from an operand -/
theorem merged_dict_lists_operand_keys (maps : List (List (V × V))) (h : ∀ ps ∈ maps, ∀ p ∈ ps, InRange p.1) :
    (∀ ps ∈ maps, ∀ p ∈ ps, ∃ k' ∈ mergeKeysV maps, cmpV p.1 k' = .eq) ∧
    (∀ k' ∈ mergeKeysV maps, ∃ ps ∈ maps, ∃ p ∈ ps, p.1 = k') :=
  ⟨fun ps hps p hp => (mergeKeys_spec cmpV maps).2 ps hps p hp (cmp_refl _ (h ps hps p hp)),
   (mergeKeys_spec cmpV maps).1⟩

open MJ.CollD in
/-- a merged dictionary lists its keys in strictly increasing order, so every key ONCE (no two listed keys are
    `Equal`; the law behind fix 2b20d7e), and `dict(m)` iterates in strictly increasing key order -/
theorem merged_dict_lists_key_once (maps : List (List (V × V))) (h : ∀ ps ∈ maps, ∀ p ∈ ps, InRange p.1) :
    (mergeKeysV maps).Pairwise (fun a b => cmpV a b = .lt) :=
  mergeKeys_sorted pullsBack_cmpV maps h

open MJ.CollD in
theorem dict_copy_sorted (ps : List (V × V)) (h : ∀ p ∈ ps, InRange p.1) :
    ((dictCopyV ps).map (·.1)).Pairwise (fun a b => cmpV a b = .lt) :=
  dictCopy_sorted pullsBack_cmpV ps h

open MJ.CollD in
/-- non-vacuous: two operands sharing a key and holding `1` next to `true` list three keys -/
example : (mergeKeysV [[(.bool true, .undef), (.str [97], .none)], [(.num (.i64 1), .none), (.str [97], .undef)]]).length = 3 := by
  decide

open MJ.CollD in
/-- the lookup as it was before fix 276e6ac violates the law (for any comparison: here `compare` on `Nat`
    with `Option`'s `none` as the undefined value): the key is listed but not found -/
theorem merged_dict_old_lookup_counterexample :
    ¬ (∀ (maps : List (List (Nat × Option Nat))) (k : Nat),
      (mergeGetOld compare Option.isNone maps k).isSome = true ↔ ∃ k' ∈ mergeKeys compare maps, compare k k' = .eq) := by
  intro h
  have := (h [[(1, none)]] 1).mpr ⟨1, by decide +kernel, by decide +kernel⟩
  revert this
  decide

open MJ.CollD in
/-- `dict(m)` holds exactly the entries of `m` when the keys of `m` are pairwise not `Equal` (which an ordered
    map guarantees for its own keys) — keys that are `==` without being `Equal`, like `true` and `1`, stay apart
    (fix 79eda21) -/
theorem dict_copy_preserves_entries (ps : List (V × V))
    (hpw : ps.Pairwise (fun p q => cmpV q.1 p.1 ≠ .eq)) : (dictCopyV ps).Perm ps :=
  dictCopy_perm cmpV ps hpw

open MJ.CollD in
/-- non-vacuous on the input that lost an entry before the fix -/
example : [((V.bool true), V.num (.i64 10)), (.num (.i64 1), .num (.i64 20))].Pairwise
    (fun p q => cmpV q.1 p.1 ≠ .eq) := by decide +kernel

open MJ.CollD in
/-- collecting into the map instead (what `dict(m)` did before the fix: sort, then one entry per run of adjacent
    `==` keys) loses an entry as soon as `==` identifies keys the order keeps apart — shown for a comparison on
    (kind, payload) pairs with an `==` that looks at the payload only, the shape of `true == 1` -/
theorem dict_collect_loses_entry :
    let cmp := fun (a b : Nat × Nat) => (compare a.1 b.1).then (compare a.2 b.2)
    let eq := fun (a b : Nat × Nat) => a.2 == b.2
    let m : List ((Nat × Nat) × Nat) := [((0, 1), 10), ((1, 1), 20)]
    m.Pairwise (fun p q => cmp q.1 p.1 ≠ .eq) ∧ (dictCollect cmp eq m).length = 1 ∧ (dictCopy cmp m).length = 2 := by
  decide

open MJ.CollD in
/-- `dict(m)` builds the very map `Value::from_pairs` / a map literal builds from the entries of `m`, so every
    theorem about `mkMap .btree` (sortedness, lookups, `==`) speaks about the copy -/
theorem dict_copy_is_from_pairs (ps : List (V × V)) : V.map (dictCopyV ps) = mkMap .btree ps :=
  congrArg V.map (foldl_insertB_eq_dictCopy ps).symm

open MJ.CollD in
/-- `dict(m, k=v)`: the keyword entry is inserted into the copy, so `k` looks up to `v` -/
theorem dict_update_last_wins (k v : V) (hk : InRange k) (ps : List (V × V)) :
    getB k (insertLit k v (dictCopyV ps)) = some v :=
  insertLit_lookup k v (cmp_refl k hk) _

open MJ.CollD in
/-- `namespace(m)` holds exactly the string-keyed entries of `m` (fix 903639e: a bytes key is not one) -/
theorem namespace_keeps_string_entries (ps : List (V × V))
    (hpw : ps.Pairwise (fun p q => cmpV q.1 p.1 ≠ .eq)) :
    (nsCopyV ps).Perm (ps.filter (fun p => isStrKey p.1)) :=
  dictCopy_perm cmpV _ (hpw.filter _)

open MJ.CollD in
/-- an attribute lookup on the namespace finds exactly the string keys of `m`; a bytes probe finds nothing,
    whatever text it holds -/
theorem namespace_lookup_iff (ps : List (V × V)) (hpw : ps.Pairwise (fun p q => cmpV q.1 p.1 ≠ .eq)) :
    (∀ s : List Nat, (nsGetV ps (.str s)).isSome = true ↔ ∃ p ∈ ps, p.1 = .str s) ∧
    (∀ b : List Nat, nsGetV ps (.bytes b) = Option.none) := by
  refine ⟨?_, fun b => rfl⟩
  intro s
  have hperm := namespace_keeps_string_entries ps hpw
  simp only [nsGetV, isStrKey, if_true]
  rw [get_isSome_iff]
  constructor
  · rintro ⟨p, hp, hc⟩
    have hp' := (hperm.mem_iff).mp hp
    exact ⟨p, (List.mem_filter.mp hp').1, (cmpV_str_eq s p.1).mp hc⟩
  · rintro ⟨p, hp, he⟩
    refine ⟨p, (hperm.mem_iff).mpr (List.mem_filter.mpr ⟨hp, by rw [he]; rfl⟩), ?_⟩
    rw [he]; exact (cmpV_str_eq s (.str s)).mpr rfl

open MJ.CollD in
/-- non-vacuous: the string key is found, the bytes key with the same text is not an attribute -/
example : (nsGetV [(.str [97], .num (.i64 1)), (.bytes [97], .num (.i64 2))] (.str [97])).isSome = true ∧
    (nsCopyV [(.str [97], .num (.i64 1)), (.bytes [97], .num (.i64 2))]).length = 1 := by decide +kernel

/-! ## `preserve_order`: the IndexMap build has theorems of its own -/

/-- inserting into the IndexMap never moves a key — a key that is already there (same hash items and `==`) keeps
    its place and its spelling, a new key goes to the end: iteration order is insertion order -/
theorem indexmap_insert_keeps_insertion_order (k v : V) (ps : List (V × V)) :
    (insertI k v ps).map Prod.fst =
      if ps.any (fun p => hkey k == hkey p.1 && eqV .index k p.1) then ps.map Prod.fst else ps.map Prod.fst ++ [k] := by
  unfold insertI
  split
  · rw [List.map_map]
    apply List.map_congr_left
    intro p _
    simp only [Function.comp]
    split <;> rfl
  · simp

theorem getI_append_new (k v : V) (hrefl : eqV .index k k = true) : ∀ (ps : List (V × V)),
    ps.any (fun p => hkey k == hkey p.1 && eqV .index k p.1) = false →
    getI false k (ps ++ [(k, v)]) = some v := by
  intro ps hnew
  rw [getI_eq_find, List.find?_append, List.find?_eq_none.mpr (by simpa using hnew)]
  simp [hrefl]

/-- `m[k]` finds the entry just inserted under a new key whenever the key is `==` itself (every NaN-free value),
    in maps of any size (a one-entry map skips the hash) -/
theorem indexmap_get_after_insert_new (k v : V) (ps : List (V × V))
    (hnew : ps.any (fun p => hkey k == hkey p.1 && eqV .index k p.1) = false)
    (hrefl : eqV .index k k = true) : getV .index (insertI k v ps) k = some v := by
  unfold insertI getV
  simp only [hnew, Bool.false_eq_true, if_false]
  cases ps with
  | nil => simp [getI, hrefl]
  | cons p ps =>
    have : decide (((p :: ps) ++ [(k, v)]).length = 1) = false := by simp
    rw [this]
    exact getI_append_new k v hrefl (p :: ps) hnew

/-- whatever `m[k]` finds in an IndexMap is the value of an entry whose key is `==` to the probe and — in a map
    of more than one entry — feeds the hasher the same items (lookup by hash + `==`) -/
theorem indexmap_lookup_sound (single : Bool) (k : V) : ∀ (ps : List (V × V)) (v : V), getI single k ps = some v →
    ∃ p ∈ ps, eqV .index k p.1 = true ∧ (single = true ∨ (hkey k == hkey p.1) = true) ∧ p.2 = v := by
  intro ps v h
  rw [getI_eq_find, Option.map_eq_some_iff] at h
  obtain ⟨p, hp, rfl⟩ := h
  have hc := List.find?_some hp
  simp only [Bool.and_eq_true, Bool.or_eq_true] at hc
  exact ⟨p, List.mem_of_find?_eq_some hp, hc.2, hc.1, rfl⟩

/-- … and complete: an entry whose key is `==` to the probe with the same hash items is found -/
theorem indexmap_lookup_complete (single : Bool) (k : V) : ∀ (ps : List (V × V)),
    (∃ p ∈ ps, eqV .index k p.1 = true ∧ (hkey k == hkey p.1) = true) → (getI single k ps).isSome = true := by
  rintro ps ⟨p, hp, h1, h2⟩
  rw [getI_eq_find, Option.isSome_map, List.find?_isSome]
  exact ⟨p, hp, by simp [h1, h2]⟩

/-- non-vacuous, and the reason the `==` / hash theorems need `noClash`: `true` and `1` are `==` but feed the hasher
    different items, so a two-entry IndexMap keeps both and finds each under its own spelling only -/
example : (insertI (.num (.i64 1)) (.str [98]) (insertI (.bool true) (.str [97]) [])).length = 2 := by decide +kernel

/-- how the source builds and queries the derived dictionaries, read off `functions.rs`, `value/merge_object.rs`
    and `value/ops.rs`: `dict(m)` and `MergeDict::enumerate` insert one by one (`MJ.CollD.dictCopy`, `mergeKeys`;
    collecting would de-duplicate by `==`: `dict_collect_loses_entry`), `MergeDict::get_value` finds a key whose
    entries hold undefined values (`mergeGet`; not doing so: `merged_dict_old_lookup_counterexample`),
    `namespace(m)` takes string keys only, `k in m` asks the object whether it has the key -/
theorem derived_maps_tie : MJ.Gen.derivedMaps = [
    ("dict", "insert-loop"), ("MergeDict::enumerate", "insert-loop"),
    ("MergeDict::get_value", "last-defined-wins,undefined-entries-found"),
    ("namespace", "as_key_str"), ("contains-map", "obj.get_value(value).is_some()")] := by rfl

/-! ## strings: the order is on the text, whatever holds it -/

open MJ.CmpStr in
theorem cmpBytes_eq_lex : ∀ s t : List Nat, cmpBytes s t = lexBytes s t
  | [], [] => by simp [cmpBytes, lexBytes, List.compareLex]
  | [], _ :: _ => by simp [cmpBytes, lexBytes, List.compareLex]
  | _ :: _, [] => by simp [cmpBytes, lexBytes, List.compareLex]
  | a :: as, b :: bs => by
    have ih := cmpBytes_eq_lex as bs
    unfold cmpBytes at ih ⊢
    simp only [List.compareLex, lexBytes]
    rw [← ih]
    cases compare a b <;> simp [Ordering.then]

open MJ.CmpStr in
/-- the order of two strings is the byte-wise lexicographic order of their texts -/
theorem string_order_is_lexicographic (s t : List Nat) : cmpV (.str s) (.str t) = lexBytes s t := by
  rw [cmpV_str_str, cmpBytes_eq_lex]

open MJ.CmpStr in
/-- a proper prefix is strictly smaller, never `Equal` — whatever byte follows, a NUL included -/
theorem string_prefix_is_smaller : ∀ (s t : List Nat), t ≠ [] → cmpV (.str s) (.str (s ++ t)) = .lt
  | [], t, ht => by
    rw [string_order_is_lexicographic]
    cases t with
    | nil => exact absurd rfl ht
    | cons c cs => rfl
  | a :: s, t, ht => by
    have ih := string_prefix_is_smaller s t ht
    rw [string_order_is_lexicographic] at ih ⊢
    simp only [List.cons_append, lexBytes]
    have : compare a a = .eq := by simp
    rw [this, ih]; rfl

open MJ.CmpStr in
/-- the order, `==` of strings depend on the TEXT only, not on what holds it: every pair of representations
    (inline/inline, heap/heap, mixed; normal or safe) compares like the model's `.str` values of the two texts -/
theorem string_cmp_independent_of_repr (a b : StrRepr) :
    cmpStrRepr a b = cmpV (.str a.bytes) (.str b.bytes) ∧
    eqStrRepr a b = eqV .btree (.str a.bytes) (.str b.bytes) := by
  refine ⟨?_, ?_⟩
  · rw [cmpV_str_str]; cases a <;> cases b <;> rfl
  · cases a <;> cases b <;> simp [eqStrRepr, StrRepr.bytes, eqV]

open MJ.CmpStr in
/-- an inline string holds its text -/
theorem inline_holds_text (s : List Nat) (r : StrRepr) (h : mkInline s = some r) : r.bytes = s := by
  unfold mkInline at h
  split at h
  · cases h; simp [StrRepr.bytes]
  · cases h

open MJ.CmpStr in
/-- comparing the zero-padded inline buffers without slicing them is NOT this order: `"a"` and `"a\0"` would be
    `Equal` although they are different texts (the shape of seeded change C07-9) -/
theorem padded_buffer_order_counterexample :
    ∃ a b : StrRepr, mkInline [97] = some a ∧ mkInline [97, 0] = some b ∧
      cmpPadded a b = .eq ∧ cmpStrRepr a b = .lt ∧ eqStrRepr a b = false := by
  refine ⟨_, _, rfl, rfl, ?_, ?_, ?_⟩ <;> decide

/-- the string arms of `impl Ord` / `impl PartialEq` / `impl Hash` and `SmallStr::as_str`, read off value/mod.rs:
    inline strings are compared, tested for equality and hashed through `as_str()` (the buffer sliced to its
    length), heap strings directly; the inline capacity is 22 bytes -/
theorem string_arms_tie : MJ.Gen.strArms = [
    ("Ord", "SmallStr", "a.as_str().cmp(b.as_str())"), ("Ord", "String", "a.cmp(b)"),
    ("PartialEq", "SmallStr", "a.as_str()==b.as_str()"), ("PartialEq", "String", "a==b"),
    ("Hash", "SmallStr", "s.as_str().hash(state)"), ("Hash", "String", "s.hash(state)"),
    ("SmallStr::as_str", "slice", "&self.buf[..self.lenasusize]")] ∧ MJ.Gen.smallStrCap = 22 := by
  constructor <;> rfl

/-- What is proved of the property as stated, with the gap to `C07_full` explicit:
    * the order of template values is reflexive, antisymmetric (`cmp b a` is the mirror of `cmp a b`),
      transitive and defined for every pair (numbers within the range of their representation);
    * `==` holds exactly when the order says `Equal`, and `==` values hash alike — under the NAMED exclusions
      `NoNaN` (the statement's own `NaN aside`), `SortedMaps` (BTreeMap build; under `preserve_order` the
      recorded insertion-order findings apply) and `noClash` (a Bool facing a number: `C07_counterexample`
      shows the statement false there, recorded finding);
    * the collection filters obey their algebra for every input list and every total preorder;
    * `reverse` is an involution on every enumerator arm but `RevIter` (`reverse_counterexample`: recorded finding);
    * derived dictionaries list what they find and copies keep their entries. -/
theorem C07_main :
    (∀ a b c : V, InRange a → InRange b → InRange c →
      cmpV a a = .eq ∧ cmpV b a = (cmpV a b).swap ∧ (cmpV a b ≠ .gt ∨ cmpV b a ≠ .gt) ∧
      (cmpV a b ≠ .gt → cmpV b c ≠ .gt → cmpV a c ≠ .gt)) ∧
    (∀ a b : V, NoNaN a → NoNaN b → SortedMaps a → SortedMaps b → noClash a b = true →
      (eqV .btree a b = true ↔ cmpV a b = .eq) ∧ (eqV .btree a b = true → hkey a = hkey b)) ∧
    ¬ C07_full ∧
    (∀ {α κ : Type} (cmp : κ → κ → Ordering) [TransCmp cmp] (key : α → κ) (xs : List α),
      (∀ rev, (Coll.sort cmp key rev xs).Perm xs) ∧
      (Coll.sort cmp key false xs).Pairwise (fun a b => cmp (key a) (key b) ≠ .gt) ∧
      (Coll.sort cmp key true xs).Pairwise (fun a b => cmp (key a) (key b) ≠ .lt) ∧
      (∀ a b, [a, b].Sublist xs → cmp (key a) (key b) = .eq → [a, b].Sublist (Coll.sort cmp key true xs)) ∧
      (Coll.unique cmp key xs).Sublist xs ∧
      (Coll.unique cmp key xs).Pairwise (fun a b => cmp (key a) (key b) ≠ .eq) ∧
      ((Coll.groupby cmp key xs).flatMap (·.2)).Perm xs) ∧
    (∀ {α : Type} (xs : List α) (n : Nat), 0 < n → ∃ rs, batch xs n none = .ok rs ∧ rs.flatten = xs) ∧
    (∀ {α : Type} (xs : List α) (count : Nat), xs.length < 18446744073709551616 → 0 < count →
      reservable count = true → ∃ rs, slicef xs count none = .ok rs ∧ rs.length = count ∧ rs.flatten = xs) ∧
    (∀ {α : Type} (v : EnumVar) (xs : List α), v ≠ .revIter → v ≠ .nonEnumerable → v ≠ .empty →
      (reverseEnum v xs).bind (reverseEnum .values) = some xs) ∧
    ¬ reverse_full ∧
    (∀ {α : Type} (cmpa : α → α → Ordering) [TransCmp cmpa] (xs : List α) (m : α),
      (Coll.minBy cmpa xs = some m → m ∈ xs ∧ ∀ x ∈ xs, cmpa m x ≠ .gt) ∧
      (Coll.maxBy cmpa xs = some m → m ∈ xs ∧ ∀ x ∈ xs, cmpa m x ≠ .lt)) ∧
    (∀ (maps : List (List (V × V))) (k : V), InRange k → (∀ ps ∈ maps, ∀ p ∈ ps, InRange p.1) →
      ((MJ.CollD.mergeGetV maps k).isSome = true ↔ ∃ k' ∈ MJ.CollD.mergeKeysV maps, cmpV k k' = .eq)) ∧
    (∀ ps : List (V × V), ps.Pairwise (fun p q => cmpV q.1 p.1 ≠ .eq) → (MJ.CollD.dictCopyV ps).Perm ps) := by
  refine ⟨?_, ?_, C07_counterexample, ?_, ?_, ?_, ?_, reverse_counterexample, ?_, ?_, ?_⟩
  · intro a b c ha hb hc
    exact ⟨cmp_refl a ha, cmp_antisymm a b ha hb, cmp_total a b ha hb, cmp_trans a b c ha hb hc⟩
  · intro a b ha hb sa sb hc
    exact C07_partial a b ha hb sa sb hc
  · intro α κ cmp _ key xs
    obtain ⟨u1, u2, _, _⟩ := unique_subseq_nodup_first cmp key xs
    exact ⟨fun rev => sort_perm cmp key rev xs, sort_sorted cmp key xs, sort_reverse_sorted cmp key xs,
      fun a b hs he => sort_reverse_stable cmp key xs a b hs he, u1, u2, (groupby_partition cmp key xs).2.1⟩
  · intro α xs n hn
    exact batch_concat xs n hn
  · intro α xs count hlen hc hr
    exact (slicef_concat xs count hlen).2 hc hr
  · intro α v xs h1 h2 h3
    exact ((reverse_partial v xs).1 h1 h2 h3).2.1
  · intro α cmpa _ xs m
    exact ⟨fun h => ⟨min_mem cmpa xs m h, min_le_all cmpa xs m h⟩,
      fun h => ⟨(max_ge_all cmpa xs m h).2, (max_ge_all cmpa xs m h).1⟩⟩
  · intro maps k hk h
    exact merged_dict_lookup_iff_listed maps k hk h
  · intro ps hpw
    exact dict_copy_preserves_entries ps hpw

end MJ.C07
