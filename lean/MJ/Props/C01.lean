import MJ.Proofs.Kernels
import MJ.Proofs.Stk
import MJ.Proofs.Nesting
import MJ.Proofs.Scopes
import MJ.Proofs.Sites
import MJ.Proofs.KStack
import MJ.Proofs.IntOps
import MJ.Proofs.ReprStr
import MJ.Model.PanicSites
import MJ.Model.CallGraph
import MJ.Props.C09
/-!
# C01 — loading and rendering a template never crashes the host process

C01 is *partial by nature*: "does not overflow the native stack" and "does not abort in the
allocator" are facts about machine frames and `malloc` that no model exhibits.  What is logic — and
where every crash found so far came from — is proved here:

* **kernels** (`MJ/Model/Kernels.lean`, `MJ/Model/Slice.lean`): the integer arithmetic that
  template-chosen numbers flow through never reaches `Chk.panic` (overflow with overflow checks on,
  division by zero, slice index out of range, `std::fmt` argument out of range) for *all* inputs in
  the machine ranges, and every infallible allocation whose size is computed from such numbers is
  bounded by a named constant regenerated from the sources (`MJ.Gen`);
* **parser call graph** (`MJ.Gen.parserCallEdges`, regenerated from `parser.rs`): every cycle of
  `Parser` methods passes a `with_recursion_guard!` call site — except the `elif` recursion of
  `parse_if_cond`, a recorded finding — hence the number of native parser frames is bounded;
* each introduced where it starts: the operand-stack certificate checker (`checkStk_sound`), the parser's
  nesting accounting (`ast_depth_bound`), the scope stack of `compiler/meta.rs` and `pending_block` of the
  code generator as checked tables, single crash sites, the VM's integer operators, the repr of a string,
  and the classification of every potential crash site (`all_panic_sites_classified`), from which
  `C01_main` derives the property as stated under named gap hypotheses (`Gaps`).

The native stack itself, the allocator and the long tail of builtins are *searched* by the crash
oracle (`harness/src/bin/c01.rs`), not proved.
-/
namespace MJ.C01
open MJ Chk Kernels CallGraph

/-- the parser's call graph as regenerated from `/repo` -/
def parserGraph : Graph := { n := Gen.parserFnNames.length, edges := Gen.parserCallEdges }

/-- index of `parse_if_cond` (or an index outside the graph when the function is gone) -/
def ifCondIdx : Nat := Gen.parserFnNames.idxOf "parse_if_cond"

/-- the one unguarded self-recursion left: `{% elif %}` (known finding `depth:elif`) -/
def elifEdge : Edge := (ifCondIdx, ifCondIdx, false)

/-- the call graph without the `elif` self-recursion -/
def parserGraphNoElif : Graph :=
  { n := parserGraph.n, edges := parserGraph.edges.filter (· != elifEdge) }

/-- longest run of parser frames without a guarded call that the check accepts -/
def maxUnguardedRun : Nat := 16

/-- the frame budget: `(MAX_RECURSION + 1) · maxUnguardedRun` native parser frames -/
def parserFrameBudget : Nat := (Gen.maxRecursionParser + 1) * maxUnguardedRun

/-- every cycle of the parser's call graph contains a guarded call site -/
def ParserGuarded : Prop := everyCycleGuarded parserGraph = true

def KernelsNeverPanic : Prop :=
  (∀ (α : Type) (xs : List α) (start stop step : Option Int), OptInI64 start → OptInI64 stop → OptInI64 step →
      xs.length < 9223372036854775808 → Slice.slice xs start stop step ≠ .panic) ∧
  (∀ lower upper step, InI64 lower → OptInI64 upper → OptInI64 step → rangeK lower upper step ≠ .panic) ∧
  (∀ idx argc, cycleK idx argc ≠ .panic) ∧
  (∀ slen n, mulStrK slen n ≠ .panic) ∧
  (∀ t len n, repeatSeqK t len n ≠ .panic) ∧
  (∀ w f b input, indentK w f b input ≠ .panic) ∧
  (∀ w, tojsonIndentK w ≠ .panic) ∧
  (∀ w cur, fmtWidthK w cur ≠ .panic) ∧
  (∀ p extra, extra ≤ 3 → fmtPrecisionK p extra ≠ .panic) ∧
  (∀ mem len count fill, (∀ c, count = some c → c < 18446744073709551616) → batchK mem len count fill ≠ .panic) ∧
  (∀ mem len count fill, len < 9223372036854775808 → sliceFK mem len count fill ≠ .panic) ∧
  (∀ text, lexErrK text ≠ .panic)

/-- C01, the part that is a theorem: no kernel panics and every cycle of the parser is guarded.
    The second conjunct is **false** on the current tree (`elif`), see `C01_counterexample`. -/
def C01_full : Prop := KernelsNeverPanic ∧ ParserGuarded

/-- `ops::slice` never panics (corollary of C09's `slice_eq_python`) -/
theorem slice_no_panic {α : Type} (xs : List α) (start stop step : Option Int)
    (hs : OptInI64 start) (he : OptInI64 stop) (hp : OptInI64 step) (hl : xs.length < 9223372036854775808) :
    Slice.slice xs start stop step ≠ .panic :=
  (MJ.C09.slice_only_error_is_zero_step xs start stop step hs he hp hl).2

example : Slice.slice [1, 2, 3] (some 2) (some 0) (some (-9223372036854775808)) = .ok (.ok [3]) := by decide

/-- `functions::range`: no overflow for any `isize` arguments -/
theorem range_no_panic (lower : Int) (upper step : Option Int) (hl : InI64 lower) (hu : OptInI64 upper)
    (hs : OptInI64 step) : rangeK lower upper step ≠ .panic :=
  (rangeK_returns lower upper step hl hu hs).ne_panic

example : rangeK 9223372036854775807 (some (-9223372036854775808)) (some (-9223372036854775807))
    = .ok { allocs := [3], res := .ok ⟨3, 9223372036854775807, -9223372036854775807⟩ } := by decide
example : Legacy.negStepLen 10 0 (-9223372036854775808) = .panic := by decide
example : Legacy.negStepLen 9223372036854775807 (-9223372036854775808) (-1) = .panic := by decide

/-- `range`: at most `rangeLimit` (100000) items, whatever the arguments -/
theorem range_len_le (lower : Int) (upper step : Option Int) (out : Out RangeOut) (r : RangeOut)
    (h : rangeK lower upper step = .ok out) (hr : out.res = .ok r) :
    r.len ≤ Gen.rangeLimit ∧ ∀ a ∈ out.allocs, a ≤ Gen.rangeLimit := by
  rcases rangeK_shape h with rfl | ⟨len, first, stride, rfl⟩
  · simp at hr
  · obtain ⟨rfl, hle⟩ := toResult_res hr
    exact ⟨hle, toResult_allocs len first stride⟩

example : (rangeK 0 (some 100001) none) = .ok err := by decide
example : (rangeK 0 (some 9223372036854775807) (some 92233720368548)) =
    .ok { allocs := [100000], res := .ok ⟨100000, 0, 92233720368548⟩ } := by decide

/-- the items of a range are exactly `start + i·step` as integers: every item fits `isize`, so the
    `i128 → isize` cast of the negative-step branch (and `Step::forward` of the others) is exact -/
theorem range_items_exact (lower : Int) (upper step : Option Int) (hl : InI64 lower) (hu : OptInI64 upper)
    (hs : OptInI64 step) (out : Out RangeOut) (r : RangeOut)
    (h : rangeK lower upper step = .ok out) (hr : out.res = .ok r) (i : Nat) (hi : i < r.len) :
    InI64 (r.item i) :=
  (rangeK_returns lower upper step hl hu hs).of_eq h r hr i hi

example : (⟨3, 9223372036854775807, -9223372036854775807⟩ : RangeOut).item 2 = -9223372036854775807 := by decide

/-- `loop.cycle(...)`: never a division by zero -/
theorem cycle_no_panic (idx argc : Nat) : cycleK idx argc ≠ .panic := by
  fun_cases cycleK idx argc
  · nofun
  · next h => rw [urem_of_ne h, ok_bind]; nofun

example : cycleK 5 0 = .ok err := by decide
example : cycleK 5 3 = .ok { res := .ok (some 2) } := by decide
example : Legacy.cycleK 5 0 = .panic := by decide

theorem mulStr_no_panic (slen : Nat) (n : Option Nat) : mulStrK slen n ≠ .panic :=
  (mulStrK_returns slen n).ne_panic

/-- string repetition allocates at most `MAX_REPEATED_STRING_LEN` bytes -/
theorem mulStr_alloc_le (slen : Nat) (n : Option Nat) (out : Out Nat) (h : mulStrK slen n = .ok out) :
    ∀ a ∈ out.allocs, a ≤ Gen.maxRepeatedStringLen :=
  (mulStrK_returns slen n).of_eq h

example : mulStrK 3 (some 33333333) = .ok { allocs := [99999999], res := .ok 99999999 } := by decide
example : mulStrK 3 (some 33333334) = .ok err := by decide
example : mulStrK 2 (some 9223372036854775808) = .ok err := by decide

theorem repeatSeq_no_panic (t : Bool) (len n : Option Nat) : repeatSeqK t len n ≠ .panic :=
  (repeatSeqK_returns t len n).ne_panic

/-- sequence repetition: the eager (tuple) copy occupies at most `MAX_REPEATED_STRING_LEN` bytes and
    the lazy one yields at most that many items -/
theorem repeatSeq_alloc_le (t : Bool) (len n : Option Nat) (out : Out Nat) (h : repeatSeqK t len n = .ok out) :
    (∀ a ∈ out.allocs, a ≤ Gen.maxRepeatedStringLen) ∧ (∀ total, out.res = .ok total → total ≤ Gen.maxRepeatedStringLen) :=
  (repeatSeqK_returns t len n).of_eq h

example : repeatSeqK true (some 2) (some 9223372036854775807) = .ok err := by decide
example : repeatSeqK true (some 2) (some 1099511627776) = .ok err := by decide
example : repeatSeqK false (some 3) (some 6148914691236517206) = .ok err := by decide
example : repeatSeqK true (some 2) (some 3) = .ok { allocs := [144], res := .ok 6 } := by decide

theorem indent_no_panic (w : Option Nat) (f b : Bool) (input : List Char) : indentK w f b input ≠ .panic :=
  (indentK_returns w f b input).ne_panic

/-- `indent`: the filler string and everything it adds up to stay below `MAX_REPEATED_STRING_LEN` -/
theorem indent_alloc_le (w : Option Nat) (f b : Bool) (input : List Char) (out : Out Nat)
    (h : indentK w f b input = .ok out) : ∀ a ∈ out.allocs, a ≤ Gen.maxRepeatedStringLen :=
  (indentK_returns w f b input).of_eq h

example : indentK (some 9223372036854775807) false false ['x'] = .ok err := by decide
example : indentK (some 2) false false ['a', '\n', 'b'] = .ok { allocs := [2, 4], res := .ok 5 } := by decide
example : Legacy.indentAlloc 1099511627776 = .ok [1099511627776] := by decide
example : Legacy.indentAlloc 9223372036854775808 = .panic := by decide

theorem tojsonIndent_no_panic (w : Option Nat) : tojsonIndentK w ≠ .panic :=
  (tojsonIndentK_returns w).ne_panic

theorem tojsonIndent_alloc_le (w : Option Nat) (out : Out Nat) (h : tojsonIndentK w = .ok out) :
    ∀ a ∈ out.allocs, a ≤ Gen.maxRepeatedStringLen :=
  (tojsonIndentK_returns w).of_eq h

theorem fmtWidth_no_panic (w : Option Nat) (cur : Nat) : fmtWidthK w cur ≠ .panic :=
  (fmtWidthK_returns w cur).ne_panic

/-- padding of a formatted field: at most `MAX_WIDTH` (= `MAX_REPEATED_STRING_LEN`) fill characters -/
theorem fmtWidth_alloc_le (w : Option Nat) (cur : Nat) (out : Out Nat) (h : fmtWidthK w cur = .ok out) :
    ∀ a ∈ out.allocs, a ≤ Gen.fmtMaxWidth :=
  (fmtWidthK_returns w cur).of_eq h

/-- precisions handed to `std::fmt` stay within `u16`, also for `%g`'s three extra digits -/
theorem fmtPrecision_no_panic (p : Option Nat) (extra : Nat) (he : extra ≤ 3) : fmtPrecisionK p extra ≠ .panic := by
  have hlim : Gen.fmtMaxPrecision + 3 ≤ 65535 := by decide
  fun_cases fmtPrecisionK p extra
  · nofun
  · nofun
  · rw [fmtArg, if_pos (by omega)]; nofun

example : fmtPrecisionK (some 65531) 3 = .ok { allocs := [65534], res := .ok 65534 } := by decide
example : fmtPrecisionK (some 65532) 0 = .ok err := by decide
example : fmtArg (65535 + 3) = .panic := by decide

def CountIsUsize (count : Option Nat) : Prop := ∀ c, count = some c → c < 18446744073709551616

/-- `batch`: `len / count` cannot divide by zero, `count - tmp.len()` cannot underflow -/
theorem batch_no_panic (mem len : Nat) (count : Option Nat) (fill : Bool) (hc : CountIsUsize count) :
    batchK mem len count fill ≠ .panic :=
  (batchK_returns mem len count fill).ne_panic

/-- `batch`: the only infallible allocations are `len / count` (at most the number of items that
    exist) and `untrusted_size_hint(count)`; the fill-up is reserved fallibly -/
theorem batch_alloc_le (mem len : Nat) (count : Option Nat) (fill : Bool) (out : Out (List Nat))
    (h : batchK mem len count fill = .ok out) :
    ∀ a ∈ out.allocs, a ≤ max len Gen.untrustedSizeHintCap :=
  (batchK_returns mem len count fill).of_eq h

example : batchK 2147483648 5 (some 9223372036854775807) false
    = .ok { allocs := [0, 1024], res := .ok [5] } := by decide
example : batchK 2147483648 5 (some 9223372036854775807) true
    = .ok { allocs := [0, 1024], tryAllocs := [9223372036854775802], res := .error } := by decide
example : batchK 2147483648 5 (some 2) true = .ok { allocs := [2, 2], tryAllocs := [1], res := .ok [2, 2, 2] } := by decide

/-- the `slice` filter: every `items[start..end]` of its loop is within bounds -/
theorem sliceF_no_panic (mem len : Nat) (count : Option Nat) (fill : Bool) (hl : len < 9223372036854775808) :
    sliceFK mem len count fill ≠ .panic := by
  fun_cases sliceFK mem len count fill
  · nofun
  · nofun
  · nofun
  · next count h0 _ =>
    obtain ⟨cs, hcs⟩ := mapM_exists_ok (sliceColumn len (len / count) (len % count) fill) (List.range count)
      (fun s hs => sliceColumn_ok len count fill s (by simpa using hs) hl)
    rw [udiv_of_ne h0, urem_of_ne h0, ok_bind, ok_bind, hcs]
    nofun

example : sliceFK 2147483648 5 (some 3) true = .ok { tryAllocs := [3], res := .ok [2, 2, 2] } := by decide
example : sliceFK 2147483648 5 (some 9223372036854775807) false
    = .ok { tryAllocs := [9223372036854775807], res := .error } := by decide

/-- lexer `advance`/`syntax_error` and the caret line of the debug output: the `u16` line/column
    arithmetic saturates and never overflows, the caret subtraction never underflows -/
theorem lexErr_no_panic (text : List Char) : lexErrK text ≠ .panic :=
  (lexErrK_returns text).ne_panic

/-- the caret line allocates at most 65535 spaces and 65535 carets -/
theorem lexErr_alloc_le (text : List Char) (out : Out (Nat × Nat × Nat)) (h : lexErrK text = .ok out) :
    ∀ a ∈ out.allocs, a ≤ 65535 :=
  (lexErrK_returns text).of_eq h

example : lexErrK ['\n', ' ', ' '] = .ok { allocs := [2, 1], res := .ok (2, 2, 1) } := by decide
example : Legacy.widen 65535 65535 = .panic := by decide

/-- the named limits are sane: whatever the `alloc_le` theorems allow fits a 2 GiB address space
    (bytes: 24 per `Value`) — a limit edited to something huge breaks this -/
theorem limits_fit_2GiB :
    Gen.rangeLimit * valueSize ≤ 2147483648 ∧ Gen.maxRepeatedStringLen ≤ 2147483648 ∧
    Gen.fmtMaxWidth ≤ 2147483648 ∧ Gen.untrustedSizeHintCap * valueSize ≤ 2147483648 ∧
    Gen.maxExprNesting ≤ 10000 ∧ Gen.maxRecursionParser ≤ 1000 := by decide

/-- `loop.index`, `revindex`, `last`, `depth` …: `idx + 1` cannot wrap (the counter is `!0` only before
    the first item, where everything is undefined), `len - 1` is guarded by `len == 0` -/
theorem loopAttrs_no_panic (idx : Nat) (len : Option Nat) (depth : Nat) (hi : idx < 18446744073709551616)
    (hd : depth + 1 < 18446744073709551616) : loopAttrsK idx len depth ≠ .panic := by
  by_cases h : idx = 18446744073709551615
  · simp [loopAttrsK, h]
  · rw [loopAttrsK_eq idx len depth (by omega) hd]
    nofun

/-- inside the body (`idx < len`) plain subtraction would do … -/
theorem revindex0_plain_in_body (idx len : Nat) (h : idx < len) : Legacy.revindex0Plain idx len = .ok (len - idx - 1) := by
  simp only [Legacy.revindex0Plain, usub_of_le (Nat.le_of_lt h), ok_bind]
  exact usub_of_le (by omega)

/-- … but the exhausted loop object (`idx = len`, reachable through `{% set ns.l = loop %}` and a read
    after the loop) makes it underflow: the saturating form is required by `loopAttrs_no_panic` -/
theorem revindex0_plain_underflows : Legacy.revindex0Plain 2 2 = .panic := by decide

/-- the exhausted loop object: `revindex = revindex0 = 0`, `index = len + 1`, not `last` -/
theorem loopAttrs_exhausted (len depth : Nat) (h0 : len ≠ 0) (hl : len + 1 < 18446744073709551615) (hd : depth + 1 < 18446744073709551616) :
    ∃ a, loopAttrsK len (some len) depth = .ok (some a) ∧ a.revindex = some 0 ∧ a.revindex0 = some 0 ∧
      a.index = len + 1 ∧ a.last = false := by
  refine ⟨_, loopAttrsK_eq len (some len) depth (by omega) hd, ?_⟩
  simp [usat, h0]
  omega

example : loopAttrsK 2 (some 3) 0 = .ok (some ⟨2, 3, some 3, some 1, some 0, false, true, 1, 0⟩) := by decide
example : loopAttrsK 3 (some 3) 0 = .ok (some ⟨3, 4, some 3, some 0, some 0, false, false, 1, 0⟩) := by decide
example : loopAttrsK 7 (some 3) 0 = .ok (some ⟨7, 8, some 3, some 0, some 0, false, false, 1, 0⟩) := by decide
example : loopAttrsK 0 none 0 = .ok (some ⟨0, 1, none, none, none, true, false, 1, 0⟩) := by decide
example : loopAttrsK 18446744073709551615 (some 0) 0 = .ok none := by decide

/-- zero padding of a grouped number: `grouped.len() - prefix.len() - fill_width` cannot underflow and
    the slice starts inside the string -/
theorem zeroPad_no_panic (numLen prefixLen fill g : Nat) (hg : 0 < g) :
    zeroPadK numLen prefixLen fill g ≠ .panic := by
  have h1 := groupedLen_ge (prefixLen + fill) g
  simp only [zeroPadK, if_neg (Nat.ne_of_gt hg), usub_of_le (show prefixLen ≤ groupedLen (prefixLen + fill) g by omega),
    usub_of_le (show fill ≤ groupedLen (prefixLen + fill) g - prefixLen by omega), ok_bind]
  rw [if_pos (by omega)]
  nofun

/-- `'{:09,}'.format(1234)`: number `1,234`, prefix `1`, four zeros → `0,001,234` -/
example : zeroPadK 5 1 4 3 = .ok { allocs := [4], res := .ok 9 } := by decide
/-- three zeros would start with a separator: one more `0` is prepended → also 9 characters -/
example : zeroPadK 5 1 3 3 = .ok { allocs := [3], res := .ok 9 } := by decide

/-- a `MergeSeq` is well formed: its stored depth bounds the real nesting and is at most `maxDepth` -/
def MSWF (maxDepth : Nat) : MS → Prop
  | .leaf => True
  | .node d cs => (MS.node d cs).real ≤ d ∧ d ≤ maxDepth

mutual
  theorem flatten_leaves : ∀ (t : MS), ∀ v ∈ t.flatten, v = .leaf
    | .leaf, v, h => by simpa [MS.flatten] using h
    | .node _ cs, v, h => flattenList_leaves cs v (by simpa [MS.flatten] using h)
  theorem flattenList_leaves : ∀ (cs : List MS), ∀ v ∈ flattenList cs, v = .leaf
    | [], v, h => by simp [flattenList] at h
    | c :: cs, v, h => by
      simp only [flattenList, List.mem_append] at h
      rcases h with h | h
      · exact flatten_leaves c v h
      · exact flattenList_leaves cs v h
end

/-- **MergeSeq depth bound**: whatever is concatenated, a `MergeSeq` built by `with_repr` from well-formed
    parts is well formed — iteration and `len` over lazily concatenated sequences recurse at most
    `MAX_DEPTH` (32) levels, however long the `a = a + [x]` chain -/
theorem mergeSeq_depth_bounded (maxDepth : Nat) (hm : 1 ≤ maxDepth) (vs : List MS)
    (h : ∀ v ∈ vs, MSWF maxDepth v) : MSWF maxDepth (mkMergeSeq maxDepth vs) := by
  -- the real nesting of the parts is at most the deepest stored depth `D` among them
  have key : ∀ ws : List MS, (∀ v ∈ ws, v.real ≤ v.stored) →
      realMax ws ≤ (ws.map MS.stored).foldl max 0 := fun ws hw =>
    (realMax_le_iff ws _).mpr fun v hv => Nat.le_trans (hw v hv)
      (((foldl_max_le_iff _ 0 _).mp (Nat.le_refl _)).2 _ (List.mem_map_of_mem hv))
  unfold mkMergeSeq
  dsimp only
  split
  · -- flattened: only non-`MergeSeq` parts remain, their stored depths are all 0
    have hl := flattenList_leaves vs
    have hd : ((flattenList vs).map MS.stored).foldl max 0 ≤ 0 :=
      (foldl_max_le_iff _ 0 0).mpr ⟨Nat.le_refl _, fun x hx => by
        obtain ⟨v, hv, rfl⟩ := List.mem_map.mp hx
        rw [hl v hv]; exact Nat.le_refl _⟩
    have := key (flattenList vs) fun v hv => by rw [hl v hv]; exact Nat.le_refl _
    exact ⟨Nat.succ_le_succ this, Nat.le_trans (Nat.succ_le_succ hd) hm⟩
  · next hle =>
    have := key vs fun v hv => by
      have := h v hv
      cases v with
      | leaf => simp [MS.real, MS.stored]
      | node d cs => exact this.1
    exact ⟨Nat.succ_le_succ this, Nat.le_of_not_gt hle⟩

/-- the accounting has to look at ALL operands: with the first `MergeSeq` operand only, a loop that puts
    a fresh concatenation in front of its accumulator (`acc = ([i] + [i]) + acc`) keeps the stored depth
    at 2 while the real nesting grows with every round — no bound -/
theorem first_operand_depth_unbounded (maxDepth : Nat) (hm : 2 ≤ maxDepth) (k : Nat) :
    (Legacy.freshFirst maxDepth (k + 1)).stored = 2 ∧ k + 1 ≤ (Legacy.freshFirst maxDepth (k + 1)).real := by
  have hfresh : Legacy.mkMergeSeqFirst maxDepth [.leaf, .leaf] = .node 1 [.leaf, .leaf] := by
    simp [Legacy.mkMergeSeqFirst, Legacy.depthForValuesFirst]
    omega
  -- every round: the first `MergeSeq` operand is the fresh one, of stored depth 1
  have hstep : ∀ k, Legacy.freshFirst maxDepth (k + 1) =
      .node 2 [MS.node 1 [.leaf, .leaf], Legacy.freshFirst maxDepth k] := by
    intro k
    rw [Legacy.freshFirst, hfresh]
    simp [Legacy.mkMergeSeqFirst, Legacy.depthForValuesFirst, MS.stored]
    omega
  refine ⟨by rw [hstep]; rfl, ?_⟩
  induction k with
  | zero => rw [hstep]; simp [MS.real, realMax]
  | succ k ih =>
    rw [hstep]
    simp only [MS.real, realMax] at ih ⊢
    omega

/-- the limit regenerated from `merge_object.rs` is usable -/
theorem mergeSeq_limit : 1 ≤ Gen.mergeSeqMaxDepth ∧ Gen.mergeSeqMaxDepth ≤ 64 := by decide

theorem indexOfName_lt {ids : List String} {name : String} {i : Nat} (h : indexOfName ids name = some i) :
    i < ids.length := by
  revert h i
  fun_induction indexOfName ids name <;> intro i h
  · cases h
  · cases h; simp
  · next ih =>
    obtain ⟨j, hj, rfl⟩ := Option.map_eq_some_iff.mp h
    have := ih hj
    simp; omega

/-- every id the code generator hands out is the sentinel or below the limit, and the table of names
    never grows beyond the limit -/
theorem getLocalId_bounded (limit : Nat) (hl : limit ≤ 255) (ids : List String) (name : String)
    (hids : ids.length ≤ limit) :
    ((getLocalId limit ids name).2 = noLocalId ∨ (getLocalId limit ids name).2 < limit) ∧
    (getLocalId limit ids name).1.length ≤ limit := by
  fun_cases getLocalId limit ids name
  · next i h => exact ⟨.inr (Nat.lt_of_lt_of_le (indexOfName_lt h) hids), hids⟩
  · exact ⟨.inl rfl, hids⟩
  · refine ⟨.inr ?_, by simp; omega⟩
    show ids.length % 256 < limit
    rw [Nat.mod_eq_of_lt (by omega)]
    omega

theorem assignLocalIds_bounded (limit : Nat) (hl : limit ≤ 255) (names ids : List String) (hids : ids.length ≤ limit) :
    ∀ id ∈ assignLocalIds limit ids names, id = noLocalId ∨ id < limit := by
  induction names generalizing ids with
  | nil => simp [assignLocalIds]
  | cons n ns ih =>
    intro id hid
    simp only [assignLocalIds, List.mem_cons] at hid
    have hb := getLocalId_bounded limit hl ids n hids
    rcases hid with rfl | hid
    · exact hb.1
    · exact ih _ hb.2 id hid

/-- **filter / test caches**: whatever names a template uses, in whatever order and number, the VM's
    `loaded_filters[idx] = …` / `loaded_tests[idx] = …` is in bounds: the ids come from `get_local_id` with
    `MAX_LOCALS` (regenerated from instructions.rs), the arrays have `vmLocalSlots` entries (regenerated
    from vm/mod.rs) -/
theorem localIds_in_bounds (names : List String) :
    ∀ id ∈ assignLocalIds Gen.maxLocals [] names, lookupLocal Gen.vmLocalSlots id ≠ .panic := by
  intro id hid
  have hlim : Gen.maxLocals ≤ 255 ∧ Gen.maxLocals ≤ Gen.vmLocalSlots ∧ Gen.localIdBits = 8 := by decide
  have := assignLocalIds_bounded Gen.maxLocals hlim.1 names [] (Nat.zero_le _) id hid
  fun_cases lookupLocal Gen.vmLocalSlots id
  · nofun
  · nofun
  · omega

/-- the off-by-one variant (`len > MAX_LOCALS`): the 51st distinct name gets id 50, one past the cache -/
example : (Legacy.getLocalIdGt 50 ((List.range 50).map toString) "x").2 = 50 ∧ lookupLocal 50 50 = .panic := by decide +kernel
example : (getLocalId 50 ((List.range 50).map toString) "x").2 = noLocalId := by decide +kernel

theorem kernels_never_panic : KernelsNeverPanic :=
  ⟨fun _ xs a b c ha hb hc hl => slice_no_panic xs a b c ha hb hc hl, range_no_panic, cycle_no_panic,
   mulStr_no_panic, repeatSeq_no_panic, indent_no_panic, tojsonIndent_no_panic, fmtWidth_no_panic,
   fmtPrecision_no_panic, batch_no_panic, sliceF_no_panic, lexErr_no_panic⟩

/-! ## Operand stack of the VM (`no_underflow`): a verified certificate checker

`MJ/Model/Stk.lean` is the machine of one `eval_impl` activation reduced to its operand stack (and
the live loops); `Stk.pre i s` is the condition under which the Rust code of instruction `i` does not
panic on the stack (`pop`/`peek` `unwrap`, `len - n` in `get_call_args`/`drop_top`/`reverse_top`,
the dynamic argument count `try_into::<usize>().unwrap()`, `args[0]`, `try_iter().unwrap()` in
`build_macro`).  The check runs the *verified* checker on the certificate proposed by the untrusted
`inferStk` for every instruction stream the real compiler produces (translation validation): the
code generator itself is not modelled. -/

/-- in every state reachable from a region entry (pc 0 on an empty stack, a macro body on its
    arguments) — all branches, all iteration counts, all `loop(…)` recursion depths, whatever values
    the instructions push — the instruction about to execute finds what it pops -/
def NoUnderflow (code : Stk.Code) : Prop :=
  ∀ s0, Stk.Init code s0 → ∀ s, Stk.Reach code s0 s → ∀ i, code[s.pc]? = some i → Stk.pre i s = true

/-- soundness of the operand-stack certificate checker -/
theorem checkStk_sound (code : Stk.Code) (cert : Stk.Cert) (h : Stk.checkStk code cert = true) :
    NoUnderflow code := by
  intro s0 h0 s hr i hi
  exact Stk.inv_pre h (Stk.reach_inv h (Stk.init_inv h h0) hr) hi

/-- what `drive_c01` computes for every real stream: the verified checker on the inferred certificate -/
theorem inferStk_checked (code : Stk.Code) (h : Stk.validate code = true) : NoUnderflow code :=
  checkStk_sound code (Stk.inferStk code) h

namespace StkExamples
open Stk Stk.Instr

/-- `{% for item in [u] if item %}…{% endfor %}` as compiled: the count of the filtered items is
    computed by the loop (`z … sw o add … bd`), the height at the loop head depends on the path -/
def filteredLoop : Code := #[
  loadZero, eff 0 1, buildList 1, pushLoop false, iterate 15, dupTop, eff 1 0, eff 0 1, jumpIfFalse 13,
  swap, loadOne, add, jump 14, eff 1 0, jump 4, popLoopFrame, buildDyn, pushLoop false, iterate 22,
  eff 1 0, eff 0 0, jump 18, popLoopFrame]

/-- `{% for x in xs recursive %}…{{ loop(range(3)) }}…{% endfor %}`: `call 1 … ; fastRecurse` -/
def recursiveLoop : Code := #[
  eff 0 1, pushLoop true, iterate 16, eff 1 0, eff 0 1, eff 1 1, eff 1 0, eff 0 1, eff 1 1, eff 0 1,
  eff 2 1, jumpIfFalse 15, eff 0 1, call 1 false true, fastRecurse, jump 2, popLoopFrame]

/-- `{{ loop.cycle(*xs) }}`: receiver and splat are unpacked into a counted segment (`ul 2`), the
    method call takes its argument count from the stack and needs at least the receiver -/
def splatMethod : Code := #[
  eff 0 1, pushLoop false, iterate 14, eff 1 0, eff 0 1, buildList 1, eff 0 1, unpackLists 2,
  callDyn true false, eff 1 0, eff 0 1, eff 1 1, eff 1 0, jump 2, popLoopFrame]

/-- the `do` statement before commit e48bfbb: the result of the call stays on the stack in one branch -/
def doLeak : Code := #[eff 0 1, jumpIfFalse 5, call 0 false true, eff 0 0, jump 6, eff 0 0, eff 0 0]

/-- a method call on a splat without the receiver batch: `args[0]` may not exist -/
def splatNoReceiver : Code := #[eff 0 1, unpackLists 1, callDyn true false, eff 1 0]

/-- pops one value more than was pushed -/
def popTooMuch : Code := #[eff 0 1, eff 1 0, eff 1 0]

theorem filteredLoop_valid : validate filteredLoop = true := by decide +kernel
theorem recursiveLoop_valid : validate recursiveLoop = true := by decide +kernel

example : validate filteredLoop = true := filteredLoop_valid
example : validate recursiveLoop = true := recursiveLoop_valid
example : validate splatMethod = true := by decide +kernel
example : validate doLeak = false := by decide +kernel
example : validate splatNoReceiver = false := by decide +kernel
example : validate popTooMuch = false := by decide +kernel
example : NoUnderflow filteredLoop := inferStk_checked _ filteredLoop_valid
example : NoUnderflow recursiveLoop := inferStk_checked _ recursiveLoop_valid

/-- the checker is not vacuous: the rejected stream really underflows -/
theorem popTooMuch_underflows : ¬ NoUnderflow popTooMuch := by
  intro h
  have s0 : Init popTooMuch ⟨0, [], [], []⟩ := ⟨(0, 0), by decide, rfl, rfl, rfl, rfl⟩
  have r1 : Reach popTooMuch ⟨0, [], [], []⟩ ⟨1, [.other], [], []⟩ :=
    .tail (.refl _) (Step.straight (i := eff 0 1) (by decide) (by decide) (StkStep.eff 0 1 [] [.other] rfl))
  have r2 : Reach popTooMuch ⟨0, [], [], []⟩ ⟨2, [], [], []⟩ :=
    .tail r1 (Step.straight (i := eff 1 0) (by decide) (by decide) (StkStep.eff 1 0 [.other] [] rfl))
  have := h _ s0 _ r2 (eff 1 0) (by decide)
  simp [pre] at this

end StkExamples

/-- **checked on the regenerated graph**: apart from the `elif` self-recursion, at most
    `maxUnguardedRun - 1` consecutive calls between `Parser` methods avoid `with_recursion_guard!` -/
theorem parser_cycles_guarded : runBound parserGraphNoElif maxUnguardedRun = true := by decide +kernel

/-- the extracted guard macro has the shape the bound relies on (depth += 1; check; …; depth -= 1) -/
theorem recursion_guard_shape : Gen.recursionGuardShapeOk = true := rfl

/-- hence every cycle (apart from `elif`) contains a guarded call … -/
theorem parser_no_unguarded_cycle (u : Nat) (p : List Edge) (hc : Chain parserGraphNoElif u p)
    (hun : allUnguarded p) : p.length < maxUnguardedRun :=
  runBound_sound parserGraphNoElif maxUnguardedRun parser_cycles_guarded u p hc hun

/-- … and a chain of parser calls on which at most `MAX_RECURSION` guarded calls are active (the guard
    refuses the next one) has fewer than `parserFrameBudget` frames -/
theorem parser_frames_lt (u : Nat) (p : List Edge) (hc : Chain parserGraphNoElif u p)
    (hg : guardedCount p ≤ Gen.maxRecursionParser) : p.length < parserFrameBudget := by
  have h := chain_length_lt parserGraphNoElif maxUnguardedRun parser_cycles_guarded u p hc
  unfold parserFrameBudget
  have : (guardedCount p + 1) * maxUnguardedRun ≤ (Gen.maxRecursionParser + 1) * maxUnguardedRun :=
    Nat.mul_le_mul_right _ (by omega)
  omega

example : parserFrameBudget = 2416 := rfl
example : Chain parserGraphNoElif (Gen.parserFnNames.idxOf "parse_expr")
    [(Gen.parserFnNames.idxOf "parse_expr", Gen.parserFnNames.idxOf "parse_ifexpr", true)] :=
  Chain.cons (by decide) (by decide) (Chain.nil _ (by decide))

/-! ## `ast_depth_bound`: the parser's two counters bound the depth of the AST

`MJ/Model/Nesting.lean`: parse derivations (`P`), the parser's accounting (`sim`: the recursion guard
and the `expr_nesting` save / reset / bump / max protocol) and the declarative quantities.  Excluded
(known finding `depth:elif`): the unguarded `elif` recursion, for which `P` has no constructor. -/

/-- a successful parse: `expr_nesting` ends up as the longest loop-built chain on any path of the
    expression (not the number of its operators), and both limits hold -/
theorem nesting_exact (p : Nesting.P) (r : Nat) (h : Nesting.parse .real p = .ok r) :
    r = Nesting.chainDepth p ∧ Nesting.chainDepth p ≤ Gen.maxExprNesting ∧
    Nesting.guardDepth p ≤ Gen.maxRecursionParser := by
  unfold Nesting.parse at h
  have h1 := Nesting.sim_ok _ p 0 0 r h
  have h2 := Nesting.sim_le .real p 0 0 r (Nat.zero_le _) (Nat.zero_le _) h
  exact ⟨by simpa using h1, h2.1, by have := h2.2.1; simpa [Nesting.Limits.real] using this⟩

/-- "expression is nested too deeply" is raised only when the longest chain exceeds the limit -/
theorem nesting_error_exact (p : Nesting.P) (h : Nesting.parse .real p = .error .chain) :
    Gen.maxExprNesting < Nesting.chainDepth p :=
  Nesting.sim_chain_err .real p 0 0 h

/-- **AST depth**: whatever parses has at most `2·MAX_EXPR_NESTING + 3·MAX_RECURSION + 1` AST nodes
    on any path — the recursion depth of `as_const`, `compile_expr`, the meta passes and `Drop` -/
theorem ast_depth_bound (p : Nesting.P) (r : Nat) (h : Nesting.parse .real p = .ok r) :
    Nesting.astDepthUB p ≤ 2 * Gen.maxExprNesting + 3 * Gen.maxRecursionParser + 1 := by
  obtain ⟨_, h1, h2⟩ := nesting_exact p r h
  have := Nesting.ast_le p
  simp only [Nesting.wrapNodes, Nesting.groupNodes] at this
  omega

example : 2 * Gen.maxExprNesting + 3 * Gen.maxRecursionParser + 1 = 2451 := by decide

/-- the extractor found the save / reset / bump / max protocol in every function of `parser.rs` whose
    loop wraps nodes (textual check, `lib/tables/c01.py: NEST_PROTOCOL`) -/
theorem nest_protocol_shape : Gen.nestProtocolOk = true := rfl

namespace NestingExamples
open Nesting

/-- small limits so that the examples are readable: recursion 6, nesting 3 -/
def small : Limits := ⟨6, 3⟩

/-- `[x.a.a.a, x.a.a.a, x.a.a.a]`: nine loop-built nodes but chains of three: accepted -/
example : parse small (.group [.chain .leaf [.leaf, .leaf, .leaf], .chain .leaf [.leaf, .leaf, .leaf],
    .chain .leaf [.leaf, .leaf, .leaf]]) = .ok 3 := by decide
/-- `x.a.a.a.a`: a chain of four: rejected -/
example : parse small (.chain .leaf [.leaf, .leaf, .leaf, .leaf]) = .error .chain := by decide
/-- `x|f(y.a.a.a)`: the argument's chain and the filter are on one path: four -/
example : parse small (.chain .leaf [.chain .leaf [.leaf, .leaf, .leaf]]) = .error .chain := by decide
/-- `(x.a.a)|f|f`: chains on the path through a parenthesised operand add up -/
example : parse small (.chain (.group [.chain .leaf [.leaf, .leaf]]) [.leaf, .leaf]) = .error .chain := by decide
/-- `f(y.a.a, z.a.a).a`: arguments next to each other do not add up: max(2, 2) + 1 + 1 -/
example : parse small (.chain .leaf [.group [.chain .leaf [.leaf, .leaf], .chain .leaf [.leaf, .leaf]]]) = .ok 3 := by decide
/-- seven nested lists: the recursion guard -/
example : parse small (.group [.group [.group [.group [.group [.group [.group []]]]]]]) = .error .recursion := by decide

end NestingExamples

/-! ## Scope stack of the load-time assignment tracker (`compiler/meta.rs`)

`find_macro_closure` runs while a template is loaded (codegen calls it for every `{% macro %}` and
every `{% call %}` body), `find_undeclared` behind `Template::undeclared_variables`.  Both walk the AST
with a stack of scopes; `assign` does `last_mut().unwrap()`.  The function bodies are regenerated from
the source as scope-stack programs (`MJ.Gen.metaScopeFns`, one per function, `track_walk` with one arm
per statement kind; `MJ.Gen.metaWalkArms` lists the arms on their own).  An arm that pops a scope it
did not push — or pushes one it does not pop — on any path breaks `meta_scope_table_balanced` /
`meta_walk_arms_balanced` (a `decide` on the regenerated table). -/

/-- every function of `compiler/meta.rs` pops only what it pushed and ends, on every path, at the
height it was entered with; the entry points create a stack of height ≥ 1 -/
theorem meta_scope_table_balanced :
    Scopes.tableOk Gen.metaScopeFns = true ∧ Scopes.entriesOk Gen.metaScopeFns Gen.metaScopeEntries = true := by
  decide

/-- each arm of `track_walk` on its own is balanced (number of `state.push()` = number of `state.pop()`
on every path, never below the entry height) -/
theorem meta_walk_arms_balanced : Gen.metaWalkArms.all (fun a => Scopes.balanced a.2) = true := by decide

/-- every arm leaves the stack height unchanged, whatever the statement's children are (any call tree,
any iteration counts, any branch), and does not panic — for every entry height ≥ 1 -/
theorem meta_walk_arm_height_unchanged (name : String) (arm : Gen.ScopeProg) (ha : (name, arm) ∈ Gen.metaWalkArms)
    (h : Nat) (hh : 1 ≤ h) (r : Option Nat) (hx : Scopes.Exec Gen.metaScopeFns arm h r) : r = some h := by
  have hb : Scopes.balanced arm = true := (List.all_eq_true.mp meta_walk_arms_balanced) (name, arm) ha
  exact Scopes.balanced_exec meta_scope_table_balanced.1 hb hh hx

/-- `find_macro_closure` (load time) and `find_undeclared`: `assign` is never reached with an empty
scope stack, for every AST (= every finite execution of the regenerated programs), and the stack ends
with the one scope the entry point created -/
def MetaScopesSafe : Prop :=
  ∀ e ∈ Gen.metaScopeEntries, ∀ body, Gen.metaScopeFns[e.1]? = some body →
    ∀ r, Scopes.Exec Gen.metaScopeFns body e.2 r → r = some e.2

theorem meta_scopes_no_panic : MetaScopesSafe := by
  intro e he body hb r hx
  have hok := meta_scope_table_balanced
  have hbal : Scopes.balanced body = true :=
    (List.all_eq_true.mp hok.1) body (List.mem_of_getElem? hb)
  have hpos : 1 ≤ e.2 := by
    have h2 := hok.2
    simp only [Scopes.entriesOk, Bool.and_eq_true] at h2
    have := (List.all_eq_true.mp h2.2) e he
    simp at this
    omega
  exact Scopes.balanced_exec hok.1 hbal hpos hx

namespace ScopesExamples
open Scopes Gen.ScopeProg

-- the hypotheses are satisfiable: both entry points exist, and the regenerated programs run
example : Gen.metaScopeEntries.length = 2 ∧ Gen.metaWalkArms.length ≥ 15 := by decide
example : run Gen.metaScopeFns true 2 12 (.call 1 .done) 1 = some 1 := by decide
example : run Gen.metaScopeFns false 1 12 (.call 0 .done) 1 = some 1 := by decide

/-- the shape of an arm that lost a `push` in front of its else body (walks the else body, pops) -/
def forElseUnpaired : Gen.ScopeProg := .push (.need (.pop (.branch (.pop .done) .done .done)))
/-- a macro body: that statement, then a variable reference at the top level of the body -/
def macroBody : Gen.ScopeProg := .call 0 (.need .done)

example : balanced forElseUnpaired = false := by decide
example : tableOk [forElseUnpaired, macroBody] = false := by decide

/-- … and such an arm does panic: the next `assign` finds the stack empty -/
theorem unpaired_pop_panics : Exec [forElseUnpaired, macroBody] macroBody 1 none := by
  refine .callOk (body := forElseUnpaired) (h' := 0) rfl ?_ .needPanic
  exact .push (.needOk (by decide) (.pop (.branchL (h' := 0) (.pop .done) .done)))

end ScopesExamples

/-! ## `pending_block` of the code generator (`compiler/codegen.rs`)

The methods of `impl CodeGenerator` that touch `pending_block` (directly or through a callee) are regenerated
as programs over stacks of KINDS (`Branch`, `Loop`, `ScBool`, `Scope`) with a signature each
(`MJ.Gen.codegenKFns`; the signatures are inferred by the extractor and CHECKED here).  `end_scope`,
`end_condition`, `end_for_loop`, `sc_bool` hit `unreachable!()` when the top entry is missing or of another
kind, `finish` asserts that nothing is left. -/

/-- every method's body agrees with its signature (`start_if : [] ⟶ [Branch]`, `end_if : [Branch] ⟶ []`, every
`compile_*` method `[] ⟶ []`, …) -/
theorem codegen_pending_block_table_ok : KStack.tableOk KStack.codegenFns = true := by decide +kernel

/-- hence: whatever the AST (any call tree, any branch, any number of loop rounds), a method called on a stack
that starts with the kinds it expects never reaches a failing `pop` / `last_mut` / `assert!(is_empty())` and
leaves its `post` kinds instead; the entry points (the driver `compile_stmt* ; finish`, the sub-generator of
`{% block %}`) run from the empty stack to the empty stack -/
theorem codegen_pending_block_safe (f : Nat) (fn : KStack.Fn) (hf : KStack.codegenFns[f]? = some fn)
    (rest : List Nat) (hrest : fn.entry = true → rest = []) (r : Option (List Nat))
    (hx : KStack.Exec KStack.codegenFns fn.body (fn.pre ++ rest) r) : r = some (fn.post ++ rest) :=
  KStack.fn_exec codegen_pending_block_table_ok hf rest hrest hx

namespace KStackExamples
open KStack Gen.KProg

example : Gen.codegenKinds = ["Branch", "Loop", "ScBool", "Scope"] := rfl
example : (Gen.codegenKFns.map (·.1)).contains "compile_stmt" ∧ (Gen.codegenKFns.map (·.1)).contains "<driver>" := by decide +kernel
/-- the signatures the theorem established for the primitives -/
example : (codegenFns[fnIndex "start_else"]?).map (fun f => (f.pre, f.post)) = some ([0], [0]) ∧
    (codegenFns[fnIndex "end_for_loop"]?).map (fun f => (f.pre, f.post)) = some ([1], []) ∧
    (codegenFns[fnIndex "compile_stmt"]?).map (fun f => (f.pre, f.post)) = some ([], []) := by decide +kernel

/-- a generator whose `if` statement forgets `end_if`: [start_if; end_if] vs [start_if] -/
def startIf : Fn := ⟨.push 0 .done, [], [0], false⟩
def endIf : Fn := ⟨.pop 0 .done, [0], [], false⟩
def ifStmtGood : Fn := ⟨.call 0 (.call 1 .done), [], [], false⟩
def ifStmtBad : Fn := ⟨.call 0 .done, [], [], false⟩
def finishFn : Fn := ⟨.empty .done, [], [], true⟩
def driver (stmt : Nat) : Fn := ⟨.call stmt (.call 3 .done), [], [], true⟩

example : tableOk [startIf, endIf, ifStmtGood, finishFn, driver 2] = true := by decide
example : tableOk [startIf, endIf, ifStmtBad, finishFn, driver 2] = false := by decide
/-- … and the forgotten `end_if` does fail the assertion in `finish` -/
theorem unclosed_block_fails_finish :
    Exec [startIf, endIf, ifStmtBad, finishFn, driver 2] (driver 2).body [] none := by
  refine .callOk (fn := ifStmtBad) (s' := [0]) rfl ?_ ?_
  · exact .callOk (fn := startIf) (s' := [0]) rfl (.push .done) .done
  · exact .callPanic (fn := finishFn) rfl .emptyFail

end KStackExamples

/-- `Instructions::get_line`: `line_infos[idx]` / `line_infos[idx - 1]` after `binary_search_by_key` are in
range for every table and every instruction index (`Err(0)` returns first) -/
theorem getLine_no_panic (s : Loc.Instrs) (idx : Nat) : s.getLine idx ≠ .panic := Sites.getLine_no_panic s idx

theorem getSpan_no_panic (s : Loc.Instrs) (idx : Nat) : s.getSpan idx ≠ .panic := Sites.getSpan_no_panic s idx

example : (Loc.addAll [.withLine 1, .plain, .withLine 2]).getLine 1 = .ok (some 1) := by decide
example : Loc.Instrs.empty.getLine 5 = .ok none := by decide

/-- `SmallStr::try_new` + `as_str` (capacity regenerated from value/mod.rs): neither slice is out of range
and the `u8` length field loses nothing, for every string length -/
theorem smallStr_no_panic (len : Nat) :
    Sites.smallStrRoundTrip Gen.smallStrCap len = .ok (if len ≤ Gen.smallStrCap then some len else none) :=
  Sites.smallStrRoundTrip_ok _ _ (by decide)

/-- `Value::from(char)`: the `unwrap()` of `SmallStr::try_new` on at most 4 bytes cannot fail -/
theorem smallStr_char_fits (k : Nat) (hk : k ≤ 4) : Sites.smallStrFromChar Gen.smallStrCap k ≠ .panic :=
  Sites.smallStrFromChar_ok _ _ hk (by decide)

example : Sites.smallStrRoundTrip 22 22 = .ok (some 22) ∧ Sites.smallStrRoundTrip 22 23 = .ok none := by decide
example : Sites.smallStrFromChar 3 4 = .panic := by decide   -- a capacity below 4 would make the unwrap fail
example : Sites.smallStrRoundTrip 300 260 = .ok (some 4) := by decide  -- a capacity above 255 would truncate the length

/-- `ops::pow`, the arm for exponents beyond `u32` (fix 3a8d5c6): under its guard `-1 ≤ a ≤ 1` the product
`a * a` stays in `i128` and `b % 2` has a non-zero constant divisor, so neither arithmetic site can trap -/
theorem pow_unit_base_no_panic (a b : Int) (ha : -1 ≤ a ∧ a ≤ 1) :
    -(170141183460469231731687303715884105728 : Int) ≤ (if b % 2 = 0 then a * a else a) ∧
    (if b % 2 = 0 then a * a else a) < 170141183460469231731687303715884105728 ∧ (2 : Int) ≠ 0 := by
  have := IntOps.unit_sq_bounds ha.1 ha.2
  refine ⟨?_, ?_, by decide⟩ <;> split <;> omega

example : (-1 : Int) ≤ -1 ∧ (-1 : Int) ≤ 1 := by decide

set_option maxRecDepth 100000 in
/-- every potential crash site of the crate's non-test code (regenerated table) has a row in the hand-made
classification with the same number of sites — a new `unwrap()` / index / cast / arithmetic site, or one that
moved to another function, makes this false -/
theorem all_panic_sites_classified : PanicSites.genKeyed = PanicSites.keyed PanicSites.rows := by
  unfold PanicSites.genKeyed PanicSites.keyed
  rfl

/-- the guards of the class-`b` rows are the ones the source has now -/
theorem panic_guards_as_tabled : PanicSites.bGenGuards = PanicSites.bEvidence :=
  -- unfolding both tables leaves the same literals, which are compared as literals; `decide` would
  -- compare each pair of strings byte by byte, which the kernel does slowly
  rfl

/-- class `a` rows name their theorem, class `b` rows their guard, class `c` rows their reason -/
theorem panic_evidence_given : PanicSites.evidenceGiven = true := by decide +kernel

/-- (rows, sites) per class: a proved, b guarded (tabled), c outside the quantifier, d oracle only -/
theorem panic_site_class_counts :
    (PanicSites.rowsOf .a, PanicSites.sitesOf .a) = (67, 146) ∧
    (PanicSites.rowsOf .b, PanicSites.sitesOf .b) = (27, 36) ∧
    (PanicSites.rowsOf .c, PanicSites.sitesOf .c) = (20, 27) ∧
    (PanicSites.rowsOf .d, PanicSites.sitesOf .d) = (157, 284) := by decide +kernel

example : PanicSites.rows.length > 200 ∧ Gen.panicSites.length = PanicSites.rows.length := by decide +kernel

/-- the `Add / Sub / Mul / Rem / IntDiv / Pow / Neg` arms of the VM and the `abs` filter never panic on
    integers, whatever their width and sign — for ALL pairs of integers (no range hypothesis is needed:
    every plain operator sits behind a guard that makes it fit) -/
theorem intOps_no_panic (op : IntOps.Op) (a b : Int) :
    IntOps.binK op a b ≠ .panic ∧ IntOps.negK a ≠ .panic ∧ IntOps.absK a ≠ .panic :=
  ⟨IntOps.binK_no_panic op a b, IntOps.negK_no_panic a, IntOps.absK_no_panic a⟩

/-- a value returned by `+ - * // %` is the exact mathematical result (Euclidean division) and, for
    `+ - * //`, fits an `i128`; division and remainder by zero are errors -/
theorem intOps_exact (a b v : Int) :
    (IntOps.binK .add a b = .ok (.val v) → v = a + b ∧ IntOps.fits128 v = true) ∧
    (IntOps.binK .sub a b = .ok (.val v) → v = a - b ∧ IntOps.fits128 v = true) ∧
    (IntOps.binK .mul a b = .ok (.val v) → v = a * b ∧ IntOps.fits128 v = true) ∧
    (IntOps.binK .intDiv a b = .ok (.val v) → b ≠ 0 ∧ v = a / b ∧ IntOps.fits128 v = true) ∧
    (IntOps.binK .rem a b = .ok (.val v) → b ≠ 0 ∧ v = a % b) :=
  ⟨IntOps.checkedBin_exact _ a b v, IntOps.checkedBin_exact _ a b v, IntOps.checkedBin_exact _ a b v,
   IntOps.intDivK_exact a b v, IntOps.remK_exact a b v⟩

-- non-vacuity: the corner the guards exist for, and what the plain operators would do there
example : IntOps.binK .rem IntOps.i128Min (-1) = .ok (.val 0) := by decide
example : IntOps.binK .intDiv IntOps.i128Min (-1) = .ok .err := by decide
example : IntOps.i128 (IntOps.i128Min / -1) = .panic := by decide
example : IntOps.binK .pow (-1) 4294967297 = .ok (.val (-1)) := by decide
example : IntOps.binK .pow 2 127 = .ok .err ∧ IntOps.binK .pow 2 126 = .ok (.val 85070591730234615865843651857942052864) := by decide
example : IntOps.absK IntOps.i64Min = .ok (.val 9223372036854775808) ∧ IntOps.absK IntOps.i128Min = .ok .err := by decide
example : IntOps.negK IntOps.i128Min = .ok .err ∧ IntOps.negK 5 = .ok (.val (-5)) := by decide
example : IntOps.binK .add IntOps.u128Max 0 = .ok .err := by decide

/-- for EVERY string and EVERY escaping rule, each flush `&value[last..idx]` and the final
    `&value[last..]` is a slice between character boundaries with `last <= idx <= len`: the repr of a
    string (element of a printed list / map, error messages) never panics -/
theorem reprStr_no_panic (esc : Char → Bool) (s : List Char) : ReprStr.reprK esc s ≠ .panic :=
  ReprStr.reprK_no_panic esc s

-- non-vacuity: continuing one BYTE behind an escaped character (instead of `len_utf8`) slices inside
-- a two-byte control character (the seeded change C01-6)
example : ReprStr.reprWith (ReprStr.escapes '\'') (fun _ => 1) ['\u0085', 'a'] = .panic := by decide
example : ReprStr.reprOut ['\u0085', 'a', '\'', 'é'] = .ok 10 := by decide

/-- the window of source lines `render_debug_info` prints around the error line: every `index + 1` fits
    a `usize`, for every line number and every source of fewer than 2^63 lines -/
theorem debugWindow_no_panic (line : Option Nat) (n : Nat) (hl : ∀ l, line = some l → l < 18446744073709551616)
    (hn : n < 9223372036854775808) : IntOps.debugWindowK line n ≠ .panic :=
  IntOps.debugWindowK_no_panic line n hl hn

example : IntOps.debugWindowK (some 5) 9 = .ok ([2, 3, 4], [5], [6, 7, 8]) := by decide
example : IntOps.debugWindowK (some 12) 9 = .ok ([9], [], []) := by decide
example : IntOps.usizeAdd 18446744073709551615 1 = .panic := by decide

/-- the static argument count of every call the parser accepts fits the `u16` of the call instructions:
    `assert!(pending_args as u16 as usize == pending_args)` of `compile_call_args` cannot fail (the
    parser's limit is regenerated from `parse_args`; raising it beyond 65533 breaks this theorem) -/
theorem callArgs_fit_u16 (extra nPos : Nat) (kw : Bool) (he : extra ≤ 1) (hn : nPos ≤ Gen.parserMaxArgs) :
    IntOps.callArgCountK extra nPos kw ≠ .panic :=
  IntOps.callArgCountK_no_panic extra nPos kw he hn (by decide)

example : IntOps.callArgCountK 1 Gen.parserMaxArgs true = .ok (Gen.parserMaxArgs + 2) := by decide
example : IntOps.callArgCountK 0 65536 false = .panic := by decide

/-- the full statement fails exactly through the `elif` recursion: while `parse_if_cond` calls itself
    outside the guard, not every cycle is guarded (witness replayed by the depth probe `d elif n`) -/
theorem C01_counterexample (h : elifEdge ∈ parserGraph.edges) (hn : ifCondIdx < parserGraph.n) : ¬ C01_full := by
  intro hf
  have := selfLoop_refutes parserGraph ifCondIdx hn h
  rw [hf.2] at this
  exact absurd this (by simp)

/-- the hypothesis of `C01_counterexample` holds on the tree this file was last checked against;
    if `elif` gets guarded this example (not an audited theorem) is the line to delete -/
example : elifEdge ∈ parserGraph.edges ∧ ifCondIdx < parserGraph.n := by decide +kernel

/-- C01 with the excluded region explicit: all kernels, and the parser outside `elif` -/
theorem C01_partial : KernelsNeverPanic ∧ runBound parserGraphNoElif maxUnguardedRun = true :=
  ⟨kernels_never_panic, parser_cycles_guarded⟩

/-- how one call of the engine (load + render / compile_expression + eval / formatting the error) ends -/
inductive End where
  | value                       -- `Ok(output)`
  | error                       -- `Err(minijinja::Error)`
  | panic (site : String)       -- a Rust panic (incl. arithmetic overflow in a build with overflow checks);
                                -- `site` = the `file::function::kind` row it originates from, or "callee"
                                -- for a panic raised inside std / a dependency
  | stackOverflow               -- native stack exhausted (SIGSEGV / SIGABRT)
  | allocAbort                  -- the allocator refuses a size the template chose (abort)
  deriving DecidableEq, Repr

/-- the engine as the property sees it.  `I` is the property's quantifier: template source (any byte
    string) x companion templates x context value x builtin called with arbitrary arguments x
    configuration (syntax, whitespace switches, undefined behaviour, …) x {debug, release} profile x
    {main thread, 2 MiB thread} -/
structure Engine (I : Type) where
  run : I → End

/-- **C01 at full strength**: for every input, loading and rendering either succeeds or returns an
    error value — it never panics, overflows the native stack or aborts in the allocator. -/
def C01_statement {I : Type} (E : Engine I) : Prop :=
  ∀ i, E.run i = .value ∨ E.run i = .error

/-- class of a site key in the hand classification (`none`: not a row) -/
def classOf (s : String) : Option PanicSites.Cls :=
  (PanicSites.rows.find? (·.key == s)).map (·.cls)

/-- **The gap**, one named field per assumption.  Nothing here is proved about the real engine: these
    are exactly the statements that the checked correspondence / the crash oracle validate and that the
    theorems of this file discharge *for the models*. -/
structure Gaps {I : Type} (E : Engine I) : Prop where
  /-- TRUSTED (syntactic scanner `lib/tables/c01.py: PANIC_SITES`): a panic of the crate's own code
      originates at a key of the REGENERATED site table; every other panic is a callee's -/
  sites_complete : ∀ i s, E.run i = .panic s → s = "callee" ∨ s ∈ PanicSites.genKeyed.map (·.1)
  /-- class a — the named kernel theorem shows the site unreachable IN THE MODEL; the gap is
      "model = code", validated by the kernel correspondence streams (boundary boxes, `drive_c01`) and
      by translation validation of the instruction streams -/
  classA_model_is_code : ∀ i s, E.run i = .panic s → classOf s ≠ some .a
  /-- class b — the guard in the same function (its text is tied: `panic_guards_as_tabled`) is adequate:
      a hand judgement per row -/
  classB_guard_adequate : ∀ i s, E.run i = .panic s → classOf s ≠ some .b
  /-- class c — outside the quantifier (poisoned mutex = an earlier panic, host-side macros, …) -/
  classC_outside_quantifier : ∀ i s, E.run i = .panic s → classOf s ≠ some .c
  /-- class d — VALIDATED ONLY: nothing but the crash-oracle streams stands behind these sites -/
  classD_searched : ∀ i s, E.run i = .panic s → classOf s ≠ some .d
  /-- VALIDATED ONLY: panics inside std / dependencies (slice::copy_from_slice, RefCell, fmt with an
      out-of-range argument, …) — crash-oracle streams -/
  callee_searched : ∀ i, E.run i ≠ .panic "callee"
  /-- VALIDATED ONLY (depth probes, accumulate-loop probes on a 256 KiB stack): the native stack.  Proved
      parts it rests on: `parser_cycles_guarded`, `ast_depth_bound`, `mergeSeq_depth_bounded`;
      recorded exceptions: KNOWN_FINDINGS elif / cyclic namespace / run-time nesting / lazy slices -/
  stack_searched : ∀ i, E.run i ≠ .stackOverflow
  /-- proved for the kernels (`*_alloc_le`, `limits_fit_2GiB`), validated for everything else under a
      2 GiB address-space cap -/
  alloc_bounded : ∀ i, E.run i ≠ .allocAbort

/-- **C01, main theorem**: the statement follows from the gap hypotheses and the tie between the
    regenerated site table and the classification (`all_panic_sites_classified`, proved above): every
    site the scanner finds has a class, every class has its hypothesis. -/
theorem C01_from_gaps {I : Type} (E : Engine I) (G : Gaps E)
    (hTie : PanicSites.genKeyed = PanicSites.keyed PanicSites.rows) : C01_statement E := by
  intro i
  cases h : E.run i with
  | value => exact Or.inl rfl
  | error => exact Or.inr rfl
  | stackOverflow => exact absurd h (G.stack_searched i)
  | allocAbort => exact absurd h (G.alloc_bounded i)
  | panic s =>
    exfalso
    rcases G.sites_complete i s h with hc | hm
    · subst hc; exact G.callee_searched i h
    · -- the site is a row of the classification, hence has a class
      rw [hTie] at hm
      obtain ⟨r, hr, rfl⟩ : ∃ r ∈ PanicSites.rows, r.key = s := by simpa [PanicSites.keyed] using hm
      obtain ⟨r', hr'⟩ := Option.isSome_iff_exists.mp
        (List.find?_isSome.mpr ⟨r, hr, beq_self_eq_true r.key⟩ : (PanicSites.rows.find? (·.key == r.key)).isSome)
      have hcls : classOf r.key = some r'.cls := by simp [classOf, hr']
      cases hc : r'.cls with
      | a => exact G.classA_model_is_code i _ h (by rw [hcls, hc])
      | b => exact G.classB_guard_adequate i _ h (by rw [hcls, hc])
      | c => exact G.classC_outside_quantifier i _ h (by rw [hcls, hc])
      | d => exact G.classD_searched i _ h (by rw [hcls, hc])

theorem C01_main {I : Type} (E : Engine I) (G : Gaps E) : C01_statement E :=
  C01_from_gaps E G all_panic_sites_classified

-- non-vacuity: an engine that only ever returns values / errors satisfies the gaps; one that panics at a
-- class-d row violates exactly `classD_searched`, and the statement is false for it
example : Gaps (⟨fun (b : Bool) => if b then .value else .error⟩ : Engine Bool) :=
  ⟨by intro i s h; cases i <;> simp at h, by intro i s h; cases i <;> simp at h, by intro i s h; cases i <;> simp at h,
   by intro i s h; cases i <;> simp at h, by intro i s h; cases i <;> simp at h, by intro i; cases i <;> simp,
   by intro i; cases i <;> simp, by intro i; cases i <;> simp⟩
example : classOf "value/ops.rs::pow::arith" = some .a ∧ classOf "no/such::row" = none := by decide +kernel
example : ¬ C01_statement (⟨fun (_ : Unit) => .panic "vm/mod.rs::Executor::perform_super::unwrap"⟩ : Engine Unit) := by
  intro h; rcases h () with h | h <;> simp at h

end MJ.C01
