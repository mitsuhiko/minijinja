import MJ.Model.SerdeArg
import MJ.Proofs.SerdeRT
import MJ.Proofs.SerdeBuf
import MJ.Proofs.SerdeContent
import MJ.Proofs.SerdeDispatch
import MJ.Proofs.SerdeHandles
import MJ.Proofs.SerdeTotal
import MJ.Proofs.SerdeValue
import MJ.Proofs.JsonFloatRT
import MJ.Proofs.JsonSer
/-!
# C16 — values round-trip through serde; `tojson` emits valid, HTML-safe JSON

Model: `MJ/Model/Serde.lean` (ValueSerializer, Deserializer for Value, value-handle registry) with
`SerdeArg` (`Serde<T>` as a call argument), `SerdeValue` (`Value` as the target), `SerdeContent` (serde's
`Content` buffer), `SerdeMethods` / `SerdeDispatch` (the method and `match`-arm tables), and
`MJ/Model/Json.lean` (serde_json's writer with the engine's formatters, the `tojson`
post-processing, an independent strict JSON reader) with `JsonFloatRT` (rounding interval, `readTok`),
`ValueSer` / `JsonSer` (`impl Serialize for Value` as a call stream, serde_json on it).  Tables (`MJ.Gen.tojsonReplacements`,
`MJ.Gen.jsonEscapeTable`, `MJ.Gen.jinja*Sep`) are regenerated from the sources on every run.
-/
namespace MJ.C16
open MJ.Serde MJ.Json MJ.ValueSer MJ.JsonSer

/-- The property, at full strength, about the model. -/
def C16_full : Prop :=
  -- (1) every well-formed datum of every shape deserialises from its serialisation to itself
  (∀ (s : Shape) (d : D), wf s d = true → de s (ser s d) = .ok d) ∧
  -- (2) embedded template values come back as the very same values, from any registry state,
  --     and the stateful serialiser agrees with the pure one everywhere
  (∀ (v : V) (st : HState), (serM .value (.val v) st).1 = v) ∧
  (∀ (s : Shape) (d : D) (st : HState), (serM s d st).1 = ser s d) ∧
  -- (3) the handle registry: insert-then-remove yields the value, leaves all other handles alone,
  --     and does not keep the handle
  (∀ (r : Registry) (h : Nat) (v : V), ((r.insert h v).remove h).1 = some v) ∧
  (∀ (r : Registry) (h h' : Nat) (v : V), h' ≠ h → ((r.insert h v).remove h).2.lookup h' = r.lookup h') ∧
  (∀ (r : Registry) (h : Nat) (v : V), r.lookup h = none → ((r.insert h v).remove h).2.lookup h = none) ∧
  (∀ (ops : List RegOp), (runReg ops Registry.empty).2 = (runMap ops (fun _ => none)).2) ∧
  -- (4) tojson output never contains < > & '   (for every text serde_json could have produced)
  (∀ (text : List Char) (c : Char), c ∈ tojson text → c ≠ '<' ∧ c ≠ '>' ∧ c ≠ '&' ∧ c ≠ '\'') ∧
  -- (5) every string, escaped by serde_json and post-processed by tojson (or not: auto-escaping),
  --     is read back exactly by a strict JSON string reader, wherever it occurs in the text
  (∀ (s rest : List Char), parseStrBody (tojson (escBody s) ++ '"' :: rest) = some (s, rest)) ∧
  (∀ (s rest : List Char), parseStrBody (escBody s ++ '"' :: rest) = some (s, rest)) ∧
  (∀ (s : List Char), parseJ (tojson (writeJ .jinja (.str s))) = some (.str s)) ∧
  (∀ (s : List Char), parseJ (writeJ .compact (.str s)) = some (.str s)) ∧
  -- (6) whole documents: for every value that has a JSON image (keys by string form, none / undefined /
  --     non-finite floats null, bytes as numbers, integers of every width, finite floats by their token),
  --     the text written by any of the engine's formatters — compact, Jinja separators, pretty with
  --     every indent — and post-processed by tojson (or not: auto-escaping) reads back as that image
  (∀ (v : V) (st : Style) (j : J), jsonOf v = .ok j →
      parseJ (tojson (writeJ st j)) = some j ∧ parseJ (writeJ st j) = some j) ∧
  -- (7) `de` decides every object-free value for every shape without embedded `Value`s
  (∀ (s : Shape) (v : V), valueFree s = true → objFree v = true → de s v ≠ .error .unmodelled) ∧
  -- (8) towards an external serializer (serde_json for tojson / auto-escaping) a value keeps serde's
  --     length contract: an announced `Some(n)` is exactly the number of elements / entries that
  --     follow, for every object whose iterator reports an honest size hint
  (∀ (lv : LV), Honest lv → ContractOK (serCalls lv)) ∧
  -- (9) end to end: the text serde_json (modelled on the call stream, with its `Some(0)` shortcut and the
  --     pretty formatter's indent counter) writes for a value — through tojson with any formatter or
  --     through auto-escaping — reads back as the value's JSON image
  (∀ (lv : LV) (st : Style) (j : J), Honest lv → jsonOf (toV false lv) = .ok j →
      ∃ t, writeCalls st (serCalls lv) = .ok t ∧ parseJ (tojson t) = some j ∧ parseJ t = some j) ∧
  -- (10) the internal-serialisation flag is restored by every conversion, nested and unwinding ones included
  (∀ (c : Conv) (flag : Bool), (runConv c flag).1 = flag) ∧
  -- (11) no *byte* of the UTF-8 encoding of tojson output is one of < > & '
  (∀ (text : List Char) (b : Nat), b ∈ utf8Encode (tojson text) → b ≠ 60 ∧ b ≠ 62 ∧ b ≠ 38 ∧ b ≠ 39) ∧
  -- (12) the round trip also holds through serde's buffering read path (untagged / internally tagged enums, flatten)
  --      and through a `Serde<T>` call argument
  (∀ (s : Shape) (d : D), wf s d = true → de s (normV (ser s d)) = .ok d) ∧
  (∀ (s : Shape) (d : D), wf s d = true → argConv s (.value (ser s d)) = .ok d) ∧
  -- (13) plain data read back into a `Value` keeps its JSON image
  (∀ (v w : V), cleanV v = true → reval v = .ok w → jsonOf w = jsonOf v)

/-- `T::deserialize(Value::from(Serde(x))) = x` for every shape of the serde data model
(bool, 8…64-bit integers in range, f32/f64 bit patterns except signalling f32 NaNs, char, string,
bytes, options of payloads that cannot themselves be `none`, unit, sequences, tuples, maps with
pairwise different float-free keys, unit/newtype/tuple/field structs, enums with
unit/newtype/tuple/struct variants and pairwise different names), nested arbitrarily. -/
theorem de_ser_roundtrip (s : Shape) (d : D) (h : wf s d = true) : de s (ser s d) = .ok d :=
  rt s d h

def exShape : Shape :=
  .struct ["id".toList, "tags".toList, "kind".toList, "pos".toList]
    [.int true 0 18446744073709551615,
     .seq (.opt .str),
     .enum ["A".toList, "B".toList, "C".toList, "D".toList]
       [.unit, .newtype (.map .char (.int false (-128) 127)), .tuple [.bool, .bytes],
        .struct ["x".toList] [.f64]],
     .tup [.f32, .nstruct .unit, .ustruct]]

def exData : D :=
  .list [.int 18446744073709551615,
         .list [.some (.str "<a>".toList), .none, .some (.str [])],
         .variant 1 (.map [(.char 'k', .int (-128)), (.char '<', .int 127)]),
         .list [.f32 2143289344, .unit, .unit]]

/-- the hypotheses are satisfiable by a deeply nested datum (u64::MAX, options, a newtype variant
holding a map with char keys, a quiet f32 NaN, units) -/
theorem exData_wf : wf exShape exData = true := by decide +kernel
example : wf exShape exData = true := exData_wf
example : de exShape (ser exShape exData) = .ok exData := de_ser_roundtrip _ _ exData_wf

/-- why the statement only promises options of non-optional payloads: `Some(())` is `None` -/
example : de (.opt .unit) (ser (.opt .unit) (.some .unit)) = .ok .none := by rfl
/-- why signalling f32 NaNs are excluded: the conversion to f64 quiets them -/
example : narrow (widen 2139095041) = 2143289345 := by decide

/-- the f32 leg on its own: widening to f64 and narrowing back is the identity on bit patterns -/
theorem f32_roundtrip (b : Nat) (hb : b < 4294967296) (hq : isSNaN32 b = false) : narrow (widen b) = b :=
  narrow_widen b hb hq

example : isSNaN32 8388607 = false ∧ (8388607 : Nat) < 4294967296 := by decide  -- largest subnormal

/-- An embedded `Value` (safe string, undefined, dynamic object, …) serialised inside any data
comes back as the very same value, whatever handles earlier (leaked) serialisations left in the
registry and wherever the wrapping handle counter stands. -/
theorem value_embedding_identity (v : V) (st : HState) : (serM .value (.val v) st).1 = v :=
  serM_fst .value (.val v) st

/-- the same inside arbitrary surrounding data: the stateful serialiser computes `ser` -/
theorem value_embedding_in_context (s : Shape) (d : D) (st : HState) : (serM s d st).1 = ser s d :=
  serM_fst s d st

/-- a registry polluted by two leaked handles, counter about to wrap, handle collides with a leaked one -/
def exState : HState :=
  { last := 4294967295, reg := { single := none, overflow := [(0, .str "stale".toList false), (7, .undefined)] } }

example : (serM (.struct ["v".toList, "w".toList] [.value, .seq .value])
            (.list [.val (.str "<b>".toList true), .list [.val .undefined, .val (.obj 3)]]) exState).1
          = .map [(.str "v".toList false, .str "<b>".toList true),
                  (.str "w".toList false, .seq false [.undefined, .obj 3])] := by
  rw [value_embedding_in_context]; rfl

/-- insert-then-remove is the identity on the value … -/
theorem registry_remove_insert (r : Registry) (h : Nat) (v : V) : ((r.insert h v).remove h).1 = some v :=
  remove_insert r h v
/-- … does not disturb any other handle … -/
theorem registry_frame (r : Registry) (h h' : Nat) (v : V) (hne : h' ≠ h) :
    ((r.insert h v).remove h).2.lookup h' = r.lookup h' :=
  remove_insert_frame r h h' v hne
/-- … and does not keep the handle (no stale entry a later, wrapped-around handle could hit) -/
theorem registry_no_residue (r : Registry) (h : Nat) (v : V) (hfresh : r.lookup h = none) :
    ((r.insert h v).remove h).2.lookup h = none :=
  remove_insert_gone r h v hfresh

example : exState.reg.lookup 7 = some .undefined ∧ exState.reg.lookup 1 = none := ⟨by rfl, by rfl⟩

/-- The two-tier store (inline slot + overflow map; the fast-path condition of `insert` is
regenerated from the source as `MJ.Gen.registryInsertFastPath`) refines a finite map: for every
sequence of inserts and removes — any number of handles alive at once, resolved in any order, twice,
or never — each `remove` returns exactly what the map holds for that handle. -/
theorem registry_refines_map (ops : List RegOp) :
    (runReg ops Registry.empty).2 = (runMap ops (fun _ => none)).2 :=
  (MJ.Serde.registry_refines_map ops Registry.empty (fun _ => none) ⟨nofun, trivial⟩ (fun _ => rfl)).1

/-- the general form: from any reachable registry, with the final states related as well -/
theorem registry_refines_map_from (ops : List RegOp) (r : Registry) (m : Nat → Option V) (hinv : r.Inv)
    (hm : ∀ k, r.lookup k = m k) :
    (runReg ops r).2 = (runMap ops m).2 ∧ (∀ k, (runReg ops r).1.lookup k = (runMap ops m).1 k) :=
  let h := MJ.Serde.registry_refines_map ops r m hinv hm
  ⟨h.1, h.2.1⟩

/-- three handles alive at once (what serde's buffering does), resolved first-to-last: all come back -/
example : (runReg [.ins 1 (.str "<b>".toList true), .ins 2 .undefined, .ins 3 (.obj 9), .rem 1, .rem 2, .rem 3, .rem 2]
    Registry.empty).2 = [some (.str "<b>".toList true), some .undefined, some (.obj 9), none] := by rfl

theorem tojson_table_clean : replClean MJ.Gen.tojsonReplacements = true := by decide
theorem tojson_table_covers : replCovers MJ.Gen.tojsonReplacements = true := by decide

/-- `tojson` output contains none of `< > & '`, whatever text the JSON writer produced -/
theorem tojson_alphabet (text : List Char) (c : Char) (hc : c ∈ tojson text) :
    c ≠ '<' ∧ c ≠ '>' ∧ c ≠ '&' ∧ c ≠ '\'' := by
  have h := postT_alphabet MJ.Gen.tojsonReplacements tojson_table_clean tojson_table_covers text c hc
  simp only [forbidden, List.mem_cons, List.not_mem_nil, or_false, not_or] at h
  exact ⟨h.1, h.2.1, h.2.2.1, h.2.2.2⟩

example : tojson "<a href='x'>&".toList = "\\u003ca href=\\u0027x\\u0027\\u003e\\u0026".toList := by decide +kernel

theorem tojson_table_ok : TableOK MJ.Gen.tojsonReplacements := ⟨by decide +kernel, by decide +kernel⟩

/-- every string — control characters, quotes, backslashes, literal `\ud800` text, U+2028/9, HTML
metacharacters — escaped by serde_json and made HTML-safe by `tojson` is read back exactly -/
theorem tojson_string_parses_back (s rest : List Char) :
    parseStrBody (tojson (escBody s) ++ '"' :: rest) = some (s, rest) :=
  parse_escaped MJ.Gen.tojsonReplacements tojson_table_ok s rest

/-- the same for JSON auto-escaping (no post-processing) -/
theorem autoescape_string_parses_back (s rest : List Char) :
    parseStrBody (escBody s ++ '"' :: rest) = some (s, rest) := by
  have := parse_escaped [] tableOK_nil s rest
  rwa [postT_nil] at this

example : escBody ['\x00', '"', '\\', '<', ' ', 'é'] = "\\u0000\\\"\\\\< é".toList := by decide +kernel

/-- any JSON value whose number tokens are well-formed, written in any style and made HTML-safe,
reads back as itself -/
theorem document_parses_back (st : Style) (j : J) (hj : NumOK j) :
    parseJ (tojson (writeJ st j)) = some j ∧ parseJ (writeJ st j) = some j := by
  refine ⟨parseJ_postT_writeJ MJ.Gen.tojsonReplacements tojson_table_ok structOK_tojson st j hj, ?_⟩
  have := parseJ_postT_writeJ [] tableOK_nil structOK_nil st j hj
  rwa [postT_nil] at this

/-- `{{ s|tojson }}` for a string is a JSON document that reads back as that string -/
theorem tojson_parses_back (s : List Char) : parseJ (tojson (writeJ .jinja (.str s))) = some (.str s) :=
  (document_parses_back .jinja (.str s) trivial).1

/-- `{{ s }}` under JSON auto-escaping likewise -/
theorem autoescape_parses_back (s : List Char) : parseJ (writeJ .compact (.str s)) = some (.str s) :=
  (document_parses_back .compact (.str s) trivial).2

example : parseJ (tojson (writeJ .jinja (.str "</script>\\ud800\n".toList))) = some (.str "</script>\\ud800\n".toList) :=
  tojson_parses_back _

/-- the float printer (`f64Text`, ryu's shortest round-trip text laid out by `format64`) always yields a
JSON number token, so a document reads back with that very token.  (That the token *denotes* the same double
is `float_token_roundtrip` below; the differential run also checks it bit-exactly against Python's correctly
rounded reader.) -/
theorem float_text_is_json_number (bits : Nat) : tokOK (f64Text bits) := tokOK_f64Text bits

/-- `{{ v|tojson }}`, `{{ v|tojson(indent) }}` for every indent, and `{{ v }}` under JSON
auto-escaping: for every value the emitted text parses back to the value's JSON image (nested arrays /
objects, non-string keys by their string form, none / undefined / non-finite floats null, bytes as numbers,
integers of every width incl. 128 bit, finite floats by their token) -/
theorem tojson_parses_back_all (v : V) (st : Style) (j : J) (hj : jsonOf v = .ok j) :
    parseJ (tojson (writeJ st j)) = some j ∧ parseJ (writeJ st j) = some j :=
  document_parses_back st j (jsonOf_numOK v j hj)

/-- the values without finite floats, where no number token comes from the float printer -/
theorem tojson_parses_back_full (v : V) (st : Style) (j : J) (hff : floatFreeV v = true)
    (hj : jsonOf v = .ok j) : parseJ (tojson (writeJ st j)) = some j ∧ parseJ (writeJ st j) = some j :=
  tojson_parses_back_all v st j hj

/-- the iteration order of the BTreeMap build only permutes the members -/
theorem map_order_is_permutation (kvs : List (V × V)) : (sortEntries kvs).Perm kvs := by
  have hins : ∀ (p : V × V) (l : List (V × V)), (insertSorted p l).Perm (p :: l) := by
    intro p l
    induction l with
    | nil => simp [insertSorted]
    | cons q qs ih =>
      simp only [insertSorted]
      split
      · exact List.Perm.refl _
      · exact (List.Perm.cons q ih).trans (List.Perm.swap p q qs)
  induction kvs with
  | nil => simp [sortEntries]
  | cons p ps ih =>
    simp only [sortEntries, List.foldr_cons] at ih ⊢
    exact (hins p _).trans (List.Perm.cons p ih)

def exValue : V :=
  .map [(.str "k<".toList false, .seq false [.int true 18446744073709551615, .none, .bool true, .undefined]),
        (.int false (-1), .map [(.bool true, .str "</script>'&".toList true), (.str [] false, .bytes [0, 255])]),
        (.int true 340282366920938463463374607431768211455, .seq true []),
        (.str "nan".toList false, .f64 9221120237041090560)]

example : floatFreeV exValue = true := by decide
example : ∃ j, jsonOf exValue = .ok j := ⟨_, rfl⟩

/-- for every shape without embedded `Value` fields and every value without dynamic objects, `de`
returns `ok d` or the error class `err` (never the `unmodelled` marker): serde's lenient conversions
(integer ranges, integer → float, bytes ↔ string ↔ sequence, identifiers by name / index / bytes,
unit from none / undefined) are all inside the model -/
theorem de_total_classification (s : Shape) (v : V) (hs : valueFree s = true) (hv : objFree v = true) :
    de s v ≠ .error .unmodelled :=
  decided_de s v hs hv

example : valueFree exShape = true ∧ objFree (ser exShape exData) = true := ⟨by decide, by rfl⟩

/-- every sequence-like object (lists, tuples, one-shot iterators, `make_iterable` adapters, custom
objects with any `Enumerator` answer) announces `Some(n)` to the external serializer only when
exactly `n` elements follow; maps announce nothing -/
theorem serialize_contract (lv : LV) (h : Honest lv) : ContractOK (serCalls lv) := contract_serCalls lv h

theorem announced_len_exact (en : En) (xs : List LV) (h : Honest (.lazy en xs)) (n : Nat) (elems : List Call)
    (hc : serCalls (.lazy en xs) = .seq (some n) elems) : elems.length = n :=
  MJ.ValueSer.announced_len_exact en xs h n elems hc

/-- a one-shot iterator (hint `(0, None)`) with three items inside a list: nothing is announced for it -/
example : serCalls (.list false [.lazy (.hinted 0 none) [.leaf (.int false 1), .leaf (.int false 2), .leaf (.int false 3)]])
    = .seq (some 1) [.seq none [.int 1, .int 2, .int 3]] := rfl
example : Honest (.list false [.lazy (.hinted 0 none) [.leaf (.int false 1), .leaf (.int false 2), .leaf (.int false 3)]]) := by
  simp [Honest, HonestList, enHonest, isScalarV]

/-- `impl Serialize for Value` → serde_json's serializer (modelled call by call, including the
`len == Some(0)` shortcut and `PrettyFormatter`'s indent counter) → `tojson` post-processing → a
strict JSON reader: the value's JSON image comes back, for every formatter, for every value whose
objects report honest lengths -/
theorem engine_json_end_to_end (lv : LV) (st : Style) (j : J) (h : Honest lv) (hj : jsonOf (toV false lv) = .ok j) :
    ∃ t, writeCalls st (serCalls lv) = .ok t ∧ parseJ (tojson t) = some j ∧ parseJ t = some j := by
  refine ⟨writeJ st j, writeCalls_value st lv j h hj, ?_⟩
  exact tojson_parses_back_all (toV false lv) st j hj

/-- why the length contract matters: an announced `Some(0)` followed by an element makes serde_json
write an already closed array (compact) or underflow its indent counter (pretty) -/
example : writeCalls .jinja (.seq (some 0) [.bool true]) = .ok "[], true]".toList := by rfl
example : writeCalls (.pretty 2) (.seq (some 0) [.int 1]) = .panic := by rfl
example : writeCalls (.pretty 2) (.seq none [.unit, .seq (some 0) []]) = .ok "[\n  null,\n  []\n]".toList := by rfl

/-- every `Value::from(Serde(x))` leaves `INTERNAL_SERIALIZATION` as it found it, whatever is nested
inside and whether or not the serialisation panics (the guard's `drop` runs while unwinding) -/
theorem serialization_flag_restored (c : Conv) (flag : Bool) : (runConv c flag).1 = flag :=
  runConv_restores c flag

example : runConv (.conv [.conv [] false, .conv [.conv [] true] false, .conv [] false] false) false = (false, true) := by
  decide

/-! ## tie to the sources

The facts of the sources the models above transcribe, regenerated from /repo (and from the locked
serde_json) on every run by `lib/tables/c16.py`; if one of them changes, this theorem — or the
extraction — fails and the tie is reported broken. -/

theorem source_tie :
    -- `impl Serialize for Value`: sequences announce `o.enumerator_len()`, maps announce nothing
    MJ.Gen.valueSerSeqLen = "o.enumerator_len()" ∧ MJ.Gen.valueSerMapLen = "None" ∧
    -- `Enumerator::query_len` (= `enLen`)
    MJ.Gen.enumeratorQueryLen =
      [("Empty", "zero"), ("Iter", "exact_hint"), ("KeyValueIter", "exact_hint"), ("NonEnumerable", "none"),
       ("RevIter", "exact_hint"), ("RevKeyValueIter", "exact_hint"), ("Seq", "n"), ("Str", "len"), ("Values", "len")] ∧
    -- serde_json: the `len == Some(0)` shortcut and the pretty formatter's counters (= `wCall`, `endC`)
    MJ.Gen.serdeJsonEmptyShortcut = true ∧ MJ.Gen.serdeJsonPrettyCounter = true ∧
    -- value handles are u32 (= `serValueM`), the flag guard restores the previous flag (= `runConv`)
    MJ.Gen.valueHandleBits = 32 ∧ MJ.Gen.serializationGuardRestores = true := by
  exact ⟨rfl, rfl, rfl, rfl, rfl, rfl, rfl⟩

/-- what reaches an HTML parser is the UTF-8 encoding of the filter's output: none of its *bytes* is
`<`, `>`, `&` or `'` (all bytes of a multi-byte sequence are ≥ 0x80) -/
theorem tojson_alphabet_bytes (text : List Char) (b : Nat) (hb : b ∈ utf8Encode (tojson text)) :
    b ≠ 60 ∧ b ≠ 62 ∧ b ≠ 38 ∧ b ≠ 39 := by
  have h := postT_alphabet_bytes MJ.Gen.tojsonReplacements tojson_table_clean tojson_table_covers text b hb
  simp only [forbiddenBytes, List.mem_cons, List.not_mem_nil, or_false, not_or] at h
  exact ⟨h.1, h.2.1, h.2.2.1, h.2.2.2⟩

example : utf8Encode (tojson "é<€'𝄞".toList) =
    [195, 169, 92, 117, 48, 48, 51, 99, 226, 130, 172, 92, 117, 48, 48, 50, 55, 240, 157, 132, 158] := by decide +kernel

/-- map keys that have no JSON string form — none, undefined, bytes, sequences, maps, invalid values,
non-finite floats — make the serialiser refuse (the filter fails, nothing is emitted); every other
object-free key has one: strings as they are, integers and finite floats by their digits, booleans
`true` / `false` -/
theorem key_string_forms (k : V) (hk : objFree k = true) :
    (keyOf k = .refuse ↔
      (k = .none ∨ k = .undefined ∨ k = .invalid ∨ (∃ b, k = .bytes b) ∨ (∃ t xs, k = .seq t xs) ∨ (∃ kvs, k = .map kvs) ∨
       (∃ b, k = .f64 b ∧ f64Finite b = false))) ∧
    (keyOf k ≠ .unmodelled) := by
  cases k with
  | f64 b =>
    by_cases hf : f64Finite b = true
    · simp [keyOf, hf]
    · simp only [Bool.not_eq_true] at hf
      simp [keyOf, hf]
  | obj i => simp [objFree] at hk
  | _ => simp [keyOf]

def keyIs (k : V) (t : String) : Bool :=
  match keyOf k with
  | .ok s => s == t.toList
  | _ => false

example : keyIs (.int true 18446744073709551615) "18446744073709551615" = true ∧ keyIs (.bool true) "true" = true ∧
    keyIs (.f64 4609434218613702656) "1.5" = true ∧ keyIs (.int false (-7)) "-7" = true := by
  refine ⟨by decide +kernel, by decide +kernel, by decide +kernel, by decide +kernel⟩
example : keyOf (.seq true [.int false 1]) = .refuse ∧ keyOf .none = .refuse := ⟨rfl, rfl⟩

/-- `Value` itself as the target (`Value::deserialize(v)`, a `Value` field of a derived type, owned and
borrowed): plain data — no dynamic objects, no invalid values — reads back as its normal form
(`undefined` as `none`, strings without the safe flag, tuples as lists), nothing else changes -/
theorem value_target_reads_data (v : V) (h : cleanV v = true) : reval v = .ok (normV v) :=
  reval_clean v h

/-- … and the normal form has the same JSON image: reading a value back into a `Value` and
printing it with `tojson` gives the text the original would have given -/
theorem value_target_keeps_json_image (v w : V) (h : cleanV v = true) (hw : reval v = .ok w) :
    jsonOf w = jsonOf v := by
  rw [reval_clean v h] at hw
  injection hw with hw
  rw [← hw]
  exact jsonOf_normV v

example : cleanV exValue = true := by decide
example : reval (.seq true [.undefined, .str "<b>".toList true, .int true 18446744073709551615]) =
    .ok (.seq false [.none, .str "<b>".toList false, .int true 18446744073709551615]) := by rfl
example : reval (.seq false [.obj 1]) = .error .unmodelled ∧ reval (.map [(.str [] false, .invalid)]) = .error .err :=
  ⟨rfl, rfl⟩

/-- serde's buffering read path — untagged and internally tagged enums, `#[serde(flatten)]` — first
copies the value into serde's own `Content` tree by `deserialize_any` (which forgets exactly what
`normV` forgets: undefined vs none, the safe flag, tuple vs list) and then drives the visitor of the
type from that copy.  `de` cannot tell a value from its normal form … -/
theorem buffered_read_same (s : Shape) (v : V) : de s (normV v) = de s v := de_normV s v

/-- … hence the round trip also holds through the buffer -/
theorem buffered_roundtrip (s : Shape) (d : D) (h : wf s d = true) : de s (normV (ser s d)) = .ok d := by
  rw [de_normV, rt s d h]

/-- (the copy differs from the value: the tuple inside became a list) -/
example : normV (.seq true [.undefined]) = .seq false [.none] := rfl
example : de exShape (normV (ser exShape exData)) = .ok exData := buffered_roundtrip _ _ exData_wf

/-- `preserve_order` build (IndexMap): a new key goes to the end … -/
theorem indexmap_new_key_goes_last (m : List (V × V)) (k v : V) (h : ∀ p ∈ m, keyEq p.1 k = false) :
    mapInsert m k v = m ++ [(k, v)] :=
  mapInsert_fresh m k v h

/-- … an existing key keeps its position and takes the new value … -/
theorem indexmap_existing_key_keeps_position (pre post : List (V × V)) (k k' v v' : V)
    (hpre : ∀ p ∈ pre, keyEq p.1 k = false) (hk : keyEq k' k = true) :
    mapInsert (pre ++ (k', v') :: post) k v = pre ++ (k', v) :: post := by
  rw [mapInsert_append pre _ k v hpre, mapInsert, if_pos hk]

/-- … so entries with pairwise different keys are listed (and printed by `tojson`) in insertion order;
the default build (BTreeMap) lists a permutation of them (`map_order_is_permutation`), the one
`Value::cmp` sorts them into, which the correspondence run predicts member by member -/
theorem indexmap_insertion_order (kvs : List (V × V)) (h : distinctKeys (kvs.map Prod.fst) = true) :
    buildMap kvs = kvs :=
  buildMap_distinct kvs h

example : buildMap [(.str "b".toList false, .int false 1), (.str "a".toList false, .int false 2), (.str "b".toList true, .int false 3)]
    = [(.str "b".toList false, .int false 3), (.str "a".toList false, .int false 2)] := by rfl

/-- `Serde<T>` as the type of a function / filter / test / method parameter: a serialised datum
handed to the call arrives as the original datum -/
theorem arg_roundtrip (s : Shape) (d : D) (h : wf s d = true) : argConv s (.value (ser s d)) = .ok d := by
  simp only [argConv, rt s d h]

/-- a `Serde<T>` parameter is never filled from the keyword arguments or from nothing -/
theorem arg_needs_value (s : Shape) :
    argConv s .missing = .error .missingArgument ∧ argConv s .kwargs = .error .invalidOperation :=
  ⟨rfl, rfl⟩

/-- `Option<Serde<T>>`: `none` means "not given", so the round trip holds for every `T` that cannot
serialise to `none` -/
theorem arg_opt_roundtrip (s : Shape) (d : D) (hs : mayBeNone s = false) (h : wf s d = true) :
    argConvOpt s (.value (ser s d)) = .ok (some d) :=
  by
  have hn := ser_not_noneLike s d hs h
  have hr := arg_roundtrip s d h
  unfold argConvOpt
  split
  · rename_i heq; cases heq
  · rename_i heq; injection heq with heq; rw [heq] at hn; cases hn
  · rename_i heq; injection heq with heq; rw [heq] at hn; cases hn
  · rw [hr]

example : argConv exShape (.value (ser exShape exData)) = .ok exData := arg_roundtrip _ _ exData_wf
example : mayBeNone exShape = false := by decide
example : argConvOpt (.opt .bool) (.value (ser (.opt .bool) .none)) = .ok none := by rfl

/-- Every method of serde's `Serializer` and `Deserializer` traits (regenerated from the locked
serde_core) is accounted for: `ValueSerializer` implements exactly the methods `MJ.Serde.ser`
transcribes; `impl Deserializer for Value` answers `deserialize_any`, `_option`, `_enum`,
`_unit_struct`, `_newtype_struct` itself, forwards the 24 other hints to `deserialize_any` and leaves
`deserialize_i128` / `_u128` to the trait's provided body (an error: 128-bit integers cannot be
deserialised); the borrowed deserializer implements the same five methods by delegating to the
owned one -/
theorem all_serde_methods_modelled :
    (MJ.Gen.serdeSerializerTrait.map (·.1) = MJ.SerdeMethods.serModel.map (·.1)) ∧
    (MJ.Gen.valueSerializerMethods = MJ.SerdeMethods.serModel.map (·.1)) ∧
    (MJ.Gen.valueCompoundSerializers = MJ.SerdeMethods.compoundModel) ∧
    (MJ.Gen.serdeDeserializerTrait.map (fun p => (p.1, MJ.SerdeMethods.disp p.1)) = MJ.SerdeMethods.deModel) ∧
    (MJ.Gen.refValueDeserializerExplicit = MJ.Gen.valueDeserializerExplicit ∧ MJ.Gen.refValueDeserializerDelegates = true) ∧
    -- no impl overrides anything else of the traits (`is_human_readable`, `collect_str`, …)
    (MJ.Gen.valueSerdeImplOtherFns = []) :=
  ⟨rfl, rfl, rfl, MJ.SerdeMethods.dispatch_table, ⟨rfl, rfl⟩, rfl⟩

/-- the method a type of shape `s` calls has a body of its own exactly for options, unit structs,
newtype structs and enums (and `Value`); every other hint is ignored, which is why `de` may decide
by the value alone -/
theorem shape_dispatch (s : Shape) :
    MJ.SerdeMethods.disp (MJ.SerdeMethods.methodOfShape s) =
      (if MJ.SerdeMethods.ownArm s then .explicit else .forwardAny) := by
  -- row by row, the dispatch table says what `disp` is on each method name
  have h := MJ.SerdeMethods.dispatch_table
  simp only [MJ.Gen.serdeDeserializerTrait, List.map_cons, List.map_nil, MJ.SerdeMethods.deModel, List.cons.injEq,
    Prod.mk.injEq, true_and, and_true] at h
  cases s with
  | int u lo hi =>
    cases u <;> simp only [MJ.SerdeMethods.methodOfShape, MJ.SerdeMethods.ownArm] <;> (repeat' split) <;>
      simp only [h] <;> rfl
  | _ => simp only [MJ.SerdeMethods.methodOfShape, MJ.SerdeMethods.ownArm, h] <;> rfl

example : MJ.SerdeMethods.methodOfShape exShape = "deserialize_struct" ∧
    MJ.SerdeMethods.disp "deserialize_i128" = .unsupported := ⟨rfl, by decide +kernel⟩

/-- `deserialize_ignored_any` is forwarded like every other hint: an entry that names no field is
still walked, so an invalid value (or a plain object) inside it fails the whole struct -/
theorem ignored_fields_are_walked (names : List Str) (ss : List Shape) (kvs : List (V × V)) (e : Err)
    (hk : allStrKeys kvs = true) (h : ignoredOK names kvs = .error e) :
    de (.struct names ss) (.map kvs) = .error e := by
  simp only [de, hk, if_true, h, guardR]

example : de (.struct ["a".toList] [.int true 0 255])
    (.map [(.str "a".toList false, .int true 1), (.str "z".toList false, .seq false [.int true 2, .invalid])]) = .error .err := by rfl
example : de (.struct ["a".toList] [.int true 0 255])
    (.map [(.str "a".toList false, .int true 1), (.str "z".toList false, .seq false [.int true 2, .undefined])]) = .ok (.list [.int 1]) := by rfl

/-- the scalar arms of `ValueSerializer`, the arms of `deserialize_any`, the bodies of the four other
explicit methods and the arms of `impl Serialize for Value` towards an external serializer, as the
sources have them now, are the ones `ser`, `de`, `serCalls` / `jsonOf` transcribe -/
theorem serde_arms_as_modelled :
    MJ.Gen.valueSerializerPrimArms = MJ.SerdeMethods.primArmsModel ∧
    MJ.Gen.valueDeserializeAnyArms = MJ.SerdeMethods.anyArmsModel ∧
    MJ.Gen.valueDeserializeOptionAsModelled = true ∧
    MJ.Gen.valueDeserializeUnitStruct = "self.deserialize_unit(visitor)" ∧
    MJ.Gen.valueDeserializeNewtypeStruct = "visitor.visit_newtype_struct(self)" ∧
    MJ.Gen.valueSerializeExternalArms = MJ.SerdeMethods.externalArmsModel :=
  ⟨rfl, rfl, rfl, rfl, rfl, rfl⟩

/-- `impl ArgType for Serde<T>` (keyword arguments refused, nothing = missing argument, otherwise
`T::deserialize(value)`) and `impl ArgType for Option<T>` (nothing / none / undefined = `None`) read as
`argConv` / `argConvOpt` transcribe them -/
theorem arg_conversion_as_modelled :
    MJ.Gen.serdeArgTypeAsModelled = true ∧ MJ.Gen.optionArgTypeAsModelled = true := ⟨rfl, rfl⟩

open MJ.SerdeDispatch in
/-- `deserialize_any`, `_option`, `_enum`, `_unit_struct`, `_newtype_struct` and the four variant accesses
(`unit_variant`, `newtype_variant_seed`, `tuple_variant`, `struct_variant`), read arm by arm from
deserialize.rs as it is now (`SERDE_DE_DISPATCH`: a Rust `match` takes the first arm whose pattern
selects the source), do on each of the 16 representations — and on the absent payload of a variant —
exactly what the dispatch written by kind (`spec`) says; `Value::kind()` knows every representation and
gives representations of one serde-visible kind one kind.  An arm keyed on `SmallStr` without `String`,
on `U64` without … or guarded by anything but the object's `repr()` fails this. -/
theorem deserializer_dispatch_as_modelled :
    (∀ fn ∈ valueFns, ∀ r : Repr, resolve (armsOf fn) (.val r) = spec fn (some r.skind)) ∧
    (∀ fn ∈ variantFns, ∀ s : Src, resolve (armsOf fn) s = spec fn s.skind) ∧
    (∀ r : Repr, (kindName r).isSome = true) ∧ kindsMatch = true :=
  ⟨value_fn_resolves, variant_fn_resolves, kind_total, kinds_match⟩

open MJ.SerdeDispatch in
/-- two representations of one kind — a small string and a heap or safe string, none and undefined — are
dispatched alike by every function of deserialize.rs that matches on its source -/
theorem deserializer_dispatch_is_by_kind (fn : String) (h : fn ∈ valueFns ++ variantFns) (r1 r2 : Repr)
    (hk : r1.skind = r2.skind) : resolve (armsOf fn) (.val r1) = resolve (armsOf fn) (.val r2) :=
  dispatch_by_kind fn h r1 r2 hk

open MJ.SerdeDispatch in
example : resolve (armsOf "Value::deserialize_enum") (.val .smallStr) = some "variant_is_self" ∧
    resolve (armsOf "Value::deserialize_enum") (.val .string) = some "variant_is_self" ∧
    resolve (armsOf "Value::deserialize_enum") (.val .u64) = some "err" ∧
    resolve (armsOf "Variant::tuple_variant") (.val .objIterable) = some "err" ∧
    resolve (armsOf "Variant::tuple_variant") (.val .objSeq) = some "seq_any" ∧
    resolve (armsOf "Variant::unit_variant") .absent = some "ok_unit" := by decide +kernel

open MJ.SerdeDispatch in
/-- the probe model (every trait method on every kind, run against the real code by the `rk` stream): a unit
variant named by a string of either storage, a tuple variant from a single-entry map, an option from none -/
example : probe "enum:unit" Repr.smallStr.skind (.str "Ab".toList false) = some "enum(str:4162;unit:ok)" ∧
    probe "enum:unit" Repr.string.skind (.str "Ab".toList false) = some "enum(str:4162;unit:ok)" ∧
    probe "enum:tuple" .map (.map [(.str "V".toList false, .seq false [.int true 1, .none])]) = some "enum(str:56;seq[u64:1,unit])" ∧
    probe "option" .unit .undefined = some "unit" ∧ probe "u8" .i128 (.int false 4) = some "i128:4" ∧
    probe "i128" .i64 (.int false 4) = none := by decide +kernel

/-- `shortestDec` (the digits and exponent `f64Text` lays out) is, for EVERY finite non-zero double, a decimal
inside the rounding interval of the double — between the midpoints to its neighbours, the lower one at half
distance for a power of two, end points included exactly when the significand is even — so a correctly rounded
(round-to-nearest-even) reader of `d·10^k` gives the double back.  (The exact search always stops at a
candidate: `f64Found_all`.) -/
theorem float_digits_read_back (bits : Nat) (hfin : f64Finite bits = true)
    (hnz : bits % 9223372036854775808 ≠ 0) : ReadsBack bits (shortestDec bits).1 (shortestDec bits).2 :=
  shortestDec_reads_back_all bits hfin hnz

/-- the digit search never runs out of steps -/
theorem float_digit_search_terminates (bits : Nat) (hfin : f64Finite bits = true)
    (hnz : bits % 9223372036854775808 ≠ 0) : f64Found bits = true :=
  f64Found_all bits hfin hnz

-- 0.1, 2^-1074 (the smallest subnormal), the largest double, 2^53: the search stops, and the digits are the known ones
example : f64Found 4591870180066957722 = true ∧ shortestDec 4591870180066957722 = (1, -1) ∧
    f64Found 1 = true ∧ shortestDec 1 = (5, -324) ∧
    f64Found 9218868437227405311 = true ∧ shortestDec 9218868437227405311 = (17976931348623157, 292) ∧
    f64Found 4845873199050653696 = true ∧ shortestDec 4845873199050653696 = (9007199254740992, 0) := by
  decide +kernel

-- 0.3 is not in the rounding interval of the double 0.1 + 0.2 (bits 4599075939470750516): the statement is not vacuous
example : ¬ ReadsBack 4599075939470750516 3 (-1) ∧ ReadsBack 4599075939470750516 30000000000000004 (-17) := by
  decide +kernel

/-- **the printed float token denotes the same double** (all finite doubles, ±0 included): `f64Text bits` is the
double's sign followed by a body that an independent digit-by-digit reader (`readTok`: integer part, fraction,
exponent) evaluates to a decimal inside the double's rounding interval — so every correctly rounded reader
returns the double (`float_token_reads_back`).  Rests on the transcription of ryu's output into `shortestDec` /
`layoutF` (validated: every float text is predicted character for character). -/
theorem float_token_roundtrip (bits : Nat) (hfin : f64Finite bits = true) :
    ∃ body, f64Text bits = (if bits / 9223372036854775808 % 2 = 1 then ['-'] else []) ++ body ∧
      ((bits % 9223372036854775808 ≠ 0 ∧
          ∃ d k, sameDec (readTok body).1 (readTok body).2 d k ∧ ReadsBack bits d k) ∨
        (bits % 9223372036854775808 = 0 ∧ (readTok body).1 = 0)) :=
  f64Text_denotes bits hfin

-- 0.1 + 0.2 prints as 0.30000000000000004, which the reader evaluates to 30000000000000004·10^-17; 1e21 prints
-- with an exponent; -0.0 keeps its sign
example : f64Text 4599075939470750516 = "0.30000000000000004".toList ∧
    readTok "0.30000000000000004".toList = (30000000000000004, -17) ∧
    f64Text 4921056587992461136 = "1e21".toList ∧ readTok "1e21".toList = (1, 21) ∧
    readTok "1.7976931348623157e308".toList = (17976931348623157, 292) ∧
    f64Text 9223372036854775808 = "-0.0".toList := by decide +kernel

open MJ.SerdeDispatch in
/-- whatever `Content::deserialize(value)` (untagged / internally / adjacently tagged enums, flatten) manages to
buffer — every value without invalid values, dynamic objects and 128-bit integers, dispatched by kind like
`deserialize_any` — shows a later visitor exactly the normal form `normV` of the value: none for undefined, no
safe flag, lists for tuples -/
theorem content_buffer_is_normal_form (v : V) (c : Content) (h : toContent v = some c) : ofContent c = normV v :=
  ofContent_toContent v c h

open MJ.SerdeDispatch in
/-- so a datum comes back through the buffer: reading the buffered copy of its serialisation with the visitor of
its shape gives the datum -/
theorem content_buffer_roundtrip (s : Shape) (d : D) (c : Content) (hwf : wf s d = true)
    (h : toContent (ser s d) = some c) : de s (ofContent c) = .ok d := by
  rw [ofContent_toContent _ c h]
  exact buffered_roundtrip s d hwf

open MJ.SerdeDispatch in
example : toContent (.map [(.str "a".toList true, .seq true [.undefined, .int true 7])]) =
      some (.map [(.str "a".toList, .seq [.unit, .u64 7])]) ∧
    ofContent (.map [(.str "a".toList, .seq [.unit, .u64 7])]) =
      .map [(.str "a".toList false, .seq false [.none, .int true 7])] ∧
    toContent (.seq false [.int false 170141183460469231731687303715884105727]) = none :=
  ⟨by rfl, by rfl, by rfl⟩

/-- the full statement holds for the model -/
theorem c16_full : C16_full :=
  ⟨de_ser_roundtrip, value_embedding_identity, value_embedding_in_context, registry_remove_insert,
   registry_frame, registry_no_residue, registry_refines_map, tojson_alphabet, tojson_string_parses_back,
   autoescape_string_parses_back, tojson_parses_back, autoescape_parses_back,
   tojson_parses_back_all, de_total_classification, serialize_contract, engine_json_end_to_end,
   serialization_flag_restored, tojson_alphabet_bytes, buffered_roundtrip, arg_roundtrip,
   value_target_keeps_json_image⟩

/-! ## the property about the code, with the gap between it and the model named

`c16_full` is about the model.  What the property says about `/repo` follows from it under the ties below,
each of which names how the check establishes it (a regenerated table with a theorem over it, a
correspondence stream, or validation only). -/

/-- the entry points the property observes, as functions of the code under test -/
structure Impl where
  /-- `Value::from(Serde(x))` for `x` of a type of shape `s` holding `d` -/
  toValue : Shape → D → V
  /-- `T::deserialize(value)` (owned or borrowed) for a type of shape `s` -/
  fromValue : Shape → V → R D
  /-- the text `{{ v|tojson }}` / `tojson(indent)` renders in a formatter style (`none`: the filter fails) -/
  tojsonText : Style → V → Option (List Char)
  /-- the text `{{ v }}` renders under JSON auto-escaping -/
  autoescapeText : V → Option (List Char)

/-- what ties the code to the model -/
structure Ties (I : Impl) : Prop where
  /-- `ValueSerializer` builds what `ser` builds.  Checked: streams `rt` / `x` / `buf` / `arg` compare the
  serialised value of every case with `ser`; tables `SERDE_METHODS`, `SERDE_ARMS` (`all_serde_methods_modelled`,
  `serde_arms_as_modelled`). -/
  ser_as_model : ∀ s d, wf s d = true → I.toValue s d = ser s d
  /-- the deserializer, driven by the visitor serde derives for the shape, answers what `de` answers on
  serialised data.  Checked: streams `rt` / `x` / `lde` / `rk` (every trait method on every representation);
  tables `SERDE_DE_DISPATCH` (`deserializer_dispatch_as_modelled`), `SERDE_METHODS`, `SERDE_ARMS`. -/
  de_as_model : ∀ s d, wf s d = true → I.fromValue s (ser s d) = de s (ser s d)
  /-- serde_json's writer with the engine's formatter, post-processed by the filter, emits `tojson (writeJ st j)`
  for a value with JSON image `j`.  Checked: stream `json` predicts every emitted text character for character
  (29 entry points, both map builds); tables `TOJSON_REPLACEMENTS`, `JINJA_JSON_SEPARATORS`, `SERDE_JSON_ESCAPE`,
  `SERDE_JSON_COMPOUND`, `VALUE_SERIALIZE_LENGTHS` (`source_tie`). -/
  tojson_as_model : ∀ st v j, jsonOf v = .ok j → I.tojsonText st v = some (tojson (writeJ st j))
  /-- JSON auto-escaping emits the compact text unprocessed.  Checked: stream `json`, modes `auto_*`. -/
  autoescape_as_model : ∀ v j, jsonOf v = .ok j → I.autoescapeText v = some (writeJ .compact j)

/-- **C16 about the code.**  Under the ties: (a) every well-formed datum of every shape comes back from its
template value; (b) `tojson`, in every formatter style, emits text that an independent strict JSON reader reads
back as the value's JSON image, and the text contains none of `< > & '`; (c) so does JSON auto-escaping (apart
from the alphabet); (d) with a correctly rounded reader of number tokens, a finite double printed inside any
such text is read as the same double (`CorrectlyRounded` is the specification of the reader, which is not part
of the engine: sign, then a body whose digits denote a decimal inside the double's rounding interval). -/
theorem C16_main (I : Impl) (T : Ties I) (readNumber : List Char → Option Nat)
    (hreader : CorrectlyRounded readNumber) :
    (∀ s d, wf s d = true → I.fromValue s (I.toValue s d) = .ok d) ∧
    (∀ st v j, jsonOf v = .ok j → ∃ t, I.tojsonText st v = some t ∧ parseJ t = some j ∧
        ∀ c ∈ t, c ≠ '<' ∧ c ≠ '>' ∧ c ≠ '&' ∧ c ≠ '\'') ∧
    (∀ v j, jsonOf v = .ok j → ∃ t, I.autoescapeText v = some t ∧ parseJ t = some j) ∧
    (∀ bits, bits < 18446744073709551616 → f64Finite bits = true →
        ∃ t, jsonOf (.f64 bits) = .ok (.num t) ∧ readNumber t = some bits) := by
  refine ⟨?_, ?_, ?_, ?_⟩
  · intro s d h
    rw [T.ser_as_model s d h, T.de_as_model s d h]
    exact de_ser_roundtrip s d h
  · intro st v j hj
    exact ⟨_, T.tojson_as_model st v j hj, (tojson_parses_back_all v st j hj).1,
      fun c hc => tojson_alphabet _ c hc⟩
  · intro v j hj
    exact ⟨_, T.autoescape_as_model v j hj, (tojson_parses_back_all v .compact j hj).2⟩
  · intro bits hlt hb
    exact ⟨f64Text bits, by simp only [jsonOf, hb, if_true], float_token_reads_back readNumber hreader bits hlt hb⟩

/-- the model itself is an implementation that satisfies the ties (they are not contradictory) -/
def modelImpl : Impl where
  toValue := ser
  fromValue := de
  tojsonText st v := match jsonOf v with
    | .ok j => some (tojson (writeJ st j))
    | _ => none
  autoescapeText v := match jsonOf v with
    | .ok j => some (writeJ .compact j)
    | _ => none

example : Ties modelImpl :=
  ⟨fun _ _ _ => rfl, fun _ _ _ => rfl,
   fun st v j hj => by simp only [modelImpl, hj], fun v j hj => by simp only [modelImpl, hj]⟩

end MJ.C16
