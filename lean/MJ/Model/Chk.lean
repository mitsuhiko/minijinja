/-!
# Checked machine arithmetic

`Chk α` is the result of a Rust computation that may *panic* (arithmetic overflow in a build with
overflow checks, out-of-bounds indexing, `unwrap` on `None`, division by zero).  A panic is a
distinguished outcome, never a default value, so that "no panic" is something to prove.
-/
namespace MJ

inductive Chk (α : Type) where
  | ok (a : α)
  | panic
  deriving Repr, DecidableEq

namespace Chk

@[inline] def bind {α β : Type} (x : Chk α) (f : α → Chk β) : Chk β :=
  match x with
  | .ok a => f a
  | .panic => .panic

instance : Monad Chk where
  pure := .ok
  bind := bind

instance : LawfulMonad Chk := LawfulMonad.mk'
  (id_map := fun x => by cases x <;> rfl)
  (pure_bind := fun _ _ => rfl)
  (bind_assoc := fun x _ _ => by cases x <;> rfl)

@[simp] theorem pure_eq {α : Type} (a : α) : (pure a : Chk α) = .ok a := rfl
@[simp] theorem ok_bind {α β : Type} (a : α) (f : α → Chk β) : (Chk.ok a >>= f) = f a := rfl
@[simp] theorem panic_bind {α β : Type} (f : α → Chk β) : (Chk.panic >>= f) = .panic := rfl

/-- a value of Rust type `i64`: the operation panics when the exact result does not fit -/
def i64 (x : Int) : Chk Int :=
  if -(9223372036854775808 : Int) ≤ x ∧ x < 9223372036854775808 then .ok x else .panic

/-- a value of Rust type `usize` (64 bit) -/
def usize (x : Int) : Chk Nat :=
  if 0 ≤ x ∧ x < 18446744073709551616 then .ok x.toNat else .panic

theorem usize_ok (x : Int) (h0 : 0 ≤ x) (h1 : x < 18446744073709551616) : usize x = .ok x.toNat := if_pos ⟨h0, h1⟩

/-- a value of Rust type `isize` (64 bit) -/
def isize (x : Int) : Chk Int := i64 x

/-- a value of Rust type `u16` -/
def u16 (x : Int) : Chk Nat :=
  if 0 ≤ x ∧ x < 65536 then .ok x.toNat else .panic

/-- the wrapping cast `x as usize` of an `i64` -/
def asUsize (x : Int) : Nat := (x % (18446744073709551616 : Int)).toNat

/-- the wrapping cast `x as i64` of a `usize` -/
def asI64 (x : Nat) : Int :=
  let y : Int := (x : Int) % 18446744073709551616
  if y < 9223372036854775808 then y else y - 18446744073709551616

/-- `xs[i]` on a slice/Vec -/
def index {α : Type} (xs : List α) (i : Nat) : Chk α :=
  match xs[i]? with
  | some a => .ok a
  | none => .panic

/-- `a / b` on unsigned integers -/
def udiv (a b : Nat) : Chk Nat := if b = 0 then .panic else .ok (a / b)

def InI64 (x : Int) : Prop := -(9223372036854775808 : Int) ≤ x ∧ x < 9223372036854775808
def OptInI64 : Option Int → Prop
  | none => True
  | some x => InI64 x

end Chk
end MJ
