import MJ.Model.Reloader
/-!
# Lifetime of the reloader: notifier handles that outlive it, and several reloaders

`AutoReloader.notifier` holds the ONLY strong handle (`NotifierImplHandle::Strong`, made in the private
`Notifier::new`, which only `AutoReloader::new` calls); every notifier that leaves the reloader
(`AutoReloader::notifier()`, the creator's argument) is `Weak` (tied to the source by
`MJ.C20.one_strong_handle_per_reloader`).  So:

* while the reloader exists every `handle()` upgrade succeeds — the protocol is `MJ.Reloader.step`;
* `drop(reloader)` needs exclusive ownership: no `acquire_env` call is in progress, no guard alive
  (`cur = none`), and nobody can call `acquire_env` afterwards;
* afterwards every notifier entry point finds `handle() = None` and does nothing — except a
  `request_reload` that had already upgraded (it is between its two critical sections and holds a strong
  `Arc` of its own): it finishes, on state nobody reads any more.

Two reloaders have two `NotifierImpl`s: the product system steps one component at a time.
-/
namespace MJ.Reloader

structure LState where
  base : State
  alive : Bool := true          -- the AutoReloader exists
  deadCalls : Nat := 0          -- notifier calls that found the notifier dead
  deriving Repr

inductive LEv where
  | thread (i : Nat)            -- thread `i` takes its next step
  | drop                        -- the reloader is dropped
  deriving DecidableEq, Repr

/-- a step of thread `i` after the reloader is gone -/
def stepDead (σ : State) (i : Nat) : Option State :=
  let t := σ.now
  match σ.threads[i]? with
  | some .reqIdle => some { σ with now := t + 1, threads := σ.threads.set i .reqDone }
  | some (.reqSet s) =>
    -- upgraded before the drop: it still owns the state and finishes its second critical section
    some { σ with now := t + 1, reqLog := ⟨s, t, i⟩ :: σ.reqLog, onCalls := σ.onCalls + 1,
                  threads := σ.threads.set i .reqDone }
  | some (.fastIdle _) => some { σ with now := t + 1, threads := σ.threads.set i .fastDone }
  | some (.cbIdle _) => some { σ with now := t + 1, threads := σ.threads.set i .cbDone }
  | some .watchIdle => some { σ with now := t + 1, threads := σ.threads.set i .watchDone }
  | some (.persistIdle _) => some { σ with now := t + 1, threads := σ.threads.set i .persistDone }
  | _ => none     -- in particular `acqIdle`: there is no reloader to call `acquire_env` on

/-- does this step of a dead notifier count as a call that found it dead? -/
def isDeadCall (σ : State) (i : Nat) : Bool :=
  match σ.threads[i]? with
  | some (.reqSet _) => false
  | _ => true

def lstep (l : LState) : LEv → Option LState
  | .drop =>
    if l.alive && l.base.cur.isNone then
      some { l with alive := false, base := { l.base with now := l.base.now + 1 } }
    else none
  | .thread i =>
    if l.alive then (step l.base i).map fun σ' => { l with base := σ' }
    else (stepDead l.base i).map fun σ' =>
      { l with base := σ', deadCalls := if isDeadCall l.base i then l.deadCalls + 1 else l.deadCalls }

def linit (ths : List Thread) : LState := { base := init ths }

inductive LReachable : LState → Prop where
  | init (ths : List Thread) (h : ∀ t ∈ ths, t.initial = true) : LReachable (linit ths)
  | step {l l' : LState} (ev : LEv) (h : LReachable l) (hs : lstep l ev = some l') : LReachable l'

def lrun (l : LState) : List LEv → LState
  | [] => l
  | ev :: evs => lrun ((lstep l ev).getD l) evs

theorem lreachable_run {l : LState} (h : LReachable l) (evs : List LEv) : LReachable (lrun l evs) := by
  induction evs generalizing l with
  | nil => exact h
  | cons ev evs ih =>
    simp only [lrun]
    cases hs : lstep l ev with
    | none => simpa using ih h
    | some l' => exact ih (LReachable.step ev h hs)

/-! ## theorems -/

/-- the part of the state anybody can observe through the reloader or that decides a reload -/
def protocolState (σ : State) :=
  (σ.flag, σ.fast, σ.env, σ.cur, σ.creates, σ.clears, σ.acqLog, σ.sets, σ.cbConst, σ.persistent, σ.watching)

/-- **while the reloader exists the lifetime model IS the protocol model**: every reachable alive state's
    base is a reachable state of `MJ.Reloader` (so all of C20's theorems hold for it) -/
theorem lstep_alive {l l' : LState} {ev : LEv} (hs : lstep l ev = some l') (ha : l'.alive = true) :
    l.alive = true ∧ ∃ i, step l.base i = some l'.base := by
  cases ev with
  | drop =>
    simp only [lstep] at hs
    split at hs
    · cases hs; simp at ha
    · cases hs
  | thread i =>
    cases hal : l.alive with
    | true =>
      simp only [lstep, hal, if_true] at hs
      cases hb : step l.base i with
      | none => simp [hb] at hs
      | some σ' => simp [hb] at hs; cases hs; exact ⟨rfl, i, hb⟩
    | false =>
      simp only [lstep, hal] at hs
      cases hb : stepDead l.base i with
      | none => simp [hb] at hs
      | some σ' => simp [hb] at hs; cases hs; simp at ha

theorem alive_base_reachable {l : LState} (h : LReachable l) : l.alive = true → Reachable l.base := by
  induction h with
  | init ths h0 => intro _; exact .init ths h0
  | step ev hprev hs ih =>
    intro ha
    obtain ⟨hal, i, hb⟩ := lstep_alive hs ha
    exact .step i (ih hal) hb

/-- **a dead notifier does nothing, and stays dead**: after the drop no step of any thread changes the
    flag, the fast-reload switch, the callbacks, the watcher, the environment, the counters of creator
    calls and clears or the log of guards; nobody is inside `acquire_env`; the notifier never comes back -/
theorem dead_notifier_is_inert {l l' : LState} {ev : LEv} (hd : l.alive = false)
    (hs : lstep l ev = some l') :
    l'.alive = false ∧ protocolState l'.base = protocolState l.base ∧ l.deadCalls ≤ l'.deadCalls := by
  cases ev with
  | drop => simp [lstep, hd] at hs
  | thread i =>
    simp only [lstep, hd] at hs
    cases hb : stepDead l.base i with
    | none => simp [hb] at hs
    | some σ' =>
      simp [hb] at hs; cases hs
      refine ⟨rfl, ?_, by simp only; split <;> omega⟩
      unfold stepDead at hb
      split at hb <;> first | (cases hb; rfl) | cases hb

/-- no `acquire_env` after the drop: an acquirer thread is never enabled on a dead reloader -/
theorem no_acquire_after_drop {l : LState} (hd : l.alive = false) {i : Nat} {cfg : AcqCfg}
    (hi : l.base.threads[i]? = some (.acqIdle cfg)) : lstep l (.thread i) = none := by
  simp [lstep, hd, stepDead, hi]

/-- the drop needs exclusive ownership: it is enabled only when nobody is inside `acquire_env` and no
    guard is alive; and it changes nothing but the lifetime -/
theorem drop_needs_no_guard {l l' : LState} (hs : lstep l .drop = some l') :
    l.alive = true ∧ l.base.cur = none ∧ l'.alive = false ∧ protocolState l'.base = protocolState l.base := by
  simp only [lstep] at hs
  split at hs
  · rename_i h
    simp at h
    cases hs
    exact ⟨h.1, h.2, rfl, rfl⟩
  · cases hs

/-- invariant: whoever is inside `acquire_env` has a live reloader — so the `expect("notifier unexpectedly
    went away")` of `prepare_and_mark_reload` (and of `weak`) cannot fire -/
theorem lstep_cur {l l' : LState} {ev : LEv} (hs : lstep l ev = some l') (hc : l'.base.cur ≠ none)
    (ih : l.base.cur ≠ none → l.alive = true) : l'.alive = true := by
  cases hal : l.alive with
  | false =>
    have h1 := dead_notifier_is_inert hal hs
    have h2 : l'.base.cur = l.base.cur := by
      have := h1.2.1; simp only [protocolState, Prod.mk.injEq] at this; exact this.2.2.2.1
    have := ih (h2 ▸ hc)
    simp [hal] at this
  | true =>
    cases ev with
    | drop =>
      have h1 := drop_needs_no_guard hs
      have h2 : l'.base.cur = l.base.cur := by
        have := h1.2.2.2; simp only [protocolState, Prod.mk.injEq] at this; exact this.2.2.2.1
      exact absurd (h2 ▸ h1.2.1) hc
    | thread i =>
      simp only [lstep, hal, if_true] at hs
      cases hb : step l.base i with
      | none => simp [hb] at hs
      | some σ' => simp [hb] at hs; cases hs; rfl

theorem holder_implies_alive {l : LState} (h : LReachable l) : l.base.cur ≠ none → l.alive = true := by
  induction h with
  | init ths _ => intro hc; simp [linit, init] at hc
  | step ev hprev hs ih => intro hc; exact lstep_cur hs hc ih

/-! ## several reloaders -/

/-- two reloaders: two independent copies (each `AutoReloader::new` makes its own `NotifierImpl`) -/
structure PState where
  r1 : LState
  r2 : LState
  deriving Repr

/-- a step of the pair is a step of one component -/
def pstep (p : PState) (second : Bool) (ev : LEv) : Option PState :=
  if second then (lstep p.r2 ev).map fun l => { p with r2 := l }
  else (lstep p.r1 ev).map fun l => { p with r1 := l }

inductive PReachable : PState → Prop where
  | init (t1 t2 : List Thread) (h1 : ∀ t ∈ t1, t.initial = true) (h2 : ∀ t ∈ t2, t.initial = true) :
      PReachable ⟨linit t1, linit t2⟩
  | step {p p' : PState} (second : Bool) (ev : LEv) (h : PReachable p) (hs : pstep p second ev = some p') :
      PReachable p'

/-- **reloaders do not interfere**: a request, a callback registration, a drop … on one reloader leaves the
    other's state untouched, and each component is a reachable state of the single-reloader system -/
def prun (p : PState) : List (Bool × LEv) → PState
  | [] => p
  | (b, ev) :: evs => prun ((pstep p b ev).getD p) evs

theorem preachable_run {p : PState} (h : PReachable p) (evs : List (Bool × LEv)) : PReachable (prun p evs) := by
  induction evs generalizing p with
  | nil => exact h
  | cons e evs ih =>
    obtain ⟨b, ev⟩ := e
    simp only [prun]
    cases hs : pstep p b ev with
    | none => simpa using ih h
    | some p' => exact ih (PReachable.step b ev h hs)

theorem pstep_cases {p p' : PState} {second : Bool} {ev : LEv} (hs : pstep p second ev = some p') :
    (second = true ∧ p'.r1 = p.r1 ∧ lstep p.r2 ev = some p'.r2) ∨
    (second = false ∧ p'.r2 = p.r2 ∧ lstep p.r1 ev = some p'.r1) := by
  unfold pstep at hs
  cases second with
  | true =>
    simp only [if_true] at hs
    cases hb : lstep p.r2 ev with
    | none => simp [hb] at hs
    | some l => simp [hb] at hs; cases hs; exact Or.inl ⟨rfl, rfl, rfl⟩
  | false =>
    simp only [Bool.false_eq_true, if_false] at hs
    cases hb : lstep p.r1 ev with
    | none => simp [hb] at hs
    | some l => simp [hb] at hs; cases hs; exact Or.inr ⟨rfl, rfl, rfl⟩

theorem reloaders_independent {p : PState} (h : PReachable p) : LReachable p.r1 ∧ LReachable p.r2 := by
  induction h with
  | init t1 t2 h1 h2 => exact ⟨.init t1 h1, .init t2 h2⟩
  | step second ev _ hs ih =>
    rcases pstep_cases hs with ⟨_, h1, h2⟩ | ⟨_, h1, h2⟩
    · exact ⟨h1 ▸ ih.1, .step ev ih.2 h2⟩
    · exact ⟨.step ev ih.1 h2, h1 ▸ ih.2⟩

theorem pstep_leaves_other {p p' : PState} {second : Bool} {ev : LEv} (hs : pstep p second ev = some p') :
    (second = true → p'.r1 = p.r1) ∧ (second = false → p'.r2 = p.r2) := by
  rcases pstep_cases hs with ⟨h0, h1, _⟩ | ⟨h0, h1, _⟩
  · exact ⟨fun _ => h1, fun h => by simp [h0] at h⟩
  · exact ⟨fun h => by simp [h0] at h, fun _ => h1⟩

end MJ.Reloader
