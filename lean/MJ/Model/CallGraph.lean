/-!
# Call graphs with guarded call sites (C01)

A node is a function (numbered), an edge `(caller, callee, guarded)` is a call site; `guarded` says
that the call sits inside `with_recursion_guard!`, i.e. it is only made while the parser's `depth`
counter — incremented for the duration of the call — stays at most `MAX_RECURSION`.

`runBound g k` is a decidable check: strip, `k` times, every node that has no *unguarded* edge into
the set of nodes still alive; it succeeds when nothing is left.  `headRun_lt` shows that then every
chain begins with fewer than `k` unguarded calls.  So a chain of unguarded calls has fewer than `k`
edges (`runBound_sound`), in particular (with `k = number of nodes`) every cycle contains a guarded
call site, and `chain_length_lt` bounds the length of any call chain in terms of the number of guarded
calls on it.
-/
namespace MJ.CallGraph

abbrev Edge := Nat × Nat × Bool

structure Graph where
  n : Nat                    -- nodes are `0 … n-1`
  edges : List Edge
  deriving Repr

/-- `u` still has an unguarded call to a node in `alive` -/
def hasUnguardedInto (g : Graph) (alive : List Nat) (u : Nat) : Bool :=
  g.edges.any fun e => e.1 == u && !e.2.2 && alive.contains e.2.1

def strip (g : Graph) (alive : List Nat) : List Nat :=
  alive.filter (hasUnguardedInto g alive)

def stripN (g : Graph) : Nat → List Nat → List Nat
  | 0, alive => alive
  | k + 1, alive => strip g (stripN g k alive)

/-- every chain of consecutive unguarded calls has fewer than `k` edges (decidable check) -/
def runBound (g : Graph) (k : Nat) : Bool :=
  (stripN g k (List.range g.n)).isEmpty

/-- every cycle of the call graph contains a guarded call site (decidable check) -/
def everyCycleGuarded (g : Graph) : Bool := runBound g g.n

/-- a chain of calls `u₀ → u₁ → … → uₘ`, as the list of its edges -/
inductive Chain (g : Graph) : Nat → List Edge → Prop
  | nil (u : Nat) (h : u < g.n) : Chain g u []
  | cons {u v : Nat} {b : Bool} {p : List Edge} (he : (u, v, b) ∈ g.edges) (hu : u < g.n)
      (hp : Chain g v p) : Chain g u ((u, v, b) :: p)

def guardedCount (p : List Edge) : Nat := (p.filter (·.2.2)).length

def allUnguarded (p : List Edge) : Prop := ∀ e ∈ p, e.2.2 = false

/-- length of the maximal unguarded prefix of a chain -/
def headRun : List Edge → Nat
  | [] => 0
  | e :: p => if e.2.2 then 0 else headRun p + 1

theorem mem_strip {g : Graph} {alive : List Nat} {u v : Nat} (hu : u ∈ alive) (hv : v ∈ alive)
    (he : (u, v, false) ∈ g.edges) : u ∈ strip g alive := by
  unfold strip
  rw [List.mem_filter]
  refine ⟨hu, ?_⟩
  unfold hasUnguardedInto
  rw [List.any_eq_true]
  exact ⟨(u, v, false), he, by simp [hv]⟩

theorem Chain.start_lt {g : Graph} {u : Nat} {p : List Edge} (h : Chain g u p) : u < g.n := by
  cases h <;> assumption

theorem start_survives (g : Graph) : ∀ (m : Nat) (u : Nat) (p : List Edge), Chain g u p → m ≤ headRun p →
    u ∈ stripN g m (List.range g.n) := by
  intro m
  induction m with
  | zero => intro u p hc _; simpa [stripN] using hc.start_lt
  | succ m ih =>
    intro u p hc hm
    cases hc with
    | nil _ h => cases hm
    | @cons _ v b p' he hu hp =>
      cases b with
      | true => cases hm
      | false =>
        -- after `m` rounds the start is still there (its chain begins with `m + 1` unguarded edges) and so is
        -- its callee (the tail begins with `m`); the edge between them is unguarded: the next round keeps the start
        have hm' : m ≤ headRun p' := Nat.le_of_succ_le_succ hm
        exact mem_strip (ih u _ (.cons he hu hp) (Nat.le_succ_of_le hm')) (ih v p' hp hm') he

theorem headRun_lt (g : Graph) (k : Nat) (h : runBound g k = true) (u : Nat) (p : List Edge)
    (hc : Chain g u p) : headRun p < k := by
  apply Nat.lt_of_not_le
  intro hk
  have hmem := start_survives g k u p hc hk
  rw [List.isEmpty_iff.mp h] at hmem
  cases hmem

theorem headRun_of_allUnguarded {p : List Edge} (h : allUnguarded p) : headRun p = p.length := by
  induction p with
  | nil => rfl
  | cons e p ih =>
    rw [headRun, if_neg (by simp [h e List.mem_cons_self]), ih fun e' he' => h e' (List.mem_cons_of_mem _ he')]
    rfl

/-- soundness of `runBound`: every chain of unguarded calls has fewer than `k` edges -/
theorem runBound_sound (g : Graph) (k : Nat) (h : runBound g k = true) (u : Nat) (p : List Edge)
    (hc : Chain g u p) (hun : allUnguarded p) : p.length < k :=
  headRun_of_allUnguarded hun ▸ headRun_lt g k h u p hc

/-- every cycle contains a guarded call: an unguarded chain never returns to its start -/
theorem no_unguarded_cycle (g : Graph) (h : everyCycleGuarded g = true) (u : Nat) (p : List Edge)
    (hc : Chain g u p) (hun : allUnguarded p) : p.length < g.n :=
  runBound_sound g g.n h u p hc hun

/-- a call chain with `c` guarded call sites on it has fewer than `(c + 1) * k` edges: at most
    `k - 1` consecutive unguarded frames between two guarded ones -/
theorem chain_length_lt (g : Graph) (k : Nat) (h : runBound g k = true) (u : Nat) (p : List Edge)
    (hc : Chain g u p) : p.length < (guardedCount p + 1) * k := by
  -- a guarded edge ends the run before it, which was shorter than `k`
  have key : p.length ≤ guardedCount p * k + headRun p := by
    induction hc with
    | nil => exact Nat.zero_le _
    | @cons u v b p he hu hp ih =>
      have hrun := headRun_lt g k h v p hp
      cases b with
      | true =>
        show p.length + 1 ≤ (guardedCount p + 1) * k + 0
        rw [Nat.add_mul]
        omega
      | false =>
        show p.length + 1 ≤ guardedCount p * k + (headRun p + 1)
        omega
  have := headRun_lt g k h u p hc
  rw [Nat.add_mul]
  omega

theorem selfLoop_refutes (g : Graph) (u : Nat) (hu : u < g.n) (he : (u, u, false) ∈ g.edges) :
    everyCycleGuarded g = false := by
  cases hk : everyCycleGuarded g with
  | false => rfl
  | true =>
    exfalso
    -- the chain that takes the self loop n times has n unguarded edges
    have build : ∀ m : Nat, ∃ p, Chain g u p ∧ allUnguarded p ∧ p.length = m := by
      intro m
      induction m with
      | zero => exact ⟨[], Chain.nil u hu, by simp [allUnguarded], rfl⟩
      | succ m ih =>
        obtain ⟨p, hp, hpu, hpl⟩ := ih
        refine ⟨(u, u, false) :: p, Chain.cons he hu hp, ?_, by simp [hpl]⟩
        intro e he'
        rcases List.mem_cons.mp he' with rfl | h'
        · rfl
        · exact hpu e h'
    obtain ⟨p, hp, hpu, hpl⟩ := build g.n
    have := no_unguarded_cycle g hk u p hp hpu
    omega

end MJ.CallGraph
