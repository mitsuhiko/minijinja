import MJ.Proofs.JsonDoc
import MJ.Proofs.JsonFloatRT
/-! The post-processing leaves everything but string contents alone: for a table with no rule for structural,
whitespace and number characters (`StructOK`), `postT t` of the text the model's writer produces is the text of the
post-processed writer (`postT_writeAt`); hence a written and post-processed document reads back
(`parseJ_postT_writeJ`).  Every number token in the JSON image of a value is one the reader takes back
(`jsonOf_numOK`) (C16). -/
namespace MJ.Json
open MJ.Serde

def structChars : List Char :=
  ['[', ']', '{', '}', ',', ':', '"', 'n', 'u', 'l', 't', 'r', 'e', 'f', 'a', 's']

/-- the table has no rule for structural characters, whitespace and number characters -/
def StructOK (t : List (Char × List Char)) : Prop :=
  ∀ c, (c ∈ structChars ∨ isWs c = true ∨ isNumChar c = true) → Plain t c

theorem structOK_nil : StructOK [] := by intro c _ p hp; simp at hp

theorem postT_ws (t : List (Char × List Char)) (ht : StructOK t) (ws : List Char) (h : AllWs ws) : postT t ws = ws :=
  postT_fixed t ws (fun c hc => ht c (Or.inr (Or.inl (h c hc))))

theorem postT_sep (t : List (Char × List Char)) (ht : StructOK t) (c : Char) (hc : c ∈ structChars)
    (ws : List Char) (h : AllWs ws) : postT t (c :: ws) = c :: ws := by
  rw [postT_cons t c ws (ht c (Or.inl hc)), postT_ws t ht ws h]

theorem postT_before (t : List (Char × List Char)) (ht : StructOK t) (st : Style) (lvl : Nat) (first arr : Bool) :
    postT t (st.before lvl first arr) = st.before lvl first arr := by
  cases first with
  | true => exact postT_ws t ht _ (before_first st lvl arr)
  | false =>
    obtain ⟨ws, h1, h2⟩ := before_next st lvl arr
    rw [h1]
    exact postT_sep t ht ',' (by decide) ws h2

theorem postT_keySep (t : List (Char × List Char)) (ht : StructOK t) (st : Style) : postT t st.keySep = st.keySep := by
  obtain ⟨ws, h1, h2⟩ := keySep_spec st
  rw [h1]
  exact postT_sep t ht ':' (by decide) ws h2

theorem postT_close (t : List (Char × List Char)) (ht : StructOK t) (st : Style) (lvl : Nat) :
    postT t (st.close lvl) = st.close lvl := postT_ws t ht _ (close_ws st lvl)

theorem postT_writeStr (t : List (Char × List Char)) (ht : StructOK t) (s : List Char) :
    postT t (writeStr s) = writeStrP t s := by
  have hq : Plain t '"' := ht '"' (Or.inl (by decide))
  simp only [writeStr, writeStrP]
  rw [postT_cons t '"' _ hq, postT_append, postT_cons t '"' [] hq]
  rfl

theorem postT_lit (t : List (Char × List Char)) (ht : StructOK t) (s : List Char) (h : ∀ c ∈ s, c ∈ structChars) :
    postT t s = s := postT_fixed t s (fun c hc => ht c (Or.inl (h c hc)))

mutual
theorem postT_writeAt : ∀ (j : J) (t : List (Char × List Char)) (st : Style) (lvl : Nat),
    StructOK t → NumOK j → postT t (writeAt st lvl j) = writeAtP t st lvl j
  | .null, t, st, lvl, ht, _ => by
    simp only [writeAt, writeAtP]
    exact postT_lit t ht _ (by decide)
  | .bool b, t, st, lvl, ht, _ => by
    cases b <;> simp only [writeAt, writeAtP] <;> exact postT_lit t ht _ (by decide)
  | .num tok, t, st, lvl, ht, hj => by
    simp only [NumOK, tokOK] at hj
    simp only [writeAt, writeAtP]
    exact postT_fixed t tok (fun c hc => ht c (Or.inr (Or.inr (hj.2.1 c hc))))
  | .str s, t, st, lvl, ht, _ => by
    simp only [writeAt, writeAtP]
    exact postT_writeStr t ht s
  | .arr [], t, st, lvl, ht, _ => by
    simp only [writeAt, writeAtP]
    exact postT_lit t ht _ (by decide)
  | .arr (x :: xs), t, st, lvl, ht, hj => by
    simp only [NumOK, NumOKList] at hj
    simp only [writeAt, writeAtP, writeElems]
    rw [postT_cons t '[' _ (ht '[' (Or.inl (by decide)))]
    simp only [postT_append, List.append_assoc]
    rw [postT_before t ht, postT_writeAt x t st (lvl + 1) ht hj.1, postT_writeElems xs t st (lvl + 1) ht hj.2,
      postT_close t ht, postT_lit t ht [']'] (by decide)]
  | .obj [], t, st, lvl, ht, _ => by
    simp only [writeAt, writeAtP]
    exact postT_lit t ht _ (by decide)
  | .obj ((k, v) :: ms), t, st, lvl, ht, hj => by
    simp only [NumOK, NumOKMembers] at hj
    simp only [writeAt, writeAtP, writeMembers]
    rw [postT_cons t '{' _ (ht '{' (Or.inl (by decide)))]
    simp only [postT_append, List.append_assoc]
    rw [postT_before t ht, postT_writeStr t ht, postT_keySep t ht, postT_writeAt v t st (lvl + 1) ht hj.1,
      postT_writeMembers ms t st (lvl + 1) ht hj.2, postT_close t ht, postT_lit t ht ['}'] (by decide)]
theorem postT_writeElems : ∀ (xs : List J) (t : List (Char × List Char)) (st : Style) (lvl : Nat),
    StructOK t → NumOKList xs → postT t (writeElems st lvl false xs) = restElemsP t st lvl xs
  | [], t, st, lvl, _, _ => by simp [writeElems, restElemsP, postT]
  | x :: xs, t, st, lvl, ht, hj => by
    simp only [NumOKList] at hj
    simp only [writeElems, restElemsP, postT_append, List.append_assoc]
    rw [postT_before t ht, postT_writeAt x t st lvl ht hj.1, postT_writeElems xs t st lvl ht hj.2]
theorem postT_writeMembers : ∀ (ms : List (List Char × J)) (t : List (Char × List Char)) (st : Style) (lvl : Nat),
    StructOK t → NumOKMembers ms → postT t (writeMembers st lvl false ms) = restMembersP t st lvl ms
  | [], t, st, lvl, _, _ => by simp [writeMembers, restMembersP, postT]
  | (k, v) :: ms, t, st, lvl, ht, hj => by
    simp only [NumOKMembers] at hj
    simp only [writeMembers, restMembersP, postT_append, List.append_assoc]
    rw [postT_before t ht, postT_writeStr t ht, postT_keySep t ht, postT_writeAt v t st lvl ht hj.1,
      postT_writeMembers ms t st lvl ht hj.2]
end

/-- a written and post-processed document reads back as the value -/
theorem parseJ_postT_writeJ (t : List (Char × List Char)) (ht : TableOK t) (hs : StructOK t) (st : Style) (j : J)
    (hj : NumOK j) : parseJ (postT t (writeJ st j)) = some j := by
  unfold writeJ
  rw [postT_writeAt j t st 0 hs hj]
  unfold parseJ
  have := pv j t st 0 [] [] ((writeAtP t st 0 j).length + 1) ht hj (by simp [StopOK]) allWs_nil (by omega)
  simp only [List.nil_append, List.append_nil] at this
  rw [this]
  simp [skipWs]

mutual
/-- every finite float inside the value satisfies `p` -/
def floatsAll (p : Nat → Bool) : V → Bool
  | .f64 b => !f64Finite b || p b
  | .seq _ xs => floatsAllList p xs
  | .map kvs => floatsAllPairs p kvs
  | _ => true
def floatsAllList (p : Nat → Bool) : List V → Bool
  | [] => true
  | x :: xs => floatsAll p x && floatsAllList p xs
def floatsAllPairs (p : Nat → Bool) : List (V × V) → Bool
  | [] => true
  | (k, v) :: rest => floatsAll p k && floatsAll p v && floatsAllPairs p rest
end

/-- no finite float anywhere in the value (non-finite ones are `null` / refused) -/
def floatFreeV (v : V) : Bool := floatsAll (fun _ => false) v

theorem numOK_bytes (b : List Nat) : NumOKList (b.map fun n => J.num (natDigits n)) := by
  induction b with
  | nil => simp [NumOKList]
  | cons n ns ih => simp only [List.map_cons, NumOKList, NumOK]; exact ⟨tokOK_natDigits n, ih⟩

theorem join2_ok {α β γ : Type} (f : α → β → γ) (a : JR α) (b : JR β) (c : γ) (h : JR.join2 f a b = .ok c) :
    ∃ x y, a = .ok x ∧ b = .ok y ∧ c = f x y := by
  cases a <;> cases b <;> simp [JR.join2] at h
  exact ⟨_, _, rfl, rfl, h.symm⟩

mutual
theorem jsonOf_numOK : ∀ (v : V) (j : J), jsonOf v = .ok j → NumOK j
  | .undefined, j, h | .none, j, h | .invalid, j, h | .bool _, j, h | .str _ _, j, h => by cases h; trivial
  | .int _ i, j, h => by cases h; exact tokOK_intDigits i
  | .f64 b, j, h => by
    simp only [jsonOf] at h
    split at h <;> cases h
    · exact tokOK_f64Text b
    · trivial
  | .bytes b, j, h => by cases h; exact numOK_bytes b
  | .seq t xs, j, h => by
    simp only [jsonOf] at h
    split at h <;> cases h
    rename_i js hx
    exact numOKList_jsonOfList xs js hx
  | .map kvs, j, h => by
    simp only [jsonOf] at h
    split at h <;> cases h
    rename_i js hx
    exact numOKMembers_jsonOfPairs kvs js hx
  | .obj _, _, h => nomatch h
theorem numOKList_jsonOfList : ∀ (xs : List V) (js : List J), jsonOfList xs = .ok js → NumOKList js
  | [], js, h => by simp [jsonOfList] at h; subst h; simp [NumOKList]
  | x :: xs, js, h => by
    simp only [jsonOfList] at h
    obtain ⟨a, b, ha, hb, hc⟩ := join2_ok _ _ _ _ h
    subst hc
    exact ⟨jsonOf_numOK x a ha, numOKList_jsonOfList xs b hb⟩
theorem numOKMembers_jsonOfPairs : ∀ (kvs : List (V × V)) (js : List (List Char × J)),
    jsonOfPairs kvs = .ok js → NumOKMembers js
  | [], js, h => by simp [jsonOfPairs] at h; subst h; simp [NumOKMembers]
  | (k, v) :: rest, js, h => by
    simp only [jsonOfPairs] at h
    obtain ⟨a, b, ha, hb, hc⟩ := join2_ok _ _ _ _ h
    obtain ⟨ks, jv, _, hjv, hkv⟩ := join2_ok _ _ _ _ ha
    subst hc; subst hkv
    exact ⟨jsonOf_numOK v jv hjv, numOKMembers_jsonOfPairs rest b hb⟩
end

theorem jsonOfList_numOK : ∀ (xs : List V) (p : Nat → Bool) (js : List J),
    (∀ b, p b = true → f64Finite b = true → tokOK (f64Text b)) → floatsAllList p xs = true →
    jsonOfList xs = .ok js → NumOKList js
  | xs, _, js, _, _, h => numOKList_jsonOfList xs js h

theorem jsonOfPairs_numOK : ∀ (kvs : List (V × V)) (p : Nat → Bool) (js : List (List Char × J)),
    (∀ b, p b = true → f64Finite b = true → tokOK (f64Text b)) → floatsAllPairs p kvs = true →
    jsonOfPairs kvs = .ok js → NumOKMembers js
  | kvs, _, js, _, _, h => numOKMembers_jsonOfPairs kvs js h

mutual
theorem floatsAll_true : ∀ (v : V), floatsAll (fun _ => true) v = true := fun v => by
    cases v with
    | seq _ xs => simp only [floatsAll]; exact floatsAllList_true xs
    | map kvs => simp only [floatsAll]; exact floatsAllPairs_true kvs
    | f64 b => simp [floatsAll]
    | _ => rfl
theorem floatsAllList_true : ∀ (xs : List V), floatsAllList (fun _ => true) xs = true
  | [] => rfl
  | x :: xs => by simp only [floatsAllList, floatsAll_true x, floatsAllList_true xs]; rfl
theorem floatsAllPairs_true : ∀ (kvs : List (V × V)), floatsAllPairs (fun _ => true) kvs = true
  | [] => rfl
  | (k, v) :: rest => by
    simp only [floatsAllPairs, floatsAll_true k, floatsAll_true v, floatsAllPairs_true rest]; rfl
end

theorem tojson_keys_plain : ∀ p ∈ MJ.Gen.tojsonReplacements,
    p.1 ∉ structChars ∧ isWs p.1 = false ∧ isNumChar p.1 = false := by decide +kernel

theorem structOK_tojson : StructOK MJ.Gen.tojsonReplacements := by
  intro c hc p hp heq
  subst heq
  obtain ⟨h1, h2, h3⟩ := tojson_keys_plain p hp
  rcases hc with hc | hc | hc
  · exact h1 hc
  · rw [h2] at hc; cases hc
  · rw [h3] at hc; cases hc

end MJ.Json
