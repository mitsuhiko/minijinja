import MJ.Gen.Tables
import MJ.Model.Compile
/-!
# C03: ties to tables regenerated from the sources

If `Loop::enumerate`, `MAX_LOCALS`, `LOOP_FLAG_WITH_LOOP_VAR`, the `ValueKind` order or the
parser's reserved names change in `/repo`, `MJ/Gen/Tables.lean` changes and these theorems stop
checking (= broken tie).
-/
namespace MJ.C03
open MJ.Eval

def loopKeys : List String :=
  match loopVal { index0 := 0, length := some 1, prev := none, next := none } with
  | .map kvs => kvs.map (·.1)
  | _ => []

/-- the reference semantics' `loop` has exactly the attributes the engine's loop object enumerates -/
theorem loop_attrs_tie :
    (MJ.Gen.c03LoopAttrs.all fun a => loopKeys.contains a) = true ∧
    (loopKeys.all fun k => MJ.Gen.c03LoopAttrs.contains k) = true ∧
    loopKeys.length = MJ.Gen.c03LoopAttrs.length := by decide +kernel

/-- the model code generator's limit of filter/test local ids is the engine's `MAX_LOCALS` -/
theorem max_locals_tie : MJ.Compile.maxLocals = MJ.Gen.maxLocals := by decide

/-- `PushLoop 1` is "with loop variable" -/
theorem loop_flag_tie : MJ.Gen.c03LoopFlagWithLoopVar = 1 := by decide

/-- `loop` cannot be an assignment target (so a scope cell never binds `loop` except through `for`) -/
theorem loop_reserved_tie : MJ.Gen.c03ReservedNames.contains "loop" = true := by decide +kernel

/-- the kind-first ordering of the reference semantics uses the engine's `ValueKind` order -/
theorem kind_rank_tie :
    MJ.Gen.valueKindOrder.idxOf "Undefined" = kindRank .undef ∧
    MJ.Gen.valueKindOrder.idxOf "None" = kindRank .none ∧
    MJ.Gen.valueKindOrder.idxOf "Bool" = kindRank (.bool true) ∧
    MJ.Gen.valueKindOrder.idxOf "Number" = kindRank (.int 0) ∧
    MJ.Gen.valueKindOrder.idxOf "String" = kindRank (.str "") ∧
    MJ.Gen.valueKindOrder.idxOf "Seq" = kindRank (.list []) ∧
    MJ.Gen.valueKindOrder.idxOf "Map" = kindRank (.map []) ∧
    MJ.Gen.valueKindOrder.idxOf "Plain" = kindRank (.macro "" [] [] [] false []) := by decide +kernel

/-- `BuildMacro`'s flag for "the macro looks up `caller`" is the engine's `MACRO_CALLER` -/
theorem macro_caller_tie : MJ.Compile.macroCallerFlag = MJ.Gen.c03MacroCaller := by decide

/-- an output capture either captures or discards (`renderAfter` / `runD` model `Discard`) -/
theorem capture_modes_tie : MJ.Gen.c03CaptureModes = ["Capture", "Discard"] := rfl

theorem contains_of_mem {a : String} : ∀ {l : List String}, a ∈ l → l.contains a = true
  | _, .head as => by
    show (match a == a with | true => true | false => List.elem a as) = true
    rw [show (a == a) = true from decide_eq_true rfl]
  | _, .tail b (as := as) h => by
    show (match a == b with | true => true | false => List.elem a as) = true
    cases a == b
    · exact contains_of_mem h
    · rfl

/-- every instruction of the model is an instruction of the engine (by name: the instruction
streams are compared by these names) -/
theorem instructions_tie (i : MJ.Compile.Instr) : MJ.Gen.c03Instructions.contains i.opName = true := by
  -- each name is literally an entry of the table, so no two strings have to be told apart
  cases i <;> exact contains_of_mem (by repeat constructor)

/-- the filters and tests the reference semantics knows are built-ins of the engine -/
def modelFilters : List String := ["length", "upper", "lower", "default", "join", "first", "last", "list"]
def modelTests : List String := ["defined", "undefined", "none", "odd", "even"]

theorem filters_tie : (modelFilters.all fun f => MJ.Gen.builtinFilterNames.contains f) = true := by decide +kernel
theorem tests_tie : (modelTests.all fun t => MJ.Gen.c03BuiltinTestNames.contains t) = true := by decide +kernel

/-- … and it knows no others -/
theorem unknown_filter (name : String) (v : Val) (args : List Val) (h : name ∉ modelFilters) :
    applyFilter name v args = .error .unknownFilter := by
  unfold applyFilter
  split <;> first | rfl | exact absurd (by simp [modelFilters]) h

theorem unknown_test (name : String) (v : Val) (args : List Val) (h : name ∉ modelTests) :
    applyTest name v args = .error .unknownTest := by
  unfold applyTest
  split <;> first | rfl | exact absurd (by simp [modelTests]) h

end MJ.C03
