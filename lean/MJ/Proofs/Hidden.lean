import MJ.Model.Hidden
import MJ.Proofs.Store
/-!
The small models of `MJ/Model/Hidden.lean` (C15).  A once-cell only ever holds its initialiser's value.
`Pool.Clean` (every buffer handed out so far is empty, and every pooled one when recycling clears) is
kept by every pool event, given one of the two clears.  The value-handle registry read through `lookup`
is a map: `lookup_insert`, and `remove_lookup` under `HandleReg.Inv`; the association lists of its
overflow are those of `MJ.Store` (`ofind_eq_find`).
-/
namespace MJ.Hidden

theorem Once.getOrInit_spec {α : Type} (init : Unit → α) (o : Once α)
    (h : o.cell = none ∨ o.cell = some (init ())) :
    (o.getOrInit init).2 = init () ∧ (o.getOrInit init).1.cell = some (init ()) := by
  unfold Once.getOrInit
  rcases h with h | h <;> rw [h]
  · exact ⟨rfl, rfl⟩
  · exact ⟨rfl, h⟩

theorem Once.reads_eq_init {α : Type} (init : Unit → α) (n : Nat) (o : Once α)
    (h : o.cell = none ∨ o.cell = some (init ())) : ∀ v ∈ o.reads init n, v = init () := by
  induction n generalizing o with
  | zero => intro v hv; cases hv
  | succ n ih =>
    obtain ⟨e1, e2⟩ := Once.getOrInit_spec init o h
    intro v hv
    rcases List.mem_cons.mp hv with hv | hv
    · exact hv.trans e1
    · exact ih _ (Or.inr e2) v hv

def Pool.Clean {α : Type} (rc : Bool) (p : Pool α) : Prop :=
  (rc = true → ∀ b ∈ p.free, b = []) ∧ ∀ b ∈ p.handedOut, b = []

theorem Pool.step_clean {α : Type} (tc rc : Bool) (h : (tc || rc) = true) (p : Pool α) (e : PoolEv α)
    (hp : p.Clean rc) : (p.step tc rc e).Clean rc := by
  obtain ⟨hf, ho⟩ := hp
  cases e with
  | take =>
    refine ⟨fun hr b hb => hf hr b (List.mem_of_mem_drop hb), ?_⟩
    intro b hb
    simp only [Pool.step, List.mem_cons] at hb
    rcases hb with hb | hb
    · subst hb
      cases tc with
      | true => rfl
      | false =>
        have hr : rc = true := by simpa using h
        simp only [Bool.false_eq_true, if_false]
        cases hfree : p.free with
        | nil => rfl
        | cons x xs => exact hf hr x (by rw [hfree]; simp)
    · exact ho b hb
  | push i x | pop i | recycleFull i | drop i => exact ⟨hf, ho⟩
  | recycle i =>
    simp only [Pool.step]
    cases hl : p.live[i]? with
    | none => exact ⟨hf, ho⟩
    | some b =>
      refine ⟨fun hr c hc => ?_, ho⟩
      simp only [List.mem_cons] at hc
      rcases hc with hc | hc
      · rw [hc]; simp [hr]
      · exact hf hr c hc

theorem Pool.run_clean {α : Type} (tc rc : Bool) (h : (tc || rc) = true) (evs : List (PoolEv α))
    (p : Pool α) (hp : p.Clean rc) : (p.run tc rc evs).Clean rc := by
  induction evs generalizing p with
  | nil => exact hp
  | cons e es ih => exact ih _ (Pool.step_clean tc rc h p e hp)

theorem Pool.empty_clean {α : Type} (rc : Bool) : (Pool.empty : Pool α).Clean rc :=
  ⟨fun _ b hb => by simp [Pool.empty] at hb, fun b hb => by simp [Pool.empty] at hb⟩

theorem ofind_eq_find (l : List (Nat × Nat)) (k : Nat) : ofind l k = MJ.Store.find l k := by
  induction l with
  | nil => rfl
  | cons p t ih => unfold ofind MJ.Store.find; rw [ih]

theorem ofind_odel (l : List (Nat × Nat)) (h k : Nat) :
    ofind (odel l h) k = if k = h then none else ofind l k := by
  rw [ofind_eq_find, ofind_eq_find]
  exact congrFun (MJ.Store.find_del l h) k

theorem ofind_oins (l : List (Nat × Nat)) (h v k : Nat) :
    ofind (oins l h v) k = if k = h then some v else ofind l k := by
  rw [ofind_eq_find, ofind_eq_find]
  exact congrFun (MJ.Store.find_ins l h v) k

theorem HandleReg.Inv.shape {r : HandleReg} (hr : r.Inv) :
    (∃ sh sv, r = ⟨some (sh, sv), []⟩) ∨ ∃ l, r = ⟨none, l⟩ := by
  obtain ⟨single, overflow⟩ := r
  cases single with
  | none => exact Or.inr ⟨overflow, rfl⟩
  | some p => exact Or.inl ⟨p.1, p.2, by rw [show overflow = [] from hr rfl]⟩

theorem HandleReg.lookup_insert (r : HandleReg) (h v k : Nat) :
    (r.insert h v).lookup k = if k = h then some v else r.lookup k := by
  obtain ⟨single, overflow⟩ := r
  unfold HandleReg.insert
  cases single with
  | none =>
    cases overflow with
    | nil =>
      show (if h = k then some v else none) = _
      by_cases e : k = h
      · rw [if_pos e.symm, if_pos e]
      · rw [if_neg (fun x => e x.symm), if_neg e]; rfl
    | cons p t => exact ofind_oins _ _ _ _
  | some p =>
    obtain ⟨oh, ov⟩ := p
    show ofind (oins (oins overflow oh ov) h v) k = if k = h then some v else if oh = k then some ov else ofind overflow k
    rw [ofind_oins, ofind_oins]
    by_cases e : k = h
    · rw [if_pos e, if_pos e]
    · rw [if_neg e, if_neg e]
      by_cases e2 : k = oh
      · rw [if_pos e2, if_pos e2.symm]
      · rw [if_neg e2, if_neg (fun x => e2 x.symm)]

theorem HandleReg.insert_inv (r : HandleReg) (h v : Nat) : (r.insert h v).Inv := by
  obtain ⟨single, overflow⟩ := r
  unfold HandleReg.insert
  cases single with
  | none =>
    cases overflow with
    | nil => exact fun _ => rfl
    | cons p t => exact fun hh => nomatch hh
  | some p => exact fun hh => nomatch hh

theorem HandleReg.remove_checked (sh sv : Nat) (l : List (Nat × Nat)) (h : Nat) :
    HandleReg.remove true ⟨some (sh, sv), l⟩ h =
      if sh = h then (⟨none, l⟩, some sv) else (⟨some (sh, sv), odel l h⟩, ofind l h) := by
  by_cases e : sh = h <;> simp [HandleReg.remove, e]

theorem HandleReg.remove_result (r : HandleReg) (h : Nat) :
    (r.remove true h).2 = r.lookup h := by
  obtain ⟨single, overflow⟩ := r
  cases single with
  | none => rfl
  | some p =>
    obtain ⟨sh, sv⟩ := p
    rw [HandleReg.remove_checked]
    show _ = if sh = h then some sv else ofind overflow h
    by_cases e : sh = h
    · rw [if_pos e, if_pos e]
    · rw [if_neg e, if_neg e]

theorem HandleReg.remove_lookup (r : HandleReg) (h k : Nat) (hr : r.Inv) :
    (r.remove true h).1.lookup k = if k = h then none else r.lookup k := by
  rcases hr.shape with ⟨sh, sv, rfl⟩ | ⟨l, rfl⟩
  · rw [HandleReg.remove_checked]
    show _ = if k = h then none else if sh = k then some sv else none
    by_cases e : sh = h
    · rw [if_pos e]
      show none = _
      by_cases e2 : k = h
      · rw [if_pos e2]
      · rw [if_neg e2, if_neg (fun x => e2 (x.symm.trans e))]
    · rw [if_neg e]
      show (if sh = k then some sv else none) = _
      by_cases e2 : k = h
      · rw [if_pos e2, if_neg (fun x => e (x.trans e2))]
      · rw [if_neg e2]
  · exact ofind_odel l h k

theorem HandleReg.remove_inv (r : HandleReg) (h : Nat) (hr : r.Inv) : (r.remove true h).1.Inv := by
  rcases hr.shape with ⟨sh, sv, rfl⟩ | ⟨l, rfl⟩
  · rw [HandleReg.remove_checked]
    by_cases e : sh = h
    · rw [if_pos e]; exact fun hh => nomatch hh
    · rw [if_neg e]; exact fun _ => rfl
  · exact fun hh => nomatch hh

/-- under the invariant the single slot holds the ONLY entry: taking it whenever it is occupied is
    the same as comparing its handle, provided the requested handle is in the registry at all -/
theorem HandleReg.lifo_agrees_when_present (r : HandleReg) (h : Nat) (hr : r.Inv)
    (hp : r.lookup h ≠ none) : r.remove false h = r.remove true h := by
  rcases hr.shape with ⟨sh, sv, rfl⟩ | ⟨l, rfl⟩
  · have e : sh = h := Decidable.byContradiction fun e => hp (if_neg e)
    subst e
    simp [HandleReg.remove]
  · rfl

end MJ.Hidden
