import MJ.Proofs.CmpF64Round
import MJ.Model.NumF
/-!
# Signed conversions: `x as f64` for integers, `f as <int>` (saturating), `trunc`
-/
namespace MJ.F64

/-- the exact value of `x as f64` for an integer -/
def rndI (x : Int) : Int := if x < 0 then -(rnd x.natAbs : Int) else (rnd x.natAbs : Int)

theorem sign_of_lt {m : Nat} (h : m < P63) : sign m = false ∧ mag m = m := by
  unfold sign mag
  have : m % P64 = m := Nat.mod_eq_of_lt (by unfold P63 P64 at *; omega)
  rw [this, Nat.mod_eq_of_lt h]
  simp; omega

theorem sign_of_neg {m : Nat} (h : m < P63) : sign (P63 + m) = true ∧ mag (P63 + m) = m := by
  unfold sign mag
  have : (P63 + m) % P64 = P63 + m := Nat.mod_eq_of_lt (by unfold P63 P64 at *; omega)
  rw [this]
  have h2 : (P63 + m) % P63 = m := by
    rw [Nat.add_mod, Nat.mod_self, Nat.zero_add, Nat.mod_mod, Nat.mod_eq_of_lt h]
  rw [h2]; simp

theorem infMag_lt_P63 : infMag < P63 := by decide

end MJ.F64

namespace MJ.NumF
open MJ.F64

/-! ### values as sign and magnitude

The exact value of a float is `sm (sign b) (scaled b)`, and every result of the model is built as a
sign bit and a magnitude (`signedBits`).  The signed conversions below and the float operators
(`MJ/Proofs/NumF.lean`) are reasoned about in that form: the sign of a product or quotient is the
`!=` of the sign bits (`sm_mul`), and the sign bit of a zero is all that two such forms of one
integer can differ in (`sm_congr`, `sm_inj`). -/

def sm (neg : Bool) (n : Nat) : Int := if neg then -(n : Int) else n

theorem key_sm (b : Nat) : key b = sm (sign b) (scaled b) := rfl

theorem eq_sm (z : Int) : z = sm (decide (z < 0)) z.natAbs := by
  unfold sm
  by_cases hz : z < 0
  · simp only [hz, decide_true, if_true]; omega
  · simp only [hz, decide_false, Bool.false_eq_true, if_false]; omega

theorem sm_natAbs (s : Bool) (n : Nat) : (sm s n).natAbs = n := by
  cases s <;> simp [sm]

theorem sm_mul (s t : Bool) (m n : Nat) : sm s m * sm t n = sm (s != t) (m * n) := by
  cases s <;> cases t <;> simp [sm, Int.neg_mul, Int.mul_neg]

theorem sm_mul_nat (s : Bool) (m q : Nat) : sm s m * (q : Int) = sm s (m * q) := by
  cases s <;> simp [sm, Int.neg_mul]

theorem sm_tmod (s t : Bool) (m n : Nat) : Int.tmod (sm s m) (sm t n) = sm s (m % n) := by
  cases s <;> cases t <;>
    simp only [sm, if_true, if_false, Bool.false_eq_true, Int.neg_tmod, Int.tmod_neg, Int.ofNat_tmod]

theorem sm_congr {s t : Bool} {n : Nat} (h : n ≠ 0 → s = t) : sm s n = sm t n := by
  by_cases hn : n = 0
  · subst hn; cases s <;> cases t <;> rfl
  · rw [h hn]

theorem sm_inj {s t : Bool} {m n : Nat} (h : sm s m = sm t n) : m = n ∧ (m ≠ 0 → s = t) := by
  have := congrArg Int.natAbs h
  rw [sm_natAbs, sm_natAbs] at this
  subst this
  refine ⟨rfl, fun hm => ?_⟩
  revert h
  cases s <;> cases t <;> simp [sm] <;> omega

theorem signedBits_sign_mag (neg : Bool) {M : Nat} (hM : M < P63) :
    sign (signedBits neg M) = neg ∧ mag (signedBits neg M) = M := by
  cases neg
  · rw [signedBits, if_neg Bool.false_ne_true, Nat.zero_add]; exact sign_of_lt hM
  · exact sign_of_neg hM

theorem scaled_signedBits (neg : Bool) {M : Nat} (hM : M < P63) :
    scaled (signedBits neg M) = scaledOfMag M := by
  rw [scaled, (signedBits_sign_mag neg hM).2]

theorem key_signedBits (neg : Bool) {M : Nat} (hM : M < P63) :
    key (signedBits neg M) = sm neg (scaledOfMag M) := by
  rw [key_sm, scaled_signedBits neg hM, (signedBits_sign_mag neg hM).1]

theorem isFinite_signedBits (neg : Bool) {M : Nat} (hM : M < P63) :
    isFinite (signedBits neg M) = decide (M < infMag) := by
  rw [isFinite, (signedBits_sign_mag neg hM).2]

theorem mag_lt_P63 (b : Nat) : mag b < P63 := Nat.mod_lt _ (by decide)

theorem mag_fneg (b : Nat) : mag (fneg b) = mag b := by
  unfold fneg
  split
  · exact (sign_of_lt (mag_lt_P63 b)).2
  · exact (sign_of_neg (mag_lt_P63 b)).2

theorem sign_fneg (b : Nat) : sign (fneg b) = !sign b := by
  unfold fneg
  cases h : sign b with
  | true => simp only [if_true]; rw [(sign_of_lt (mag_lt_P63 b)).1]; rfl
  | false => simp only [Bool.false_eq_true, if_false]; rw [(sign_of_neg (mag_lt_P63 b)).1]; rfl

/-- `-x` is exact -/
theorem key_fneg (b : Nat) : key (fneg b) = -key b := by
  unfold key scaled
  rw [mag_fneg, sign_fneg]
  cases sign b <;> simp

end MJ.NumF

namespace MJ.F64
open MJ.NumF

theorem rndI_eq (x : Int) : rndI x = sm (decide (x < 0)) (rnd x.natAbs) := by
  unfold rndI sm
  by_cases h : x < 0 <;> simp [h]

theorem ofInt_eq (x : Int) : ofInt x = signedBits (decide (x < 0)) (ofNat x.natAbs) := by
  unfold ofInt signedBits
  by_cases h : x < 0 <;> simp [h]

/-- `x as f64` is a finite float whose value is `rndI x` -/
theorem ofInt_spec (x : Int) (hx : x.natAbs.log2 < 1000) :
    isNaN (ofInt x) = false ∧ isFinite (ofInt x) = true ∧ key (ofInt x) = rndI x * (scale : Int) := by
  obtain ⟨h1, h2⟩ := ofNat_spec x.natAbs hx
  have hlt := Nat.lt_trans h1 infMag_lt_P63
  rw [ofInt_eq]
  refine ⟨?_, ?_, ?_⟩
  · unfold isNaN; rw [(signedBits_sign_mag _ hlt).2]; simp; omega
  · rw [isFinite_signedBits _ hlt]; exact decide_eq_true h1
  · rw [key_signedBits _ hlt, h2, rndI_eq, sm_mul_nat]

/-- no float lies strictly between an integer and its rounding (signed): by the signs of the two, from
    `rnd_above` / `rnd_below` on the magnitudes -/
theorem rndI_above (x : Int) (b : Nat) (h : x * (scale : Int) ≤ key b) : rndI x * (scale : Int) ≤ key b := by
  rw [eq_sm x, sm_mul_nat, key_sm, scaled] at h
  rw [rndI_eq, sm_mul_nat, key_sm, scaled]
  generalize decide (x < 0) = s, x.natAbs = n, mag b = m, sign b = t at h ⊢
  cases s <;> cases t <;> simp only [sm, if_true, if_false, Bool.false_eq_true] at h ⊢
  · exact Int.ofNat_le.2 (rnd_above n m (Int.ofNat_le.1 h))
  · -- `0 ≤ n·scale ≤ -scaled`: both are 0
    have hn : n = 0 := (Nat.mul_eq_zero.1 (by omega : n * scale = 0)).resolve_right (Nat.ne_of_gt scale_pos')
    subst hn
    simpa [rnd] using h
  · omega
  · have := rnd_below n m (by omega)
    omega

theorem rndI_neg (x : Int) : rndI (-x) = -rndI x := by
  unfold rndI
  rw [Int.natAbs_neg]
  by_cases h1 : x < 0 <;> by_cases h2 : -x < 0 <;> simp only [h1, h2, if_true, if_false] <;>
    first | omega | (have : x = 0 := by omega
                     subst this; simp [rnd])

/-- … nor from below: `rndI_above` mirrored -/
theorem rndI_below (x : Int) (b : Nat) (h : key b ≤ x * (scale : Int)) : key b ≤ rndI x * (scale : Int) := by
  have := rndI_above (-x) (fneg b) (by rw [key_fneg, Int.neg_mul]; omega)
  rw [rndI_neg, key_fneg, Int.neg_mul] at this
  omega

theorem log2_small (n : Nat) (h : n < 2 ^ 129) : n.log2 < 1000 := by
  by_cases h0 : n = 0
  · subst h0; decide
  · have := (Nat.log2_lt (k := 129) h0).mpr h
    omega

theorem int_scale_pos : (0 : Int) < (scale : Int) := by have := scale_pos'; omega

theorem mul_scale_lt {a b : Int} : a * (scale : Int) < b * (scale : Int) ↔ a < b :=
  ⟨fun h => Int.lt_of_mul_lt_mul_right h (Int.le_of_lt int_scale_pos),
   fun h => Int.mul_lt_mul_of_pos_right h int_scale_pos⟩

theorem mul_scale_le {a b : Int} : a * (scale : Int) ≤ b * (scale : Int) ↔ a ≤ b :=
  ⟨fun h => Int.le_of_mul_le_mul_right h int_scale_pos,
   fun h => Int.mul_le_mul_of_nonneg_right h (Int.le_of_lt int_scale_pos)⟩

theorem mul_scale_inj {a b : Int} (h : a * (scale : Int) = b * (scale : Int)) : a = b := by
  have h1 := mul_scale_le.mp (Int.le_of_eq h)
  have h2 := mul_scale_le.mp (Int.le_of_eq h.symm)
  omega

theorem le_rndI {lo r : Int} (hlog : lo.natAbs.log2 < 1000) (hlo : rndI lo = lo) (h : lo ≤ r) : lo ≤ rndI r := by
  obtain ⟨_, _, k⟩ := ofInt_spec lo hlog
  rw [hlo] at k
  have := rndI_below r (ofInt lo) (by rw [k, mul_scale_le]; exact h)
  rwa [k, mul_scale_le] at this

theorem rndI_of_exact {x : Int} {f : Nat} (hf : key f = x * (scale : Int)) : rndI x = x := by
  have a := rndI_above x f (Int.le_of_eq hf.symm)
  have b := rndI_below x f (Int.le_of_eq hf)
  rw [hf] at a b
  have := mul_scale_le.mp a
  have := mul_scale_le.mp b
  omega

theorem ofInt_lt_P64 (x : Int) (hx : x.natAbs.log2 < 1000) : ofInt x < P64 := by
  have h1 := (ofNat_spec x.natAbs hx).1
  have : infMag < P63 := infMag_lt_P63
  unfold ofInt; split <;> (unfold P63 P64 at *; omega)

/-- `trunc` of a float whose value is the integer `z` -/
theorem truncInt_of_int_valued (b : Nat) (z : Int) (h : key b = z * (scale : Int)) : truncInt b = z := by
  rw [eq_sm z, sm_mul_nat, key_sm] at h
  obtain ⟨hm, hs⟩ := sm_inj h
  rw [eq_sm z]
  show sm (sign b) (scaled b / scale) = _
  rw [hm, Nat.mul_div_cancel _ scale_pos']
  exact sm_congr fun h0 => hs (hm ▸ Nat.mul_ne_zero h0 (Nat.ne_of_gt scale_pos'))

/-- the saturating cast of a finite float whose value is the integer `z` -/
theorem castInt_of_int_valued (lo hi : Int) (b : Nat) (z : Int) (hn : isNaN b = false)
    (hf : isFinite b = true) (h : key b = z * (scale : Int)) :
    castInt lo hi b = if z < lo then lo else if hi < z then hi else z := by
  unfold castInt
  rw [hn, hf, truncInt_of_int_valued b z h]
  simp

theorem castInt_mem (lo hi : Int) (b : Nat) (h : lo ≤ 0 ∧ 0 ≤ hi) :
    lo ≤ castInt lo hi b ∧ castInt lo hi b ≤ hi := by
  unfold castInt
  split
  · exact h
  · split
    · split <;> omega
    · simp only; split
      · omega
      · split <;> omega

/-- `l >= (M as f64)` and `l < (M as f64)` for a float whose value is the integer `z` -/
theorem fge_flt_ofInt (l : Nat) (z M : Int) (hn : isNaN l = false) (hk : key l = z * (scale : Int))
    (hM : M.natAbs.log2 < 1000) :
    fge l (ofInt M) = decide (rndI M ≤ z) ∧ flt l (ofInt M) = decide (z < rndI M) := by
  obtain ⟨nM, _, kM⟩ := ofInt_spec M hM
  unfold fge flt
  rw [hn, nM, kM, hk]
  simp only [Bool.not_false, Bool.true_and]
  exact ⟨decide_eq_decide.mpr mul_scale_le, decide_eq_decide.mpr mul_scale_lt⟩

/-- the `checked!` round trip of `as_f64`, for any range: the cast `x as f64` has the value `rndI x`, so the test is
    "below `MAX as f64`, and the saturating cast of that value gives `x` back" -/
theorem checkedF64_cast (x lo hi : Int) (hx : x.natAbs.log2 < 1000) (hh : hi.natAbs.log2 < 1000) :
    MJ.Val.checkedF64 x lo hi false =
      if rndI x < rndI hi ∧ (if rndI x < lo then lo else if hi < rndI x then hi else rndI x) = x
      then some (ofInt x) else Option.none := by
  obtain ⟨n1, f1, k1⟩ := ofInt_spec x hx
  unfold MJ.Val.checkedF64
  simp only [Bool.false_or, (fge_flt_ofInt (ofInt x) (rndI x) hi n1 k1 hh).2,
    castInt_of_int_valued lo hi (ofInt x) (rndI x) n1 f1 k1, Bool.and_eq_true, decide_eq_true_eq]

/-- the `checked!` round trip succeeds only for exactly representable integers -/
theorem checked_exact (x lo hi : Int) (hx : x.natAbs.log2 < 1000) (hh : hi.natAbs.log2 < 1000)
    (hlo : rndI lo = lo) (rv : Nat) (h : MJ.Val.checkedF64 x lo hi false = some rv) :
    rv = ofInt x ∧ key rv = x * (scale : Int) := by
  rw [checkedF64_cast x lo hi hx hh] at h
  by_cases hc : rndI x < rndI hi ∧ (if rndI x < lo then lo else if hi < rndI x then hi else rndI x) = x
  · rw [if_pos hc] at h
    cases h
    refine ⟨rfl, ?_⟩
    -- a saturated cast cannot give `x` back: `lo` is its own rounding, and at `hi` the value is not below `MAX as f64`
    have hr : rndI x = x := by
      obtain ⟨h1, h2⟩ := hc
      split at h2
      · next c1 => rw [← h2, hlo] at c1; omega
      · split at h2
        · rw [← h2] at h1; omega
        · exact h2
    rw [(ofInt_spec x hx).2.2, hr]
  · rw [if_neg hc] at h; cases h

/-- … and it does succeed for them -/
theorem checked_of_exact (x lo hi : Int) (hx : x.natAbs.log2 < 1000) (hh : hi.natAbs.log2 < 1000)
    (hrange : lo ≤ x ∧ x ≤ hi) (hhi : hi < rndI hi) (f : Nat) (hf : key f = x * (scale : Int)) :
    MJ.Val.checkedF64 x lo hi false = some (ofInt x) ∧ key (ofInt x) = x * (scale : Int) := by
  have hr : rndI x = x := rndI_of_exact hf
  refine ⟨?_, by rw [(ofInt_spec x hx).2.2, hr]⟩
  rw [checkedF64_cast x lo hi hx hh, hr, if_pos ⟨by omega, by rw [if_neg (by omega), if_neg (by omega)]⟩]

end MJ.F64
