import MJ.Model.SerdeValue
import MJ.Model.Json
import MJ.Proofs.SerdeLemmas
/-! `Value` as the target of a deserialisation: on plain data `reval` is the normalisation `normV`, and
the normalisation keeps the JSON image (C16). -/
namespace MJ.Serde

mutual
theorem reval_clean : ∀ (v : V), cleanV v = true → reval v = .ok (normV v)
  | v, h => by
    cases v with
    | seq t xs =>
      simp only [cleanV] at h
      simp only [reval, normV, revalList_clean xs h, mapOk_ok]
    | map kvs =>
      simp only [cleanV, Bool.and_eq_true] at h
      simp only [reval, normV, revalPairs_clean kvs h.1, mapOk_ok, buildMap_distinct _ h.2]
    | obj _ => exact Bool.noConfusion h
    | invalid => exact Bool.noConfusion h
    | _ => rfl
theorem revalList_clean : ∀ (xs : List V), cleanVList xs = true → revalList xs = .ok (normVList xs)
  | [], _ => rfl
  | x :: xs, h => by
    simp only [cleanVList, Bool.and_eq_true] at h
    simp only [revalList, normVList, reval_clean x h.1, revalList_clean xs h.2, consR_ok]
theorem revalPairs_clean : ∀ (kvs : List (V × V)), cleanVPairs kvs = true → revalPairs kvs = .ok (normVPairs kvs)
  | [], _ => rfl
  | (k, v) :: rest, h => by
    simp only [cleanVPairs, Bool.and_eq_true] at h
    simp only [revalPairs, normVPairs, reval_clean k h.1.1, reval_clean v h.1.2, revalPairs_clean rest h.2,
      pairR_ok, consR_ok]
end

end MJ.Serde

namespace MJ.Json
open MJ.Serde

theorem keyOf_normV (k : V) : keyOf (normV k) = keyOf k := by cases k <;> rfl

mutual
/-- reading a value back into a `Value` does not change its JSON image -/
theorem jsonOf_normV : ∀ (v : V), jsonOf (normV v) = jsonOf v := fun v => by
    cases v with
    | seq t xs => simp only [normV, jsonOf, jsonOfList_normV xs]
    | map kvs => simp only [normV, jsonOf, jsonOfPairs_normV kvs]
    | _ => rfl
theorem jsonOfList_normV : ∀ (xs : List V), jsonOfList (normVList xs) = jsonOfList xs
  | [] => rfl
  | x :: xs => by simp only [normVList, jsonOfList, jsonOf_normV x, jsonOfList_normV xs]
theorem jsonOfPairs_normV : ∀ (kvs : List (V × V)), jsonOfPairs (normVPairs kvs) = jsonOfPairs kvs
  | [] => rfl
  | (k, v) :: rest => by
    simp only [normVPairs, jsonOfPairs, keyOf_normV k, jsonOf_normV v, jsonOfPairs_normV rest]
end

end MJ.Json
