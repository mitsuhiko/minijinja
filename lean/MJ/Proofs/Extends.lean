import MJ.Model.Extends
/-! Runs of capture events in the model of `extends`: balanced events (`dyck`), and events that stay
above the caller's capture stack (`bal`).  Both by the recursion of the checking function: one case per equation
of `dyck` / `bal`, in their order (end of the events, `BeginCapture`, `EndCapture` at depth 0, `EndCapture`,
`LoadBlocks` — for `bal` the second, refused, and the first). -/
namespace MJ.Extends

/-- balanced capture events take off exactly what they put on: the `d` innermost entries are gone, the
rest of the stack and `parent_instructions` are untouched -/
theorem dyck_run (es : List Ev) : ∀ (d : Nat) (s : St), dyck d es = true → d ≤ s.caps.length →
    ∃ s', run s es = some s' ∧ s'.caps = s.caps.drop d ∧ s'.parent = s.parent := by
  intro d
  fun_induction dyck d es with
  | case1 d => intro s h _; exact ⟨s, rfl, by simp [show d = 0 by simpa using h], rfl⟩
  | case2 d n es ih =>
    intro s h hle
    exact ih { s with caps := .block n :: s.caps } h (Nat.succ_le_succ hle)
  | case3 => intro _ h; cases h
  | case4 d es ih =>
    intro s h hle
    match hcs : s.caps, hle with
    | c :: cs, hle =>
      obtain ⟨s', hr, hc, hp⟩ := ih { s with caps := cs, popped := s.popped ++ [c] } h (Nat.le_of_succ_le_succ hle)
      exact ⟨s', by simpa [run, ev, hcs] using hr, hc, hp⟩
  | case5 => intro _ h; cases h

/-- a stream whose captures never reach below its entry leaves the caller's part of the capture stack
(`c`) exactly as it was, with as many entries of its own on top as `bal` says — wherever its one
`LoadBlocks` sits -/
theorem bal_run (c : List Entry) (es : List Ev) : ∀ (l : Bool) (d : Nat) (s : St) (top : List Entry) (l' : Bool) (d' : Nat),
    s.caps = top ++ c → top.length = d → (s.parent.isSome = l) → bal l d es = some (l', d') →
    ∃ s' top', run s es = some s' ∧ s'.caps = top' ++ c ∧ top'.length = d' ∧ s'.parent.isSome = l' := by
  intro l d
  fun_induction bal l d es with
  | case1 l d =>
    intro s top l' d' hc hl hp hb
    cases hb
    exact ⟨s, top, rfl, hc, hl, hp⟩
  | case2 l d n es ih =>
    intro s top l' d' hc hl hp hb
    exact ih { s with caps := .block n :: s.caps } (.block n :: top) l' d' (congrArg (_ :: ·) hc) (congrArg (· + 1) hl) hp hb
  | case3 => intro _ _ _ _ _ _ _ hb; cases hb
  | case4 l d es ih =>
    intro s top l' d' hc hl hp hb
    match top, hl with
    | t :: ts, hl =>
      obtain ⟨s', top', hr, h⟩ := ih { s with caps := ts ++ c, popped := s.popped ++ [t] } ts l' d' rfl
        (Nat.succ.inj hl) hp hb
      exact ⟨s', top', by simpa [run, ev, hc] using hr, h⟩
  | case5 => intro _ _ _ _ _ _ _ hb; cases hb
  | case6 d p es ih =>
    intro s top l' d' hc hl hp hb
    have hpn : s.parent = none := Option.isSome_eq_false_iff.mp hp |> Option.isNone_iff_eq_none.mp
    obtain ⟨s', top', hr, h⟩ := ih { s with caps := .discard :: s.caps, parent := some p } (.discard :: top) l' d'
      (congrArg (_ :: ·) hc) (congrArg (· + 1) hl) rfl hb
    exact ⟨s', top', by simpa [run, ev, hpn] using hr, h⟩
end MJ.Extends
