import MJ.Proofs.ReloaderStep
namespace MJ.Reloader

/-! ## environment identity: the generation number identifies the environment object -/

/-- `a` was handed out from (an earlier state of) the environment `e` or a predecessor of it -/
def RecBefore (a : AcqRec) (e : Env) : Prop :=
  a.env.gen ≤ e.gen ∧
  (a.env.gen = e.gen → a.env.builtAt = e.builtAt ∧ a.env.freshAt ≤ e.freshAt ∧ a.env.clears ≤ e.clears)

structure GenInv (σ : State) : Prop where
  env : ∀ e, σ.env = some e → 1 ≤ e.gen ∧ e.gen ≤ σ.creates ∧ e.builtAt ≤ e.freshAt ∧ e.freshAt < σ.now
  building : ∀ c, σ.cur = some c → ((∃ ops, c.pc = .creating ops) ∨ (∃ s ops, c.pc = .innerSet s ops)) →
    c.buildStart < σ.now ∧ 1 ≤ σ.creates ∧ ∀ e, σ.env = some e → e.gen < σ.creates
  log : ∀ a ∈ σ.acqLog, 1 ≤ a.env.gen ∧ ∃ e, σ.env = some e ∧ RecBefore a e
  pair : ∀ a1 ∈ σ.acqLog, ∀ a2 ∈ σ.acqLog, a1.env.gen = a2.env.gen → a1.env.builtAt = a2.env.builtAt

theorem genInv_init (ths : List Thread) : GenInv (init ths) := by
  constructor <;> simp [init]

section
variable {σ σ' : State} {c : Active}

/-- the conjuncts read `env`, `creates`, `acqLog`, the clock, and the holder only while it is
    inside the creator -/
theorem GenInv.frame (h : GenInv σ) (henv : σ'.env = σ.env) (hcr : σ'.creates = σ.creates)
    (hlog : σ'.acqLog = σ.acqLog) (hnow : σ.now ≤ σ'.now)
    (hcur : σ'.cur = σ.cur ∨ ∃ c, σ'.cur = some c ∧ c.pc = .locked) : GenInv σ' where
  env e he := by
    rw [henv] at he; rw [hcr]
    exact ⟨(h.env e he).1, (h.env e he).2.1, (h.env e he).2.2.1,
      Nat.lt_of_lt_of_le (h.env e he).2.2.2 hnow⟩
  building c hc hp := by
    rw [henv, hcr]
    rcases hcur with hcur | ⟨c', hc', hl⟩
    · rw [hcur] at hc
      exact ⟨Nat.lt_of_lt_of_le (h.building c hc hp).1 hnow, (h.building c hc hp).2⟩
    · rw [hc'] at hc; cases hc
      rcases hp with ⟨_, hp⟩ | ⟨_, _, hp⟩ <;> rw [hl] at hp <;> cases hp
  log := by rw [hlog, henv]; exact h.log
  pair := by rw [hlog]; exact h.pair

theorem RecBefore.refl (a : AcqRec) : RecBefore a a.env :=
  ⟨Nat.le_refl _, fun _ => ⟨rfl, Nat.le_refl _, Nat.le_refl _⟩⟩

theorem RecBefore.mono {a : AcqRec} {e e' : Env} (h : RecBefore a e)
    (hle : e.gen < e'.gen ∨ (e'.gen = e.gen ∧ e'.builtAt = e.builtAt ∧ e.freshAt ≤ e'.freshAt ∧
      e.clears ≤ e'.clears)) : RecBefore a e' := by
  unfold RecBefore at *
  omega

theorem genInv_stepActive (h : GenInv σ) (hc : σ.cur = some c) (hs : stepActive σ c = some σ') :
    GenInv σ' :=
  have hh := stepActive_holder hs
  { env e' he' := by
      -- the creator's product takes the number of the call that built it, which is at least one
      -- and which began before the clock (`building`)
      rw [hh.now]
      rcases hh.env with ⟨he, hcr⟩ | ⟨hpc, hcr, he⟩ | ⟨e, he0, hcr, he⟩ <;> rw [he] at he'
      · have := h.env e' he'; omega
      · cases he'
        have := h.building c hc (.inl ⟨_, hpc⟩)
        simp only; omega
      · cases he'
        have := h.env e he0
        simp only; omega
    building c' hc' hb := by
      rw [hh.now]
      obtain ⟨he, ⟨-, hbs, hcr⟩ | ⟨hb0, hbs, hcr⟩⟩ := stepActive_building hs hc' hb <;>
        rw [he, hbs, hcr]
      · exact ⟨Nat.lt_succ_self _, Nat.le_add_left _ _,
          fun e he => Nat.lt_succ_of_le (h.env e he).2.1⟩
      · exact ⟨Nat.lt_succ_of_lt (h.building c hc hb0).1, (h.building c hc hb0).2⟩
    log := by
      -- a stored environment has a generation above every record's; a clear keeps generation and
      -- build time and moves `freshAt` and `clears` up; the handout records the cached environment
      rcases hh.acqLog with h' | ⟨e, he, -, he', -, -, h'⟩ <;> rw [h']
      · intro a ha
        obtain ⟨h1, e, he, hb⟩ := h.log a ha
        refine ⟨h1, ?_⟩
        rcases hh.env with ⟨he', -⟩ | ⟨hpc, -, he'⟩ | ⟨e0, he0, -, he'⟩ <;> rw [he']
        · exact ⟨e, he, hb⟩
        · have := (h.building c hc (.inl ⟨_, hpc⟩)).2.2 e he
          exact ⟨_, rfl, hb.mono (.inl this)⟩
        · cases he.symm.trans he0
          have := (h.env e he).2.2.2
          exact ⟨_, rfl, hb.mono (.inr ⟨rfl, rfl, by simp only; omega, by simp only; omega⟩)⟩
      · intro a ha
        rw [he', he]
        rcases List.mem_cons.mp ha with rfl | ha
        · exact ⟨(h.env e he).1, e, rfl, .refl _⟩
        · obtain ⟨h1, e1, he1, hb⟩ := h.log a ha
          cases he.symm.trans he1
          exact ⟨h1, e, rfl, hb⟩
    pair := by
      rcases hh.acqLog with h' | ⟨e, he, -, -, -, -, h'⟩ <;> rw [h']
      · exact h.pair
      · have key : ∀ a ∈ σ.acqLog, a.env.gen = e.gen → a.env.builtAt = e.builtAt := by
          intro a ha hg
          obtain ⟨_, e', he', hb⟩ := h.log a ha
          cases he.symm.trans he'
          exact (hb.2 hg).1
        intro a1 h1 a2 h2 hg
        rcases List.mem_cons.mp h1 with rfl | h1 <;> rcases List.mem_cons.mp h2 with rfl | h2
        · rfl
        · exact (key a2 h2 hg.symm).symm
        · exact key a1 h1 hg
        · exact h.pair a1 h1 a2 h2 hg }

end

theorem genInv_step {σ σ' : State} {i : Nat} (h : GenInv σ) (hs : step σ i = some σ') : GenInv σ' := by
  rcases step_cases hs with ⟨c, hc, -, hs⟩ | ⟨cfg, -, -, -, rfl⟩ | ho
  · exact genInv_stepActive h hc hs
  · exact h.frame rfl rfl rfl (Nat.le_succ _) (.inr ⟨_, rfl, rfl⟩)
  · exact h.frame ho.env ho.creates ho.acqLog (ho.now ▸ Nat.le_succ _) (.inl ho.cur)

theorem genInv_of_reachable {σ : State} (h : Reachable σ) : GenInv σ := by
  induction h with
  | init ths _ => exact genInv_init ths
  | step i _ hs ih => exact genInv_step ih hs

end MJ.Reloader
