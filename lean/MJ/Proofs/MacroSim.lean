import MJ.Proofs.StmtDone
import MJ.Proofs.EvalCoinc
/-!
# Macro declarations, macro calls and call blocks compile correctly (C03)

Declarations: `sim_enclose` (one `Enclose`: the closure of the innermost frame exists afterwards and holds the name),
`sim_macro_expr` (the macro object on the operand stack corresponds to the macro value, `MacroRel`), `sim_macro`.
Calls (`sim_call_step`, the `SimCall` of the next fuel level): `prepareArgs_rel` (the VM binds the bundle that corresponds
to the keyword arguments), `bindDefaults_spec` (what each parameter holds in the end, `ParamOk`), `sim_prologue`; the two
sides bind the parameters in opposite order (`assocGet_setAll_perm`, `HRel.heapEq`).  Call blocks: `sim_callBlock`.
-/
namespace MJ.Vm
open MJ.Eval MJ.Compile MJ.C03

/-- one `Enclose`: the closure of the innermost frame exists afterwards and holds the name -/
theorem sim_enclose (X : SC) (x : String) {G σ T locR A s} (hrel : Rel X.K G X.P X.clo σ (T :: locR) X.env s)
    (hA : ABound σ.heap (T :: locR) A) (hx : allowed X.P A x = true) (hi : X.K.C[s.pc]? = some (.enclose x)) :
    ∃ s' G', Reach X.K.ctx X.K.C s s' ∧ s'.pc = s.pc + 1 ∧ s'.stack = s.stack ∧ Rel X.K G' X.P X.clo σ (T :: locR) X.env s' ∧
      s'.outs = s.outs ∧ Keeps s s' ∧
      (∃ c m, topClosure s'.frames = some c ∧ s'.closures[c]? = some m ∧ (assocGet x m).isSome = true) := by
  obtain ⟨locF, tailF, hfr0, hfrel, _, hown1, _⟩ := hrel.1.frames
  cases locF with
  | nil => simp [FramesRel] at hfrel
  | cons f fsR =>
    have hfr : s.frames = f :: (fsR ++ tailF) := by rw [hfr0]; rfl
    -- (i) the closure of the frame
    have hstage : ∃ sa Ga c m, sa.pc = s.pc ∧ sa.stack = s.stack ∧ sa.outs = s.outs ∧
        sa.frames = { f with closure := some c } :: (fsR ++ tailF) ∧ sa.closures[c]? = some m ∧
        Rel X.K Ga X.P X.clo σ (T :: locR) X.env sa ∧ ClPres s sa ∧ HeadClos s sa ∧
        ((f.closure = some c ∧ sa.closures = s.closures) ∨
          (f.closure = none ∧ c = s.closures.length ∧ sa.closures = s.closures ++ [[]])) := by
      cases hcl : f.closure with
      | some c =>
        have hGc := hown1 0 f c (by simp) hcl
        obtain ⟨m, hm, _⟩ := hrel.1.closOK c _ hGc
        refine ⟨s, G, c, m, rfl, rfl, rfl, ?_, hm, hrel, ClPres.refl _, HeadClos.refl _, Or.inl ⟨rfl, rfl⟩⟩
        rw [hfr]; congr 1; cases f; simp_all
      | none =>
        let sa : VmState := { s with frames := { f with closure := some s.closures.length } :: (fsR ++ tailF),
                                     closures := s.closures ++ [[]] }
        obtain ⟨hnew, _⟩ := hrel.1.newClosure hfr hcl sa rfl rfl
        refine ⟨sa, _, s.closures.length, [], rfl, rfl, rfl, rfl, by simp [sa], ⟨hnew, hrel.2⟩, ?_, ?_, Or.inr ⟨rfl, rfl, rfl⟩⟩
        · exact ClPres.of_ext ⟨[[]], rfl⟩
        · exact Or.inr ⟨by rw [hfr]; simpa [topClosure] using hcl, s.closures.length, by simp [sa, topClosure], Nat.le_refl _⟩
    obtain ⟨sa, Ga, c, m, hpca, hsta, houta, hfra, hma, hrela, hcpa, hhca, hcases⟩ := hstage
    have hstep0 := step_enclose (ctx := X.K.ctx) (x := x) (s := s) (f := f) (rest := fsR ++ tailF) (c := c)
      (cls1 := sa.closures) (m := m) hfr
      (by rcases hcases with ⟨h1, h2⟩ | ⟨h1, h2, h3⟩
          · exact Or.inl ⟨h1, h2⟩
          · exact Or.inr ⟨h1, h2, h3⟩) hma
    -- (ii) the entry
    have hval := hrela.lookup (X := X) hA (by simp) hx
    have hsaeq : sa = { s with frames := { f with closure := some c } :: (fsR ++ tailF), closures := sa.closures } := by
      cases sa; simp_all
    by_cases hin : (assocGet x m).isSome = true
    · -- already enclosed
      let s' : VmState := { sa with pc := s.pc + 1 }
      have hstep : MJ.Vm.step X.K.ctx (.enclose x) s = .ok s' := by
        rw [hstep0, if_pos hin]; congr 1; simp only [s']; rw [hsaeq]
      exact ⟨s', Ga, Reach.one hi hstep, rfl, by simp [s', hsta], hrela.same s' rfl rfl rfl, by simp [s', houta],
        ⟨by simp [s', hfra, hfr], by simp [s', hfra, hfr, Frame.sig], hcpa.trans hhca (ClPres.of_eq rfl),
          hhca.trans hcpa.1 (HeadClos.of_eq rfl)⟩, ⟨c, m, by simp [s', hfra, topClosure], by simpa [s'] using hma, hin⟩⟩
    · let u := lookupFrames X.K.ctx sa.closures x sa.frames
      let s' : VmState := { sa with pc := s.pc + 1, closures := sa.closures.set c (assocSet x u m) }
      have hstep : MJ.Vm.step X.K.ctx (.enclose x) s = .ok s' := by
        rw [hstep0, if_neg hin]; congr 1; simp only [s', u, hfra]; rw [hsaeq]
      have hrel' : Rel X.K Ga X.P X.clo σ (T :: locR) X.env s' :=
        ⟨hrela.1.addEntry hfra rfl hma x u hval s' rfl rfl, by simpa [s'] using hrela.2⟩
      have hlt := lt_of_getElem?_some hma
      have hcp' : ClPres sa s' := by
        refine ⟨by simp [s'], KeysMono.set hma x u, fun i hi hne => ?_⟩
        · have hic : i ≠ c := by
            intro e; subst e
            exact hne (by rw [hfra]; rfl)
          simp only [s']; rw [List.getElem?_set_ne (Ne.symm hic)]
      exact ⟨s', Ga, Reach.one hi hstep, rfl, by simp [s', hsta], hrel', by simp [s', houta],
        ⟨by simp [s', hfra, hfr], by simp [s', hfra, hfr, Frame.sig], hcpa.trans hhca hcp', hhca.trans hcpa.1 (HeadClos.of_eq rfl)⟩,
        ⟨c, assocSet x u m, by simp [s', hfra, topClosure], by simp [s', hlt], by simp [assocGet_assocSet_same]⟩⟩

theorem sim_encloses (X : SC) {σ : State} {T : Nat} {locR : List Nat} {A : List String}
    (hA : ABound σ.heap (T :: locR) A) : ∀ (names : List String) (G : Ghost) (s : VmState),
    At X.K.C s.pc (names.map Instr.enclose) → Rel X.K G X.P X.clo σ (T :: locR) X.env s →
    (∀ x ∈ names, allowed X.P A x = true) →
    ∃ s' G', Reach X.K.ctx X.K.C s s' ∧ s'.pc = s.pc + names.length ∧ s'.stack = s.stack ∧
      Rel X.K G' X.P X.clo σ (T :: locR) X.env s' ∧
      s'.outs = s.outs ∧ Keeps s s' ∧
      (∀ x ∈ names, ∃ c m, topClosure s'.frames = some c ∧ s'.closures[c]? = some m ∧ (assocGet x m).isSome = true)
  | [], G, s, _, hrel, _ => ⟨s, G, Reach.refl _, by simp, rfl, hrel, rfl, Keeps.refl _, fun x hx => by simp at hx⟩
  | x :: rest, G, s, hAt, hrel, hall => by
    simp only [List.map_cons] at hAt
    obtain ⟨s1, G1, r1, hpc1, hst1, hrel1, hout1, hk1, c1, m1, htop1, hm1, hx1⟩ :=
      sim_enclose X x hrel hA (hall x (by simp)) hAt.head
    obtain ⟨s2, G2, r2, hpc2, hst2, hrel2, hout2, hk2, hn2⟩ :=
      sim_encloses X hA rest G1 s1 (by rw [hpc1]; exact hAt.tail) hrel1 (fun y hy => hall y (by simp [hy]))
    refine ⟨s2, G2, r1.trans r2, by rw [hpc2, hpc1]; simp; omega, hst2.trans hst1, hrel2, hout2.trans hout1, hk1.trans hk2,
      fun y hy => ?_⟩
    rcases List.mem_cons.1 hy with rfl | hy'
    · obtain ⟨m2, hm2, hkeys⟩ := hk2.clos.2.1 c1 m1 hm1
      exact ⟨c1, m2, hk2.top.some_stays htop1, hm2, hkeys y hx1⟩
    · exact hn2 y hy'

/-- a macro declaration expression (`compile_macro_expression`): the jump over the macro's code, the
`Enclose`s, `GetClosure`, `LoadConst`, `BuildMacro` — the macro object is on the operand stack -/
theorem sim_macro_expr (X : SC) (name : String) (params : List String) (defaults : List Expr) (body : List Stmt) (uc : Bool)
    {G : Ghost} {σ : State} {T : Nat} {locR : List Nat} {A : List String} {s : VmState} {base : Nat} {a : Aux}
    (hfvall : (fvOf params defaults body).all (allowed X.P A) = true)
    (hwfb : wfMacroBody X.K.M params defaults body uc = true) (hA : ABound σ.heap (T :: locR) A)
    (Rp : List Instr × Aux) (hRp : Rp = relPrologue (paramDefaults params defaults).reverse (base + 1) a)
    (Rb : (List Instr × Aux) × List Nat) (hRb : Rb = relBlock body (base + 1 + Rp.1.length) Rp.2 none)
    (hAt : At X.K.C base (macroDeclCode name params (findMacroClosure params defaults body) base Rp.1 Rb.1.1))
    (hoof : Rb.1.2.oof = false) (hpc : s.pc = base) (hrel : Rel X.K G X.P X.clo σ (T :: locR) X.env s) :
    ∃ s5 G2 vm, Reach X.K.ctx X.K.C s s5 ∧
      s5.pc = base + (macroDeclCode name params (findMacroClosure params defaults body) base Rp.1 Rb.1.1).length ∧
      s5.stack = vm :: s.stack ∧ Rel X.K G2 X.P X.clo σ (T :: locR) X.env s5 ∧
      MacroRel X.K G2 s5.closures σ.heap.length vm (.macro name params defaults body uc (T :: (locR ++ X.env))) ∧
      s5.outs = s.outs ∧ Keeps s s5 := by
  simp only [macroDeclCode] at hAt ⊢
  let mi : Nat := base + 1 + Rp.1.length + Rb.1.1.length + 1
  let s1 : VmState := { s with pc := mi }
  have hreach1 : Reach X.K.ctx X.K.C s s1 :=
    Reach.one (i := .jump mi) (by rw [hpc]; exact hAt.left.left.left.left.left.head) rfl
  have hrel1 : Rel X.K G X.P X.clo σ (T :: locR) X.env s1 := hrel.same s1 rfl rfl rfl
  have hAtE : At X.K.C s1.pc ((sortNames (fvOf params defaults body)).map Instr.enclose) := by
    have := hAt.left.right
    refine At.cast this ?_
    simp only [s1, mi, List.length_append, List.length_cons, List.length_nil]; omega
  obtain ⟨s2, G2, r2, hpc2, hst2, hrel2, hout2, hkp2, hk2⟩ :=
    sim_encloses X hA (sortNames (fvOf params defaults body)) G s1 hAtE hrel1
      (fun x hx => by
        have hx' : x ∈ fvOf params defaults body := (mem_sortNames x _).1 hx
        exact (List.all_eq_true.1 hfvall) x hx')
  have hElen : (relEnclose (findMacroClosure params defaults body)).length = (sortNames (fvOf params defaults body)).length := by
    simp [relEnclose, fvOf]
  let pE : Nat := mi + (relEnclose (findMacroClosure params defaults body)).length
  have hpc2' : s2.pc = pE := by rw [hpc2]; simp only [s1, pE, hElen]
  have hAtT : At X.K.C pE [Instr.getClosure, Instr.loadConst (Val.list (params.map Val.str)),
      Instr.buildMacro name (base + 1) (macroFlags (findMacroClosure params defaults body))] := by
    refine At.cast hAt.right ?_
    simp only [pE, mi, List.length_append, List.length_cons, List.length_nil]; omega
  let cv : Val := match topClosure s2.frames with | some c => .int c | none => .undef
  let clo' : Option Nat := topClosure s2.frames
  have hcv : closureOf cv = clo' := by
    simp only [cv, clo', closureOf]; cases topClosure s2.frames <;> simp
  have hst2' : s2.stack = s.stack := by rw [hst2]
  let s3 : VmState := { s2 with pc := s2.pc + 1, stack := cv :: s2.stack }
  have r3 : Reach X.K.ctx X.K.C s2 s3 :=
    Reach.one' (i := .getClosure) _ hAtT.head hpc2' step_getClosure
  let s4 : VmState := { s2 with pc := s2.pc + 2, stack := .list (params.map Val.str) :: cv :: s2.stack }
  have r4 : Reach X.K.ctx X.K.C s3 s4 :=
    Reach.one' (i := .loadConst _) _ hAtT.tail.head (by simp [s3, hpc2']) ((Goes.loadConst _).step_eq rfl rfl)
  let vm : Val := .vmMacro name params (base + 1) clo' uc
  let s5 : VmState := { s2 with pc := s2.pc + 3, stack := vm :: s2.stack }
  have huc : uc = (findMacroClosure params defaults body).contains "caller" := by
    have := hwfb; simp only [wfMacroBody, Bool.and_eq_true, beq_iff_eq] at this; exact this.1.1.2
  have r5 : Reach X.K.ctx X.K.C s4 s5 :=
    Reach.one' (i := .buildMacro _ _ _) _ hAtT.tail.tail.head (by simp [s4, hpc2'])
      (by rw [step_buildMacro rfl, specNames_str, macroFlags_flag, ← huc, hcv])
  have hrel5 : Rel X.K G2 X.P X.clo σ (T :: locR) X.env s5 := hrel2.same s5 rfl rfl rfl
  have hmrel : MacroRel X.K G2 s5.closures σ.heap.length vm (.macro name params defaults body uc (T :: (locR ++ X.env))) := by
    refine ⟨base + 1, clo', rfl, ⟨a, ?_, ?_⟩, hwfb, fun id hid => hrel.1.bound id (by simpa using hid), ?_, ?_⟩
    · rw [← hRp, ← hRb]
      have h4 : At X.K.C base ([Instr.jump mi] ++ (Rp.1 ++ Rb.1.1 ++ [Instr.return_])) := by
        have := hAt.left.left
        simpa [List.append_assoc, mi] using this
      simpa using h4.right
    · rw [← hRp, ← hRb]; exact hoof
    · intro c hc
      obtain ⟨locF, tailF, hfr0, hfrel, _, hown1, _⟩ := hrel2.1.frames
      cases locF with
      | nil => simp [FramesRel] at hfrel
      | cons f0 fsR =>
        have htop : topClosure s2.frames = f0.closure := by rw [hfr0]; rfl
        have := hown1 0 f0 c (by simp) (by rw [← htop]; exact hc)
        simpa using this
    · intro x hx
      obtain ⟨c, m, htop, hm, hxs⟩ := hk2 x ((mem_sortNames x _).2 hx)
      exact ⟨c, m, htop, hm, hxs⟩
  have k01 : Keeps s s1 := Keeps.of_ext rfl (Ext.refl _)
  have k25 : Keeps s2 s5 := Keeps.of_ext rfl (Ext.refl _)
  refine ⟨s5, G2, vm, hreach1.trans (r2.trans (r3.trans (r4.trans r5))), ?_, by simp [s5, hst2'], hrel5, hmrel, by simp [s5, hout2, s1],
    k01.trans (hkp2.trans k25)⟩
  simp only [s5, hpc2', pE, mi, List.length_append, List.length_cons, List.length_nil]; omega

theorem sim_macro {n} (X : SC) (name : String) (params : List String) (defaults : List Expr) (body : List Stmt) (uc : Bool) :
    StmtGoal (n + 1) X (.macroS name params defaults body uc) := by
  intro G σ loc σ' fl hev A lc hs hA hne base a s hAt hoof hpc hrel hcap
  obtain ⟨hnameM, hfvall, hwfb⟩ := wfStmt_macro hs
  cases loc with
  | nil => exact absurd rfl hne
  | cons T locR =>
    simp only [exec, bind, Except.bind, List.cons_append, topCell] at hev
    simp at hev
    obtain ⟨rfl, rfl⟩ := hev
    simp only [relStmt] at hAt hoof ⊢
    obtain ⟨Rp, hRp⟩ : ∃ Rp, Rp = relPrologue (paramDefaults params defaults).reverse (base + 1) a := ⟨_, rfl⟩
    obtain ⟨Rb, hRb⟩ : ∃ Rb, Rb = relBlock body (base + 1 + Rp.1.length) Rp.2 none := ⟨_, rfl⟩
    rw [← hRp] at hAt hoof ⊢
    rw [← hRb] at hAt hoof ⊢
    obtain ⟨s5, G2, vm, r5, hpc5, hst5, hrel5, hmrel, hout5, hk5⟩ :=
      sim_macro_expr X name params defaults body uc hfvall hwfb hA Rp hRp Rb hRb hAt.left hoof hpc hrel
    have hnM : name ∈ X.K.M := by simpa using hnameM
    obtain ⟨s6, G6, r6, hpc6, hst6, hrel6, hout6, hk6⟩ := Done.store hrel5 hpc5 hAt.right.head hst5
      (w := .macro name params defaults body uc (T :: (locR ++ X.env))) (by simp only [ValAgree, if_pos hnM]; exact hmrel)
      (fun h => absurd hnM h)
    exact Post.normal.2 ⟨s6, G6, r5.trans r6, by rw [hpc6]; simp only [List.length_append, List.length_cons, List.length_nil]; omega,
      hst6, hrel6, by rw [hout6, hout5], hk5.trans hk6⟩

/-- the VM's `prepare_args` on the popped values against the binder of the reference semantics on the
evaluated arguments: the same values for the parameters (plain data), corresponding `caller`s -/
theorem prepareArgs_rel {K : Cfg} {G : Ghost} {cls : List Scope} {hl : Nat} (spec : List String) (cref : Bool)
    (hpc : "caller" ∉ spec) {as : List (Option String × Val)} {args : List Val} (h : ArgsRel K G cls hl as args)
    {bound : List (String × Val)} {caller : Option Val}
    (hb : bindArgs spec cref (callArgs as).1 (callArgs as).2 = .ok (bound, caller)) :
    ∃ callerV, prepareArgs spec cref args = .ok (bound.map (·.2), callerV) ∧
      ((caller = none ∧ callerV = none) ∨
       (∃ cw cu, caller = some cw ∧ callerV = some cu ∧ MacroRel K G cls hl cu cw)) ∧
      (∀ b, b ∈ bound → plain b.2 = true) := by
  rw [callArgs_plain h.1] at hb
  simp only at hb
  -- the VM binds with the bundle that corresponds to the keyword arguments; without keyword arguments, the empty one
  obtain ⟨m, hrel, hprep⟩ : ∃ m, KwRel K G cls hl (splitArgs as).2 m ∧
      prepareArgs spec cref args = (bindArgs spec cref (splitArgs as).1 m).map fun r => (r.1.map (·.2), r.2) := by
    rcases h.2 with ⟨hkw, rfl⟩ | ⟨_, m, hrel, rfl⟩
    · refine ⟨[], by rw [hkw]; exact ⟨fun k _ => ⟨rfl, fun v hv => by simp [assocGet] at hv⟩, .inl ⟨rfl, rfl⟩⟩,
        MJ.ArgBind.prepareArgs_positional spec cref _ fun kvs hl' => ?_⟩
      have := h.1 _ (List.mem_of_getLast? hl')
      simp [plain] at this
    · exact ⟨m, hrel, MJ.ArgBind.prepareArgs_kwargs spec cref _ m⟩
  have hcs : (assocGet "caller" m).isSome = (assocGet "caller" (splitArgs as).2).isSome := by
    rcases hrel.2 with ⟨h1, h2⟩ | ⟨w, u, h1, h2, _⟩ <;> rw [h1, h2] <;> rfl
  rw [hprep, bindArgs_rel spec cref _ (fun k hk => (hrel.1 k hk).1) hcs hpc, hb]
  refine ⟨_, rfl, ?_, bindParams_plain spec _ _ bound (bindArgs_ok hb).1 h.1
    fun k v hk hg => (hrel.1 k (fun e => hpc (e ▸ hk))).2 v hg⟩
  have hcal := (bindArgs_ok hb).2
  cases cref with
  | false => left; exact ⟨by simpa using hcal, rfl⟩
  | true =>
    right
    simp only [if_true] at hcal ⊢
    rcases hrel.2 with ⟨h1, h2⟩ | ⟨w, u, h1, h2, hm⟩
    · exact ⟨.undef, .undef, by rw [hcal, h1]; rfl, by rw [h2]; rfl, rfl⟩
    · exact ⟨w, u, by rw [hcal, h1]; rfl, by rw [h2]; rfl, hm⟩

/-! ### Parameter defaults

The engine binds the parameters back to front (a default is evaluated when the parameters behind it
are stored, the ones in front of it not yet), the reference semantics front to back.  A default that
contains no call and reads no parameter (`wfDefault`) cannot tell: `evalExpr_coinc`. -/

/-- `h` answers like `h1` for every name outside `N` -/
def PD (N : List String) (h1 h : Heap) : Prop :=
  ∀ (id : Nat) (x : String), x ∉ N → (h[id]?).bind (assocGet x) = (h1[id]?).bind (assocGet x)

theorem PD.refl (N : List String) (h : Heap) : PD N h h := fun _ _ _ => rfl

theorem PD.heapSet {N : List String} {h1 h : Heap} (hp : PD N h1 h) (cell : Nat) {p : String} (hpN : p ∈ N) (v : Val) :
    PD N h1 (heapSet h cell p v) := by
  intro id x hx
  rw [heapSet_bind_other h cell id p x v (fun e => hx (e ▸ hpN))]
  exact hp id x hx

theorem PD.lookup {N : List String} {h1 h : Heap} (hp : PD N h1 h) (ctx : Scope) (x : String) (hx : x ∉ N) :
    ∀ (st : List Nat), MJ.Eval.lookup ctx h st x = MJ.Eval.lookup ctx h1 st x :=
  fun _ => lookup_ext fun id _ => hp id x hx

/-- what a parameter holds when the body starts: the value that was passed, or the value of the default
(evaluated in `heap`) -/
def DefVal (n : Nat) (ctx : Scope) (heap : Heap) (st : List Nat) (od : Option Expr) (v u : Val) : Prop :=
  match slotOf v od with
  | .passed w => u = w
  | .dflt d => ∃ k, k < n ∧ evalExpr k ctx heap st d = .ok u

theorem DefVal.mono {m n : Nat} {ctx : Scope} {heap : Heap} {st : List Nat} {od : Option Expr} {v u : Val}
    (h : DefVal m ctx heap st od v u) (hle : m ≤ n) : DefVal n ctx heap st od v u := by
  unfold DefVal at h ⊢
  cases hs : slotOf v od with
  | passed w => rw [hs] at h; exact h
  | dflt d => rw [hs] at h; obtain ⟨k, hk, he⟩ := h; exact ⟨k, by omega, he⟩

/-- a parameter as the prologue meets it, `it` = (name, default, passed value, value it holds in the end): the final
value is plain data and is what `DefVal` says; the default reads names of `F` only -/
def ParamOk (n : Nat) (X : SC) (h1 : Heap) (cell : Nat) (N F : List String) (it : String × Option Expr × Val × Val) : Prop :=
  it.1 ∈ N ∧ ¬ it.1 ∈ X.K.M ∧ DefVal n X.K.ctx h1 (cell :: X.env) it.2.1 it.2.2.1 it.2.2.2 ∧ plain it.2.2.2 = true ∧
    ∀ d, it.2.1 = some d → readsIn F d = true ∧ wfExpr X.K.M X.P [] d = true

theorem ParamOk.mono {m n X h1 cell N F it} (h : ParamOk m X h1 cell N F it) (hle : m ≤ n) : ParamOk n X h1 cell N F it :=
  ⟨h.1, h.2.1, h.2.2.1.mono hle, h.2.2.2⟩

/-- the reference semantics binds the parameters front to back: `items` = (parameter, default, passed
value, value it holds in the end) -/
theorem bindDefaults_spec {X : SC} {cell : Nat} {params : List String} {defaults : List Expr}
    {F : List String} {h1 : Heap} (hF : ∀ x, x ∈ F → x ∉ params) (hM : ∀ p, p ∈ params → ¬ p ∈ X.K.M)
    (hwf : ∀ d, d ∈ defaults → readsIn F d = true ∧ wfExpr X.K.M X.P [] d = true) (hpl : PlainSt X.K.M X.K.ctx h1) :
    ∀ (n : Nat) (h : Heap) (i : Nat) (bound : List (String × Val)) (heap2 : Heap), PD params h1 h →
      (∀ b, b ∈ bound → b.1 ∈ params ∧ plain b.2 = true) →
      bindDefaults n X.K.ctx h (cell :: X.env) params defaults i bound = .ok heap2 →
      ∃ items : List (String × Option Expr × Val × Val),
        items.map (fun it => (it.1, it.2.2.1)) = bound ∧
        items.map (fun it => (it.1, it.2.1)) =
          ((bound.map (·.1)).zipIdx i).map (fun x => (x.1, defaultOf params defaults x.2)) ∧
        heap2 = heapSetAll h cell (items.map fun it => (it.1, it.2.2.2)) ∧
        ∀ it, it ∈ items → ParamOk n X h1 cell params F it := by
  intro n
  induction n with
  | zero => intro h i bound heap2 _ _ hb; simp [bindDefaults] at hb
  | succ m ih =>
    intro h i bound heap2 hpd hbound hb
    cases bound with
    | nil =>
      simp [bindDefaults] at hb; subst hb
      exact ⟨[], rfl, rfl, rfl, fun it hit => by simp at hit⟩
    | cons b rest =>
      obtain ⟨p, v⟩ := b
      obtain ⟨hpN, hpv⟩ := hbound (p, v) (by simp)
      obtain ⟨w, hw, hb⟩ := bindDefaults_cons_ok hb
      obtain ⟨items, hb1, hb2, hheap, hvals⟩ := ih _ (i + 1) rest heap2 (hpd.heapSet cell hpN w)
        (fun b hb => hbound b (by simp [hb])) hb
      have hfin : DefVal (m + 1) X.K.ctx h1 (cell :: X.env) (defaultOf params defaults i) v w ∧ plain w = true := by
        rcases hw with hs | ⟨d, hs, hd⟩
        · exact ⟨by simp only [DefVal, hs], by rw [slotOf_passed hs]; exact hpv⟩
        · obtain ⟨hdr, hdw⟩ := hwf d (defaultOf_mem ((MJ.ArgBind.slotOf_dflt_iff _ _ _).1 hs).2)
          -- the default does not read a parameter: it has the same value in `h1`
          have hd1 : evalExpr m X.K.ctx h1 (cell :: X.env) d = .ok w := by
            rw [← hd]
            exact (evalExpr_coinc (fun x hx => hpd.lookup X.K.ctx x (hF x hx) (cell :: X.env)) m d hdr).symm
          exact ⟨by simp only [DefVal, hs]; exact ⟨m, by omega, hd1⟩, evalExpr_plain hpl m d w hdw hd1⟩
      refine ⟨(p, defaultOf params defaults i, v, w) :: items, by simp [hb1], by simp [hb2, List.zipIdx_cons],
        by simp [heapSetAll, hheap], fun it hit => ?_⟩
      rcases List.mem_cons.1 hit with rfl | hit
      · exact ⟨hpN, hM p hpN, hfin.1, hfin.2, fun d hd => hwf d (defaultOf_mem hd)⟩
      · exact (hvals it hit).mono (by omega)

/-- the prologue of a macro, against the final values `u` of the parameters (`DefVal`): `items` are
(parameter, default, passed value, final value) in the order of the code — last parameter first -/
theorem sim_prologue {n} (hE : ∀ k, k < n → SegExpr k) (X : SC) (h1 : Heap) (cell : Nat) (N F : List String)
    (hFN : ∀ x, x ∈ F → x ∉ N) :
    ∀ (items : List (String × Option Expr × Val × Val)),
      (∀ it, it ∈ items → ParamOk n X h1 cell N F it) →
      ∀ (G : Ghost) (base : Nat) (a : Aux) (s : VmState) (st : List Val) (σ : State),
        At X.K.C base (relPrologue (items.map fun it => (it.1, it.2.1)) base a).1 →
        (relPrologue (items.map fun it => (it.1, it.2.1)) base a).2.oof = false → s.pc = base →
        s.stack = items.map (fun it => it.2.2.1) ++ st → Rel X.K G X.P X.clo σ [cell] X.env s → PD N h1 σ.heap →
        Done X [cell] { σ with heap := heapSetAll σ.heap cell (items.map fun it => (it.1, it.2.2.2)) } s st
          (base + (relPrologue (items.map fun it => (it.1, it.2.1)) base a).1.length)
  | [], _, G, base, a, s, st, σ, _, _, hpc, hst, hrel, _ =>
    ⟨s, G, Reach.refl _, by simp [relPrologue, hpc], by simpa using hst, by simpa [heapSetAll] using hrel, rfl, Keeps.refl _⟩
  | (p, od, v, u) :: rest, hit, G, base, a, s, st, σ, hAt, hoof, hpc, hst, hrel, hpd => by
    obtain ⟨hpN, hpM, hdv, hpu, hdwf⟩ := hit (p, od, v, u) (by simp)
    have hok : targetOk X.K.M (.var p) = true := by simpa [targetOk, targetNames] using hpM
    simp only [List.map_cons, List.cons_append] at hst
    cases od with
    | none =>
      simp only [List.map_cons, relPrologue] at hAt hoof ⊢
      have hu : u = v := by simpa [DefVal, MJ.ArgBind.slotOf_no_default] using hdv
      subst hu
      have h1s := sim_target X (.var p) u [(p, u)] (by simp [bindTarget]) hok hpu G base s
        (rest.map (fun it => it.2.2.1) ++ st) σ cell [] (by simpa [relTarget] using hAt.left) hpc hst hrel
      have hrec : ∀ s1 G1, s1.pc = base + (relTarget (.var p)).length → s1.stack = rest.map (fun it => it.2.2.1) ++ st →
          Rel X.K G1 X.P X.clo { σ with heap := heapSetAll σ.heap cell [(p, u)] } [cell] X.env s1 →
          Done X [cell] { heap := heapSetAll (heapSetAll σ.heap cell [(p, u)]) cell (rest.map fun it => (it.1, it.2.2.2)), out := σ.out } s1 st
            (base + 1 + (relPrologue (rest.map fun it => (it.1, it.2.1)) (base + 1) a).1.length) :=
        fun s1 G1 hpc1 hst1 hrel1 =>
          sim_prologue hE X h1 cell N F hFN rest (fun it h => hit it (by simp [h])) G1 (base + 1) a s1 st { σ with heap := heapSetAll σ.heap cell [(p, u)] }
            (by simpa [relTarget] using hAt.right) hoof (by simpa [relTarget] using hpc1) hst1 hrel1
            (by simpa [heapSetAll] using hpd.heapSet cell hpN u)
      exact (h1s.trans fun s1 G1 a b c _ => hrec s1 G1 a b c).cast_state (by simp [heapSetAll]) |>.cast (by simp; omega)
    | some d =>
      obtain ⟨hdr, hdw⟩ := hdwf d rfl
      simp only [List.map_cons, relPrologue] at hAt hoof ⊢
      obtain ⟨Rd, hRd⟩ : ∃ Rd, Rd = relExpr d (base + 4) a := ⟨_, rfl⟩
      rw [← hRd] at hAt hoof ⊢
      obtain ⟨Rr, hRr⟩ : ∃ Rr, Rr = relPrologue (rest.map fun it => (it.1, it.2.1)) (base + 4 + Rd.1.length + 1) Rd.2 := ⟨_, rfl⟩
      rw [← hRr] at hAt hoof ⊢
      have hoofd : Rd.2.oof = false := oof_false_of_mono (relPrologue_oof_mono _ _ _) (hRr ▸ hoof)
      have hA0 : ABound σ.heap [cell] [] := by intro x hx; simp at hx
      let E := X.ectx G σ.heap [cell] []
      have hAt1 : At X.K.C base ([.dupTop, .isUndefined, .jumpIfFalse (base + 4 + Rd.1.length), .discardTop] ++ Rd.1) :=
        hAt.left.left
      have hAtS : At X.K.C (base + 4 + Rd.1.length) (relTarget (.var p)) := by
        have := hAt.left.right
        refine At.cast this ?_
        simp; omega
      have hAtR : At X.K.C (base + 4 + Rd.1.length + 1) Rr.1 := by
        have := hAt.right
        refine At.cast this ?_
        simp; omega
      have hpush : Pushed E s (base + 4 + Rd.1.length) (u :: rest.map (fun it => it.2.2.1) ++ st) := by
        have seg : Seg E s base (.dupTop :: .isUndefined :: .jumpIfFalse (base + 4 + Rd.1.length) :: .discardTop :: Rd.1)
            (v :: (rest.map (fun it => it.2.2.1) ++ st)) (u :: (rest.map (fun it => it.2.2.1) ++ st)) := by
          refine .cons .dupTop (.cons .isUndefined ?_)
          by_cases hv : v = .undef
          · -- not passed: drop the copy, evaluate the default
            subst hv
            have hs : slotOf .undef (some d) = .dflt d := rfl
            obtain ⟨k, hk, hev⟩ : ∃ k, k < n ∧ evalExpr k X.K.ctx h1 (cell :: X.env) d = .ok u := by
              simpa [DefVal, hs] using hdv
            have hev' : evalExpr k E.K.ctx E.heap (E.loc ++ E.env) d = .ok u := by
              rw [← hev]
              exact evalExpr_coinc (fun x hx => hpd.lookup X.K.ctx x (hFN x hx) (cell :: X.env)) k d hdr
            exact .cons (.jumpIfFalse_go _ rfl) (.cons .discardTop
              (hRd ▸ hE k hk E d u hev' hdw (hrel.eok hA0 (by simp)) (base + 4) a _ (hRd ▸ hoofd)))
          · -- passed: jump over the default
            have hu : u = v := by simpa [DefVal, MJ.ArgBind.slotOf_passed_of_ne_undef v (some d) hv] using hdv
            subst hu
            exact .over (.jumpIfFalse_jump _ (by cases u <;> first | exact absurd rfl hv | simp [truthy]))
              (by simp only [List.length_cons]; omega)
        exact (seg.run hAt1 hpc hst).cast (by simp only [List.length_cons]; omega) rfl
      have hrec : ∀ s2 G2, s2.pc = base + 4 + Rd.1.length + (relTarget (.var p)).length → s2.stack = rest.map (fun it => it.2.2.1) ++ st →
          Rel X.K G2 X.P X.clo { σ with heap := heapSetAll σ.heap cell [(p, u)] } [cell] X.env s2 →
          Done X [cell] { heap := heapSetAll (heapSetAll σ.heap cell [(p, u)]) cell (rest.map fun it => (it.1, it.2.2.2)), out := σ.out } s2 st
            (base + 4 + Rd.1.length + 1 + Rr.1.length) :=
        fun s2 G2 hpc2 hst2 hrel2 => by
          have := sim_prologue hE X h1 cell N F hFN rest (fun it h => hit it (by simp [h])) G2 (base + 4 + Rd.1.length + 1) Rd.2 s2 st
            { σ with heap := heapSetAll σ.heap cell [(p, u)] }
            (by rw [← hRr]; exact hAtR) (by rw [← hRr]; exact hoof) (by simpa [relTarget] using hpc2) hst2 hrel2
            (by simpa [heapSetAll] using hpd.heapSet cell hpN u)
          rw [← hRr] at this
          exact this
      have hst2 : Done X [cell] { heap := heapSetAll (heapSetAll σ.heap cell [(p, u)]) cell (rest.map fun it => (it.1, it.2.2.2)), out := σ.out } s st
          (base + 4 + Rd.1.length + 1 + Rr.1.length) :=
        (Done.of_pushed hrel hpush).trans fun s1 G1 hpc1 hst1 hrel1 _ =>
          (sim_target X (.var p) u [(p, u)] (by simp [bindTarget]) hok hpu G1 (base + 4 + Rd.1.length) s1
            (rest.map (fun it => it.2.2.1) ++ st) σ cell [] hAtS hpc1 (by simpa using hst1) hrel1).trans fun s2 G2 a b c _ => hrec s2 G2 a b c
      exact hst2.cast_state (by simp [heapSetAll]) |>.cast (by simp; omega)

/-- the cell / the locals a macro call starts with: the `caller` it was given -/
def callerCell (c : Option Val) : Scope :=
  match c with
  | some c => [("caller", c)]
  | none => []

theorem sim_call_step {m} (hE : ∀ k, k < m → SegExpr k) (ihB : SimBlock m) : SimCall (m + 1) := by
  intro K G heap cls w u as args v hcall hmrel hargs hginv hplain
  cases w <;> try (simp [callValue] at hcall; done)
  · rename_i name params defaults body uc env
    obtain ⟨off, clo, hu, ⟨ac, hcodeAt, hcodeOof⟩, hwfb, henvb, hclo, hkeys⟩ := hmrel
    have hwf : ((((params.Nodup ∧ (∀ p ∈ params, ¬ p ∈ K.M ∧ ¬ p = "caller")) ∧ defaults.length ≤ params.length ∧
        (∀ d ∈ defaults, wfDefault K.M (fvOf params defaults body) params d = true)) ∧
        uc = (findMacroClosure params defaults body).contains "caller") ∧ (uc = false ∨ "caller" ∈ K.M)) ∧
        wfBlock K.M (some (fvOf params defaults body)) (macroBound params uc) false body = true := by
      simpa [wfMacroBody] using hwfb
    obtain ⟨⟨⟨⟨⟨hnd, hpM⟩, hdlen, hdwf⟩, _⟩, hucM⟩, hwfbody⟩ := hwf
    have hpcal : "caller" ∉ params := fun h => (hpM _ h).2 rfl
    simp only [callValue] at hcall
    split at hcall
    · simp at hcall
    · rename_i bound caller hbind
      have hcaller := (bindArgs_ok hbind).2
      split at hcall
      · simp at hcall
      · rename_i heap2 hdefs
        split at hcall
        · simp at hcall
        · rename_i σ2 hbody
          simp at hcall; subst hcall
          -- the VM binds the arguments alike
          obtain ⟨callerV, hprep, hcrel, hbplain⟩ := prepareArgs_rel params uc hpcal hargs hbind
          have hnames : bound.map (·.1) = params := bindParams_names _ _ _ _ (bindArgs_ok hbind).1
          -- the context of the call: one cell / frame, holding `caller`
          let X : SC := { K := K, P := some (fvOf params defaults body), clo := clo, env := env }
          let cellE : Scope := callerCell caller
          let fM : Frame := { closureCtx := clo, locals := callerCell callerV }
          let s0 : VmState := calleeState off clo callerV (bound.map (·.2)) cls
          have hdefs' : bindDefaults m K.ctx (heap ++ [cellE]) (heap.length :: env) params defaults 0 bound = .ok heap2 := by
            cases caller <;> exact hdefs
          have hs0f : s0.frames = [fM, {}] := by cases callerV <;> rfl
          have hcM : caller ≠ none → "caller" ∈ K.M := by
            intro hne
            rcases hucM with h | h
            · rw [hcaller, h] at hne; simp at hne
            · exact h
          have hcellAgree : ∀ x, OptAgree K G cls (heap.length + 1) x (assocGet x cellE) (frameLocal fM x) := by
            intro x
            rcases hcrel with ⟨h1, h2⟩ | ⟨cw, cu, h1, h2, hmr⟩
            · simp only [cellE, fM, h1, h2, callerCell, assocGet, frameLocal]; exact OptAgree.none _ _ _ _ _
            · have hM : "caller" ∈ K.M := hcM (by rw [h1]; simp)
              by_cases hx : x = "caller"
              · subst hx
                simp only [cellE, fM, h1, h2, callerCell, assocGet, frameLocal, if_true]
                unfold OptAgree
                rw [if_pos hM]
                exact ⟨rfl, fun w u hw hu => by
                  cases hw; cases hu
                  exact hmr.mono (GhostLe.refl G) (KeysMono.refl _) (Nat.le_succ _)⟩
              · have hx' : ¬ "caller" = x := fun e => hx e.symm
                simp only [cellE, fM, h1, h2, callerCell, assocGet, frameLocal, if_neg hx']; exact OptAgree.none _ _ _ _ _
          have hplE : PlainSt K.M K.ctx (heap ++ [cellE]) := by
            refine hplain.push cellE (fun x v hx hg => ?_)
            cases hc : caller with
            | none => simp [cellE, hc, callerCell, assocGet] at hg
            | some cw =>
              simp only [cellE, hc, callerCell, assocGet] at hg
              split at hg
              · rename_i e
                have hM : "caller" ∈ K.M := hcM (by rw [hc]; simp)
                rw [e] at hM; exact absurd hM hx
              · cases hg
          have hrel0 : Rel K G X.P clo { heap := heap ++ [cellE], out := "" } [heap.length] env s0 :=
            ⟨HRel.callee hginv.1 hginv.2 (fvOf params defaults body) env clo hclo hkeys henvb cellE fM hcellAgree rfl rfl hplE
              s0 hs0f rfl, ⟨[], rfl⟩⟩
          -- the reference semantics: what the parameters hold in the end
          let F : List String := (fvOf params defaults body).filter fun x => !params.contains x
          have hFN : ∀ x, x ∈ F → x ∉ params := by
            intro x hx; simp [F] at hx; exact hx.2
          obtain ⟨itemsF, hb1, hb2, hheap2, hitems⟩ :=
            bindDefaults_spec (X := X) (F := F) (h1 := heap ++ [cellE]) hFN (fun p hp => (hpM p hp).1)
              (fun d hd => by have := hdwf d hd; simp only [wfDefault, Bool.and_eq_true] at this; exact this) hplE
              m (heap ++ [cellE]) 0 bound heap2 (PD.refl _ _)
              (fun b hb => ⟨by rw [← hnames]; exact List.mem_map.2 ⟨b, hb, rfl⟩, hbplain b hb⟩) hdefs'
          -- the prologue, last parameter first
          have hpds : (paramDefaults params defaults).reverse = (itemsF.reverse).map fun it => (it.1, it.2.1) := by
            rw [List.map_reverse, hb2, hnames, paramDefaults_eq params defaults hdlen]
          rw [hpds] at hcodeAt hcodeOof
          have hstk : s0.stack = (itemsF.reverse).map (fun it => it.2.2.1) ++ [] := by
            simp only [s0, calleeState, List.append_nil, List.map_reverse]
            rw [← hb1]; simp [List.map_map]
          obtain ⟨s1, G1, r1, hpc1, hst1, hrel1, hout1, hk1⟩ :=
            sim_prologue hE X (heap ++ [cellE]) heap.length params F hFN itemsF.reverse
              (fun it hit => hitems it (List.mem_reverse.1 hit)) G off ac s0 []
              { heap := heap ++ [cellE], out := "" } hcodeAt.left.left (oof_false_of_relBlock hcodeOof)
              rfl hstk hrel0 (PD.refl _ _)
          -- … which is the cell of the reference semantics, up to the order of the bindings
          have hnmU : (itemsF.map fun it => (it.1, it.2.2.2)).map (·.1) = params := by
            rw [← hnames, ← hb1]; simp [List.map_map]
          have hrel2 : Rel K G1 X.P clo { heap := heap2, out := "" } [heap.length] env s1 := by
            refine ⟨?_, hrel1.2⟩
            -- the VM has bound the parameters back to front
            have h1 := hrel1.1
            rw [hheap2, heapSetAll_last]
            rw [List.map_reverse, heapSetAll_last] at h1
            exact h1.heapEq (HeapEq.last heap fun x =>
              assocGet_setAll_perm (List.reverse_perm _).symm (by rw [hnmU]; exact hnd) cellE x)
          -- the parameters (and `caller`) are bound
          have hA : ABound heap2 [heap.length] (macroBound params uc) := by
            rw [hheap2, heapSetAll_last]
            refine ABound.of_cell fun x hx => ⟨setAll cellE (itemsF.map fun it => (it.1, it.2.2.2)), by simp, setAll_bound _ cellE x ?_⟩
            simp only [macroBound, List.mem_append] at hx
            rcases hx with hx | hx
            · exact .inr (by rw [hnmU]; exact hx)
            · cases huc : uc <;> rw [huc] at hx <;> simp at hx
              subst hx
              exact .inl (by rw [show cellE = callerCell caller from rfl, hcaller, huc]; simp [callerCell, assocGet])
          obtain ⟨Rp, hRp⟩ : ∃ Rp, Rp = relPrologue (itemsF.reverse.map fun it => (it.1, it.2.1)) off ac := ⟨_, rfl⟩
          rw [← hRp] at hcodeAt hcodeOof hpc1
          have p2 := ihB X body G1 { heap := heap2, out := "" } [heap.length] σ2 .normal hbody (macroBound params uc) none
            hwfbody hA (by simp) (off + Rp.1.length) Rp.2 s1 hcodeAt.left.right hcodeOof hpc1 hrel2 (by intro l hl; cases hl)
          obtain ⟨s3, G3, r3, hpc3, hst3, hrel3, hout3, htl3, hhd3, hcp3, hhc3⟩ := Post.normal.1 p2
          have hret : K.C[s3.pc]? = some .return_ := by
            have := hcodeAt.right.head
            rw [hpc3]
            refine Eq.trans (congrArg (fun k => K.C[k]?) ?_) this
            simp only [List.length_append]; omega
          have houts : s3.outs = [σ2.out] := by
            obtain ⟨r3o, hr3o⟩ := hrel3.2
            have h1 : s3.outs.tail = [] := by rw [hout3, hout1]; simp [s0, calleeState]
            rw [hr3o] at h1 ⊢
            simp at h1; rw [h1]
          have hx03 : Ext s0.closures s3.closures :=
            (hk1.clos.trans hk1.top hcp3).ext_of_none (by simp [s0, calleeState, topClosure])
          exact ⟨name, params, off, clo, uc, bound.map (·.2), callerV, s3, hu, hprep, r1.trans r3, hret, by simp [houts],
            by simpa [s0, calleeState] using hx03⟩
        · simp at hcall

/-- `{% call(params) x(args) %}body{% endcall %}`: the arguments of the call, the `caller` macro made of
the body, the keyword bundle with the hidden `caller` entry, the call, `Emit` -/
theorem sim_callBlock {n} (ihPA : SegPosArgs n) (ihKA : SegKwArgs n) (ihCall : SimCall n) (X : SC) (x : String)
    (args : Args) (params : List String) (defaults : List Expr) (body : List Stmt) (uc : Bool) :
    StmtGoal (n + 1) X (.callBlock (.var x) args params defaults body uc) := by
  intro G σ loc σ' fl hev A lc hs hA hne base a s hAt hoof hpc hrel hcap
  obtain ⟨⟨hxM, hxa, hnd, hnc, hwa⟩, hcM, hfvall, hwfb⟩ := wfStmt_callBlock hs
  have hxM' : x ∈ X.K.M := by simpa using hxM
  have hcM' : "caller" ∈ X.K.M := by simpa using hcM
  cases loc with
  | nil => exact absurd rfl hne
  | cons T locR =>
    simp only [exec, bind, Except.bind] at hev
    cases hw' : MJ.Eval.lookup X.K.ctx σ.heap (T :: locR ++ X.env) x with
    | none => rw [hw'] at hev; simp at hev
    | some w =>
      rw [hw'] at hev
      simp only at hev
      split at hev
      · simp at hev
      · rename_i as has
        split at hev
        · simp at hev
        · rename_i v hcall
          simp at hev
          obtain ⟨rfl, rfl⟩ := hev
          obtain ⟨hkeys, hplen, hklen⟩ := evalArgs_keysOf args as has
          simp only [relStmt] at hAt hoof ⊢
          obtain ⟨Ra, hRa⟩ : ∃ Ra, Ra = relPosArgs args base a := ⟨_, rfl⟩
          rw [← hRa] at hAt hoof ⊢
          obtain ⟨Rk, hRk⟩ : ∃ Rk, Rk = relKwArgs args (base + Ra.1.length) Ra.2 := ⟨_, rfl⟩
          rw [← hRk] at hAt hoof ⊢
          obtain ⟨Rp, hRp⟩ : ∃ Rp, Rp = relPrologue (paramDefaults params defaults).reverse
              (base + Ra.1.length + Rk.1.length + 1 + 1) Rk.2 := ⟨_, rfl⟩
          rw [← hRp] at hAt hoof ⊢
          obtain ⟨Rb, hRb⟩ : ∃ Rb, Rb = relBlock body (base + Ra.1.length + Rk.1.length + 1 + 1 + Rp.1.length) Rp.2 none := ⟨_, rfl⟩
          rw [← hRb] at hAt hoof ⊢
          have hoofP : Rp.2.oof = false := oof_false_of_relBlock (hRb ▸ hoof)
          have hoofK : Rk.2.oof = false := oof_false_of_mono (relPrologue_oof_mono _ _ _) (hRp ▸ hoofP)
          have hoofA : Ra.2.oof = false := by rw [hRk] at hoofK; exact oof_false_of_relKwArgs hoofK
          let j : Nat := base + Ra.1.length + Rk.1.length + 1
          obtain ⟨MD, hMD⟩ : ∃ MD, MD = macroDeclCode "caller" params (findMacroClosure params defaults body) j Rp.1 Rb.1.1 := ⟨_, rfl⟩
          have hAt' : At X.K.C base ((((Ra.1 ++ Rk.1) ++ [Instr.loadConst (.str "caller")]) ++ MD) ++
              [.buildKwargs ((kwArgs args).length + 1), .callFunction x ((posArgs args).length + 1), .emit]) := by
            rw [hMD]; exact hAt
          let E := X.ectx G σ.heap (T :: locR) A
          have hok : E.ok s := hrel.eok hA (by simp)
          have hplA : ∀ v, v ∈ as.map (·.2) → plain v = true := evalArgs_plain hrel.1.plain n args as hwa has
          have p3 : Pushed E s j (.str "caller" :: ((flatKw (splitArgs as).2).reverse ++ ((splitArgs as).1.reverse ++ s.stack))) := by
            have seg : Seg E s base ((Ra.1 ++ Rk.1) ++ [.loadConst (.str "caller")]) s.stack
                (.str "caller" :: ((flatKw (splitArgs as).2).reverse ++ ((splitArgs as).1.reverse ++ s.stack))) := by
              subst hRa; subst hRk
              exact ((ihPA E args as has hwa hok base a _ hoofA).append (ihKA E args as has hwa hok _ _ _ hoofK)).append
                (.one (.loadConst _))
            exact (seg.run hAt'.left.left hpc rfl).cast
              (by simp only [j, List.length_append, List.length_cons, List.length_nil]; omega) rfl
          obtain ⟨c3, x3, r3⟩ := p3
          let s3 : VmState := { s with pc := j, stack := .str "caller" :: ((flatKw (splitArgs as).2).reverse ++ ((splitArgs as).1.reverse ++ s.stack)),
                                       closures := c3 }
          have hrel3 : Rel X.K G X.P X.clo σ (T :: locR) X.env s3 := hrel.ext _ rfl x3 rfl rfl
          have hAtM : At X.K.C j MD := by
            refine At.cast hAt'.left.right ?_
            simp only [j, List.length_append, List.length_cons, List.length_nil]; omega
          obtain ⟨s5, G2, vm, r5, hpc5, hst5, hrel5, hmrel, hout5, hk5⟩ :=
            sim_macro_expr X "caller" params defaults body uc hfvall hwfb hA Rp hRp Rb hRb (by rw [← hMD]; exact hAtM) hoof rfl hrel3
          rw [← hMD] at hpc5
          let wc : Val := .macro "caller" params defaults body uc (T :: (locR ++ X.env))
          have hndk : (((splitArgs as).2 ++ [("caller", vm)]).map (·.1)).Nodup := by
            rw [List.map_append, hkeys]
            refine List.nodup_append.2 ⟨hnd, by simp, ?_⟩
            intro k hk k' hk' e
            simp at hk'; subst hk'; subst e; exact hnc hk
          obtain ⟨m', hm', hget⟩ := insertPairs_kw ((splitArgs as).2 ++ [("caller", vm)]) [] hndk (fun k _ => by simp [assocGet])
          have hcnone : assocGet "caller" (splitArgs as).2 = none :=
            assocGet_none_of_not_mem (by rw [hkeys]; exact hnc)
          have hAtT : At X.K.C s5.pc ([.buildKwargs ((kwArgs args).length + 1), .callFunction x ((posArgs args).length + 1)] ++ [.emit]) :=
            At.cast hAt'.right (by rw [hpc5]; simp only [List.length_append, List.length_cons, List.length_nil]; omega)
          let E5 := X.ectx G2 σ.heap (T :: locR) A
          -- the arguments as the callee sees them
          have hargsR : ∀ cls, Ext s5.closures cls → ArgsRel X.K G2 cls σ.heap.length (as ++ [(some "caller", wc)])
              ((splitArgs as).1 ++ [.kwargs m']) := by
            intro cls hx
            obtain ⟨extra, rfl⟩ := hx
            rw [ArgsRel, splitArgs_append_kw]
            refine ⟨fun v hv => hplA v (mem_splitArgs_pos hv), Or.inr ⟨by simp, m', ⟨fun k hk => ?_, Or.inr ?_⟩, rfl⟩⟩
            · rw [hget k, MJ.ArgBind.assocGet_append_of_ne (Ne.symm hk), MJ.ArgBind.assocGet_append_of_ne (Ne.symm hk)]
              refine ⟨by cases assocGet k (splitArgs as).2 <;> simp [assocGet], fun v hv => hplA v (mem_splitArgs_kw (assocGet_mem' hv))⟩
            · refine ⟨wc, vm, assocGet_snoc_same _ _ _ hcnone, ?_,
                hmrel.mono (GhostLe.refl G2) (KeysMono.append _ _) (Nat.le_refl _)⟩
              rw [hget "caller", assocGet_snoc_same _ _ _ hcnone]
          have hi8 : X.K.C[s5.pc + 1 + 1]? = some .emit := hAtT.right.head
          have p7 : Pushed E5 s5 (s5.pc + 1 + 1) (v :: s.stack) := by
            have hlen : ((splitArgs as).2 ++ [("caller", vm)]).length = (kwArgs args).length + 1 := by simp [hklen]
            have seg : Seg E5 s5 s5.pc [.buildKwargs ((kwArgs args).length + 1), .callFunction x ((posArgs args).length + 1)]
                ((flatKw ((splitArgs as).2 ++ [("caller", vm)])).reverse ++ ((splitArgs as).1.reverse ++ s.stack)) (v :: s.stack) :=
              hlen ▸ .cons (.buildKwargs hm') ((Seg.call ihCall (hrel5.eok hA (by simp)) hxM' hxa hw' hcall hargsR
                (by simp [hplen])).castIn (by simp))
            exact seg.run hAtT.left rfl (by rw [hst5, flatKw_snoc]; simp [s3])
          obtain ⟨s8, G8, r8, hpc8, hst8, hrel8, hout8, hk8⟩ := (Done.of_pushed hrel5 p7).trans
            fun s7 G7 hpc7 hst7 hrel7 _ => Done.emit hrel7 hpc7 hi8 hst7
          have k03 : Keeps s s3 := Keeps.of_ext rfl x3
          refine Post.normal.2 ⟨s8, G8, (r3.trans r5).trans r8, ?_, hst8, hrel8, by rw [hout8, hout5],
            (k03.trans hk5).trans hk8⟩
          simp only [hpc8, hpc5, ← hMD, j, List.length_append, List.length_cons, List.length_nil]; omega

end MJ.Vm
