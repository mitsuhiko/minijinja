import MJ.Model.SubKinds
import MJ.Proofs.SubGlue
/-!
Lemmas about `MJ/Model/SubKinds.lean`: a conversion site is a function of the integer held and of the kind name
(`convBy_of_holds`); the bytes `collect::<String>()` builds from the selected characters are the encoding of `pick`
(`encode_pick`, by `cursor_on_boundaries`); `repIter` is `replicate` flattened; the positions of `[::-1]` pick the
reverse (`pick_indices_rev`); `flattenLoop` appends the items of its pending stack, top first (`flattenLoop_items`).
-/
namespace MJ.Sub
open MJ Chk Slice

/-- every conversion a site performs is a function of the integer held and the kind name -/
theorem convBy_of_holds {α : Type} (fn target : String) (v : Val α) (x : Int) (h : HoldsInt v x) :
    convBy fn target v = convSpec fn target x v.kindDisplay := by
  unfold convBy convSpec
  by_cases h1 : fn = "slice_bound"
  · simp only [h1, if_true, sliceBound_of_holds v x h]
    rfl
  · simp only [h1, if_false]
    by_cases h2 : fn = "as_i64+isize"
    · simp only [h2, if_true, valI64, tryInt_of_payload _ _ v x ⟨h.1, h.2.1⟩]
      by_cases hr : i64Min ≤ x ∧ x ≤ i64Max
      · simp only [hr, and_self, if_true]
      · simp only [hr, if_false]
    · simp only [h2, if_false]
      by_cases h3 : fn = "as_usize"
      · simp only [h3, if_true, valUsize, tryInt_of_payload _ _ v x ⟨h.1, h.2.1⟩]
        by_cases hr : 0 ≤ x ∧ x ≤ usizeMax
        · simp only [hr, and_self, if_true, Option.map_some]
          congr 2; omega
        · simp only [hr, if_false, Option.map_none]
      · simp only [h3, if_false]
        by_cases h4 : fn = "try_from"
        · simp only [h4, if_true]
          cases intTypeRange target with
          | none => rfl
          | some p =>
            obtain ⟨lo, hi⟩ := p
            simp only [tryInt_of_payload _ _ v x ⟨h.1, h.2.1⟩, convErrT]
            by_cases hr : lo ≤ x ∧ x ≤ hi
            · simp only [hr, and_self, if_true]
            · simp only [hr, if_false]
        · simp only [h4, if_false]

theorem kind_num {α : Type} (n : N) : (Val.num n : Val α).kindDisplay = "number" := by
  cases n <;> (simp only [Val.kindDisplay, Val.repr]; decide +kernel)

theorem holds_bool {α : Type} (b : Bool) : HoldsInt (Val.bool b : Val α) (if b then 1 else 0) :=
  ⟨arm_bool b, rfl, trivial⟩

theorem holds_i64 {α : Type} (x : Int) (h : i64Min ≤ x ∧ x ≤ i64Max) : HoldsInt (Val.num (.i64 x) : Val α) x :=
  ⟨arm_num _, rfl, h⟩

theorem charBytesAt_encode (cs : List Char) (i : Nat) (h : i < cs.length) :
    charBytesAt (encode cs) i = String.utf8EncodeChar cs[i] := by
  obtain ⟨h1, _, h3⟩ := cursor_on_boundaries cs i h
  unfold charBytesAt
  rw [h1, List.getElem?_eq_getElem h]
  simp only [Option.map_some]
  rw [h3, List.drop_eq_getElem_cons h, encode_cons, ← String.length_utf8EncodeChar]
  simp

theorem encode_pick (cs : List Char) (idxs : List Nat) (hb : ∀ i ∈ idxs, i < cs.length) :
    encode (pick cs idxs) = strSliceBytes (encode cs) idxs := by
  induction idxs with
  | nil => rfl
  | cons i t ih =>
    have hi : i < cs.length := hb i (by simp)
    have ht : ∀ k ∈ t, k < cs.length := fun k hk => hb k (by simp [hk])
    simp only [pick, List.filterMap_cons, List.getElem?_eq_getElem hi, strSliceBytes, List.flatMap_cons]
    rw [encode_cons, charBytesAt_encode cs i hi]
    congr 1
    exact ih ht

theorem repIter_eq {α : Type} (n : Nat) (xs : List α) : repIter n xs = (List.replicate n xs).flatten := by
  unfold repIter
  induction n with
  | zero => rfl
  | succ k ih =>
    rw [List.range_succ, List.flatMap_append, ih, List.replicate_succ']
    simp

theorem repIter_length {α : Type} (n : Nat) (xs : List α) : (repIter n xs).length = n * xs.length := by
  rw [repIter_eq]; simp

theorem repIter_mul {α : Type} (a b : Nat) (xs : List α) : repIter (a * b) xs = repIter b (repIter a xs) := by
  simp only [repIter_eq]
  induction b with
  | zero => simp
  | succ k ih =>
    rw [Nat.mul_succ, ← List.replicate_append_replicate, List.flatten_append, ih, List.replicate_succ']
    simp

theorem repIter_nil {α : Type} (n : Nat) : repIter n ([] : List α) = [] := by
  rw [repIter_eq]; simp

theorem repIter_zero {α : Type} (xs : List α) : repIter 0 xs = [] := rfl

theorem repeatIterable_gt {α : Type} (o : Operand α) (n : Nat) (h : ¬ o.enumLen * n ≤ MJ.Gen.c09RepeatedMax) :
    repeatIterable o n = .error repTooLarge := by
  unfold repeatIterable; rw [if_neg h]

theorem repeatIterable_le {α : Type} (o : Operand α) (n : Nat) (r : Rep α) (h : repeatIterable o n = .ok r) :
    o.enumLen * n ≤ MJ.Gen.c09RepeatedMax :=
  Decidable.by_contra fun hle => by rw [repeatIterable_gt o n hle] at h; cases h

theorem repeatIterable_plain {α : Type} (xs : List α) (n : Nat) (r : Rep α) (h : repeatIterable (.plain xs) n = .ok r) :
    r = ⟨xs, xs.length, if xs.length = 0 then 0 else n, xs.length * n⟩ := by
  have hle := repeatIterable_le _ n r h
  unfold repeatIterable at h
  rw [if_pos hle] at h
  exact (Except.ok.inj h).symm

theorem repeatIterable_rep {α : Type} (inner : Rep α) (n : Nat) (r : Rep α) (h : repeatIterable (.rep inner) n = .ok r) :
    r = ⟨inner.xs, inner.len, if inner.total * n = 0 then 0 else inner.n * (if inner.total = 0 then 0 else n),
      inner.total * n⟩ := by
  have hle := repeatIterable_le _ n r h
  unfold repeatIterable at h
  rw [if_pos hle] at h
  exact (Except.ok.inj h).symm

/-- Python's `reversed(s)`, as the engine types it: a string stays a string, bytes stay bytes,
    every other sequence becomes a (lazy) list -/
def PySeq.reversed {α : Type} : PySeq α → PySeq α
  | .str cs => .str cs.reverse
  | .bytes bs => .bytes bs.reverse
  | .tuple xs => .list xs.reverse
  | .list xs => .list xs.reverse

/-- the items of a Python sequence as the engine hands them out one by one -/
def PySeq.items {α : Type} : PySeq α → List (Item α)
  | .str cs => cs.map Item.chr
  | .bytes bs => bs.map Item.byte
  | .tuple xs => xs.map Item.elem
  | .list xs => xs.map Item.elem

theorem pick_indices_rev {α : Type} (xs : List α) :
    pick xs (PySlice.indices xs.length none none (-1)) = xs.reverse := by
  rw [PySlice.indices_rev]
  apply List.ext_getElem?
  intro j
  rw [pick_getElem? xs _ (by
    intro i hi
    simp only [List.mem_map, List.mem_range] at hi
    obtain ⟨k, hk, rfl⟩ := hi
    omega)]
  by_cases hj : j < xs.length
  · rw [List.getElem?_map, List.getElem?_range hj]
    simp only [Option.map_some, Option.bind_some]
    rw [List.getElem?_reverse hj]
  · rw [List.getElem?_eq_none (by simpa using hj), List.getElem?_eq_none (by simpa using hj)]
    rfl

theorem itemsList_append {α : Type} (as bs : List (MTree α)) : itemsList (as ++ bs) = itemsList as ++ itemsList bs := by
  induction as with
  | nil => simp [itemsList]
  | cons a t ih => simp [itemsList, ih]

theorem sizeList_append {α : Type} (as bs : List (MTree α)) : sizeList (as ++ bs) = sizeList as + sizeList bs := by
  induction as with
  | nil => simp [sizeList]
  | cons a t ih => simp [sizeList, ih]; omega

theorem sizeList_reverse {α : Type} (as : List (MTree α)) : sizeList as.reverse = sizeList as := by
  induction as with
  | nil => rfl
  | cons a t ih => simp [sizeList_append, sizeList, ih]; omega

theorem size_pos {α : Type} (t : MTree α) : 0 < t.size := by
  cases t <;> simp [MTree.size] <;> omega

/-- the loop appends the items of the pending stack, read from its top, in iteration order -/
theorem flattenLoop_items {α : Type} : ∀ (fuel : Nat) (pending values : List (MTree α)), sizeList pending ≤ fuel →
    itemsList (flattenLoop fuel pending values) = itemsList values ++ itemsList pending.reverse ∧
    (∀ t ∈ flattenLoop fuel pending values, t ∈ values ∨ ∃ xs, t = .leaf xs) := by
  intro fuel
  induction fuel with
  | zero =>
    intro pending values h
    have : pending = [] := by
      cases pending with
      | nil => rfl
      | cons a t => have := size_pos a; simp [sizeList] at h; omega
    subst this
    exact ⟨by simp [flattenLoop, itemsList], fun t ht => Or.inl (by simpa [flattenLoop] using ht)⟩
  | succ f ih =>
    intro pending values h
    rcases List.eq_nil_or_concat pending with rfl | ⟨S, top, rfl⟩
    · exact ⟨by simp [flattenLoop, itemsList], fun t ht => Or.inl (by simpa [flattenLoop] using ht)⟩
    · rw [List.concat_eq_append] at h ⊢
      simp only [flattenLoop, List.getLast?_append, List.getLast?_singleton, Option.some_or, List.dropLast_concat]
      rw [sizeList_append] at h
      simp only [sizeList, Nat.add_zero] at h
      cases top with
      | leaf xs =>
        simp only [MTree.size] at h
        obtain ⟨h1, h2⟩ := ih S (values ++ [.leaf xs]) (by omega)
        refine ⟨?_, ?_⟩
        · rw [h1, itemsList_append, List.reverse_append]
          simp [itemsList, MTree.items, List.append_assoc]
        · intro t ht
          rcases h2 t ht with h | h
          · rcases List.mem_append.mp h with h | h
            · exact Or.inl h
            · simp at h; exact Or.inr ⟨xs, h⟩
          · exact Or.inr h
      | node ts =>
        simp only [MTree.size] at h
        obtain ⟨h1, h2⟩ := ih (S ++ ts.reverse) values (by rw [sizeList_append, sizeList_reverse]; omega)
        refine ⟨?_, h2⟩
        rw [h1, List.reverse_append, List.reverse_reverse, List.reverse_append, itemsList_append]
        simp [itemsList, MTree.items, itemsList_append]

end MJ.Sub
