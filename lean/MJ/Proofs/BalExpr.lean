import MJ.Model.BalExpr
/-! `gen 0 e` is a `flat` block of the statement model, for every expression tree -/
namespace MJ.BalExpr
open MJ.Bal

mutual
  theorem length_gen : ∀ (e : Expr) (b : Nat), (gen b e).length = size e
    | .leaf n, b => by simp [gen, size]
    | .call, b => by simp [gen, size]
    | .seq x y, b => by simp [gen, size, length_gen x, length_gen y]
    | .scBool a l r, b => by simp [gen, size, length_gen l, length_gen r]; omega
    | .ifExpr c t e, b => by simp [gen, size, length_gen c, length_gen t, length_gen e]; omega
    | .compare f ops, b => by
      simp only [gen, size, List.length_append, length_gen f, length_genOps ops]
      cases isChain ops <;> simp
  theorem length_genOps : ∀ (ops : Ops) (b cl : Nat), (genOps b cl ops).length = sizeOps ops
    | .last e, b, cl => by simp [genOps, sizeOps, length_gen e]
    | .more e rest, b, cl => by simp [genOps, sizeOps, length_gen e, length_genOps rest]; omega
end

theorem within_jump {lo hi t : Nat} (h₁ : lo ≤ t) (h₂ : t ≤ hi) :
    within lo hi (.jump t) = true ∧ within lo hi (.jumpIfFalse t) = true ∧
    within lo hi (.jumpIfFalseOrPop t) = true ∧ within lo hi (.jumpIfTrueOrPop t) = true := by
  simp [within, h₁, h₂]

mutual
  /-- every jump of the code of `e` placed at `b` stays within the code of `e` (or any range around it) -/
  theorem gen_within : ∀ (e : Expr) (b lo hi : Nat), lo ≤ b → b + size e ≤ hi →
      ∀ i ∈ gen b e, within lo hi i = true
    | .leaf n, b, lo, hi, _, _ => by
      simp only [gen, List.mem_replicate]; rintro i ⟨_, rfl⟩; rfl
    | .call, b, lo, hi, _, _ => by
      simp only [gen, List.forall_mem_singleton]; rfl
    | .seq x y, b, lo, hi, h1, h2 => by
      simp only [size] at h2
      simp only [gen, List.forall_mem_append]
      exact ⟨gen_within x b lo hi h1 (by omega), gen_within y _ lo hi (by omega) (by omega)⟩
    | .scBool a l r, b, lo, hi, h1, h2 => by
      simp only [size] at h2
      simp only [gen, List.forall_mem_append, List.forall_mem_singleton]
      have hj := within_jump (lo := lo) (hi := hi) (t := b + size l + 1 + size r) (by omega) (by omega)
      exact ⟨⟨gen_within l b lo hi h1 (by omega), match a with | true => hj.2.2.1 | false => hj.2.2.2⟩,
        gen_within r _ lo hi (by omega) (by omega)⟩
    | .ifExpr c t e, b, lo, hi, h1, h2 => by
      simp only [size] at h2
      simp only [gen, List.forall_mem_append, List.forall_mem_singleton]
      exact ⟨⟨⟨⟨gen_within c b lo hi h1 (by omega), (within_jump (by omega) (by omega)).2.1⟩,
        gen_within t _ lo hi (by omega) (by omega)⟩, (within_jump (by omega) (by omega)).1⟩,
        gen_within e _ lo hi (by omega) (by omega)⟩
    | .compare f ops, b, lo, hi, h1, h2 => by
      simp only [size] at h2
      simp only [gen, List.forall_mem_append]
      refine ⟨⟨gen_within f b lo hi h1 (by omega), ?_⟩, ?_⟩
      · refine genOps_jumps ops _ _ lo hi (by omega) (by omega) fun hc => ?_
        rw [hc, if_pos rfl] at h2; exact ⟨by omega, by omega⟩
      · cases hc : isChain ops with
        | false => exact fun _ h => nomatch h
        | true =>
          rw [hc, if_pos rfl] at h2
          simp only [if_true, List.forall_mem_cons]
          exact ⟨(within_jump (by omega) (by omega)).1, rfl, rfl, fun _ h => nomatch h⟩
  /-- the clean-up target only matters to a chain -/
  theorem genOps_jumps : ∀ (ops : Ops) (b cl lo hi : Nat), lo ≤ b → b + sizeOps ops ≤ hi →
      (isChain ops = true → lo ≤ cl ∧ cl ≤ hi) → ∀ i ∈ genOps b cl ops, within lo hi i = true
    | .last e, b, cl, lo, hi, h1, h2, _ => by
      simp only [sizeOps] at h2
      simp only [genOps, List.forall_mem_append, List.forall_mem_singleton]
      exact ⟨gen_within e b lo hi h1 (by omega), rfl⟩
    | .more e rest, b, cl, lo, hi, h1, h2, h3 => by
      simp only [sizeOps] at h2
      simp only [genOps, List.forall_mem_append, List.forall_mem_cons]
      have hcl := h3 rfl
      exact ⟨⟨gen_within e b lo hi h1 (by omega), rfl, (within_jump hcl.1 hcl.2).2.2.1, fun _ h => nomatch h⟩,
        genOps_jumps rest _ cl lo hi (by omega) (by omega) fun _ => hcl⟩
end

theorem genOps_within : ∀ (ops : Ops) (b cl lo hi : Nat), lo ≤ b → b + sizeOps ops ≤ hi → lo ≤ cl → cl ≤ hi →
      ∀ i ∈ genOps b cl ops, within lo hi i = true :=
  fun ops b cl lo hi h1 h2 h3 h4 => genOps_jumps ops b cl lo hi h1 h2 fun _ => ⟨h3, h4⟩

theorem within_flatInstr {n : Nat} {i : Instr} (h : within 0 n i = true) : MJ.BalGen.flatInstr n i = true := by
  cases i <;> simp_all [within, MJ.BalGen.flatInstr]

/-- the code of every expression tree is a `flat` block: the parser-accepted statement `.flat (gen 0 e)`
is in the fragment `compile_has_cert` covers -/
theorem gen_flat (e : Expr) (inLoop : Bool) : MJ.BalGen.ok inLoop (.flat (gen 0 e)) = true := by
  simp only [MJ.BalGen.ok, List.all_eq_true]
  intro i hi
  apply within_flatInstr
  rw [length_gen]
  exact gen_within e 0 0 (size e) (Nat.le_refl _) (by omega) i hi

end MJ.BalExpr
