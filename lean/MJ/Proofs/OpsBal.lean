import MJ.Proofs.Bal
import MJ.Proofs.Ops
import MJ.Model.OpsBal
/-!
# The operand-stack machine refines the balance machine (C05)

`MJ.Ops` (operand heights, `next_loop_recursion_jump`, `loop_recursion_bases`) and `MJ.Bal` (frames,
captures, auto-escape entries) model the same activation of `eval_impl`.  `projCode` forgets the
operand effects; every run of the `Ops` machine projects to a run of the `Bal` machine (`sim_reach`;
the `Bal` machine takes the jump of `loop(...)` and the `PushLoop` behind it in one step, so the
simulation stutters there).  Consequence (`certified_disciplined`): in a stream whose projection has
a certificate accepted by the verified checker, `PopFrame` only ever meets `with` frames — the
hypothesis of the pairing theorem of `loop_recursion_bases`.
-/
namespace MJ.OpsBal
open MJ

theorem projCode_get (c : Ops.Code) (pc : Nat) : (projCode c)[pc]? = (c[pc]?).map projI := by
  simp [projCode]

theorem liveTargets_proj (fs : List Ops.Frame) :
    Bal.liveTargets (fs.map projF) = Ops.liveTargets fs := by
  fun_induction Ops.liveTargets fs with
  | case1 => rfl
  | case2 _ fs ih => exact ih
  | case3 l fs t h ih => simp [projF, Bal.liveTargets, h, ih]
  | case4 l fs h ih => simpa [projF, Bal.liveTargets, h] using ih

theorem innermost_proj (fs : List Ops.Frame) :
    Bal.innermostLoop (fs.map projF) = (Ops.innermostLoop fs).map (·.recTarget) := by
  fun_induction Ops.innermostLoop fs with
  | case1 | case3 => rfl
  | case2 _ fs ih => exact ih

/-- the state of the balance machine after the recursion step from `b` into the loop at `t` -/
def entered (b : Bal.VmState) (t : Nat) (v r cap : Bool) : Bal.VmState :=
  { pc := t + 1, frames := .loopF v (Bal.recOf t r) (some (b.pc + 1, cap)) :: b.frames,
    caps := if cap then b.caps + 1 else b.caps, escs := b.escs }

/-- simulation: between the `recurse_loop!` jump and the `PushLoop` it targets the balance machine
has not moved yet (it takes both in one step) -/
inductive Sim (code : Ops.Code) : Ops.State → Bal.VmState → Prop where
  | run {s : Ops.State} : s.next = none → Sim code s (proj s)
  | calling {s : Ops.State} {b : Bal.VmState} {cap v r : Bool} {l : List Bal.VmState} :
      s.next = some (b.pc + 1, cap) → b.frames = s.frames.map projF → b.escs = s.escs.length →
      s.caps.length = (if cap then b.caps + 1 else b.caps) →
      code[s.pc]? = some (.pushLoop v r) →
      Bal.step (projCode code) b = .next l → entered b s.pc v r cap ∈ l →
      Sim code s b

theorem allSome_mem {α : Type} (xs : List (Option α)) (l : List α) (h : Bal.allSome xs = some l) :
    ∀ x ∈ xs, ∃ a, x = some a ∧ a ∈ l := by
  fun_induction Bal.allSome xs generalizing l with
  | case1 => exact fun _ hx => nomatch hx
  | case2 | case4 => cases h
  | case3 a xs l' hl ih =>
    cases h
    intro x hx
    rcases List.mem_cons.mp hx with rfl | hx
    · exact ⟨a, rfl, .head _⟩
    · obtain ⟨a', ha', hm⟩ := ih l' hl x hx
      exact ⟨a', ha', .tail _ hm⟩

theorem recurseTo_some {code : Bal.Code} {b s' : Bal.VmState} {t : Nat} {cap : Bool}
    (h : Bal.recurseTo code b t cap = some s') :
    ∃ v r, code[t]? = some (.pushLoop v r) ∧ s' = entered b t v r cap := by
  unfold Bal.recurseTo at h
  split at h
  · rename_i v r hc
    simp only [Option.some.injEq] at h
    exact ⟨v, r, hc, by subst h; cases cap <;> simp [entered]⟩
  · simp at h

theorem projI_pushLoop {i : Ops.Instr} {v r : Bool} (h : projI i = .pushLoop v r) : i = .pushLoop v r := by
  cases i <;> cases h
  rfl

theorem proj_fall (s : Ops.State) (h : Nat) :
    proj { s with pc := s.pc + 1, h := h } = (proj s).fall := rfl

theorem proj_goto (s : Ops.State) (t h : Nat) :
    proj { s with pc := t, h := h } = (proj s).goto t := rfl

theorem sim_calling {code : Ops.Code} {s : Ops.State} {tg h : Nat} {cap : Bool}
    {l' : List Bal.VmState} {s' : Bal.VmState}
    (hst : Bal.step (projCode code) (proj s) = .next l')
    (hrt : Bal.recurseTo (projCode code) (proj s) tg cap = some s') (hin : s' ∈ l') :
    Sim code (Ops.recurse s h tg cap) (proj s) := by
  obtain ⟨v, r, hc, hs'⟩ := recurseTo_some hrt
  have hc' : code[tg]? = some (.pushLoop v r) := by
    rw [projCode_get] at hc
    cases hi : code[tg]? with
    | none => simp [hi] at hc
    | some i' =>
      simp only [hi, Option.map_some, Option.some.injEq] at hc
      rw [projI_pushLoop hc]
  subst hs'
  refine Sim.calling (cap := cap) (v := v) (r := r) (l := l') rfl rfl rfl ?_ hc' hst hin
  cases cap <;> simp [Ops.recurse, proj]

theorem Sim.follows {code : Ops.Code} {s t : Ops.State} {l : List Bal.VmState} (hn : t.next = none)
    (hst : Bal.step (projCode code) (proj s) = .next l) (hm : proj t ∈ l) :
    ∃ b', Sim code t b' ∧ (b' = proj s ∨ ∃ l, Bal.step (projCode code) (proj s) = .next l ∧ b' ∈ l) :=
  ⟨_, .run hn, .inr ⟨l, hst, hm⟩⟩

/-- the balance machine waits: `recurse_loop!` has jumped, the `PushLoop` is still to come -/
theorem Sim.waits {code : Ops.Code} {s : Ops.State} {tg h : Nat} {l₀ l : List Bal.VmState}
    (hst : Bal.step (projCode code) (proj s) = .next l)
    (hl : Bal.allSome ((Bal.liveTargets (proj s).frames).map
      (fun t => Bal.recurseTo (projCode code) (proj s) t true)) = some l₀) (hsub : ∀ a ∈ l₀, a ∈ l)
    (htg : tg ∈ Ops.liveTargets s.frames) :
    ∃ b', Sim code (Ops.recurse s h tg true) b' ∧
      (b' = proj s ∨ ∃ l, Bal.step (projCode code) (proj s) = .next l ∧ b' ∈ l) := by
  have htg' : tg ∈ Bal.liveTargets (proj s).frames := by rw [proj, liveTargets_proj]; exact htg
  obtain ⟨s', hrt, hin⟩ := allSome_mem _ _ hl _ (List.mem_map_of_mem htg')
  exact ⟨_, sim_calling hst hrt (hsub _ hin), .inl rfl⟩

theorem sim_step {code : Ops.Code} {s t : Ops.State} {b : Bal.VmState} {k : Nat}
    (hs : Sim code s b) (hns : Bal.step (projCode code) b ≠ .stuck)
    (ht : t ∈ Ops.step Ops.condReal code s k) :
    ∃ b', Sim code t b' ∧ (b' = b ∨ ∃ l, Bal.step (projCode code) b = .next l ∧ b' ∈ l) := by
  cases hs with
  | calling hn hfr hes hca hci hst hmem =>
    rename_i cap v r l
    rw [Ops.step_eq_exec hci] at ht
    obtain rfl := List.mem_singleton.mp (Ops.mem_of_mem_ite' ht)
    refine ⟨entered b s.pc v r cap, ?_, Or.inr ⟨l, hst, hmem⟩⟩
    have : entered b s.pc v r cap = proj
        { s with pc := s.pc + 1, h := s.h - 1, next := none,
                 bases := if Ops.condReal s.next then (s.h - 1) :: s.bases else s.bases,
                 frames := .loopF { withVar := v, recTarget := if r then some s.pc else none, ret := s.next,
                                    gbase := if Ops.condReal s.next then some (s.h - 1) else none, gh := s.h - 1 } :: s.frames } := by
      simp only [entered, proj, List.map_cons, projF, hn, hfr, hes, hca, Bal.recOf]
    rw [this]
    exact .run rfl
  | run hn =>
    obtain ⟨pc, h, fs, caps, escs, bases, nx⟩ := s
    obtain rfl : nx = none := hn
    cases hci : code[pc]? with
    | none => rw [Ops.step_eq_nil hci] at ht; cases ht
    | some i =>
      rw [Ops.step_eq_exec hci] at ht
      have hst := Bal.step_eq_exec (code := projCode code) (s := proj ⟨pc, h, fs, caps, escs, bases, none⟩)
        (i := projI i) (by rw [projCode_get]; exact congrArg (Option.map projI) hci)
      rw [hst] at hns
      cases i with
      | eff | dyn | unpack | exportLocals | buildMacro | pushAutoEscape =>
        obtain rfl := List.mem_singleton.mp (Ops.mem_of_mem_ite ht); exact Sim.follows rfl hst (.head _)
      | pushLoop v r => obtain rfl := List.mem_singleton.mp (Ops.mem_of_mem_ite' ht); exact Sim.follows rfl hst (.head _)
      | pushWith | beginCapture | jump => obtain rfl := List.mem_singleton.mp ht; exact Sim.follows rfl hst (.head _)
      | ret => cases ht
      | jumpIfFalse | jumpIfFalseOrPop | jumpIfTrueOrPop =>
        rcases Ops.eq_of_mem_pair (Ops.mem_of_mem_ite ht) with rfl | rfl
        · exact Sim.follows rfl hst (.head _)
        · exact Sim.follows rfl hst (.tail _ (.head _))
      | popFrame =>
        cases fs with
        | nil => cases ht
        | cons f fs' =>
          cases f with
          | withF => obtain rfl := List.mem_singleton.mp ht; exact Sim.follows rfl hst (.head _)
          | loopF => exact absurd rfl hns
      | endCapture =>
        cases caps with
        | nil => exact absurd rfl hns
        | cons => obtain rfl := List.mem_singleton.mp ht; exact Sim.follows rfl hst (.head _)
      | popAutoEscape =>
        cases escs with
        | nil => cases ht
        | cons => obtain rfl := List.mem_singleton.mp ht; exact Sim.follows rfl hst (.head _)
      | iterate tg =>
        cases fs with
        | nil => exact absurd rfl hns
        | cons f fs' =>
          cases f with
          | withF => exact absurd rfl hns
          | loopF =>
            rcases Ops.eq_of_mem_pair ht with rfl | rfl
            · exact Sim.follows rfl hst (.head _)
            · exact Sim.follows rfl hst (.tail _ (.head _))
      | pushDidNotIterate =>
        cases fs with
        | nil => exact absurd rfl hns
        | cons f fs' =>
          cases f with
          | withF => exact absurd rfl hns
          | loopF => obtain rfl := List.mem_singleton.mp ht; exact Sim.follows rfl hst (.head _)
      | popLoopFrame =>
        cases fs with
        | nil => cases ht
        | cons f fs' =>
          cases f with
          | withF => cases ht
          | loopF l =>
            obtain ⟨_, _, ret, _, _⟩ := l
            cases ret with
            | none => obtain rfl := List.mem_singleton.mp ht; exact Sim.follows rfl hst (.head _)
            | some p =>
              obtain ⟨_, cap⟩ := p
              obtain rfl := List.mem_singleton.mp ht
              cases cap with
              | false => exact Sim.follows rfl hst (.head _)
              | true =>
                cases caps with
                | nil => exact absurd rfl hns
                | cons => exact Sim.follows rfl hst (.head _)
      | fastRecurse =>
        cases hlp : Ops.innermostLoop fs with
        | none => rw [Ops.exec, hlp] at ht; cases ht
        | some lp =>
          cases htg : lp.recTarget with
          | none => simp only [Ops.exec, hlp, htg] at ht; cases ht
          | some tg =>
            simp only [Ops.exec, hlp, htg] at ht
            obtain rfl := List.mem_singleton.mp ht
            have hin : Bal.innermostLoop (fs.map projF) = some (some tg) := by
              rw [innermost_proj, hlp]; exact congrArg some htg
            simp only [projI, Bal.exec, proj, hin] at hst hns
            cases hrt : Bal.recurseTo (projCode code) (proj ⟨pc, h, fs, caps, escs, bases, none⟩) tg false with
            | none => exact absurd (by rw [proj] at hrt; rw [hrt]) hns
            | some s' =>
              rw [proj] at hrt; rw [hrt] at hst
              exact ⟨_, sim_calling hst hrt (.head _), .inl rfl⟩
      | call n =>
        simp only [projI, Bal.exec] at hst hns
        cases hl : Bal.allSome ((Bal.liveTargets (proj ⟨pc, h, fs, caps, escs, bases, none⟩).frames).map
            (fun t => Bal.recurseTo (projCode code) (proj ⟨pc, h, fs, caps, escs, bases, none⟩) t true)) with
        | none => rw [hl] at hns; exact absurd rfl hns
        | some l =>
          rw [hl] at hst
          rcases List.mem_cons.mp (Ops.mem_of_mem_ite ht) with rfl | ht
          · exact Sim.follows rfl hst (.head _)
          · obtain ⟨tg, htg, rfl⟩ := List.mem_map.mp (Ops.mem_of_mem_ite ht)
            exact Sim.waits hst hl (fun _ => .tail _) htg
      | callDyn =>
        simp only [projI, Bal.exec] at hst hns
        cases hl : Bal.allSome ((Bal.liveTargets (proj ⟨pc, h, fs, caps, escs, bases, none⟩).frames).map
            (fun t => Bal.recurseTo (projCode code) (proj ⟨pc, h, fs, caps, escs, bases, none⟩) t true)) with
        | none => rw [hl] at hns; exact absurd rfl hns
        | some l =>
          rw [hl] at hst
          rcases List.mem_append.mp ht with ht | ht
          · obtain rfl := List.mem_singleton.mp (Ops.mem_of_mem_ite ht)
            exact Sim.follows rfl hst (.head _)
          · obtain ⟨tg, htg, rfl⟩ := List.mem_map.mp (Ops.mem_of_mem_ite ht)
            exact Sim.waits hst hl (fun _ => .tail _) htg

/-- every run of the operand-stack machine is a run of the balance machine (which takes the jump of
`loop(...)` and the `PushLoop` behind it in one step), as long as the latter does not get stuck -/
theorem sim_reach {code : Ops.Code} {e h0 : Nat}
    (hbal : ∀ b, Bal.Reach (projCode code) (Bal.initAt e) b → Bal.step (projCode code) b ≠ .stuck)
    {s : Ops.State} (hr : Ops.Reach Ops.condReal code (Ops.init e h0) s) :
    ∃ b, Sim code s b ∧ Bal.Reach (projCode code) (Bal.initAt e) b := by
  induction hr with
  | refl => exact ⟨_, .run rfl, .refl _⟩
  | tail k _ ht ih =>
    obtain ⟨b, hs, hb⟩ := ih
    obtain ⟨b', hs', hb'⟩ := sim_step hs (hbal b hb) ht
    rcases hb' with rfl | ⟨l, hst, hm⟩
    · exact ⟨_, hs', hb⟩
    · exact ⟨_, hs', .tail hb hst hm⟩

/-- in a stream whose projection has an accepted certificate `PopFrame` never meets a loop frame -/
theorem certified_disciplined {code : Ops.Code} {cert : Bal.Cert}
    (hc : Bal.checkCert (projCode code) cert = true) {e : Nat} (he : e ∈ Bal.entries (projCode code))
    (h0 : Nat) : Ops.Disciplined code (Ops.init e h0) := by
  intro s hr hp
  obtain ⟨hcode, l, fs, hfr⟩ := hp
  have hbal : ∀ b, Bal.Reach (projCode code) (Bal.initAt e) b → Bal.step (projCode code) b ≠ .stuck :=
    fun b hb => (Bal.reach_sound hc he hb).1
  obtain ⟨b, hs, hb⟩ := sim_reach hbal hr
  cases hs with
  | run hn =>
    apply hbal _ hb
    have hpc : (projCode code)[(proj s).pc]? = some .popFrame := by
      rw [projCode_get]; exact congrArg (Option.map projI) hcode
    rw [Bal.step_eq_exec hpc, proj, hfr]
    rfl
  | calling hn hfr' hes hca hci hst hmem =>
    rw [hcode] at hci
    cases hci

end MJ.OpsBal
