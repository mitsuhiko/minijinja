import MJ.Proofs.LexerMain
/-! Rule 1 (`Tokenizer::new`) on segment lists, monotonicity of delimiter-freeness, and the
top-level statements about `lex` (`lex_outs`: its tokens; `lex_spec`: what they render). -/
namespace MJ.Lexer

theorem dropLastIf_append {c : Char} (p s : List Char) (hp : ∃ x r, p.reverse = x :: r ∧ x ≠ c) :
    dropLastIf c (p ++ s) = p ++ dropLastIf c s := by
  obtain ⟨x, r, hr, hx⟩ := hp
  have hpe : p = r.reverse ++ [x] := by
    have := congrArg List.reverse hr; simpa using this
  unfold dropLastIf
  cases s with
  | nil =>
    have : (p ++ []).getLast? = some x := by rw [hpe]; simp
    rw [this]
    simp [hx]
  | cons a s =>
    have h1 : (p ++ a :: s).getLast? = (a :: s).getLast? := by
      rw [List.getLast?_append, List.getLast?_eq_some_getLast (l := a :: s) (by simp)]; rfl
    rw [h1]
    split
    · rw [List.dropLast_append_of_ne_nil (by simp)]
    · rfl

/-- `s` is not empty and does not end in a line break -/
def EndsNoNl (s : List Char) : Prop := ∃ x r, s.reverse = x :: r ∧ isNl x = false

theorem EndsNoNl.append_left {b : List Char} (h : EndsNoNl b) (a : List Char) : EndsNoNl (a ++ b) := by
  obtain ⟨x, r, hr, hx⟩ := h
  exact ⟨x, r ++ a.reverse, by rw [List.reverse_append, hr]; rfl, hx⟩

theorem endsNoNl_of_all {s : List Char} (hne : s ≠ []) (h : ∀ x ∈ s, isNl x = false) : EndsNoNl s := by
  cases hr : s.reverse with
  | nil => exact absurd (List.reverse_eq_nil_iff.1 hr) hne
  | cons x r => exact ⟨x, r, hr, h x (List.mem_reverse.1 (by rw [hr]; exact .head _))⟩

theorem stripTrailingNl_append (p s : List Char) (hp : EndsNoNl p) :
    stripTrailingNl (p ++ s) = p ++ stripTrailingNl s := by
  obtain ⟨x, r, hr, hx⟩ := hp
  have h1 : x ≠ '\n' := by rintro rfl; revert hx; decide
  have h2 : x ≠ '\r' := by rintro rfl; revert hx; decide
  unfold stripTrailingNl
  rw [dropLastIf_append p s ⟨x, r, hr, h1⟩, dropLastIf_append p _ ⟨x, r, hr, h2⟩]

theorem endNotNl_ends {p : List Char} (h : endNotNl p = true) : EndsNoNl p := by
  unfold endNotNl at h
  cases hr : p.reverse with
  | nil => simp [hr] at h
  | cons c r => exact ⟨c, r, hr, by simpa [hr] using h⟩

theorem lastOk_ends {e : List Char} (h : lastOk e = true) : EndsNoNl e := by
  rcases lastOk_ctx h [] with ⟨h0, _⟩ | ⟨_, u, x, r, hx, hu, hw⟩
  · cases h0
  rw [List.append_nil] at hx
  cases u with
  | nil => exact ⟨x, r, hx, not_nl_of_not_ws hw⟩
  | cons a u => exact ⟨a, u ++ x :: r, hx, isHws_not_nl (hu a (by simp))⟩

theorem identCont_not_nl {c : Char} (h : isIdentCont c = true) : isNl c = false := by
  cases hn : isNl c with
  | false => rfl
  | true =>
    simp only [isNl, Bool.or_eq_true, decide_eq_true_eq] at hn
    rcases hn with rfl | rfl <;> revert h <;> decide

theorem tok_last_not_nl {t : Tok} (hwf : t.wf = true) (hws : t.isWs = false) : EndsNoNl t.src := by
  cases Tok.wf_view hwf with
  | ws => cases hws
  | ident h1 h2 =>
    refine endsNoNl_of_all (by simp [Tok.src]) fun x hx => identCont_not_nl ?_
    rcases List.mem_cons.1 hx with rfl | hx
    · exact identStart_identCont h1
    · exact h2 x hx
  | int h1 h2 _ =>
    refine endsNoNl_of_all (by simp [Tok.src]) fun x hx => identCont_not_nl (digit_identCont ?_)
    rcases List.mem_cons.1 hx with rfl | hx
    · exact h1
    · exact h2 x hx
  | @str q body hq _ =>
    have hq' : EndsNoNl [q] := ⟨q, [], rfl, by rcases hq with rfl | rfl <;> decide⟩
    exact (hq'.append_left body).append_left [q]
  | op hdl => exact ⟨_, [], rfl, not_nl_of_not_ws (singleOp_not_isWs hdl)⟩
  | @op2 a b h =>
    simp only [twoCharOp, Bool.or_eq_true, Bool.and_eq_true, decide_eq_true_eq] at h
    refine ⟨b, [a], rfl, ?_⟩
    rcases h with (((((⟨_, rfl⟩ | ⟨_, rfl⟩) | ⟨_, rfl⟩) | ⟨_, rfl⟩) | ⟨_, rfl⟩) | ⟨_, rfl⟩) <;> decide

theorem line_interior_last (ts : List Tok) :
    ∀ (bal : Int) (fol : List Char), lineInteriorOk bal ts fol = true → ts ≠ [] → EndsNoNl (srcs ts) := by
  induction ts with
  | nil => intro _ _ _ h; exact absurd rfl h
  | cons t ts ih =>
    intro bal fol h _
    simp only [lineInteriorOk, Bool.and_eq_true] at h
    obtain ⟨⟨⟨hwf, _⟩, hws⟩, hrest⟩ := h
    cases ts with
    | nil =>
      have hnw : t.isWs = false := by
        cases t with
        | ws s =>
          simp only [lineInteriorOk, Tok.delta, Int.add_zero, beq_iff_eq] at hrest
          simp [Tok.isWs, hrest] at hws
        | _ => rfl
      rw [srcs, srcs, List.append_nil]
      exact tok_last_not_nl hwf hnw
    | cons t2 ts2 => exact (ih _ _ hrest (by simp)).append_left t.src

/-- a tag does not end in a line break -/
theorem Tag.src_last_not_nl {d : Delims} (gd : Good d) (g : Tag) (z : List Char) (hok : tagOk d g z = true) :
    EndsNoNl (g.src d) := by
  cases hgl : g.isLine with
  | false =>
    obtain ⟨p, e, hp, he⟩ := Tag.src_end gd g hgl
    rw [hp]
    exact (lastOk_ends he).append_left p
  | true =>
    -- the prefix, or when there is one the interior / comment text
    have hml : g.marker.isLine = true := g.marker_isLine.trans hgl
    have hstart : EndsNoNl (g.start d) := endNotNl_ends (gd.lastNl _ (g.start_mem_startPats z hok) hml)
    cases g with
    | mk kind l r =>
      cases kind with
      | lineStmt ts =>
        obtain ⟨_, _, _, hint, _⟩ := tagOk_lineStmt.1 hok
        cases ts with
        | nil => simpa [Tag.src, Tag.after, srcs] using hstart
        | cons t ts' => exact (line_interior_last (t :: ts') 0 z hint (by simp)).append_left _
      | lineComment body =>
        obtain ⟨_, _, _, hbody, _⟩ := tagOk_lineComment.1 hok
        cases body with
        | nil => simpa [Tag.src, Tag.after] using hstart
        | cons c b => exact (endsNoNl_of_all (by simp) hbody).append_left _
      | _ => cases hgl

def lastText (f : List Char → List Char) (t : List Char) : List (Tag × List Char) → List Char
  | [] => f t
  | _ :: _ => t

theorem mapLastText_cons (f : List Char → List Char) (g : Tag) (t' : List Char) (tl : List (Tag × List Char)) :
    mapLastText f ((g, t') :: tl) = (g, lastText f t' tl) :: mapLastText f tl := by
  cases tl <;> rfl

theorem stripFinal_eq (tm : Tmpl) :
    stripFinal tm = ⟨lastText stripTrailingNl tm.head tm.tail, mapLastText stripTrailingNl tm.tail⟩ := by
  obtain ⟨h, tl⟩ := tm
  cases tl <;> rfl

/-- the source ends in its last text, preceded by nothing or by something that ends in a tag -/
theorem unparse_last {d : Delims} (gd : Good d) (tl : List (Tag × List Char)) :
    ∀ (first : Bool) (t : List Char), tailFree d first t tl = true →
    ∃ p tlast, (∀ f : List Char → List Char, lastText f t tl ++ unparseTail d (mapLastText f tl) = p ++ f tlast) ∧
      t ++ unparseTail d tl = p ++ tlast ∧ (p = [] ∨ EndsNoNl p) := by
  induction tl with
  | nil => intro first t _; exact ⟨[], t, fun f => by simp [lastText, mapLastText, unparseTail], by simp [unparseTail], Or.inl rfl⟩
  | cons a tl ih =>
    obtain ⟨g, t'⟩ := a
    intro first t hfree
    obtain ⟨_, _, _, hcom, _, hfree'⟩ := tailFree_cons.1 hfree
    obtain ⟨p, tlast, h1, h2, hp⟩ := ih false t' hfree'
    refine ⟨t ++ (g.src d ++ p), tlast, fun f => ?_, ?_, Or.inr ?_⟩
    · rw [mapLastText_cons, lastText, unparseTail, List.append_assoc, h1 f]; simp only [List.append_assoc]
    · rw [unparseTail, List.append_assoc, h2]; simp only [List.append_assoc]
    · rcases hp with rfl | hp
      · rw [List.append_nil]; exact (Tag.src_last_not_nl gd g _ hcom).append_left t
      · exact (hp.append_left _).append_left t

theorem prepare_unparse (cfg : Cfg) {d : Delims} (gd : Good d) (tm : Tmpl) (hfree : delimFree d tm = true) :
    prepare cfg (unparse d tm) = unparse d (if cfg.keep then tm else stripFinal tm) := by
  unfold prepare
  cases cfg.keep with
  | true => rfl
  | false =>
    obtain ⟨p, tlast, h1, h2, hp⟩ := unparse_last gd tm.tail true tm.head hfree
    simp only [Bool.false_eq_true, if_false, stripFinal_eq, unparse]
    rw [h1 stripTrailingNl, h2]
    rcases hp with rfl | hp
    · rfl
    · exact stripTrailingNl_append p tlast hp

/-! ### delimiter-freeness is kept when the source loses a suffix

Every condition of `delimFree` tests the rest of the source behind some fixed text.  The tests are
built from `startsWith`, which keeps holding when the source goes on (`Mono`); its negation and a
look at the first character keep holding when the source is cut short (`Anti`).  The closure rules
follow the Boolean connectives, so the statement for a condition is its definition read connective
by connective (Lean unfolds the definition when it checks the term). -/

/-- a test of the rest of the source that keeps holding when the source is cut short -/
def Anti (Q : List Char → Bool) : Prop := ∀ ⦃x y : List Char⦄, x <+: y → Q y = true → Q x = true

/-- a test of the rest of the source that keeps holding when the source goes on -/
def Mono (Q : List Char → Bool) : Prop := ∀ ⦃x y : List Char⦄, x <+: y → Q x = true → Q y = true

theorem Mono.const (b : Bool) : Mono fun _ => b := fun _ _ _ h => h

theorem Mono.and {P Q : List Char → Bool} (hP : Mono P) (hQ : Mono Q) : Mono fun s => P s && Q s :=
  fun _ _ hxy h => by rw [Bool.and_eq_true] at h ⊢; exact ⟨hP hxy h.1, hQ hxy h.2⟩

theorem Mono.or {P Q : List Char → Bool} (hP : Mono P) (hQ : Mono Q) : Mono fun s => P s || Q s :=
  fun _ _ hxy h => by rw [Bool.or_eq_true] at h ⊢; exact h.imp (hP hxy) (hQ hxy)

/-- the same test behind a fixed text -/
theorem Mono.pre {Q : List Char → Bool} (hQ : Mono Q) (a : List Char) : Mono fun s => Q (a ++ s) :=
  fun _ _ hxy h => hQ ((List.prefix_append_right_inj a).2 hxy) h

theorem Mono.any {α : Type} {l : List α} {Q : α → List Char → Bool} (h : ∀ a ∈ l, Mono (Q a)) :
    Mono fun s => l.any fun a => Q a s := fun _ _ hxy hx => by
  rw [List.any_eq_true] at hx ⊢
  obtain ⟨a, ha, hq⟩ := hx
  exact ⟨a, ha, h a ha hxy hq⟩

/-- a test of what follows the first character -/
theorem Mono.cons {F : Char → List Char → Bool} (h : ∀ c, Mono (F c)) :
    Mono fun s => match s with | c :: r => F c r | [] => false := fun x y hxy hx => by
  cases x with
  | nil => cases hx
  | cons c r => obtain ⟨z, rfl⟩ := hxy; exact h c ⟨z, rfl⟩ hx

theorem Mono.not {Q : List Char → Bool} (h : Mono Q) : Anti fun s => !Q s :=
  fun x y hxy (hy : (!Q y) = true) => by
    show (!Q x) = true
    cases hx : Q x with
    | false => rfl
    | true => rw [h hxy hx] at hy; exact hy

theorem Anti.const (b : Bool) : Anti fun _ => b := fun _ _ _ h => h

theorem Anti.and {P Q : List Char → Bool} (hP : Anti P) (hQ : Anti Q) : Anti fun s => P s && Q s :=
  fun _ _ hxy h => by rw [Bool.and_eq_true] at h ⊢; exact ⟨hP hxy h.1, hQ hxy h.2⟩

theorem Anti.or {P Q : List Char → Bool} (hP : Anti P) (hQ : Anti Q) : Anti fun s => P s || Q s :=
  fun _ _ hxy h => by rw [Bool.or_eq_true] at h ⊢; exact h.imp (hP hxy) (hQ hxy)

theorem Anti.pre {Q : List Char → Bool} (hQ : Anti Q) (a : List Char) : Anti fun s => Q (a ++ s) :=
  fun _ _ hxy h => hQ ((List.prefix_append_right_inj a).2 hxy) h

theorem Anti.all {α : Type} {l : List α} {Q : α → List Char → Bool} (h : ∀ a ∈ l, Anti (Q a)) :
    Anti fun s => l.all fun a => Q a s :=
  fun _ _ hxy hy => by rw [List.all_eq_true] at hy ⊢; exact fun a ha => h a ha hxy (hy a ha)

/-- a test that holds of the empty rest and otherwise looks at the first character only -/
theorem Anti.head {Q : List Char → Bool} (h0 : Q [] = true) (h : ∀ c x y, Q (c :: y) = true → Q (c :: x) = true) :
    Anti Q := fun x y hxy hy => by
  cases x with
  | nil => exact h0
  | cons c r => obtain ⟨z, rfl⟩ := hxy; exact h c r _ hy

/-- a test behind skipped characters -/
theorem Anti.dropWhile (p : Char → Bool) {Q : List Char → Bool} (hQ : Anti Q) (h0 : Q [] = true) :
    Anti fun s => Q (s.dropWhile p) := fun x y hxy hy => by
  obtain ⟨z, rfl⟩ := hxy
  rcases all_or_exists_not p x with hall | hex
  · show Q (x.dropWhile p) = true
    rw [dropWhile_all hall]; exact h0
  · exact hQ ⟨z, (dropWhile_append_of_exists z hex).symm⟩ hy

theorem startsWith_mono (p : List Char) : Mono (startsWith p) := fun x y hxy h => by
  obtain ⟨r, rfl⟩ := (startsWith_iff p x).1 h
  obtain ⟨z, rfl⟩ := hxy
  rw [List.append_assoc]; exact startsWith_append_self _ _

theorem anyStart_mono (d : Delims) : Mono (anyStart d) :=
  Mono.any fun mp _ => startsWith_mono mp.2

theorem endHere_mono (e : List Char) : Mono (endHere e) :=
  (startsWith_mono e).or (Mono.cons fun _ => (Mono.const _).and (startsWith_mono e))

theorem follow_anti (t : Tok) : Anti fun s => t.follow s.head? :=
  Anti.head (by cases t <;> rfl) fun _ _ _ h => h

theorem commentFollow_anti : Anti commentFollow := Anti.head rfl fun _ _ _ h => h

theorem lineFollow_anti : Anti lineFollow := Anti.dropWhile isHws commentFollow_anti rfl

theorem noStartIn_anti (d : Delims) (t : List Char) : Anti (noStartIn d t) := by
  induction t with
  | nil => exact Anti.const true
  | cons a t ih => exact ((anyStart_mono d).not.pre (a :: t)).and ih

theorem ownLongest_anti (d : Delims) (own : List Char) : Anti (ownLongest d own) :=
  Anti.all fun mp _ => ((startsWith_mono mp.2).not.or (Anti.const _)).or (Anti.const _)

theorem noPatIn_anti (pat c : List Char) : Anti (noPatIn pat c) := by
  induction c with
  | nil => exact Anti.const true
  | cons a c ih => exact ((startsWith_mono pat).not.pre (a :: c)).and ih

theorem rawFree_anti (d : Delims) (g : Tag) : Anti (rawFree d g) := by
  cases g with
  | mk kind l r =>
    cases kind with
    | raw c ri l2 tight =>
      refine Anti.pre ?_ _
      induction c with
      | nil => exact Anti.const true
      | cons a c ih => exact ((startsWith_mono d.bs).not.pre (a :: c)).and ih
    | _ => exact Anti.const true

theorem interiorOk_anti (e : List Char) (ts : List Tok) : ∀ bal, Anti (interiorOk e bal ts) := by
  induction ts with
  | nil => exact fun _ => Anti.const _
  | cons t ts ih =>
    exact fun _ => (((Anti.const _).and ((follow_anti t).pre _)).and
      (((Anti.const _).or (Anti.const _)).or ((endHere_mono e).not.pre _))).and (ih _)

theorem lineInteriorOk_anti (ts : List Tok) : ∀ bal, Anti (lineInteriorOk bal ts) := by
  induction ts with
  | nil => exact fun _ => Anti.const _
  | cons t ts ih => exact fun _ => (((Anti.const _).and ((follow_anti t).pre _)).and (Anti.const _)).and (ih _)

theorem closeOk_anti (e : List Char) (r : Mark) : Anti (closeOk e r) := by
  cases e with
  | nil => exact (Anti.const _).or (Anti.head rfl fun _ _ _ h => h) -- `startsWith [] _` holds: only the first character counts
  | cons c t => exact (Anti.const _).or ((Mono.const _).and ((startsWith_mono _).pre t)).not

theorem tagOk_anti (d : Delims) (g : Tag) : Anti (tagOk d g) := by
  cases g with
  | mk kind l r =>
    cases kind with
    | var ts => exact ((((interiorOk_anti d.ve ts 0).pre _).pre _).and (Anti.const _)).and (closeOk_anti _ r)
    | block ts =>
      exact (((((interiorOk_anti d.be ts 0).pre _).pre _).and (Anti.const _)).and (closeOk_anti _ r)).and
        ((((Anti.dropWhile isAsciiWs (startsWith_mono rawName).not rfl).pre _).pre _).pre _)
    | comment body => exact (((noPatIn_anti d.ce _).pre _).and (Anti.const _)).and (Anti.const _)
    | raw c ri l2 tight => exact (((closeOk_anti _ ri).pre _).pre _).and (closeOk_anti _ r)
    | lineStmt ts =>
      exact ((((Anti.const _).and (Anti.const _)).and (Anti.const _)).and (lineInteriorOk_anti ts 0)).and lineFollow_anti
    | lineComment body =>
      exact (((((Anti.const _).and (Anti.const _)).and (Anti.const _)).and (Anti.const _)).and commentFollow_anti).and
        (Anti.pre (Q := fun s => match s with | c :: _ => !isMarkChar c | [] => true) (Anti.head rfl fun _ _ _ h => h) body)

theorem noStartIn_append {d : Delims} (a b f : List Char) :
    noStartIn d (a ++ b) f = (noStartIn d a (b ++ f) && noStartIn d b f) := by
  induction a with
  | nil => simp [noStartIn]
  | cons x a ih => simp [noStartIn, ih, List.append_assoc, Bool.and_assoc]

theorem noStartIn_prefix {d : Delims} {a t : List Char} (h : a <+: t) (ht : noStartIn d t [] = true) :
    noStartIn d a [] = true := by
  obtain ⟨z, rfl⟩ := h
  rw [noStartIn_append, Bool.and_eq_true] at ht
  exact noStartIn_anti d a List.nil_prefix ht.1

/-- shortening the last text to a prefix keeps the template delimiter-free -/
theorem tailFree_mapLast {d : Delims} (f : List Char → List Char) (hf : ∀ s, f s <+: s)
    (tl : List (Tag × List Char)) :
    ∀ first t, tailFree d first t tl = true →
      tailFree d first (lastText f t tl) (mapLastText f tl) = true ∧
        lastText f t tl ++ unparseTail d (mapLastText f tl) <+: t ++ unparseTail d tl := by
  induction tl with
  | nil =>
    intro first t h
    exact ⟨noStartIn_prefix (hf t) h, by simpa [lastText, mapLastText, unparseTail] using hf t⟩
  | cons a tl ih =>
    obtain ⟨g, t'⟩ := a
    intro first t h
    obtain ⟨h1, h2, h3, hc, hl, h4⟩ := tailFree_cons.1 h
    obtain ⟨ih1, hz⟩ := ih false t' h4
    have hz' : unparseTail d ((g, lastText f t' tl) :: mapLastText f tl) <+: unparseTail d ((g, t') :: tl) := by
      simp only [unparseTail, List.append_assoc]
      exact (List.prefix_append_right_inj _).2 hz
    rw [mapLastText_cons, lastText]
    exact ⟨tailFree_cons.2 ⟨noStartIn_anti d t hz' h1, ownLongest_anti d _ hz' h2, rawFree_anti d g hz h3,
      tagOk_anti d g hz hc, hl, ih1⟩, (List.prefix_append_right_inj t).2 hz'⟩

theorem delimFree_stripFinal {d : Delims} (tm : Tmpl) (h : delimFree d tm = true) :
    delimFree d (stripFinal tm) = true := by
  rw [stripFinal_eq]
  exact (tailFree_mapLast stripTrailingNl stripTrailingNl_prefix tm.tail true tm.head h).1

/-- the tokens the five rules prescribe for a template -/
def specTokens (cfg : Cfg) (tm : Tmpl) : List Out :=
  let tm' := if cfg.keep then tm else stripFinal tm
  specOuts cfg true 0 tm'.head tm'.tail

theorem renderOuts_specTokens (cfg : Cfg) (vm bm : List Char) (tm : Tmpl) :
    renderOuts vm bm (specTokens cfg tm) = specRender cfg vm bm tm :=
  renderOuts_specOuts cfg vm bm _ true 0 _

/-- the tokenizer succeeds on a delimiter-free template and emits exactly the tokens of the rules -/
theorem lex_outs (cfg : Cfg) {d : Delims} (gd : Good d) (tm : Tmpl) (hfree : delimFree d tm = true) :
    lex cfg d (findLL d) (unparse d tm) = .ok (specTokens cfg tm) := by
  unfold lex specTokens
  simp only []
  rw [prepare_unparse cfg gd tm hfree]
  generalize htm : (if cfg.keep = true then tm else stripFinal tm) = tm'
  have hfree' : delimFree d tm' = true := by
    rw [← htm]; split
    · exact hfree
    · exact delimFree_stripFinal tm hfree
  have := lexGo_outs cfg gd tm'.tail tm'.head true [] 0 ((unparse d tm').length + 1)
    (fun _ => Or.inl (Or.inl ⟨rfl, rfl⟩)) hfree' (by simp [unparse])
  simpa [unparse] using this

theorem lex_spec (cfg : Cfg) (vm bm : List Char) {d : Delims} (gd : Good d) (tm : Tmpl)
    (hfree : delimFree d tm = true) :
    renderRes vm bm (lex cfg d (findLL d) (unparse d tm)) = some (specRender cfg vm bm tm) := by
  rw [lex_outs cfg gd tm hfree, renderRes, renderOuts_specTokens]

end MJ.Lexer
