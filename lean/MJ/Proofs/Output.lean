import MJ.Model.Output
/-!
# Lemmas about the output state machine (C19)

The sink's log is either clean or ends with its only failing call (`Clean`, `FailsWith`); `Tracks`
says which, relative to the bytes written so far and the error that ended the writing, and
everything a caller can observe follows from it (`log_facets`).  `write_all` establishes it
(`writeAll_spec`) and the `WriteWrapper` keeps it from any state (`put_tracks`, `feed_tracks`), its
error slot being empty exactly as long as every call succeeded (`put_ok_iff`).  What an evaluation
does to *any* base writer is to feed it a chunk sequence that does not depend on the writer, up to
the first `fmt::Error`, at which it stops (`run_feed`, `StopsAtWrite`), which gives the writer API
as one equation (`renderTo_feed`); operations inside captures cannot be observed by the base writer
(`run_erase`), and a run whose captures are bracketed does not panic (`run_no_panic`).
-/
namespace MJ.Output
open MJ

@[simp] theorem delivered_nil : delivered [] = [] := rfl
@[simp] theorem delivered_cons (c : Call) (cs : List Call) :
    delivered (c :: cs) = c.accepted ++ delivered cs := by simp [delivered]
@[simp] theorem delivered_append (a b : List Call) :
    delivered (a ++ b) = delivered a ++ delivered b := by simp [delivered]

theorem Call.accepted_prefix (c : Call) : c.accepted <+: c.offered := by
  unfold Call.accepted
  cases c.res with
  | ok n => exact List.take_prefix _ _
  | err _ => exact List.nil_prefix

theorem Call.accepted_append_drop (c : Call) :
    c.accepted ++ c.offered.drop c.accepted.length = c.offered := by
  obtain ⟨t, ht⟩ := c.accepted_prefix
  rw [← ht, List.drop_left]

theorem Call.failure_ok_pos (buf : Bytes) {n : Nat} (h : 0 < n) :
    (⟨buf, .ok n⟩ : Call).failure = none := by
  cases n with
  | zero => exact absurd h (Nat.lt_irrefl 0)
  | succ n => rfl

/-- no call of the list ends `write_all` -/
def Clean (cs : List Call) : Prop := ∀ c ∈ cs, c.failure = none

@[simp] theorem clean_nil : Clean [] := fun _ h => nomatch h
theorem clean_cons {c : Call} {cs : List Call} : Clean (c :: cs) ↔ c.failure = none ∧ Clean cs :=
  List.forall_mem_cons
theorem clean_append {a b : List Call} : Clean (a ++ b) ↔ Clean a ∧ Clean b :=
  List.forall_mem_append

/-- the list ends with a call that fails with `e`; no earlier call fails -/
def FailsWith (cs : List Call) (e : IoErr) : Prop :=
  ∃ pre last, cs = pre ++ [last] ∧ Clean pre ∧ last.failure = some e

theorem failsWith_append {a cs : List Call} {e : IoErr} (ha : Clean a)
    (h : FailsWith cs e) : FailsWith (a ++ cs) e := by
  obtain ⟨pre, last, rfl, hp, hl⟩ := h
  exact ⟨a ++ pre, last, (List.append_assoc ..).symm, clean_append.2 ⟨ha, hp⟩, hl⟩

theorem failsWith_not_clean {cs : List Call} {e : IoErr} (h : FailsWith cs e) : ¬ Clean cs := by
  obtain ⟨pre, last, rfl, _, hl⟩ := h
  intro hc
  rw [hc last (by simp)] at hl
  cases hl

theorem failsWith_unique {cs : List Call} {e e' : IoErr} (h : FailsWith cs e) {c : Call}
    (hc : c ∈ cs) (hf : c.failure = some e') : e' = e := by
  obtain ⟨pre, last, rfl, hpre, hlast⟩ := h
  rcases List.mem_append.1 hc with hp | hl
  · rw [hpre c hp] at hf; cases hf
  · rw [List.mem_singleton.1 hl, hlast] at hf
    exact (Option.some.inj hf).symm

theorem failsWith_last_only {cs : List Call} {e : IoErr} (h : FailsWith cs e) (i : Nat)
    (hi : i < cs.length) (hf : (cs[i]).failure ≠ none) : i + 1 = cs.length := by
  obtain ⟨pre, last, rfl, hpre, _⟩ := h
  rw [List.length_append, List.length_singleton] at hi ⊢
  rcases Nat.lt_succ_iff_lt_or_eq.1 hi with hp | hp
  · rw [List.getElem_append_left hp] at hf
    exact absurd (hpre _ (List.getElem_mem hp)) hf
  · rw [hp]

/-- **The one invariant of a sink's log**, relative to the bytes `buf` written so far and the error
    `err` that ended the writing, if one did: without error the log is clean and everything was
    delivered; with error `e` the log ends with its only failing call, which failed with `e`, and
    what was delivered is a prefix. -/
def Tracks (calls : List Call) (err : Option IoErr) (buf : Bytes) : Prop :=
  match err with
  | none => Clean calls ∧ delivered calls = buf
  | some e => FailsWith calls e ∧ delivered calls <+: buf

theorem Tracks.mono {calls : List Call} {e : IoErr} {buf buf' : Bytes}
    (h : Tracks calls (some e) buf) (hp : buf <+: buf') : Tracks calls (some e) buf' :=
  ⟨h.1, h.2.trans hp⟩

/-- a further `write_all` after a clean log -/
theorem Tracks.append {a : List Call} {buf : Bytes} (h : Tracks a none buf) {b : List Call}
    {err : Option IoErr} {s : Bytes} (hb : Tracks b err s) : Tracks (a ++ b) err (buf ++ s) := by
  obtain ⟨hc, hd⟩ := h
  cases err with
  | none => exact ⟨clean_append.2 ⟨hc, hb.1⟩, by rw [delivered_append, hd, hb.2]⟩
  | some e =>
    exact ⟨failsWith_append hc hb.1, by
      rw [delivered_append, hd]; exact (List.prefix_append_right_inj _).2 hb.2⟩

/-- **The facets of one specification.**  The four statements of C19 about what a sink saw are
    read off from the one invariant; `Q` and `R` stand for what the render returned without and
    with an error. -/
theorem log_facets {calls : List Call} {buf : Bytes} {Q : Prop} {R : IoErr → Prop}
    (h : ∃ err, Tracks calls err buf ∧ (err = none → Q) ∧ (∀ e, err = some e → R e)) :
    delivered calls <+: buf ∧
    (∀ (i : Nat) (hi : i < calls.length), (calls[i]).failure ≠ none → i + 1 = calls.length) ∧
    (∀ c ∈ calls, ∀ e, c.failure = some e → R e) ∧
    ((∀ c ∈ calls, c.failure = none) → Q ∧ delivered calls = buf) := by
  obtain ⟨err, ht, hq, hr⟩ := h
  cases err with
  | none =>
    obtain ⟨hc, hd⟩ := ht
    refine ⟨hd ▸ List.prefix_refl _, fun i hi hf => absurd (hc _ (List.getElem_mem hi)) hf,
      fun c hm e hf => ?_, fun _ => ⟨hq rfl, hd⟩⟩
    rw [hc c hm] at hf; cases hf
  | some e =>
    obtain ⟨hfw, hp⟩ := ht
    exact ⟨hp, failsWith_last_only hfw, fun c hm e' hf => failsWith_unique hfw hm hf ▸ hr e rfl,
      fun hc => absurd hc (failsWith_not_clean hfw)⟩

theorem writeAll_nil_buf (script : List Beh) : writeAll script [] = ⟨script, [], none⟩ := by
  cases script <;> rfl

theorem writeAll_nil {buf : Bytes} (hb : buf ≠ []) :
    writeAll [] buf = ⟨[], [⟨buf, .ok buf.length⟩], none⟩ := by
  simp [writeAll, hb]

/-- the sink honours the contract of `io::Write::write` -/
theorem Beh.apply_le {beh : Beh} {buf : Bytes} {n : Nat} (h : beh.apply buf = .ok n) :
    n ≤ buf.length := by
  cases beh with
  | all => cases h; exact Nat.le_refl _
  | accept k => cases h; exact Nat.min_le_right _ _
  | half => cases h; show (buf.length + 1) / 2 ≤ buf.length; omega
  | err e => cases h

/-- **The loop of `write_all` in the words of the log** (`Call.failure`, `Call.accepted`), the
    words in which `Clean` and `FailsWith` are stated. -/
theorem writeAll_cons (beh : Beh) (rest : List Beh) {buf : Bytes} (hb : buf ≠ []) :
    writeAll (beh :: rest) buf =
      match (⟨buf, beh.apply buf⟩ : Call).failure with
      | some e => ⟨rest, [⟨buf, beh.apply buf⟩], some e⟩
      | none =>
        ⟨(writeAll rest (buf.drop (⟨buf, beh.apply buf⟩ : Call).accepted.length)).rest,
         ⟨buf, beh.apply buf⟩ :: (writeAll rest (buf.drop (⟨buf, beh.apply buf⟩ : Call).accepted.length)).calls,
         (writeAll rest (buf.drop (⟨buf, beh.apply buf⟩ : Call).accepted.length)).err⟩ := by
  rw [writeAll]
  simp only [hb, if_false]
  cases h : beh.apply buf with
  | ok n =>
    cases n with
    | zero => rfl
    | succ n =>
      simp only [Call.failure, Call.accepted, List.length_take, Nat.min_eq_left (Beh.apply_le h)]
  | err e => by_cases hk : e.kind = .interrupted <;> simp [Call.failure, Call.accepted, hk]

theorem writeAll_spec (script : List Beh) (buf : Bytes) :
    Tracks (writeAll script buf).calls (writeAll script buf).err buf := by
  induction script generalizing buf with
  | nil =>
    cases buf with
    | nil => exact ⟨clean_nil, rfl⟩
    | cons b bs =>
      rw [writeAll_nil (List.cons_ne_nil b bs)]
      exact ⟨clean_cons.2 ⟨rfl, clean_nil⟩, by simp [Call.accepted]⟩
  | cons beh rest ih =>
    by_cases hb : buf = []
    · subst hb
      rw [writeAll_nil_buf]
      exact ⟨clean_nil, rfl⟩
    · rw [writeAll_cons beh rest hb]
      cases hf : (⟨buf, beh.apply buf⟩ : Call).failure with
      | some e =>
        exact ⟨⟨[], _, rfl, clean_nil, hf⟩, by simpa using Call.accepted_prefix ⟨buf, beh.apply buf⟩⟩
      | none =>
        -- the first call alone is a clean log that delivered what it accepted
        have h1 : Tracks [(⟨buf, beh.apply buf⟩ : Call)] none (⟨buf, beh.apply buf⟩ : Call).accepted :=
          ⟨clean_cons.2 ⟨hf, clean_nil⟩, by simp⟩
        have := h1.append (ih (buf.drop (⟨buf, beh.apply buf⟩ : Call).accepted.length))
        rwa [Call.accepted_append_drop ⟨buf, beh.apply buf⟩] at this

/-- `write_all` offers only non-empty buffers and never more than what is left of `buf` -/
theorem writeAll_offers_suffix (script : List Beh) (buf : Bytes) :
    ∀ c ∈ (writeAll script buf).calls, c.offered ≠ [] ∧ c.offered <:+ buf := by
  have first : ∀ {buf : Bytes} {r : CallRes}, buf ≠ [] →
      (⟨buf, r⟩ : Call).offered ≠ [] ∧ (⟨buf, r⟩ : Call).offered <:+ buf :=
    fun hb => ⟨hb, List.suffix_refl _⟩
  induction script generalizing buf with
  | nil =>
    by_cases hb : buf = []
    · subst hb; exact fun _ h => nomatch h
    · rw [writeAll_nil hb]
      intro c hc
      rw [List.mem_singleton.1 hc]
      exact first hb
  | cons beh rest ih =>
    by_cases hb : buf = []
    · subst hb; exact fun _ h => nomatch h
    · rw [writeAll_cons beh rest hb]
      cases (⟨buf, beh.apply buf⟩ : Call).failure with
      | some e =>
        intro c hc
        rw [List.mem_singleton.1 hc]
        exact first hb
      | none =>
        intro c hc
        rcases List.mem_cons.1 hc with rfl | hc
        · exact first hb
        · exact ⟨(ih _ c hc).1, (ih _ c hc).2.trans (List.drop_suffix _ _)⟩

/-- behaviours that `write_all` absorbs: full or short (non-zero) writes and `Interrupted` -/
def Beh.benign : Beh → Bool
  | .all => true
  | .accept k => k != 0
  | .half => true
  | .err e => e.kind == .interrupted

theorem Beh.benign_failure {beh : Beh} (h : beh.benign = true) {buf : Bytes} (hb : buf ≠ []) :
    (⟨buf, beh.apply buf⟩ : Call).failure = none := by
  have hlen : 0 < buf.length := List.length_pos_iff.2 hb
  cases beh with
  | all => exact Call.failure_ok_pos buf hlen
  | accept k =>
    have hk : 0 < k := Nat.pos_of_ne_zero (by simpa [Beh.benign] using h)
    exact Call.failure_ok_pos buf (Nat.lt_min.2 ⟨hk, hlen⟩)
  | half => exact Call.failure_ok_pos buf (Nat.div_pos (by omega) (by decide))
  | err e =>
    have hk : e.kind = .interrupted := by simpa [Beh.benign] using h
    simp [Beh.apply, Call.failure, hk]

theorem writeAll_benign (script : List Beh) (buf : Bytes) (h : ∀ b ∈ script, b.benign = true) :
    (writeAll script buf).err = none ∧ ∀ b ∈ (writeAll script buf).rest, b.benign = true := by
  induction script generalizing buf with
  | nil =>
    by_cases hb : buf = []
    · subst hb; exact ⟨rfl, h⟩
    · rw [writeAll_nil hb]; exact ⟨rfl, h⟩
  | cons beh rest ih =>
    by_cases hb : buf = []
    · subst hb; exact ⟨rfl, h⟩
    · rw [writeAll_cons beh rest hb, Beh.benign_failure (h beh List.mem_cons_self) hb]
      exact ih _ fun b hm => h b (List.mem_cons_of_mem _ hm)

/-- feed chunks to a writer until one fails -/
def feed {B : Type} [FmtWrite B] (b : B) : List Chunk → B × Bool
  | [] => (b, true)
  | c :: cs =>
    match put b c with
    | (b', true) => feed b' cs
    | (b', false) => (b', false)

theorem feed_cons_ok {B : Type} [FmtWrite B] {b : B} {c : Chunk} (h : (put b c).2 = true)
    (cs : List Chunk) : feed b (c :: cs) = feed (put b c).1 cs := by
  rw [feed]; split <;> simp_all

theorem feed_cons_fail {B : Type} [FmtWrite B] {b : B} {c : Chunk} (h : (put b c).2 = false)
    (cs : List Chunk) : feed b (c :: cs) = ((put b c).1, false) := by
  rw [feed]; split <;> simp_all

def flat (cs : List Chunk) : Bytes := (cs.map Chunk.bytes).flatten

@[simp] theorem flat_nil : flat [] = [] := rfl
@[simp] theorem flat_cons (c : Chunk) (cs : List Chunk) : flat (c :: cs) = c.bytes ++ flat cs := by
  simp [flat]
@[simp] theorem flat_append (a b : List Chunk) : flat (a ++ b) = flat a ++ flat b := by
  simp [flat]

theorem put_string (b : Bytes) (c : Chunk) : put b c = (b ++ c.bytes, true) := by cases c <;> rfl
theorem put_recorder (b : List Chunk) (c : Chunk) : put b c = (b ++ [c], true) := by cases c <;> rfl
theorem put_null (c : Chunk) : put () c = ((), true) := by cases c <;> rfl
theorem put_wrapper (w : WriteWrapper) (c : Chunk) : put w c = w.writeBytes c.bytes := by
  cases c <;> rfl

theorem feed_string (b : Bytes) (cs : List Chunk) : feed b cs = (b ++ flat cs, true) := by
  induction cs generalizing b with
  | nil => simp [feed]
  | cons c cs ih => rw [feed_cons_ok (by rw [put_string]), put_string, ih, flat_cons, List.append_assoc]

theorem feed_recorder (b : List Chunk) (cs : List Chunk) : feed b cs = (b ++ cs, true) := by
  induction cs generalizing b with
  | nil => simp [feed]
  | cons c cs ih => rw [feed_cons_ok (by rw [put_recorder]), put_recorder, ih, List.append_assoc]; rfl

theorem feed_null (cs : List Chunk) : feed () cs = ((), true) := by
  induction cs with
  | nil => rfl
  | cons c cs ih => rw [feed_cons_ok (by rw [put_null]), ih]

theorem writeBytes_of_none {w : WriteWrapper} (h : w.err = none) (s : Bytes) :
    w.writeBytes s = w.writeBytesOk s := by
  simp [WriteWrapper.writeBytes, h]

/-- a wrapper that holds an error is poisoned: nothing reaches the sink any more -/
theorem writeBytes_of_some {w : WriteWrapper} {e : IoErr} (h : w.err = some e) (s : Bytes) :
    w.writeBytes s = (w, false) := by
  simp [WriteWrapper.writeBytes, h]

theorem put_poisoned {w : WriteWrapper} {e : IoErr} (h : w.err = some e) (c : Chunk) :
    put w c = (w, false) := by
  rw [put_wrapper, writeBytes_of_some h]

/-- a `fmt::Write` call of an adapter that holds no error, in one equation: the sink's `write_all`
    decides the slot and the `fmt::Result` alike -/
theorem put_of_none {w : WriteWrapper} (h : w.err = none) (c : Chunk) :
    put w c = (⟨(writeAll w.script c.bytes).rest, w.calls ++ (writeAll w.script c.bytes).calls,
      (writeAll w.script c.bytes).err⟩, (writeAll w.script c.bytes).err.isNone) := by
  rw [put_wrapper, writeBytes_of_none h, WriteWrapper.writeBytesOk]
  cases (writeAll w.script c.bytes).err with
  | none => exact Prod.ext (congrArg (WriteWrapper.mk _ _) h) rfl
  | some e => rfl

theorem put_ok_iff (w : WriteWrapper) (c : Chunk) : (put w c).2 = true ↔ (put w c).1.err = none := by
  cases he : w.err with
  | some e => rw [put_poisoned he, he]; simp
  | none => rw [put_of_none he]; exact Option.isNone_iff_eq_none

/-- **The adapter keeps track**: whatever its state, a `fmt::Write` call keeps the invariant,
    `buf` being the string that a `String` writer would hold at this point. -/
theorem put_tracks {w : WriteWrapper} {buf : Bytes} (h : Tracks w.calls w.err buf) (c : Chunk) :
    Tracks (put w c).1.calls (put w c).1.err (buf ++ c.bytes) := by
  cases he : w.err with
  | some e =>
    rw [put_poisoned he, he]
    exact (he ▸ h).mono (List.prefix_append _ _)
  | none =>
    rw [put_of_none he]
    exact (he ▸ h).append (writeAll_spec w.script c.bytes)

theorem feed_tracks (cs : List Chunk) {w : WriteWrapper} {buf : Bytes} (h : Tracks w.calls w.err buf) :
    Tracks (feed w cs).1.calls (feed w cs).1.err (buf ++ flat cs) := by
  induction cs generalizing w buf with
  | nil => rw [flat_nil, List.append_nil]; exact h
  | cons c cs ih =>
    have ht := put_tracks h c
    rw [flat_cons, ← List.append_assoc]
    cases hok : (put w c).2 with
    | true => rw [feed_cons_ok hok]; exact ih ht
    | false =>
      rw [feed_cons_fail hok]
      obtain ⟨e, he⟩ := Option.ne_none_iff_exists'.1 fun hn => by
        rw [(put_ok_iff w c).2 hn] at hok; cases hok
      rw [he] at ht ⊢
      exact ht.mono (List.prefix_append _ _)

theorem feed_ok_iff (cs : List Chunk) {w : WriteWrapper} (hw : w.err = none) :
    (feed w cs).2 = true ↔ (feed w cs).1.err = none := by
  induction cs generalizing w with
  | nil => simp [feed, hw]
  | cons c cs ih =>
    cases hok : (put w c).2 with
    | true => rw [feed_cons_ok hok]; exact ih ((put_ok_iff w c).1 hok)
    | false =>
      rw [feed_cons_fail hok]
      exact ⟨nofun, fun hn => by rw [(put_ok_iff w c).2 hn] at hok; cases hok⟩

/-- the adapter of a render, fed the chunks `cs` from its initial state -/
theorem feed_init (cs : List Chunk) (script : List Beh) :
    Tracks (feed (⟨script, [], none⟩ : WriteWrapper) cs).1.calls
      (feed (⟨script, [], none⟩ : WriteWrapper) cs).1.err (flat cs) ∧
    ((feed (⟨script, [], none⟩ : WriteWrapper) cs).2 = true ↔
      (feed (⟨script, [], none⟩ : WriteWrapper) cs).1.err = none) :=
  ⟨feed_tracks cs (w := ⟨script, [], none⟩) (buf := []) ⟨clean_nil, rfl⟩, feed_ok_iff cs rfl⟩

theorem feed_benign (cs : List Chunk) (w : WriteWrapper) (h : ∀ b ∈ w.script, b.benign = true)
    (hw : w.err = none) : (feed w cs).2 = true := by
  induction cs generalizing w with
  | nil => rfl
  | cons c cs ih =>
    obtain ⟨h1, h2⟩ := writeAll_benign w.script c.bytes h
    have hp := put_of_none hw c
    rw [h1] at hp
    rw [feed_cons_ok (by rw [hp]; rfl), hp]
    exact ih _ h2 rfl

section
variable {B : Type} [FmtWrite B]

def stopped : Chk Err → Chk (Except Err Unit)
  | .ok e => .ok (.error e)
  | .panic => .panic

theorem run_cons (op : Op) (ops : List Op) (st : St B) :
    run (op :: ops) st =
      match step op st with
      | (st', none) => run ops st'
      | (st', some h) => (st', stopped h) := by
  rw [run]
  rcases step op st with ⟨st', _ | _ | _⟩ <;> rfl

theorem run_cons_go {op : Op} {st st' : St B} (h : step op st = (st', none))
    (ops : List Op) : run (op :: ops) st = run ops st' := by
  rw [run_cons, h]

theorem run_cons_halt {op : Op} {st st' : St B} {y : Chk Err}
    (h : step op st = (st', some y)) (ops : List Op) : run (op :: ops) st = (st', stopped y) := by
  rw [run_cons, h]

def andThen {σ : Type} (r : σ × Chk (Except Err Unit)) (k : σ → σ × Chk (Except Err Unit)) :
    σ × Chk (Except Err Unit) :=
  match r with
  | (x, .ok (.ok ())) => k x
  | r => r

theorem andThen_congr {σ : Type} (r : σ × Chk (Except Err Unit))
    {k k' : σ → σ × Chk (Except Err Unit)} (h : ∀ x, k x = k' x) : andThen r k = andThen r k' := by
  obtain ⟨x, (e | u) | _⟩ := r
  · rfl
  · exact h x
  · rfl

theorem runX_cons (x : XOp) (xs : List XOp) (st : St B) :
    runX (x :: xs) st =
      match stepX x st with
      | (st', none) => runX xs st'
      | (st', some h) => (st', stopped h) := by
  rw [runX]
  rcases stepX x st with ⟨st', _ | _ | _⟩ <;> rfl

theorem runX_strict (ops : List Op) (st : St B) :
    runX (ops.map XOp.strict) st = run ops st := by
  induction ops generalizing st with
  | nil => rfl
  | cons o ops ih =>
    rw [List.map_cons, runX_cons, run_cons, show stepX (.strict o) st = step o st from rfl]
    rcases step o st with ⟨st', _ | y⟩
    · exact ih st'
    · rfl

theorem runX_append (a b : List XOp) (st : St B) :
    runX (a ++ b) st = andThen (runX a st) (runX b) := by
  induction a generalizing st with
  | nil => rfl
  | cons x xs ih =>
    rw [List.cons_append, runX_cons, runX_cons]
    rcases stepX x st with ⟨st', _ | _ | _⟩
    · exact ih st'
    · rfl
    · rfl

theorem run_append (a b : List Op) (st : St B) :
    run (a ++ b) st = andThen (run a st) (run b) := by
  rw [← runX_strict, List.map_append, runX_append, runX_strict]
  exact andThen_congr _ (runX_strict b)

theorem step_base_write (c : Chunk) (w : B) (ws : List Wrap) :
    step (.write c) ⟨⟨w, []⟩, ws⟩ =
      (⟨⟨(put w c).1, []⟩, ws⟩, if (put w c).2 then none else some (.ok (wrapAll ws Err.fromFmt))) := rfl
theorem step_write_capture (c : Chunk) (w : B) (buf : Bytes)
    (s : List (Option Bytes)) (ws : List Wrap) :
    step (.write c) ⟨⟨w, some buf :: s⟩, ws⟩ = (⟨⟨w, some (buf ++ c.bytes) :: s⟩, ws⟩, none) := rfl
theorem step_write_discard (c : Chunk) (w : B) (s : List (Option Bytes))
    (ws : List Wrap) : step (.write c) ⟨⟨w, none :: s⟩, ws⟩ = (⟨⟨w, none :: s⟩, ws⟩, none) := rfl
theorem step_beginCapture (d : Bool) (w : B) (s : List (Option Bytes))
    (ws : List Wrap) :
    step (.beginCapture d) ⟨⟨w, s⟩, ws⟩ = (⟨⟨w, (if d then none else some []) :: s⟩, ws⟩, none) := rfl
theorem step_endCapture_nil (w : B) (ws : List Wrap) :
    step .endCapture ⟨⟨w, []⟩, ws⟩ = (⟨⟨w, []⟩, ws⟩, some .panic) := rfl
theorem step_endCapture_cons (w : B) (top : Option Bytes)
    (s : List (Option Bytes)) (ws : List Wrap) :
    step .endCapture ⟨⟨w, top :: s⟩, ws⟩ = (⟨⟨w, s⟩, ws⟩, none) := rfl
theorem step_enter (x : Wrap) (o : Out B) (ws : List Wrap) :
    step (.enter x) ⟨o, ws⟩ = (⟨o, x :: ws⟩, none) := rfl
theorem step_leave (o : Out B) (ws : List Wrap) :
    step .leave ⟨o, ws⟩ = (⟨o, ws.tail⟩, none) := rfl
theorem step_fail (e : Err) (o : Out B) (ws : List Wrap) :
    step (.fail e) ⟨o, ws⟩ = (⟨o, ws⟩, some (.ok (wrapAll ws e))) := rfl
theorem step_panic (o : Out B) (ws : List Wrap) :
    step .panic ⟨o, ws⟩ = (⟨o, ws⟩, some .panic) := rfl

/-- An operation is a write that reaches the base writer, or it acts on the capture stack and
    the nesting only — in the same way whatever the base writer is. -/
theorem step_cases (op : Op) (s : List (Option Bytes)) (ws : List Wrap) :
    (∃ c, op = .write c ∧ s = []) ∨
    ∃ s' ws' halt, ∀ {B : Type} [FmtWrite B] (w : B),
      step op ⟨⟨w, s⟩, ws⟩ = (⟨⟨w, s'⟩, ws'⟩, halt) := by
  cases op with
  | write c =>
    cases s with
    | nil => exact Or.inl ⟨c, rfl, rfl⟩
    | cons top s =>
      cases top with
      | some buf => exact Or.inr ⟨_, _, _, fun w => step_write_capture c w buf s ws⟩
      | none => exact Or.inr ⟨_, _, _, fun w => step_write_discard c w s ws⟩
  | beginCapture d => exact Or.inr ⟨_, _, _, fun w => step_beginCapture d w s ws⟩
  | endCapture =>
    cases s with
    | nil => exact Or.inr ⟨_, _, _, fun w => step_endCapture_nil w ws⟩
    | cons top s => exact Or.inr ⟨_, _, _, fun w => step_endCapture_cons w top s ws⟩
  | enter x => exact Or.inr ⟨_, _, _, fun w => step_enter x ⟨w, s⟩ ws⟩
  | leave => exact Or.inr ⟨_, _, _, fun w => step_leave ⟨w, s⟩ ws⟩
  | fail e => exact Or.inr ⟨_, _, _, fun w => step_fail e ⟨w, s⟩ ws⟩
  | panic => exact Or.inr ⟨_, _, _, fun w => step_panic ⟨w, s⟩ ws⟩

theorem Out.write_base (w : B) (c : Chunk) :
    (⟨w, []⟩ : Out B).write c = (⟨(put w c).1, []⟩, (put w c).2) := rfl

theorem Out.write_captured (o : Out B) (c : Chunk) (h : o.stack ≠ []) :
    (o.write c).1.w = o.w ∧ (o.write c).2 = true := by
  obtain ⟨w, stack⟩ := o
  cases stack with
  | nil => exact absurd rfl h
  | cons top rest => cases top <;> exact ⟨rfl, rfl⟩

/-- the run of `ops` from `st` ended at a write to the base writer that failed: `pre` ran through,
    no capture was open at the write of `c`, and the final state and result are those right after
    that write (the `fmt::Error` turned into an error) — nothing of `post` was executed -/
def StopsAtWrite (ops : List Op) (st : St B) : Prop :=
  ∃ pre c post, ops = pre ++ .write c :: post ∧ (run pre st).2 = .ok (.ok ()) ∧
    (run pre st).1.out.stack = [] ∧
    run ops st = ((step (.write c) (run pre st).1).1,
      .ok (.error (wrapAll (run pre st).1.wraps Err.fromFmt)))

theorem StopsAtWrite.here {w : B} {c : Chunk} (h : (put w c).2 = false) (ops : List Op)
    (ws : List Wrap) : StopsAtWrite (.write c :: ops) ⟨⟨w, []⟩, ws⟩ :=
  ⟨[], c, ops, rfl, rfl, rfl, by rw [run_cons, step_base_write, h]; rfl⟩

theorem StopsAtWrite.cons {o : Op} {st st' : St B} (hs : step o st = (st', none)) {ops : List Op}
    (h : StopsAtWrite ops st') : StopsAtWrite (o :: ops) st := by
  obtain ⟨pre, c, post, hops, h1⟩ := h
  refine ⟨o :: pre, c, post, by rw [hops]; rfl, ?_⟩
  rw [run_cons_go hs, run_cons_go hs]
  exact h1

theorem StopsAtWrite.result {ops : List Op} {st : St B} (h : StopsAtWrite ops st) :
    ∃ e, (run ops st).2 = .ok (.error e) := by
  obtain ⟨_, _, _, _, _, _, h⟩ := h
  exact ⟨_, congrArg Prod.snd h⟩

/-- **Simulation.**  What an evaluation does to its base writer is to feed it a chunk sequence
    that does not depend on the writer, up to the first `fmt::Error`: if no call fails the result
    does not depend on the writer either; otherwise the evaluation ended at the write that
    failed (with an error: not `Ok`, not a panic). -/
theorem run_feed (ops : List Op) (s : List (Option Bytes)) (ws : List Wrap) :
    ∃ (cs : List Chunk) (R : Chk (Except Err Unit)), ∀ {B : Type} [FmtWrite B] (w : B),
      (run ops ⟨⟨w, s⟩, ws⟩).1.out.w = (feed w cs).1 ∧
      ((feed w cs).2 = true → (run ops ⟨⟨w, s⟩, ws⟩).2 = R) ∧
      ((feed w cs).2 = true ∨ StopsAtWrite ops ⟨⟨w, s⟩, ws⟩) := by
  induction ops generalizing s ws with
  | nil => exact ⟨[], .ok (.ok ()), fun _ => ⟨rfl, fun _ => rfl, Or.inl rfl⟩⟩
  | cons op ops ih =>
    rcases step_cases op s ws with ⟨c, rfl, rfl⟩ | ⟨s', ws', halt, hstep⟩
    · obtain ⟨cs, R, h⟩ := ih [] ws
      refine ⟨c :: cs, R, fun w => ?_⟩
      cases hok : (put w c).2 with
      | true =>
        have hs : step (.write c) ⟨⟨w, []⟩, ws⟩ = (⟨⟨(put w c).1, []⟩, ws⟩, none) := by
          rw [step_base_write, hok]; rfl
        rw [run_cons_go hs, feed_cons_ok hok]
        exact ⟨(h _).1, (h _).2.1, (h _).2.2.imp_right (.cons hs)⟩
      | false =>
        rw [feed_cons_fail hok]
        exact ⟨by rw [run_cons, step_base_write, hok]; rfl, nofun, Or.inr (.here hok ops ws)⟩
    · cases halt with
      | none =>
        obtain ⟨cs, R, h⟩ := ih s' ws'
        refine ⟨cs, R, fun w => ?_⟩
        rw [run_cons_go (hstep w)]
        exact ⟨(h w).1, (h w).2.1, (h w).2.2.imp_right (.cons (hstep w))⟩
      | some y =>
        exact ⟨[], stopped y, fun w => by rw [run_cons_halt (hstep w)]; exact ⟨rfl, fun _ => rfl, Or.inl rfl⟩⟩

/-- **Captures are invisible to the base writer.**  Deleting all captured regions changes
    neither what reaches the base writer nor the nesting nor the result: the erased run ends where
    the full run ends, with an empty capture stack. -/
theorem run_erase (ops : List Op) (w : B) (s : List (Option Bytes))
    (ws : List Wrap) :
    run (erase s.length ops) ⟨⟨w, []⟩, ws⟩ =
      (⟨⟨(run ops ⟨⟨w, s⟩, ws⟩).1.out.w, []⟩, (run ops ⟨⟨w, s⟩, ws⟩).1.wraps⟩,
        (run ops ⟨⟨w, s⟩, ws⟩).2) := by
  induction ops generalizing w s ws with
  | nil => rfl
  | cons op ops ih =>
    -- `erase` computes on each form of operation and depth, so the erased side is read off by `show`
    cases op with
    | write c =>
      cases s with
      | nil =>
        show run (.write c :: erase 0 ops) _ = _
        rw [run_cons, run_cons, step_base_write]
        cases (put w c).2 with
        | true => exact ih _ [] ws
        | false => rfl
      | cons top s =>
        cases top with
        | some buf => rw [run_cons_go (step_write_capture ..)]; exact ih w (some (buf ++ c.bytes) :: s) ws
        | none => rw [run_cons_go (step_write_discard ..)]; exact ih w (none :: s) ws
    | beginCapture d => rw [run_cons_go (step_beginCapture ..)]; exact ih w (_ :: s) ws
    | endCapture =>
      cases s with
      | nil => rfl
      | cons top s => rw [run_cons_go (step_endCapture_cons ..)]; exact ih w s ws
    | enter x =>
      show run (.enter x :: erase s.length ops) _ = _
      rw [run_cons_go (step_enter ..), run_cons_go (step_enter ..)]
      exact ih w s (x :: ws)
    | leave =>
      show run (.leave :: erase s.length ops) _ = _
      rw [run_cons_go (step_leave ..), run_cons_go (step_leave ..)]
      exact ih w s ws.tail
    | fail e => rfl
    | panic => rfl

theorem run_erase_init (ops : List Op) (w : B) :
    run (erase 0 ops) (St.init w) =
      (⟨⟨(run ops (St.init w)).1.out.w, []⟩, (run ops (St.init w)).1.wraps⟩, (run ops (St.init w)).2) :=
  run_erase ops w [] []

/-- the only panic of the output machinery is an `end_capture` without `begin_capture` -/
theorem run_no_panic (ops : List Op) (w : B) (s : List (Option Bytes))
    (ws : List Wrap) (hb : balanced s.length ops = true) : (run ops ⟨⟨w, s⟩, ws⟩).2 ≠ .panic := by
  induction ops generalizing w s ws with
  | nil => exact fun h => nomatch h
  | cons op ops ih =>
    -- `balanced` computes on each form of operation and depth: `hb` is the hypothesis of `ih` as it stands
    cases op with
    | write c =>
      cases s with
      | nil =>
        rw [run_cons, step_base_write]
        cases (put w c).2 with
        | true => exact ih _ [] ws hb
        | false => exact fun h => nomatch h
      | cons top s =>
        cases top with
        | some buf => rw [run_cons_go (step_write_capture ..)]; exact ih w (_ :: s) ws hb
        | none => rw [run_cons_go (step_write_discard ..)]; exact ih w (_ :: s) ws hb
    | beginCapture d => rw [run_cons_go (step_beginCapture ..)]; exact ih w (_ :: s) ws hb
    | endCapture =>
      cases s with
      | nil => cases hb
      | cons top s => rw [run_cons_go (step_endCapture_cons ..)]; exact ih w s ws hb
    | enter x => rw [run_cons_go (step_enter ..)]; exact ih w s _ hb
    | leave => rw [run_cons_go (step_leave ..)]; exact ih w s _ hb
    | fail e => exact fun h => nomatch h
    | panic => cases hb

end

theorem takeErr_of_some {w : WriteWrapper} {io : IoErr} (h : w.err = some io) (e : Err) :
    w.takeErr e = .writeFailure (some io) := by
  simp [WriteWrapper.takeErr, h, writeFailure]

theorem takeErr_of_none {w : WriteWrapper} (h : w.err = none) (e : Err) : w.takeErr e = e := by
  simp [WriteWrapper.takeErr, h]

theorem check_of_some {w : WriteWrapper} {io : IoErr} (h : w.err = some io) :
    w.check = .error (.writeFailure (some io)) := by
  simp [WriteWrapper.check, h, writeFailure]

theorem check_of_none {w : WriteWrapper} (h : w.err = none) : w.check = .ok () := by
  simp [WriteWrapper.check, h]

theorem finish_of_some {w : WriteWrapper} {io : IoErr} (h : w.err = some io)
    (r : Chk (Except Err Unit)) (hr : r ≠ .panic) :
    w.finish r = .ok (.error (.writeFailure (some io))) := by
  rcases r with (e | u) | _
  · simp [WriteWrapper.finish, takeErr_of_some h]
  · simp [WriteWrapper.finish, check_of_some h]
  · exact absurd rfl hr

theorem finish_of_some_or_panic {w : WriteWrapper} {io : IoErr} (h : w.err = some io)
    (r : Chk (Except Err Unit)) :
    w.finish r = .ok (.error (.writeFailure (some io))) ∨ w.finish r = .panic := by
  rcases r with x | _
  · exact Or.inl (finish_of_some h _ nofun)
  · exact Or.inr rfl

theorem finish_of_none {w : WriteWrapper} (h : w.err = none) (r : Chk (Except Err Unit)) :
    w.finish r = r := by
  rcases r with (e | u) | _
  · simp [WriteWrapper.finish, takeErr_of_none h]
  · simp [WriteWrapper.finish, check_of_none h]
  · rfl

theorem EngErr.toErr_source {ee : EngErr} {io : IoErr} (h : ee.toErr = .writeFailure (some io)) :
    io.payload = .msg := by
  unfold EngErr.toErr at h
  split at h
  · split at h
    · cases h; rfl
    · cases h
  · cases h

theorem finish_ne_panic (w : WriteWrapper) (r : Chk (Except Err Unit)) (h : r ≠ .panic) :
    w.finish r ≠ .panic := by
  rcases r with (e | u) | _
  · nofun
  · nofun
  · exact absurd rfl h

/-- `run_feed` from the initial state with its witnesses named: the chunk sequence is what the
    recorder ends with (`chunksOf ops`), the result is the one the `String` writer, which never
    fails, gets. -/
theorem run_init_feed {B : Type} [FmtWrite B] (ops : List Op) (b : B) :
    (run ops (St.init b)).1.out.w = (feed b (chunksOf ops)).1 ∧
    ((feed b (chunksOf ops)).2 = true → (run ops (St.init b)).2 = (renderString ops).result) ∧
    ((feed b (chunksOf ops)).2 = true ∨ StopsAtWrite ops (St.init b)) := by
  obtain ⟨cs, R, h⟩ := run_feed ops [] []
  have hcs : chunksOf ops = cs :=
    (h ([] : List Chunk)).1.trans (congrArg Prod.fst (feed_recorder [] cs))
  have hR : (renderString ops).result = R := (h ([] : Bytes)).2.1 (by rw [feed_string])
  rw [hcs, hR]
  exact h b

theorem renderString_buf (ops : List Op) : (renderString ops).buf = flat (chunksOf ops) := by
  have h := (run_init_feed ops ([] : Bytes)).1
  rw [feed_string] at h
  exact h

/-- **The writer API as one equation** in the chunk sequence `chunksOf ops`, which does not depend
    on the sink: the log is the adapter's after it was fed these chunks, and its error slot
    decides the result. -/
theorem renderTo_feed (ops : List Op) (script : List Beh) :
    renderTo ops script =
      ⟨(feed (⟨script, [], none⟩ : WriteWrapper) (chunksOf ops)).1.calls,
       match (feed (⟨script, [], none⟩ : WriteWrapper) (chunksOf ops)).1.err with
       | none => (renderString ops).result
       | some e => .ok (.error (.writeFailure (some e)))⟩ := by
  obtain ⟨hw, hok, hstop⟩ := run_init_feed ops (⟨script, [], none⟩ : WriteWrapper)
  have hi := (feed_init (chunksOf ops) script).2
  rw [renderTo, hw]
  cases he : (feed (⟨script, [], none⟩ : WriteWrapper) (chunksOf ops)).1.err with
  | none => rw [finish_of_none he, hok (hi.2 he)]
  | some e =>
    obtain ⟨e0, hres⟩ := (hstop.resolve_left fun h => by rw [hi.1 h] at he; cases he).result
    rw [hres, finish_of_some he (.ok (.error e0)) nofun]

/-- **The specification of a render into a sink**, relative to the plain render of the same
    operations, in the shape `log_facets` takes. -/
theorem render_tracks (ops : List Op) (script : List Beh) :
    ∃ err, Tracks (renderTo ops script).calls err (renderString ops).buf ∧
      (err = none → (renderTo ops script).result = (renderString ops).result) ∧
      (∀ e, err = some e → (renderTo ops script).result = .ok (.error (.writeFailure (some e)))) := by
  rw [renderTo_feed, renderString_buf]
  exact ⟨_, (feed_init (chunksOf ops) script).1, fun h => by rw [h], fun e h => by rw [h]⟩

end MJ.Output
