import MJ.Model.Safe
/-! C02: `Clean`/`NoMeta` algebra, the escaper, and the membership lemmas of the string algorithms
("every output character is an input character"). -/
namespace MJ.Safe

def NoMeta (s : TStr) : Prop := ∀ ch ∈ s, isMeta ch.c = false

theorem NoMeta.clean {s : TStr} (h : NoMeta s) : Clean s := fun ch hm _ => h ch hm

theorem Clean.nil : Clean [] := by intro ch h; cases h
theorem NoMeta.nil : NoMeta [] := by intro ch h; cases h

theorem Clean.append {a b : TStr} (ha : Clean a) (hb : Clean b) : Clean (a ++ b) :=
  fun ch h => (List.mem_append.mp h).elim (ha ch) (hb ch)

theorem NoMeta.append {a b : TStr} (ha : NoMeta a) (hb : NoMeta b) : NoMeta (a ++ b) :=
  fun ch h => (List.mem_append.mp h).elim (ha ch) (hb ch)

theorem Clean.of_append_left {a b : TStr} (h : Clean (a ++ b)) : Clean a :=
  fun ch hm => h ch (List.mem_append.mpr (Or.inl hm))
theorem Clean.of_append_right {a b : TStr} (h : Clean (a ++ b)) : Clean b :=
  fun ch hm => h ch (List.mem_append.mpr (Or.inr hm))

theorem Clean.mono {s t : TStr} (hs : Clean s) (h : ∀ ch ∈ t, ch ∈ s) : Clean t :=
  fun ch hm => hs ch (h ch hm)

theorem Clean.reverse {s : TStr} (h : Clean s) : Clean s.reverse := h.mono fun _ hm => List.mem_reverse.mp hm

theorem Clean.ofTmpl (s : String) : Clean (ofTmpl s) := by
  intro ch h ht
  simp only [Safe.ofTmpl, List.mem_map] at h
  obtain ⟨c, _, rfl⟩ := h
  cases ht

theorem Clean.cons {c : TChar} {s : TStr} (hc : c.t = .data → isMeta c.c = false) (h : Clean s) :
    Clean (c :: s) :=
  List.forall_mem_cons.mpr ⟨hc, h⟩

theorem Clean.tmpl_cons {c : Char} {s : TStr} (h : Clean s) : Clean (⟨c, .tmpl⟩ :: s) := Clean.cons nofun h

theorem Clean.spaces (n : Nat) : Clean (spaces n) := by
  intro ch h ht
  simp only [Safe.spaces, List.mem_replicate] at h
  rw [h.2] at ht; cases ht

theorem Clean.flatten {ls : List TStr} (h : ∀ l ∈ ls, Clean l) : Clean ls.flatten := by
  intro ch hm
  obtain ⟨l, hl, hc⟩ := List.mem_flatten.mp hm
  exact h l hl ch hc

theorem Clean.flatMap {α : Type} {xs : List α} {f : α → TStr} (h : ∀ x ∈ xs, Clean (f x)) :
    Clean (xs.flatMap f) := by
  intro ch hm
  obtain ⟨x, hx, hc⟩ := List.mem_flatMap.mp hm
  exact h x hx ch hc

theorem isMeta_cases {c : Char} (h : isMeta c = true) : c = '<' ∨ c = '>' ∨ c = '"' ∨ c = '\'' := by
  simpa [isMeta, or_assoc] using h

/-- every metacharacter passes the range pre-filter of `HtmlEscape` and has a row in its table -/
theorem escapeOf_meta {c : Char} (h : isMeta c = true) : (escapeOf c).isSome = true := by
  rcases isMeta_cases h with rfl | rfl | rfl | rfl <;> decide

/-- every metacharacter is seen by `needs_html_escaping` -/
theorem needsChar_meta {c : Char} (h : isMeta c = true) : needsChar c = true := by
  rcases isMeta_cases h with rfl | rfl | rfl | rfl <;> decide

theorem table_noMeta : ∀ p ∈ Gen.htmlEscapeTable, ∀ c ∈ p.2.toList, isMeta c = false := by decide +kernel

theorem lookup_some_mem {α β : Type} [BEq α] [LawfulBEq α] {a : α} {b : β} {l : List (α × β)}
    (h : l.lookup a = some b) : (a, b) ∈ l := by
  obtain ⟨l₁, l₂, rfl, _⟩ := List.lookup_eq_some_iff.mp h
  exact List.mem_append_right _ List.mem_cons_self

theorem htmlEscape_noMeta (s : TStr) : NoMeta (htmlEscape s) := by
  intro ch hm
  simp only [htmlEscape, List.mem_flatMap] at hm
  obtain ⟨src, _, hc⟩ := hm
  cases he : escapeOf src.c with
  | some r =>
    rw [he] at hc
    simp only [Safe.ofTmpl, List.mem_map] at hc
    obtain ⟨c, hcr, rfl⟩ := hc
    have he' := he
    unfold escapeOf at he'
    split at he'
    · have hk := lookup_some_mem he'
      exact table_noMeta _ hk c hcr
    · cases he'
  | none =>
    rw [he] at hc
    simp only [List.mem_singleton] at hc
    subst hc
    cases hmeta : isMeta ch.c with
    | false => rfl
    | true => have := escapeOf_meta hmeta; rw [he] at this; cases this

theorem escapeStr_noMeta (s : TStr) : NoMeta (escapeStr s) := by
  unfold escapeStr
  split
  · exact htmlEscape_noMeta s
  · rename_i h
    intro ch hm
    cases hmeta : isMeta ch.c with
    | false => rfl
    | true =>
      exfalso; apply h
      simp only [needsEscaping, List.any_eq_true]
      exact ⟨ch, hm, needsChar_meta hmeta⟩

theorem digit_noMeta : ∀ d, d < 10 → isMeta (Char.ofNat (48 + d)) = false := by decide

theorem natDigits_noMeta (n : Nat) : ∀ c ∈ natDigits n, isMeta c = false := by
  fun_induction natDigits n
  · exact List.forall_mem_singleton.mpr (digit_noMeta _ ‹_›)
  · rename_i ih
    intro c hc
    rcases List.mem_append.mp hc with h | h
    · exact ih c h
    · exact List.mem_singleton.mp h ▸ digit_noMeta _ (by omega)

theorem intChars_noMeta (n : Int) : ∀ c ∈ intChars n, isMeta c = false := by
  intro c hc
  unfold intChars at hc
  split at hc
  · rcases List.mem_cons.mp hc with rfl | h
    · decide
    · exact natDigits_noMeta _ c h
  · exact natDigits_noMeta _ c hc

theorem ofDataL_noMeta {cs : List Char} (h : ∀ c ∈ cs, isMeta c = false) : NoMeta (ofDataL cs) := by
  intro ch hm
  simp only [ofDataL, List.mem_map] at hm
  obtain ⟨c, hc, rfl⟩ := hm
  exact h c hc

theorem ofData_noMeta {s : String} (h : ∀ c ∈ s.toList, isMeta c = false) : NoMeta (ofData s) := by
  intro ch hm
  simp only [ofData, List.mem_map] at hm
  obtain ⟨c, hc, rfl⟩ := hm
  exact h c hc

theorem mem_replaceGo {pat to : TStr} {ch : TChar} (s : TStr) (k : Nat) (h : ch ∈ replaceGo pat to k s) :
    ch ∈ s ∨ ch ∈ to := by
  fun_induction replaceGo pat to k s
  · exact Or.inl h
  · rename_i ih; exact (ih h).imp_left (.tail _)
  · rename_i ih
    rcases List.mem_append.mp h with h | h
    · exact Or.inr h
    · exact (ih h).imp_left (.tail _)
  · rename_i ih
    rcases List.mem_cons.mp h with rfl | h
    · exact Or.inl (.head _)
    · exact (ih h).imp_left (.tail _)

theorem mem_replaceAll {s pat to : TStr} {ch : TChar} (h : ch ∈ replaceAll s pat to) :
    ch ∈ s ∨ ch ∈ to := by
  unfold replaceAll at h
  split at h
  · rcases List.mem_append.mp h with h | h
    · exact Or.inr h
    · obtain ⟨c, hc, hm⟩ := List.mem_flatMap.mp h
      rcases List.mem_cons.mp hm with rfl | hm
      · exact Or.inl hc
      · exact Or.inr hm
  · exact mem_replaceGo s 0 h

/-- the splitters walk the input with an accumulator `cur`: a character of what they have moved on from
    `c :: rest` to `rest` is in the accumulator, as it was or extended by `c`, or still ahead -/
theorem mem_acc_step {ch c : TChar} {cur rest : TStr} (h : ch ∈ cur ++ [c] ∨ ch ∈ rest) : ch ∈ cur ∨ ch ∈ c :: rest := by
  rcases h with h | h
  · rcases List.mem_append.mp h with h | h
    · exact Or.inl h
    · exact Or.inr (List.mem_singleton.mp h ▸ .head _)
  · exact Or.inr (.tail _ h)

theorem mem_acc_fresh {ch c : TChar} {cur rest : TStr} (h : ch ∈ [] ∨ ch ∈ rest) : ch ∈ cur ∨ ch ∈ c :: rest :=
  h.elim nofun fun h => Or.inr (.tail _ h)

theorem mem_splitGo {sep : TStr} {ch : TChar} (s cur : TStr) (left k : Nat) (p : TStr)
    (hp : p ∈ splitGo sep left k cur s) (hc : ch ∈ p) : ch ∈ cur ∨ ch ∈ s := by
  fun_induction splitGo sep left k cur s
  · exact Or.inl (List.mem_singleton.mp hp ▸ hc)
  · rename_i ih; exact (ih hp).imp_right (.tail _)
  · rename_i ih
    rcases List.mem_cons.mp hp with rfl | hp
    · exact Or.inl hc
    · exact mem_acc_fresh (ih hp)
  · rename_i ih; exact mem_acc_step (ih hp)

theorem mem_splitWsGo {ch : TChar} (s cur p : TStr) (hp : p ∈ splitWsGo cur s) (hc : ch ∈ p) : ch ∈ cur ∨ ch ∈ s := by
  fun_induction splitWsGo cur s
  · cases hp
  · exact Or.inl (List.mem_singleton.mp hp ▸ hc)
  · rename_i ih; exact mem_acc_fresh (ih hp)
  · rename_i ih
    rcases List.mem_cons.mp hp with rfl | hp
    · exact Or.inl hc
    · exact mem_acc_fresh (ih hp)
  · rename_i ih; exact mem_acc_step (ih hp)

theorem mem_splitNl {ch : TChar} (s cur p : TStr) (hp : p ∈ splitNl cur s) (hc : ch ∈ p) : ch ∈ cur ∨ ch ∈ s := by
  fun_induction splitNl cur s
  · exact Or.inl (List.mem_singleton.mp hp ▸ hc)
  · rename_i ih
    rcases List.mem_cons.mp hp with rfl | hp
    · exact Or.inl hc
    · exact mem_acc_fresh (ih hp)
  · rename_i ih; exact mem_acc_step (ih hp)

theorem mem_dropWhile {α : Type} {p : α → Bool} {a : α} : ∀ {l : List α}, a ∈ l.dropWhile p → a ∈ l :=
  fun h => (List.dropWhile_sublist p).subset h

theorem mem_takeWhile {α : Type} {p : α → Bool} {a : α} : ∀ {l : List α}, a ∈ l.takeWhile p → a ∈ l :=
  fun h => (List.takeWhile_sublist p).subset h

/-- the model takes the last element of a list off as the head of its reverse -/
theorem mem_of_reverse_eq {α : Type} {l r : List α} {x q : α} (h : l.reverse = x :: r) (hq : q ∈ x :: r) : q ∈ l :=
  List.mem_reverse.mp (h ▸ hq)

theorem mem_stripLast {c0 : Char} {l : TStr} {ch : TChar} (h : ch ∈ stripLast c0 l) : ch ∈ l := by
  unfold stripLast at h
  split at h
  · rename_i c r hr
    split at h
    · exact mem_of_reverse_eq hr (.tail _ (List.mem_reverse.mp h))
    · exact h
  · exact h

theorem mem_stripCr {l : TStr} {ch : TChar} (h : ch ∈ stripCr l) : ch ∈ l := mem_stripLast h

theorem mem_linesOf {s p : TStr} {ch : TChar} (hp : p ∈ linesOf s) (hc : ch ∈ p) : ch ∈ s := by
  have key : ∀ q ∈ splitNl [] s, ∀ x ∈ q, x ∈ s := by
    intro q hq x hx
    rcases mem_splitNl s [] q hq hx with h | h
    · cases h
    · exact h
  unfold linesOf at hp
  simp only at hp
  split at hp
  · rename_i last r hr
    have hsub : ∀ q, q ∈ last :: r → q ∈ splitNl [] s := fun q => mem_of_reverse_eq hr
    split at hp
    · simp only [List.mem_map, List.mem_reverse] at hp
      obtain ⟨q, hq, rfl⟩ := hp
      exact key q (hsub q (List.mem_cons_of_mem _ hq)) ch (mem_stripCr hc)
    · simp only [List.mem_reverse, List.mem_cons, List.mem_map] at hp
      rcases hp with rfl | ⟨q, hq, rfl⟩
      · exact key _ (hsub _ List.mem_cons_self) ch hc
      · exact key q (hsub q (List.mem_cons_of_mem _ hq)) ch (mem_stripCr hc)
  · cases hp

theorem mem_trimBy {p : Char → Bool} {s : TStr} {ch : TChar} (h : ch ∈ trimBy p s) : ch ∈ s := by
  unfold trimBy at h
  exact mem_dropWhile (List.mem_reverse.mp (mem_dropWhile (List.mem_reverse.mp h)))

theorem mem_stripTrailingNl {s : TStr} {ch : TChar} (h : ch ∈ stripTrailingNl s) : ch ∈ s :=
  mem_stripLast (mem_stripLast h)

/-- `indent` only adds engine text (spaces, newlines) -/
theorem clean_indentStr {s : TStr} (w : Nat) (first blank : Bool) (hs : Clean s) :
    Clean (indentStr s w first blank) := by
  have hin : Clean (stripTrailingNl s) := hs.mono fun ch h => mem_stripTrailingNl h
  have hl : ∀ l ∈ splitNl [] (stripTrailingNl s), Clean l := by
    intro l hl
    apply hin.mono
    intro ch hc
    rcases mem_splitNl _ [] l hl hc with h | h
    · cases h
    · exact h
  have hnl : Clean [nl] := by intro ch h ht; simp only [List.mem_singleton] at h; subst h; cases ht
  have hind : ∀ l, Clean l → Clean ((if l.isEmpty then (if blank then spaces w else []) else spaces w ++ l) ++ [nl]) := by
    intro l hl
    apply Clean.append _ hnl
    split
    · split
      · exact Clean.spaces w
      · exact Clean.nil
    · exact (Clean.spaces w).append hl
  unfold indentStr
  simp only
  apply Clean.mono _ (fun ch h => mem_stripTrailingNl h)
  split
  · rename_i l rest heq
    have hl' : ∀ q ∈ l :: rest, Clean q := by intro q hq; apply hl; rw [heq]; exact hq
    apply Clean.append
    · exact (hl' l List.mem_cons_self).append hnl
    · apply Clean.flatMap
      intro q hq
      exact hind q (hl' q (List.mem_cons_of_mem _ hq))
  · apply Clean.flatMap
    intro q hq
    exact hind q (hl q hq)

def MetaReflecting (f : Char → List Char) : Prop := ∀ c, ∀ d ∈ f c, isMeta d = true → isMeta c = true

theorem clean_mapChars {f : Char → List Char} (hf : MetaReflecting f) {s : TStr} (hs : Clean s) :
    Clean (mapChars f s) := by
  intro ch hm ht
  simp only [mapChars, List.mem_flatMap, List.mem_map] at hm
  obtain ⟨src, hsrc, d, hd, rfl⟩ := hm
  cases hmeta : isMeta d with
  | false => rfl
  | true =>
    have h1 := hf src.c d hd hmeta
    have h2 := hs src hsrc ht
    rw [h1] at h2; cases h2

theorem isMeta_toNat (c : Char) (h : isMeta c = true) : c.toNat = 60 ∨ c.toNat = 62 ∨ c.toNat = 34 ∨ c.toNat = 39 := by
  rcases isMeta_cases h with rfl | rfl | rfl | rfl <;> decide

theorem isMeta_ofNat_false (n : Nat) (h : n ≠ 60 ∧ n ≠ 62 ∧ n ≠ 34 ∧ n ≠ 39)
    (hv : n.isValidChar) : isMeta (Char.ofNat n) = false := by
  cases hm : isMeta (Char.ofNat n) with
  | false => rfl
  | true =>
    have := isMeta_toNat _ hm
    have e : (Char.ofNat n).toNat = n := by
      simp [Char.ofNat, hv, Char.toNat, Char.ofNatAux]
    omega

end MJ.Safe
