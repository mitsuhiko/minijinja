import MJ.Proofs.LexerStep
import MJ.Proofs.LexerTok
import MJ.Proofs.LexerFind
/-! One round of the root loop on `text ++ tag ++ rest` (`step_text_tag`: the search stops at the
tag, the lead is the text minus its cuts, `handleTag_tag` for the tag of any kind) and the induction
over the segment list: the token loop emits exactly the tokens of the rules (`lexGo_outs`), which
render as `specTail`. -/
namespace MJ.Lexer

/-- tokens a tag contributes -/
def tagOuts (cfg : Cfg) (g : Tag) : List Out :=
  match g.kind with
  | .var _ => [.var]
  | .block _ => [.blk]
  | .comment _ => []
  | .raw c ri l2 _ => [.data (cut (leftCut cfg true ri c) (rightCut cfg false true l2 c) c)]
  | .lineStmt _ => [.blk]
  | .lineComment _ => []

theorem renderOuts_append (vm bm : List Char) (a b : List Out) :
    renderOuts vm bm (a ++ b) = renderOuts vm bm a ++ renderOuts vm bm b := by
  induction a with
  | nil => rfl
  | cons x a ih => cases x <;> simp [renderOuts, ih]

theorem renderOuts_dataOut (vm bm s : List Char) : renderOuts vm bm (dataOut s) = s := by
  unfold dataOut
  cases s <;> simp [renderOuts]

theorem renderOuts_tagOuts (cfg : Cfg) (vm bm : List Char) (g : Tag) :
    renderOuts vm bm (tagOuts cfg g) = tagOut cfg vm bm g := by
  cases g with | mk kind l r => cases kind <;> simp [tagOuts, tagOut, renderOuts]

/-- the tokens the rules prescribe for `t ++ unparseTail d tail`, the first `l` characters of `t` removed -/
def specOuts (cfg : Cfg) : Bool → Nat → List Char → List (Tag × List Char) → List Out
  | _, l, t, [] => dataOut (t.drop l)
  | first, l, t, (g, t') :: rest =>
    dataOut (cut l (rightCutG cfg first g t) t) ++ (tagOuts cfg g ++ specOuts cfg false (leftCutG cfg g t') t' rest)

theorem renderOuts_specOuts (cfg : Cfg) (vm bm : List Char) (tail : List (Tag × List Char)) :
    ∀ (first : Bool) (l : Nat) (t : List Char),
      renderOuts vm bm (specOuts cfg first l t tail) = specTail cfg vm bm first l t tail := by
  induction tail with
  | nil => intro _ l t; simp [specOuts, specTail, renderOuts_dataOut]
  | cons x rest ih =>
    obtain ⟨g, t'⟩ := x
    intro first l t
    simp only [specOuts, specTail, renderOuts_append, renderOuts_dataOut, renderOuts_tagOuts, ih, List.append_assoc]

/-- line statements and line comments carry no markers -/
theorem line_marks {d : Delims} {g : Tag} {z : List Char} (hok : tagOk d g z = true) (hl : g.isLine = true) :
    g.l = .none ∧ g.r = .none := by
  cases g with
  | mk kind l r =>
    cases kind with
    | lineStmt ts => obtain ⟨_, hl, hr, _⟩ := tagOk_lineStmt.1 hok; exact ⟨hl, hr⟩
    | lineComment body => obtain ⟨_, hl, hr, _⟩ := tagOk_lineComment.1 hok; exact ⟨hl, hr⟩
    | _ => cases hl

theorem handleTag_tag (cfg : Cfg) {d : Delims} (gd : Good d) (lead : List Out) (g : Tag)
    (preTag t' more : List Char) (hm : NoWsHead more) (hfree : rawFree d g (t' ++ more) = true)
    (hcom : tagOk d g (t' ++ more) = true) :
    handleTag cfg d lead g.marker ((g.start d).length + g.l.ws.len) preTag (g.src d ++ (t' ++ more)) =
      .next (lead ++ tagOuts cfg g)
        ((t'.take (nextKG cfg g t')).reverse ++ ((g.src d).reverse ++ preTag))
        (t'.drop (nextKG cfg g t') ++ more) (nextTf g.r) := by
  have hA0 : g.start d ++ g.l.src ≠ [] :=
    List.append_ne_nil_of_left_ne_nil (startOk_ne_nil (gd.starts _ (g.start_mem_startPats _ hcom))) _
  have hA : (g.start d ++ g.l.src).length = (g.start d).length + g.l.ws.len := by
    rw [List.length_append, Mark.ws_len]
  cases g with
  | mk kind l r =>
    cases kind with
    | var ts =>
      have hv := tagOk_var.1 hcom
      refine handleTag_var_src cfg d lead preTag (B := srcs ts ++ (r.src ++ d.ve)) t' more r ?_ hA hA0 ?_
      · simp only [Tag.src, Tag.start, Tag.after, List.append_assoc]
      · rw [List.append_assoc, List.append_assoc]
        exact interior_end_found gd.ve ts r _ hv.interior hv.close
    | block ts =>
      obtain ⟨hv, hnotraw⟩ := tagOk_block.1 hcom
      refine handleTag_block_src cfg d lead preTag (B := srcs ts ++ (r.src ++ d.be)) t' more r ?_ hA hA0 hm ?_ ?_
      · simp only [Tag.src, Tag.start, Tag.after, List.append_assoc]
      · rw [List.append_assoc, List.append_assoc]
        exact skipBasicTag_notRaw _ _ hnotraw
      · rw [List.append_assoc, List.append_assoc]
        exact interior_end_found gd.be ts r _ hv.interior hv.close
    | comment body =>
      obtain ⟨hce, _, hend⟩ := tagOk_comment.1 hcom
      refine handleTag_comment_src cfg d lead preTag body t' more r ?_ hA hA0 hm gd.ce hce hend
      simp only [Tag.src, Tag.start, Tag.after, List.append_assoc]
    | raw c ri l2 tight =>
      obtain ⟨hri, hr⟩ := tagOk_raw.1 hcom
      simp only [rawFree, Tag.rawClose, List.append_assoc] at hfree
      refine handleTag_raw_src cfg d lead preTag (O := rawBody tight ++ (ri.src ++ d.be))
        (E := d.bs ++ (l2.src ++ (endrawBody tight ++ (r.src ++ d.be)))) t' more ri l2 r ?_ hA rfl hA0 hm ?_ ?_ ?_
      · simp only [Tag.src, Tag.start, Tag.after, List.append_assoc]
      · have := skipBasicTag_raw gd.be tight ri _ hri
        simpa only [List.append_assoc, List.length_append, Nat.add_assoc] using this
      · have := findEndraw_content gd c tight l2 r (t' ++ more) hr hfree
        simpa only [List.append_assoc, List.length_append, Nat.add_assoc] using this
      · rw [← List.append_assoc, ← List.append_assoc, List.reverse_append, List.append_assoc]
        exact lastOk_ctx gd.lbe _
    | lineStmt ts =>
      obtain ⟨_, rfl, rfl, hint, hfol⟩ := tagOk_lineStmt.1 hcom
      refine handleTag_lineStmt_src cfg d lead preTag (B := srcs ts) t' more ?_ hA hA0 hm
        (line_interior_end_found ts _ hint hfol)
      simp only [Tag.src, Tag.start, Tag.after, Mark.src, List.append_nil]
    | lineComment body =>
      obtain ⟨_, rfl, rfl, hbody, hfol, _⟩ := tagOk_lineComment.1 hcom
      refine handleTag_lineComment_src cfg d lead preTag body t' more ?_ hA hA0 hm hbody hfol
      simp only [Tag.src, Tag.start, Tag.after, Mark.src, List.append_nil]

theorem head?_append_of_ne_nil {a : List Char} (z : List Char) (h : a ≠ []) : (a ++ z).head? = a.head? := by
  cases a with
  | nil => exact absurd rfl h
  | cons c a => rfl

theorem head_not_mark {s : List Char}
    (h : (match s with
      | c :: _ => !isMarkChar c
      | [] => true) = true) (c : Char) (hc : s.head? = some c) : isMarkChar c = false := by
  cases s with
  | nil => cases hc
  | cons c0 y => cases hc; simpa using h

/-- `bodyStartOk`: behind an unmarked opening side there is no `-`/`+` -/
theorem bodyStartOk_head {body : List Char} {l r : Mark} {e : List Char} (he : e ≠ [])
    (h : bodyStartOk body l r e = true) (z : List Char) :
    l ≠ .none ∨ ∀ c, (body ++ (r.src ++ (e ++ z))).head? = some c → isMarkChar c = false := by
  cases l with
  | minus | plus => exact Or.inl (by simp)
  | none =>
    have e1 : body ++ (r.src ++ (e ++ z)) = (body ++ (r.src ++ e)) ++ z := by simp
    rw [e1, head?_append_of_ne_nil z (by simp [he])]
    simp only [bodyStartOk, bne_self_eq_false, Bool.false_or] at h
    exact Or.inr (head_not_mark h)

/-- the byte behind the start delimiter is read as the tag's left marker (a line statement has
    none) -/
theorem Tag.ws_head {d : Delims} (gd : Good d) (g : Tag) (z : List Char) (hcom : tagOk d g z = true) :
    (if g.marker = .lineStmt then Ws.dflt else wsOfChar (g.after d ++ z).head?) = g.l.ws := by
  cases g with
  | mk kind l r =>
    cases kind with
    | var ts =>
      simp only [Tag.marker, Tag.after, reduceCtorEq, if_false, List.append_assoc]
      exact wsOfChar_src_append l _ (bodyStartOk_head (headOk_ne gd.ve) (tagOk_var.1 hcom).start z)
    | block ts =>
      obtain ⟨hv, _⟩ := tagOk_block.1 hcom
      simp only [Tag.marker, Tag.after, reduceCtorEq, if_false, List.append_assoc]
      exact wsOfChar_src_append l _ (bodyStartOk_head (headOk_ne gd.be) hv.start z)
    | comment body =>
      obtain ⟨_, hstart, _⟩ := tagOk_comment.1 hcom
      simp only [Tag.marker, Tag.after, reduceCtorEq, if_false, List.append_assoc]
      exact wsOfChar_src_append l _ (bodyStartOk_head gd.ce hstart z)
    | raw c ri l2 tight =>
      simp only [Tag.marker, Tag.after, reduceCtorEq, if_false, List.append_assoc]
      refine wsOfChar_src_append l _ (Or.inr ?_)
      cases tight <;> (intro c hc; cases hc; decide)
    | lineStmt ts =>
      obtain ⟨_, rfl, _⟩ := tagOk_lineStmt.1 hcom
      rfl
    | lineComment body =>
      obtain ⟨_, rfl, _, _, _, hhead⟩ := tagOk_lineComment.1 hcom
      exact wsOfChar_src_append .none (body ++ z) (Or.inr hhead)

theorem Tag.src_ne_nil {d : Delims} (gd : Good d) (g : Tag) (z : List Char) (hok : tagOk d g z = true) :
    g.src d ≠ [] := by
  obtain ⟨c, r, h, _⟩ := own_cons gd (g.start_mem_startPats z hok)
  simp [Tag.src, h]

/-- a tag that is not a line statement / line comment ends in its end delimiter -/
theorem Tag.src_end {d : Delims} (gd : Good d) (g : Tag) (hl : g.isLine = false) :
    ∃ p e, g.src d = p ++ e ∧ lastOk e = true := by
  cases g with
  | mk kind l r =>
    cases kind with
    | var ts => exact ⟨_, d.ve, (List.append_assoc _ _ _).symm, gd.lve⟩
    | block ts => exact ⟨_, d.be, (List.append_assoc _ _ _).symm, gd.lbe⟩
    | comment body => exact ⟨_, d.ce, (List.append_assoc _ _ _).symm, gd.lce⟩
    | raw cc ri l2 tight => exact ⟨_, d.be, (List.append_assoc _ _ _).symm, gd.lbe⟩
    | _ => cases hl

theorem Tag.src_ctx {d : Delims} (gd : Good d) (g : Tag) (hl : g.isLine = false) (pre : List Char) :
    CtxOk false ((g.src d).reverse ++ pre) := by
  obtain ⟨p, e, hp, he⟩ := Tag.src_end gd g hl
  rw [hp, List.reverse_append, List.append_assoc]
  exact lastOk_ctx he _

/-- a tail that is not empty starts with the first character of a start delimiter -/
theorem unparseTail_head {d : Delims} (gd : Good d) {first : Bool} {t : List Char} {x : Tag × List Char}
    {rest : List (Tag × List Char)} (h : tailFree d first t (x :: rest) = true) :
    ∃ c r, unparseTail d (x :: rest) = c :: r ∧ isWs c = false := by
  obtain ⟨g, t'⟩ := x
  obtain ⟨c, r, hc, hw⟩ := own_cons gd (g.start_mem_startPats _ (tailFree_cons.1 h).2.2.2.1)
  exact ⟨c, r ++ (g.after d ++ (t' ++ unparseTail d rest)), by simp [unparseTail, Tag.src, hc], hw⟩

theorem noWsHead_unparseTail {d : Delims} (gd : Good d) {first : Bool} {t : List Char}
    (tail : List (Tag × List Char)) (h : tailFree d first t tail = true) :
    NoWsHead (unparseTail d tail) := by
  cases tail with
  | nil => exact Or.inl rfl
  | cons x rest => exact Or.inr (unparseTail_head gd h)

/-- behind a line statement / line comment that is followed by another tag, the text contains the
    line break: the line-start scans of the next tag stay inside it -/
theorem line_text_has_nl {d : Delims} {g : Tag} {t' more : List Char} (hok : tagOk d g (t' ++ more) = true)
    (hl : g.isLine = true) (hm : ∃ c r, more = c :: r ∧ isWs c = false) :
    ∃ c ∈ t', isHws c = false := by
  obtain ⟨c0, r0, rfl, hw0⟩ := hm
  have key : ∀ (hf : lineFollow (t' ++ c0 :: r0) = true), ∃ c ∈ t', isHws c = false := by
    intro hf
    rcases all_or_exists_not isHws t' with hall | hex
    · exfalso
      unfold lineFollow at hf
      rw [List.dropWhile_append_of_pos hall, List.dropWhile_cons, not_hws_of_not_ws hw0] at hf
      simp only [Bool.false_eq_true, if_false] at hf
      rw [not_nl_of_not_ws hw0] at hf; cases hf
    · exact hex
  cases g with
  | mk kind l r =>
    cases kind with
    | lineStmt ts =>
      obtain ⟨_, _, _, _, hf⟩ := tagOk_lineStmt.1 hok
      exact key hf
    | lineComment body =>
      obtain ⟨_, _, _, _, hcf, _⟩ := tagOk_lineComment.1 hok
      cases t' with
      | nil =>
        simp only [List.nil_append, commentFollow] at hcf
        rw [not_nl_of_not_ws hw0] at hcf; cases hcf
      | cons a t'' =>
        simp only [List.cons_append, commentFollow] at hcf
        exact ⟨a, by simp, by simp [isHws, hcf]⟩
    | _ => cases hl

/-- `trim_leading_whitespace` is the same as having skipped the whitespace already -/
theorem step_true (cfg : Cfg) (d : Delims) (find : FindStart) (ctx t more : List Char) (hm : NoWsHead more) :
    step cfg d find ctx (t ++ more) true =
      step cfg d find ((t.take (wsPre t)).reverse ++ ctx) (t.drop (wsPre t) ++ more) false := by
  unfold step
  simp only [if_true, Bool.false_eq_true, if_false, List.reverse_nil, List.nil_append]
  rw [takeWhile_append_stop t more hm.ws, dropWhile_append_stop t more hm.ws, takeWhile_eq_take, dropWhile_eq_drop]

theorem step_of_none (cfg : Cfg) (d : Delims) {find : FindStart} {pre rest : List Char} (h : find pre rest = none) :
    step cfg d find pre rest false = .stop (.ok (dataOut rest)) := by
  simp only [step, Bool.false_eq_true, if_false, List.reverse_nil, List.nil_append, h]

theorem step_of_found (cfg : Cfg) (d : Delims) {find : FindStart} {pre : List Char} (T U : List Char) {marker : Marker}
    {plen : Nat} (h : find pre (T ++ U) = some (T.length, marker, plen)) (ws : Ws)
    (hws : (if marker = .lineStmt then Ws.dflt else wsOfChar (U.drop plen).head?) = ws) :
    step cfg d find pre (T ++ U) false =
      handleTag cfg d (dataOut (leadOf cfg ws marker (T.reverse ++ pre) T)) marker (plen + ws.len) (T.reverse ++ pre) U := by
  simp only [step, Bool.false_eq_true, if_false, List.reverse_nil, List.nil_append, h, List.take_left, List.drop_left, hws]

theorem cfgFor_lstrip (cfg : Cfg) (g : Tag) : (cfgFor cfg g).lstrip = (cfg.lstrip || g.marker.isLine) := by
  rw [Tag.marker_isLine, cfgFor]; split <;> simp [*]

/-- what `tokenize_root` emits in front of the tag `g` -/
theorem leadOf_tag (cfg : Cfg) {first : Bool} {ctx : List Char} (t : List Char) (hc : CtxInv first ctx t)
    (g : Tag) (l : Nat) :
    leadOf cfg g.l.ws g.marker (t.reverse ++ ctx) (t.drop l) = cut l (rightCutG cfg first g t) t := by
  rw [rightCutG, ← Tag.marker_blockish]
  exact leadOf_eq_cut cfg _ t hc g.l g.marker (cfgFor_lstrip cfg g) l

/-- one round on `text ++ tag ++ …` (text already cut by `l` on the left) -/
theorem step_text_tag (cfg : Cfg) {d : Delims} (gd : Good d) {first : Bool} {ctx : List Char}
    (t : List Char) (hc : CtxInv first ctx t) (l : Nat) (g : Tag) (t' : List Char)
    (rest : List (Tag × List Char)) (hfree : tailFree d first t ((g, t') :: rest) = true) :
    step cfg d (findLL d) ((t.take l).reverse ++ ctx) (t.drop l ++ unparseTail d ((g, t') :: rest)) false =
      .next (dataOut (cut l (rightCutG cfg first g t) t) ++ tagOuts cfg g)
        ((t'.take (nextKG cfg g t')).reverse ++ ((g.src d).reverse ++ (t.reverse ++ ctx)))
        (t'.drop (nextKG cfg g t') ++ unparseTail d rest) (nextTf g.r) := by
  obtain ⟨hns, hown, hraw, hcom, hline, hfree'⟩ := tailFree_cons.1 hfree
  have hmore := noWsHead_unparseTail gd rest hfree'
  have hsrc : unparseTail d ((g, t') :: rest) = g.start d ++ (g.after d ++ (t' ++ unparseTail d rest)) := by
    simp only [unparseTail, Tag.src, List.append_assoc]
  have hpre : (t.drop l).reverse ++ ((t.take l).reverse ++ ctx) = t.reverse ++ ctx := by
    rw [← List.append_assoc, ← List.reverse_append, List.take_append_drop]
  have hline' : g.marker ≠ .lineStmt ∨ lineStartP ((t.drop l).reverse ++ ((t.take l).reverse ++ ctx)) = true := by
    rw [hpre, lineStartP_eq t hc]
    simpa using hline
  have hfind := findLL_text_tag gd (g.start d) g.marker (g.start_mem_startPats _ hcom) (t.drop l) _
    ((t.take l).reverse ++ ctx) (noStartIn_drop t _ l hns) (hsrc ▸ startsWith_append_self _ _) hown hline'
  rw [step_of_found cfg d _ _ hfind g.l.ws (by rw [hsrc, List.drop_left]; exact Tag.ws_head gd g _ hcom),
    hpre, leadOf_tag cfg t hc g l, hsrc, ← List.append_assoc]
  exact handleTag_tag cfg gd _ g _ t' _ hmore hraw hcom

theorem lexGo_true (cfg : Cfg) (d : Delims) (find : FindStart) (n : Nat) (ctx t more : List Char) (hm : NoWsHead more) :
    lexGo cfg d find (n + 1) ctx (t ++ more) true =
      lexGo cfg d find (n + 1) ((t.take (wsPre t)).reverse ++ ctx) (t.drop (wsPre t) ++ more) false := by
  rw [lexGo, lexGo, step_true cfg d find ctx t more hm]

/-- the token loop on the rest of a template succeeds and emits exactly the tokens of the rules; the
    first `k` characters of the text `t` have been skipped -/
theorem lexGo_outs (cfg : Cfg) {d : Delims} (gd : Good d) (tail : List (Tag × List Char)) :
    ∀ (t : List Char) (first : Bool) (ctx : List Char) (k : Nat) (fuel : Nat),
      (tail ≠ [] → CtxInv first ctx t) → tailFree d first t tail = true →
      (t.drop k ++ unparseTail d tail).length < fuel →
      lexGo cfg d (findLL d) fuel ((t.take k).reverse ++ ctx) (t.drop k ++ unparseTail d tail) false =
        .ok (specOuts cfg first k t tail) := by
  induction tail with
  | nil =>
    intro t first ctx k fuel hc hfree hfuel
    cases fuel with
    | zero => omega
    | succ n =>
      rw [lexGo, unparseTail, List.append_nil, step_of_none cfg d (findLL_none _ _ (noStartIn_drop t [] k hfree))]
      rfl
  | cons x rest ih =>
    obtain ⟨g, t'⟩ := x
    intro t first ctx k fuel hc hfree hfuel
    obtain ⟨_, _, _, hcom, _, hfree'⟩ := tailFree_cons.1 hfree
    have hmarks : g.isLine = true → g.r = .none := fun h => (line_marks hcom h).2
    have hctx : rest ≠ [] → CtxInv false ((g.src d).reverse ++ (t.reverse ++ ctx)) t' := by
      intro hne
      cases hgl : g.isLine with
      | false => exact Or.inl (Tag.src_ctx gd g hgl _)
      | true =>
        cases rest with
        | nil => exact absurd rfl hne
        | cons y ys => exact Or.inr (line_text_has_nl hcom hgl (unparseTail_head gd hfree'))
    cases fuel with
    | zero => omega
    | succ n =>
      have hlen : ∀ j, (t'.drop j ++ unparseTail d rest).length < n := by
        intro j
        have h1 : (g.src d).length > 0 := List.length_pos_iff.2 (Tag.src_ne_nil gd g _ hcom)
        simp only [unparseTail, List.length_append, List.length_drop] at hfuel ⊢
        omega
      rw [lexGo, step_text_tag cfg gd t (hc (by simp)) k g t' rest hfree]
      simp only []
      rw [specOuts, leftCutG_eq cfg g t' hmarks]
      cases htf : nextTf g.r with
      | false =>
        rw [ih t' false _ _ n hctx hfree' (hlen _)]
        simp only [Res.prepend, List.append_assoc, Bool.false_eq_true, if_false]
      | true =>
        obtain ⟨n', rfl⟩ : ∃ n', n = n' + 1 := ⟨n - 1, by have := hlen 0; omega⟩
        rw [nextKG_of_nextTf cfg g t' hmarks htf, List.take_zero, List.drop_zero, List.reverse_nil, List.nil_append,
          lexGo_true cfg d _ n' _ t' _ (noWsHead_unparseTail gd rest hfree'),
          ih t' false _ _ _ hctx hfree' (hlen _)]
        simp only [Res.prepend, List.append_assoc, if_true]

/-- … which render as `specTail` -/
theorem lexGo_spec (cfg : Cfg) (vm bm : List Char) {d : Delims} (gd : Good d)
    (tail : List (Tag × List Char)) (t : List Char) (first : Bool) (ctx : List Char) (k : Nat) (fuel : Nat)
    (hc : tail ≠ [] → CtxInv first ctx t) (hfree : tailFree d first t tail = true)
    (hfuel : (t.drop k ++ unparseTail d tail).length < fuel) :
    renderRes vm bm (lexGo cfg d (findLL d) fuel ((t.take k).reverse ++ ctx) (t.drop k ++ unparseTail d tail) false) =
      some (specTail cfg vm bm first k t tail) := by
  rw [lexGo_outs cfg gd tail t first ctx k fuel hc hfree hfuel, renderRes, renderOuts_specOuts]

end MJ.Lexer
