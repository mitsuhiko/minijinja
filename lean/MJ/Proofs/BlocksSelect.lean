import MJ.Model.BlocksSpec
/-!
# The candidate selection of an include

`perform_include` and the spec's include both walk the candidates the same way (`select`) and
then act on what was selected; everything about "first existing template", load errors and
`ignore missing` is a fact about `select`.
-/
namespace MJ.Blocks

/-- the tail condition of `perform_include` as extracted from the sources is "something was
    tried and `ignore missing` was not given" -/
theorem notFoundRaised_eq (tried ign : Bool) : notFoundRaised tried ign = (tried && !ign) := by
  cases tried <;> cases ign <;> rfl

/-- the candidates `perform_include` builds (table-driven) are what the property asks for: every
    object that can be iterated — whatever its `ObjectRepr` — yields its elements, everything
    else is one name -/
theorem choices_eq_cands (a : Arg) : choices a = a.cands := by
  cases a with
  | single c => rfl
  | object r items => cases r <;> cases items <;> rfl

theorem performInclude_select (env : Env) (rec : Rec) (cur : Option Nat) (disc ign : Bool) (outer : Nat)
    (cands : List Cand) (tried : Bool) (st : St) :
    performInclude env rec cur disc ign outer cands tried st =
      match select env cands tried with
      | .render _ T => includeTemplate rec cur disc outer T st
      | .loadError t k => .error [loadErrKind t k]
      | .notAString => .error [.invalidOperation]
      | .nothing tr => if tr && !ign then .error [.templateNotFound] else .ok ([], st) := by
  fun_induction select env cands tried with
  | case1 tried => rw [performInclude, notFoundRaised_eq]
  | case2 rest tried => rfl
  | case3 t rest tried hT ih => rw [performInclude, hT]; exact ih
  | case4 t rest tried T hT k hL => simp only [performInclude, hT, hL]
  | case5 t rest tried T hT hL => simp only [performInclude, hT, hL]; rfl

/-- what the spec does with the template an include selected: the template's chain runs on the
    frames with the closure of the top frame detached (spec counterpart of `includeTemplate`) -/
def specIncludeTemplate (cbs : SpecCbs) (inh : Option Nat) (disc : Bool) (outer t : Nat) (T : Template)
    (fs : Vars) : SRes :=
  if outer + INCLUDE_COST + fs.length > LIMIT then .error [.invalidOperation]
  else
    match cbs.chain [t] inh disc (outer + INCLUDE_COST) T.ae T.layout (fs.setTopClosure none) with
    | .error e => .error (.badInclude :: e)
    | .ok (o, fs') => .ok (o, (fs'.take fs.length).setTopClosure fs.topClosure)

theorem specInclude_select (env : Env) (cbs : SpecCbs) (inh : Option Nat) (disc ign : Bool) (outer : Nat)
    (cands : List Cand) (tried : Bool) (fs : Vars) :
    specInclude env cbs inh disc ign outer cands tried fs =
      match select env cands tried with
      | .render t T => specIncludeTemplate cbs inh disc outer t T fs
      | .loadError t k => .error [loadErrKind t k]
      | .notAString => .error [.invalidOperation]
      | .nothing tr => if tr && !ign then .error [.templateNotFound] else .ok ([], fs) := by
  fun_induction select env cands tried with
  | case1 tried => rfl
  | case2 rest tried => rfl
  | case3 t rest tried hT ih => rw [specInclude, hT]; exact ih
  | case4 t rest tried T hT k hL => simp only [specInclude, hT, hL]
  | case5 t rest tried T hT hL => simp only [specInclude, hT, hL]; rfl

theorem select_skip_missing (env : Env) (missing : List Nat) (rest : List Cand)
    (hmiss : ∀ m ∈ missing, env[m]? = none) (tried : Bool) :
    select env (missing.map some ++ rest) tried = select env rest (tried || !missing.isEmpty) := by
  induction missing generalizing tried with
  | nil => simp
  | cons m ms ih =>
    obtain ⟨hm, hms⟩ := List.forall_mem_cons.1 hmiss
    simp only [List.map_cons, List.cons_append, select, hm, ih hms true]
    simp

theorem select_first (env : Env) (missing : List Nat) (more : List Cand) (t : Nat) (T : Template)
    (hmiss : ∀ m ∈ missing, env[m]? = none) (hT : env[t]? = some T) (hL : T.loadErr = none) (tried : Bool) :
    select env (missing.map some ++ some t :: more) tried = .render t T := by
  simp only [select_skip_missing env missing _ hmiss, select, hT, hL]

theorem select_loadError (env : Env) (missing : List Nat) (more : List Cand) (t : Nat) (T : Template) (k : LoadErr)
    (hmiss : ∀ m ∈ missing, env[m]? = none) (hT : env[t]? = some T) (hL : T.loadErr = some k) (tried : Bool) :
    select env (missing.map some ++ some t :: more) tried = .loadError t k := by
  simp only [select_skip_missing env missing _ hmiss, select, hT, hL]

theorem select_render_inv (env : Env) (cands : List Cand) (tried : Bool) (t : Nat) (T : Template)
    (h : select env cands tried = .render t T) :
    ∃ (missing : List Nat) (more : List Cand), cands = missing.map some ++ some t :: more ∧
      (∀ m ∈ missing, env[m]? = none) ∧ env[t]? = some T ∧ T.loadErr = none := by
  fun_induction select env cands tried with
  | case1 tried => cases h
  | case2 rest tried => cases h
  | case3 u rest tried hU ih =>
    obtain ⟨missing, more, h1, h2, h3, h4⟩ := ih h
    exact ⟨u :: missing, more, by rw [h1]; rfl, List.forall_mem_cons.2 ⟨hU, h2⟩, h3, h4⟩
  | case4 u rest tried U hU k hL => cases h
  | case5 u rest tried U hU hL => cases h; exact ⟨[], rest, rfl, (by intro m hm; cases hm), hU, hL⟩

theorem select_nothing_inv (env : Env) (cands : List Cand) (tried tr : Bool)
    (h : select env cands tried = .nothing tr) :
    (∀ c ∈ cands, ∃ m, c = some m ∧ env[m]? = none) ∧ tr = (tried || !cands.isEmpty) := by
  fun_induction select env cands tried with
  | case1 tried => cases h; exact ⟨(by intro c hc; cases hc), by simp⟩
  | case2 rest tried => cases h
  | case3 u rest tried hU ih =>
    obtain ⟨h1, h2⟩ := ih h
    exact ⟨List.forall_mem_cons.2 ⟨⟨u, rfl, hU⟩, h1⟩, by rw [h2]; simp⟩
  | case4 u rest tried U hU k hL => cases h
  | case5 u rest tried U hU hL => cases h

theorem select_all_missing (env : Env) (cands : List Cand) (tried : Bool)
    (h : ∀ c ∈ cands, ∃ m, c = some m ∧ env[m]? = none) :
    select env cands tried = .nothing (tried || !cands.isEmpty) := by
  induction cands generalizing tried with
  | nil => simp [select]
  | cons c rest ih =>
    obtain ⟨m, rfl, hm⟩ := h c (by simp)
    simp only [select, hm]
    rw [ih true (fun c hc => h c (List.mem_cons_of_mem _ hc))]
    simp

end MJ.Blocks
