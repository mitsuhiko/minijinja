import MJ.Model.FuelMachine
import MJ.Proofs.Fuel
/-!
The limited run of a machine is a function of its unlimited run and the trace-level (`runFrom`) or
tree-level (`runTree`) model: both proofs follow the recursion of the unlimited run and compute the
two sides at each of its exits.
-/
namespace MJ.Fuel
open Tracker

theorem Machine.runFuel_of_run {S E : Type} (m : Machine S E) (n : Nat) (t : Tracker) (s : S) (u : URun S E)
    (h : m.run n s = some u) :
    m.runFuel n t s = some
      { trace := (runFrom t u.trace).executed,
        states := u.states.take (runFrom t u.trace).executed.length,
        result := limitedResult (runFrom t u.trace).status u.result,
        tracker := (runFrom t u.trace).tracker } := by
  fun_induction Machine.run m n s generalizing t u with
  | case1 | case4 => cases h  -- no unlimited run within `n` steps
  | case2 n s hf =>  -- end of instructions
    cases h; simp [Machine.runFuel, hf, runFrom, limitedResult]
  | case3 n s i hf e he =>  -- the dispatch of `i` fails
    cases h
    cases ht : t.track (costOf i) <;> simp [Machine.runFuel, hf, he, runFrom, ht, limitedResult]
  | case5 n s i hf s' he r hr ih =>  -- `i` is dispatched and the run goes on
    cases h
    cases ht : t.track (costOf i) with
    | outOfFuel t' => simp [Machine.runFuel, hf, runFrom, ht, limitedResult]
    | ok t' => simp [Machine.runFuel, hf, he, runFrom, ht, limitedResult, ih t' r hr]

theorem Machine.run_states_length {S E : Type} (m : Machine S E) (n : Nat) (s : S) (u : URun S E)
    (h : m.run n s = some u) : u.states.length = u.trace.length := by
  fun_induction Machine.run m n s generalizing u with
  | case1 | case4 => cases h
  | case2 | case3 => cases h; rfl
  | case5 n s i hf s' he r hr ih => cases h; simp [ih r hr]

theorem NMachine.runFuel_of_run {S E : Type} (m : NMachine S E) (n : Nat) (t : Tracker) (s : S) (u : NURun S E)
    (h : m.run n s = some u) :
    m.runFuel n t s = some
      { executed := (runTree t u.tree).executed,
        result := limitedResult (runTree t u.tree).status u.result,
        tracker := (runTree t u.tree).tracker } := by
  fun_induction NMachine.run m n s generalizing t u with
  | case1 | case4 | case6 | case8 => cases h  -- no unlimited run within `n` steps
  | case2 n s hf =>  -- end of instructions
    cases h; simp [NMachine.runFuel, hf, runTree, limitedResult]
  | case3 n s i hf e he =>  -- the dispatch of `i` fails
    cases h
    cases ht : t.track (costOf i) <;> simp [NMachine.runFuel, hf, he, runTree, ht, limitedResult]
  | case5 n s i hf s' he r hr ih =>  -- an ordinary instruction, the run goes on
    cases h
    cases ht : t.track (costOf i) with
    | outOfFuel t' => simp [NMachine.runFuel, hf, runTree, ht, limitedResult]
    | ok t' => simp [NMachine.runFuel, hf, he, runTree, ht, limitedResult, ih t' r hr]
  | case7 n s i hf entry resume he sub hsub e hres ih =>  -- the nested activation ends with an error
    cases h
    cases ht : t.track (costOf i) with
    | outOfFuel t' => simp [NMachine.runFuel, hf, runTree, ht, limitedResult]
    | ok t' =>
      cases hst : (runTree t' sub.tree).status <;>
        simp [NMachine.runFuel, hf, he, runTree, ht, hst, limitedResult, ih t' sub hsub, hres]
  | case9 n s i hf entry resume he sub hsub s2 hres r hr ih1 ih2 =>  -- it returns and the caller goes on
    cases h
    cases ht : t.track (costOf i) with
    | outOfFuel t' => simp [NMachine.runFuel, hf, runTree, ht, limitedResult]
    | ok t' =>
      cases hst : (runTree t' sub.tree).status <;>
        simp [NMachine.runFuel, hf, he, runTree, ht, hst, limitedResult, ih1 t' sub hsub, hres,
          ih2 (runTree t' sub.tree).tracker r hr]

theorem limitedResult_done {S E : Type} (r : Except E S) : limitedResult .done r = sameResult r := by
  cases r <;> rfl

theorem limitedResult_outOfFuel {S E : Type} (r : Except E S) :
    limitedResult .outOfFuel r = .error .outOfFuel := rfl

theorem passThrough_cons (x : Handler) (hs : List Handler) (e : RErr) :
    passThrough (x :: hs) e = passThrough hs (x.apply e) := rfl

end MJ.Fuel
