import MJ.Model.Cmp
/-!
# `Value::cmp` is `compare` on an explicit, linearly ordered key

`key : V → List Tok` flattens a value into a token list such that the engine's comparison is the
lexicographic comparison of the token lists (`cmpK`).  `Tok.cmp` compares four plain fields
lexicographically, so `cmpK` is a lawful total preorder by the library instances
(`Std.TransCmp` for `compareLex`, `compareOn`, `List.compareLex`); the order laws of `cmpV` are
corollaries.

The numeric part is a parameter here: `NumSpec P` says that on numbers satisfying `P` the engine's
numeric comparison `cmpN` is `compare` on `numKey` (the exact value scaled by `2^1074`).
-/
namespace MJ.CmpKey
open MJ MJ.Val MJ.Cmp MJ.F64 Std

structure Tok where
  rank : Nat
  sub : Nat
  num : Int
  str : List Nat
  deriving Repr

def Tok.cmp : Tok → Tok → Ordering :=
  compareLex (compareOn (·.rank))
    (compareLex (compareOn (·.sub)) (compareLex (compareOn (·.num)) (compareOn (·.str))))

instance : TransCmp Tok.cmp := by unfold Tok.cmp; infer_instance
instance : ReflCmp Tok.cmp := by unfold Tok.cmp; infer_instance

theorem Tok.cmp_def (a b : Tok) :
    Tok.cmp a b = (compare a.rank b.rank).then ((compare a.sub b.sub).then
      ((compare a.num b.num).then (compare a.str b.str))) := rfl

/-- the key type: token lists under the lexicographic order -/
abbrev K := List Tok
def cmpK : K → K → Ordering := List.compareLex Tok.cmp

instance : TransCmp cmpK := by unfold cmpK; infer_instance
instance : ReflCmp cmpK := by unfold cmpK; infer_instance

/-- the four fields are the token: the order on keys is linear, `Equal` keys are the same token list -/
instance : LawfulEqCmp Tok.cmp where
  eq_of_compare {a b} h := by
    obtain ⟨r, s, n, t⟩ := a
    obtain ⟨r', s', n', t'⟩ := b
    simp only [Tok.cmp_def, Ordering.then_eq_eq, compare_eq_iff_eq] at h
    obtain ⟨rfl, rfl, rfl, rfl⟩ := h
    rfl

instance : LawfulEqCmp cmpK := by unfold cmpK; infer_instance

/-- closes a sequence; smaller than the first token of any value -/
def endTok : Tok := ⟨0, 0, 0, []⟩

/-- the exact value of a number times `2^1074` (floats: continued through ±inf and the NaNs in
    `total_cmp` order) -/
def numKey : N → Int
  | .f64 b => key b
  | n => n.int * (scale : Int)

/-- first token: kind slot, then what the kind compares first -/
def hd (v : V) : Tok :=
  match v with
  | .bool b => ⟨v.rank + 1, 0, (boolN b).int, []⟩
  | .num n => ⟨v.rank + 1, 0, numKey n, []⟩
  | .str s => ⟨v.rank + 1, 0, 0, s⟩
  | .bytes s => ⟨v.rank + 1, 0, 0, s⟩
  | .plain s => ⟨v.rank + 1, 0, 0, s⟩
  | .tuple _ => ⟨v.rank + 1, 1, 0, []⟩
  | _ => ⟨v.rank + 1, 0, 0, []⟩

mutual
def tl : V → K
  | .seq xs => keyL xs
  | .tuple xs => keyL xs
  | .iter xs => keyL xs
  | .map ps => keyPL ps
  | _ => []
def keyL : List V → K
  | [] => [endTok]
  | x :: xs => hd x :: (tl x ++ keyL xs)
def keyPL : List (V × V) → K
  | [] => [endTok]
  | (k, v) :: ps => hd k :: (tl k ++ (hd v :: (tl v ++ keyPL ps)))
end

def key (v : V) : K := hd v :: tl v

/-! ## kind slots are injective on the classes of values (from the regenerated table) -/

inductive Cls where
  | undef | none | bool | num | str | bytes | seq | map | plain
  deriving DecidableEq, Repr

def cls : V → Cls
  | .undef => .undef
  | .none => .none
  | .bool _ => .bool
  | .num _ => .num
  | .str _ => .str
  | .bytes _ => .bytes
  | .seq _ => .seq
  | .tuple _ => .seq
  | .iter _ => .seq
  | .map _ => .map
  | .plain _ => .plain

def Cls.rank : Cls → Nat
  | .undef => kindRank (cmpKindName "Undefined")
  | .none => kindRank (cmpKindName "None")
  | .bool => kindRank (cmpKindName "Bool")
  | .num => kindRank (cmpKindName "Number")
  | .str => kindRank (cmpKindName "String")
  | .bytes => kindRank (cmpKindName "Bytes")
  | .seq => kindRank (cmpKindName "Seq")
  | .map => kindRank (cmpKindName "Map")
  | .plain => kindRank (cmpKindName "Plain")

theorem rank_cls (v : V) : v.rank = (cls v).rank := by
  cases v <;> first | rfl | decide

/-- every class is found again from its slot: the slots of the regenerated table are pairwise distinct -/
theorem Cls.find_rank (c : Cls) :
    [Cls.undef, .none, .bool, .num, .str, .bytes, .seq, .map, .plain].find? (·.rank == c.rank) = some c := by
  cases c <;> decide

theorem Cls.rank_inj (c d : Cls) (h : c.rank = d.rank) : c = d :=
  Option.some.inj (by rw [← c.find_rank, ← d.find_rank, h])

theorem cls_eq_of_rank_eq {a b : V} (h : a.rank = b.rank) : cls a = cls b :=
  Cls.rank_inj _ _ (by rw [← rank_cls, ← rank_cls]; exact h)

/-- two values of the same class: the pairs of constructors that can face each other in `Value::cmp` and `==`
    (a sequence, an iterable and a tuple share a class) -/
inductive SameCls : V → V → Prop
  | undef : SameCls .undef .undef
  | none : SameCls .none .none
  | bool (x y) : SameCls (.bool x) (.bool y)
  | num (x y) : SameCls (.num x) (.num y)
  | str (x y) : SameCls (.str x) (.str y)
  | bytes (x y) : SameCls (.bytes x) (.bytes y)
  | plain (x y) : SameCls (.plain x) (.plain y)
  | map (ps qs) : SameCls (.map ps) (.map qs)
  | seq_seq (xs ys) : SameCls (.seq xs) (.seq ys)
  | seq_iter (xs ys) : SameCls (.seq xs) (.iter ys)
  | seq_tuple (xs ys) : SameCls (.seq xs) (.tuple ys)
  | iter_seq (xs ys) : SameCls (.iter xs) (.seq ys)
  | iter_iter (xs ys) : SameCls (.iter xs) (.iter ys)
  | iter_tuple (xs ys) : SameCls (.iter xs) (.tuple ys)
  | tuple_seq (xs ys) : SameCls (.tuple xs) (.seq ys)
  | tuple_iter (xs ys) : SameCls (.tuple xs) (.iter ys)
  | tuple_tuple (xs ys) : SameCls (.tuple xs) (.tuple ys)

theorem sameCls_of {a b : V} (hc : cls a = cls b) : SameCls a b := by
  cases a <;> cases b <;> cases hc <;> constructor

/-- on numbers satisfying `P`, `cmpN` is `compare` on the exact scaled values -/
def NumSpec (P : N → Prop) : Prop :=
  ∀ x y : N, P x → P y → cmpN x y = compare (numKey x) (numKey y)

mutual
/-- every number inside the value satisfies `P` -/
def AllNum (P : N → Prop) : V → Prop
  | .num n => P n
  | .seq xs => AllNumL P xs
  | .tuple xs => AllNumL P xs
  | .iter xs => AllNumL P xs
  | .map ps => AllNumPL P ps
  | _ => True
def AllNumL (P : N → Prop) : List V → Prop
  | [] => True
  | x :: xs => AllNum P x ∧ AllNumL P xs
def AllNumPL (P : N → Prop) : List (V × V) → Prop
  | [] => True
  | (k, v) :: ps => AllNum P k ∧ AllNum P v ∧ AllNumPL P ps
end

theorem then_of_ne_eq {o p : Ordering} (h : o ≠ .eq) : o.then p = o := by
  cases o <;> simp_all [Ordering.then]

theorem compare_succ (a b : Nat) : compare (a + 1) (b + 1) = compare a b := by
  simp only [Nat.compare_eq_ite_lt, Nat.add_lt_add_iff_right]

theorem hd_rank (v : V) : (hd v).rank = v.rank + 1 := by
  cases v <;> rfl

theorem endTok_lt_hd (v : V) : Tok.cmp endTok (hd v) = .lt := by
  rw [Tok.cmp_def, hd_rank]
  have : compare endTok.rank (v.rank + 1) = .lt := by
    simp [endTok, Nat.compare_eq_lt]
  rw [this]; rfl

theorem hd_gt_endTok (v : V) : Tok.cmp (hd v) endTok = .gt := OrientedCmp.gt_of_lt (endTok_lt_hd v)

theorem hd_cmp_of_rank_ne {a b : V} (h : a.rank ≠ b.rank) :
    Tok.cmp (hd a) (hd b) = compare a.rank b.rank ∧ compare a.rank b.rank ≠ .eq := by
  have hne : compare a.rank b.rank ≠ .eq := by
    intro hc; exact h (Nat.compare_eq_eq.mp hc)
  refine ⟨?_, hne⟩
  rw [Tok.cmp_def, hd_rank, hd_rank, compare_succ, then_of_ne_eq hne]

theorem cmpV_of_rank_ne {a b : V} (h : a.rank ≠ b.rank) : cmpV a b = compare a.rank b.rank := by
  rw [cmpV.eq_def, if_pos h]

theorem compare_list_nat (x y : List Nat) : compare x y = cmpBytes x y := rfl

section
variable {P : N → Prop} (hN : NumSpec P)
include hN

mutual
theorem key_spec (a b : V) (ha : AllNum P a) (hb : AllNum P b) (r1 r2 : K) :
    cmpK (hd a :: (tl a ++ r1)) (hd b :: (tl b ++ r2)) = (cmpV a b).then (cmpK r1 r2) := by
  unfold cmpK
  rw [List.compareLex_cons_cons]
  by_cases hr : a.rank = b.rank
  case neg =>
    obtain ⟨h1, h2⟩ := hd_cmp_of_rank_ne hr
    rw [h1, then_of_ne_eq h2, cmpV_of_rank_ne hr, then_of_ne_eq h2]
  case pos =>
    have hc := cls_eq_of_rank_eq hr
    rw [Tok.cmp_def, hd_rank, hd_rank, hr, Nat.compare_eq_eq.mpr rfl]
    cases sameCls_of hc <;>
      simp only [cmpV, hr, ne_eq, not_true_eq_false, if_false, hd, tl, Ordering.eq_then, List.nil_append,
        AllNum] at ha hb ⊢
    case num x y => rw [hN x y ha hb]; simp
    case seq_seq xs ys | seq_iter xs ys | iter_seq xs ys | iter_iter xs ys | tuple_tuple xs ys =>
      simpa [cmpK] using keyL_spec xs ys ha hb r1 r2
    case map ps qs => simpa [cmpK] using keyPL_spec ps qs ha hb r1 r2
    all_goals simp [compare_list_nat, (by decide : compare (0 : Nat) 1 = .lt), (by decide : compare (1 : Nat) 0 = .gt)]

theorem keyL_spec (xs ys : List V) (ha : AllNumL P xs) (hb : AllNumL P ys) (r1 r2 : K) :
    cmpK (keyL xs ++ r1) (keyL ys ++ r2) = (cmpL xs ys).then (cmpK r1 r2) := by
  cases xs with
  | nil =>
    cases ys with
    | nil =>
      simp [keyL, cmpL, cmpK, List.compareLex_cons_cons, ReflCmp.compare_self]
    | cons y ys =>
      simp [keyL, cmpL, cmpK, List.compareLex_cons_cons, endTok_lt_hd]
  | cons x xs =>
    cases ys with
    | nil =>
      simp [keyL, cmpL, cmpK, List.compareLex_cons_cons, hd_gt_endTok]
    | cons y ys =>
      simp only [AllNumL] at ha hb
      have h1 := key_spec x y ha.1 hb.1 (keyL xs ++ r1) (keyL ys ++ r2)
      have h2 := keyL_spec xs ys ha.2 hb.2 r1 r2
      simp only [keyL, cmpL, List.cons_append, List.append_assoc]
      rw [h1, h2, Ordering.then_assoc]

theorem keyPL_spec (ps qs : List (V × V)) (ha : AllNumPL P ps) (hb : AllNumPL P qs) (r1 r2 : K) :
    cmpK (keyPL ps ++ r1) (keyPL qs ++ r2) = (cmpPL ps qs).then (cmpK r1 r2) := by
  cases ps with
  | nil =>
    cases qs with
    | nil =>
      simp [keyPL, cmpPL, cmpK, List.compareLex_cons_cons, ReflCmp.compare_self]
    | cons q qs =>
      obtain ⟨k', v'⟩ := q
      simp [keyPL, cmpPL, cmpK, List.compareLex_cons_cons, endTok_lt_hd]
  | cons p ps =>
    obtain ⟨k, v⟩ := p
    cases qs with
    | nil =>
      simp [keyPL, cmpPL, cmpK, List.compareLex_cons_cons, hd_gt_endTok]
    | cons q qs =>
      obtain ⟨k', v'⟩ := q
      simp only [AllNumPL] at ha hb
      have h1 := key_spec k k' ha.1 hb.1 (hd v :: (tl v ++ (keyPL ps ++ r1))) (hd v' :: (tl v' ++ (keyPL qs ++ r2)))
      have h2 := key_spec v v' ha.2.1 hb.2.1 (keyPL ps ++ r1) (keyPL qs ++ r2)
      have h3 := keyPL_spec ps qs ha.2.2 hb.2.2 r1 r2
      simp only [keyPL, cmpPL, List.cons_append, List.append_assoc]
      rw [h1, h2, h3, Ordering.then_assoc, Ordering.then_assoc]
end

/-- `Value::cmp` is `compare` on the keys -/
theorem cmpV_eq_cmpK (a b : V) (ha : AllNum P a) (hb : AllNum P b) :
    cmpV a b = cmpK (key a) (key b) := by
  have h := key_spec hN a b ha hb [] []
  simp only [List.append_nil] at h
  unfold key
  rw [h]
  have : cmpK [] [] = .eq := rfl
  rw [this]
  cases cmpV a b <;> rfl

theorem cmpV_eq_iff_key {a b : V} (ha : AllNum P a) (hb : AllNum P b) : cmpV a b = .eq ↔ key a = key b := by
  rw [cmpV_eq_cmpK hN a b ha hb]; exact LawfulEqCmp.compare_eq_iff_eq

theorem cmpV_eq_comm {a b : V} (ha : AllNum P a) (hb : AllNum P b) : cmpV a b = .eq ↔ cmpV b a = .eq := by
  rw [cmpV_eq_iff_key hN ha hb, cmpV_eq_iff_key hN hb ha]; exact eq_comm

end

end MJ.CmpKey
