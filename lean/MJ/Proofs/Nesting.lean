import MJ.Model.Nesting
/-!
# The parser's nesting accounting (`MJ/Model/Nesting.lean`)

`sim_meets`: one induction along the equations of `sim` / `simItems` / `simFold` says what each outcome of the
accounting means for the piece parsed (`Meets`): what a success returns and which limits it shows, and which
quantity an error shows beyond its limit.  Exactness (`sim_ok`), the two limits (`sim_le`) and the meaning of the
chain error (`sim_chain_err`) are read off it; `ast_le` bounds the AST depth by the two accounted quantities.
-/
namespace MJ.Nesting

/-- if the entry was within the limits, so are the longest chain `cd` and the guarded depth `gd` of the piece.
    A definition of its own so that `omega` sees an atom until the implication is applied: handed an implication
    (or a conjunction as goal) `omega` brings in `Classical.choice`, which the chain-error theorems do without. -/
def Within (L : Limits) (depth pre cd gd : Nat) : Prop :=
  depth ≤ L.maxRecursion → pre ≤ L.maxNesting → cd ≤ L.maxNesting ∧ depth + gd ≤ L.maxRecursion

/-- what an outcome of the accounting means for a piece with longest chain `cd` and guarded depth `gd`, entered at
    guard depth `depth` with the counter at `pre`: a success leaves `max pre cd` behind; an error shows the
    quantity it names beyond its limit -/
def Meets (L : Limits) (depth pre cd gd : Nat) : Except Fail Nat → Prop
  | .ok r => r = max pre cd ∧ Within L depth pre cd gd
  | .error .chain => L.maxNesting < cd
  | .error .recursion => L.maxRecursion < depth + gd

theorem chainFold_ge (its : List P) (d : Nat) : d ≤ chainFold d its := by
  induction its generalizing d with
  | nil => simp [chainFold]
  | cons it its ih =>
    simp only [chainFold]
    have := ih (max d (chainDepth it) + 1)
    omega

theorem sim_meets (L : Limits) :
    (∀ depth hw p, Meets L depth hw (chainDepth p) (guardDepth p) (sim L depth hw p)) ∧
    (∀ depth hw ps, Meets L depth hw (chainMax ps) (guardMax ps) (simItems L depth hw ps)) ∧
    (∀ depth d its, Meets L depth d (chainFold d its) (guardMax its) (simFold L depth d its)) := by
  apply sim.mutual_induct L
  case case1 => intro depth hw; exact ⟨(Nat.max_eq_left (Nat.zero_le _)).symm, fun hd _ => ⟨Nat.zero_le _, hd⟩⟩
  case case2 =>
    -- the operand fails: its chain is part of the whole
    intro depth hw l its e hl ih
    rw [hl] at ih
    have := chainFold_ge its (chainDepth l)
    cases e <;> simp only [sim, hl, Meets, chainDepth, guardDepth] at ih ⊢ <;> omega
  case case3 =>
    intro depth hw l its d hl e hf ih ihf
    rw [hl] at ih; rw [hf] at ihf
    obtain rfl : d = chainDepth l := ih.1.trans (Nat.zero_max _)
    cases e <;> simp only [sim, hl, hf, Meets, chainDepth, guardDepth] at ihf ⊢ <;> omega
  case case4 =>
    intro depth hw l its d hl d' hf ih ihf
    rw [hl] at ih; rw [hf] at ihf
    obtain rfl : d = chainDepth l := ih.1.trans (Nat.zero_max _)
    have h1 := ih.2
    obtain ⟨rfl, h2⟩ := ihf
    have := chainFold_ge its (chainDepth l)
    simp only [sim, hl, hf, Meets, chainDepth, guardDepth]
    refine ⟨by omega, fun hd _ => ?_⟩
    have a := h1 hd (Nat.zero_le _)
    have b := h2 hd a.1
    exact ⟨by omega, by omega⟩
  case case5 => intro depth hw items h; simp only [sim, if_pos h, Meets, guardDepth]; omega
  case case6 =>
    intro depth hw items h ih
    simp only [sim, if_neg h, chainDepth, guardDepth]
    cases hr : simItems L (depth + 1) hw items with
    | ok r =>
      rw [hr] at ih
      refine ⟨ih.1, fun hd hh => ?_⟩
      have := ih.2 (by omega) hh
      exact ⟨by omega, by omega⟩
    | error e => rw [hr] at ih; cases e <;> simp only [Meets] at ih ⊢ <;> omega
  case case7 => intro depth hw; exact ⟨(Nat.max_eq_left (Nat.zero_le _)).symm, fun hd _ => ⟨Nat.zero_le _, hd⟩⟩
  case case8 =>
    intro depth hw p ps e hp ih
    rw [hp] at ih
    cases e <;> simp only [simItems, hp, Meets, chainMax, guardMax] at ih ⊢ <;> omega
  case case9 =>
    intro depth hw p ps hw' hp ih ihs
    rw [hp] at ih
    obtain ⟨rfl, h1⟩ := ih
    simp only [simItems, hp, chainMax, guardMax]
    cases hr : simItems L depth (max hw (chainDepth p)) ps with
    | ok r =>
      rw [hr] at ihs
      obtain ⟨rfl, h2⟩ := ihs
      refine ⟨Nat.max_assoc _ _ _, fun hd hh => ?_⟩
      have a := h1 hd hh
      have b := h2 hd (by omega)
      exact ⟨by omega, by omega⟩
    | error e =>
      rw [hr] at ihs
      cases e <;> simp only [Meets] at ihs ⊢ <;> omega
  case case10 => intro depth d; exact ⟨(Nat.max_self d).symm, fun hd hh => ⟨hh, hd⟩⟩
  case case11 =>
    intro depth d it its e hi ih
    rw [hi] at ih
    have := chainFold_ge its (max d (chainDepth it) + 1)
    cases e <;> simp only [simFold, hi, Meets, chainFold, guardMax] at ih ⊢ <;> omega
  case case12 =>
    -- `nest_expr` refuses: the chain so far, with this node, is part of the whole
    intro depth d it its d1 hi hlim ih
    rw [hi] at ih
    obtain ⟨rfl, -⟩ := ih
    have := chainFold_ge its (max d (chainDepth it) + 1)
    simp only [simFold, hi, if_pos hlim, Meets, chainFold]
    omega
  case case13 =>
    intro depth d it its d1 hi hlim ih ihs
    rw [hi] at ih
    obtain ⟨rfl, h1⟩ := ih
    have := chainFold_ge its (max d (chainDepth it) + 1)
    simp only [simFold, hi, if_neg hlim, chainFold, guardMax]
    cases hr : simFold L depth (max d (chainDepth it) + 1) its with
    | ok r =>
      rw [hr] at ihs
      obtain ⟨rfl, h2⟩ := ihs
      refine ⟨by omega, fun hd hh => ?_⟩
      have a := h1 hd hh
      have b := h2 hd (by omega)
      exact ⟨by omega, by omega⟩
    | error e => rw [hr] at ihs; cases e <;> simp only [Meets] at ihs ⊢ <;> omega

theorem Meets.of_ok {L : Limits} {depth pre cd gd r : Nat} {x : Except Fail Nat} (m : Meets L depth pre cd gd x)
    (h : x = .ok r) :
    r = max pre cd ∧ Within L depth pre cd gd := by
  subst h; exact m

theorem Meets.of_chain {L : Limits} {depth pre cd gd : Nat} {x : Except Fail Nat} (m : Meets L depth pre cd gd x)
    (h : x = .error .chain) : L.maxNesting < cd := by
  subst h; exact m

theorem sim_ok (L : Limits) : ∀ (p : P) (depth hw r : Nat), sim L depth hw p = .ok r →
    r = max hw (chainDepth p) :=
  fun p depth hw _ h => (((sim_meets L).1 depth hw p).of_ok h).1
theorem simFold_ok (L : Limits) : ∀ (its : List P) (depth d r : Nat), simFold L depth d its = .ok r →
    r = chainFold d its :=
  fun its depth d _ h => (((sim_meets L).2.2 depth d its).of_ok h).1.trans (Nat.max_eq_right (chainFold_ge its d))
theorem simItems_ok (L : Limits) : ∀ (ps : List P) (depth hw r : Nat), simItems L depth hw ps = .ok r →
    r = max hw (chainMax ps) :=
  fun ps depth hw _ h => (((sim_meets L).2.1 depth hw ps).of_ok h).1

theorem sim_le (L : Limits) : ∀ (p : P) (depth hw r : Nat), depth ≤ L.maxRecursion → hw ≤ L.maxNesting →
    sim L depth hw p = .ok r →
    chainDepth p ≤ L.maxNesting ∧ depth + guardDepth p ≤ L.maxRecursion ∧ r ≤ L.maxNesting := by
  intro p depth hw r hd hh h
  obtain ⟨rfl, hle⟩ := ((sim_meets L).1 depth hw p).of_ok h
  have := hle hd hh
  omega
theorem simFold_le (L : Limits) : ∀ (its : List P) (depth d r : Nat), depth ≤ L.maxRecursion → d ≤ L.maxNesting →
    simFold L depth d its = .ok r → r ≤ L.maxNesting ∧ depth + guardMax its ≤ L.maxRecursion := by
  intro its depth d r hd hh h
  obtain ⟨rfl, hle⟩ := ((sim_meets L).2.2 depth d its).of_ok h
  have := hle hd hh
  omega
theorem simItems_le (L : Limits) : ∀ (ps : List P) (depth hw r : Nat), depth ≤ L.maxRecursion → hw ≤ L.maxNesting →
    simItems L depth hw ps = .ok r →
    chainMax ps ≤ L.maxNesting ∧ depth + guardMax ps ≤ L.maxRecursion ∧ r ≤ L.maxNesting := by
  intro ps depth hw r hd hh h
  obtain ⟨rfl, hle⟩ := ((sim_meets L).2.1 depth hw ps).of_ok h
  have := hle hd hh
  omega

theorem sim_chain_err (L : Limits) : ∀ (p : P) (depth hw : Nat), sim L depth hw p = .error .chain →
    L.maxNesting < chainDepth p :=
  fun p depth hw h => ((sim_meets L).1 depth hw p).of_chain h
theorem simFold_chain_err (L : Limits) : ∀ (its : List P) (depth d : Nat), simFold L depth d its = .error .chain →
    L.maxNesting < chainFold d its :=
  fun its depth d h => ((sim_meets L).2.2 depth d its).of_chain h
theorem simItems_chain_err (L : Limits) : ∀ (ps : List P) (depth hw : Nat), simItems L depth hw ps = .error .chain →
    L.maxNesting < chainMax ps :=
  fun ps depth hw h => ((sim_meets L).2.1 depth hw ps).of_chain h

theorem guardMax_le_of_mem : ∀ (ps : List P) (p : P), p ∈ ps → guardDepth p ≤ guardMax ps
  | [], p, h => by simp at h
  | q :: qs, p, h => by
    simp only [guardMax]
    rcases List.mem_cons.mp h with rfl | h'
    · omega
    · have := guardMax_le_of_mem qs p h'; omega

mutual
  theorem ast_le : ∀ p : P, astDepthUB p ≤ wrapNodes * chainDepth p + groupNodes * guardDepth p + 1
    | .leaf => by simp [astDepthUB]
    | .chain l its => by
      simp only [astDepthUB, chainDepth, guardDepth]
      have h1 := ast_le l
      have := astFold_le its (astDepthUB l) (chainDepth l) (max (guardDepth l) (guardMax its))
        (by simp only [wrapNodes, groupNodes] at h1 ⊢; omega) (by omega)
      exact this
    | .group items => by
      simp only [astDepthUB, chainDepth, guardDepth]
      have := astMax_le items
      simp only [wrapNodes, groupNodes] at this ⊢
      omega
  theorem astFold_le : ∀ (its : List P) (dA dC G : Nat), dA ≤ wrapNodes * dC + groupNodes * G + 1 → guardMax its ≤ G →
      astFold dA its ≤ wrapNodes * chainFold dC its + groupNodes * G + 1
    | [], dA, dC, G, h, _ => by simpa [astFold, chainFold] using h
    | it :: its, dA, dC, G, h, hg => by
      simp only [astFold, chainFold]
      have h1 := ast_le it
      simp only [guardMax] at hg
      apply astFold_le its _ _ G _ (by omega)
      simp only [wrapNodes, groupNodes] at h h1 ⊢
      omega
  theorem astMax_le : ∀ ps : List P, astMax ps ≤ wrapNodes * chainMax ps + groupNodes * guardMax ps + 1
    | [] => by simp [astMax]
    | p :: ps => by
      simp only [astMax, chainMax, guardMax]
      have h1 := ast_le p
      have h2 := astMax_le ps
      simp only [wrapNodes, groupNodes] at h1 h2 ⊢
      omega
end

end MJ.Nesting
