import MJ.Model.Serde
/-! What `de` does on the compound forms, stated once as equations — a struct or struct variant read from a map
(`deStructMap`), an option (`de_opt`), an enum read from a map (`de_enum_entry`) — and the lemmas about maps,
field names and variant lists that the theorems about `de` share (C16). -/
namespace MJ.Serde

/-- a struct read from a map (the derived `visit_map`): what `de` does for a struct shape and `deV` for a
struct variant -/
def deStructMap (names : List Str) (ss : List Shape) (kvs : List (V × V)) : R D :=
  if allStrKeys kvs then guardR (ignoredOK names kvs) (mapOk D.list (deFields names ss kvs))
  else
    match resolveKeys names kvs with
    | .error e => .error e
    | .ok slots =>
      if dupSlots slots then .error .err else guardR (ignoredSlots slots) (mapOk D.list (deSlots names ss 0 slots))

-- Both equations hold by `rfl`, so a lemma about `deStructMap` closes a goal stated with `de` or `deV` as it is:
-- this is how the struct arms of `rt`, `de_normV` and `decided_de` use `deStructMap_zipKeys_ok`,
-- `deStructMap_normV` and `decided_deStructMap`.
theorem de_struct_map (names : List Str) (ss : List Shape) (kvs : List (V × V)) :
    de (.struct names ss) (.map kvs) = deStructMap names ss kvs := rfl

theorem deV_struct_map (names : List Str) (ss : List Shape) (kvs : List (V × V)) :
    deV (.struct names ss) (some (.map kvs)) = deStructMap names ss kvs := rfl

/-- `none` and `undefined`: what `deserialize_option` takes for "no value" -/
def noneLike : V → Bool
  | .none => true
  | .undefined => true
  | _ => false

theorem de_opt (s : Shape) (v : V) :
    de (.opt s) v = if noneLike v = true then .ok .none else mapOk D.some (de s v) := by
  cases v <;> rfl

def variantOfKey (names : List Str) (n : Nat) : V → Option Nat
  | .str s _ => findName s names
  | .int true i => if i.toNat < n then some i.toNat else none
  | .bytes b => findBytes b (names.map utf8Encode)
  | _ => none

theorem de_enum_entry (names : List Str) (vs : List VShape) (k p : V) :
    de (.enum names vs) (.map [(k, p)]) =
      match variantOfKey names vs.length k with
      | some i => deVariant vs i i (some p)
      | none => .error .err := by
  cases k with
  | int u i =>
    cases u with
    | false => rfl
    | true =>
      simp only [de, variantOfKey]
      split <;> rfl
  | _ => rfl

theorem de_enum_many (names : List Str) (vs : List VShape) (e1 e2 : V × V) (rest : List (V × V)) :
    de (.enum names vs) (.map (e1 :: e2 :: rest)) = .error .err := by
  obtain ⟨k, p⟩ := e1
  cases k with
  | int u i => cases u <;> rfl
  | _ => rfl

theorem mapMR_map_ok {α β : Type} (f : α → R β) (g : β → α) (l : List β)
    (h : ∀ b ∈ l, f (g b) = .ok b) : mapMR f (l.map g) = .ok l := by
  induction l <;> simp_all [mapMR]

theorem mapInsert_append (pre rest : List (V × V)) (k v : V) (h : ∀ p ∈ pre, keyEq p.1 k = false) :
    mapInsert (pre ++ rest) k v = pre ++ mapInsert rest k v := by
  induction pre with
  | nil => rfl
  | cons p ps ih =>
    obtain ⟨k', v'⟩ := p
    have h1 : keyEq k' k = false := h (k', v') (by simp)
    have h2 := ih (fun q hq => h q (by simp [hq]))
    simp [mapInsert, h1, h2]

theorem mapInsert_fresh (m : List (V × V)) (k v : V)
    (h : ∀ p ∈ m, keyEq p.1 k = false) : mapInsert m k v = m ++ [(k, v)] := by
  have := mapInsert_append m [] k v h
  rwa [List.append_nil] at this

theorem foldl_mapInsert (l acc : List (V × V))
    (hacc : ∀ p ∈ acc, ∀ q ∈ l, keyEq p.1 q.1 = false)
    (hl : distinctKeys (l.map Prod.fst) = true) :
    l.foldl (fun m p => mapInsert m p.1 p.2) acc = acc ++ l := by
  induction l generalizing acc with
  | nil => simp
  | cons p ps ih =>
    simp only [List.foldl_cons]
    have hfresh : mapInsert acc p.1 p.2 = acc ++ [(p.1, p.2)] :=
      mapInsert_fresh acc p.1 p.2 (fun q hq => hacc q hq p (by simp))
    rw [hfresh]
    simp only [List.map_cons, distinctKeys, Bool.and_eq_true, List.all_eq_true] at hl
    rw [ih]
    · simp
    · intro q hq r hr
      simp only [List.mem_append, List.mem_singleton] at hq
      rcases hq with hq | hq
      · exact hacc q hq r (by simp [hr])
      · subst hq
        have := hl.1 r.1 (by simp; exact ⟨r.2, hr⟩)
        simpa using this
    · exact hl.2

theorem buildMap_distinct (l : List (V × V)) (hl : distinctKeys (l.map Prod.fst) = true) :
    buildMap l = l := by
  unfold buildMap
  rw [foldl_mapInsert l [] (by simp) hl]
  simp

theorem lookupStr_append_none (n : Str) (pre post : List (V × V)) (h : lookupStr n pre = none) :
    lookupStr n (pre ++ post) = lookupStr n post := by
  fun_induction lookupStr n pre <;> simp_all [lookupStr]

theorem lookupStr_snoc_ne (n m : Str) (pre : List (V × V)) (v : V) (h : lookupStr n pre = none) (hne : m ≠ n) :
    lookupStr n (pre ++ [(.str m false, v)]) = none := by
  rw [lookupStr_append_none n pre _ h]
  simp [lookupStr, hne]

theorem allStrKeys_zipKeys (names : List Str) (vs : List V) : allStrKeys (zipKeys names vs) = true := by
  fun_induction zipKeys names vs <;> simp_all [allStrKeys]

theorem findName_mem (n : Str) (names : List Str) (h : n ∈ names) : ∃ i, findName n names = some i := by
  induction names with
  | nil => cases h
  | cons m ms ih =>
    simp only [findName]
    split
    · exact ⟨0, rfl⟩
    · rename_i hm
      obtain ⟨i, hi⟩ := ih ((List.mem_cons.mp h).resolve_left (fun e => hm e.symm))
      exact ⟨i + 1, by rw [hi]; rfl⟩

/-- a serialised struct has no entry that names no field: nothing is ignored -/
theorem ignoredOK_zipKeys (all : List Str) : ∀ (ns : List Str) (vs : List V), (∀ n ∈ ns, n ∈ all) →
    ignoredOK all (zipKeys ns vs) = .ok ()
  | [], vs, _ => by simp [zipKeys, ignoredOK]
  | n :: ns, [], _ => by simp [zipKeys, ignoredOK]
  | n :: ns, v :: vs, h => by
    obtain ⟨i, hi⟩ := findName_mem n all (h n (by simp))
    simp only [zipKeys, ignoredOK, hi]
    exact ignoredOK_zipKeys all ns vs (fun m hm => h m (by simp [hm]))

theorem deStructMap_zipKeys (names : List Str) (ss : List Shape) (vs : List V) :
    deStructMap names ss (zipKeys names vs) = mapOk D.list (deFields names ss (zipKeys names vs)) := by
  simp only [deStructMap, allStrKeys_zipKeys, if_true, ignoredOK_zipKeys names names vs (fun _ hn => hn), guardR_ok]

theorem deStructMap_zipKeys_ok (names : List Str) (ss : List Shape) (vs : List V) (ds : List D)
    (h : deFields names ss (zipKeys names vs) = .ok ds) : deStructMap names ss (zipKeys names vs) = .ok (.list ds) := by
  rw [deStructMap_zipKeys, h]
  rfl

theorem findName_of_getElem? (names : List Str) (i : Nat) (n : Str)
    (hnd : nodupStr names = true) (hi : names[i]? = some n) : findName n names = some i := by
  induction names generalizing i with
  | nil => simp at hi
  | cons m ms ih =>
    simp only [nodupStr, Bool.and_eq_true, Bool.not_eq_true'] at hnd
    cases i with
    | zero => simp_all [findName]
    | succ j =>
      have hmem : n ∈ ms := List.mem_of_getElem? (by simpa using hi)
      have hne : m ≠ n := fun h => by simp [h, hmem] at hnd
      simp [findName, hne, ih j hnd.2 (by simpa using hi)]

theorem serVariant_of_getElem? : ∀ (names : List Str) (vs : List VShape) (i : Nat) (p : D) (n : Str) (v : VShape),
    names[i]? = some n → vs[i]? = some v → serVariant names vs i p = serV n v p
  | [], _, _, _, _, _, hn, _ => by simp at hn
  | _ :: _, [], _, _, _, _, _, hv => by simp at hv
  | _ :: _, _ :: _, 0, _, _, _, hn, hv => by cases hn; cases hv; rfl
  | _ :: ms, _ :: ws, i + 1, p, n, v, hn, hv =>
    serVariant_of_getElem? ms ws i p n v (by simpa using hn) (by simpa using hv)

theorem deVariant_of_getElem? (vs : List VShape) (i orig : Nat) (payload : Option V) (v : VShape)
    (hv : vs[i]? = some v) :
    deVariant vs i orig payload = mapOk (D.variant orig) (deV v payload) := by
  induction vs generalizing i <;> cases i <;> simp_all [deVariant]

theorem wfVariant_getElem? (vs : List VShape) (i : Nat) (p : D) (h : wfVariant vs i p = true) :
    ∃ v, vs[i]? = some v ∧ wfV v p = true := by
  induction vs generalizing i <;> cases i <;> simp_all [wfVariant]

theorem serList_length (ss : List Shape) (ds : List D) (h : wfList ss ds = true) :
    (serList ss ds).length = ss.length := by
  induction ss generalizing ds <;> cases ds <;> simp_all [wfList, serList]

end MJ.Serde
