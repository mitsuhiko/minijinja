import MJ.Model.Fuel
/-!
`runFrom` in closed form.  A trace *fits* a tank holding `r` when `thr trace ≤ r`, that is when it is
free or costs less than `r` (`thr_le_iff`).  A trace that fits is dispatched completely and its cost
is taken off (`runFrom_of_thr_le`); one that does not stops out of fuel with an empty tank after a
proper prefix that fits (`runFrom_of_lt_thr`).  The other facts about `runFrom` and `runFuel` are read
off these two cases; only `runFrom_append` has an induction of its own.
-/
namespace MJ.Fuel
open Tracker

theorem total_append (a b : List String) : total (a ++ b) = total a + total b := by
  induction a with
  | nil => simp [total]
  | cons i rest ih => simp [total, ih, Nat.add_assoc]

theorem thr_le_iff {trace : List String} {r : Nat} : thr trace ≤ r ↔ total trace = 0 ∨ total trace < r := by
  unfold thr
  by_cases h : total trace = 0
  · rw [if_pos h]; exact ⟨fun _ => .inl h, fun _ => Nat.zero_le r⟩
  · rw [if_neg h]; exact ⟨.inr, fun h' => h'.resolve_left h⟩

theorem thr_cons_le_iff {i : String} {rest : List String} {r : Nat} :
    thr (i :: rest) ≤ r ↔ (costOf i = 0 ∨ costOf i < r) ∧ thr rest ≤ r - costOf i := by
  simp only [thr_le_iff, total]
  -- `omega` closes the `↔` as it stands, but then brings in `Classical.choice`
  constructor
  · intro h; constructor <;> omega
  · intro ⟨h1, h2⟩; omega

theorem track_eq (t : Tracker) (c : Nat) :
    t.track c = if c = 0 ∨ c < t.remaining then .ok { t with remaining := t.remaining - c }
      else .outOfFuel { t with remaining := 0 } := by
  by_cases hc : c = 0
  · simp [track, hc]
  · by_cases h : c < t.remaining
    · simp [track, satSub, hc, h, Nat.sub_ne_zero_of_lt h]
    · simp [track, satSub, hc, h, Nat.sub_eq_zero_of_le (Nat.le_of_not_lt h)]

theorem track_empty (t : Tracker) (c : Nat) (hc : c ≠ 0) (h : t.remaining = 0) :
    t.track c = .outOfFuel t := by
  rw [track_eq, if_neg (by omega), ← h]

theorem runFrom_of_thr_le (t : Tracker) (trace : List String) (h : thr trace ≤ t.remaining) :
    runFrom t trace =
      { executed := trace, status := .done, tracker := { t with remaining := t.remaining - total trace } } := by
  induction trace generalizing t with
  | nil => rfl
  | cons i rest ih =>
    obtain ⟨hc, hr⟩ := thr_cons_le_iff.mp h
    simp only [runFrom, track_eq, if_pos hc, ih { t with remaining := t.remaining - costOf i } hr, total, Nat.sub_sub]

theorem runFrom_of_lt_thr (t : Tracker) (trace : List String) (h : t.remaining < thr trace) :
    (runFrom t trace).status = .outOfFuel ∧ (runFrom t trace).tracker = { t with remaining := 0 } ∧
    (runFrom t trace).executed <+: trace ∧ (runFrom t trace).executed.length < trace.length ∧
    thr (runFrom t trace).executed ≤ t.remaining := by
  induction trace generalizing t with
  | nil => exact absurd h (Nat.not_lt_zero _)
  | cons i rest ih =>
    by_cases hc : costOf i = 0 ∨ costOf i < t.remaining
    · obtain ⟨hs, ht, hp, hl, hf⟩ := ih { t with remaining := t.remaining - costOf i }
        (Nat.lt_of_not_le fun h' => Nat.not_le_of_lt h (thr_cons_le_iff.mpr ⟨hc, h'⟩))
      simp only [runFrom, track_eq, if_pos hc]
      exact ⟨hs, ht, (List.prefix_cons_inj i).mpr hp, Nat.succ_lt_succ hl, thr_cons_le_iff.mpr ⟨hc, hf⟩⟩
    · rw [runFrom, track_eq, if_neg hc]
      exact ⟨rfl, rfl, List.nil_prefix, Nat.zero_lt_succ _, Nat.zero_le _⟩

theorem runFrom_done_iff (t : Tracker) (trace : List String) :
    (runFrom t trace).status = .done ↔ thr trace ≤ t.remaining := by
  constructor
  · intro h
    refine Nat.le_of_not_lt fun hlt => ?_
    rw [(runFrom_of_lt_thr t trace hlt).1] at h
    cases h
  · intro h; rw [runFrom_of_thr_le t trace h]

theorem executed_prefix (t : Tracker) (trace : List String) : (runFrom t trace).executed <+: trace := by
  rcases Nat.lt_or_ge t.remaining (thr trace) with h | h
  · exact (runFrom_of_lt_thr t trace h).2.2.1
  · rw [runFrom_of_thr_le t trace h]; exact List.prefix_refl _

theorem runFrom_empty (t : Tracker) (trace : List String) (h : t.remaining = 0) (h0 : total trace ≠ 0) :
    (runFrom t trace).status = .outOfFuel ∧ (runFrom t trace).tracker = t ∧
    total (runFrom t trace).executed = 0 := by
  obtain ⟨hs, ht, _, _, hf⟩ := runFrom_of_lt_thr t trace (by simp only [thr, h0, if_false]; omega)
  have hf := thr_le_iff.mp hf
  exact ⟨hs, by rw [ht, ← h], by omega⟩

theorem runFrom_append (t : Tracker) (a b : List String) :
    runFrom t (a ++ b) =
      match (runFrom t a).status with
      | .outOfFuel => runFrom t a
      | .done =>
        let r := runFrom (runFrom t a).tracker b
        { r with executed := (runFrom t a).executed ++ r.executed } := by
  induction a generalizing t with
  | nil => simp [runFrom]
  | cons i rest ih =>
    simp only [List.cons_append, runFrom]
    cases h : t.track (costOf i) with
    | outOfFuel t' => simp
    | ok t' =>
      simp only [ih t']
      cases hs : (runFrom t' rest).status <;> simp [hs]

theorem runFuel_of_thr_le {B : Nat} {trace : List String} (h : thr trace ≤ B) :
    runFuel B trace = { executed := trace, status := .done, tracker := ⟨B, B - total trace⟩ } :=
  runFrom_of_thr_le (Tracker.new B) trace h

theorem runFuel_of_lt_thr {B : Nat} {trace : List String} (h : B < thr trace) :
    (runFuel B trace).status = .outOfFuel ∧ (runFuel B trace).tracker = ⟨B, 0⟩ ∧
    (runFuel B trace).executed <+: trace ∧ (runFuel B trace).executed.length < trace.length :=
  have := runFrom_of_lt_thr (Tracker.new B) trace h
  ⟨this.1, this.2.1, this.2.2.1, this.2.2.2.1⟩

theorem levels_of_thr_le {B : Nat} {trace : List String} (h : thr trace ≤ B) :
    (runFuel B trace).tracker.consumed = total trace ∧
    (runFuel B trace).tracker.remainingFuel = B - total trace := by
  have := thr_le_iff.mp h
  rw [runFuel_of_thr_le h]
  exact ⟨show B - (B - total trace) = total trace by omega, rfl⟩

theorem levels_of_lt_thr {B : Nat} {trace : List String} (h : B < thr trace) :
    (runFuel B trace).tracker.consumed = B ∧ (runFuel B trace).tracker.remainingFuel = 0 := by
  rw [(runFuel_of_lt_thr h).2.1]
  exact ⟨rfl, rfl⟩

end MJ.Fuel
