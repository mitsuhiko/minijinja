import MJ.Model.Sites
import MJ.Model.Loc
/-!
# The site kernels do not panic (C01)

`SmallStr` (`MJ/Model/Sites.lean`) by unfolding.  `Instructions::get_line` / `get_span` (model:
`MJ/Model/Loc.lean`, shared with C14) through `lookupRun_no_panic`, which holds of any table, sorted or not.
-/
namespace MJ.Sites
open MJ Chk

theorem smallStrRoundTrip_ok (cap len : Nat) (hcap : cap < 256) :
    smallStrRoundTrip cap len = .ok (if len ≤ cap then some len else none) := by
  unfold smallStrRoundTrip smallStrTryNew
  by_cases h : len ≤ cap
  · have h8 : len % 256 = len := Nat.mod_eq_of_lt (by omega)
    simp [h, sliceTo, smallStrAsStr, asU8, h8]
  · simp [h]

theorem smallStrFromChar_ok (cap k : Nat) (hk : k ≤ 4) (hcap : 4 ≤ cap) : smallStrFromChar cap k ≠ .panic := by
  unfold smallStrFromChar smallStrTryNew
  have h : k ≤ cap := by omega
  simp [h, sliceTo]

theorem index_ok {α : Type} (xs : List α) (i : Nat) (h : i < xs.length) : Chk.index xs i = .ok xs[i] := by
  unfold Chk.index
  rw [List.getElem?_eq_getElem h]

/-- whatever the table holds (sorted or not): the result of the search is in range for the access that
follows — `Ok(i)` has `i < len`, `Err(i)` has `i ≤ len`, and `Err(0)` returns before the access -/
theorem lookupRun_no_panic {α : Type} (first : α → Nat) (tbl : List α) (idx : Nat) :
    Loc.lookupRun first tbl idx ≠ .panic := by
  unfold Loc.lookupRun Loc.binarySearch
  simp only []
  generalize hi : ((tbl.map first).takeWhile (· < idx)).length = i
  have hle : i ≤ tbl.length := by
    have := (List.takeWhile_sublist (l := tbl.map first) (fun x => decide (x < idx))).length_le
    simp at this
    omega
  by_cases hk : (tbl.map first)[i]? = some idx
  · have hlt : i < tbl.length := by
      have := (List.getElem?_eq_some_iff.mp hk).1
      simpa using this
    simp only [hk, if_true, index_ok tbl i hlt]
    nofun
  · simp only [hk, if_false]
    cases i with
    | zero => nofun
    | succ j =>
      simp only [index_ok tbl j (by omega)]
      nofun

theorem lookupRun_ok {α : Type} (first : α → Nat) (tbl : List α) (idx : Nat) : ∃ o, Loc.lookupRun first tbl idx = .ok o := by
  cases h : Loc.lookupRun first tbl idx with
  | panic => exact absurd h (lookupRun_no_panic first tbl idx)
  | ok o => exact ⟨o, rfl⟩

theorem getLine_no_panic (s : Loc.Instrs) (idx : Nat) : s.getLine idx ≠ .panic := by
  obtain ⟨o, h⟩ := lookupRun_ok Loc.LineInfo.first s.lineInfos idx
  rw [Loc.Instrs.getLine, h]
  cases o <;> nofun

theorem getSpan_no_panic (s : Loc.Instrs) (idx : Nat) : s.getSpan idx ≠ .panic := by
  obtain ⟨o, h⟩ := lookupRun_ok Loc.SpanInfo.first s.spanInfos idx
  rw [Loc.Instrs.getSpan, h]
  cases o <;> nofun

end MJ.Sites
