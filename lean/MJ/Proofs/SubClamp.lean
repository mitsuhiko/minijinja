import MJ.Model.Subscript
import MJ.Proofs.PySliceSpec
/-!
# Clamping a slice bound or step into the `i64` range does not change what Python selects

`slice_bound` maps integers beyond `i64` to `i64::MIN`/`i64::MAX`.  For sequences shorter than 2^63
(every Rust allocation is) Python's `slice.indices` cannot tell the difference.
-/
namespace MJ.Sub
open MJ

/-- what `slice_bound` makes of the integer `x` -/
def clampI64 (x : Int) : Int := if x < i64Min then i64Min else if i64Max < x then i64Max else x

theorem clampI64_id (x : Int) (h : i64Min ≤ x ∧ x ≤ i64Max) : clampI64 x = x := by
  unfold clampI64; rw [if_neg (by omega), if_neg (by omega)]

theorem clampI64_big (x : Int) (h : i64Max < x) : clampI64 x = i64Max := by
  unfold clampI64; rw [if_neg (by unfold i64Min i64Max at *; omega), if_pos h]

theorem clampI64_small (x : Int) (h : x < i64Min) : clampI64 x = i64Min := by
  unfold clampI64; rw [if_pos h]

theorem clampI64_cases (x : Int) :
    clampI64 x = x ∨ (i64Max < x ∧ clampI64 x = i64Max) ∨ (x < i64Min ∧ clampI64 x = i64Min) := by
  by_cases h1 : x < i64Min
  · exact Or.inr (Or.inr ⟨h1, clampI64_small x h1⟩)
  · by_cases h2 : i64Max < x
    · exact Or.inr (Or.inl ⟨h2, clampI64_big x h2⟩)
    · exact Or.inl (clampI64_id x ⟨by omega, by omega⟩)

theorem clampI64_in (x : Int) : i64Min ≤ clampI64 x ∧ clampI64 x ≤ i64Max := by
  unfold clampI64 i64Min i64Max
  split
  · omega
  · split <;> omega

theorem clampI64_zero_iff (x : Int) : clampI64 x = 0 ↔ x = 0 := by
  unfold clampI64 i64Min i64Max
  split
  · omega
  · split <;> omega

theorem getD_map_clampI64 (C : Option Int) : (C.map clampI64).getD 1 = clampI64 (C.getD 1) := by
  cases C with
  | none => exact (clampI64_id 1 ⟨by decide, by decide⟩).symm
  | some x => rfl

/-- beyond `±L` Python's clamps are constant, so a bound beyond `i64` and its clamped value,
    both beyond `±L`, are clamped alike -/
theorem clampPos_clamp (L : Int) (b : Option Int) (d : Int) (hL : L < 9223372036854775808) :
    PySlice.clampPos L (b.map clampI64) d = PySlice.clampPos L b d := by
  cases b with
  | none => rfl
  | some s =>
    rw [Option.map_some]
    rcases clampI64_cases s with h | ⟨h1, h⟩ | ⟨h1, h⟩ <;> rw [h]
    · unfold i64Max at h1
      rw [PySlice.clampPos_of_ge L i64Max d (by decide) (by unfold i64Max; omega),
        PySlice.clampPos_of_ge L s d (by omega) (by omega)]
    · unfold i64Min at h1
      rw [PySlice.clampPos_of_le L i64Min d (by decide) (by unfold i64Min; omega),
        PySlice.clampPos_of_le L s d (by omega) (by omega)]

theorem clampNeg_clamp (L : Int) (b : Option Int) (d : Int) (hL : L < 9223372036854775808) :
    PySlice.clampNeg L (b.map clampI64) d = PySlice.clampNeg L b d := by
  cases b with
  | none => rfl
  | some s =>
    rw [Option.map_some]
    rcases clampI64_cases s with h | ⟨h1, h⟩ | ⟨h1, h⟩ <;> rw [h]
    · unfold i64Max at h1
      rw [PySlice.clampNeg_of_ge L i64Max d (by decide) (by unfold i64Max; omega),
        PySlice.clampNeg_of_ge L s d (by omega) (by omega)]
    · unfold i64Min at h1
      rw [PySlice.clampNeg_of_le L i64Min d (by decide) (by unfold i64Min; omega),
        PySlice.clampNeg_of_le L s d (by omega) (by omega)]

theorem indices_big_pos (len : Nat) (a b : Option Int) (c : Int) (hc : (len : Int) ≤ c) (hc0 : 0 < c) :
    PySlice.indices len a b c =
      if PySlice.clampPos len a 0 < PySlice.clampPos len b len then [(PySlice.clampPos len a 0).toNat] else [] := by
  have hL := Int.natCast_nonneg len
  have hs := PySlice.clampPos_nonneg len a 0 hL (Int.le_refl 0)
  have he := PySlice.clampPos_le len b len hL (Int.le_refl _)
  simp only [PySlice.indices, PySlice.adjust, hc0, if_true]
  split
  next h =>
    rw [Int.ediv_eq_zero_of_lt (by omega) (by omega)]
    simp
  next h => rfl

theorem indices_big_neg (len : Nat) (a b : Option Int) (c : Int) (hc : c ≤ -(len : Int)) :
    PySlice.indices len a b c =
      if PySlice.clampNeg len b (-1) < PySlice.clampNeg len a ((len : Int) - 1)
      then [(PySlice.clampNeg len a ((len : Int) - 1)).toNat] else [] := by
  have hL := Int.natCast_nonneg len
  have hs := PySlice.clampNeg_le len a ((len : Int) - 1) hL (Int.le_refl _)
  have he := PySlice.clampNeg_ge len b (-1) hL (Int.le_refl _)
  simp only [PySlice.indices, PySlice.adjust, gt_iff_lt, show ¬ 0 < c by omega, if_false]
  split
  next h =>
    rw [Int.ediv_eq_zero_of_lt (by omega) (by omega)]
    simp
  next h => rfl

/-- Python's selection does not change when bounds and step are clamped into `i64`: a step in
    range is not touched, one beyond selects a single position like every step beyond the length -/
theorem indices_clamp (len : Nat) (a b : Option Int) (c : Int) (hl : len < 9223372036854775808) :
    PySlice.indices len (a.map clampI64) (b.map clampI64) (clampI64 c) = PySlice.indices len a b c := by
  have hL : (len : Int) < 9223372036854775808 := by omega
  rcases clampI64_cases c with h | ⟨h1, h⟩ | ⟨h1, h⟩ <;> rw [h]
  · simp only [PySlice.indices, PySlice.adjust]
    rw [clampPos_clamp _ a _ hL, clampPos_clamp _ b _ hL, clampNeg_clamp _ a _ hL, clampNeg_clamp _ b _ hL]
  · unfold i64Max at h1
    rw [indices_big_pos len _ _ i64Max (by unfold i64Max; omega) (by decide), indices_big_pos len a b c (by omega) (by omega),
      clampPos_clamp _ a _ hL, clampPos_clamp _ b _ hL]
  · unfold i64Min at h1
    rw [indices_big_neg len _ _ i64Min (by unfold i64Min; omega), indices_big_neg len a b c (by omega),
      clampNeg_clamp _ a _ hL, clampNeg_clamp _ b _ hL]

end MJ.Sub
