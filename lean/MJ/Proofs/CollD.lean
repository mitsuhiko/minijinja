import MJ.Model.CollD
import MJ.Proofs.CollSort
/-!
# The derived dictionaries of `MJ.CollD`: the copy `dict(m)` and the merged dictionary

Both are one loop, `ins` entry by entry into an ordered list.  `foldIns_keys` is its invariant on the keys
(needs no law of the comparison), `foldIns_perm` and `foldIns_sorted` its invariants on the entries (pairwise
not `Equal` keys; a total preorder on the keys present, `PullsBack`).  Read at the empty list they are the
facts about `dictCopy`; the listing of a merged dictionary is `dictCopy` of the operands' keys (`mergeKeys_eq`),
so its facts are those.
-/
namespace MJ.CollD

section generic
variable {κ ν : Type} (cmp : κ → κ → Ordering)

theorem ins_mem (k : κ) (v : ν) : ∀ (ps : List (κ × ν)) (p : κ × ν), p ∈ ins cmp k v ps →
    p.1 = k ∨ ∃ q ∈ ps, q.1 = p.1
  | [], p, h => by simp [ins] at h; left; rw [h]
  | (k', v') :: ps, p, h => by
    unfold ins at h
    split at h
    · rcases List.mem_cons.mp h with rfl | h
      · left; rfl
      · right; exact ⟨p, h, rfl⟩
    · rcases List.mem_cons.mp h with rfl | h
      · right; exact ⟨(k', v'), List.mem_cons_self, rfl⟩
      · right; exact ⟨p, List.mem_cons_of_mem _ h, rfl⟩
    · rcases List.mem_cons.mp h with rfl | h
      · right; exact ⟨(k', v'), List.mem_cons_self, rfl⟩
      · rcases ins_mem k v ps p h with h | ⟨q, hq, e⟩
        · left; exact h
        · right; exact ⟨q, List.mem_cons_of_mem _ hq, e⟩

theorem ins_keys_sub (k : κ) (v : ν) (acc : List (κ × ν)) (x : κ)
    (h : x ∈ (ins cmp k v acc).map Prod.fst) : x = k ∨ x ∈ acc.map Prod.fst := by
  obtain ⟨p, hp, rfl⟩ := List.mem_map.mp h
  exact (ins_mem cmp k v acc p hp).imp id fun ⟨q, hq, e⟩ => e ▸ List.mem_map.mpr ⟨q, hq, rfl⟩

theorem ins_keeps (k : κ) (v : ν) : ∀ (acc : List (κ × ν)) (x : κ),
    x ∈ acc.map Prod.fst → x ∈ (ins cmp k v acc).map Prod.fst
  | [], x, h => by simp at h
  | (k', v') :: ps, x, h => by
    unfold ins
    simp only [List.map_cons, List.mem_cons] at h
    split
    · simp only [List.map_cons, List.mem_cons]; exact Or.inr h
    · simp only [List.map_cons, List.mem_cons]; exact h
    · simp only [List.map_cons, List.mem_cons]
      rcases h with h | h
      · exact Or.inl h
      · exact Or.inr (ins_keeps k v ps x h)

theorem ins_has (k : κ) (v : ν) (hrefl : cmp k k = .eq) (acc : List (κ × ν)) :
    ∃ k' ∈ (ins cmp k v acc).map Prod.fst, cmp k k' = .eq := by
  fun_induction ins cmp k v acc <;> simp_all

/-- the keys held afterwards are keys that were held or were inserted, no key held is lost, and every inserted key
    (reflexive for `cmp`) has an `Equal` key among those held -/
theorem foldIns_keys : ∀ (ps acc : List (κ × ν)),
    (∀ x ∈ (ps.foldl (fun acc p => ins cmp p.1 p.2 acc) acc).map Prod.fst, x ∈ ps.map Prod.fst ∨ x ∈ acc.map Prod.fst) ∧
    (∀ x ∈ acc.map Prod.fst, x ∈ (ps.foldl (fun acc p => ins cmp p.1 p.2 acc) acc).map Prod.fst) ∧
    (∀ p ∈ ps, cmp p.1 p.1 = .eq →
      ∃ k' ∈ (ps.foldl (fun acc p => ins cmp p.1 p.2 acc) acc).map Prod.fst, cmp p.1 k' = .eq)
  | [], acc => ⟨fun _ h => .inr h, fun _ h => h, by simp⟩
  | p :: ps, acc => by
    obtain ⟨h1, h2, h3⟩ := foldIns_keys ps (ins cmp p.1 p.2 acc)
    simp only [List.foldl_cons, List.map_cons, List.mem_cons, forall_eq_or_imp]
    refine ⟨fun x hx => ?_, fun x hx => h2 x (ins_keeps cmp p.1 p.2 acc x hx), fun hr => ?_, h3⟩
    · rcases h1 x hx with h | h
      · exact .inl (.inr h)
      · exact (ins_keys_sub cmp p.1 p.2 acc x h).imp .inl id
    · obtain ⟨k', hk', hc⟩ := ins_has cmp p.1 p.2 hr acc
      exact ⟨k', h2 k' hk', hc⟩

/-- `dict(m)` lists only keys of `m`, and every key of `m` (reflexive for `cmp`) has an `Equal` key in the copy -/
theorem dictCopy_keys (ps : List (κ × ν)) :
    (∀ x ∈ (dictCopy cmp ps).map Prod.fst, x ∈ ps.map Prod.fst) ∧
    (∀ p ∈ ps, cmp p.1 p.1 = .eq → ∃ k' ∈ (dictCopy cmp ps).map Prod.fst, cmp p.1 k' = .eq) :=
  ⟨fun x hx => ((foldIns_keys cmp ps []).1 x hx).resolve_right (by simp), (foldIns_keys cmp ps []).2.2⟩

theorem get_isSome_iff (k : κ) (ps : List (κ × ν)) :
    (get cmp k ps).isSome = true ↔ ∃ p ∈ ps, cmp k p.1 = .eq := by
  fun_induction get cmp k ps <;> simp_all

theorem mergeGet_isSome (isUndef : ν → Bool) (undef : ν) (maps : List (List (κ × ν))) (k : κ) :
    (mergeGet cmp isUndef undef maps k).isSome = maps.any (fun ps => (get cmp k ps).isSome) := by
  unfold mergeGet
  split
  · next v h =>
    obtain ⟨ps, hps, hf⟩ := List.exists_of_findSome?_eq_some h
    have : (get cmp k ps).isSome = true := by
      cases hg : get cmp k ps with
      | none => simp [hg] at hf
      | some w => rfl
    simp only [Option.isSome_some]
    symm
    exact List.any_eq_true.mpr ⟨ps, List.mem_reverse.mp hps, this⟩
  · by_cases h : maps.any (fun ps => (get cmp k ps).isSome) = true
    · simp [h]
    · simp [h]

/-- the listing of a merged dictionary is the copy `dict(·)` of all the operands' keys, taken without values -/
theorem mergeKeys_eq (maps : List (List (κ × ν))) : mergeKeys cmp maps =
    (dictCopy cmp ((maps.flatMap (fun ps => ps.map Prod.fst)).map (fun k => (k, ())))).map Prod.fst := by
  unfold mergeKeys dictCopy
  rw [List.foldl_map]

/-- every listed key comes from an operand, and every operand key (reflexive for `cmp`) has an `Equal` listed key -/
theorem mergeKeys_spec (maps : List (List (κ × ν))) :
    (∀ k' ∈ mergeKeys cmp maps, ∃ ps ∈ maps, ∃ p ∈ ps, p.1 = k') ∧
    (∀ ps ∈ maps, ∀ p ∈ ps, cmp p.1 p.1 = .eq → ∃ k' ∈ mergeKeys cmp maps, cmp p.1 k' = .eq) := by
  rw [mergeKeys_eq]
  obtain ⟨h1, h2⟩ := dictCopy_keys cmp ((maps.flatMap (fun ps => ps.map Prod.fst)).map (fun k => (k, ())))
  refine ⟨fun k' hk' => ?_, fun ps hps p hp => h2 (p.1, ()) (List.mem_map.mpr
    ⟨p.1, List.mem_flatMap.mpr ⟨ps, hps, List.mem_map.mpr ⟨p, hp, rfl⟩⟩, rfl⟩)⟩
  have := h1 k' hk'
  simp only [List.map_map, List.mem_map, List.mem_flatMap, Function.comp] at this
  obtain ⟨_, ⟨ps, hps, p, hp, rfl⟩, rfl⟩ := this
  exact ⟨ps, hps, p, hp, rfl⟩

/-- what a merged dictionary FINDS is what it LISTS: `merged[k]` / `k in merged` succeed exactly for the probes
    that are `Equal` to a listed key — for every comparison that is reflexive and whose `Equal` is transitive on
    the keys present -/
theorem merge_lookup_iff_listed (P : κ → Prop)
    (hrefl : ∀ a, P a → cmp a a = .eq)
    (htr : ∀ a b c, P a → P b → P c → cmp a b = .eq → cmp b c = .eq → cmp a c = .eq)
    (isUndef : ν → Bool) (undef : ν) (maps : List (List (κ × ν))) (k : κ)
    (hP : ∀ ps ∈ maps, ∀ p ∈ ps, P p.1) (hk : P k) :
    (mergeGet cmp isUndef undef maps k).isSome = true ↔ ∃ k' ∈ mergeKeys cmp maps, cmp k k' = .eq := by
  rw [mergeGet_isSome, List.any_eq_true]
  constructor
  · rintro ⟨ps, hps, hg⟩
    obtain ⟨p, hp, hc⟩ := (get_isSome_iff cmp k ps).mp hg
    obtain ⟨k', hk', hc'⟩ := (mergeKeys_spec cmp maps).2 ps hps p hp (hrefl _ (hP ps hps p hp))
    obtain ⟨qs, hqs, q, hq, rfl⟩ := (mergeKeys_spec cmp maps).1 k' hk'
    exact ⟨q.1, hk', htr _ _ _ hk (hP ps hps p hp) (hP qs hqs q hq) hc hc'⟩
  · rintro ⟨k', hk', hc⟩
    obtain ⟨qs, hqs, q, hq, rfl⟩ := (mergeKeys_spec cmp maps).1 k' hk'
    exact ⟨qs, hqs, (get_isSome_iff cmp k qs).mpr ⟨q, hq, hc⟩⟩

theorem ins_perm (k : κ) (v : ν) (acc : List (κ × ν)) (h : ∀ x ∈ acc, cmp k x.1 ≠ .eq) :
    (ins cmp k v acc).Perm ((k, v) :: acc) := by
  fun_induction ins cmp k v acc <;> simp_all
  exact (List.Perm.cons _ (by assumption)).trans (List.Perm.swap _ _ _)

theorem foldIns_perm : ∀ (ps acc : List (κ × ν)),
    ps.Pairwise (fun p q => cmp q.1 p.1 ≠ .eq) → (∀ p ∈ ps, ∀ x ∈ acc, cmp p.1 x.1 ≠ .eq) →
    (ps.foldl (fun acc p => ins cmp p.1 p.2 acc) acc).Perm (ps ++ acc)
  | [], acc, _, _ => by simp
  | p :: ps, acc, hpw, hacc => by
    simp only [List.foldl_cons]
    have h1 := ins_perm cmp p.1 p.2 acc (fun x hx => hacc p List.mem_cons_self x hx)
    have hpw' := List.pairwise_cons.mp hpw
    have ih := foldIns_perm ps (ins cmp p.1 p.2 acc) hpw'.2 (by
      intro q hq x hx
      rcases List.mem_cons.mp (h1.mem_iff.mp hx) with hx | hx
      · subst hx; exact hpw'.1 q hq
      · exact hacc q (List.mem_cons_of_mem _ hq) x hx)
    refine ih.trans ?_
    have : (ps ++ ins cmp p.1 p.2 acc).Perm (ps ++ (p.1, p.2) :: acc) := List.Perm.append_left _ h1
    refine this.trans ?_
    exact (List.perm_middle).trans (List.Perm.refl _)

/-- `dict(m)` holds exactly the entries of a map whose keys are pairwise not `Equal` (no law of the comparison
    is needed) -/
theorem dictCopy_perm (ps : List (κ × ν)) (hpw : ps.Pairwise (fun p q => cmp q.1 p.1 ≠ .eq)) :
    (dictCopy cmp ps).Perm ps := by
  have := foldIns_perm cmp ps [] hpw (by simp)
  simpa [dictCopy] using this

/-- keys strictly increasing -/
def Sorted (ps : List (κ × ν)) : Prop := (ps.map (·.1)).Pairwise (fun a b => cmp a b = .lt)

section
variable {cmp} {P : κ → Prop} {κ' : Type} {cmp' : κ' → κ' → Ordering} [Std.TransCmp cmp'] {g : κ → κ'}
  (h : MJ.Coll.PullsBack cmp P cmp' g)
include h

/-- inserting keeps the entries strictly increasing (a total preorder on the keys present) -/
theorem ins_sorted (k : κ) (v : ν) (hk : P k) : ∀ (ps : List (κ × ν)),
    (∀ p ∈ ps, P p.1) → Sorted cmp ps → Sorted cmp (ins cmp k v ps)
  | [], _, _ => by simp [ins, Sorted]
  | (k', v') :: ps, hr, hs => by
    have hk' : P k' := hr (k', v') List.mem_cons_self
    have hr' : ∀ p ∈ ps, P p.1 := fun p hp => hr p (List.mem_cons_of_mem _ hp)
    unfold Sorted at hs ⊢
    simp only [List.map_cons, List.pairwise_cons] at hs
    obtain ⟨h1, h2⟩ := hs
    unfold ins
    split
    · rename_i hl
      simp only [List.map_cons, List.pairwise_cons]
      refine ⟨?_, h1, h2⟩
      intro a ha
      rcases List.mem_cons.mp ha with rfl | ha
      · exact hl
      · obtain ⟨p, hp, rfl⟩ := List.mem_map.mp ha
        exact h.lt_trans hk hk' (hr' p hp) hl (h1 p.1 ha)
    · simp only [List.map_cons, List.pairwise_cons]
      exact ⟨h1, h2⟩
    · rename_i hg
      have ih := ins_sorted k v hk ps hr' h2
      unfold Sorted at ih
      simp only [List.map_cons, List.pairwise_cons]
      refine ⟨?_, ih⟩
      intro a ha
      obtain ⟨p, hp, rfl⟩ := List.mem_map.mp ha
      rcases ins_mem cmp k v ps p hp with e | ⟨q, hq, e⟩
      · rw [e]; exact h.lt_of_gt hk hk' hg
      · rw [← e]; exact h1 q.1 (List.mem_map.mpr ⟨q, hq, rfl⟩)

theorem foldIns_sorted : ∀ (ps acc : List (κ × ν)), (∀ p ∈ ps, P p.1) → (∀ p ∈ acc, P p.1) → Sorted cmp acc →
    (∀ p ∈ ps.foldl (fun acc p => ins cmp p.1 p.2 acc) acc, P p.1) ∧
    Sorted cmp (ps.foldl (fun acc p => ins cmp p.1 p.2 acc) acc)
  | [], acc, _, ha, hs => ⟨ha, hs⟩
  | p :: ps, acc, hp, ha, hs => by
    simp only [List.foldl_cons]
    apply foldIns_sorted ps
    · exact fun q hq => hp q (List.mem_cons_of_mem _ hq)
    · intro q hq
      rcases ins_mem cmp p.1 p.2 acc q hq with e | ⟨q', hq', e⟩
      · rw [e]; exact hp p List.mem_cons_self
      · rw [← e]; exact ha q' hq'
    · exact ins_sorted h p.1 p.2 (hp p List.mem_cons_self) acc ha hs

/-- `dict(m)` iterates in strictly increasing key order -/
theorem dictCopy_sorted (ps : List (κ × ν)) (hp : ∀ p ∈ ps, P p.1) : Sorted cmp (dictCopy cmp ps) :=
  (foldIns_sorted h ps [] hp (by simp) (by simp [Sorted])).2

/-- entries that are already in strictly increasing key order are copied as they are: the copy is a
    permutation of them that is in the same strict order -/
theorem dictCopy_of_sorted (ps : List (κ × ν)) (hp : ∀ p ∈ ps, P p.1) (hs : Sorted cmp ps) :
    dictCopy cmp ps = ps := by
  have hs' := List.pairwise_map.mp hs
  have perm := dictCopy_perm cmp ps (hs'.imp_of_mem fun {p q} hp' hq hlt e => by
    rw [h.swap (hp p hp') (hp q hq), hlt] at e; cases e)
  refine perm.eq_of_pairwise (le := fun p q => cmp p.1 q.1 = .lt) (fun p q hp' hq h1 h2 => ?_)
    (List.pairwise_map.mp (dictCopy_sorted h ps hp)) hs'
  rw [h.swap (hp p (perm.subset hp')) (hp q hq), h1] at h2; cases h2

/-- a merged dictionary lists its keys in strictly increasing order: every key once -/
theorem mergeKeys_sorted (maps : List (List (κ × ν))) (hp : ∀ ps ∈ maps, ∀ p ∈ ps, P p.1) :
    (mergeKeys cmp maps).Pairwise (fun a b => cmp a b = .lt) := by
  rw [mergeKeys_eq]
  refine dictCopy_sorted h _ fun q hq => ?_
  simp only [List.mem_map, List.mem_flatMap] at hq
  obtain ⟨_, ⟨ps, hps, p, hp', rfl⟩, rfl⟩ := hq
  exact hp ps hps p hp'

end

end generic

end MJ.CollD
