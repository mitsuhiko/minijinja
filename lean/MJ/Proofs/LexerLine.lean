import MJ.Proofs.LexerBasic
/-! A line statement / line comment behaves as the block / comment tag occupying that whole line:
with `trim_blocks` and `lstrip_blocks` on, the rules give the same text for the line form and for
the template in which every line statement is written as the block tag and every line comment as
the comment tag (`tagForm`). -/
namespace MJ.Lexer

/-- the block / comment tag a line statement / line comment stands for -/
def Tag.tagForm (g : Tag) : Tag :=
  match g.kind with
  | .lineStmt ts => ⟨.block ts, .none, .none⟩
  | .lineComment body => ⟨.comment body, .none, .none⟩
  | _ => g

def tailTagForm (tail : List (Tag × List Char)) : List (Tag × List Char) :=
  tail.map fun gt => (gt.1.tagForm, gt.2)

def Tmpl.tagForm (tm : Tmpl) : Tmpl := ⟨tm.head, tailTagForm tm.tail⟩

/-- nothing but the line break stands behind a line statement on its line -/
def noTrail (tail : List (Tag × List Char)) : Bool :=
  tail.all fun gt => !(gt.1.marker == .lineStmt) || (gt.2.takeWhile isHws).isEmpty

/-- line statements and line comments carry no markers -/
def lineMarksNone (tail : List (Tag × List Char)) : Bool :=
  tail.all fun gt => !gt.1.isLine || (gt.1.l == .none && gt.1.r == .none)

theorem cfg_eta (cfg : Cfg) (h1 : cfg.trim = true) (h2 : cfg.lstrip = true) :
    ({ cfg with trim := true, lstrip := true } : Cfg) = cfg := by
  cases cfg; simp_all

theorem specTail_tagForm (cfg : Cfg) (vm bm : List Char) (h1 : cfg.trim = true) (h2 : cfg.lstrip = true)
    (tail : List (Tag × List Char)) :
    ∀ (first : Bool) (l : Nat) (t : List Char), noTrail tail = true → lineMarksNone tail = true →
      specTail cfg vm bm first l t tail = specTail cfg vm bm first l t (tailTagForm tail) := by
  induction tail with
  | nil => intro _ _ _ _ _; rfl
  | cons a tail ih =>
    obtain ⟨g, t'⟩ := a
    intro first l t hnt hm
    simp only [noTrail, List.all_cons, Bool.and_eq_true] at hnt
    simp only [lineMarksNone, List.all_cons, Bool.and_eq_true] at hm
    have ih' := fun f l t => ih f l t hnt.2 hm.2
    have hmk : g.isLine = true → g.l = .none ∧ g.r = .none := by
      intro hl; simpa [hl] using hm.1
    simp only [tailTagForm, List.map_cons, specTail]
    have hr : rightCutG cfg first g t = rightCutG cfg first g.tagForm t := by
      cases g with
      | mk kind gl gr =>
        cases kind <;> try rfl
        all_goals
          obtain ⟨rfl, rfl⟩ := hmk rfl
          simp [rightCutG, cfgFor, Tag.isLine, Tag.tagForm, Tag.blockish, cfg_eta cfg h1 h2]
    have ho : tagOut cfg vm bm g = tagOut cfg vm bm g.tagForm := by
      cases g with
      | mk kind gl gr => cases kind <;> rfl
    have hlc : leftCutG cfg g t' = leftCutG cfg g.tagForm t' := by
      cases g with
      | mk kind gl gr =>
        cases kind <;> try rfl
        · -- line statement: the blanks behind it are empty
          obtain ⟨rfl, rfl⟩ := hmk rfl
          have hnt1 := hnt.1
          simp only [Tag.marker, beq_self_eq_true, Bool.not_true, Bool.false_or, List.isEmpty_iff] at hnt1
          have hd : t'.dropWhile isHws = t' := by
            have := List.takeWhile_append_dropWhile (p := isHws) (l := t')
            rw [hnt1] at this; simpa using this
          simp [leftCutG, lineCut, hnt1, hd, Tag.tagForm, leftCut, cfgFor, Tag.isLine, Tag.blockish, h1]
        · obtain ⟨rfl, rfl⟩ := hmk rfl
          simp [leftCutG, Tag.tagForm, leftCut, cfgFor, Tag.isLine, Tag.blockish, h1]
    rw [hr, ho, hlc, ih']
    rfl

theorem mapLastText_tagForm (f : List Char → List Char) (tail : List (Tag × List Char)) :
    tailTagForm (mapLastText f tail) = mapLastText f (tailTagForm tail) := by
  induction tail with
  | nil => rfl
  | cons a tail ih =>
    cases tail with
    | nil => rfl
    | cons b tail =>
      simp only [mapLastText, tailTagForm, List.map_cons] at ih ⊢
      rw [ih]

theorem takeWhile_prefix_empty (p : Char → Bool) (s s' z : List Char) (h : s = s' ++ z)
    (he : (s.takeWhile p).isEmpty = true) : (s'.takeWhile p).isEmpty = true := by
  cases s' with
  | nil => rfl
  | cons c r =>
    subst h
    simp only [List.cons_append, List.takeWhile_cons] at he ⊢
    split
    · rename_i hc; simp [hc] at he
    · rfl

theorem all_mapLastText (P : Tag × List Char → Bool) (f : List Char → List Char)
    (hP : ∀ g t, P (g, t) = true → P (g, f t) = true) (tail : List (Tag × List Char)) (h : tail.all P = true) :
    (mapLastText f tail).all P = true := by
  fun_induction mapLastText f tail with
  | case1 => rfl
  | case2 g t => simpa using hP g t (by simpa using h)
  | case3 x y r ih =>
    rw [List.all_cons, Bool.and_eq_true] at h ⊢
    exact ⟨h.1, ih h.2⟩

theorem noTrail_mapLast (f : List Char → List Char) (hf : ∀ s, f s <+: s)
    (tail : List (Tag × List Char)) (h : noTrail tail = true) : noTrail (mapLastText f tail) = true := by
  refine all_mapLastText _ f (fun g t hg => ?_) tail h
  simp only [Bool.or_eq_true] at hg ⊢
  obtain ⟨z, hz⟩ := hf t
  exact hg.imp id (takeWhile_prefix_empty isHws t (f t) z hz.symm)

theorem lineMarksNone_mapLast (f : List Char → List Char) (tail : List (Tag × List Char))
    (h : lineMarksNone tail = true) : lineMarksNone (mapLastText f tail) = true :=
  all_mapLastText (fun gt => !gt.1.isLine || (gt.1.l == .none && gt.1.r == .none)) f (fun _ _ hg => hg) tail h

theorem specRender_tagForm (cfg : Cfg) (vm bm : List Char) (tm : Tmpl) (h1 : cfg.trim = true)
    (h2 : cfg.lstrip = true) (hnt : noTrail tm.tail = true) (hm : lineMarksNone tm.tail = true) :
    specRender cfg vm bm tm = specRender cfg vm bm tm.tagForm := by
  obtain ⟨head, tail⟩ := tm
  unfold specRender
  cases hk : cfg.keep with
  | true => exact specTail_tagForm cfg vm bm h1 h2 tail true 0 head hnt hm
  | false =>
    simp only [Bool.false_eq_true, if_false]
    cases tail with
    | nil => rfl
    | cons a tl =>
      simp only [stripFinal, Tmpl.tagForm, tailTagForm, List.map_cons]
      have := specTail_tagForm cfg vm bm h1 h2 (mapLastText stripTrailingNl (a :: tl)) true 0 head
        (noTrail_mapLast _ stripTrailingNl_prefix _ hnt) (lineMarksNone_mapLast _ _ hm)
      rw [this, mapLastText_tagForm]
      rfl

end MJ.Lexer
