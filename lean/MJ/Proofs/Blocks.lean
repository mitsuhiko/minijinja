import MJ.Proofs.BlocksSelect
/-!
# The block-stack driver against the specification

`Hyp env ctx f`: with `f` levels of fuel the driver (`evalImpl`) and the spec (`specAll`) agree on
every statement list and every layout of the fragment `EnvOK`; `hyp_all` proves it for every
`f`.  The step (`hyp_succ`) goes through `sim_all`: the driver on a statement list is the spec on
it, block state and pending parent as they were; a layout is cut at its `extends` tag by
`stepItems_append`.  Per construct: `callBlock_sim`, `performSuper_sim`, `include_sim`, `loop_sim`.
-/
namespace MJ.Blocks

-- core has no `DecidableEq (Except ε α)`: the `decide` examples of `MJ.Props.C06` compare results of `render` by this
instance instDecEqExcept {ε α : Type} [DecidableEq ε] [DecidableEq α] : DecidableEq (Except ε α) :=
  fun a b =>
    match a, b with
    | .ok x, .ok y => if h : x = y then isTrue (by rw [h]) else isFalse (by intro e; cases e; exact h rfl)
    | .error x, .error y => if h : x = y then isTrue (by rw [h]) else isFalse (by intro e; cases e; exact h rfl)
    | .ok _, .error _ => isFalse (by intro e; cases e)
    | .error _, .ok _ => isFalse (by intro e; cases e)

/-- a spec result as a driver result: same output, the driver's state with the spec's frames -/
def liftS (r : SRes) (st : St) : Res :=
  match r with
  | .ok (o, fs) => .ok (o, { st with frames := fs })
  | .error e => .error e

theorem liftS_ok {r : SRes} {st st' : St} {o : List String} (h : liftS r st = .ok (o, st')) :
    r = .ok (o, st'.frames) ∧ st' = { st with frames := st'.frames } := by
  cases r with
  | error e => cases h
  | ok q => cases h; exact ⟨rfl, rfl⟩

abbrev Res3 := Except Err (List String × St × Option (List Item))

/-- a spec result as a result of `stepItems`: the driver's state with the spec's frames, `parent` as it was -/
def liftS3 (r : SRes) (st : St) (parent : Option (List Item)) : Res3 :=
  match r with
  | .ok (o, fs) => .ok (o, { st with frames := fs }, parent)
  | .error e => .error e

/-- sequencing of two runs of `stepItems`; the second starts with the parent the first remembered -/
def Res3.bind (r : Res3) (k : St → Option (List Item) → Res3) : Res3 :=
  match r with
  | .error e => .error e
  | .ok (o, st, p) =>
    match k st p with
    | .error e => .error e
    | .ok (o', st', p') => .ok (o ++ o', st', p')

theorem bind_andThen (r : Res) (k1 : St → Res3) (k2 : St → Option (List Item) → Res3) :
    Res3.bind (Res.andThen r k1) k2 = Res.andThen r (fun st' => Res3.bind (k1 st') k2) := by
  cases r with
  | error e => rfl
  | ok q =>
    obtain ⟨o, st⟩ := q
    simp only [Res.andThen, Res3.bind]
    cases k1 st with
    | error e => rfl
    | ok q1 =>
      obtain ⟨o1, st1, p1⟩ := q1
      simp only []
      cases k2 st1 p1 with
      | error e => rfl
      | ok q2 => simp

/-- the statements `varItem` handles: they touch variables and output only, and driver and spec
    run them through the same arm -/
def Item.isVar : Item → Bool
  | .text _ | .required | .emitVar _ | .setVar _ _ | .defMacro _ _ | .defMacroV _ _
  | .emitAttr _ _ | .emitKeys _ | .callVar _ => true
  | _ => false

theorem stepItems_var (rd : Rd) (rec : Rec) (parent : Option (List Item)) {it : Item}
    (h : it.isVar = true) (rest : List Item) (st : St) :
    stepItems rd rec parent (it :: rest) st =
      match varItem rd.cfg (rd.disc0 || parent.isSome) rd.ae it st.frames with
      | some (.ok (o, fs)) =>
        Res.andThen (.ok (o, { st with frames := fs })) (fun st' => stepItems rd rec parent rest st')
      | some (.error e) => .error e
      | none => .error [.unsupported] := by
  cases it <;> first | rfl | cases h

theorem specItems_var (env : Env) (cfg : Cfg) (cbs : SpecCbs) (D : Nat → List (List Item))
    (cur : Option (Nat × Nat)) (disc ext : Bool) (outer : Nat) (ae : AE) {it : Item}
    (h : it.isVar = true) (rest : List Item) (fs : Vars) :
    specItems env cfg cbs D cur disc ext outer ae (it :: rest) fs =
      match varItem cfg disc ae it fs with
      | some (.ok (o, fs')) =>
        (match specItems env cfg cbs D cur disc ext outer ae rest fs' with
         | .error e => .error e
         | .ok (o', fs'') => .ok (o ++ o', fs''))
      | some (.error e) => .error e
      | none => .error [.unsupported] := by
  cases it <;> first | rfl | cases h

/-- `stepItems` on a list is `stepItems` on its parts, the parent switch included -/
theorem stepItems_append (rd : Rd) (rec : Rec) (xs ys : List Item) :
    ∀ (parent : Option (List Item)) (st : St), stepItems rd rec parent (xs ++ ys) st =
      Res3.bind (stepItems rd rec parent xs st) (fun st' p' => stepItems rd rec p' ys st') := by
  induction xs with
  | nil =>
    intro parent st
    simp only [List.nil_append, stepItems, Res3.bind]
    cases stepItems rd rec parent ys st with
    | error e => rfl
    | ok q => simp
  | cons it rest ih =>
    intro parent st
    cases hv : it.isVar with
    | true =>
      rw [List.cons_append, stepItems_var _ _ _ hv, stepItems_var _ _ _ hv]
      cases varItem rd.cfg (rd.disc0 || parent.isSome) rd.ae it st.frames with
      | none => rfl
      | some r => cases r with
        | error e => rfl
        | ok q => simp only [ih]; exact (bind_andThen _ _ _).symm
    | false =>
      -- every arm ends in `continue_`, where `bind_andThen` applies (that is all of `super`, `incl`);
      -- what is left: `Res3.bind` commutes with the arm's guards and its match on a nested run
      cases it <;> simp only [List.cons_append, stepItems, ih, ← bind_andThen]
      case text | required | emitVar | setVar | defMacro | defMacroV | emitAttr | emitKeys | callVar => cases hv
      case badTarget => rfl
      case callBlock | autoesc | setSuper => split <;> rfl
      case setSelf | importAs | fromImport =>
        split
        · rfl
        · split <;> rfl
      case «extends» | loop | inMacro =>
        split
        · rfl
        · split
          · rfl
          · split <;> rfl

/-- the block stacks hold exactly the definitions `D`, the definition being rendered is level
    `k` of block `cur`, and (where block references are allowed) every block that may still be
    entered has its cursor at 0 -/
structure Good (D : Nat → List (List Item)) (cur : Option Nat) (blk : Bool) (k : Nat) (st : St) : Prop where
  blocks : st.blocks = D
  level : ∀ n, cur = some n → st.depth n = k ∧ k < (D n).length
  above : blk = true → ∀ m, (∀ n, cur = some n → n < m) → st.depth m = 0

theorem Good.setFrames {D : Nat → List (List Item)} {cur : Option Nat} {blk : Bool} {k : Nat} {st : St}
    (h : Good D cur blk k st) (fs : Vars) : Good D cur blk k { st with frames := fs } :=
  ⟨h.blocks, h.level, h.above⟩

def WF (D : Nat → List (List Item)) : Prop :=
  ∀ (n k : Nat) (body : List Item), (D n)[k]? = some body → itemsOK (some n) true body = true

/-- state of the driver after it loaded `chain` (most-derived template first) -/
structure ChainSt (env : Env) (chain : List Nat) (st : St) : Prop where
  blocks : st.blocks = defs env chain
  depth : ∀ m, st.depth m = 0
  loaded : ∀ t, t ∈ st.loaded ↔ t ∈ chain.tail

theorem take_append_one {α : Type} (l : List α) (x : α) : (l ++ [x]).take l.length = l := by
  simp

/-- the spec's `super()` context `scur` mirrors the engine's `current_block`: the same block
    name, at the level the cursor of that block stands at, and every block of a higher rank has
    its cursor at 0 -/
structure SuperCtx (scur : Option (Nat × Nat)) (rcur : Option Nat) (st : St) : Prop where
  name : scur.map Prod.fst = rcur
  level : ∀ n j, scur = some (n, j) → st.depth n = j ∧ ∀ m, n < m → st.depth m = 0

theorem SuperCtx.setFrames {scur : Option (Nat × Nat)} {rcur : Option Nat} {st : St}
    (h : SuperCtx scur rcur st) (fs : Vars) : SuperCtx scur rcur { st with frames := fs } :=
  ⟨h.name, h.level⟩

theorem SuperCtx.none (st : St) : SuperCtx none none st :=
  ⟨rfl, fun _ _ h => by cases h⟩

theorem ChainSt.setFrames {env : Env} {chain : List Nat} {st : St} (h : ChainSt env chain st)
    (fs : Vars) : ChainSt env chain { st with frames := fs } :=
  ⟨h.blocks, h.depth, h.loaded⟩

theorem ChainSt.good {env : Env} {chain : List Nat} {st : St} (h : ChainSt env chain st) :
    Good (defs env chain) none true 0 st :=
  ⟨h.blocks, (by intro n hn; cases hn), fun _ m _ => h.depth m⟩

/-- between the statements of a layout `super()` refers to level 0 of the block the including tag
    stands in -/
theorem ChainSt.superCtx {env : Env} {chain : List Nat} {st : St} (h : ChainSt env chain st)
    (rcur : Option Nat) : SuperCtx (rcur.map (fun n => (n, 0))) rcur st := by
  cases rcur with
  | none => exact SuperCtx.none st
  | some r => exact ⟨rfl, fun n j hnj => by cases hnj; exact ⟨h.depth _, fun m _ => h.depth m⟩⟩

theorem Good.superCtx {D : Nat → List (List Item)} {n k : Nat} {st : St} (hg : Good D (some n) true k st) :
    SuperCtx (some (n, k)) (some n) st :=
  ⟨rfl, fun n' j h' => by
    cases h'
    exact ⟨(hg.level n rfl).1, fun m hm => hg.above rfl m (by intro n' hn'; cases hn'; exact hm)⟩⟩

/-- driver = spec one nesting level further down, for every well-formed `D` -/
structure Hyp (env : Env) (ctx : Cfg) (f : Nat) : Prop where
  list : ∀ (D : Nat → List (List Item)), WF D → ∀ (cur : Option Nat) (blk : Bool) (k : Nat)
      (scur : Option (Nat × Nat)) (rcur : Option Nat) (disc ext : Bool) (outer : Nat) (ae : AE)
      (items : List Item) (st : St),
      SuperCtx scur rcur st →
      itemsOK cur blk items = true → Good D cur blk k st →
      evalImpl env ctx f rcur disc ext outer ae items st =
        liftS ((specAll env ctx f).list D scur disc ext outer ae items st.frames) st
  /-- a layout run after `chain` was loaded; on success the state `fin` it leaves behind has loaded
      the whole chain that was followed -/
  chain : ∀ (chain : List Nat) (layout : List Item) (st : St) (rcur : Option Nat) (disc : Bool) (outer : Nat) (ae : AE),
      ChainSt env chain st → layoutOK layout = true → chain ≠ [] →
      ∃ more fin, ChainSt env (chain ++ more) fin ∧
        evalImpl env ctx f rcur disc false outer ae layout st =
          liftS ((specAll env ctx f).chain chain rcur disc outer ae layout st.frames) fin

theorem Hyp.body {env : Env} {ctx : Cfg} {f : Nat} (h : Hyp env ctx f)
    (D : Nat → List (List Item)) (hwf : WF D) (n k : Nat) (body : List Item) (disc : Bool) (outer : Nat) (ae : AE)
    (st : St) (hb : (D n)[k]? = some body) (hg : Good D (some n) true k st) :
    evalImpl env ctx f (some n) disc false outer ae body st =
      liftS ((specAll env ctx f).body D n k disc outer ae st.frames) st := by
  cases f with
  | zero => rfl
  | succ f =>
    have := h.list D hwf (some n) true k (some (n, k)) (some n) disc false outer ae body st hg.superCtx
      (hwf n k body hb) hg
    rw [this]
    simp only [specAll, hb]

theorem callBlock_sim {env : Env} {ctx : Cfg} {f : Nat} (h : Hyp env ctx f)
    (D : Nat → List (List Item)) (hwf : WF D) (cur : Option Nat) (k m : Nat) (disc : Bool) (outer : Nat) (ae : AE)
    (st : St) (hg : Good D cur true k st) (hm : ∀ n, cur = some n → n < m) :
    callBlock (evalImpl env ctx f) disc outer ae m st =
      liftS (specBlock (specAll env ctx f) D disc outer ae m st.frames) st := by
  have hd0 : st.depth m = 0 := hg.above rfl m hm
  unfold callBlock specBlock
  rw [show st.blocks m = D m from by rw [hg.blocks]]
  cases hDm : D m with
  | nil => rfl
  | cons b bs =>
    simp only [hd0, List.getElem?_cons_zero]
    generalize ((b :: bs).length == 1 && isRequired b) = c
    cases c with
    | true => rfl
    | false =>
      simp only [Bool.false_eq_true, if_false]
      cases hpf : pushFails outer st.frames with
      | true => rfl
      | false =>
        simp only [Bool.false_eq_true, if_false]
        have hb : (D m)[0]? = some b := by rw [hDm]; rfl
        have hg' : Good D (some m) true 0 { st with frames := st.frames.push [[]] } := by
          refine ⟨hg.blocks, ?_, ?_⟩
          · intro n hn; cases hn; exact ⟨hd0, by rw [hDm]; simp⟩
          · intro _ m' hm'
            apply hg.above rfl
            intro n hn
            exact Nat.lt_trans (hm n hn) (hm' m rfl)
        rw [h.body D hwf m 0 b disc outer ae _ hb hg']
        simp only []
        cases (specAll env ctx f).body D m 0 disc outer ae (st.frames.push [[]]) with
        | error e => rfl
        | ok r => rfl

theorem performSuper_sim {env : Env} {ctx : Cfg} {f : Nat} (h : Hyp env ctx f)
    (D : Nat → List (List Item)) (hwf : WF D) (scur : Option (Nat × Nat)) (rcur : Option Nat)
    (disc : Bool) (outer : Nat) (ae : AE) (st : St) (hb : st.blocks = D) (hsc : SuperCtx scur rcur st) :
    performSuper (evalImpl env ctx f) rcur disc outer ae st =
      liftS (specSuper (specAll env ctx f) D scur disc outer ae st.frames) st := by
  cases scur with
  | none =>
    have : rcur = none := by rw [← hsc.name]; rfl
    subst this
    rfl
  | some p =>
    obtain ⟨n, k⟩ := p
    have : rcur = some n := by rw [← hsc.name]; rfl
    subst this
    obtain ⟨hdn, habove⟩ := hsc.level n k rfl
    unfold performSuper specSuper
    simp only []
    rw [show st.blocks n = D n from by rw [hb], hdn]
    by_cases hlt : k + 1 < (D n).length
    · simp only [hlt, if_true]
      cases hpf : pushFails outer st.frames with
      | true => rfl
      | false =>
        simp only [Bool.false_eq_true, if_false]
        obtain ⟨body, hbody⟩ : ∃ body, (D n)[k + 1]? = some body := ⟨(D n)[k + 1], by simp [hlt]⟩
        simp only [hbody]
        have hg' : Good D (some n) true (k + 1)
            { st with depth := setAt st.depth n (k + 1), frames := st.frames.push [[]] } := by
          refine ⟨hb, ?_, ?_⟩
          · intro n' hn'; cases hn'; exact ⟨by simp [setAt], hlt⟩
          · intro _ m hm'
            have : n < m := hm' n rfl
            have hne : m ≠ n := by omega
            simp only [setAt, hne, if_false]
            exact habove m this
        rw [h.body D hwf n (k + 1) body disc outer ae _ hbody hg']
        simp only []
        cases (specAll env ctx f).body D n (k + 1) disc outer ae (st.frames.push [[]]) with
        | error e => rfl
        | ok r =>
          obtain ⟨o, fs⟩ := r
          have hset : setAt (setAt st.depth n (k + 1)) n (setAt st.depth n (k + 1) n - 1) = st.depth := by
            funext m; unfold setAt; by_cases h : m = n
            · subst h; simp [hdn]
            · simp [h]
          simp only [liftS, hset]
    · simp [hlt, liftS]

theorem initChainSt (env : Env) (t : Nat) (T : Template) (hT : env[t]? = some T) (st : St) :
    ChainSt env [t] { st with blocks := prepare T.blocks, depth := fun _ => 0, loaded := [] } := by
  refine ⟨?_, fun _ => rfl, fun x => by simp⟩
  funext n
  simp only [prepare, defs, List.filterMap_cons, List.filterMap_nil, blockOf, hT]
  cases lookupBlock n T.blocks <;> rfl

theorem appendBlocks_defs (env : Env) (chain : List Nat) (t : Nat) (T : Template)
    (h : env[t]? = some T) :
    appendBlocks (defs env chain) T.blocks = defs env (chain ++ [t]) := by
  funext n
  simp only [appendBlocks, defs, List.filterMap_append, List.filterMap_cons, List.filterMap_nil,
    blockOf, h]
  cases lookupBlock n T.blocks <;> simp

/-- the state after `LoadBlocks` of an existing template `t` that is not yet in the chain -/
theorem ChainSt.load {env : Env} {chain : List Nat} {st : St} (h : ChainSt env chain st) (hne : chain ≠ [])
    {t : Nat} {T : Template} (hT : env[t]? = some T) (fs : Vars) :
    ChainSt env (chain ++ [t])
      { blocks := appendBlocks st.blocks T.blocks, depth := st.depth, loaded := t :: st.loaded, frames := fs } := by
  refine ⟨by simp only [h.blocks]; exact appendBlocks_defs env chain t T hT, h.depth, fun t' => ?_⟩
  cases chain with
  | nil => exact absurd rfl hne
  | cons c cs =>
    have := h.loaded t'
    simp only [List.tail_cons] at this
    simp [this, or_comm]

theorem EnvOK.layout {env : Env} (henv : EnvOK env) {t : Nat} {T : Template} (hT : env[t]? = some T) :
    layoutOK T.layout = true := by
  have := henv T (List.mem_of_getElem? hT)
  simp only [templateOK, Bool.and_eq_true] at this
  exact this.1

theorem include_sim {env : Env} {ctx : Cfg} {f : Nat} (h : Hyp env ctx f) (henv : EnvOK env)
    (rcur : Option Nat) (disc ign : Bool) (outer : Nat) (names : List Cand) (tried : Bool) (st : St) :
    performInclude env (evalImpl env ctx f) rcur disc ign outer names tried st =
      liftS (specInclude env (specAll env ctx f) rcur disc ign outer names tried st.frames) st := by
  rw [performInclude_select, specInclude_select]
  cases hs : select env names tried with
  | loadError t k => rfl
  | notAString => rfl
  | nothing tr => simp only []; split <;> rfl
  | render t T =>
    obtain ⟨_, _, _, _, hT, _⟩ := select_render_inv env names tried t T hs
    simp only [includeTemplate, specIncludeTemplate]
    by_cases hd : outer + INCLUDE_COST + st.frames.length > LIMIT
    · simp only [hd, if_true]; rfl
    · simp only [hd, if_false]
      obtain ⟨_, fin, _, hc⟩ := h.chain [t] T.layout
        { st with blocks := prepare T.blocks, depth := fun _ => 0, loaded := [],
                  frames := st.frames.setTopClosure none } rcur disc
        (outer + INCLUDE_COST) T.ae (initChainSt env t T hT { st with frames := st.frames.setTopClosure none })
        (henv.layout hT) (by simp)
      rw [hc]
      cases (specAll env ctx f).chain [t] rcur disc (outer + INCLUDE_COST) T.ae T.layout
        (st.frames.setTopClosure none) with
      | error e => rfl
      | ok r => rfl

theorem loop_sim (run : St → Res) (run' : Vars → SRes) (st : St)
    (hrun : ∀ (fs : Vars), run { st with frames := fs } = liftS (run' fs) { st with frames := fs })
    (v : Nat) (vals : List String) (fl : Nat) :
    loopItems run v vals fl st = liftS (specLoop run' v vals fl st.frames) st := by
  unfold loopItems specLoop
  refine List.foldl_hom (fun acc' => liftS acc' st) (init := .ok ([], st.frames)) (fun acc' val => ?_)
  cases acc' with
  | error e => rfl
  | ok r =>
    obtain ⟨o, fs⟩ := r
    simp only [liftS, hrun ((fs.take fl).push [[(v, Val.str val)]])]
    cases run' ((fs.take fl).push [[(v, Val.str val)]]) with
    | error e => rfl
    | ok r' => rfl

theorem cont_finish (R' : SRes) (st : St) (p : Option (List Item)) (G : St → Res3) (S : Vars → SRes)
    (hG : ∀ fs, G { st with frames := fs } = liftS3 (S fs) st p) :
    Res.andThen (liftS R' st) G =
      liftS3 (match R' with
        | .error e => .error e
        | .ok (o, fs') =>
          match S fs' with
          | .error e => .error e
          | .ok (o', fs'') => .ok (o ++ o', fs'')) st p := by
  cases R' with
  | error e => rfl
  | ok r =>
    obtain ⟨o, fs'⟩ := r
    simp only [liftS, Res.andThen, hG fs']
    cases S fs' with
    | error e => rfl
    | ok r2 => rfl

/-- `cont_finish` for a nested run whose result `(o, fs')` is first turned into `(ψ o fs', φ o fs')` -/
theorem cont_finish_map (X : SRes) (st : St) (p : Option (List Item)) (G : St → Res3) (S : Vars → SRes)
    (hG : ∀ fs, G { st with frames := fs } = liftS3 (S fs) st p)
    (ψ : List String → Vars → List String) (φ : List String → Vars → Vars) :
    (match liftS X st with
      | .error e => .error e
      | .ok (o, st') => Res.andThen (.ok (ψ o st'.frames, { st' with frames := φ o st'.frames })) G) =
      liftS3 (match X with
        | .error e => .error e
        | .ok (o, fs') =>
          match S (φ o fs') with
          | .error e => .error e
          | .ok (o', fs'') => .ok (ψ o fs' ++ o', fs'')) st p := by
  cases X with
  | error e => rfl
  | ok r => exact cont_finish (.ok (ψ r.1 r.2, φ r.1 r.2)) st p G S hG

/-- a block reference that is executed (no parent pending) is allowed where it stands and goes to
    a block of higher rank than the current one -/
theorem ref_rank {cur : Option Nat} {blk p x : Bool} {m : Nat}
    (h : (blk && match cur with | some n => decide (n < m) | none => true) = true ∨ (p = true ∧ x = true))
    (hp : p = false) : blk = true ∧ ∀ n, cur = some n → n < m := by
  rcases h with h | h
  · rw [Bool.and_eq_true] at h
    exact ⟨h.1, fun n hn => by subst hn; simpa using h.2⟩
  · rw [hp] at h; cases h.1

theorem sim_all {env : Env} {ctx : Cfg} {f : Nat} (h : Hyp env ctx f) (henv : EnvOK env)
    (D : Nat → List (List Item)) (hwf : WF D)
    (cur : Option Nat) (blk : Bool) (k : Nat) (scur : Option (Nat × Nat)) (rcur : Option Nat)
    (disc0 ext0 : Bool) (outer : Nat) (ae : AE)
    (parent : Option (List Item))
    (items : List Item)
    (hit : ∀ it ∈ items, itemOK cur blk it = true ∨ (parent.isSome = true ∧ isExtends it = true))
    (st : St) (hsc : SuperCtx scur rcur st) (hg : Good D cur blk k st) :
    stepItems ⟨env, ctx, rcur, disc0, ext0, outer, ae⟩ (evalImpl env ctx f) parent items st =
      liftS3 (specItems env ctx (specAll env ctx f) D scur
          (disc0 || parent.isSome) (ext0 || parent.isSome) outer ae items st.frames) st parent := by
  induction items generalizing st with
  | nil => rfl
  | cons it rest ih =>
    have hit1 := hit it (by simp)
    have hG : ∀ fs, (fun st' => stepItems ⟨env, ctx, rcur, disc0, ext0, outer, ae⟩ (evalImpl env ctx f) parent rest st')
          { st with frames := fs } =
        liftS3 (specItems env ctx (specAll env ctx f) D scur
            (disc0 || parent.isSome) (ext0 || parent.isSome) outer ae rest fs) st parent := by
      intro fs
      exact ih (fun it hm => hit it (List.mem_cons_of_mem _ hm)) { st with frames := fs } (hsc.setFrames fs) (hg.setFrames fs)
    cases hv : it.isVar with
    | true =>
      rw [stepItems_var _ _ _ hv, specItems_var _ _ _ _ _ _ _ _ _ hv]
      cases varItem ctx (disc0 || parent.isSome) ae it st.frames with
      | none => rfl
      | some r =>
        cases r with
        | error e => rfl
        | ok r2 => exact cont_finish (.ok r2) st _ _ _ hG
    | false =>
    cases it with
    | callBlock m =>
      simp only [stepItems, specItems]
      cases hc : (ext0 || parent.isSome || (disc0 || parent.isSome)) with
      | true =>
        simp only [if_true]
        exact cont_finish (.ok ([], st.frames)) st _ _ _ hG
      | false =>
        simp only [Bool.false_eq_true, if_false]
        obtain ⟨rfl, hm⟩ := ref_rank hit1 (Bool.or_eq_false_iff.1 (Bool.or_eq_false_iff.1 hc).1).2
        rw [callBlock_sim h D hwf cur k m _ outer ae st hg hm]
        exact cont_finish _ st _ _ _ hG
    | super =>
      simp only [stepItems, specItems]
      rw [performSuper_sim h D hwf scur rcur _ outer ae st hg.blocks hsc]
      exact cont_finish _ st _ _ _ hG
    | setSuper v =>
      simp only [stepItems, specItems]
      rw [performSuper_sim h D hwf scur rcur false outer ae st hg.blocks hsc]
      exact cont_finish_map _ st _ _ _ hG (fun _ _ => []) (fun o fs' => store fs' v (captured ae o))
    | setSelf v m =>
      simp only [stepItems, specItems]
      cases hc : (ext0 || parent.isSome) with
      | true =>
        simp only [if_true]
        rw [hc] at hG
        exact cont_finish (.ok ([], store st.frames v (captured ae []))) st _ _ _ hG
      | false =>
        simp only [Bool.false_eq_true, if_false]
        obtain ⟨rfl, hm⟩ := ref_rank hit1 (Bool.or_eq_false_iff.1 hc).2
        rw [callBlock_sim h D hwf cur k m false outer ae st hg hm]
        rw [hc] at hG
        exact cont_finish_map _ st _ _ _ hG (fun _ _ => []) (fun o fs' => store fs' v (captured ae o))
    | «extends» exec t =>
      simp only [stepItems, specItems]
      cases exec with
      | false =>
        simp only [Bool.not_false, if_true]
        exact cont_finish (.ok ([], st.frames)) st _ _ _ hG
      | true =>
        have hp : parent.isSome = true := by
          rcases hit1 with h1 | h1
          · cases h1
          · exact h1.1
        simp only [hp, Bool.or_true, Bool.true_or]; rfl
    | incl a ign =>
      simp only [stepItems, specItems]
      rw [choices_eq_cands, include_sim h henv rcur _ ign outer a.cands false st, hsc.name]
      exact cont_finish _ st _ _ _ hG
    | importAs a v =>
      simp only [stepItems, specItems]
      cases hpf : pushFails outer st.frames with
      | true => rfl
      | false =>
        simp only [Bool.false_eq_true, if_false]
        rw [choices_eq_cands, include_sim h henv rcur false false outer a.cands false { st with frames := st.frames.push [[]] },
          hsc.name]
        exact cont_finish_map _ { st with frames := st.frames.push [[]] } _ _ _ hG (fun _ _ => [])
          (fun _ fs' => store (fs'.take st.frames.length) v (.module (dedupKeys (topFrame fs'))))
    | fromImport a name alias =>
      simp only [stepItems, specItems]
      cases hpf : pushFails outer st.frames with
      | true => rfl
      | false =>
        simp only [Bool.false_eq_true, if_false]
        rw [choices_eq_cands, include_sim h henv rcur true false outer a.cands false { st with frames := st.frames.push [[]] },
          hsc.name]
        exact cont_finish_map _ { st with frames := st.frames.push [[]] } _ _ _ hG (fun _ _ => [])
          (fun _ fs' => store (fs'.take st.frames.length) alias ((lookupVal name (topFrame fs')).getD .undef))
    | loop v vals body =>
      simp only [stepItems, specItems]
      cases hx : body.any isExtends with
      | true => rfl
      | false =>
        simp only [Bool.false_eq_true, if_false]
        cases hpf : pushFails outer st.frames with
        | true => rfl
        | false =>
          simp only [Bool.false_eq_true, if_false]
          have hok : itemsOK cur blk body = true := hit1.elim id (fun h1 => by cases h1.2)
          have hrun : ∀ fs : Vars,
              evalImpl env ctx f rcur (disc0 || parent.isSome) (ext0 || parent.isSome) outer ae body
                  { ({ st with frames := st.frames.push [[]] } : St) with frames := fs } =
                liftS ((specAll env ctx f).list D scur (disc0 || parent.isSome)
                  (ext0 || parent.isSome) outer ae body fs)
                  { ({ st with frames := st.frames.push [[]] } : St) with frames := fs } := by
            intro fs
            exact h.list D hwf cur blk k scur rcur _ _ outer ae body _ (hsc.setFrames fs) hok (hg.setFrames fs)
          rw [loop_sim _ _ { st with frames := st.frames.push [[]] } hrun v vals st.frames.length]
          exact cont_finish_map _ { st with frames := st.frames.push [[]] } _ _ _ hG (fun o _ => o)
            (fun _ fs' => fs'.take st.frames.length)
    | inMacro m arg val body =>
      simp only [stepItems, specItems]
      cases hx : body.any isExtends with
      | true => rfl
      | false =>
        simp only [Bool.false_eq_true, if_false]
        by_cases hd : outer + (store st.frames m Val.opaque).length + MACRO_COST + 2 > LIMIT
        · simp only [hd, if_true]; rfl
        · simp only [hd, if_false]
          have hok : itemsOK cur blk body = true := hit1.elim id (fun h1 => by cases h1.2)
          have hg2 : Good D cur blk k
              { st with frames := (store st.frames m Val.opaque).macroCtx arg (Val.str val) } :=
            hg.setFrames _
          have := h.list D hwf cur blk k none none false false
            (outer + (store st.frames m Val.opaque).length + MACRO_COST) ae body _ (SuperCtx.none _) hok hg2
          rw [this]
          cases (specAll env ctx f).list D none false false
              (outer + (store st.frames m Val.opaque).length + MACRO_COST) ae body
              ((store st.frames m Val.opaque).macroCtx arg (Val.str val)) with
          | error e => rfl
          | ok r =>
            obtain ⟨o, fs'⟩ := r
            simp only [liftS]
            exact cont_finish (.ok (if (disc0 || parent.isSome) = true then [] else o, store st.frames m .opaque)) st _ _ _ hG
    | badTarget => rfl
    | autoesc m body =>
      simp only [stepItems, specItems]
      cases hx : (body.any isExtends || decide (AE_NEST_MAX ≤ aeDepthL body)) with
      | true => rfl
      | false =>
        simp only [Bool.false_eq_true, if_false]
        have hok : itemsOK cur blk body = true := hit1.elim id (fun h1 => by cases h1.2)
        rw [h.list D hwf cur blk k scur rcur _ _ outer m body st hsc hok hg]
        exact cont_finish _ st _ _ _ hG
    | _ => cases hv

theorem itemsOK_iff (cur : Option Nat) (blk : Bool) (items : List Item) :
    itemsOK cur blk items = true ↔ ∀ it ∈ items, itemOK cur blk it = true := by
  induction items with
  | nil => simp [itemsOK]
  | cons it rest ih => simp [itemsOK, ih]

theorem splitExtends_none (layout : List Item) (hs : splitExtends layout = none)
    (hok : layoutOK layout = true) : ∀ it ∈ layout, itemOK none true it = true := by
  fun_induction splitExtends layout with
  | case1 => intro it h; cases h
  | case2 t rest => cases hs
  | case3 it rest hne hr ih =>
    rw [layoutOK.eq_3 it rest hne, Bool.and_eq_true] at hok
    exact List.forall_mem_cons.2 ⟨hok.1, ih hr hok.2⟩
  | case4 it rest hne pre t post hr ih => cases hs

theorem splitExtends_some (layout pre post : List Item) (t : Nat)
    (hs : splitExtends layout = some (pre, t, post)) (hok : layoutOK layout = true) :
    layout = pre ++ .extends true t :: post ∧ (∀ it ∈ pre, itemOK none true it = true) ∧
      (∀ it ∈ post, itemOK none true it = true ∨ isExtends it = true) := by
  fun_induction splitExtends layout generalizing pre with
  | case1 => cases hs
  | case2 t' rest =>
    cases hs
    rw [layoutOK.eq_2, List.all_eq_true] at hok
    exact ⟨rfl, (by intro it h; cases h), fun it h => (Bool.or_eq_true _ _ ▸ hok it h).symm⟩
  | case3 it rest hne hr ih => cases hs
  | case4 it rest hne pre' t' post' hr ih =>
    cases hs
    rw [layoutOK.eq_3 it rest hne, Bool.and_eq_true] at hok
    obtain ⟨h1, h2, h3⟩ := ih pre' hr hok.2
    exact ⟨by rw [h1]; rfl, List.forall_mem_cons.2 ⟨hok.1, h2⟩, h3⟩

theorem lookupBlock_mem (n : Nat) (bs : List (Nat × List Item)) (b : List Item)
    (h : lookupBlock n bs = some b) : (n, b) ∈ bs := by
  fun_induction lookupBlock n bs with
  | case1 => cases h
  | case2 b' rest => cases h; exact List.mem_cons_self
  | case3 m b' rest hm ih => exact List.mem_cons_of_mem _ (ih h)

theorem WF_defs (env : Env) (henv : EnvOK env) (chain : List Nat) : WF (defs env chain) := by
  intro n k body hb
  have hmem : body ∈ defs env chain n := List.mem_of_getElem? hb
  simp only [defs, List.mem_filterMap] at hmem
  obtain ⟨i, _, hi⟩ := hmem
  simp only [blockOf] at hi
  cases hT : env[i]? with
  | none => simp [hT] at hi
  | some T =>
    simp only [hT] at hi
    have hTm : T ∈ env := List.mem_of_getElem? hT
    have := henv T hTm
    simp only [templateOK, Bool.and_eq_true, List.all_eq_true] at this
    exact this.2 (n, body) (lookupBlock_mem n T.blocks body hi)

theorem hyp_zero (env : Env) (ctx : Cfg) : Hyp env ctx 0 :=
  ⟨fun _ _ _ _ _ _ _ _ _ _ _ _ _ _ _ _ => rfl,
   fun _ _ st _ _ _ _ hst _ _ => ⟨[], st, by simpa using hst, rfl⟩⟩

theorem hyp_succ (env : Env) (ctx : Cfg) (henv : EnvOK env) (f : Nat) (h : Hyp env ctx f) :
    Hyp env ctx (f + 1) := by
  constructor
  · intro D hwf cur blk k scur rcur disc ext outer ae items st hsc hok hg
    have hp := sim_all h henv D hwf cur blk k scur rcur disc ext outer ae none items
      (fun it hm => Or.inl ((itemsOK_iff cur blk items).1 hok it hm)) st hsc hg
    simp only [Option.isSome_none, Bool.or_false] at hp
    simp only [evalImpl, hp, specAll]
    cases specItems env ctx (specAll env ctx f) D scur disc ext outer ae items st.frames with
    | error e => rfl
    | ok r => rfl
  · intro chain layout st rcur disc outer ae hst hlay hne
    -- whenever the run fails, any state serves as `fin`
    have herr : ∀ e : Err, ∃ more fin, ChainSt env (chain ++ more) fin ∧
        (Except.error e : Res) = liftS (.error e) fin :=
      fun e => ⟨[], st, by simpa using hst, rfl⟩
    simp only [evalImpl, specAll, specChain]
    cases hs : splitExtends layout with
    | none =>
      have hp := sim_all h henv _ (WF_defs env henv chain) none true 0 _ rcur disc false outer ae none layout
        (fun it hm => Or.inl (splitExtends_none layout hs hlay it hm)) st (hst.superCtx rcur) hst.good
      simp only [Option.isSome_none, Bool.or_false] at hp
      rw [hp]
      cases specItems env ctx (specAll env ctx f) (defs env chain) (rcur.map (fun n => (n, 0))) disc false
          outer ae layout st.frames with
      | error e => exact herr e
      | ok r => exact ⟨[], { st with frames := r.2 }, by simpa using hst.setFrames r.2, rfl⟩
    | some r =>
      obtain ⟨pre, t, post⟩ := r
      obtain ⟨hl, hpre, hpost⟩ := splitExtends_some layout pre post t hs hlay
      have hp := sim_all h henv _ (WF_defs env henv chain) none true 0 _ rcur disc false outer ae none pre
        (fun it hm => Or.inl (hpre it hm)) st (hst.superCtx rcur) hst.good
      simp only [Option.isSome_none, Bool.or_false] at hp
      rw [hl, stepItems_append, hp]
      simp only []
      cases specItems env ctx (specAll env ctx f) (defs env chain) (rcur.map (fun n => (n, 0))) disc false
          outer ae pre st.frames with
      | error e => exact herr e
      | ok r1 =>
        obtain ⟨o, fs1⟩ := r1
        simp only [liftS3, Res3.bind, stepItems, Bool.not_true, Bool.false_eq_true, if_false, Option.isSome_none, loadBlocks]
        by_cases hmem : t ∈ st.loaded
        · simpa [hmem, (hst.loaded t).1 hmem] using herr _
        · have hmem' : t ∉ chain.tail := fun h' => hmem ((hst.loaded t).2 h')
          simp only [hmem, hmem', if_false]
          cases hT : env[t]? with
          | none => exact herr _
          | some T =>
            simp only []
            cases hL : T.loadErr with
            | some kk => exact herr _
            | none =>
            simp only []
            have hst1 := fun fs => hst.load hne hT (T := T) fs
            have hp2 := sim_all h henv _ (WF_defs env henv (chain ++ [t])) none true 0 _ rcur disc false outer ae
              (some T.layout) post (fun it hm => (hpost it hm).elim Or.inl (fun hx => Or.inr ⟨rfl, hx⟩))
              _ ((hst1 fs1).superCtx rcur) (hst1 fs1).good
            simp only [Option.isSome_some, Bool.or_true] at hp2
            rw [hp2]
            cases specItems env ctx (specAll env ctx f) (defs env (chain ++ [t])) (rcur.map (fun n => (n, 0)))
                true true outer ae post fs1 with
            | error e => exact herr e
            | ok r2 =>
              obtain ⟨o2, fs2⟩ := r2
              obtain ⟨more, fin, hfin, hc⟩ := h.chain (chain ++ [t]) T.layout _ rcur disc outer ae (hst1 fs2)
                (henv.layout hT) (by simp)
              simp only [liftS3] at hc ⊢
              rw [hc]
              cases (specAll env ctx f).chain (chain ++ [t]) rcur disc outer ae T.layout fs2 with
              | error e => exact herr e
              | ok r3 => exact ⟨t :: more, _, by simpa using hfin, rfl⟩

theorem hyp_all (env : Env) (ctx : Cfg) (henv : EnvOK env) : ∀ f, Hyp env ctx f
  | 0 => hyp_zero env ctx
  | f + 1 => hyp_succ env ctx henv f (hyp_all env ctx henv f)

theorem specRender_loaded {env : Env} {main : Nat} {T : Template} (hT : env[main]? = some T)
    (hL : T.loadErr = none) (ctx : Cfg) (fuel : Nat) :
    specRender env ctx fuel main =
      match (specAll env ctx fuel).chain [main] none false 0 T.ae T.layout Vars.init with
      | .error e => .error e
      | .ok (o, _) => .ok o := by
  simp only [specRender, hT, hL]; rfl

theorem render_loaded {env : Env} {main : Nat} {T : Template} (hT : env[main]? = some T)
    (hL : T.loadErr = none) (ctx : Cfg) (fuel : Nat) :
    render env ctx fuel main =
      match evalImpl env ctx fuel none false false 0 T.ae T.layout (initSt T) with
      | .error e => .error e
      | .ok (o, _) => .ok o := by
  simp only [render, hT, hL]; rfl

end MJ.Blocks
