import MJ.Proofs.Scoping
import MJ.Proofs.EvalFrame
import MJ.Proofs.ArgBind
/-!
# Plain data (C03)

The values that flow through expressions of the fragment are *plain data*: `undefined`, `none`,
booleans, integers, strings, lists and maps of plain data — never a macro, a keyword-argument bundle
or another object of the VM.  (Macro values only sit in variables with macro names, `wfExpr`.)
This is what makes the calling convention of `Value::call` harmless inside the fragment: a positional
argument is never taken for the keyword bundle (`callArgs_plain`).
-/
namespace MJ.Eval
open MJ.Compile

mutual
  def plain : Val → Bool
    | .undef => true
    | .none => true
    | .bool _ => true
    | .int _ => true
    | .str _ => true
    | .list xs => plainL xs
    | .map kvs => plainM kvs
    | .macro .. => false
    | .vmMacro .. => false
    | .kwargs _ => false
    | .loopObj _ => false
  def plainL : List Val → Bool
    | [] => true
    | x :: xs => plain x && plainL xs
  def plainM : List (String × Val) → Bool
    | [] => true
    | (_, v) :: rest => plain v && plainM rest
end

theorem plainL_iff : ∀ (xs : List Val), plainL xs = true ↔ ∀ x, x ∈ xs → plain x = true
  | [] => by simp [plainL]
  | x :: xs => by simp [plainL, plainL_iff xs]

theorem plainM_iff : ∀ (kvs : List (String × Val)), plainM kvs = true ↔ ∀ kv, kv ∈ kvs → plain kv.2 = true
  | [] => by simp [plainM]
  | (k, v) :: rest => by simp [plainM, plainM_iff rest]

theorem assocGet_mem' {α : Type} {k : String} {l : List (String × α)} {v : α} (h : assocGet k l = some v) : (k, v) ∈ l :=
  MJ.ArgBind.assocGet_mem h

theorem plainM_get {kvs : List (String × Val)} (h : plainM kvs = true) {k : String} {v : Val}
    (hg : assocGet k kvs = some v) : plain v = true :=
  (plainM_iff kvs).1 h (k, v) (assocGet_mem' hg)

theorem plainM_getD {kvs : List (String × Val)} (h : plainM kvs = true) (k : String) :
    plain ((assocGet k kvs).getD .undef) = true := by
  cases hg : assocGet k kvs with
  | none => rfl
  | some v => exact plainM_get h hg

theorem plain_str_map {α : Type} (f : α → String) (l : List α) : plainL (l.map fun a => Val.str (f a)) = true := by
  rw [plainL_iff]; intro x hx
  obtain ⟨a, _, rfl⟩ := List.mem_map.1 hx; rfl

theorem mapInsert_plain (k : String) (v : Val) (hv : plain v = true) : ∀ (m : List (String × Val)), plainM m = true →
    plainM (mapInsert k v m) = true := by
  intro m h
  fun_induction mapInsert k v m <;> simp_all [plainM]

theorem filter_plainM (p : String × Val → Bool) (m : List (String × Val)) (h : plainM m = true) :
    plainM (m.filter p) = true := by
  rw [plainM_iff] at h ⊢
  intro kv hkv; exact h kv (List.mem_filter.1 hkv).1

theorem insertPairs_plain : ∀ (ps : List (Val × Val)) (acc m : List (String × Val)),
    (∀ p, p ∈ ps → plain p.2 = true) → plainM acc = true → insertPairs ps acc = .ok m → plainM m = true := by
  intro ps acc m hp ha h
  fun_induction insertPairs ps acc
  case case1 => cases h; exact ha
  case case2 k v rest acc ih =>
    have hv : plain v = true := hp (.str k, v) (by simp)
    refine ih (fun p hp' => hp p (by simp [hp'])) ?_ h
    split
    · exact mapInsert_plain k v hv _ (filter_plainM _ _ ha)
    · exact mapInsert_plain k v hv _ ha
  case case3 => cases h

theorem litVal_plain (l : Lit) : plain (litVal l) = true := by cases l <;> rfl

theorem chkInt_plain {i : Int} {v : Val} (h : chkInt i = .ok v) : plain v = true := by
  unfold chkInt at h; split at h
  · cases h; rfl
  · cases h

theorem intOp_plain {f : Int → Int → Res Val} (hf : ∀ x y v, f x y = .ok v → plain v = true) {a b v : Val}
    (h : intOp f a b = .ok v) : plain v = true := by
  unfold intOp at h
  split at h
  · exact hf _ _ _ h
  · cases h

theorem repeatStr_plain {x : String} {n : Int} {v : Val} (h : repeatStr x n = .ok v) : plain v = true := by
  revert h
  fun_cases repeatStr x n <;> intro h <;> cases h <;> rfl

theorem arith_plain {op : BinOp} {a b v : Val} (h : arith op a b = .ok v) : plain v = true := by
  revert h
  fun_cases arith op a b <;> intro h
  all_goals try (cases h; done)
  case case1 => cases h; rfl
  case case5 => exact repeatStr_plain h
  case case6 => exact repeatStr_plain h
  case case15 =>
    refine intOp_plain (fun x y v h => ?_) h
    unfold floordivInt at h; split at h
    · cases h
    · exact chkInt_plain h
  case case16 =>
    refine intOp_plain (fun x y v h => ?_) h
    unfold remInt at h; split at h
    · cases h
    · exact chkInt_plain h
  all_goals exact intOp_plain (fun _ _ _ h => chkInt_plain h) h

theorem negVal_plain {a v : Val} (h : negVal a = .ok v) : plain v = true := by
  cases a <;> simp [negVal] at h
  exact chkInt_plain h

theorem getAttr_plain {a v : Val} {name : String} (ha : plain a = true) (h : getAttr a name = .ok v) : plain v = true := by
  cases a <;> simp [getAttr] at h <;> try (subst h; rfl)
  · rename_i kvs; subst h; exact plainM_getD (by simpa [plain] using ha) name

theorem getItem_plain {a i v : Val} (ha : plain a = true) (h : getItem a i = .ok v) : plain v = true := by
  revert h
  fun_cases getItem a i <;> intro h <;> cases h
  case case2 kvs k => exact plainM_getD (by simpa [plain] using ha) k
  case case3 xs n =>
    cases hx : indexList xs n with
    | none => rfl
    | some x => exact (plainL_iff xs).1 (by simpa [plain] using ha) x (indexList_mem hx)
  case case4 s n => cases indexList s.toList n <;> rfl
  case case7 => rfl

theorem iterate_plain {a : Val} {xs : List Val} (ha : plain a = true) (h : iterate a = .ok xs) : plainL xs = true := by
  cases a <;> simp [iterate] at h
  · subst h; rfl
  · subst h; rfl
  · subst h; exact plain_str_map _ _
  · subst h; simpa [plain] using ha
  · subst h; exact plain_str_map (fun kv : String × Val => kv.1) _

theorem applyFilter_plain {name : String} {a v : Val} {args : List Val} (ha : plain a = true)
    (hargs : ∀ x, x ∈ args → plain x = true) (h : applyFilter name a args = .ok v) : plain v = true := by
  revert h
  fun_cases applyFilter name a args <;> intro h
  all_goals try (cases h; done)
  all_goals try (cases h; rfl)
  case case7 => cases h; split <;> first | rfl | exact ha
  case case8 d => cases h; split <;> first | exact hargs d (by simp) | exact ha
  case case9 d lax =>
    cases h
    have hd := hargs d (by simp)
    split
    · exact hd
    · split <;> first | exact hd | exact ha
  case case10 => obtain ⟨xs, _, rfl⟩ := map_ok.1 h; rfl
  case case11 => obtain ⟨xs, _, rfl⟩ := map_ok.1 h; rfl
  case case12 s => cases h; cases s.toList.head? <;> rfl
  case case13 xs =>
    cases h
    cases hx : xs.head? with
    | none => rfl
    | some x => exact (plainL_iff xs).1 (by simpa [plain] using ha) x (List.mem_of_mem_head? hx)
  case case14 kvs => cases h; cases kvs.head? <;> rfl
  case case16 s => cases h; cases s.toList.getLast? <;> rfl
  case case17 xs =>
    cases h
    cases hx : xs.getLast? with
    | none => rfl
    | some x => exact (plainL_iff xs).1 (by simpa [plain] using ha) x (List.mem_of_getLast? hx)
  case case19 => obtain ⟨xs, hi, rfl⟩ := map_ok.1 h; simpa [plain] using iterate_plain ha hi

theorem wfArgs_call {M P A} : ∀ {args : List (Option String × Expr)}, wfArgs M P A args = true → wfCallArgs M P A args = true
  | [], _ => rfl
  | (none, e) :: rest, h => by
    have h' : wfExpr M P A e = true ∧ wfArgs M P A rest = true := by simpa [wfArgs] using h
    simp [wfCallArgs, h'.1, wfArgs_call h'.2]
  | (some _, _) :: _, h => by simp [wfArgs] at h

/-- the render context and every variable that is not a macro name hold plain data -/
def PlainSt (M : List String) (ctx : Scope) (heap : Heap) : Prop :=
  (∀ x v, assocGet x ctx = some v → plain v = true) ∧
  (∀ (id : Nat) (cell : Scope) (x : String) (v : Val), heap[id]? = some cell → x ∉ M → assocGet x cell = some v → plain v = true)

theorem PlainSt.lookupIn {M ctx heap} (h : PlainSt M ctx heap) {x : String} (hx : x ∉ M) {v : Val} :
    ∀ {st : List Nat}, lookupIn heap x st = some v → plain v = true
  | [], hl => by simp [MJ.Eval.lookupIn] at hl
  | id :: rest, hl => by
    simp only [MJ.Eval.lookupIn] at hl
    cases hc : heap[id]? with
    | none => rw [hc] at hl; simp at hl; exact PlainSt.lookupIn h hx hl
    | some cell =>
      rw [hc] at hl
      simp only [Option.bind_some] at hl
      cases hg : assocGet x cell with
      | none => rw [hg] at hl; exact PlainSt.lookupIn h hx hl
      | some w => rw [hg] at hl; cases hl; exact h.2 id cell x _ hc hx hg

theorem PlainSt.lookup {M ctx heap} (h : PlainSt M ctx heap) {x : String} (hx : x ∉ M) (st : List Nat) :
    plain ((lookup ctx heap st x).getD .undef) = true := by
  unfold MJ.Eval.lookup
  cases hl : MJ.Eval.lookupIn heap x st with
  | some v => exact h.lookupIn hx hl
  | none =>
    cases hc : assocGet x ctx with
    | none => rfl
    | some v => exact h.1 x v hc

theorem callValue_str {n ctx heap w as v} (h : callValue n ctx heap w as = .ok v) : ∃ s, v = .str s := by
  cases n with
  | zero => simp [callValue] at h
  | succ m =>
    simp only [callValue] at h
    split at h
    · split at h
      · cases h
      · split at h
        · cases h
        · split at h
          · cases h
          · cases h; exact ⟨_, rfl⟩
          · cases h
    · cases h

section
variable {M : List String} {ctx : Scope} {heap : Heap} {st : List Nat} (hp : PlainSt M ctx heap)
include hp

mutual
theorem evalExpr_plain {P A} : ∀ (n : Nat) (e : Expr) (v : Val), wfExpr M P A e = true →
    evalExpr n ctx heap st e = .ok v → plain v = true
  | 0, _, _, _, h => by simp [evalExpr] at h
  | n + 1, e, v, hw, h => by
    cases e with
    | const l => simp [evalExpr] at h; subst h; exact litVal_plain l
    | var x =>
      simp [evalExpr] at h; subst h
      have hx : ¬ x ∈ M := by have := hw; simp [wfExpr] at this; exact this.1
      exact hp.lookup hx st
    | unop op e =>
      cases op <;> simp only [evalExpr, bind_ok] at h <;> obtain ⟨a, _, h⟩ := h
      · cases h; rfl
      · exact negVal_plain h
    | binop op l r =>
      have hw' : wfExpr M P A l = true ∧ wfExpr M P A r = true := by simpa [wfExpr] using hw
      cases op
      case and =>
        simp only [evalExpr, bind_ok] at h
        obtain ⟨a, ha, h⟩ := h
        split at h
        · exact evalExpr_plain n r v hw'.2 h
        · cases h; exact evalExpr_plain n l _ hw'.1 ha
      case or =>
        simp only [evalExpr, bind_ok] at h
        obtain ⟨a, ha, h⟩ := h
        split at h
        · cases h; exact evalExpr_plain n l _ hw'.1 ha
        · exact evalExpr_plain n r v hw'.2 h
      all_goals
        simp only [evalExpr, bind_ok] at h
        obtain ⟨a, _, b, _, h⟩ := h
        first
          | exact arith_plain h
          | (cases h; rfl)
          | (obtain ⟨_, _, rfl⟩ := map_ok.1 h; rfl)
    | cmp e ops =>
      have hw' : (decide (2 ≤ ops.length) = true ∧ wfExpr M P A e = true) ∧ wfChain M P A ops = true := by
        simpa [wfExpr] using hw
      simp only [evalExpr, bind_ok] at h
      obtain ⟨a, _, h⟩ := h
      exact evalChain_plain n _ ops v hw'.2 h
    | ife c t f =>
      cases f with
      | none =>
        have hw' : wfExpr M P A c = true ∧ wfExpr M P A t = true := by simpa [wfExpr] using hw
        simp only [evalExpr, bind_ok] at h
        obtain ⟨cv, _, h⟩ := h
        split at h
        · exact evalExpr_plain n t v hw'.2 h
        · cases h; rfl
      | some f =>
        have hw' : (wfExpr M P A c = true ∧ wfExpr M P A t = true) ∧ wfExpr M P A f = true := by simpa [wfExpr] using hw
        simp only [evalExpr, bind_ok] at h
        obtain ⟨cv, _, h⟩ := h
        split at h
        · exact evalExpr_plain n t v hw'.1.2 h
        · exact evalExpr_plain n f v hw'.2 h
    | filter name e args =>
      have hw' : wfExpr M P A e = true ∧ wfArgs M P A args = true := by simpa [wfExpr] using hw
      simp only [evalExpr, bind_ok] at h
      obtain ⟨a, ha, as, has, h⟩ := h
      split at h
      · exact applyFilter_plain (evalExpr_plain n e a hw'.1 ha)
          (fun x hx => evalArgs_plain n args as (wfArgs_call hw'.2) has x (mem_splitArgs_pos hx)) h
      · cases h
    | test name e args =>
      simp only [evalExpr, bind_ok] at h
      obtain ⟨a, _, as, _, h⟩ := h
      split at h
      · obtain ⟨_, _, rfl⟩ := map_ok.1 h; rfl
      · cases h
    | getattr e name =>
      simp only [evalExpr, bind_ok] at h
      obtain ⟨a, ha, h⟩ := h
      exact getAttr_plain (evalExpr_plain n e a (by simpa [wfExpr] using hw) ha) h
    | getitem e i =>
      have hw' : wfExpr M P A e = true ∧ wfExpr M P A i = true := by simpa [wfExpr] using hw
      simp only [evalExpr, bind_ok] at h
      obtain ⟨a, ha, b, _, h⟩ := h
      exact getItem_plain (evalExpr_plain n e a hw'.1 ha) h
    | call f args =>
      cases f <;> try (simp [wfExpr] at hw; done)
      simp only [evalExpr, bind, Except.bind] at h
      split at h
      · split at h
        · cases h
        · obtain ⟨s, rfl⟩ := callValue_str h; rfl
      · cases h
    | list items =>
      simp only [evalExpr, bind_ok] at h
      obtain ⟨vs, hvs, h⟩ := h
      cases h
      exact evalList_plain n items vs (by simpa [wfExpr] using hw) hvs
    | map kvs =>
      simp only [evalExpr, bind_ok] at h
      obtain ⟨ps, hps, m, hm, h⟩ := h
      cases h
      exact insertPairs_plain ps [] m (evalPairs_plain n kvs ps (by simpa [wfExpr] using hw) hps) rfl hm
theorem evalChain_plain {P A} : ∀ (n : Nat) (a : Val) (ops : List (CmpOp × Expr)) (v : Val), wfChain M P A ops = true →
    evalChain n ctx heap st a ops = .ok v → plain v = true
  | 0, _, _, _, _, h => by simp [evalChain] at h
  | _ + 1, _, [], v, _, h => by simp [evalChain] at h; subst h; rfl
  | n + 1, a, (op, e) :: rest, v, hw, h => by
    have hw' : wfExpr M P A e = true ∧ wfChain M P A rest = true := by simpa [wfChain] using hw
    simp only [evalChain, bind_ok] at h
    obtain ⟨b, _, r, _, h⟩ := h
    split at h
    · exact evalChain_plain n _ rest v hw'.2 h
    · cases h; rfl
/-- all argument values (positional and keyword) -/
theorem evalArgs_plain {P A} : ∀ (n : Nat) (args : Args) (as : List (Option String × Val)), wfCallArgs M P A args = true →
    evalArgs n ctx heap st args = .ok as → ∀ x, x ∈ as.map (·.2) → plain x = true
  | 0, _, _, _, h => by simp [evalArgs] at h
  | _ + 1, [], as, _, h => by simp [evalArgs] at h; subst h; simp
  | n + 1, (k, e) :: rest, as, hw, h => by
    have hw' : wfExpr M P A e = true ∧ wfCallArgs M P A rest = true := by simpa [wfCallArgs] using hw
    simp only [evalArgs, bind_ok] at h
    obtain ⟨v, hv, vs, hvs, h⟩ := h
    cases h
    intro x hx
    simp only [List.map_cons, List.mem_cons] at hx
    rcases hx with rfl | hx
    · exact evalExpr_plain n e _ hw'.1 hv
    · exact evalArgs_plain n rest vs hw'.2 hvs x hx
theorem evalList_plain {P A} : ∀ (n : Nat) (es : List Expr) (vs : List Val), wfList M P A es = true →
    evalList n ctx heap st es = .ok vs → plain (.list vs) = true
  | 0, _, _, _, h => by simp [evalList] at h
  | _ + 1, [], vs, _, h => by simp [evalList] at h; subst h; rfl
  | n + 1, e :: rest, vs, hw, h => by
    have hw' : wfExpr M P A e = true ∧ wfList M P A rest = true := by simpa [wfList] using hw
    simp only [evalList, bind_ok] at h
    obtain ⟨v, hv, vs', hvs, h⟩ := h
    cases h
    have h1 := evalExpr_plain n e v hw'.1 hv
    have h2 := evalList_plain n rest vs' hw'.2 hvs
    simp only [plain] at h2 ⊢
    simp [plainL, h1, h2]
theorem evalPairs_plain {P A} : ∀ (n : Nat) (kvs : List (Expr × Expr)) (ps : List (Val × Val)), wfPairs M P A kvs = true →
    evalPairs n ctx heap st kvs = .ok ps → ∀ p, p ∈ ps → plain p.2 = true
  | 0, _, _, _, h => by simp [evalPairs] at h
  | _ + 1, [], ps, _, h => by simp [evalPairs] at h; subst h; simp
  | n + 1, (k, e) :: rest, ps, hw, h => by
    have hw' : (wfExpr M P A k = true ∧ wfExpr M P A e = true) ∧ wfPairs M P A rest = true := by simpa [wfPairs] using hw
    simp only [evalPairs, bind_ok] at h
    obtain ⟨kv, _, v, hv, ps', hps, h⟩ := h
    cases h
    intro p hp'
    rcases List.mem_cons.1 hp' with rfl | hp'
    · exact evalExpr_plain n e v hw'.1.2 hv
    · exact evalPairs_plain n rest ps' hw'.2 hps p hp'
end
end

theorem applyFilters_plain {M : List String} {ctx : Scope} {heap : Heap} {st : List Nat} (hp : PlainSt M ctx heap) {P A} :
    ∀ (n : Nat) (v : Val) (fs : List FilterApp) (v' : Val), plain v = true → wfFilters M P A fs = true →
      applyFilters n ctx heap st v fs = .ok v' → plain v' = true
  | 0, _, _, _, _, _, h => by simp [applyFilters] at h
  | _ + 1, v, [], v', hv, _, h => by simp [applyFilters] at h; subst h; exact hv
  | n + 1, v, (name, args) :: rest, v', hv, hw, h => by
    have hw' : wfArgs M P A args = true ∧ wfFilters M P A rest = true := by simpa [wfFilters] using hw
    simp only [applyFilters, bind_ok] at h
    obtain ⟨as, has, h⟩ := h
    split at h
    · simp only [bind_ok] at h
      obtain ⟨v1, hv1, h⟩ := h
      exact applyFilters_plain hp n v1 rest v'
        (applyFilter_plain hv (fun x hx => evalArgs_plain hp n args as (wfArgs_call hw'.1) has x (mem_splitArgs_pos hx)) hv1)
        hw'.2 h
    · cases h

/-- a plain positional argument is never taken for the keyword-argument bundle -/
theorem callArgs_plain {as : List (Option String × Val)} (h : ∀ v, v ∈ (splitArgs as).1 → plain v = true) :
    callArgs as = ((splitArgs as).1, (splitArgs as).2) := by
  unfold callArgs
  cases hk : (splitArgs as).2 with
  | cons k ks => rfl
  | nil =>
    simp only
    cases hl : (splitArgs as).1.getLast? with
    | none => rfl
    | some lastv =>
      have hm : lastv ∈ (splitArgs as).1 := List.mem_of_getLast? hl
      have := h lastv hm
      cases lastv <;> first | rfl | (simp [plain] at this)

mutual
theorem bindTarget_plain : ∀ (t : Target) (v : Val) (bs : List (String × Val)), plain v = true →
    bindTarget t v = .ok bs → ∀ b, b ∈ bs → plain b.2 = true
  | .var x, v, bs, hv, h => by
    simp [bindTarget] at h; subst h
    intro b hb; simp at hb; subst hb; exact hv
  | .tuple ts, v, bs, hv, h => by
    cases v <;> try (simp [bindTarget] at h; done)
    · rename_i xs
      simp only [bindTarget] at h
      exact bindTargets_plain ts xs bs ((plainL_iff xs).1 (by simpa [plain] using hv)) h
    · rename_i kvs
      simp only [bindTarget] at h
      exact bindTargets_plain ts _ bs ((plainL_iff _).1 (plain_str_map (fun kv : String × Val => kv.1) kvs)) h
theorem bindTargets_plain : ∀ (ts : List Target) (vs : List Val) (bs : List (String × Val)), (∀ v, v ∈ vs → plain v = true) →
    bindTargets ts vs = .ok bs → ∀ b, b ∈ bs → plain b.2 = true
  | [], [], bs, _, h => by simp [bindTargets] at h; subst h; simp
  | [], _ :: _, _, _, h => by simp [bindTargets] at h
  | _ :: _, [], _, _, h => by simp [bindTargets] at h
  | t :: ts, v :: vs, bs, hv, h => by
    simp only [bindTargets] at h
    split at h
    · rename_i b1 hb1
      split at h
      · rename_i b2 hb2
        cases h
        intro b hb
        rcases List.mem_append.1 hb with hb | hb
        · exact bindTarget_plain t v b1 (hv v (by simp)) hb1 b hb
        · exact bindTargets_plain ts vs b2 (fun x hx => hv x (by simp [hx])) hb2 b hb
      · cases h
    · cases h
end

theorem loopVal_plain (l : LoopInfo) (hp : ∀ v, l.prev = some v → plain v = true)
    (hn : ∀ v, l.next = some v → plain v = true) : plain (loopVal l) = true := by
  have h1 : plain (l.next.getD .undef) = true := by
    cases h : l.next with
    | none => rfl
    | some v => exact hn v h
  have h2 : plain (l.prev.getD .undef) = true := by
    cases h : l.prev with
    | none => rfl
    | some v => exact hp v h
  cases hlen : l.length <;> simp [loopVal, plain, plainM, hlen, h1, h2]

theorem loopInfosFrom_plain (len : Option Nat) : ∀ (xs : List Val) (idx : Nat) (prev : Option Val),
    (∀ v, prev = some v → plain v = true) → (∀ x, x ∈ xs → plain x = true) →
    ∀ l, l ∈ loopInfosFrom len idx prev xs → (∀ v, l.prev = some v → plain v = true) ∧ (∀ v, l.next = some v → plain v = true)
  | [], _, _, _, _, l, hl => by simp [loopInfosFrom] at hl
  | x :: rest, idx, prev, hp, hx, l, hl => by
    simp only [loopInfosFrom, List.mem_cons] at hl
    rcases hl with rfl | hl
    · refine ⟨hp, fun v hv => ?_⟩
      simp only at hv
      exact hx v (List.mem_cons_of_mem _ (List.mem_of_mem_head? hv))
    · exact loopInfosFrom_plain len rest (idx + 1) (some x) (fun v hv => by cases hv; exact hx _ (by simp))
        (fun y hy => hx y (by simp [hy])) l hl

theorem loopInfos_plain (sized : Bool) (xs : List Val) (hx : ∀ x, x ∈ xs → plain x = true) :
    ∀ l, l ∈ loopInfos sized xs → plain (loopVal l) = true := by
  intro l hl
  obtain ⟨h1, h2⟩ := loopInfosFrom_plain _ xs 0 none (fun v hv => by cases hv) hx l hl
  exact loopVal_plain l h1 h2

theorem assocSet_get {α : Type} (x y : String) (w : α) (c : List (String × α)) {v : α}
    (h : assocGet y (assocSet x w c) = some v) : (y = x ∧ v = w) ∨ assocGet y c = some v := by
  by_cases hy : y = x
  · subst hy
    rw [MJ.C03.assocGet_assocSet_same] at h
    exact Or.inl ⟨rfl, (Option.some.inj h).symm⟩
  · rw [MJ.C03.assocGet_assocSet_other x y w c hy] at h
    exact Or.inr h

theorem PlainSt.heapSet {M ctx heap} (h : PlainSt M ctx heap) (cell : Nat) (x : String) (w : Val)
    (hw : x ∉ M → plain w = true) : PlainSt M ctx (heapSet heap cell x w) := by
  refine ⟨h.1, fun id c y v hc hy hg => ?_⟩
  unfold MJ.Eval.heapSet at hc
  cases hcell : heap[cell]? with
  | none => rw [hcell] at hc; exact h.2 id c y v hc hy hg
  | some c0 =>
    rw [hcell] at hc
    simp only at hc
    by_cases hid : id = cell
    · subst hid
      have hlt : id < heap.length := (List.getElem?_eq_some_iff.1 hcell).1
      rw [List.getElem?_set_self hlt] at hc
      cases hc
      rcases assocSet_get x y w c0 hg with ⟨rfl, rfl⟩ | hg'
      · exact hw hy
      · exact h.2 id c0 y v hcell hy hg'
    · rw [List.getElem?_set_ne (Ne.symm hid)] at hc
      exact h.2 id c y v hc hy hg

theorem PlainSt.heapSetAll {M ctx} : ∀ (bs : List (String × Val)) {heap : Heap}, PlainSt M ctx heap → ∀ (cell : Nat),
    (∀ b, b ∈ bs → b.1 ∉ M → plain b.2 = true) → PlainSt M ctx (heapSetAll heap cell bs)
  | [], _, h, _, _ => h
  | (x, w) :: rest, _, h, cell, hb => by
    simp only [MJ.Eval.heapSetAll]
    exact PlainSt.heapSetAll rest (h.heapSet cell x w (hb (x, w) (by simp))) cell (fun b hb' => hb b (by simp [hb']))

theorem PlainSt.push {M ctx heap} (h : PlainSt M ctx heap) (cell : Scope)
    (hc : ∀ x v, x ∉ M → assocGet x cell = some v → plain v = true) : PlainSt M ctx (heap ++ [cell]) := by
  refine ⟨h.1, fun id c y v hg hy ha => ?_⟩
  by_cases hlt : id < heap.length
  · rw [List.getElem?_append_left hlt] at hg
    exact h.2 id c y v hg hy ha
  · have hge : heap.length ≤ id := Nat.le_of_not_lt hlt
    rw [List.getElem?_append_right hge] at hg
    cases hi : id - heap.length with
    | zero => rw [hi] at hg; simp at hg; subst hg; exact hc y v hy ha
    | succ k => rw [hi] at hg; simp at hg

end MJ.Eval

namespace MJ.Vm
open MJ.Eval

theorem bindParams_plain (params : List String) (pos : List Val) (kw : List (String × Val)) (bound : List (String × Val))
    (h : bindParams params pos kw = .ok bound) (hp : ∀ v, v ∈ pos → plain v = true)
    (hkw : ∀ k v, k ∈ params → assocGet k kw = some v → plain v = true) : ∀ b, b ∈ bound → plain b.2 = true := by
  rw [MJ.ArgBind.bindParams_eq] at h
  split at h <;> cases h
  intro b hb
  obtain ⟨x, hx, rfl⟩ := List.mem_map.1 hb
  simp only [MJ.ArgBind.boundValue]
  cases hpx : pos[x.2]? with
  | some v => exact hp v (List.mem_of_getElem? hpx)
  | none =>
    cases hg : assocGet x.1 kw with
    | none => rfl
    | some v => exact hkw x.1 v (List.mem_of_getElem? (List.mem_zipIdx_iff_getElem?.1 hx)) hg

end MJ.Vm
