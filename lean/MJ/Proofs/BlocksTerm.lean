import MJ.Proofs.BlocksLaw
import MJ.Proofs.BlocksDriver
/-!
# Termination

`load_blocks` can only succeed `|env|` times (`loadBlocks_inv`, `loadBlocks_exhausted`), the
recursion limit bounds the nesting (`Term`: the spec never ends in the fuel error once the fuel
covers `W` of the depth it starts at; the walk is `specItems_resp` at `fineLaw`), and cycles end in
detected errors (`cycle_detected`, `include_cycle`, on the driver alone).
-/
namespace MJ.Blocks

theorem nodup_length_le (N : Nat) : ∀ (l : List Nat), l.Nodup → (∀ x ∈ l, x < N) → l.length ≤ N := by
  intro l hnd h
  simpa using hnd.length_le_of_subset (l₂ := List.range N) fun x hx => List.mem_range.mpr (h x hx)

theorem nodup_full (N : Nat) (l : List Nat) (hnd : l.Nodup) (h : ∀ x ∈ l, x < N) (hlen : N ≤ l.length)
    (x : Nat) (hx : x < N) : x ∈ l := by
  by_cases hx' : x ∈ l
  · exact hx'
  · have := nodup_length_le N (x :: l) (List.nodup_cons.2 ⟨hx', hnd⟩) (by
      intro y hy
      rcases List.mem_cons.1 hy with rfl | hy
      · exact hx
      · exact h y hy)
    simp only [List.length_cons] at this
    omega

/-- a chain (most-derived template first; its tail is what `load_blocks` has loaded) extended by
    an existing template that is not yet in it: there was room, and the invariants carry over -/
theorem chain_extend {N t : Nat} {chain : List Nat} (hne : chain ≠ []) (hnd : chain.tail.Nodup)
    (hlt : ∀ x ∈ chain.tail, x < N) (hmem : t ∉ chain.tail) (ht : t < N) :
    chain.tail.length < N ∧ (chain ++ [t]).tail.Nodup ∧ (∀ x ∈ (chain ++ [t]).tail, x < N) ∧
      (chain ++ [t]).tail.length = chain.tail.length + 1 := by
  have htail : (chain ++ [t]).tail = chain.tail ++ [t] := by
    cases chain with
    | nil => exact absurd rfl hne
    | cons c cs => rfl
  refine ⟨?_, ?_, ?_, by rw [htail]; simp⟩
  · rcases Nat.lt_or_ge chain.tail.length N with h | h
    · exact h
    · exact absurd (nodup_full N chain.tail hnd hlt h t ht) hmem
  · rw [htail]
    exact List.nodup_append.2 ⟨hnd, by simp, by
      intro a ha b hb; simp at hb; subst hb; intro e; exact hmem (e ▸ ha)⟩
  · rw [htail]
    intro x hx
    rcases List.mem_append.1 hx with h | h
    · exact hlt x h
    · simp at h; omega

theorem loadBlocks_ok (env : Env) (t : Nat) (st st' : St) (l : List Item)
    (h : loadBlocks env t st = .ok (st', l)) :
    t ∉ st.loaded ∧ t < env.length ∧ st'.loaded = t :: st.loaded ∧
      ∃ T, env[t]? = some T ∧ T.loadErr = none ∧ l = T.layout ∧ st'.blocks = appendBlocks st.blocks T.blocks ∧
        st'.depth = st.depth ∧ st'.frames = st.frames := by
  revert h
  fun_cases loadBlocks env t st with
  | case1 hmem => intro h; cases h
  | case2 hmem hT => intro h; cases h
  | case3 hmem T hT k hL => intro h; cases h
  | case4 hmem T hT hL =>
    intro h; cases h
    exact ⟨hmem, (List.getElem?_eq_some_iff.1 hT).1, rfl, T, hT, hL, rfl, rfl, rfl, rfl⟩

theorem loadBlocks_inv (env : Env) (t : Nat) (st st' : St) (l : List Item)
    (h : loadBlocks env t st = .ok (st', l))
    (hnd : st.loaded.Nodup) (hlt : ∀ x ∈ st.loaded, x < env.length) :
    st'.loaded.Nodup ∧ (∀ x ∈ st'.loaded, x < env.length) ∧
      st'.loaded.length = st.loaded.length + 1 ∧ st'.loaded.length ≤ env.length := by
  obtain ⟨h1, h2, h3, _⟩ := loadBlocks_ok env t st st' l h
  have hnd' : st'.loaded.Nodup := by rw [h3]; exact List.nodup_cons.2 ⟨h1, hnd⟩
  have hlt' : ∀ x ∈ st'.loaded, x < env.length := by
    rw [h3]; intro x hx
    rcases List.mem_cons.1 hx with rfl | hx
    · exact h2
    · exact hlt x hx
  exact ⟨hnd', hlt', by rw [h3]; simp, nodup_length_le _ _ hnd' hlt'⟩

/-- after as many successful `LoadBlocks` as there are templates, every further one fails -/
theorem loadBlocks_exhausted (env : Env) (t : Nat) (st : St)
    (hnd : st.loaded.Nodup) (hlt : ∀ x ∈ st.loaded, x < env.length)
    (hfull : env.length ≤ st.loaded.length) :
    loadBlocks env t st = .error [.invalidOperation] ∨ loadBlocks env t st = .error [.templateNotFound] := by
  unfold loadBlocks
  by_cases hmem : t ∈ st.loaded
  · simp [hmem]
  · simp only [hmem, if_false]
    rcases Nat.lt_or_ge t env.length with h | h
    · exact absurd (nodup_full env.length st.loaded hnd hlt hfull t h) hmem
    · rw [List.getElem?_eq_none h]; simp

/-- the rule of `MJ.Proofs.BlocksLaw` for termination: the result of a run from `a` is not the
    fuel error, and on success the frame stack has `n` frames -/
abbrev Fine (n : Nat) (a : Vars) (r : SRes) : Prop :=
  Resp (fun b => b.length = n) (fun _ _ => True) (fun e => Kind.recursion ∉ e) a r

theorem fineLaw : Law (fun n a => a.length = n) (fun _ _ => True) (fun e => Kind.recursion ∉ e) where
  refl _ := trivial
  trans _ _ := trivial
  err h := h
  wrap k hk he := by simp [he, hk.symm]
  store v x h := ⟨trivial, by simpa using h⟩
  enclose ctx w h := ⟨trivial, by simpa using h⟩
  detach h := ⟨trivial, by simpa using h⟩
  attach ha _ hb := ⟨trivial, by simp [ha, hb]⟩
  push fr h := by simp [h]
  pop fr ha _ hb := ⟨trivial, by simp [ha, hb]⟩
  repush x fr ha _ hs := ⟨trivial, by simp [ha, hs]⟩

theorem aeDepth_mem (m : AE) (body items : List Item) (h : Item.autoesc m body ∈ items) :
    aeDepthL body + 1 ≤ aeDepthL items := by
  induction items with
  | nil => cases h
  | cons it rest ih =>
    simp only [aeDepthL]
    rcases List.mem_cons.1 h with rfl | h'
    · simp only [aeDepth]; omega
    · have := ih h'; omega

/-- an include takes at least one unit of depth (`INCLUDE_RECURSION_COST` as extracted from the
    sources); were it 0, include cycles would not be stopped by the recursion limit -/
theorem INCLUDE_COST_pos : 1 ≤ INCLUDE_COST := by decide

/-- `W E d` charges `E + 3 + AE_NEST_MAX` levels of fuel per unit of stack depth below the limit:
    enough for the `E` links an inheritance chain can have at one depth (`Term.chain`), the
    `AE_NEST_MAX` directly nested `autoescape` bodies (`Term.nest`), and the constantly many
    levels in between -/
theorem W_succ (E d : Nat) (h : d ≤ LIMIT) : W E d = W E (d + 1) + (E + 3 + AE_NEST_MAX) := by
  unfold W
  have : LIMIT + 1 - d = (LIMIT + 1 - (d + 1)) + 1 := by omega
  rw [this, Nat.add_mul, Nat.one_mul]

theorem W_mono (E d d' : Nat) (h : d ≤ d') : W E d' ≤ W E d := by
  unfold W
  exact Nat.mul_le_mul_right _ (by omega)

theorem W_pos (E d : Nat) (h : d ≤ LIMIT) : 1 ≤ W E d := by
  rw [W_succ E d h]; omega

/-- with `f` levels of fuel, nothing that starts at a depth the fuel covers runs out of fuel,
    and every successful run returns as many frames as it was given -/
structure Term (env : Env) (ctx : Cfg) (f : Nat) : Prop where
  list : ∀ D cur disc ext outer ae items (fs : Vars), outer + fs.length ≤ LIMIT →
    W env.length (outer + fs.length) ≤ f →
    Fine fs.length fs ((specAll env ctx f).list D cur disc ext outer ae items fs)
  /-- a list in which `autoescape` blocks are nested at most `a` deep directly in one another
      (the body of such a block: it runs at the same stack depth, so the fuel pays per level) -/
  nest : ∀ (a : Nat) D cur disc ext outer ae (items : List Item) (fs : Vars), aeDepthL items ≤ a →
    outer + fs.length ≤ LIMIT → W env.length (outer + fs.length + 1) + a + 1 ≤ f →
    Fine fs.length fs ((specAll env ctx f).list D cur disc ext outer ae items fs)
  chain : ∀ (chain : List Nat) inh disc outer ae layout (fs : Vars), chain ≠ [] → chain.tail.Nodup →
    (∀ x ∈ chain.tail, x < env.length) → outer + fs.length ≤ LIMIT →
    W env.length (outer + fs.length + 1) + (env.length - chain.tail.length) + 2 + AE_NEST_MAX ≤ f →
    Fine fs.length fs ((specAll env ctx f).chain chain inh disc outer ae layout fs)

theorem Term.body {env : Env} {ctx : Cfg} {f : Nat} (ht : Term env ctx f) (D : Nat → List (List Item))
    (n k : Nat) (disc : Bool) (outer : Nat) (ae : AE) (fs : Vars) (hd : outer + fs.length ≤ LIMIT)
    (hw : W env.length (outer + fs.length) ≤ f) :
    Fine fs.length fs ((specAll env ctx f).body D n k disc outer ae fs) := by
  cases f with
  | zero => have := W_pos env.length _ hd; omega
  | succ f =>
    simp only [specAll]
    cases (D n)[k]? with
    | none => exact fineLaw.err (by simp)
    | some b => exact ht.list D (some (n, k)) disc false outer ae b fs hd hw

/-- the callbacks of a list that runs at `outer` on `n` frames are called one frame, one macro
    call or one include further down, which `W (outer + n + 1)` levels of fuel cover -/
theorem Term.cbLaw {env : Env} {ctx : Cfg} {f : Nat} (ht : Term env ctx f) (outer n : Nat)
    (hw : W env.length (outer + n + 1) ≤ f) :
    CbLaw (fun n a => a.length = n) (fun _ _ => True) (fun e => Kind.recursion ∉ e) (specAll env ctx f) outer n := by
  refine ⟨?_, ?_, ?_, ?_⟩
  · intro D m k disc ae a ha hpf
    have hd := (pushFails_false_iff outer a).1 hpf
    have h1 : (a.push [[]]).length = n + 1 := by simp [ha]
    have := ht.body D m k disc outer ae (a.push [[]]) (by omega) (by rw [h1]; exact hw)
    rwa [h1] at this
  · intro D cur disc ext ae items a b ha hpf hb
    have hd := (pushFails_false_iff outer a).1 hpf
    have := ht.list D cur disc ext outer ae items b (by omega) (by rw [hb]; exact hw)
    rwa [hb] at this
  · intro D ae items a b e ha hd hb he
    have := ht.list D none false false (outer + a.length + MACRO_COST) ae items b (by omega)
      (Nat.le_trans (W_mono _ _ _ (by omega)) hw)
    rw [he] at this
    exact this
  · intro t inh disc ae layout k a hk ha hd
    have hpos := INCLUDE_COST_pos
    have := ht.chain [t] inh disc (outer + INCLUDE_COST) ae layout a (by simp) (by simp) (by simp) hd (by
      have h2 : outer + n + 1 ≤ LIMIT := by omega
      have h3 := W_succ env.length (outer + n + 1) h2
      have h4 := W_mono env.length (outer + n + 1 + 1) (outer + INCLUDE_COST + a.length + 1) (by omega)
      simp only [List.tail_cons, List.length_nil, Nat.sub_zero]
      omega)
    rwa [ha] at this

theorem term_zero (env : Env) (ctx : Cfg) : Term env ctx 0 := by
  refine ⟨?_, ?_, ?_⟩
  · intro D cur disc ext outer ae items fs hd hw
    have := W_pos env.length _ hd; omega
  · intro a D cur disc ext outer ae items fs _ hd hw
    omega
  · intro chain inh disc outer ae layout fs _ _ _ hd hw
    omega

theorem term_succ (env : Env) (ctx : Cfg) (f : Nat) (ht : Term env ctx f) : Term env ctx (f + 1) := by
  -- the body of an `autoescape` block runs on the same frames: `Term.nest` pays for it
  have hsame : ∀ (outer : Nat) (fs : Vars), outer + fs.length ≤ LIMIT →
      W env.length (outer + fs.length + 1) + AE_NEST_MAX ≤ f →
      ∀ D cur disc ext m body, aeDepthL body < AE_NEST_MAX → ∀ a : Vars, a.length = fs.length →
        Fine fs.length a ((specAll env ctx f).list D cur disc ext outer m body a) := by
    intro outer fs hd hw D cur disc ext m body hb a ha
    have := ht.nest (aeDepthL body) D cur disc ext outer m body a (Nat.le_refl _) (by omega) (by rw [ha]; omega)
    rwa [ha] at this
  refine ⟨?_, ?_, ?_⟩
  · intro D cur disc ext outer ae items fs hd hw
    have h1 := W_succ env.length _ hd
    exact specItems_resp fineLaw env ctx (ht.cbLaw outer fs.length (by omega)) D cur disc ext ae items
      (fun m body _ => hsame outer fs hd (by omega) D cur disc ext m body) fs rfl
  · intro a D cur disc ext outer ae items fs hnest hd hw
    refine specItems_resp fineLaw env ctx (ht.cbLaw outer fs.length (by omega)) D cur disc ext ae items ?_ fs rfl
    intro m body hm _ fs1 h1
    have hlt := aeDepth_mem m body items hm
    have := ht.nest (a - 1) D cur disc ext outer m body fs1 (by omega) (by omega) (by rw [h1]; omega)
    rwa [h1] at this
  · intro chain inh disc outer ae layout fs hne hnd hlt hd hw
    refine specChain_resp fineLaw env ctx (ht.cbLaw outer fs.length (by omega)) chain inh disc ae layout
      (hsame outer fs hd (by omega)) ?_ fs rfl
    -- the parent is not in the chain yet, so the chain has room for it
    intro t T b hmem hT hb
    obtain ⟨hroom, hnd', hlt', hlen⟩ := chain_extend hne hnd hlt hmem (List.getElem?_eq_some_iff.1 hT).1
    have := ht.chain (chain ++ [t]) inh disc outer ae T.layout b (by simp) hnd' hlt' (by omega)
      (by rw [hlen, hb]; omega)
    rwa [hb] at this

theorem term_all (env : Env) (ctx : Cfg) : ∀ f, Term env ctx f
  | 0 => term_zero env ctx
  | f + 1 => term_succ env ctx f (term_all env ctx f)

def Item.isText : Item → Bool
  | .text _ => true
  | _ => false

/-- a layout of the usual shape: text, an executed `extends`, then text / block tags / `extends` -/
def extendsAfterText : List Item → Bool
  | [] => false
  | .extends true _ :: rest => rest.all Item.isPost
  | .text _ :: rest => extendsAfterText rest
  | _ => false

theorem extendsAfterText_split (layout : List Item) (h : extendsAfterText layout = true) :
    ∃ pre t post, layout = pre ++ .extends true t :: post ∧ pre.all Item.isText = true ∧
      post.all Item.isPost = true := by
  fun_induction extendsAfterText layout with
  | case1 => cases h
  | case2 t rest => exact ⟨[], t, rest, rfl, rfl, h⟩
  | case3 s rest ih =>
    obtain ⟨pre, t, post, h1, h2, h3⟩ := ih h
    exact ⟨.text s :: pre, t, post, by rw [h1]; rfl, h2, h3⟩
  | case4 => cases h

theorem stepItems_texts (rd : Rd) (rec : Rec) (parent : Option (List Item)) (pre : List Item)
    (h : pre.all Item.isText = true) (st : St) :
    ∃ o, stepItems rd rec parent pre st = .ok (o, st, parent) := by
  induction pre with
  | nil => exact ⟨[], rfl⟩
  | cons it rest ih =>
    simp only [List.all_cons, Bool.and_eq_true] at h
    obtain ⟨o, ho⟩ := ih h.2
    cases it with
    | text s =>
      exact ⟨(if (rd.disc0 || parent.isSome) = true then [] else [s]) ++ o, by
        rw [stepItems_var _ _ _ rfl]; simp only [varItem, Res.andThen, ho]⟩
    | _ => cases h.1

/-- every template extends something: the engine reports a *detected* error as soon as the fuel
    allows one activation more than there are templates left to load, in every environment -/
theorem cycle_detected (env : Env) (ctx : Cfg)
    (hall : ∀ T ∈ env, extendsAfterText T.layout = true) (hload : ∀ T ∈ env, T.loadErr = none) :
    ∀ f cur disc ext outer ae layout (st : St), st.loaded.Nodup → (∀ x ∈ st.loaded, x < env.length) →
      env.length - st.loaded.length + 1 ≤ f → extendsAfterText layout = true →
      evalImpl env ctx f cur disc ext outer ae layout st = .error [.invalidOperation] ∨
        evalImpl env ctx f cur disc ext outer ae layout st = .error [.templateNotFound] := by
  intro f
  induction f with
  | zero => intro cur disc ext outer ae layout st _ _ hf; omega
  | succ f ih =>
    intro cur disc ext outer ae layout st hnd hlt hf hl
    obtain ⟨pre, t, post, rfl, hpre, hpost⟩ := extendsAfterText_split layout hl
    obtain ⟨o, ho⟩ := stepItems_texts ⟨env, ctx, cur, disc, ext, outer, ae⟩ (evalImpl env ctx f) none pre hpre st
    rw [evalImpl_succ, stepItems_append, ho]
    simp only [Res3.bind, stepItems, Bool.not_true, Bool.false_eq_true, if_false, Option.isSome_none]
    cases hlb : loadBlocks env t st with
    | error e =>
      -- the load fails: a cycle or a missing template (nothing in `env` fails to compile)
      revert hlb
      fun_cases loadBlocks env t st with
      | case1 hmem => intro h; cases h; simp
      | case2 hmem hT => intro h; cases h; simp
      | case3 hmem T hT k hL => rw [hload T (List.mem_of_getElem? hT)] at hL; cases hL
      | case4 hmem T hT hL => intro h; cases h
    | ok r =>
      obtain ⟨st', l⟩ := r
      obtain ⟨_, _, _, T, hT, _, rfl, _⟩ := loadBlocks_ok env t st st' l hlb
      obtain ⟨hnd', hlt', hlen, hle⟩ := loadBlocks_inv env t st st' T.layout hlb hnd hlt
      simp only [stepItems_post ⟨env, ctx, cur, disc, ext, outer, ae⟩ (evalImpl env ctx f) T.layout post hpost st']
      by_cases hx : hasExecExtends post = true
      · simp [hx]
      · simp only [hx]
        rcases ih cur disc ext outer ae T.layout st' hnd' hlt' (by omega) (hall T (List.mem_of_getElem? hT)) with h | h <;>
          simp [h]

def includesAfterText (env : Env) : List Item → Bool
  | [] => false
  | .incl (.single (some t)) _ :: _ => decide (t < env.length)
  | .text _ :: rest => includesAfterText env rest
  | _ => false

theorem includesAfterText_split (env : Env) (layout : List Item) (h : includesAfterText env layout = true) :
    ∃ pre t ign rest, layout = pre ++ .incl (.single (some t)) ign :: rest ∧ pre.all Item.isText = true ∧ t < env.length := by
  fun_induction includesAfterText env layout with
  | case1 => cases h
  | case2 t ign rest => exact ⟨[], t, ign, rest, rfl, rfl, of_decide_eq_true h⟩
  | case3 s rest ih =>
    obtain ⟨pre, t, ign, r, h1, h2, h3⟩ := ih h
    exact ⟨.text s :: pre, t, ign, r, by rw [h1]; rfl, h2, h3⟩
  | case4 => cases h

/-- `BadInclude`ⁿ around the recursion-limit error (or around the model's fuel error) -/
def IncErr (e : Err) : Prop :=
  ∃ j k, e = List.replicate j Kind.badInclude ++ [k] ∧ (k = Kind.invalidOperation ∨ k = Kind.recursion)

/-- every template includes some existing template before anything else can go wrong: an error for
    every fuel, `BadInclude … BadInclude` around the limit error (or the fuel error), in every
    environment -/
theorem include_cycle (env : Env) (ctx : Cfg)
    (hall : ∀ T ∈ env, includesAfterText env T.layout = true) (hload : ∀ T ∈ env, T.loadErr = none) :
    ∀ (f t : Nat) (T : Template), env[t]? = some T → ∀ cur disc ext outer ae (st : St),
      ∃ e, evalImpl env ctx f cur disc ext outer ae T.layout st = .error e ∧ IncErr e := by
  intro f
  induction f with
  | zero => intro t T _ cur disc ext outer ae st; exact ⟨[.recursion], rfl, 0, .recursion, rfl, Or.inr rfl⟩
  | succ f ih =>
    intro t T hT cur disc ext outer ae st
    obtain ⟨pre, t', ign, rest, hl, hpre, ht'⟩ := includesAfterText_split env T.layout (hall T (List.mem_of_getElem? hT))
    obtain ⟨o, ho⟩ := stepItems_texts ⟨env, ctx, cur, disc, ext, outer, ae⟩ (evalImpl env ctx f) none pre hpre st
    have hT' : env[t']? = some env[t'] := List.getElem?_eq_getElem ht'
    rw [evalImpl_succ, hl, stepItems_append, ho]
    simp only [Res3.bind, Res.andThen, stepItems, performInclude_select, choices_eq_cands, Arg.cands,
      show select env [some t'] false = .render t' env[t'] from
        select_first env [] [] t' _ (by simp) hT' (hload _ (List.getElem_mem ht')) false, includeTemplate]
    by_cases hd : outer + INCLUDE_COST + st.frames.length > LIMIT
    · exact ⟨[.invalidOperation], by simp [hd], 0, .invalidOperation, rfl, Or.inl rfl⟩
    · obtain ⟨e, he, j, k, hjk, hk⟩ := ih t' _ hT' cur disc false (outer + INCLUDE_COST) env[t'].ae
        { st with blocks := prepare env[t'].blocks, depth := fun _ => 0, loaded := [],
                  frames := st.frames.setTopClosure none }
      refine ⟨.badInclude :: e, by simp [hd, he], j + 1, k, by rw [hjk]; rfl, hk⟩

end MJ.Blocks
