import MJ.Model.Fold
/-!
The folder against the run-time semantics, for any primitives with `Prims.Lawful`: three inductions on the syntax, each
with one statement per syntactic class.  `asConst_spec`: a folded value is defined and is the `evalRt` value in every
mode and context.  `evalC_eq_evalRt'`: the emitted code, which folds at every level, computes the `evalRt` value
(`folded_eq` reduces a foldable node to its unfolded code through `asConst_spec`).  `hoist_spec`: a hoisted expression
is well formed and has the same `evalRt` value.
-/
namespace MJ.Fold

/-- laws of the shared primitives that the folder's duplicated logic relies on -/
structure Prims.Lawful (P : Prims) : Prop extends Prims.Defined P where
  /-- `Value::is_true` of `ValueRepr::Bool(b)` is `b` -/
  isTrue_bool : ∀ b, P.isTrue (.bool b) = b
  /-- `ops::contains` returns `Value::from(bool)` -/
  contains_bool : ∀ a b v, P.contains a b = .ok v → ∃ t, v = .bool t

theorem gate_some {α : Type} {b : Bool} {x : Option α} {v : α} (h : gate b x = some v) : x = some v := by
  unfold gate at h; split at h
  · exact h
  · cases h

theorem toOpt_some {α : Type} {x : Except Err α} {a : α} (h : Except.toOpt x = some a) : x = .ok a := by
  cases x <;> simp [Except.toOpt] at h; subst h; rfl

theorem foldFirst_none {P : Prims} {e : Expr} (h : asConst P e = none) : foldFirst P e = none := by
  rw [foldFirst, h]; cases P.codegenSpecial "fold-first" <;> rfl

/-- a result that is not the value `undefined` (what `Prims.Defined` asks of every primitive) -/
def Defd (r : Except Err V) : Prop := ∀ v, r = .ok v → v ≠ .undef

theorem defd_ok {v : V} : Defd (.ok v) ↔ v ≠ .undef :=
  ⟨fun h => h v rfl, fun h _ e => by cases e; exact h⟩

theorem defd_error {e : Err} : Defd (.error e) := fun _ h => by cases h

theorem defd_ite {c : Prop} [Decidable c] {x y : Except Err V} (hx : Defd x) (hy : Defd y) :
    Defd (if c then x else y) := by
  split <;> assumption

section
variable (P : Prims) (m : Mode) (ρ : Env)

theorem assertDefined_ok {v : V} (h : v ≠ .undef) : assertDefined m v = .ok () := by
  cases v <;> simp [assertDefined] at *

theorem isTrueM_ok {v : V} (h : v ≠ .undef) : isTrueM P m v = .ok (P.isTrue v) := by
  cases m <;> cases v <;> simp [isTrueM] at *

theorem opBinop_ok (f : V → V → Bool) {a b : V} (ha : a ≠ .undef) (hb : b ≠ .undef) :
    opBinop m f a b = .ok (.bool (f a b)) := by
  simp [opBinop, assertDefined_ok m ha, assertDefined_ok m hb]

theorem inInstr_ok {a b : V} (ha : a ≠ .undef) (hb : b ≠ .undef) :
    inInstr P m a b = P.contains b a := by
  simp [inInstr, assertDefined_ok m ha, assertDefined_ok m hb]

theorem notInstr_ok {v : V} (h : v ≠ .undef) : notInstr P m v = .ok (.bool (!P.isTrue v)) := by
  simp [notInstr, isTrueM_ok P m h]

/-! ### what `evalRt` and `evalC` do on a binary operator and on `-`

Both evaluators have one equation for `and`, one for `or` and one for the other operators, and `evalC`
looks into the operand of `-`; here for an arbitrary operator and operand. -/

/-- what the code of `l op r` computes from the results of the operands' code: `and`/`or` jump over
    the right operand, every other operator is one instruction after both -/
def binRt (op : BinOp) (x y : Except Err V) : Except Err V :=
  match x with
  | .error e => .error e
  | .ok a =>
    match op with
    | .and => match isTrueM P m a with
      | .error e => .error e
      | .ok t => if t then y else .ok a
    | .or => match isTrueM P m a with
      | .error e => .error e
      | .ok t => if t then .ok a else y
    | op => match y with
      | .error e => .error e
      | .ok b => binInstr P m op a b

theorem binRt_other {op : BinOp} (hand : op ≠ .and) (hor : op ≠ .or) (x y : Except Err V) :
    binRt P m op x y =
      match x with
      | .error e => .error e
      | .ok a => match y with
        | .error e => .error e
        | .ok b => binInstr P m op a b := by
  cases op <;> first | contradiction | rfl

theorem evalRt_bin (op : BinOp) (l r : Expr) :
    evalRt P m ρ (.bin op l r) = binRt P m op (evalRt P m ρ l) (evalRt P m ρ r) := by
  cases op <;> rfl

theorem evalC_bin (op : BinOp) (l r : Expr) :
    evalC P m ρ (.bin op l r) = folded P (.bin op l r) (binRt P m op (evalC P m ρ l) (evalC P m ρ r)) := by
  cases op <;> rfl

/-- the `Neg` shortcut of `compile_expr` fires only on a constant operand whose negation succeeds -/
theorem negShortcut_some {present : Bool} {e : Expr} {n : V}
    (h : gate present (match e with
                       | .const c => Except.toOpt (P.neg c)
                       | _ => none) = some n) : ∃ c, e = .const c ∧ P.neg c = .ok n := by
  replace h := gate_some h
  split at h
  · exact ⟨_, rfl, toOpt_some h⟩
  · cases h

/-! ### direct constants

By the recursion of the functions themselves: the end of the list, a constant in front, anything else in front. -/

theorem constValues_sound (es : Exprs) (vs : List V) (h : constValues es = some vs) :
    evalRtList P m ρ es = .ok vs := by
  fun_induction constValues es generalizing vs with
  | case1 => cases h; rfl
  | case2 v es ih =>
    obtain ⟨ws, hws, rfl⟩ := Option.map_eq_some_iff.1 h
    rw [evalRtList, evalRt, ih ws hws]
  | case3 => cases h

theorem constPairs_sound (ps : Pairs) (vs : List (V × V)) (h : constPairs ps = some vs) :
    evalRtPairs P m ρ ps = .ok vs := by
  fun_induction constPairs ps generalizing vs with
  | case1 => cases h; rfl
  | case2 k v rest ih =>
    obtain ⟨ws, hws, rfl⟩ := Option.map_eq_some_iff.1 h
    rw [evalRtPairs, evalRt, evalRt, ih ws hws]
  | case3 => cases h

theorem constKws_sound (ks : Kws) (vs : List (String × V)) (h : constKws ks = some vs) :
    evalRtKws P m ρ ks = .ok vs := by
  fun_induction constKws ks generalizing vs with
  | case1 => cases h; rfl
  | case2 n v rest ih =>
    obtain ⟨ws, hws, rfl⟩ := Option.map_eq_some_iff.1 h
    rw [evalRtKws, evalRt, ih ws hws]
  | case3 => cases h

theorem constKwArgs_sound (args : Args) (ks : List (String × V)) (h : constKwArgs args = some ks) :
    evalRtArgsKw P m ρ args = .ok (kwPieces ks) := by
  fun_induction constKwArgs args generalizing ks with
  | case1 => cases h; rfl
  | case2 _ rest ih | case3 _ rest ih => exact ih ks h
  | case4 n v rest ih =>
    obtain ⟨ws, hws, rfl⟩ := Option.map_eq_some_iff.1 h
    rw [evalRtArgsKw, evalRt, ih ws hws]
    rfl
  | case5 | case6 => cases h

variable {P} in
theorem evalBinop_defined (hP : P.Lawful) (op : BinOp) {a b v : V} (ha : a ≠ .undef) (hb : b ≠ .undef)
    (h : evalBinop P op a b = some v) : v ≠ .undef := by
  cases op <;> simp only [evalBinop] at h
  case add => exact hP.add _ _ _ (toOpt_some h)
  case sub => exact hP.sub _ _ _ (toOpt_some h)
  case mul => exact hP.mul _ _ _ (toOpt_some h)
  case div => exact hP.div _ _ _ (toOpt_some h)
  case fdiv => exact hP.fdiv _ _ _ (toOpt_some h)
  case rem => exact hP.rem _ _ _ (toOpt_some h)
  case pow => exact hP.pow _ _ _ (toOpt_some h)
  case cat => simp at h; subst h; exact hP.concat _ _
  case in_ => exact hP.contains _ _ _ (toOpt_some h)
  case and => simp at h; subst h; split <;> assumption
  case or => simp at h; subst h; split <;> assumption
  all_goals (simp at h; subst h; simp)

variable {P} in
/-- On defined operands both VM forms of a link - `CompareAndPreserve` inside a chain, `emit_compare` at its end -
    compute the truth of the folder's result. -/
theorem evalCompare_rt (hP : P.Lawful) (op : CmpOp) {a b v : V} (ha : a ≠ .undef) (hb : b ≠ .undef)
    (h : evalCompare P op a b = some v) :
    compareAndPreserve P m op a b = .ok (P.isTrue v) ∧ finalCompare P m op a b = .ok (.bool (P.isTrue v)) := by
  have da := assertDefined_ok m ha
  have db := assertDefined_ok m hb
  cases op <;> simp only [evalCompare] at h
  case in_ =>
    have hc := toOpt_some h
    obtain ⟨t, rfl⟩ := hP.contains_bool _ _ _ hc
    simp [compareAndPreserve, finalCompare, inInstr_ok P m ha hb, da, db, hc, hP.isTrue_bool]
  case notIn =>
    simp only [Option.map_eq_some_iff] at h; obtain ⟨w, hw, rfl⟩ := h
    have hc := toOpt_some hw
    simp [compareAndPreserve, finalCompare, inInstr_ok P m ha hb, da, db, hc, notInstr_ok P m (hP.contains _ _ _ hc),
      hP.isTrue_bool]
  all_goals
    simp at h; subst h
    simp [compareAndPreserve, finalCompare, opBinop_ok m _ ha hb, da, db, hP.isTrue_bool]

theorem evalBinop_rt (op : BinOp) {a b v : V} (ha : a ≠ .undef) (hb : b ≠ .undef)
    (h : evalBinop P op a b = some v) : binRt P m op (.ok a) (.ok b) = .ok v := by
  cases op <;> simp only [evalBinop] at h
  case and | or => cases h; simp only [binRt, isTrueM_ok P m ha]; split <;> rfl
  case in_ => simp [binRt, binInstr, inInstr_ok P m ha hb, toOpt_some h]
  case cat => cases h; simp [binRt, binInstr, assertDefined_ok m ha, assertDefined_ok m hb]
  case eq | ne | lt | le | gt | ge => cases h; simp [binRt, binInstr, opBinop_ok m _ ha hb]
  all_goals simp [binRt, binInstr, toOpt_some h]

end

section
variable {P : Prims} (m : Mode) (ρ : Env)

mutual
  /-- Both facts in one induction: the run-time half of `not`, of an operator and of a chain link needs the
      operands' folded values to be defined (the VM asserts it, the folder does not). -/
  theorem asConst_spec (hP : P.Lawful) : ∀ (e : Expr) (v : V), e.WF → asConst P e = some v →
      v ≠ .undef ∧ ∀ m ρ, evalRt P m ρ e = .ok v
    | .const c, v, hw, h => by rw [asConst] at h; cases h; exact ⟨hw, fun _ _ => rfl⟩
    | .var _, v, _, h => by simp [asConst] at h
    | .list items, v, _, h | .tuple items, v, _, h => by
      obtain ⟨vs, hvs, rfl⟩ := Option.map_eq_some_iff.1 (gate_some h)
      exact ⟨nofun, fun m ρ => by rw [evalRt, constValues_sound P m ρ items vs hvs]⟩
    | .map kvs, v, _, h => by
      obtain ⟨vs, hvs, rfl⟩ := Option.map_eq_some_iff.1 (gate_some h)
      exact ⟨hP.mkMap _, fun m ρ => by rw [evalRt, constPairs_sound P m ρ kvs vs hvs]⟩
    | .not e, v, hw, h => by
      obtain ⟨a, ha, rfl⟩ := Option.map_eq_some_iff.1 (gate_some h)
      obtain ⟨hd, hs⟩ := asConst_spec hP e a hw ha
      exact ⟨nofun, fun m ρ => by rw [evalRt, hs]; exact notInstr_ok P m hd⟩
    | .neg e, v, hw, h => by
      obtain ⟨a, ha, h⟩ := Option.bind_eq_some_iff.1 (gate_some h)
      exact ⟨hP.neg _ _ (toOpt_some h), fun m ρ => by rw [evalRt, (asConst_spec hP e a hw ha).2]; exact toOpt_some h⟩
    | .bin op l r, v, hw, h => by
      replace h := gate_some h
      split at h
      · next a b hl hr =>
        obtain ⟨da, sa⟩ := asConst_spec hP l a hw.1 hl
        obtain ⟨db, sb⟩ := asConst_spec hP r b hw.2 hr
        exact ⟨evalBinop_defined hP op da db h, fun m ρ => by rw [evalRt_bin, sa, sb]; exact evalBinop_rt P m op da db h⟩
      · cases h
    | .cmp e ops, v, hw, h => by
      replace h := gate_some h
      split at h
      · next left hl =>
        obtain ⟨dl, sl⟩ := asConst_spec hP e left hw.1 hl
        obtain ⟨⟨t, rfl⟩, hs⟩ := asConstChain_spec hP ops left v hw.2.2 dl h
        exact ⟨nofun, fun m ρ => by rw [evalRt, sl]; exact hs hw.2.1 m ρ⟩
      · cases h
    | .getAttr .., v, _, h | .getItem .., v, _, h | .slice .., v, _, h | .ifExpr .., v, _, h
    | .filter .., v, _, h | .test .., v, _, h | .call .., v, _, h | .callx .., v, _, h => by simp [asConst] at h
  termination_by structural e => e
  theorem asConstChain_spec (hP : P.Lawful) : ∀ (ops : Chain) (left v : V), ops.WF → left ≠ .undef →
      asConstChain P left ops = some v →
      (∃ t, v = .bool t) ∧ (ops ≠ .nil → ∀ m ρ, evalRtChain P m ρ left ops = .ok v)
    | .nil, _, _, _, _, h => by rw [asConstChain] at h; cases h; exact ⟨⟨true, rfl⟩, fun hne => absurd rfl hne⟩
    | .cons op e rest, left, v, hw, hleft, h => by
      rw [asConstChain] at h
      split at h
      · simp at h
      · next right hr =>
        obtain ⟨hb, er⟩ := asConst_spec hP e right hw.1 hr
        split at h
        · simp at h
        · next w hcmp =>
          split at h
          · next ht =>
            obtain ⟨hbool, ih⟩ := asConstChain_spec hP rest right v hw.2 hb h
            refine ⟨hbool, fun _ m ρ => ?_⟩
            cases rest with
            | nil =>
              rw [asConstChain] at h; cases h
              simp [evalRtChain, er, (evalCompare_rt m hP op hleft hb hcmp).2, ht]
            | cons op2 e2 rest2 =>
              simp only [evalRtChain, er, (evalCompare_rt m hP op hleft hb hcmp).1, ht, if_true]
              exact ih (by simp) m ρ
          · next ht =>
            cases h
            refine ⟨⟨false, rfl⟩, fun _ m ρ => ?_⟩
            cases rest with
            | nil => simp [evalRtChain, er, (evalCompare_rt m hP op hleft hb hcmp).2, ht]
            | cons op2 e2 rest2 => simp [evalRtChain, er, (evalCompare_rt m hP op hleft hb hcmp).1, ht]
  termination_by structural ops => ops
end

theorem asConst_sound' (hP : P.Lawful) (e : Expr) (v : V) (hw : e.WF) (h : asConst P e = some v) :
    evalRt P m ρ e = .ok v :=
  (asConst_spec hP e v hw h).2 m ρ

theorem asConstChain_sound' (hP : P.Lawful) : ∀ (ops : Chain) (left v : V), ops.WF → ops ≠ .nil →
    left ≠ .undef → asConstChain P left ops = some v → evalRtChain P m ρ left ops = .ok v :=
  fun ops left v hw hne hl h => (asConstChain_spec hP ops left v hw hl h).2 hne m ρ

theorem folded_eq (hP : P.Lawful) (e : Expr) (hw : e.WF) (rt : Except Err V) (h : rt = evalRt P m ρ e) :
    folded P e rt = evalRt P m ρ e := by
  unfold folded
  split
  · next v hv => exact (asConst_sound' m ρ hP e v hw (gate_some hv)).symm
  · exact h

/-- static keyword arguments, collected at compile time into one constant, are what evaluating them
    one by one yields: the callee `f` sees the same keyword values on both paths -/
theorem staticKws_eq {α : Type} (present : Bool) (kws : Kws) (h : evalCKws P m ρ kws = evalRtKws P m ρ kws)
    (f : List (String × V) → Except Err α) :
    (match gate present (constKws kws) with
     | some ks => f ks
     | none => match evalCKws P m ρ kws with
       | .error e => .error e
       | .ok ks => f ks) =
    match evalRtKws P m ρ kws with
    | .error e => .error e
    | .ok ks => f ks := by
  split
  · next ks hk => rw [constKws_sound P m ρ kws ks (gate_some hk)]
  · rw [h]

mutual
  theorem evalC_eq_evalRt' (hP : P.Lawful) : ∀ (e : Expr), e.WF → evalC P m ρ e = evalRt P m ρ e
    | .const _, _ | .var _, _ => rfl
    | .list items, hw | .tuple items, hw => by
      apply folded_eq m ρ hP _ hw
      rw [evalRt, evalCList_eq' hP items hw]
    | .map kvs, hw => by
      apply folded_eq m ρ hP _ hw
      rw [evalRt, evalCPairs_eq' hP kvs hw]
    | .not e, hw => by
      apply folded_eq m ρ hP _ hw
      rw [evalRt, evalC_eq_evalRt' hP e hw]
    | .neg e, hw => by
      apply folded_eq m ρ hP _ hw
      rw [evalRt, ← evalC_eq_evalRt' hP e hw]
      split
      · next n hn =>
        obtain ⟨c, rfl, hc⟩ := negShortcut_some P hn
        exact hc.symm
      · rfl
    | .bin op l r, hw => by
      rw [evalC_bin]; apply folded_eq m ρ hP _ hw
      rw [evalRt_bin, evalC_eq_evalRt' hP l hw.1, evalC_eq_evalRt' hP r hw.2]
    | .cmp e ops, hw => by
      apply folded_eq m ρ hP _ hw
      rw [evalRt, evalC_eq_evalRt' hP e hw.1]
      split
      · rfl
      · exact evalCChain_eq' hP ops _ hw.2.2
    | .getAttr e name, hw => by
      rw [evalC, evalRt, evalC_eq_evalRt' hP e hw]
    | .getItem e i, hw => by
      rw [evalC, evalRt, evalC_eq_evalRt' hP e hw.1, evalC_eq_evalRt' hP i hw.2]
    | .slice e a b c, hw => by
      rw [evalC, evalRt, evalC_eq_evalRt' hP e hw.1, evalCOpt_eq' hP a _ hw.2.1, evalCOpt_eq' hP b _ hw.2.2.1,
        evalCOpt_eq' hP c _ hw.2.2.2]
    | .ifExpr c t f, hw => by
      rw [evalC, evalRt, evalC_eq_evalRt' hP c hw.1, evalC_eq_evalRt' hP t hw.2.1, evalCOpt_eq' hP f _ hw.2.2]
    | .filter name e pos kws, hw | .test name e pos kws, hw => by
      rw [evalC, evalRt, evalC_eq_evalRt' hP e hw.1, evalCList_eq' hP pos hw.2.1]
      cases evalRt P m ρ e with
      | error _ => rfl
      | ok v =>
        cases evalRtList P m ρ pos with
        | error _ => rfl
        | ok ps => exact staticKws_eq m ρ _ kws (evalCKws_eq' hP kws hw.2.2) _
    | .call name pos kws, hw => by
      rw [evalC, evalRt, evalCList_eq' hP pos hw.1]
      cases evalRtList P m ρ pos with
      | error _ => rfl
      | ok ps => exact staticKws_eq m ρ _ kws (evalCKws_eq' hP kws hw.2) _
    | .callx kind recv name args, hw => by
      rw [evalC, evalRt, evalCList_eq' hP recv hw.1, (evalCArgs_eq' hP args hw.2).1]
      split
      · rfl
      · split
        · rfl
        · split
          · next ks hk => rw [constKwArgs_sound P m ρ args ks (gate_some hk)]
          · rw [(evalCArgs_eq' hP args hw.2).2]
  termination_by structural e => e
  theorem evalCOpt_eq' (hP : P.Lawful) : ∀ (o : OptExpr) (d : V), o.WF → evalCOpt P m ρ d o = evalRtOpt P m ρ d o
    | .none, _, _ => rfl
    | .some e, _, hw => by
      rw [evalCOpt, evalRtOpt, evalC_eq_evalRt' hP e hw]
  termination_by structural o => o
  theorem evalCList_eq' (hP : P.Lawful) : ∀ (es : Exprs), es.WF → evalCList P m ρ es = evalRtList P m ρ es
    | .nil, _ => rfl
    | .cons e es, hw => by
      rw [evalCList, evalRtList, evalC_eq_evalRt' hP e hw.1, evalCList_eq' hP es hw.2]
  termination_by structural es => es
  theorem evalCPairs_eq' (hP : P.Lawful) : ∀ (ps : Pairs), ps.WF → evalCPairs P m ρ ps = evalRtPairs P m ρ ps
    | .nil, _ => rfl
    | .cons k v rest, hw => by
      rw [evalCPairs, evalRtPairs, evalC_eq_evalRt' hP k hw.1, evalC_eq_evalRt' hP v hw.2.1,
        evalCPairs_eq' hP rest hw.2.2]
  termination_by structural ps => ps
  theorem evalCChain_eq' (hP : P.Lawful) : ∀ (ops : Chain) (left : V), ops.WF →
      evalCChain P m ρ left ops = evalRtChain P m ρ left ops
    | .nil, _, _ => rfl
    | .cons op e .nil, left, hw => by
      rw [evalCChain, evalRtChain, evalC_eq_evalRt' hP e hw.1]
    | .cons op e (.cons op2 e2 rest), left, hw => by
      simp only [evalCChain, evalRtChain, evalC_eq_evalRt' hP e hw.1,
        fun right => evalCChain_eq' hP (.cons op2 e2 rest) right hw.2]
  termination_by structural ops => ops
  theorem evalCKws_eq' (hP : P.Lawful) : ∀ (ks : Kws), ks.WF → evalCKws P m ρ ks = evalRtKws P m ρ ks
    | .nil, _ => rfl
    | .cons n e rest, hw => by
      rw [evalCKws, evalRtKws, evalC_eq_evalRt' hP e hw.1, evalCKws_eq' hP rest hw.2]
  termination_by structural ks => ks
  theorem evalCArgs_eq' (hP : P.Lawful) : ∀ (args : Args), args.WF →
      evalCArgsPos P m ρ args = evalRtArgsPos P m ρ args ∧ evalCArgsKw P m ρ args = evalRtArgsKw P m ρ args
    | .nil, _ => ⟨rfl, rfl⟩
    | .pos e rest, hw | .posSplat e rest, hw | .kw _ e rest, hw | .kwSplat e rest, hw => by
      simp only [evalCArgsPos, evalRtArgsPos, evalCArgsKw, evalRtArgsKw, evalC_eq_evalRt' hP e hw.1,
        evalCArgs_eq' hP rest hw.2, and_self]
  termination_by structural args => args
end

/-! ### hoisting literals into variables keeps well-formedness and the run-time value

The two facts go together: nothing can be said about the compiled code of the hoisted expression before it is known
to be well formed, so every use needs both.  Only the value half needs the laws, and only where a whole literal is
replaced; hence the implication inside. -/

theorem hoistHere_spec {e e' : Expr} (hw : e.WF) (h : HoistHere P ρ e e') :
    e'.WF ∧ (P.Lawful → ∀ m, evalRt P m ρ e' = evalRt P m ρ e) := by
  obtain ⟨x, v, rfl, hv, hx⟩ := h
  refine ⟨trivial, fun hP m => ?_⟩
  rw [asConst_sound' m ρ hP e v hw hv]
  simp [evalRt, lookup, hx]

mutual
  theorem hoist_spec : ∀ (e e' : Expr), e.WF → Hoist P ρ e e' →
      e'.WF ∧ (P.Lawful → ∀ m, evalRt P m ρ e' = evalRt P m ρ e)
    | .const c, e', hw, h => by
      unfold Hoist at h
      rcases h with rfl | h
      · exact ⟨hw, fun _ _ => rfl⟩
      · exact hoistHere_spec ρ hw h
    | .var x, e', hw, h => by unfold Hoist at h; subst h; exact ⟨hw, fun _ _ => rfl⟩
    | .list items, e', hw, h | .tuple items, e', hw, h => by
      unfold Hoist at h
      rcases h with ⟨items', rfl, hi⟩ | h
      · have ii := hoistList_spec items items' hw hi
        exact ⟨ii.1, fun hP m => by rw [evalRt, evalRt, ii.2 hP m]⟩
      · exact hoistHere_spec ρ hw h
    | .map kvs, e', hw, h => by
      unfold Hoist at h
      rcases h with ⟨kvs', rfl, hi⟩ | h
      · have ii := hoistPairs_spec kvs kvs' hw hi
        exact ⟨ii.1, fun hP m => by rw [evalRt, evalRt, ii.2 hP m]⟩
      · exact hoistHere_spec ρ hw h
    | .not a, e', hw, h | .neg a, e', hw, h => by
      unfold Hoist at h
      rcases h with ⟨a', rfl, hi⟩ | h
      · have ia := hoist_spec a a' hw hi
        exact ⟨ia.1, fun hP m => by rw [evalRt, evalRt, ia.2 hP m]⟩
      · exact hoistHere_spec ρ hw h
    | .bin op l r, e', hw, h => by
      unfold Hoist at h
      rcases h with ⟨l', r', rfl, hl, hr⟩ | h
      · have il := hoist_spec l l' hw.1 hl
        have ir := hoist_spec r r' hw.2 hr
        exact ⟨⟨il.1, ir.1⟩, fun hP m => by rw [evalRt_bin, evalRt_bin, il.2 hP m, ir.2 hP m]⟩
      · exact hoistHere_spec ρ hw h
    | .cmp a ops, e', hw, h => by
      unfold Hoist at h
      rcases h with ⟨a', ops', rfl, ha, ho⟩ | h
      · have ia := hoist_spec a a' hw.1 ha
        have io := hoistChain_spec ops ops' hw.2.2 ho
        refine ⟨⟨ia.1, ?_, io.1⟩, fun hP m => by simp only [evalRt, ia.2 hP m, io.2 hP m]⟩
        cases ops with
        | nil => exact absurd rfl hw.2.1
        | cons op e rest =>
          unfold HoistChain at ho
          obtain ⟨_, _, rfl, _, _⟩ := ho
          simp
      · exact hoistHere_spec ρ hw h
    | .getAttr a n, e', hw, h => by
      unfold Hoist at h
      obtain ⟨a', rfl, ha⟩ := h
      have ia := hoist_spec a a' hw ha
      exact ⟨ia.1, fun hP m => by rw [evalRt, evalRt, ia.2 hP m]⟩
    | .getItem a i, e', hw, h => by
      unfold Hoist at h
      obtain ⟨a', i', rfl, ha, hi⟩ := h
      have ia := hoist_spec a a' hw.1 ha
      have ii := hoist_spec i i' hw.2 hi
      exact ⟨⟨ia.1, ii.1⟩, fun hP m => by rw [evalRt, evalRt, ia.2 hP m, ii.2 hP m]⟩
    | .slice a x y z, e', hw, h => by
      unfold Hoist at h
      obtain ⟨a', x', y', z', rfl, ha, hx, hy, hz⟩ := h
      have ia := hoist_spec a a' hw.1 ha
      have ix := hoistOpt_spec x x' hw.2.1 hx
      have iy := hoistOpt_spec y y' hw.2.2.1 hy
      have iz := hoistOpt_spec z z' hw.2.2.2 hz
      exact ⟨⟨ia.1, ix.1, iy.1, iz.1⟩, fun hP m => by rw [evalRt, evalRt, ia.2 hP m, ix.2 hP m, iy.2 hP m, iz.2 hP m]⟩
    | .ifExpr c t f, e', hw, h => by
      unfold Hoist at h
      obtain ⟨c', t', f', rfl, hc, ht, hf⟩ := h
      have ic := hoist_spec c c' hw.1 hc
      have it := hoist_spec t t' hw.2.1 ht
      have jf := hoistOpt_spec f f' hw.2.2 hf
      exact ⟨⟨ic.1, it.1, jf.1⟩, fun hP m => by rw [evalRt, evalRt, ic.2 hP m, it.2 hP m, jf.2 hP m]⟩
    | .filter n a pos kws, e', hw, h | .test n a pos kws, e', hw, h => by
      unfold Hoist at h
      obtain ⟨a', pos', kws', rfl, ha, hp, hk⟩ := h
      have ia := hoist_spec a a' hw.1 ha
      have ip := hoistList_spec pos pos' hw.2.1 hp
      have ik := hoistKws_spec kws kws' hw.2.2 hk
      exact ⟨⟨ia.1, ip.1, ik.1⟩, fun hP m => by rw [evalRt, evalRt, ia.2 hP m, ip.2 hP m, ik.2 hP m]⟩
    | .call n pos kws, e', hw, h => by
      unfold Hoist at h
      obtain ⟨pos', kws', rfl, hp, hk⟩ := h
      have ip := hoistList_spec pos pos' hw.1 hp
      have ik := hoistKws_spec kws kws' hw.2 hk
      exact ⟨⟨ip.1, ik.1⟩, fun hP m => by rw [evalRt, evalRt, ip.2 hP m, ik.2 hP m]⟩
    | .callx k recv n args, e', hw, h => by
      unfold Hoist at h
      obtain ⟨recv', args', rfl, hr, ha⟩ := h
      have ir := hoistList_spec recv recv' hw.1 hr
      have ia := hoistArgs_spec args args' hw.2 ha
      exact ⟨⟨ir.1, ia.1⟩, fun hP m => by rw [evalRt, evalRt, ir.2 hP m, (ia.2 hP m).1, (ia.2 hP m).2]⟩
  termination_by structural e => e
  theorem hoistOpt_spec : ∀ (o o' : OptExpr), o.WF → HoistOpt P ρ o o' →
      o'.WF ∧ (P.Lawful → ∀ m d, evalRtOpt P m ρ d o' = evalRtOpt P m ρ d o)
    | .none, o', hw, h => by unfold HoistOpt at h; subst h; exact ⟨hw, fun _ _ _ => rfl⟩
    | .some e, o', hw, h => by
      unfold HoistOpt at h
      obtain ⟨e', rfl, he⟩ := h
      have ie := hoist_spec e e' hw he
      exact ⟨ie.1, fun hP m d => by rw [evalRtOpt, evalRtOpt, ie.2 hP m]⟩
  termination_by structural o => o
  theorem hoistList_spec : ∀ (es es' : Exprs), es.WF → HoistList P ρ es es' →
      es'.WF ∧ (P.Lawful → ∀ m, evalRtList P m ρ es' = evalRtList P m ρ es)
    | .nil, es', hw, h => by unfold HoistList at h; subst h; exact ⟨hw, fun _ _ => rfl⟩
    | .cons e es, es', hw, h => by
      unfold HoistList at h
      obtain ⟨e', es'', rfl, he, hes⟩ := h
      have ie := hoist_spec e e' hw.1 he
      have ies := hoistList_spec es es'' hw.2 hes
      exact ⟨⟨ie.1, ies.1⟩, fun hP m => by rw [evalRtList, evalRtList, ie.2 hP m, ies.2 hP m]⟩
  termination_by structural es => es
  theorem hoistPairs_spec : ∀ (ps ps' : Pairs), ps.WF → HoistPairs P ρ ps ps' →
      ps'.WF ∧ (P.Lawful → ∀ m, evalRtPairs P m ρ ps' = evalRtPairs P m ρ ps)
    | .nil, ps', hw, h => by unfold HoistPairs at h; subst h; exact ⟨hw, fun _ _ => rfl⟩
    | .cons k v rest, ps', hw, h => by
      unfold HoistPairs at h
      obtain ⟨k', v', rest', rfl, hk, hv, hr⟩ := h
      have ik := hoist_spec k k' hw.1 hk
      have iv := hoist_spec v v' hw.2.1 hv
      have ir := hoistPairs_spec rest rest' hw.2.2 hr
      exact ⟨⟨ik.1, iv.1, ir.1⟩, fun hP m => by rw [evalRtPairs, evalRtPairs, ik.2 hP m, iv.2 hP m, ir.2 hP m]⟩
  termination_by structural ps => ps
  theorem hoistChain_spec : ∀ (ops ops' : Chain), ops.WF → HoistChain P ρ ops ops' →
      ops'.WF ∧ (P.Lawful → ∀ m left, evalRtChain P m ρ left ops' = evalRtChain P m ρ left ops)
    | .nil, ops', hw, h => by unfold HoistChain at h; subst h; exact ⟨hw, fun _ _ _ => rfl⟩
    | .cons op e .nil, ops', hw, h => by
      unfold HoistChain at h
      obtain ⟨e', rest', rfl, he, hr⟩ := h
      unfold HoistChain at hr; subst hr
      have ie := hoist_spec e e' hw.1 he
      exact ⟨⟨ie.1, hw.2⟩, fun hP m left => by rw [evalRtChain, evalRtChain, ie.2 hP m]⟩
    | .cons op e (.cons op2 e2 rest), ops', hw, h => by
      unfold HoistChain at h
      obtain ⟨e', rest', rfl, he, hr⟩ := h
      have ie := hoist_spec e e' hw.1 he
      have ir := hoistChain_spec (.cons op2 e2 rest) rest' hw.2 hr
      -- the hoisted tail is a `cons` as well, so both sides take the `CompareAndPreserve` equation
      unfold HoistChain at hr
      obtain ⟨e2', rest2', rfl, _, _⟩ := hr
      exact ⟨⟨ie.1, ir.1⟩, fun hP m left => by simp only [evalRtChain, ie.2 hP m, ir.2 hP m]⟩
  termination_by structural ops => ops
  theorem hoistKws_spec : ∀ (ks ks' : Kws), ks.WF → HoistKws P ρ ks ks' →
      ks'.WF ∧ (P.Lawful → ∀ m, evalRtKws P m ρ ks' = evalRtKws P m ρ ks)
    | .nil, ks', hw, h => by unfold HoistKws at h; subst h; exact ⟨hw, fun _ _ => rfl⟩
    | .cons n e rest, ks', hw, h => by
      unfold HoistKws at h
      obtain ⟨e', rest', rfl, he, hr⟩ := h
      have ie := hoist_spec e e' hw.1 he
      have ir := hoistKws_spec rest rest' hw.2 hr
      exact ⟨⟨ie.1, ir.1⟩, fun hP m => by rw [evalRtKws, evalRtKws, ie.2 hP m, ir.2 hP m]⟩
  termination_by structural ks => ks
  theorem hoistArgs_spec : ∀ (a a' : Args), a.WF → HoistArgs P ρ a a' →
      a'.WF ∧ (P.Lawful → ∀ m, evalRtArgsPos P m ρ a' = evalRtArgsPos P m ρ a ∧
        evalRtArgsKw P m ρ a' = evalRtArgsKw P m ρ a)
    | .nil, a', hw, h => by unfold HoistArgs at h; subst h; exact ⟨hw, fun _ _ => ⟨rfl, rfl⟩⟩
    | .pos e rest, a', hw, h | .posSplat e rest, a', hw, h | .kw _ e rest, a', hw, h | .kwSplat e rest, a', hw, h => by
      unfold HoistArgs at h
      obtain ⟨e', rest', rfl, he, hr⟩ := h
      have ie := hoist_spec e e' hw.1 he
      have ir := hoistArgs_spec rest rest' hw.2 hr
      exact ⟨⟨ie.1, ir.1⟩, fun hP m => by simp only [evalRtArgsPos, evalRtArgsKw, ie.2 hP m, ir.2 hP m, and_self]⟩
  termination_by structural a => a
end

theorem hoistOpt_rt' (hP : P.Lawful) : ∀ (o o' : OptExpr) (d : V), o.WF → HoistOpt P ρ o o' →
    evalRtOpt P m ρ d o' = evalRtOpt P m ρ d o :=
  fun o o' d hw h => (hoistOpt_spec ρ o o' hw h).2 hP m d

theorem hoistPairs_rt' (hP : P.Lawful) : ∀ (ps ps' : Pairs), ps.WF → HoistPairs P ρ ps ps' →
    evalRtPairs P m ρ ps' = evalRtPairs P m ρ ps :=
  fun ps ps' hw h => (hoistPairs_spec ρ ps ps' hw h).2 hP m

theorem hoistChain_rt' (hP : P.Lawful) : ∀ (ops ops' : Chain) (left : V), ops.WF → HoistChain P ρ ops ops' →
    evalRtChain P m ρ left ops' = evalRtChain P m ρ left ops :=
  fun ops ops' left hw h => (hoistChain_spec ρ ops ops' hw h).2 hP m left

theorem hoistOpt_WF' : ∀ (o o' : OptExpr), o.WF → HoistOpt P ρ o o' → o'.WF :=
  fun o o' hw h => (hoistOpt_spec ρ o o' hw h).1

theorem hoistPairs_WF' : ∀ (ps ps' : Pairs), ps.WF → HoistPairs P ρ ps ps' → ps'.WF :=
  fun ps ps' hw h => (hoistPairs_spec ρ ps ps' hw h).1

theorem hoistChain_WF' : ∀ (ops ops' : Chain), ops.WF → HoistChain P ρ ops ops' → ops'.WF :=
  fun ops ops' hw h => (hoistChain_spec ρ ops ops' hw h).1

/-! ### the call of a `{% call %}` block in its general form keeps its caller -/

theorem evalCallBlockX_eq (hP : P.Lawful) (hs : P.codegenSpecial "static-kwargs-off-for-caller" = true)
    (kind : CallKind) (recv : Exprs) (name : String) (args : Args) (caller : V) (hr : recv.WF) (ha : args.WF) :
    evalCallBlockXC P m ρ kind recv name args caller = evalCallBlockXRt P m ρ kind recv name args caller := by
  unfold evalCallBlockXC evalCallBlockXRt
  rw [evalCList_eq' m ρ hP recv hr, (evalCArgs_eq' m ρ hP args ha).1, (evalCArgs_eq' m ρ hP args ha).2]
  simp [hs, gate]

end

/-- `l in c` where the code generator replaces the operand `c` by the constant `cv` and `l` is not constant:
    the code of `l`, `LoadConst(cv)`, `In` - whatever kind of expression `c` is -/
theorem in_folded_operand_code (P : Prims) (l c : Expr) (cv : V) (hl : asConst P l = none)
    (hk : constsC P c = [cv]) (hv : ∀ m ρ, evalC P m ρ c = .ok cv) :
    constsC P (.bin .in_ l c) = constsC P l ++ [cv] ∧
    ∀ (m : Mode) (ρ : Env), evalC P m ρ (.bin .in_ l c) =
      (match evalC P m ρ l with
       | .error e => .error e
       | .ok a => inInstr P m a cv) := by
  have h1 : foldFirst P (.bin .in_ l c) = none := foldFirst_none (by simp [asConst, hl, gate])
  refine ⟨by simp [constsC, foldedK, h1, hk], fun m ρ => ?_⟩
  rw [evalC_bin, hv]
  simp only [folded, h1]
  cases evalC P m ρ l <;> rfl

end MJ.Fold
