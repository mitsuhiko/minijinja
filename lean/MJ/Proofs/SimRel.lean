import MJ.Proofs.VmSim
import MJ.Proofs.Scoping
import MJ.Proofs.EvalFrame
import MJ.Proofs.Plain
/-!
# The simulation relation between the reference semantics and the model VM (C03)

Scopes of the reference semantics are heap cells, a macro value remembers the cells that were
visible at its declaration (by reference).  The VM has frames, and a macro object has a *closure*:
a copy of the values of its free names taken at the declaration, kept up to date by duplicating
every later store into the declaring frame.  `HRel` relates the two:

* the cells `loc` of the current context (template level, or the body of the macro being called)
  pair up with the frames `locF`; the rest of the lexical scope (`env`, empty at template level) is
  visible to the VM only through the closure `clo` the bottom frame reads;
* a ghost map `G` says which scope stack a closure mirrors; `closOK`: every entry of a closure is the
  value a lookup from that scope stack gives *now*;
* macro values correspond (`MacroRel`): same declaration, code at the recorded offset, the closure
  mirrors the declaration environment and holds every name the macro encloses.

Macro names (`K.M`) are kept apart from data names (`wfExpr`): data values are equal on both sides.

`HRel` is kept by what the statements do to either side (`HRel.enter`, `HRel.store`, `HRel.newClosure`, `HRel.addEntry`,
`HRel.callee`).  It looks at the heap through lookups and at the configuration through its macro names, its render
context and `MacroRel` only: `HRel.transport` (a heap that answers alike, `HeapEq`; a code that has the same macro bodies
where they were, `HRel.recode`).
-/
namespace MJ.Vm
open MJ.Eval MJ.Compile MJ.C03

/-- which scope stack of the reference semantics a closure mirrors -/
abbrev Ghost := Nat → Option (List Nat)

structure Cfg where
  ctx : Scope
  M : List String
  C : List Instr

/-- the code of a macro (prologue, body, `Return`) sits at `off` -/
def MacroCode (C : List Instr) (off : Nat) (params : List String) (defaults : List Expr) (body : List Stmt) : Prop :=
  ∃ a : Aux,
    At C off ((relPrologue (paramDefaults params defaults).reverse off a).1 ++
      (relBlock body (off + (relPrologue (paramDefaults params defaults).reverse off a).1.length)
        (relPrologue (paramDefaults params defaults).reverse off a).2 none).1.1 ++ [.return_]) ∧
    (relBlock body (off + (relPrologue (paramDefaults params defaults).reverse off a).1.length)
        (relPrologue (paramDefaults params defaults).reverse off a).2 none).1.2.oof = false

/-- a macro of the reference semantics against a macro object of the VM -/
def MacroRel (K : Cfg) (G : Ghost) (cls : List Scope) (hl : Nat) (u w : Val) : Prop :=
  match w with
  | .macro name params defaults body uc env =>
    ∃ off clo, u = .vmMacro name params off clo uc ∧ MacroCode K.C off params defaults body ∧
      wfMacroBody K.M params defaults body uc = true ∧
      (∀ id ∈ env, id < hl) ∧
      (∀ c, clo = some c → G c = some env) ∧
      (∀ x, x ∈ fvOf params defaults body → ∃ c m, clo = some c ∧ cls[c]? = some m ∧ (assocGet x m).isSome = true)
  | _ => u = w

/-- values of a variable: equal for data names, corresponding macros for macro names -/
def ValAgree (K : Cfg) (G : Ghost) (cls : List Scope) (hl : Nat) (x : String) (w u : Val) : Prop :=
  if x ∈ K.M then MacroRel K G cls hl u w else u = w

def OptAgree (K : Cfg) (G : Ghost) (cls : List Scope) (hl : Nat) (x : String) (e v : Option Val) : Prop :=
  if x ∈ K.M then e.isSome = v.isSome ∧ ∀ w u, e = some w → v = some u → MacroRel K G cls hl u w else v = e

theorem OptAgree_iff {K G cls hl x e v} : OptAgree K G cls hl x e v ↔
    (e = none ∧ v = none) ∨ ∃ w u, e = some w ∧ v = some u ∧ ValAgree K G cls hl x w u := by
  unfold OptAgree ValAgree
  cases e <;> cases v <;> split <;> simp [eq_comm]

theorem OptAgree.none (K : Cfg) (G : Ghost) (cls : List Scope) (hl : Nat) (x : String) : OptAgree K G cls hl x none none :=
  OptAgree_iff.2 (.inl ⟨rfl, rfl⟩)

theorem OptAgree.some {K G cls hl x w u} (h : ValAgree K G cls hl x w u) : OptAgree K G cls hl x (some w) (some u) :=
  OptAgree_iff.2 (.inr ⟨w, u, rfl, rfl, h⟩)

/-- keys of closures are never removed -/
def KeysMono (cls cls' : List Scope) : Prop :=
  ∀ (c : Nat) (m : Scope), cls[c]? = some m → ∃ m', cls'[c]? = some m' ∧ ∀ x, (assocGet x m).isSome = true → (assocGet x m').isSome = true

theorem KeysMono.refl (cls : List Scope) : KeysMono cls cls := fun _ m h => ⟨m, h, fun _ h => h⟩

theorem KeysMono.trans {a b c : List Scope} (h1 : KeysMono a b) (h2 : KeysMono b c) : KeysMono a c := by
  intro i m hm
  obtain ⟨m1, hm1, k1⟩ := h1 i m hm
  obtain ⟨m2, hm2, k2⟩ := h2 i m1 hm1
  exact ⟨m2, hm2, fun x hx => k2 x (k1 x hx)⟩

theorem KeysMono.append (cls extra : List Scope) : KeysMono cls (cls ++ extra) := by
  intro c m h
  exact ⟨m, by rw [List.getElem?_append_left (lt_of_getElem?_some h)]; exact h, fun _ h => h⟩

/-- the ghost map only grows -/
def GhostLe (G G' : Ghost) : Prop := ∀ c env, G c = some env → G' c = some env

theorem MacroRel.mono {K G G' cls cls' hl hl' u w} (h : MacroRel K G cls hl u w) (hg : GhostLe G G') (hk : KeysMono cls cls')
    (hle : hl ≤ hl') : MacroRel K G' cls' hl' u w := by
  cases w <;> try exact h
  rename_i name params defaults body uc env
  obtain ⟨off, clo, h1, h2, h3, hb, h4, h5⟩ := h
  refine ⟨off, clo, h1, h2, h3, fun id hid => Nat.lt_of_lt_of_le (hb id hid) hle, fun c hc => hg c env (h4 c hc), fun x hx => ?_⟩
  obtain ⟨c, m, hc, hm, hx'⟩ := h5 x hx
  obtain ⟨m', hm', hk'⟩ := hk c m hm
  exact ⟨c, m', hc, hm', hk' x hx'⟩

theorem ValAgree.imp {K K' G G' cls cls' hl hl' x w u} (hM : K'.M = K.M)
    (hR : ∀ u w, MacroRel K G cls hl u w → MacroRel K' G' cls' hl' u w) (h : ValAgree K G cls hl x w u) :
    ValAgree K' G' cls' hl' x w u := by
  unfold ValAgree at h ⊢
  by_cases hm : x ∈ K.M
  · rw [if_pos hm] at h; rw [if_pos (by rw [hM]; exact hm)]; exact hR u w h
  · rw [if_neg hm] at h; rw [if_neg (by rw [hM]; exact hm)]; exact h

theorem OptAgree.imp {K K' G G' cls cls' hl hl' x e v} (hM : K'.M = K.M)
    (hR : ∀ u w, MacroRel K G cls hl u w → MacroRel K' G' cls' hl' u w) (h : OptAgree K G cls hl x e v) :
    OptAgree K' G' cls' hl' x e v :=
  OptAgree_iff.2 ((OptAgree_iff.1 h).imp_right fun ⟨w, u, he, hv, hwu⟩ => ⟨w, u, he, hv, hwu.imp hM hR⟩)

theorem ValAgree.mono {K G G' cls cls' hl hl' x w u} (h : ValAgree K G cls hl x w u) (hg : GhostLe G G') (hk : KeysMono cls cls')
    (hle : hl ≤ hl') : ValAgree K G' cls' hl' x w u :=
  h.imp rfl fun _ _ hr => hr.mono hg hk hle

theorem OptAgree.mono {K G G' cls cls' hl hl' x e v} (h : OptAgree K G cls hl x e v) (hg : GhostLe G G') (hk : KeysMono cls cls')
    (hle : hl ≤ hl') : OptAgree K G' cls' hl' x e v :=
  h.imp rfl fun _ _ hr => hr.mono hg hk hle

/-- cell `id` of the reference semantics and frame `f` of the VM answer alike (locals and `loop`) -/
def CellAgree (K : Cfg) (G : Ghost) (cls : List Scope) (heap : Heap) (id : Nat) (f : Frame) : Prop :=
  ∃ cell, heap[id]? = some cell ∧ ∀ x, OptAgree K G cls heap.length x (assocGet x cell) (frameLocal f x)

/-- the cells of the current context against its frames; only the bottom frame reads a closure (`clo`) -/
def FramesRel (K : Cfg) (G : Ghost) (cls : List Scope) (heap : Heap) (clo : Option Nat) : List Nat → List Frame → Prop
  | [], [] => True
  | id :: ids, f :: fs =>
    CellAgree K G cls heap id f ∧ f.closureCtx = (if ids.isEmpty then clo else none) ∧ FramesRel K G cls heap clo ids fs
  | _, _ => False

/-- what the VM finds below the frames of the context: the closure the bottom frame reads, then the
render context -/
def tailLookup (ctx : Scope) (cls : List Scope) (clo : Option Nat) (x : String) : Val :=
  match (clo.bind fun c => cls[c]?).bind (assocGet x) with
  | some v => v
  | none => (assocGet x ctx).getD .undef

/-- names whose lookup may fall through the local cells -/
def tailOk (P : Option (List String)) (x : String) : Prop :=
  match P with
  | none => True
  | some fv => x ∈ fv

/-- frames that answer nothing -/
def EmptyFrame (f : Frame) : Prop := f.locals = [] ∧ f.loop = none ∧ f.closureCtx = none

structure HRel (K : Cfg) (G : Ghost) (P : Option (List String)) (clo : Option Nat) (heap : Heap)
    (loc env : List Nat) (s : VmState) : Prop where
  /-- the frames of the context, and the (empty) base frame of a macro call below them; the closure a
  frame owns mirrors the scope stack from that frame down, and a mirrored closure that no frame of the
  context owns mirrors only cells older than the context's: a store into the context does not show
  through it -/
  frames : ∃ locF tailF, s.frames = locF ++ tailF ∧ FramesRel K G s.closures heap clo loc locF ∧
    (∀ f ∈ tailF, EmptyFrame f) ∧
    (∀ k f c, locF[k]? = some f → f.closure = some c → G c = some (loc.drop k ++ env)) ∧
    (∀ c env', G c = some env' →
      (∃ k f, locF[k]? = some f ∧ f.closure = some c ∧ env' = loc.drop k ++ env) ∨ (∀ id ∈ env', ∀ l ∈ loc, id < l))
  tail : ∀ x, tailOk P x → ValAgree K G s.closures heap.length x ((lookup K.ctx heap env x).getD .undef) (tailLookup K.ctx s.closures clo x)
  /-- every entry of a mirrored closure is what a lookup from the mirrored scope stack gives now -/
  closOK : ∀ c env', G c = some env' → ∃ m, s.closures[c]? = some m ∧
    ∀ x u, assocGet x m = some u → ValAgree K G s.closures heap.length x ((lookup K.ctx heap env' x).getD .undef) u
  genv : ∀ c env', G c = some env' → ∀ id ∈ env', id < heap.length
  bound : ∀ id ∈ loc ++ env, id < heap.length
  nodup : loc.Nodup
  below : ∀ e ∈ env, ∀ l ∈ loc, e < l
  cloG : ∀ c, clo = some c → G c = some env
  /-- the data of the reference semantics is plain data -/
  plain : PlainSt K.M K.ctx heap

theorem frameLookup_of_ctx_none {cls : List Scope} {f : Frame} (h : f.closureCtx = none) (x : String) :
    frameLookup cls f x = frameLocal f x := by
  unfold frameLookup
  cases frameLocal f x <;> simp [h]

theorem lookupFrames_empty (ctx : Scope) (cls : List Scope) (x : String) : ∀ (fs : List Frame), (∀ f ∈ fs, EmptyFrame f) →
    lookupFrames ctx cls x fs = (assocGet x ctx).getD .undef
  | [], _ => rfl
  | f :: rest, h => by
    have hf := h f (by simp)
    have : frameLookup cls f x = none := by
      simp [frameLookup, frameLocal, hf.1, hf.2.1, hf.2.2, assocGet]
    simp only [lookupFrames, this]
    exact lookupFrames_empty ctx cls x rest (fun g hg => h g (by simp [hg]))

theorem lookupIn_append (heap : Heap) (x : String) : ∀ (a b : List Nat),
    lookupIn heap x (a ++ b) = match lookupIn heap x a with
      | some v => some v
      | none => lookupIn heap x b
  | [], b => by simp [lookupIn]
  | id :: a, b => by
    simp only [List.cons_append, lookupIn]
    cases (heap[id]?).bind (assocGet x) with
    | some v => rfl
    | none => exact lookupIn_append heap x a b

theorem lookupFrames_last {ctx : Scope} {cls : List Scope} {f : Frame} {tailF : List Frame} {x : String}
    (hl : frameLocal f x = none) (htail : ∀ f ∈ tailF, EmptyFrame f) :
    lookupFrames ctx cls x (f :: tailF) = tailLookup ctx cls f.closureCtx x := by
  simp only [lookupFrames, frameLookup, hl, tailLookup, lookupFrames_empty ctx cls x tailF htail]
  cases (f.closureCtx.bind fun c => cls[c]?).bind (assocGet x) <;> rfl

theorem lookupFrames_some {ctx : Scope} {cls : List Scope} {f : Frame} {rest : List Frame} {x : String} {u : Val}
    (hl : frameLocal f x = some u) : lookupFrames ctx cls x (f :: rest) = u := by
  simp [lookupFrames, frameLookup, hl]

theorem lookupFrames_skip {ctx : Scope} {cls : List Scope} {f : Frame} {rest : List Frame} {x : String}
    (hl : frameLocal f x = none) (hc : f.closureCtx = none) :
    lookupFrames ctx cls x (f :: rest) = lookupFrames ctx cls x rest := by
  simp [lookupFrames, frameLookup, hl, hc]

theorem lookup_cons_none {ctx : Scope} {heap : Heap} {id : Nat} {st : List Nat} {x : String}
    (h : (heap[id]?).bind (assocGet x) = none) : MJ.Eval.lookup ctx heap (id :: st) x = MJ.Eval.lookup ctx heap st x := by
  simp [MJ.Eval.lookup, lookupIn, h]

theorem lookup_cons_some {ctx : Scope} {heap : Heap} {id : Nat} {st : List Nat} {x : String} {v : Val}
    (h : (heap[id]?).bind (assocGet x) = some v) : MJ.Eval.lookup ctx heap (id :: st) x = some v := by
  simp [MJ.Eval.lookup, lookupIn, h]

/-- `x` is bound in one of the cells `ids` -/
def BoundIn (heap : Heap) (ids : List Nat) (x : String) : Prop :=
  ∃ id ∈ ids, ∃ cell, heap[id]? = some cell ∧ (assocGet x cell).isSome = true

theorem lookupIn_none_of_not_bound {heap : Heap} {x : String} : ∀ {ids : List Nat}, (∀ id ∈ ids, id < heap.length) →
    ¬ BoundIn heap ids x → lookupIn heap x ids = none
  | [], _, _ => rfl
  | id :: rest, hb, hn => by
    have hid : id < heap.length := hb id (by simp)
    have h1 : (heap[id]?).bind (assocGet x) = none := by
      rw [List.getElem?_eq_getElem hid]
      cases hg : assocGet x heap[id] with
      | none => simp [hg]
      | some v => exact absurd ⟨id, by simp, heap[id], List.getElem?_eq_getElem hid, by simp [hg]⟩ hn
    simp only [lookupIn, h1]
    exact lookupIn_none_of_not_bound (fun i hi => hb i (by simp [hi]))
      (fun ⟨i, hi, c, hc, hx⟩ => hn ⟨i, by simp [hi], c, hc, hx⟩)

/-- the heart of the relation: a variable that is bound in a local cell or may fall through has
corresponding values on both sides -/
theorem FramesRel.lookup {K : Cfg} {G : Ghost} {cls : List Scope} {heap : Heap} {clo : Option Nat} {env : List Nat}
    {tailF : List Frame} (htail : ∀ f ∈ tailF, EmptyFrame f) (x : String) :
    ∀ {loc : List Nat} {locF : List Frame}, loc ≠ [] → FramesRel K G cls heap clo loc locF →
      (BoundIn heap loc x ∨ ValAgree K G cls heap.length x ((MJ.Eval.lookup K.ctx heap env x).getD .undef) (tailLookup K.ctx cls clo x)) →
      ValAgree K G cls heap.length x ((MJ.Eval.lookup K.ctx heap (loc ++ env) x).getD .undef) (lookupFrames K.ctx cls x (locF ++ tailF))
  | [], _, hne, _, _ => absurd rfl hne
  | id :: ids, [], _, h, _ => by simp [FramesRel] at h
  | id :: ids, f :: fs, _, h, hx => by
    obtain ⟨⟨cell, hc, hag⟩, hctx, hrest⟩ := h
    simp only [List.cons_append]
    rcases OptAgree_iff.1 (hag x) with ⟨he, hl⟩ | ⟨w, u, he, hl, hwu⟩
    · -- not bound in this cell, nor in this frame: both sides go on
      rw [lookup_cons_none (by simp [hc, he])]
      have hx' : BoundIn heap ids x ∨
          ValAgree K G cls heap.length x ((MJ.Eval.lookup K.ctx heap env x).getD .undef) (tailLookup K.ctx cls clo x) := by
        refine hx.imp_left fun ⟨i, hi, c', hc', hb⟩ => ?_
        rcases List.mem_cons.1 hi with rfl | hi'
        · rw [hc] at hc'; cases hc'; rw [he] at hb; cases hb
        · exact ⟨i, hi', c', hc', hb⟩
      cases ids with
      | nil =>
        cases fs with
        | nil =>
          simp only [List.nil_append]
          rw [lookupFrames_last hl htail, hctx]
          exact hx'.resolve_left fun ⟨i, hi, _⟩ => by simp at hi
        | cons f2 fs2 => simp [FramesRel] at hrest
      | cons id2 ids2 =>
        rw [lookupFrames_skip hl (by simpa using hctx)]
        exact FramesRel.lookup htail x (by simp) hrest hx'
    · rw [lookup_cons_some (v := w) (by simp [hc, he]), lookupFrames_some hl]
      exact hwu

theorem FramesRel.length {K G cls heap clo} : ∀ {loc : List Nat} {locF : List Frame},
    FramesRel K G cls heap clo loc locF → locF.length = loc.length
  | [], [], _ => rfl
  | [], _ :: _, h => by simp [FramesRel] at h
  | _ :: _, [], h => by simp [FramesRel] at h
  | _ :: ids, _ :: fs, h => by simp [FramesRel.length h.2.2]

theorem FramesRel.imp {K K' G G' cls cls' heap heap' clo} : ∀ {loc : List Nat} {locF : List Frame},
    (∀ id ∈ loc, ∀ f, CellAgree K G cls heap id f → CellAgree K' G' cls' heap' id f) →
    FramesRel K G cls heap clo loc locF → FramesRel K' G' cls' heap' clo loc locF
  | [], [], _, _ => trivial
  | [], _ :: _, _, h => by simp [FramesRel] at h
  | _ :: _, [], _, h => by simp [FramesRel] at h
  | id :: _, f :: _, hh, h => ⟨hh id (by simp) f h.1, h.2.1, FramesRel.imp (fun i hi => hh i (by simp [hi])) h.2.2⟩

theorem FramesRel.congr {K G G' cls cls' heap heap' clo} (hg : GhostLe G G') (hk : KeysMono cls cls')
    (hlen : heap.length ≤ heap'.length) {loc : List Nat} {locF : List Frame} (hh : ∀ id ∈ loc, heap'[id]? = heap[id]?)
    (h : FramesRel K G cls heap clo loc locF) : FramesRel K G' cls' heap' clo loc locF :=
  h.imp fun id hid _ ⟨cell, hc, hag⟩ => ⟨cell, by rw [hh id hid]; exact hc, fun x => (hag x).mono hg hk hlen⟩

theorem lookup_ext {ctx : Scope} {heap heap' : Heap} {x : String} : ∀ {st : List Nat},
    (∀ id ∈ st, (heap'[id]?).bind (assocGet x) = (heap[id]?).bind (assocGet x)) →
    MJ.Eval.lookup ctx heap' st x = MJ.Eval.lookup ctx heap st x
  | [], _ => rfl
  | id :: rest, h => by
    have ih := lookup_ext (ctx := ctx) (st := rest) (fun i hi => h i (by simp [hi]))
    simp only [MJ.Eval.lookup, lookupIn, h id (by simp)] at ih ⊢
    cases (heap[id]?).bind (assocGet x) with
    | some v => rfl
    | none => exact ih

theorem lookup_congr {ctx : Scope} {heap heap' : Heap} {x : String} {st : List Nat}
    (h : ∀ id ∈ st, heap'[id]? = heap[id]?) : MJ.Eval.lookup ctx heap' st x = MJ.Eval.lookup ctx heap st x :=
  lookup_ext fun id hid => by rw [h id hid]

theorem HRel.lookupAgree {K G P clo heap loc env s} (h : HRel K G P clo heap loc env s) (hne : loc ≠ []) (x : String)
    (hx : BoundIn heap loc x ∨ tailOk P x) :
    ValAgree K G s.closures heap.length x ((MJ.Eval.lookup K.ctx heap (loc ++ env) x).getD .undef)
      (lookupFrames K.ctx s.closures x s.frames) := by
  obtain ⟨locF, tailF, hf, hfr, htl, _, _⟩ := h.frames
  rw [hf]
  exact FramesRel.lookup htl x hne hfr (hx.elim Or.inl (fun ht => Or.inr (h.tail x ht)))

theorem GhostLe.refl (G : Ghost) : GhostLe G G := fun _ _ h => h

theorem tailLookup_congr {ctx : Scope} {cls cls' : List Scope} {clo : Option Nat} (x : String)
    (h : ∀ c, clo = some c → cls'[c]? = cls[c]?) : tailLookup ctx cls' clo x = tailLookup ctx cls clo x := by
  unfold tailLookup
  cases clo with
  | none => rfl
  | some c => simp [h c rfl]

/-- the closures change, but not the mirrored ones (and no key is lost) -/
theorem HRel.mono {K G P clo heap loc env s} (h : HRel K G P clo heap loc env s) (s' : VmState)
    (hf : s'.frames = s.frames) (hk : KeysMono s.closures s'.closures)
    (hsame : ∀ c env', G c = some env' → s'.closures[c]? = s.closures[c]?) : HRel K G P clo heap loc env s' := by
  obtain ⟨locF, tailF, hfr, hrel, htl, hown1, hown2⟩ := h.frames
  refine ⟨⟨locF, tailF, by rw [hf]; exact hfr, FramesRel.congr (GhostLe.refl G) hk (Nat.le_refl _) (fun _ _ => rfl) hrel, htl, hown1, hown2⟩,
    ?_, ?_, h.genv, h.bound, h.nodup, h.below, h.cloG, h.plain⟩
  · intro x hx
    rw [tailLookup_congr x (fun c hc => hsame c env (h.cloG c hc))]
    exact (h.tail x hx).mono (GhostLe.refl G) hk (Nat.le_refl _)
  · intro c env' hg
    obtain ⟨m, hm, hag⟩ := h.closOK c env' hg
    exact ⟨m, by rw [hsame c env' hg]; exact hm, fun x u hx => (hag x u hx).mono (GhostLe.refl G) hk (Nat.le_refl _)⟩

theorem HRel.same {K G P clo heap loc env s} (h : HRel K G P clo heap loc env s) (s' : VmState)
    (hf : s'.frames = s.frames) (hc : s'.closures = s.closures) : HRel K G P clo heap loc env s' :=
  h.mono s' hf (by rw [hc]; exact KeysMono.refl _) (fun _ _ _ => by rw [hc])

/-- calls only append closures -/
theorem HRel.ext {K G P clo heap loc env s} (h : HRel K G P clo heap loc env s) (s' : VmState)
    (hf : s'.frames = s.frames) (extra : List Scope) (hc : s'.closures = s.closures ++ extra) :
    HRel K G P clo heap loc env s' := by
  refine h.mono s' hf (by rw [hc]; exact KeysMono.append _ _) (fun c env' hg => ?_)
  obtain ⟨m, hm, _⟩ := h.closOK c env' hg
  rw [hc, List.getElem?_append_left (lt_of_getElem?_some hm)]

theorem lookup_append_cell {ctx : Scope} {heap : Heap} (cell : Scope) {st : List Nat} (x : String)
    (hst : ∀ id ∈ st, id < heap.length) : MJ.Eval.lookup ctx (heap ++ [cell]) st x = MJ.Eval.lookup ctx heap st x :=
  lookup_congr fun id hid => List.getElem?_append_left (hst id hid)

/-- a fresh cell / frame on top of the context.  On top of the empty context (the first frame of a macro
call) the new frame is the one that reads the closure. -/
theorem HRel.enter {K G P clo heap loc env s} (h : HRel K G P clo heap loc env s) (cell : Scope)
    (f : Frame) (hcl : f.closure = none) (hcc : f.closureCtx = if loc.isEmpty then clo else none)
    (hag : ∀ x, OptAgree K G s.closures (heap.length + 1) x (assocGet x cell) (frameLocal f x))
    (hpl : ∀ x v, x ∉ K.M → assocGet x cell = some v → MJ.Eval.plain v = true) (s' : VmState)
    (hf : s'.frames = f :: s.frames) (hc : s'.closures = s.closures) :
    HRel K G P clo (heap ++ [cell]) (heap.length :: loc) env s' := by
  have hlen1 : (heap ++ [cell]).length = heap.length + 1 := by simp
  obtain ⟨locF, tailF, hfr, hrel, htl, hown1, hown2⟩ := h.frames
  have hold : ∀ id ∈ loc ++ env, (heap ++ [cell])[id]? = heap[id]? :=
    fun id hid => List.getElem?_append_left (h.bound id hid)
  refine ⟨⟨f :: locF, tailF, by rw [hf, hfr]; rfl, ?_, htl, ?_, ?_⟩, ?_, ?_, ?_, ?_, ?_, ?_, h.cloG, h.plain.push cell hpl⟩
  · rw [hc]
    exact ⟨⟨cell, by simp, fun x => by rw [hlen1]; exact hag x⟩, hcc, FramesRel.congr (GhostLe.refl G) (KeysMono.refl _)
      (by rw [hlen1]; omega) (fun id hid => hold id (by simp [hid])) hrel⟩
  · intro k g c hk hg
    cases k with
    | zero => simp at hk; subst hk; rw [hcl] at hg; cases hg
    | succ j => simpa using hown1 j g c (by simpa using hk) hg
  · intro c env' hg
    rcases hown2 c env' hg with ⟨k, g, hk, hgc, he⟩ | hfor
    · exact Or.inl ⟨k + 1, g, by simpa using hk, hgc, by simpa using he⟩
    · refine Or.inr (fun id hid l hl => ?_)
      rcases List.mem_cons.1 hl with rfl | hl'
      · exact h.genv c env' hg id hid
      · exact hfor id hid l hl'
  · intro x hx
    rw [hc, lookup_append_cell cell x (fun id hid => h.bound id (by simp [hid]))]
    exact (h.tail x hx).mono (GhostLe.refl G) (KeysMono.refl _) (by rw [hlen1]; omega)
  · intro c env' hg
    obtain ⟨m, hm, hag'⟩ := h.closOK c env' hg
    refine ⟨m, by rw [hc]; exact hm, fun x u hx => ?_⟩
    rw [hc, lookup_append_cell cell x (h.genv c env' hg)]
    exact (hag' x u hx).mono (GhostLe.refl G) (KeysMono.refl _) (by rw [hlen1]; omega)
  · intro c env' hg id hid
    have := h.genv c env' hg id hid
    simp; omega
  · intro id hid
    simp at hid ⊢
    rcases hid with rfl | hid | hid
    · omega
    · have := h.bound id (by simp [hid]); omega
    · have := h.bound id (by simp [hid]); omega
  · simp only [List.nodup_cons]
    refine ⟨fun hmem => ?_, h.nodup⟩
    have := h.bound heap.length (List.mem_append.2 (Or.inl hmem)); omega
  · intro e he l hl
    rcases List.mem_cons.1 hl with rfl | hl'
    · exact h.bound e (by simp [he])
    · exact h.below e he l hl'

/-- `with`, a loop iteration: the context has a frame already -/
theorem HRel.push {K G P clo heap loc env s} (h : HRel K G P clo heap loc env s) (hne : loc ≠ []) (cell : Scope)
    (f : Frame) (hcl : f.closure = none) (hcc : f.closureCtx = none)
    (hag : ∀ x, OptAgree K G s.closures (heap.length + 1) x (assocGet x cell) (frameLocal f x))
    (hpl : ∀ x v, x ∉ K.M → assocGet x cell = some v → MJ.Eval.plain v = true) (s' : VmState)
    (hf : s'.frames = f :: s.frames) (hc : s'.closures = s.closures) :
    HRel K G P clo (heap ++ [cell]) (heap.length :: loc) env s' :=
  h.enter cell f hcl (by rw [hcc, if_neg (by simpa using hne)]) hag hpl s' hf hc

theorem KeysMono.set {cls : List Scope} {c : Nat} {m : Scope} (hm : cls[c]? = some m) (x : String) (u : Val) :
    KeysMono cls (cls.set c (assocSet x u m)) := by
  intro i mi hi
  by_cases hic : i = c
  · subst hic
    rw [hm] at hi; cases hi
    exact ⟨assocSet x u m, by simp [lt_of_getElem?_some hm], fun y hy => isSome_assocSet x y u m hy⟩
  · exact ⟨mi, by rw [List.getElem?_set_ne (Ne.symm hic)]; exact hi, fun _ h => h⟩

theorem storeClosure_keys (x : String) (u : Val) (frames : List Frame) (cls : List Scope) :
    KeysMono cls (storeClosure x u frames cls) := by
  unfold storeClosure
  split
  · split
    · rename_i m hm; exact KeysMono.set hm x u
    · exact KeysMono.refl _
  · exact KeysMono.refl _

theorem storeClosure_other (x : String) (u : Val) (frames : List Frame) (cls : List Scope) (c : Nat)
    (h : topClosure frames ≠ some c) : (storeClosure x u frames cls)[c]? = cls[c]? := by
  unfold storeClosure
  split
  · rename_i c' ht
    have hne : c' ≠ c := fun e => h (by rw [ht, e])
    split
    · rw [List.getElem?_set_ne hne]
    · rfl
  · rfl

theorem storeClosure_top (x : String) (u : Val) (frames : List Frame) (cls : List Scope) (c : Nat) (m : Scope)
    (h : topClosure frames = some c) (hm : cls[c]? = some m) :
    (storeClosure x u frames cls)[c]? = some (assocSet x u m) := by
  have hlt := lt_of_getElem?_some hm
  have hcm : cls[c] = m := by
    have := hm; rw [List.getElem?_eq_getElem hlt] at this; exact Option.some.inj this
  simp [storeClosure, h, hlt, hcm]

theorem frameLocal_store_same (f : Frame) (x : String) (u : Val) :
    frameLocal { f with locals := assocSet x u f.locals } x = some u := by
  simp [frameLocal, assocGet_assocSet_same]

theorem frameLocal_store_other (f : Frame) (x y : String) (u : Val) (h : y ≠ x) :
    frameLocal { f with locals := assocSet x u f.locals } y = frameLocal f y := by
  simp [frameLocal, assocGet_assocSet_other x y u _ h]

theorem lookup_heapSet_notin {ctx : Scope} {heap : Heap} {T : Nat} {st : List Nat} (x y : String) (w : Val)
    (h : T ∉ st) : MJ.Eval.lookup ctx (heapSet heap T x w) st y = MJ.Eval.lookup ctx heap st y :=
  lookup_congr (fun id hid => heapSet_getElem?_ne _ _ _ _ _ (fun e => h (e ▸ hid)))

theorem heapSet_bind_other (h : Heap) (cell id : Nat) (p x : String) (v : Val) (hne : x ≠ p) :
    ((heapSet h cell p v)[id]?).bind (assocGet x) = (h[id]?).bind (assocGet x) := by
  by_cases hid : id = cell
  · subst hid
    cases hc : h[id]? with
    | none => simp [heapSet, hc]
    | some c => exact (heapSet_other h id p x v hne (lt_of_getElem?_some hc)).trans (by rw [hc])
  · rw [heapSet_getElem?_ne h cell id p v hid]

/-- the closure the context reads mirrors `env` alone: it is not the one the innermost frame owns -/
theorem HRel.clo_ne_owned {K G P clo heap T locR env s} (h : HRel K G P clo heap (T :: locR) env s) {c : Nat}
    (hG : G c = some (T :: locR ++ env)) : clo ≠ some c := by
  intro hcc
  have h2 := h.cloG c hcc
  rw [hG] at h2
  have := congrArg List.length (Option.some.inj h2)
  simp at this
  omega

/-- a store into the innermost scope, on both sides (`set`, loop targets, `with` bindings, a macro name) -/
theorem HRel.store {K G P clo heap T locR env s} (h : HRel K G P clo heap (T :: locR) env s) (x : String) (w u : Val)
    (hv : ValAgree K G s.closures heap.length x w u) (hpw : x ∉ K.M → MJ.Eval.plain w = true) (s' : VmState)
    (hf : s'.frames = storeLocal x u s.frames)
    (hc : s'.closures = storeClosure x u s.frames s.closures) :
    HRel K G P clo (heapSet heap T x w) (T :: locR) env s' := by
  obtain ⟨locF, tailF, hfr, hrel, htl, hown1, hown2⟩ := h.frames
  have hT : T < heap.length := h.bound T (by simp)
  have hlen : heap.length ≤ (heapSet heap T x w).length := Nat.le_of_eq (heapSet_length _ _ _ _).symm
  have hnd := h.nodup
  simp only [List.nodup_cons] at hnd
  have hTr : T ∉ locR ++ env := by
    intro hmem
    rcases List.mem_append.1 hmem with h1 | h1
    · exact hnd.1 h1
    · have := h.below T h1 T (by simp); omega
  have hk : KeysMono s.closures s'.closures := by rw [hc]; exact storeClosure_keys _ _ _ _
  cases locF with
  | nil => simp [FramesRel] at hrel
  | cons f fsR =>
    obtain ⟨⟨cell, hcell, hag⟩, hctx, hrest⟩ := hrel
    have htop : topClosure s.frames = f.closure := by rw [hfr]; rfl
    have hfr' : s'.frames = ({ f with locals := assocSet x u f.locals } :: fsR) ++ tailF := by
      rw [hf, hfr]; rfl
    -- closures other than the one the top frame owns are untouched
    have hother : ∀ c, f.closure ≠ some c → s'.closures[c]? = s.closures[c]? := by
      intro c hne; rw [hc]; exact storeClosure_other _ _ _ _ c (by rw [htop]; exact hne)
    have hcellT : (heapSet heap T x w)[T]? = some (assocSet x w cell) := by
      have := heapSet_getElem?_same heap T x w hT
      rw [List.getElem?_eq_getElem hT] at hcell
      cases hcell; exact this
    refine ⟨⟨_, tailF, hfr', ?_, htl, ?_, ?_⟩, ?_, ?_, ?_, ?_, h.nodup, h.below, h.cloG, h.plain.heapSet T x w hpw⟩
    · refine ⟨⟨assocSet x w cell, hcellT, fun y => ?_⟩, hctx,
        FramesRel.congr (GhostLe.refl G) hk hlen (fun id hid => heapSet_getElem?_ne _ _ _ _ _
          (fun e => hTr (by rw [← e]; simp [hid]))) hrest⟩
      by_cases hy : y = x
      · subst hy
        rw [assocGet_assocSet_same, frameLocal_store_same]
        exact OptAgree.some (hv.mono (GhostLe.refl G) hk hlen)
      · rw [assocGet_assocSet_other x y w cell hy, frameLocal_store_other f x y u hy]
        exact (hag y).mono (GhostLe.refl G) hk hlen
    · intro k g c hk' hg
      cases k with
      | zero => simp at hk'; subst hk'; exact hown1 0 f c (by simp) hg
      | succ j => exact hown1 (j + 1) g c (by simpa using hk') hg
    · intro c env' hg
      rcases hown2 c env' hg with ⟨k, g, hk', hgc, he⟩ | hfor
      · cases k with
        | zero =>
          simp at hk'; subst hk'
          exact Or.inl ⟨0, { f with locals := assocSet x u f.locals }, by simp, hgc, he⟩
        | succ j => exact Or.inl ⟨j + 1, g, by simpa using hk', hgc, he⟩
      · exact Or.inr hfor
    · -- below the local cells
      intro y hy
      have hclo : ∀ c, clo = some c → s'.closures[c]? = s.closures[c]? := fun c hcc =>
        hother c fun hfc => h.clo_ne_owned (by simpa using hown1 0 f c (by simp) hfc) hcc
      rw [tailLookup_congr y hclo, lookup_heapSet_notin x y w (fun hm => hTr (by simp [hm]))]
      exact (h.tail y hy).mono (GhostLe.refl G) hk hlen
    · intro c env' hg
      obtain ⟨m, hm, hag'⟩ := h.closOK c env' hg
      by_cases hfc : f.closure = some c
      · -- the closure the innermost frame owns: the store is duplicated into it
        have henv : env' = T :: locR ++ env := by
          have := hown1 0 f c (by simp) hfc
          rw [hg] at this; simpa using Option.some.inj this
        subst henv
        refine ⟨assocSet x u m, by rw [hc]; exact storeClosure_top _ _ _ _ c m (by rw [htop]; exact hfc) hm, fun y v hy => ?_⟩
        by_cases hyx : y = x
        · subst hyx
          rw [assocGet_assocSet_same] at hy; cases hy
          have : MJ.Eval.lookup K.ctx (heapSet heap T y w) (T :: (locR ++ env)) y = some w :=
            lookup_heapSet_same _ _ _ _ _ _ hT
          simp only [List.cons_append, this, Option.getD_some]
          exact hv.mono (GhostLe.refl G) hk hlen
        · rw [assocGet_assocSet_other x y u m hyx] at hy
          have : MJ.Eval.lookup K.ctx (heapSet heap T x w) (T :: (locR ++ env)) y =
              MJ.Eval.lookup K.ctx heap (T :: (locR ++ env)) y := lookup_ext fun id _ => heapSet_bind_other heap T id x y w hyx
          simp only [List.cons_append, this]
          exact (hag' y v hy).mono (GhostLe.refl G) hk hlen
      · refine ⟨m, by rw [hother c hfc]; exact hm, fun y v hy => ?_⟩
        have hTe : T ∉ env' := by
          rcases hown2 c env' hg with ⟨k, g, hk', hgc, he⟩ | hfor
          · cases k with
            | zero => simp at hk'; subst hk'; exact absurd hgc hfc
            | succ j =>
              subst he
              intro hmem
              have : T ∈ locR ++ env := by
                simp only [List.drop_succ_cons] at hmem
                rcases List.mem_append.1 hmem with h1 | h1
                · exact List.mem_append.2 (Or.inl (List.mem_of_mem_drop h1))
                · exact List.mem_append.2 (Or.inr h1)
              exact hTr this
          · intro hmem
            have := hfor T hmem T (by simp)
            omega
        rw [lookup_heapSet_notin x y w hTe]
        exact (hag' y v hy).mono (GhostLe.refl G) hk hlen
    · intro c env' hg id hid
      rw [heapSet_length]; exact h.genv c env' hg id hid
    · intro id hid
      rw [heapSet_length]; exact h.bound id hid

theorem frameLocal_closure (f : Frame) (c : Option Nat) (x : String) :
    frameLocal { f with closure := c } x = frameLocal f x := rfl

/-- the first `Enclose` executed in a frame creates its (empty) closure; the ghost map records that it
mirrors the current scope stack -/
theorem HRel.newClosure {K G P clo heap T locR env s} (h : HRel K G P clo heap (T :: locR) env s) {f : Frame} {rest : List Frame}
    (hfr : s.frames = f :: rest) (hcl : f.closure = none) (s' : VmState)
    (hf : s'.frames = { f with closure := some s.closures.length } :: rest) (hc : s'.closures = s.closures ++ [[]]) :
    HRel K (fun i => if i = s.closures.length then some (T :: locR ++ env) else G i) P clo heap (T :: locR) env s' ∧
      GhostLe G (fun i => if i = s.closures.length then some (T :: locR ++ env) else G i) := by
  obtain ⟨locF, tailF, hfr0, hrel, htl, hown1, hown2⟩ := h.frames
  have hGlt : ∀ i env', G i = some env' → i < s.closures.length := by
    intro i env' hg
    obtain ⟨m, hm, _⟩ := h.closOK i env' hg
    exact lt_of_getElem?_some hm
  have hle : GhostLe G (fun i => if i = s.closures.length then some (T :: locR ++ env) else G i) := by
    intro i env' hg
    have := hGlt i env' hg
    have hne : ¬ i = s.closures.length := by omega
    simp [hne, hg]
  have hk : KeysMono s.closures s'.closures := by rw [hc]; exact KeysMono.append _ _
  have hsame : ∀ i, i < s.closures.length → s'.closures[i]? = s.closures[i]? := by
    intro i hi; rw [hc, List.getElem?_append_left hi]
  refine ⟨?_, hle⟩
  cases locF with
  | nil => simp [FramesRel] at hrel
  | cons f0 fsR =>
    have hf0 : f0 = f ∧ fsR ++ tailF = rest := by
      rw [hfr] at hfr0; simpa using hfr0.symm
    obtain ⟨rfl, hrest⟩ := hf0
    obtain ⟨⟨cell, hcell, hag⟩, hctx, hrestF⟩ := hrel
    refine ⟨⟨{ f0 with closure := some s.closures.length } :: fsR, tailF, by rw [hf, ← hrest]; rfl, ?_, htl, ?_, ?_⟩, ?_, ?_, ?_,
      h.bound, h.nodup, h.below, ?_, h.plain⟩
    · exact ⟨⟨cell, hcell, fun x => by rw [frameLocal_closure]; exact (hag x).mono hle hk (Nat.le_refl _)⟩, hctx,
        FramesRel.congr hle hk (Nat.le_refl _) (fun _ _ => rfl) hrestF⟩
    · intro k g c hk' hg
      cases k with
      | zero =>
        simp at hk'; subst hk'
        simp at hg; subst hg
        simp
      | succ j =>
        have := hown1 (j + 1) g c (by simpa using hk') hg
        exact hle c _ this
    · intro c env' hg
      by_cases hcn : c = s.closures.length
      · subst hcn
        simp at hg; subst hg
        exact Or.inl ⟨0, { f0 with closure := some s.closures.length }, by simp, rfl, by simp⟩
      · simp [hcn] at hg
        rcases hown2 c env' hg with ⟨k, g, hk', hgc, he⟩ | hfor
        · cases k with
          | zero => simp at hk'; subst hk'; rw [hcl] at hgc; cases hgc
          | succ j => exact Or.inl ⟨j + 1, g, by simpa using hk', hgc, he⟩
        · exact Or.inr hfor
    · intro x hx
      rw [tailLookup_congr x (fun c hcc => hsame c (hGlt c env (h.cloG c hcc)))]
      exact (h.tail x hx).mono hle hk (Nat.le_refl _)
    · intro c env' hg
      by_cases hcn : c = s.closures.length
      · subst hcn
        exact ⟨[], by rw [hc]; simp, fun x u hx => by simp [assocGet] at hx⟩
      · simp [hcn] at hg
        obtain ⟨m, hm, hag'⟩ := h.closOK c env' hg
        exact ⟨m, by rw [hsame c (hGlt c env' hg)]; exact hm, fun x u hx => (hag' x u hx).mono hle hk (Nat.le_refl _)⟩
    · intro c env' hg id hid
      by_cases hcn : c = s.closures.length
      · subst hcn
        simp at hg; subst hg
        exact h.bound id (by simpa using hid)
      · simp [hcn] at hg
        exact h.genv c env' hg id hid
    · intro c hcc
      have := h.cloG c hcc
      exact hle c env this

/-- `Enclose` puts the current value of a name into the closure the innermost frame owns -/
theorem HRel.addEntry {K G P clo heap T locR env s} (h : HRel K G P clo heap (T :: locR) env s) {f : Frame} {rest : List Frame}
    (hfr : s.frames = f :: rest) {c : Nat} (hcl : f.closure = some c) {m : Scope} (hm : s.closures[c]? = some m)
    (x : String) (u : Val)
    (hv : ValAgree K G s.closures heap.length x ((MJ.Eval.lookup K.ctx heap (T :: locR ++ env) x).getD .undef) u) (s' : VmState)
    (hf : s'.frames = s.frames) (hc : s'.closures = s.closures.set c (assocSet x u m)) :
    HRel K G P clo heap (T :: locR) env s' := by
  obtain ⟨locF, tailF, hfr0, hrel, htl, hown1, hown2⟩ := h.frames
  have hlt := lt_of_getElem?_some hm
  have hk : KeysMono s.closures s'.closures := by rw [hc]; exact KeysMono.set hm x u
  have hother : ∀ i, i ≠ c → s'.closures[i]? = s.closures[i]? := by
    intro i hi; rw [hc, List.getElem?_set_ne (Ne.symm hi)]
  have hGc : G c = some (T :: locR ++ env) := by
    cases locF with
    | nil => simp [FramesRel] at hrel
    | cons f0 fsR =>
      have : f0 = f := by rw [hfr] at hfr0; simpa using (List.cons.inj hfr0.symm).1
      subst this
      simpa using hown1 0 f0 c (by simp) hcl
  refine ⟨⟨locF, tailF, by rw [hf]; exact hfr0, FramesRel.congr (GhostLe.refl G) hk (Nat.le_refl _) (fun _ _ => rfl) hrel, htl, hown1, hown2⟩,
    ?_, ?_, h.genv, h.bound, h.nodup, h.below, h.cloG, h.plain⟩
  · intro y hy
    have hclo : ∀ i, clo = some i → s'.closures[i]? = s.closures[i]? := fun i hi =>
      hother i fun e => h.clo_ne_owned (by rw [e]; exact hGc) hi
    rw [tailLookup_congr y hclo]
    exact (h.tail y hy).mono (GhostLe.refl G) hk (Nat.le_refl _)
  · intro i env' hg
    by_cases hic : i = c
    · subst hic
      rw [hGc] at hg; cases hg
      refine ⟨assocSet x u m, by rw [hc]; simp [hlt], fun y v hy => ?_⟩
      obtain ⟨m0, hm0, hag0⟩ := h.closOK i _ hGc
      rw [hm] at hm0; cases hm0
      by_cases hyx : y = x
      · subst hyx
        rw [assocGet_assocSet_same] at hy; cases hy
        exact hv.mono (GhostLe.refl G) hk (Nat.le_refl _)
      · rw [assocGet_assocSet_other x y u m hyx] at hy
        exact (hag0 y v hy).mono (GhostLe.refl G) hk (Nat.le_refl _)
    · obtain ⟨m0, hm0, hag0⟩ := h.closOK i env' hg
      exact ⟨m0, by rw [hother i hic]; exact hm0, fun y v hy => (hag0 y v hy).mono (GhostLe.refl G) hk (Nat.le_refl _)⟩

/-- the context in which the code of a macro starts: one cell (holding `caller`) on top of the
macro's declaration environment; one frame that reads the macro's closure, on top of the base frame -/
theorem HRel.callee {K G heap cls} (hclos : ∀ c env', G c = some env' → ∃ m, cls[c]? = some m ∧
      ∀ x u, assocGet x m = some u → ValAgree K G cls heap.length x ((MJ.Eval.lookup K.ctx heap env' x).getD .undef) u)
    (hgenv : ∀ c env', G c = some env' → ∀ id ∈ env', id < heap.length)
    (fv : List String) (env : List Nat) (clo : Option Nat)
    (hclo : ∀ c, clo = some c → G c = some env)
    (hkeys : ∀ x, x ∈ fv → ∃ c m, clo = some c ∧ cls[c]? = some m ∧ (assocGet x m).isSome = true)
    (henvb : ∀ id ∈ env, id < heap.length) (cellE : Scope) (fM : Frame)
    (hcell : ∀ x, OptAgree K G cls (heap.length + 1) x (assocGet x cellE) (frameLocal fM x))
    (hfc : fM.closure = none) (hfx : fM.closureCtx = clo) (hpl : PlainSt K.M K.ctx (heap ++ [cellE]))
    (s : VmState) (hf : s.frames = [fM, {}]) (hc : s.closures = cls) :
    HRel K G (some fv) clo (heap ++ [cellE]) [heap.length] env s := by
  subst hc
  -- the empty context over the declaration environment, which the closure answers for: it holds every free name
  have h0 : HRel K G (some fv) clo heap [] env { s with frames := [{}] } := by
    refine ⟨⟨[], [{}], rfl, trivial, fun f hf => by simp at hf; subst hf; exact ⟨rfl, rfl, rfl⟩, fun k f c hk => by simp at hk,
        fun c env' _ => Or.inr fun _ _ l hl => by simp at hl⟩, fun x hx => ?_, hclos, hgenv, by simpa using henvb, List.nodup_nil,
      fun _ _ l hl => by simp at hl, hclo,
      hpl.1, fun id c x v hid => hpl.2 id c x v (by rw [List.getElem?_append_left (lt_of_getElem?_some hid)]; exact hid)⟩
    obtain ⟨c, m, hcc, hm, hxs⟩ := hkeys x hx
    obtain ⟨m', hm', hag⟩ := hclos c env (hclo c hcc)
    rw [hm] at hm'; cases hm'
    cases hu : assocGet x m with
    | none => rw [hu] at hxs; cases hxs
    | some u =>
      have : tailLookup K.ctx s.closures clo x = u := by simp [tailLookup, hcc, hm, hu]
      rw [this]; exact hag x u hu
  exact h0.enter cellE fM hfc (by simpa using hfx) hcell (fun x v hx hg => hpl.2 heap.length cellE x v (by simp) hx hg) s
    (by rw [hf]) rfl

theorem MacroRel_of_data {K G cls hl} {w : Val} (h : ∀ n p d b u e, w ≠ Val.macro n p d b u e) : MacroRel K G cls hl w w := by
  cases w <;> first | trivial | exact absurd rfl (h _ _ _ _ _ _)

theorem OptAgree_same {K G cls hl x} {e : Option Val} (h : ∀ w, e = Option.some w → ∀ n p d b u env, w ≠ Val.macro n p d b u env) :
    OptAgree K G cls hl x e e := by
  unfold OptAgree
  split
  · exact ⟨rfl, fun w u hw hu => by rw [hw] at hu; cases hu; exact MacroRel_of_data (h w hw)⟩
  · rfl

/-- cells that answer every lookup alike -/
def HeapEq (h h' : Heap) : Prop :=
  h'.length = h.length ∧ ∀ (id : Nat) (c : Scope), h[id]? = some c → ∃ c', h'[id]? = some c' ∧ ∀ x, assocGet x c' = assocGet x c

theorem lookup_heapEq {ctx : Scope} {h h' : Heap} (he : HeapEq h h') (x : String) (st : List Nat)
    (hb : ∀ id ∈ st, id < h.length) : MJ.Eval.lookup ctx h' st x = MJ.Eval.lookup ctx h st x :=
  lookup_ext fun id hid => by
    have hlt := hb id hid
    obtain ⟨c', hc', hag⟩ := he.2 id h[id] (List.getElem?_eq_getElem hlt)
    rw [hc', List.getElem?_eq_getElem hlt]
    exact hag x

theorem HeapEq.refl (h : Heap) : HeapEq h h := ⟨rfl, fun _ c hc => ⟨c, hc, fun _ => rfl⟩⟩

/-- the relation looks at the heap through lookups and at the configuration through its macro names, its render
context and `MacroRel` (the code) only -/
theorem HRel.transport {K K' : Cfg} (hM : K'.M = K.M) (hctx : K'.ctx = K.ctx)
    (hR : ∀ {G cls hl u w}, MacroRel K G cls hl u w → MacroRel K' G cls hl u w)
    {G P clo heap heap' loc env s} (he : HeapEq heap heap') (h : HRel K G P clo heap loc env s) :
    HRel K' G P clo heap' loc env s := by
  obtain ⟨locF, tailF, hfr, hrel, htl, hown1, hown2⟩ := h.frames
  refine ⟨⟨locF, tailF, hfr, ?_, htl, hown1, hown2⟩, ?_, ?_, ?_, ?_, h.nodup, h.below, h.cloG, ?_⟩
  rotate_right
  · rw [hM, hctx]
    refine ⟨h.plain.1, fun id c' x v hc' hx hg => ?_⟩
    have hlt : id < heap.length := by rw [← he.1]; exact lt_of_getElem?_some hc'
    obtain ⟨c'', hc'', hag⟩ := he.2 id heap[id] (List.getElem?_eq_getElem hlt)
    rw [hc'] at hc''; cases hc''
    exact h.plain.2 id heap[id] x v (List.getElem?_eq_getElem hlt) hx (by rw [← hag x]; exact hg)
  · exact hrel.imp fun id _ _ ⟨cell, hc, hag⟩ => by
      obtain ⟨c', hc', hag'⟩ := he.2 id cell hc
      exact ⟨c', hc', fun x => by rw [hag' x, he.1]; exact (hag x).imp hM fun _ _ => hR⟩
  · intro x hx
    rw [hctx, lookup_heapEq he x env (fun id hid => h.bound id (by simp [hid])), he.1]
    exact (h.tail x hx).imp hM fun _ _ => hR
  · intro c env' hg
    obtain ⟨m, hm, hag⟩ := h.closOK c env' hg
    refine ⟨m, hm, fun x u hx => ?_⟩
    rw [hctx, lookup_heapEq he x env' (h.genv c env' hg), he.1]
    exact (hag x u hx).imp hM fun _ _ => hR
  · intro c env' hg id hid; rw [he.1]; exact h.genv c env' hg id hid
  · intro id hid; rw [he.1]; exact h.bound id hid

theorem HRel.heapEq {K G P clo heap heap' loc env s} (h : HRel K G P clo heap loc env s) (he : HeapEq heap heap') :
    HRel K G P clo heap' loc env s :=
  h.transport rfl rfl id he

theorem HeapEq.last (h : Heap) {c c' : Scope} (hc : ∀ x, assocGet x c' = assocGet x c) : HeapEq (h ++ [c]) (h ++ [c']) := by
  refine ⟨by simp, fun id c0 h0 => ?_⟩
  by_cases hid : id < h.length
  · rw [List.getElem?_append_left hid] at h0 ⊢; exact ⟨c0, h0, fun _ => rfl⟩
  · have hlt := lt_of_getElem?_some h0
    have : id = h.length := by simp at hlt; omega
    subst this
    simp at h0 ⊢; subst h0; exact hc

/-! the relation under a change of the code to one that has the same macro bodies where they were -/
section recode
variable {K K' : Cfg} (hM : K'.M = K.M) (hC : ∀ off L, At K.C off L → At K'.C off L)
include hM hC

theorem MacroRel.recode {G cls hl u w} (h : MacroRel K G cls hl u w) : MacroRel K' G cls hl u w := by
  cases w <;> try trivial
  rename_i name params defaults body uc env
  obtain ⟨off, clo, hu, ⟨a, hat, hoof⟩, hwf, hb, hg, hfv⟩ := h
  exact ⟨off, clo, hu, ⟨a, hC _ _ hat, hoof⟩, by rw [hM]; exact hwf, hb, hg, hfv⟩

theorem HRel.recode (hctx : K'.ctx = K.ctx) {G P clo heap loc env s} (h : HRel K G P clo heap loc env s) :
    HRel K' G P clo heap loc env s :=
  h.transport hM hctx (fun hr => hr.recode hM hC) (HeapEq.refl heap)

end recode

end MJ.Vm
