import MJ.Proofs.LocAstExpr
/-!
# Assignment targets, import names, statements (C14), and the theorem for whole programs

The layers above the expressions, in the order in which the compile functions depend on each other:
`cAssign`/`cAssigns`, `cImportNames`, then `cStmt`/`cStmts`/`cMacroKids`/`cWithKids`; each along its own
recursion (`cAssign.mutual_induct_unfolding`, `cImportNames.induct_unfolding`, `cMacroKids.mutual_induct_unfolding`:
a case of `cAssign`, `cAssigns`, `cImportNames` or `cStmt` is about the arm's own event list).
-/
namespace MJ.LocAst
open MJ MJ.Loc

theorem Node.kind_mk (k : Kind) (s : Span) (f : Bool) (n : String) (m l h : Nat) (ks : List Node) :
    (Node.mk k s f n m l h ks).kind = k := rfl
theorem Node.sp_mk (k : Kind) (s : Span) (f : Bool) (n : String) (m l h : Nat) (ks : List Node) :
    (Node.mk k s f n m l h ks).sp = s := rfl

/-- the instructions of an assignment belong to the enclosing construct `LO..HI` -/
theorem assign_layer (ctx : List Pend) (LO HI : Nat) :
    (∀ n, wf n = true → LO ≤ n.lo → n.hi ≤ HI → J true false LO HI (cAssign ctx LO HI n)) ∧
    (∀ l, WFs LO HI l → J true false LO HI (cAssigns ctx LO HI l)) := by
  apply cAssign.mutual_induct_unfolding ctx LO HI
    (fun n r => wf n = true → LO ≤ n.lo → n.hi ≤ HI → J true false LO HI r)
    (fun l r => WFs LO HI l → J true false LO HI r)
  · intros
    exact J.addG
  · intro _ _ _ _ _ _ _ ii hw h1 h2
    obtain ⟨hanch, -, -, hk⟩ := wf_mk hw
    exact J.seqF (J.seqF (J.consF (J.pushG _ ((hanch rfl).mono h1 h2)) J.addG) (ii (hk.mono h1 h2))) J.pop
  · intro _ _ _ _ _ _ _ hw h1 h2
    obtain ⟨hanch, -, hshape, hk⟩ := wf_mk hw
    exact J.seqF (J.seqF (J.pushG _ ((hanch rfl).mono h1 h2)) ((hk.mono h1 h2).expr (.head _) hshape ctx)) J.addPop
  · intros
    exact J.nil
  · intros; exact J.nil
  · intro n _ i1 i2 hw
    exact J.seqF (i1 (hw n (.head _)).1 (hw n (.head _)).2.1 (hw n (.head _)).2.2) (i2 hw.tail)

theorem WFs.assign {LO HI : Nat} {l : List Node} {c : Node} (hw : WFs LO HI l) (hc : c ∈ l) (ctx : List Pend) :
    J true false LO HI (cAssign ctx LO HI c) :=
  (assign_layer ctx LO HI).1 c (hw c hc).1 (hw c hc).2.1 (hw c hc).2.2

theorem importNames_ok (ctx : List Pend) (LO HI : Nat) (l : List Node) :
    WFs LO HI l → J true false LO HI (cImportNames ctx LO HI l) := by
  apply cImportNames.induct_unfolding ctx LO HI (fun l r => WFs LO HI l → J true false LO HI r)
  · intro _; exact J.nil
  · intro _ _ _ _ _ _ nm _ _ ir hw
    obtain ⟨hk, hshape⟩ := hw.kids (.head _)
    have hsp : InR LO HI nm.sp.startLine := hk.anchor (.head _) (mustAnchor_var (of_decide_eq_true hshape))
    exact J.seqF (J.seqF (J.consF J.addG (J.addSpanG hsp))
      (J.ite (fun _ => hk.assign (.head _) ctx) (fun _ => hk.assign (.tail _ (.head _)) ctx))) (ir hw.tail)
  · intro _ _ _ ir hw
    exact ir hw.tail

/-- `compile_macro_expression` up to the closure, followed by what the arm at hand does with the macro -/
theorem J.macro {n : Bool} {lo hi l : Nat} {kids rest : List Ev} (num : Nat) (hl : InR lo hi l) (hk : J true false lo hi kids)
    (hr : J true true lo hi rest) :
    J n true lo hi ([.setLine l, .add "Jump" lo hi] ++ kids ++ [.add "Return" lo hi] ++
      List.replicate num (.add "Enclose" lo hi) ++ rest) :=
  J.seqT2 (J.seqF (J.seqF (J.seqF (J.lineAdd hl) hk) J.addG) J.replicateAdd) hr

/-- what `{% import %}` and `{% from … import %}` share: the module is included inside a capture and a frame of its own,
    its exports stay on the stack -/
theorem J.importHead {n : Bool} {lo hi : Nat} {sp : Span} {e : List Ev} (hl : InR lo hi sp.startLine) (he : J true false lo hi e) :
    J n false lo hi ([.setLine sp.startLine, .add "BeginCapture" lo hi, .add "PushWith" lo hi] ++ e ++
      [.addSpan "Include" sp lo hi, .add "EndCapture" lo hi, .add "ExportLocals" lo hi, .add "PopFrame" lo hi]) :=
  J.seqF (J.seqF (J.consF (J.setLineG hl) (J.consF J.addG J.addG)) he)
    (J.consF (J.addSpanG hl) (J.consF J.addG (J.consF J.addG J.addG)))

theorem callerOk_of_J {lo hi : Nat} {evs : List Ev} (h : J false true lo hi evs) : CallerOk (some evs) := by
  intro e he s
  cases he
  obtain ⟨a1, _, _, _, a5⟩ := h s nofun
  exact ⟨a1, a5⟩

/-- An arm of `compile_stmt`: given what `wf` says about the node it locates itself in the node's own range,
    so it fits into every construct around the node, whose current line it need not know. -/
theorem stmt_arm {kind : Kind} {sp : Span} {flag : Bool} {name : String} {num lo hi : Nat} {kids : List Node} {r : List Ev}
    (arm : (mustAnchor (.mk kind sp flag name num lo hi []) = true → InR lo hi sp.startLine) → shapeOk kind kids = true →
      WFs lo hi kids → J false false lo hi r)
    (hw : wf (.mk kind sp flag name num lo hi kids) = true) (LO HI : Nat) (h1 : LO ≤ lo) (h2 : hi ≤ HI) :
    J true false LO HI r :=
  J.mono (arm (wf_mk hw).1 (wf_mk hw).2.2.1 (wf_mk hw).2.2.2) h1 h2

theorem stmt_layer :
    (∀ ctx lo hi l, WFs lo hi l → J true false lo hi (cMacroKids ctx lo hi l)) ∧
    (∀ ctx l, ∀ LO HI, WFs LO HI l → J true false LO HI (cStmts ctx l)) ∧
    (∀ ctx n, wf n = true → ∀ LO HI, LO ≤ n.lo → n.hi ≤ HI → J true false LO HI (cStmt ctx n)) ∧
    (∀ ctx lo hi l, WFs lo hi l → J true false lo hi (cWithKids ctx lo hi l)) := by
  apply cMacroKids.mutual_induct_unfolding
    (fun _ lo hi l r => WFs lo hi l → J true false lo hi r)
    (fun _ l r => ∀ LO HI, WFs LO HI l → J true false LO HI r)
    (fun _ n r => wf n = true → ∀ LO HI, LO ≤ n.lo → n.hi ≤ HI → J true false LO HI r)
    (fun _ lo hi l r => WFs lo hi l → J true false lo hi r)
  -- `compile_stmt`
  · -- template
    intro _ _ _ _ _ _ _ _ ic
    refine stmt_arm fun hanch _ hk => ?_
    exact J.seqF (J.setLineG (hanch rfl)) (ic _ _ hk)
  · -- emitexpr
    intro ctx _ _ _ _ lo hi e
    refine stmt_arm fun _ hshape hk => ?_
    have he : e ∈ [e] := .head _
    obtain ⟨ew, e1, e2⟩ := hk e he
    cases e with
    | mk ekind esp eflag ename enum elo ehi ekids =>
    by_cases hcall : ekind = Kind.call
    · subst hcall
      obtain ⟨hea', -, eshape, ekw⟩ := wf_mk ew
      have hea : InR elo ehi esp.startLine := hea' rfl
      cases ekids with
      | nil => cases eshape
      | cons callee args =>
        obtain ⟨-, -, -, hA2, hA1, -⟩ := expr_layer ctx
        -- the ordinary path: the call is compiled and its value emitted
        have hG : J false false lo hi ([.setLine esp.startLine] ++
            ([.push esp] ++ cCallBody ctx none esp elo ehi (callee :: args) ++ [.add "Emit" lo hi, .pop])) :=
          J.seqF (J.setLineG (hea.mono e1 e2)) (J.seqF (J.seqF (J.pushG _ (hea.mono e1 e2))
            (hk.call he ctx none callerOk_none)) J.addPop)
        simp only [Node.kind_mk, Node.sp_mk, beq_self_eq_true, ite_true]
        split
        · split
          · -- `super()`
            exact J.mono (J.seqF (J.setLineG hea) (J.addSpanG hea)) e1 e2
          · split
            · -- `loop(…)`
              exact J.mono (J.seqF (J.setLineG hea) (J.seqF (J.seqF (J.seqF (hA1 _ _ _ _ ekw.tail)
                (J.ite (fun _ => hA2 _ _ _ _ _ ekw.tail) (fun _ => J.nil))) (J.argsTail 0 args none callerOk_none hea))
                (J.addSpanG hea))) e1 e2
            · exact hG
        · split
          · -- `self.block()`
            exact J.mono (J.seqF (J.setLineG hea) J.addG) e1 e2
          · exact hG
        · exact hG
    · have hne : (ekind == Kind.call) = false := by simpa using hcall
      simp only [Node.kind_mk, hne, Bool.false_eq_true, ite_false, List.nil_append]
      split
      · rename_i hq
        injection hq with hk'
        exact absurd hk' hcall
      · exact J.seqF (J.skipPush _ (hk.expr he hshape ctx)) J.addPop
  · -- emitraw
    intro _ _ _ _ _ _ _ _
    refine stmt_arm fun hanch _ _ => ?_
    exact J.lineAdd (hanch rfl)
  · -- forloop
    intro ctx _ _ _ _ lo hi _ iter _ _ _ _ _ _ _ _ _ _ _ _ _ _ _ ib ie
    refine stmt_arm fun hanch hshape hk => ?_
    replace hshape := (Bool.and_eq_true _ _).mp hshape
    have hI : ∀ {n g}, J n g lo hi (cExpr ctx iter) := hk.expr (.tail _ (.head _)) hshape.1 ctx
    have hT := hk.assign (.head _) ctx
    refine J.seqF (J.seqF (J.seqF (J.seqF (J.seqF (J.setLineG (hanch rfl)) (J.ite (fun _ => ?_) (fun hne => ?_))) hT)
      (ib _ _ (hk.kids (.tail _ (.tail _ (.tail _ (.head _))))).1)) J.endFor)
      (J.ite (fun _ => J.nil) (fun _ => J.seqF J.addG (ie _ _ (hk.kids (.tail _ (.tail _ (.tail _ (.tail _ (.head _)))))).1)))
    · exact J.seqF (J.seqF (J.skipPush _ hI) J.startFor) J.pop
    · -- the filtered loop: a first loop collects the items that pass
      exact J.seqF (J.seqF (J.seqF (J.seqF (J.seqF (J.seqF (J.seqF (J.seqF
        (J.consF J.addG (J.skipPush _ hI)) J.startFor) J.addG) hT)
        (hk.exprO (.tail _ (.tail _ (.head _))) hshape.2 ctx hne))
        (J.consF J.addG (J.consF J.addG (J.consF J.addG (J.consF J.addG
          (J.consF J.addG J.addPop))))))
        J.endFor) J.addG) J.startFor
  · -- ifcond
    intro ctx _ _ _ _ _ _ _ _ _ _ _ _ _ _ _ _ _ _ _ _ _ it ifb
    refine stmt_arm fun hanch hshape hk => ?_
    exact J.seqF (J.seqF (J.seqF (J.consF (J.setLineG (hanch rfl)) (J.skipPush _ (hk.expr (.head _) hshape ctx)))
      J.addPop) (it _ _ (hk.kids (.tail _ (.head _))).1))
      (J.ite (fun _ => J.nil) (fun _ => J.seqF J.addG (ifb _ _ (hk.kids (.tail _ (.tail _ (.head _)))).1)))
  · -- withblock
    intro _ _ _ _ _ _ _ _ iw
    refine stmt_arm fun hanch _ hk => ?_
    exact J.seqF (J.seqF (J.lineAdd (hanch rfl)) (iw hk)) J.addG
  · -- set
    intro ctx _ _ _ _ _ _ _ _
    refine stmt_arm fun hanch hshape hk => ?_
    exact J.seqF (J.seqF (J.setLineG (hanch rfl)) (hk.expr (.tail _ (.head _)) hshape ctx)) (hk.assign (.head _) ctx)
  · -- setblock
    intro ctx _ _ _ _ _ _ _ _ _ _ _ _ _ _ _ ib
    refine stmt_arm fun hanch hshape hk => ?_
    exact J.seqF (J.seqF (J.seqF (J.seqF (J.lineAdd (hanch rfl))
      (ib _ _ (hk.kids (.tail _ (.tail _ (.head _)))).1)) J.addG)
      (J.ite (fun _ => J.nil) (fun hne => hk.exprO (.tail _ (.head _)) hshape ctx hne))) (hk.assign (.head _) ctx)
  · -- autoescape
    intro ctx _ _ _ _ _ _ _ _ _ _ _ _ _ _ ib
    refine stmt_arm fun hanch hshape hk => ?_
    exact J.seqF (J.seqF (J.seqF (J.seqF (J.setLineG (hanch rfl)) (hk.expr (.head _) hshape ctx)) J.addG)
      (ib _ _ (hk.kids (.tail _ (.head _))).1)) J.addG
  · -- filterblock
    intro ctx _ _ _ _ _ _ _ _ _ _ _ _ _ _ ib
    refine stmt_arm fun hanch hshape hk => ?_
    exact J.seqF (J.seqF (J.seqF (J.seqF (J.lineAdd (hanch rfl))
      (ib _ _ (hk.kids (.tail _ (.head _))).1)) J.addG) (hk.expr (.head _) hshape ctx)) J.addG
  · -- block
    intro _ _ _ _ _ _ _ _ _ _ _ _ _ _ ib
    refine stmt_arm fun hanch _ hk => ?_
    exact J.blockArm _ "CallBlock" (hanch rfl) (ib _ _ (hk.kids (.head _)).1)
  · -- import
    intro ctx _ _ _ _ _ _ _ _
    refine stmt_arm fun hanch hshape hk => ?_
    exact J.seqF (J.importHead (hanch rfl) (hk.expr (.head _) hshape ctx)) (hk.assign (.tail _ (.head _)) ctx)
  · -- fromimport
    intro ctx _ _ _ _ _ _ _ _
    refine stmt_arm fun hanch hshape hk => ?_
    exact J.seqF (J.seqF (J.importHead (hanch rfl) (hk.expr (.head _) hshape ctx))
      (importNames_ok ctx _ _ _ hk.tail)) J.addG
  · -- extends
    intro ctx _ _ _ _ _ _ _
    refine stmt_arm fun hanch hshape hk => ?_
    exact J.seqF (J.seqF (J.setLineG (hanch rfl)) (hk.expr (.head _) hshape ctx)) (J.addSpanG (hanch rfl))
  · -- include
    intro ctx _ _ _ _ _ _ _
    refine stmt_arm fun hanch hshape hk => ?_
    exact J.seqF (J.seqF (J.setLineG (hanch rfl)) (hk.expr (.head _) hshape ctx)) (J.addSpanG (hanch rfl))
  · -- macro
    intro _ _ _ _ _ _ _ _ im
    refine stmt_arm fun hanch _ hk => ?_
    exact (J.macro _ (hanch rfl) (im hk) (J.consT1 J.addG (J.consF J.addG (J.consF J.addG J.addG)))).anyG _
  · -- callblock: the caller macro is compiled inside the arguments of the call
    intro ctx _ _ _ _ _ _ _ _ _ _ _ _ _ _ _ _ mnum _ _ _ im
    refine stmt_arm fun _ _ hk => ?_
    obtain ⟨mw, -, -⟩ := hk _ (.tail _ (.head _))
    have hMac := J.macro (n := false) mnum ((wf_mk mw).1 rfl) (im (wf_mk mw).2.2.2)
      (J.consT1 (J.addG (nm := "GetClosure")) (J.consF (J.addG (nm := "LoadConst")) (J.addG (nm := "BuildMacro"))))
    exact J.seqF (hk.call (.head _) ctx _ (callerOk_of_J hMac)) J.addG
  · -- continue
    intro _ _ _ _ _ _ _ _
    refine stmt_arm fun hanch _ _ => ?_
    exact J.seqF (J.seqF (J.setLineG (hanch rfl)) J.leaveScopes) J.optAdd
  · -- break
    intro _ _ _ _ _ _ _ _
    refine stmt_arm fun hanch _ _ => ?_
    exact J.seqF (J.seqF (J.setLineG (hanch rfl)) J.leaveScopes) J.addG
  · -- do
    intro ctx _ _ _ _ _ _ _ _ _ _ _ _ _
    refine stmt_arm fun _ _ hk => ?_
    exact J.seqF (hk.call (.head _) ctx none callerOk_none) J.addG
  · -- anything else compiles to nothing
    intros
    exact J.nil
  -- `cMacroKids`
  · intros; rw [cMacroKids]; exact J.nil
  · intro ctx _ _ _ _ _ _ _ _ _ _ _ ir hw
    obtain ⟨hk, hshape⟩ := hw.kids (.head _)
    rw [cMacroKids]
    refine J.seqF (J.seqF (J.ite (fun _ => J.nil) fun hne => ?_) (hk.assign (.head _) ctx)) (ir hw.tail)
    exact J.seqF (J.consF J.addG (J.consF J.addG (J.consF J.addG J.addG)))
      (hk.exprO (.tail _ (.head _)) hshape ctx hne)
  · intro _ _ _ _ _ _ _ _ _ _ _ is ir hw
    rw [cMacroKids]
    exact J.seqF (is _ _ (hw.kids (.head _)).1) (ir hw.tail)
  · intro _ _ _ _ _ _ _ ir hw
    rw [cMacroKids]
    exact ir hw.tail
    all_goals assumption
  -- `cStmts`
  · intros; rw [cStmts]; exact J.nil
  · intro _ n _ i1 i2 _ _ hw
    rw [cStmts]
    exact J.seqF (i1 (hw n (.head _)).1 _ _ (hw n (.head _)).2.1 (hw n (.head _)).2.2) (i2 _ _ hw.tail)
  -- `cWithKids`
  · intros; rw [cWithKids]; exact J.nil
  · intro ctx _ _ _ _ _ _ _ _ _ _ _ ir hw
    obtain ⟨hk, hshape⟩ := hw.kids (.head _)
    rw [cWithKids]
    exact J.seqF (J.seqF (hk.expr (.tail _ (.head _)) hshape ctx) (hk.assign (.head _) ctx)) (ir hw.tail)
  · intro _ _ _ _ _ _ _ _ _ _ _ is ir hw
    rw [cWithKids]
    exact J.seqF (is _ _ (hw.kids (.head _)).1) (ir hw.tail)
  · intro _ _ _ _ _ _ _ ir hw
    rw [cWithKids]
    exact ir hw.tail
    all_goals assumption

/-- The instructions of a whole compiled template: every one is recorded with a line inside the
    construct whose compile arm emitted it, from whatever state.  The arm holds in every range around
    the node and `Em.ok` does not mention that range, so it is widened until it holds the current line. -/
theorem stmt_lines_ok_any (ctx : List Pend) (n : Node) (hw : wf n = true) (s : LS) :
    ∀ e ∈ (execL s (cStmt ctx n)).2, e.ok = true :=
  (stmt_layer.2.2.1 ctx n hw 0 (max n.hi s.cur) (Nat.zero_le _) (Nat.le_max_left _ _) s
    (fun _ => ⟨Nat.zero_le _, Nat.le_max_right _ _⟩)).1

/-- … of a standalone expression -/
theorem expr_lines_ok (ctx : List Pend) (n : Node) (hw : wf n = true) (he : isE n = true) (s : LS) :
    ∀ e ∈ (execL s (cExpr ctx n)).2, e.ok = true :=
  (expr_ok ctx n hw he s nofun).1

end MJ.LocAst
