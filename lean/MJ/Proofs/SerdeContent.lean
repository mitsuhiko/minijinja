import MJ.Model.SerdeContent
/-! The copy serde's `Content` buffer makes of a value is the value's normal form `normV` (C16). -/
namespace MJ.SerdeDispatch
open MJ.Serde

mutual
theorem ofContent_toContent : ∀ (v : V) (c : Content), toContent v = some c → ofContent c = normV v
  | v, c, h => by
    cases v with
    | seq t xs =>
      simp only [toContent, Option.map_eq_some_iff] at h
      obtain ⟨cs, hcs, rfl⟩ := h
      simp only [ofContent, normV, ofContentList_toContentList xs cs hcs]
    | map kvs =>
      simp only [toContent, Option.map_eq_some_iff] at h
      obtain ⟨cs, hcs, rfl⟩ := h
      simp only [ofContent, normV, ofContentPairs_toContentPairs kvs cs hcs]
    | int u i =>
      -- integers beyond 64 bits are `visit_i128` / `visit_u128`, which the buffer's visitor does not take
      simp only [toContent, skindOfV] at h
      by_cases hf : fits64 i = true
      · rw [if_pos hf] at h
        cases u <;> simp [anySpec, leafContent] at h <;> subst h <;> rfl
      · rw [if_neg hf] at h
        by_cases hneg : i < 0
        · rw [if_pos hneg] at h; simp [anySpec, leafContent] at h
        · rw [if_neg hneg] at h; cases u <;> simp [anySpec, leafContent] at h
    | _ => simp [toContent, skindOfV, anySpec, leafContent] at h <;> subst h <;> rfl
theorem ofContentList_toContentList : ∀ (xs : List V) (cs : List Content), toContentList xs = some cs → ofContentList cs = normVList xs
  | [], cs, h => by simp [toContentList] at h; subst h; rfl
  | x :: xs, cs, h => by
    simp only [toContentList] at h
    split at h
    · rename_i c cs' hc hcs
      simp at h; subst h
      simp only [ofContentList, normVList, ofContent_toContent x c hc, ofContentList_toContentList xs cs' hcs]
    · simp at h
theorem ofContentPairs_toContentPairs : ∀ (kvs : List (V × V)) (cs : List (Content × Content)), toContentPairs kvs = some cs → ofContentPairs cs = normVPairs kvs
  | [], cs, h => by simp [toContentPairs] at h; subst h; rfl
  | (k, x) :: rest, cs, h => by
    simp only [toContentPairs] at h
    split at h
    · rename_i a b cs' ha hb hcs
      simp at h; subst h
      simp only [ofContentPairs, normVPairs, ofContent_toContent k a ha, ofContent_toContent x b hb,
        ofContentPairs_toContentPairs rest cs' hcs]
    · simp at h
end

end MJ.SerdeDispatch
