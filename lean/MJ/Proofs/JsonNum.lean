import MJ.Model.JsonFloatRT
/-! Number tokens (C16).  The digits of a natural number and of an integer (`natDigits_spec`,
`natOfDigits_natDigits`, `readExp_intDigits`), and a number token by its parts, `numTok ip fp ex` = integer digits,
fraction digits, exponent: the JSON recogniser accepts it (`validBody_numTok`; `tokOK_numTok`: it is a token the
reader takes back as it is, `tokOK`) and the digit-by-digit evaluator reads `(ip ++ fp)·10^(ex - |fp|)` off it
(`readTok_numTok`).  The integer printer and ryu's five layouts of a float are tokens of this form
(`intDigits_tok`, `layoutF_tok`). -/
namespace MJ.Json

theorem isDigit_ne_sign (c : Char) (h : isDigit c = true) : c ≠ '-' ∧ c ≠ '+' := by
  constructor <;> (intro e; subst e; simp [isDigit] at h)

theorem digitChar_isDigit : ∀ k, k < 10 → isDigit (Char.ofNat (48 + k)) = true := by decide
theorem digitChar_zero : ∀ k, k < 10 → (Char.ofNat (48 + k) = '0' ↔ k = 0) := by decide

theorem digitChar_spec (n : Nat) : isDigit (digitChar n) = true ∧ (digitChar n = '0' ↔ n % 10 = 0) := by
  unfold digitChar
  exact ⟨digitChar_isDigit _ (Nat.mod_lt _ (by decide)), digitChar_zero _ (Nat.mod_lt _ (by decide))⟩

theorem natDigits_spec (n : Nat) :
    (∀ c ∈ natDigits n, isDigit c = true) ∧
    ∃ d ds, natDigits n = d :: ds ∧ (n = 0 → ds = []) ∧ (0 < n → d ≠ '0') := by
  induction n using Nat.strongRecOn with
  | _ n ih =>
    rw [natDigits]
    by_cases h : n < 10
    · simp only [h, dite_true]
      refine ⟨by intro c hc; simp at hc; rw [hc]; exact (digitChar_spec n).1, digitChar n, [], rfl, fun _ => rfl, ?_⟩
      intro hpos heq
      have := (digitChar_spec n).2.mp heq
      omega
    · simp only [h, dite_false]
      obtain ⟨hall, d, ds, hd, _, hnz⟩ := ih (n / 10) (by omega)
      refine ⟨?_, d, ds ++ [digitChar n], by rw [hd]; rfl, by intro h0; omega, ?_⟩
      · exact List.forall_mem_append.mpr ⟨hall, List.forall_mem_singleton.mpr (digitChar_spec n).1⟩
      · intro _
        exact hnz (by omega)

theorem spanDigits_all (ds : List Char) (h : ∀ c ∈ ds, isDigit c = true) : spanDigits ds = (ds, []) := by
  induction ds <;> simp_all [spanDigits]

def AllDig (l : List Char) : Prop := ∀ c ∈ l, isDigit c = true
def AllNum (l : List Char) : Prop := ∀ c ∈ l, isNumChar c = true

theorem allNum_of_allDig (l : List Char) (h : AllDig l) : AllNum l := by
  intro c hc; simp [isNumChar, h c hc]

theorem allNum_append (a b : List Char) (ha : AllNum a) (hb : AllNum b) : AllNum (a ++ b) :=
  fun c hc => (List.mem_append.mp hc).elim (ha c) (hb c)

theorem allNum_cons (c : Char) (l : List Char) (hc : isNumChar c = true) (hl : AllNum l) : AllNum (c :: l) :=
  fun x hx => (List.mem_cons.mp hx).elim (fun e => e ▸ hc) (hl x)

theorem allDig_zeros (n : Nat) : AllDig (zeros n) := by
  intro c hc
  simp only [zeros, List.mem_replicate] at hc
  rw [hc.2]; decide

theorem allDig_append (a b : List Char) (ha : AllDig a) (hb : AllDig b) : AllDig (a ++ b) :=
  fun c hc => (List.mem_append.mp hc).elim (ha c) (hb c)

theorem allDig_take (n : Nat) (l : List Char) (h : AllDig l) : AllDig (l.take n) :=
  fun c hc => h c (List.mem_of_mem_take hc)

theorem allDig_drop (n : Nat) (l : List Char) (h : AllDig l) : AllDig (l.drop n) :=
  fun c hc => h c (List.mem_of_mem_drop hc)

theorem spanDigits_append (a : List Char) (c : Char) (b : List Char) (ha : AllDig a) (hc : isDigit c = false) :
    spanDigits (a ++ c :: b) = (a, c :: b) := by
  induction a <;> simp_all [spanDigits, AllDig]

theorem allDig_natDigits (n : Nat) : AllDig (natDigits n) := (natDigits_spec n).1

theorem natDigits_ne_nil (n : Nat) : natDigits n ≠ [] := by
  obtain ⟨_, _, _, h, _⟩ := natDigits_spec n
  rw [h]; exact List.cons_ne_nil _ _

theorem allDig_nil : AllDig [] := fun _ h => nomatch h
theorem allDig_zero : AllDig ['0'] := by intro c hc; simp at hc; subst hc; decide

theorem allNum_intDigits (x : Int) : AllNum (intDigits x) := by
  unfold intDigits
  split
  · exact allNum_cons _ _ (by decide) (allNum_of_allDig _ (allDig_natDigits _))
  · exact allNum_of_allDig _ (allDig_natDigits _)

theorem validExp_intDigits (x : Int) : validExp (intDigits x) = true := by
  unfold intDigits
  obtain ⟨hall, d, ds, hd, _, _⟩ := natDigits_spec x.natAbs
  have hdd : isDigit d = true := hall d (by rw [hd]; simp)
  obtain ⟨hm, hp⟩ := isDigit_ne_sign d hdd
  have hne : natDigits x.natAbs ≠ [] := by rw [hd]; simp
  by_cases hx : x < 0
  · rw [if_pos hx]
    simp only [validExp, or_true, if_true]
    rw [spanDigits_all _ hall]
    simp [hne]
  · rw [if_neg hx, hd]
    simp only [validExp, hp, hm, or_self, if_false]
    rw [← hd, spanDigits_all _ hall]
    simp [hne]

theorem natOfDigits_foldl (ds : List Char) (a : Nat) :
    ds.foldl (fun acc c => acc * 10 + digVal c) a = a * 10 ^ ds.length + natOfDigits ds := by
  induction ds generalizing a with
  | nil => simp [natOfDigits]
  | cons c cs ih =>
    simp only [List.foldl_cons, List.length_cons, natOfDigits]
    rw [ih, ih (0 * 10 + digVal c)]
    simp only [Nat.zero_mul, Nat.zero_add, Nat.pow_succ]
    rw [Nat.add_mul, Nat.add_assoc, Nat.mul_assoc, Nat.mul_comm 10]

theorem natOfDigits_append (a b : List Char) :
    natOfDigits (a ++ b) = natOfDigits a * 10 ^ b.length + natOfDigits b := by
  unfold natOfDigits
  rw [List.foldl_append, natOfDigits_foldl]
  rfl

theorem natOfDigits_zeros (n : Nat) : natOfDigits (zeros n) = 0 := by
  induction n with
  | zero => rfl
  | succ n ih =>
    have : zeros (n + 1) = zeros n ++ ['0'] := by
      simp [zeros, List.replicate_succ']
    rw [this, natOfDigits_append, ih]
    rfl

theorem length_zeros (n : Nat) : (zeros n).length = n := by simp [zeros]

theorem digVal_digitChar (n : Nat) : digVal (digitChar n) = n % 10 := by
  have : ∀ k, k < 10 → digVal (Char.ofNat (48 + k)) = k := by decide
  exact this _ (Nat.mod_lt _ (by decide))

theorem natOfDigits_natDigits (n : Nat) : natOfDigits (natDigits n) = n := by
  induction n using Nat.strongRecOn with
  | _ n ih =>
    rw [natDigits]
    by_cases h : n < 10
    · simp only [h, dite_true]
      show 0 * 10 + digVal (digitChar n) = n
      rw [digVal_digitChar]; omega
    · simp only [h, dite_false]
      rw [natOfDigits_append, ih (n / 10) (by omega)]
      show n / 10 * 10 ^ 1 + (0 * 10 + digVal (digitChar n)) = n
      rw [digVal_digitChar]; omega

theorem readExp_intDigits (x : Int) : readExp (intDigits x) = x := by
  unfold intDigits
  by_cases hx : x < 0
  · rw [if_pos hx]
    show -(natOfDigits (natDigits x.natAbs) : Int) = x
    rw [natOfDigits_natDigits]; omega
  · rw [if_neg hx]
    obtain ⟨hall, c, cs, hd, _, _⟩ := natDigits_spec x.natAbs
    have hc : isDigit c = true := hall c (by rw [hd]; simp)
    obtain ⟨h1, h2⟩ := isDigit_ne_sign c hc
    have : readExp (c :: cs) = (natOfDigits (c :: cs) : Int) := by
      unfold readExp
      split
      · rename_i h; simp at h; exact absurd h.1 h1
      · rename_i h; simp at h; exact absurd h.1 h2
      · rfl
    rw [hd, this, ← hd, natOfDigits_natDigits]; omega

/-- a number token the reader takes back as it is -/
def tokOK (tok : List Char) : Prop := validNum tok = true ∧ (∀ c ∈ tok, isNumChar c = true) ∧ tok ≠ []

def fracText : List Char → List Char
  | [] => []
  | c :: f => '.' :: c :: f

def expText : Option Int → List Char
  | none => []
  | some x => 'e' :: intDigits x

/-- integer digits, fraction digits (`[]`: no fraction), exponent -/
def numTok (ip fp : List Char) (ex : Option Int) : List Char := ip ++ (fracText fp ++ expText ex)

/-- `0` or digits without a leading zero -/
def IntPart (ip : List Char) : Prop := ∃ d ds, ip = d :: ds ∧ (d = '0' → ds = [])

theorem intPart_natDigits (n : Nat) : IntPart (natDigits n) := by
  obtain ⟨_, d, ds, hd, hz, hnz⟩ := natDigits_spec n
  refine ⟨d, ds, hd, fun h0 => hz ?_⟩
  exact Classical.byContradiction fun hne => hnz (Nat.pos_of_ne_zero hne) h0

theorem spanDigits_tail (a fp : List Char) (ex : Option Int) (ha : AllDig a) :
    spanDigits (a ++ (fracText fp ++ expText ex)) = (a, fracText fp ++ expText ex) := by
  cases fp with
  | cons c f => exact spanDigits_append a '.' _ ha (by decide)
  | nil =>
    cases ex with
    | some x => exact spanDigits_append a 'e' _ ha (by decide)
    | none => simpa [fracText, expText] using spanDigits_all a ha

theorem spanDigits_exp (a : List Char) (ex : Option Int) (ha : AllDig a) :
    spanDigits (a ++ expText ex) = (a, expText ex) := spanDigits_tail a [] ex ha

theorem validExpOpt_expText (ex : Option Int) : validExpOpt (expText ex) = true := by
  cases ex with
  | none => rfl
  | some x => simp [expText, validExpOpt, validExp_intDigits]

theorem validFracExp_tail (fp : List Char) (ex : Option Int) (hf : AllDig fp) :
    validFracExp (fracText fp ++ expText ex) = true := by
  cases fp with
  | nil =>
    cases ex with
    | none => rfl
    | some x =>
      show validFracExp ('e' :: intDigits x) = true
      simp [validFracExp, validExpOpt, validExp_intDigits]
  | cons c f =>
    show validFracExp ('.' :: ((c :: f) ++ expText ex)) = true
    simp only [validFracExp, if_true]
    rw [spanDigits_exp _ ex hf]
    simp [validExpOpt_expText]

theorem validBody_numTok (ip fp : List Char) (ex : Option Int) (hi : IntPart ip) (hall : AllDig ip) (hf : AllDig fp) :
    validBody (numTok ip fp ex) = true := by
  obtain ⟨d, ds, rfl, hz⟩ := hi
  have hd : isDigit d = true := hall d List.mem_cons_self
  have hds : AllDig ds := fun c hc => hall c (List.mem_cons_of_mem _ hc)
  show validBody (d :: (ds ++ (fracText fp ++ expText ex))) = true
  by_cases h0 : d = '0'
  · rw [hz h0]
    simp only [validBody, h0, if_true, List.nil_append]
    exact validFracExp_tail fp ex hf
  · simp only [validBody, h0, if_false, hd, if_true]
    rw [spanDigits_tail ds fp ex hds]
    exact validFracExp_tail fp ex hf

theorem allNum_numTok (ip fp : List Char) (ex : Option Int) (hi : AllDig ip) (hf : AllDig fp) :
    AllNum (numTok ip fp ex) := by
  refine allNum_append _ _ (allNum_of_allDig _ hi) (allNum_append _ _ ?_ ?_)
  · cases fp with
    | nil => exact fun _ h => nomatch h
    | cons c f => exact allNum_cons _ _ (by decide) (allNum_of_allDig _ hf)
  · cases ex with
    | none => exact fun _ h => nomatch h
    | some x => exact allNum_cons _ _ (by decide) (allNum_intDigits x)

theorem tokOK_numTok (neg : Bool) (ip fp : List Char) (ex : Option Int) (hi : IntPart ip) (hall : AllDig ip)
    (hf : AllDig fp) : tokOK ((if neg then ['-'] else []) ++ numTok ip fp ex) := by
  have hv := validBody_numTok ip fp ex hi hall hf
  have hn := allNum_numTok ip fp ex hall hf
  obtain ⟨d, ds, rfl, _⟩ := hi
  have hminus := (isDigit_ne_sign d (hall d List.mem_cons_self)).1
  cases neg with
  | true => exact ⟨by simpa [validNum] using hv, allNum_cons _ _ (by decide) hn, by simp⟩
  | false =>
    refine ⟨?_, hn, by simp [numTok]⟩
    simp only [Bool.false_eq_true, if_false, List.nil_append]
    change validNum (d :: _) = true
    simp only [validNum, hminus, if_false]
    exact hv

theorem readTok_numTok (ip fp : List Char) (ex : Option Int) (hi : AllDig ip) (hf : AllDig fp) :
    readTok (numTok ip fp ex) = (natOfDigits (ip ++ fp), ex.getD 0 - (fp.length : Int)) := by
  unfold readTok numTok
  rw [spanDigits_tail ip fp ex hi]
  cases fp with
  | nil =>
    cases ex with
    | none => simp [fracText, expText]
    | some x => simp [fracText, expText, readExp_intDigits]
  | cons c f =>
    have h := spanDigits_exp (c :: f) ex hf
    simp only [List.cons_append] at h
    simp only [fracText, List.cons_append, h]
    cases ex with
    | none => simp [expText]
    | some x => simp [expText, readExp_intDigits]

theorem intDigits_tok (i : Int) :
    intDigits i = (if i < 0 then ['-'] else []) ++ numTok (natDigits i.natAbs) [] none := by
  unfold intDigits numTok
  split <;> simp [fracText, expText]

theorem tokOK_intDigits (i : Int) : tokOK (intDigits i) := by
  rw [intDigits_tok]
  simpa using tokOK_numTok (decide (i < 0)) (natDigits i.natAbs) [] none (intPart_natDigits _) (allDig_natDigits _)
    allDig_nil

theorem tokOK_natDigits (n : Nat) : tokOK (natDigits n) := by
  simpa [intDigits, Int.not_lt.mpr (Int.natCast_nonneg n)] using tokOK_intDigits n

theorem layoutF_eq (sign ds : List Char) (k : Int) : layoutF sign ds k =
    if 0 ≤ k ∧ (ds.length : Int) + k ≤ 16 then sign ++ (ds ++ (zeros k.natAbs ++ ['.', '0']))
    else if 0 < (ds.length : Int) + k ∧ (ds.length : Int) + k ≤ 16 then
      sign ++ (ds.take ((ds.length : Int) + k).natAbs ++ ('.' :: ds.drop ((ds.length : Int) + k).natAbs))
    else if -5 < (ds.length : Int) + k ∧ (ds.length : Int) + k ≤ 0 then
      sign ++ ('0' :: '.' :: (zeros ((ds.length : Int) + k).natAbs ++ ds))
    else if ds.length = 1 then sign ++ (ds ++ ('e' :: intDigits ((ds.length : Int) + k - 1)))
    else sign ++ (ds.take 1 ++ ('.' :: (ds.drop 1 ++ ('e' :: intDigits ((ds.length : Int) + k - 1))))) := rfl

theorem sameDec_shift (m d : Nat) (e k : Int) (n : Nat) (he : e = k - n) (hm : m = d * 10 ^ n) :
    sameDec m e d k := by
  unfold sameDec
  have h1 : (e - min e k).toNat = 0 := by omega
  have h2 : (k - min e k).toNat = n := by omega
  rw [h1, h2, hm]; simp

/-- ryu's layout of the digits `ds` with exponent `k`, whatever the sign: a token by its parts, and the parts
denote `ds·10^k`.  The integer part is well formed when `ds` has no leading zero. -/
theorem layoutF_tok (ds : List Char) (k : Int) (hall : AllDig ds) (hne : ds ≠ []) :
    ∃ ip fp ex, (∀ sign, layoutF sign ds k = sign ++ numTok ip fp ex) ∧ AllDig ip ∧ AllDig fp ∧
      (ds.head? ≠ some '0' → IntPart ip) ∧
      sameDec (natOfDigits (ip ++ fp)) (ex.getD 0 - (fp.length : Int)) (natOfDigits ds) k := by
  obtain ⟨d, ds', rfl⟩ := List.exists_cons_of_ne_nil hne
  have hlead : ∀ tl, (d :: ds').head? ≠ some '0' → IntPart (d :: tl) :=
    fun tl h => ⟨d, tl, rfl, fun h0 => absurd (by rw [h0]; rfl) h⟩
  have h0 := allDig_zero
  generalize hkk : (((d :: ds').length : Int) + k) = kk
  by_cases h1 : 0 ≤ k ∧ kk ≤ 16
  · refine ⟨(d :: ds') ++ zeros k.natAbs, ['0'], none, fun sign => ?_, allDig_append _ _ hall (allDig_zeros _), h0,
      hlead _, ?_⟩
    · rw [layoutF_eq, hkk, if_pos h1]; simp [numTok, fracText, expText]
    · apply sameDec_shift _ _ _ _ (k.natAbs + 1)
      · simp; omega
      · rw [natOfDigits_append, natOfDigits_append, natOfDigits_zeros, length_zeros]
        show (natOfDigits (d :: ds') * 10 ^ k.natAbs + 0) * 10 ^ 1 + 0 = natOfDigits (d :: ds') * 10 ^ (k.natAbs + 1)
        simp [Nat.pow_succ, Nat.mul_assoc]
  by_cases h2 : 0 < kk ∧ kk ≤ 16
  · obtain ⟨m', hm'⟩ : ∃ m', kk.natAbs = m' + 1 := ⟨kk.natAbs - 1, by omega⟩
    have hdrop : (d :: ds').drop (m' + 1) ≠ [] := fun h => by
      have := List.drop_eq_nil_iff.mp h; omega
    obtain ⟨c, f, hcf⟩ := List.exists_cons_of_ne_nil hdrop
    refine ⟨(d :: ds').take (m' + 1), (d :: ds').drop (m' + 1), none, fun sign => ?_, allDig_take _ _ hall,
      allDig_drop _ _ hall, fun h => by rw [List.take_succ_cons]; exact hlead _ h, ?_⟩
    · rw [layoutF_eq, hkk, if_neg h1, if_pos h2, hm', numTok, hcf]; simp [fracText, expText]
    · apply sameDec_shift _ _ _ _ 0
      · simp only [List.length_drop, Option.getD_none]; omega
      · rw [List.take_append_drop]; simp
  by_cases h3 : -5 < kk ∧ kk ≤ 0
  · refine ⟨['0'], zeros kk.natAbs ++ (d :: ds'), none, fun sign => ?_, h0, allDig_append _ _ (allDig_zeros _) hall,
      fun _ => ⟨'0', [], rfl, fun _ => rfl⟩, ?_⟩
    · rw [layoutF_eq, hkk, if_neg h1, if_neg h2, if_pos h3, numTok]
      cases kk.natAbs <;> simp [fracText, expText, zeros, List.replicate_succ]
    · apply sameDec_shift _ _ _ _ 0
      · simp only [List.length_append, length_zeros, Option.getD_none]; omega
      · rw [natOfDigits_append, natOfDigits_append, natOfDigits_zeros]
        show (0 * 10 + digVal '0') * 10 ^ _ + (0 * 10 ^ (d :: ds').length + natOfDigits (d :: ds')) = _ * 10 ^ 0
        simp [digVal]
  by_cases h4 : (d :: ds').length = 1
  · refine ⟨d :: ds', [], some (kk - 1), fun sign => ?_, hall, allDig_nil, hlead _, ?_⟩
    · rw [layoutF_eq, hkk, if_neg h1, if_neg h2, if_neg h3, if_pos h4]; simp [numTok, fracText, expText]
    · apply sameDec_shift _ _ _ _ 0
      · simp only [Option.getD_some, List.length_nil]; omega
      · simp
  · have hne' : ds' ≠ [] := fun h => by subst h; exact h4 rfl
    obtain ⟨c, f, rfl⟩ := List.exists_cons_of_ne_nil hne'
    refine ⟨[d], c :: f, some (kk - 1), fun sign => ?_,
      fun x hx => hall x (by simp at hx; simp [hx]), fun x hx => hall x (List.mem_cons_of_mem _ hx), hlead _, ?_⟩
    · rw [layoutF_eq, hkk, if_neg h1, if_neg h2, if_neg h3, if_neg h4]; simp [numTok, fracText, expText]
    · apply sameDec_shift _ _ _ _ 0
      · simp only [Option.getD_some, List.length_cons] at hkk ⊢; omega
      · simp

end MJ.Json
