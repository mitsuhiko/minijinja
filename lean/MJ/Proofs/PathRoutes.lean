import MJ.Proofs.Path
import MJ.Model.PathRoutes
/-!
Lemmas for the engine's routes of C17 (`MJ/Model/PathRoutes.lean`).  Every way of serving a request
is a sequence of `Env.get`s, so `Env.get_sourced` carries over: a request leaves loader and callback
alone, keeps the store sourced from the snapshots seen (`StepOk`) and answers only sourced content
(`fetch_sourced`, `includeList_sourced`, `serve_sourced`, `run_sourced`); and the loader closure is
called only with names the store was asked for (`loaderCalls_sub_storeNames`).
-/
namespace MJ.Path

/-- the content `s` answered for the store name `n` is what one of the snapshots `seen` held at
    the path `safe_join(dir, n)` designates -/
def Sourced (dir : Str) (seen : List Snapshot) (n s : Str) : Prop :=
  ∃ fs ∈ seen, ∃ p, safeJoin dir n = some p ∧ fs p = .content s

def StoreOk (dir : Str) (seen : List Snapshot) (c : List (Str × Str)) : Prop :=
  ∀ n s, (n, s) ∈ c → Sourced dir seen n s

theorem Sourced.mono {dir : Str} {seen more : List Snapshot} {n s : Str}
    (h : Sourced dir seen n s) (hsub : ∀ x ∈ seen, x ∈ more) : Sourced dir more n s := by
  obtain ⟨x, hx, h2⟩ := h
  exact ⟨x, hsub x hx, h2⟩

structure StepOk (dir : Str) (seen : List Snapshot) (g g' : Engine) : Prop where
  loader : g'.env.loader = g.env.loader
  cb : g'.cb = g.cb
  store : StoreOk dir seen g'.env.cache

theorem StepOk.trans {dir : Str} {seen : List Snapshot} {g g' g'' : Engine}
    (h : StepOk dir seen g g') (h' : StepOk dir seen g' g'') : StepOk dir seen g g'' :=
  ⟨h'.loader.trans h.loader, h'.cb.trans h.cb, h'.store⟩

theorem fetch_sourced (dir : Str) (g : Engine) (seen : List Snapshot) (fs : Snapshot) (e : Entry)
    (name parent : Str) (hfs : fs ∈ seen) (hb : g.env.loader.base = dir)
    (hc : StoreOk dir seen g.env.cache) :
    StepOk dir seen g (g.fetch fs e name parent).2 ∧
    ∀ s, (g.fetch fs e name parent).1 = .found s → Sourced dir seen (g.storeName e name parent) s := by
  -- `Sourced dir seen` is `SourcedIn` with every snapshot of `seen` answering for every name
  obtain ⟨h1, h2⟩ := g.env.get_sourced (fun fs _ => fs ∈ seen) dir fs (g.storeName e name parent) hfs hb hc
  exact ⟨⟨g.env.get_loader fs _, rfl, h1⟩, h2⟩

theorem includeList_sourced (dir : Str) (seen : List Snapshot) (fs : Snapshot) (parent : Str)
    (hfs : fs ∈ seen) (names : List Str) (g : Engine) (hb : g.env.loader.base = dir)
    (hc : StoreOk dir seen g.env.cache) :
    StepOk dir seen g (g.includeList fs parent names).2 ∧
    ∀ s, (g.includeList fs parent names).1 = .found s →
      ∃ n ∈ names, Sourced dir seen (g.storeName .includeStmt n parent) s := by
  fun_induction Engine.includeList g fs parent names with
  | case1 g => exact ⟨⟨rfl, rfl, hc⟩, fun s hs => nomatch hs⟩
  | case2 g n rest hr ih =>
    -- the first choice is missing: the rest is tried on the engine it leaves, whose callback is `g`'s
    obtain ⟨f1, _⟩ := fetch_sourced dir g seen fs .includeStmt n parent hfs hb hc
    obtain ⟨i1, i2⟩ := ih (f1.loader ▸ hb) f1.store
    refine ⟨f1.trans i1, fun s hs => ?_⟩
    obtain ⟨m, hm, hsrc⟩ := i2 s hs
    exact ⟨m, List.mem_cons_of_mem _ hm, hsrc⟩
  | case3 g n rest hne =>
    obtain ⟨f1, f2⟩ := fetch_sourced dir g seen fs .includeStmt n parent hfs hb hc
    exact ⟨f1, fun s hs => ⟨n, List.mem_cons_self, f2 s hs⟩⟩

theorem serve_sourced (dir : Str) (g : Engine) (seen : List Snapshot) (fs : Snapshot) (r : Req)
    (hfs : fs ∈ seen) (hb : g.env.loader.base = dir) (hc : StoreOk dir seen g.env.cache) :
    StepOk dir seen g (g.serve fs r).2 ∧
    ∀ s, (g.serve fs r).1 = .found s → ∃ n ∈ g.storeNames r, Sourced dir seen n s := by
  cases r with
  | one e n p =>
    obtain ⟨f1, f2⟩ := fetch_sourced dir g seen fs e n p hfs hb hc
    exact ⟨f1, fun s hs => ⟨_, by simp [Engine.storeNames], f2 s hs⟩⟩
  | choices ns p =>
    obtain ⟨f1, f2⟩ := includeList_sourced dir seen fs p hfs ns g hb hc
    refine ⟨f1, fun s hs => ?_⟩
    obtain ⟨n, hn, hsrc⟩ := f2 s hs
    exact ⟨_, by simp only [Engine.storeNames, List.mem_map]; exact ⟨n, hn, rfl⟩, hsrc⟩

theorem storeNames_congr (g g' : Engine) (h : g'.cb = g.cb) (r : Req) :
    g'.storeNames r = g.storeNames r := by
  cases r <;> simp only [Engine.storeNames, Engine.storeName, h]

theorem run_sourced (dir : Str) (seen : List Snapshot) (h : List (Snapshot × Req)) (g : Engine)
    (hsub : ∀ x ∈ h, x.1 ∈ seen) (hb : g.env.loader.base = dir) (hc : StoreOk dir seen g.env.cache) :
    (∀ s, LoadResult.found s ∈ g.run h → ∃ x ∈ h, ∃ n ∈ g.storeNames x.2, Sourced dir seen n s) ∧
    StepOk dir seen g (g.after h) := by
  fun_induction Engine.run g h with
  | case1 g => exact ⟨fun s hs => (nomatch hs), ⟨rfl, rfl, hc⟩⟩
  | case2 g fs r rest ih =>
    obtain ⟨f1, f2⟩ := serve_sourced dir g seen fs r (hsub (fs, r) List.mem_cons_self) hb hc
    obtain ⟨i1, i2⟩ := ih (fun y hy => hsub y (List.mem_cons_of_mem _ hy)) (f1.loader ▸ hb) f1.store
    refine ⟨fun s hs => ?_, f1.trans i2⟩
    rcases List.mem_cons.1 hs with hs | hs
    · obtain ⟨n, hn, hsrc⟩ := f2 s hs.symm
      exact ⟨(fs, r), List.mem_cons_self, n, hn, hsrc⟩
    · obtain ⟨y, hy, n, hn, hsrc⟩ := i1 s hs
      rw [storeNames_congr _ _ f1.cb] at hn
      exact ⟨y, List.mem_cons_of_mem _ hy, n, hn, hsrc⟩

theorem env_loaderCalls_sub (e : Env) (name n : Str) (h : n ∈ e.loaderCalls name) : n = name := by
  unfold Env.loaderCalls at h
  cases hl : lookup name e.cache <;> simp [hl] at h
  exact h

theorem listCalls_sub (fs : Snapshot) (parent : Str) (names : List Str) (g : Engine) (n : Str)
    (h : n ∈ g.listCalls fs parent names) : n ∈ names.map fun m => g.storeName .includeStmt m parent := by
  fun_induction Engine.listCalls g fs parent names with
  | case1 g => cases h
  | case2 g m rest ih =>
    rcases List.mem_append.1 h with h | h
    · rw [env_loaderCalls_sub _ _ _ h]; exact List.mem_cons_self
    · split at h
      · exact List.mem_cons_of_mem _ (ih h)
      · cases h

theorem loaderCalls_sub_storeNames (g : Engine) (fs : Snapshot) (r : Req) (n : Str)
    (h : n ∈ g.loaderCalls fs r) : n ∈ g.storeNames r := by
  cases r with
  | one e m p =>
    simp only [Engine.loaderCalls] at h
    rw [env_loaderCalls_sub _ _ _ h]; simp [Engine.storeNames]
  | choices ns p => exact listCalls_sub fs p ns g n h

end MJ.Path
