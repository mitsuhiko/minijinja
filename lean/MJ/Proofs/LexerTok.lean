import MJ.Proofs.LexerBasic
/-! `tokenize_block_or_var` on a well-formed token list: every token is consumed as written
(`tok_scan`, by the kinds of `Tok.Wf`) and the tag ends exactly behind the interior
(`interior_end_found`; `line_interior_end_found` for a line statement). -/
namespace MJ.Lexer

theorem asciiWs_cases {c : Char} (h : isAsciiWs c = true) :
    c = ' ' ∨ c = '\t' ∨ c = '\n' ∨ c = '\x0c' ∨ c = '\r' := by
  simpa [isAsciiWs, or_assoc] using h

theorem asciiWs_isWs {c : Char} (h : isAsciiWs c = true) : isWs c = true := by
  rcases asciiWs_cases h with rfl | rfl | rfl | rfl | rfl <;> decide

theorem not_asciiWs_of_not_ws {c : Char} (h : isWs c = false) : isAsciiWs c = false := by
  cases hw : isAsciiWs c with
  | false => rfl
  | true => rw [asciiWs_isWs hw] at h; cases h

theorem identStart_identCont {c : Char} (h : isIdentStart c = true) : isIdentCont c = true := by
  simp [isIdentCont, h]

theorem scanTag_done {e : List Char} {line : Bool} {m : Mode} {bal : Int} {c : Char} {r : List Char}
    {res : ScanRes} (h : scanStep e line m bal c r = .done res) : scanTag e line m bal (c :: r) = res := by
  rw [scanTag, h]

theorem scanTag_goto {e : List Char} {line : Bool} {m m' : Mode} {bal bal' : Int} {c : Char} {r : List Char}
    (h : scanStep e line m bal c r = .goto m' bal' false) :
    scanTag e line m bal (c :: r) = scanTag e line m' bal' r := by
  rw [scanTag, h]

theorem scanTag_goto2 {e : List Char} {line : Bool} {m m' : Mode} {bal bal' : Int} {c c2 : Char} {r2 : List Char}
    (h : scanStep e line m bal c (c2 :: r2) = .goto m' bal' true) :
    scanTag e line m bal (c :: c2 :: r2) = scanTag e line m' bal' r2 := by
  rw [scanTag, h]

theorem scanTag_goto2_nil {e : List Char} {line : Bool} {m m' : Mode} {bal bal' : Int} {c : Char}
    (h : scanStep e line m bal c [] = .goto m' bal' true) : scanTag e line m bal [c] = .error := by
  rw [scanTag, h]

/-- the line statement does not end at this token boundary -/
def NoLineEnd (line : Bool) (bal : Int) (s : List Char) : Prop :=
  (if line && bal == 0 then lineEnd s else none) = none

/-- the tag does not end at this token boundary -/
def NoEnd (e : List Char) (line : Bool) (bal : Int) (c : Char) (r : List Char) : Prop :=
  (!line && bal == 0 && (c = '-' || c = '+') && startsWith e r) = false ∧
    (!line && bal == 0 && startsWith e (c :: r)) = false

theorem noLineEnd_false (bal : Int) (s : List Char) : NoLineEnd false bal s := by simp [NoLineEnd]

theorem noEnd_of {e : List Char} {line : Bool} {bal : Int} {c : Char} {r : List Char}
    (h : line = true ∨ bal ≠ 0 ∨ endHere e (c :: r) = false) : NoEnd e line bal c r := by
  rcases h with rfl | h | h
  · simp [NoEnd]
  · have : (bal == 0) = false := by simpa using h
    simp [NoEnd, this]
  · simp only [endHere, Bool.or_eq_false_iff] at h
    constructor
    · cases hc : (decide (c = '-') || decide (c = '+')) with
      | false => simp
      | true =>
        have := h.2
        simp only [hc, Bool.true_and] at this
        simp [this]
    · simp [h.1]

theorem scan_go {e : List Char} {line : Bool} {m m' : Mode} {bal : Int} {c : Char} {r : List Char}
    (h : tokCont m c r = .go m') : scanTag e line m bal (c :: r) = scanTag e line m' bal r :=
  scanTag_goto (by simp [scanStep, h])

theorem scan_boundary {e : List Char} {line : Bool} {m : Mode} {bal : Int} {c : Char} {r : List Char}
    (h : tokCont m c r = .boundary) :
    scanTag e line m bal (c :: r) = scanTag e line .top bal (c :: r) := by
  have h1 : scanStep e line m bal c r = topStep e line bal c r := by simp only [scanStep, h]
  have h2 : scanStep e line .top bal c r = topStep e line bal c r := by simp only [scanStep, tokCont]
  rw [scanTag, scanTag, h1, h2]

theorem top_ws {e : List Char} {line : Bool} {bal : Int} {c : Char} {r : List Char}
    (hl : NoLineEnd line bal (c :: r)) (hw : isAsciiWs c = true) :
    scanTag e line .top bal (c :: r) = scanTag e line .top bal r := by
  have : topStep e line bal c r = .goto .top bal false := by
    unfold topStep
    rw [hl]
    simp [hw]
  exact scanTag_goto (by simp [scanStep, tokCont, this])

theorem topStep_dispatch {e : List Char} {line : Bool} {bal : Int} {c : Char} {r : List Char}
    (hl : NoLineEnd line bal (c :: r)) (hw : isAsciiWs c = false) (he : NoEnd e line bal c r) :
    topStep e line bal c r = dispatch bal c r := by
  unfold topStep
  rw [hl]
  simp only [hw, Bool.false_eq_true, if_false, he.1, he.2]

theorem ne_of_class {p : Char → Bool} {c : Char} (h : p c = true) (k : Char) (hk : p k = false) : c ≠ k := by
  rintro rfl; rw [h] at hk; cases hk

theorem not_mem_of_class {p : Char → Bool} {c : Char} (h : p c = true) {l : List Char}
    (hl : ∀ k ∈ l, p k = false) : ∀ k ∈ l, c ≠ k := fun k hk => ne_of_class h k (hl k hk)

def opChars : List Char :=
  ['+', '-', '*', '/', '%', '.', ',', ':', '~', '|', '=', '>', '<', '(', '[', '{', ')', ']', '}']

/-- the first characters of the two character operators -/
def op2Chars : List Char := ['/', '*', '=', '!', '>', '<']

theorem singleOp_none {c : Char} (h : ∀ k ∈ opChars, c ≠ k) : singleOp c = none := by
  simp only [opChars, List.mem_cons, List.not_mem_nil, or_false, forall_eq_or_imp, forall_eq] at h
  obtain ⟨a1, a2, a3, a4, a5, a6, a7, a8, a9, a10, a11, a12, a13, a14, a15, a16, a17, a18, a19⟩ := h
  simp [singleOp, a1, a2, a3, a4, a5, a6, a7, a8, a9, a10, a11, a12, a13, a14, a15, a16, a17, a18, a19]

theorem singleOp_mem {c : Char} {dl : Int} (h : singleOp c = some dl) : c ∈ opChars := by
  apply Decidable.byContradiction
  intro hn
  rw [singleOp_none (fun k hk hck => hn (by rw [hck]; exact hk))] at h
  cases h

theorem isTwo_false {c : Char} (h : ∀ k ∈ op2Chars, c ≠ k) (r : List Char) : isTwo c r = false := by
  simp only [op2Chars, List.mem_cons, List.not_mem_nil, or_false, forall_eq_or_imp, forall_eq] at h
  obtain ⟨a1, a2, a3, a4, a5, a6⟩ := h
  cases r with
  | nil => rfl
  | cons c2 r => simp [isTwo, twoCharOp, a1, a2, a3, a4, a5, a6]

theorem twoCharOp_mem {a b : Char} (h : twoCharOp a b = true) : a ∈ op2Chars := by
  apply Decidable.byContradiction
  intro hn
  have := isTwo_false (c := a) (fun k hk hck => hn (by rw [hck]; exact hk)) [b]
  rw [isTwo, h] at this
  cases this

theorem identStart_cases {c : Char} (h : isIdentStart c = true) :
    c = '_' ∨ (97 ≤ c.toNat ∧ c.toNat ≤ 122) ∨ (65 ≤ c.toNat ∧ c.toNat ≤ 90) := by
  simpa [isIdentStart, or_assoc] using h

theorem identStart_not_digit {c : Char} (h : isIdentStart c = true) : isDigit c = false := by
  rcases identStart_cases h with rfl | h | h
  · decide
  · simp [isDigit]; omega
  · simp [isDigit]; omega

theorem dispatch_ident {c : Char} (h : isIdentStart c = true) (bal : Int) (r : List Char) :
    dispatch bal c r = .goto .ident bal false := by
  unfold dispatch
  rw [isTwo_false (not_mem_of_class h (by decide)) r, singleOp_none (not_mem_of_class h (by decide))]
  have q1 := ne_of_class h '\'' (by decide)
  have q2 := ne_of_class h '"' (by decide)
  simp [q1, q2, identStart_not_digit h, h]

theorem digit_not_identStart {c : Char} (h : isDigit c = true) : isIdentStart c = false := by
  cases hi : isIdentStart c with
  | false => rfl
  | true => rw [identStart_not_digit hi] at h; cases h

theorem dispatch_digit {c : Char} (h : isDigit c = true) (bal : Int) (r : List Char)
    (hr : radixPrefix c r = none) : dispatch bal c r = .goto (.num (numFirst c)) bal false := by
  unfold dispatch
  rw [isTwo_false (not_mem_of_class h (by decide)) r, singleOp_none (not_mem_of_class h (by decide))]
  have q1 := ne_of_class h '\'' (by decide)
  have q2 := ne_of_class h '"' (by decide)
  simp [q1, q2, h, hr]

theorem dispatch_quote {q : Char} (h : q = '\'' ∨ q = '"') (bal : Int) (r : List Char) :
    dispatch bal q r = .goto (.str q .txt 0) bal false := by
  unfold dispatch
  rw [isTwo_false (by rcases h with rfl | rfl <;> decide) r, singleOp_none (by rcases h with rfl | rfl <;> decide)]
  rcases h with rfl | rfl <;> rfl

theorem dispatch_op {c : Char} {dl : Int} (h : singleOp c = some dl) (bal : Int) (r : List Char)
    (hf : isTwo c r = false) :
    dispatch bal c r = .goto .top (bal + dl) false := by
  unfold dispatch
  rw [hf, h]; rfl

theorem dispatch_op2 {a b : Char} (h : twoCharOp a b = true) (bal : Int) (r : List Char) :
    dispatch bal a (b :: r) = .goto .top bal true := by
  unfold dispatch
  simp [isTwo, h]

theorem not_ws_of_range {c : Char} (h : 33 ≤ c.toNat ∧ c.toNat ≤ 126) : isWs c = false := by
  simp [isWs]; omega

theorem identStart_not_isWs {c : Char} (h : isIdentStart c = true) : isWs c = false := by
  rcases identStart_cases h with rfl | h | h
  · decide
  · exact not_ws_of_range (by omega)
  · exact not_ws_of_range (by omega)

theorem digit_not_isWs {c : Char} (h : isDigit c = true) : isWs c = false := by
  simp [isDigit] at h
  exact not_ws_of_range (by omega)

theorem singleOp_not_isWs {c : Char} {dl : Int} (h : singleOp c = some dl) : isWs c = false :=
  (by decide : ∀ k ∈ opChars, isWs k = false) c (singleOp_mem h)

theorem twoCharOp_not_isWs {a b : Char} (h : twoCharOp a b = true) : isWs a = false :=
  (by decide : ∀ k ∈ op2Chars, isWs k = false) a (twoCharOp_mem h)

/-- a token boundary at which neither the line nor the tag ends -/
structure Passes (e : List Char) (line : Bool) (bal : Int) (c : Char) (r : List Char) : Prop where
  noLine : NoLineEnd line bal (c :: r)
  noEnd : NoEnd e line bal c r

theorem top_token {e : List Char} {line : Bool} {bal : Int} {c : Char} {r : List Char}
    (hp : Passes e line bal c r) (hw : isAsciiWs c = false) {m' : Mode} {bal' : Int}
    (hd : dispatch bal c r = .goto m' bal' false) :
    scanTag e line .top bal (c :: r) = scanTag e line m' bal' r :=
  scanTag_goto (by simp only [scanStep, tokCont]; rw [topStep_dispatch hp.noLine hw hp.noEnd, hd])

theorem tok_ws {e : List Char} {line : Bool} {bal : Int} (s rest : List Char)
    (hall : ∀ c ∈ s, isAsciiWs c = true)
    (hl : ∀ k, k < s.length → NoLineEnd line bal (s.drop k ++ rest)) :
    scanTag e line .top bal (s ++ rest) = scanTag e line .top bal rest := by
  induction s with
  | nil => rfl
  | cons c s ih =>
    have h0 := hl 0 (by simp)
    simp only [List.drop_zero] at h0
    have h0' : NoLineEnd line bal (c :: (s ++ rest)) := h0
    rw [List.cons_append, top_ws h0' (hall c (by simp))]
    apply ih (fun x hx => hall x (by simp [hx]))
    intro k hk
    have := hl (k + 1) (by simp; omega)
    simpa using this

theorem ident_run {e : List Char} {line : Bool} {bal : Int} (cs rest : List Char)
    (hall : ∀ c ∈ cs, isIdentCont c = true) :
    scanTag e line .ident bal (cs ++ rest) = scanTag e line .ident bal rest := by
  induction cs with
  | nil => rfl
  | cons c cs ih =>
    rw [List.cons_append, scan_go (m' := .ident) (by simp [tokCont, hall c (by simp)])]
    exact ih (fun x hx => hall x (by simp [hx]))

theorem ident_exit {e : List Char} {line : Bool} {bal : Int} (rest : List Char)
    (hf : ∀ c, rest.head? = some c → isIdentCont c = false ∧ c.toNat < 128) :
    scanTag e line .ident bal rest = scanTag e line .top bal rest := by
  cases rest with
  | nil => simp [scanTag, scanEof]
  | cons c r =>
    obtain ⟨h1, h2⟩ := hf c rfl
    exact scan_boundary (by simp [tokCont, h1]; omega)

theorem str_go {e : List Char} {line : Bool} {bal : Int} {q : Char} {es es' : Esc} {sur sur' : Nat} {c : Char}
    {r : List Char} (h : strStep q es sur c = .cont es' sur') :
    scanTag e line (.str q es sur) bal (c :: r) = scanTag e line (.str q es' sur') bal r :=
  scan_go (by simp [tokCont, h])

theorem hexDigit_ne_plus {c : Char} (h : isHexDigit c = true) : c ≠ '+' := by
  rintro rfl; revert h; decide

theorem oct_ne_x {c : Char} (h : isOct c = true) : c ≠ 'x' := by rintro rfl; revert h; decide
theorem oct_ne_bs {c : Char} (h : isOct c = true) : c ≠ '\\' := by rintro rfl; revert h; decide

theorem str_u4 {e : List Char} {line : Bool} {bal : Int} (q : Char) (sur : Nat) (a b c d : Char) (v s : Nat)
    (r : List Char) (hv : hex4 a b c d = some v) (hs : pushU16 sur v = some s) :
    scanTag e line (.str q (.u 0 0) sur) bal (a :: b :: c :: d :: r) = scanTag e line (.str q .txt s) bal r := by
  unfold hex4 at hv
  split at hv
  · rename_i hh
    simp only [Bool.and_eq_true, Bool.or_eq_true, decide_eq_true_eq] at hh
    obtain ⟨⟨⟨ha, hb⟩, hc⟩, hd⟩ := hh
    have hv' := Option.some.inj hv
    have nb := hexDigit_ne_plus hb
    have nc := hexDigit_ne_plus hc
    have nd := hexDigit_ne_plus hd
    rw [str_go (es' := .u 1 (if a = '+' then 0 else hexVal a)) (sur' := sur) (by
      rcases ha with ha | ha
      · simp [strStep, ha]
      · simp [strStep, ha])]
    rw [str_go (es' := .u 2 ((if a = '+' then 0 else hexVal a) * 16 + hexVal b)) (sur' := sur) (by
      simp [strStep, hb, nb])]
    rw [str_go (es' := .u 3 (((if a = '+' then 0 else hexVal a) * 16 + hexVal b) * 16 + hexVal c)) (sur' := sur) (by
      simp [strStep, hc, nc])]
    exact str_go (by simp [strStep, hd, nd, hv', hs])
  · cases hv

/-- behind a complete octal escape the next character is read like any other -/
theorem str_oct_as_txt {e : List Char} {line : Bool} {bal : Int} (q : Char) (k acc : Nat) (c : Char) (r : List Char)
    (h : (decide (0 < k) && isOct c) = false) :
    scanTag e line (.str q (.oct k acc) 0) bal (c :: r) = scanTag e line (.str q .txt 0) bal (c :: r) := by
  have : scanStep e line (.str q (.oct k acc) 0) bal c r = scanStep e line (.str q .txt 0) bal c r := by
    simp only [scanStep, tokCont, strStep, h, Bool.false_eq_true, if_false]
  rw [scanTag, scanTag, this]

theorem oct_step (q : Char) (k acc : Nat) (c : Char) (hc : isOct c = true) (hle : acc * 8 + octVal c ≤ 255) :
    strStep q (.oct (k + 1) acc) 0 c = .cont (.oct k (acc * 8 + octVal c)) 0 := by
  have hnl : ¬ (255 < acc * 8 + (c.toNat - '0'.toNat)) := by simp only [octVal] at hle; omega
  simp only [strStep, hc, Nat.zero_lt_succ, decide_true, Bool.and_self, if_true, if_neg hnl, Nat.add_sub_cancel, octVal]

theorem strPlain_text {q c : Char} (h1 : c ≠ '\\') (h2 : c ≠ q) : strPlain q 0 c = .cont .txt 0 := by
  simp [strPlain, h1, h2]

theorem octVal_le {c : Char} (h : isOct c = true) : octVal c ≤ 7 := by
  simp only [isOct, Bool.and_eq_true, decide_eq_true_eq] at h
  have : '0'.toNat = 48 := rfl
  have : '7'.toNat = 55 := rfl
  simp only [octVal]; omega

theorem str_close {e : List Char} {line : Bool} {bal : Int} {q : Char} (hq : q = '\'' ∨ q = '"') (rest : List Char)
    (es : Esc) (hes : es = .txt ∨ ∃ k acc, es = .oct k acc) :
    scanTag e line (.str q es 0) bal (q :: rest) = scanTag e line .top bal rest := by
  have hq1 : q ≠ '\\' := by rcases hq with rfl | rfl <;> decide
  have hqo : isOct q = false := by rcases hq with rfl | rfl <;> decide
  apply scan_go
  rcases hes with rfl | ⟨k, acc, rfl⟩
  · simp [tokCont, strStep, strPlain, hq1]
  · simp [tokCont, strStep, strPlain, hq1, hqo]

/-- behind an octal escape that is complete (no digit left to take, or no octal digit follows) the
    rest of the body is read as from plain text -/
theorem str_oct_done {e : List Char} {line : Bool} {bal : Int} {q : Char} (hq : q = '\'' ∨ q = '"') (rest : List Char)
    (k acc : Nat) (body : List Char) (hk : k = 0 ∨ ∀ c, body.head? = some c → isOct c = false)
    (hgo : scanTag e line (.str q .txt 0) bal (body ++ (q :: rest)) = scanTag e line .top bal rest) :
    scanTag e line (.str q (.oct k acc) 0) bal (body ++ (q :: rest)) = scanTag e line .top bal rest := by
  cases body with
  | nil => exact str_close hq rest _ (Or.inr ⟨_, _, rfl⟩)
  | cons c r =>
    have hno : (decide (0 < k) && isOct c) = false := by
      rcases hk with rfl | hk
      · simp
      · simp [hk c rfl]
    rw [List.cons_append, str_oct_as_txt q k acc c _ hno]
    exact hgo

/-- a body that `utils::unescape` accepts is read up to the closing quote: one case per escape form
    of `strBodyOkF` -/
theorem str_run {e : List Char} {line : Bool} {bal : Int} (q : Char) (hq : q = '\'' ∨ q = '"') (rest : List Char)
    (fuel sur : Nat) (body : List Char) (h : strBodyOkF q fuel sur body = true) :
    scanTag e line (.str q .txt sur) bal (body ++ (q :: rest)) = scanTag e line .top bal rest := by
  have hbs : ∀ (s : Nat) (r : List Char),
      scanTag e line (.str q .txt s) bal ('\\' :: r) = scanTag e line (.str q .bs s) bal r :=
    fun s r => str_go (by simp [strStep, strPlain])
  have hoct : ∀ (d : Char) (r : List Char), d ≠ 'u' → d ≠ 'x' → isOct d = true →
      scanTag e line (.str q .txt 0) bal ('\\' :: d :: r) = scanTag e line (.str q (.oct 2 (octVal d)) 0) bal r :=
    fun d r hd hx ho => by
      rw [hbs, str_go (es' := .oct 2 (octVal d)) (sur' := 0) (by simp [strStep, hd, hx, ho, octVal])]
  have h0 : ∀ {s : Nat}, ¬(s != 0) = true → s = 0 := by simp
  fun_induction strBodyOkF q fuel sur body with
  | case1 => cases h
  | case2 fuel sur =>
    simp only [beq_iff_eq] at h
    subst h
    exact str_close hq rest .txt (Or.inl rfl)
  | case3 => cases h
  | case4 fuel sur a b c2 e4 r2 v hv s hs ih =>
    rw [List.cons_append, hbs, List.cons_append, str_go (es' := .u 0 0) (sur' := sur) (by simp [strStep])]
    simp only [List.cons_append]
    rw [str_u4 q sur a b c2 e4 v s _ hv hs]
    exact ih h
  | case5 => cases h
  | case6 => cases h
  | case7 => cases h
  | case8 => cases h
  | case9 fuel sur hs0 a b r2 _ ih =>
    cases h0 hs0
    simp only [Bool.and_eq_true, Bool.or_eq_true, decide_eq_true_eq] at h
    rw [List.cons_append, hbs, List.cons_append, str_go (es' := .x 0) (sur' := 0) (by simp [strStep]),
      List.cons_append, str_go (es' := .x 1) (sur' := 0) (by rcases h.1.1 with ha | ha <;> simp [strStep, ha]),
      List.cons_append, str_go (es' := .txt) (sur' := 0) (by simp [strStep, h.1.2])]
    exact ih h.2
  | case10 => cases h
  | case11 fuel sur d hd hs0 hx ho a hoa b r3 hob ih =>
    cases h0 hs0
    simp only [Bool.and_eq_true, decide_eq_true_eq] at h
    have h1 := octVal_le ho
    have h2 := octVal_le hoa
    rw [List.cons_append, List.cons_append, hoct d _ hd hx ho, List.cons_append, str_go (oct_step q 1 _ a hoa (by omega)),
      List.cons_append, str_go (oct_step q 0 _ b hob h.1)]
    exact str_oct_done hq rest 0 _ r3 (Or.inl rfl) (ih h.2)
  | case12 fuel sur d hd hs0 hx ho a hoa b r3 hob ih =>
    cases h0 hs0
    have h1 := octVal_le ho
    have h2 := octVal_le hoa
    rw [List.cons_append, List.cons_append, hoct d _ hd hx ho, List.cons_append, str_go (oct_step q 1 _ a hoa (by omega))]
    exact str_oct_done hq rest 1 _ (b :: r3) (Or.inr (by intro c hc; cases hc; simpa using hob)) (ih h)
  | case13 fuel sur d hd hs0 hx ho a hoa =>
    cases h0 hs0
    have h1 := octVal_le ho
    have h2 := octVal_le hoa
    rw [List.cons_append, List.cons_append, hoct d _ hd hx ho, List.cons_append, str_go (oct_step q 1 _ a hoa (by omega))]
    exact str_close hq rest _ (Or.inr ⟨_, _, rfl⟩)
  | case14 fuel sur d hd hs0 hx ho a r2 hoa ih =>
    cases h0 hs0
    rw [List.cons_append, List.cons_append, hoct d _ hd hx ho]
    exact str_oct_done hq rest 2 _ (a :: r2) (Or.inr (by intro c hc; cases hc; simpa using hoa)) (ih h)
  | case15 fuel sur d hd hs0 hx ho =>
    cases h0 hs0
    rw [List.cons_append, List.cons_append, hoct d _ hd hx ho]
    exact str_close hq rest _ (Or.inr ⟨_, _, rfl⟩)
  | case16 fuel sur d r1 hd hs0 hx ho ih =>
    cases h0 hs0
    rw [List.cons_append, hbs, List.cons_append, str_go (es' := .txt) (sur' := 0) (by simp [strStep, hd, hx, ho])]
    exact ih h
  | case17 fuel sur c r hc ih =>
    simp only [Bool.and_eq_true, bne_iff_ne, ne_eq, beq_iff_eq] at h
    obtain ⟨⟨hcq, rfl⟩, hr⟩ := h
    rw [List.cons_append, str_go (es' := .txt) (sur' := 0) (by simp [strStep, strPlain_text hc hcq])]
    exact ih hr

theorem tok_str {e : List Char} {line : Bool} {bal : Int} (q : Char) (body rest : List Char)
    (hq : q = '\'' ∨ q = '"') (hb : strBodyOk q 0 body = true)
    (hp : Passes e line bal q (body ++ [q] ++ rest)) :
    scanTag e line .top bal (q :: (body ++ [q]) ++ rest) = scanTag e line .top bal rest := by
  have hw : isAsciiWs q = false := by rcases hq with rfl | rfl <;> decide
  rw [List.cons_append, top_token hp hw (dispatch_quote hq bal _)]
  have := str_run (e := e) (line := line) (bal := bal) q hq rest _ 0 body hb
  simpa [List.append_assoc] using this

/-- `eat_number` after the decimal digits `ds` -/
def numOf (ds : List Char) : Num :=
  { radix := 10, st := .int, lastUs := false, nDigits := ds.length, val := decVal ds, bad := false, expDigits := 0 }

theorem decVal_append (ds : List Char) (c : Char) : decVal (ds ++ [c]) = decVal ds * 10 + (c.toNat - '0'.toNat) := by
  simp [decVal, List.foldl_append]

theorem numFirst_eq (c : Char) : numFirst c = numOf [c] := by
  simp [numFirst, numOf, decVal]

theorem digit_val_le {c : Char} (h : isDigit c = true) : c.toNat - '0'.toNat ≤ 9 := by
  simp [isDigit] at h
  have : '0'.toNat = 48 := by decide
  omega

theorem digit_identCont {c : Char} (h : isDigit c = true) : isIdentCont c = true := by
  simp only [isIdentCont, Bool.or_eq_true]
  right
  simpa [isDigit] using h

theorem numStep_digit (ds : List Char) {c : Char} (h : isDigit c = true) (r : List Char) :
    numStep (numOf ds) c r = .cont (numOf (ds ++ [c])) := by
  have n1 := ne_of_class h '.' (by decide)
  have n2 := ne_of_class h 'E' (by decide)
  have n3 := ne_of_class h 'e' (by decide)
  have n4 := ne_of_class h '+' (by decide)
  have n5 := ne_of_class h '-' (by decide)
  have hv := digit_val_le h
  have e0 : '0'.toNat = 48 := by decide
  have hb : ¬ (10 ≤ c.toNat - 48) := by omega
  simp [numStep, numOf, n1, n2, n3, n4, n5, h, decVal_append, hb]

theorem num_run {e : List Char} {line : Bool} {bal : Int} (ds ds' rest : List Char)
    (hall : ∀ c ∈ ds', isDigit c = true) :
    scanTag e line (.num (numOf ds)) bal (ds' ++ rest) = scanTag e line (.num (numOf (ds ++ ds'))) bal rest := by
  induction ds' generalizing ds with
  | nil => simp
  | cons c ds' ih =>
    rw [List.cons_append, scan_go (m' := .num (numOf (ds ++ [c]))) (by
      simp [tokCont, numStep_digit ds (hall c (by simp))])]
    rw [ih (ds ++ [c]) (fun x hx => hall x (by simp [hx]))]
    simp [List.append_assoc]

theorem hexLetter_identCont {c : Char} (h : isHexLetter c = true) : isIdentCont c = true := by
  simp only [isHexLetter, Bool.or_eq_true, Bool.and_eq_true, decide_eq_true_eq] at h
  simp only [isIdentCont, isIdentStart, Bool.or_eq_true, Bool.and_eq_true, decide_eq_true_eq]
  have e1 : 'a'.toNat = 97 := by decide
  have e2 : 'f'.toNat = 102 := by decide
  have e3 : 'A'.toNat = 65 := by decide
  have e4 : 'F'.toNat = 70 := by decide
  have e5 : 'z'.toNat = 122 := by decide
  have e6 : 'Z'.toNat = 90 := by decide
  left
  rcases h with h | h
  · left; right; omega
  · right; omega

theorem numStep_stop (ds : List Char) {c : Char} (hc : isIdentCont c = false) (hd : c ≠ '.') (r : List Char) :
    numStep (numOf ds) c r = .stop := by
  have n2 : c ≠ 'E' := by rintro rfl; revert hc; decide
  have n3 : c ≠ 'e' := by rintro rfl; revert hc; decide
  have n6 : c ≠ '_' := by rintro rfl; revert hc; decide
  have hdig : isDigit c = false := by
    cases h : isDigit c with
    | false => rfl
    | true => rw [digit_identCont h] at hc; cases hc
  simp [numStep, numOf, hd, n2, n3, n6, hdig]

theorem numValid_numOf {ds : List Char} (hne : ds ≠ [])
    (hv : decVal ds < 340282366920938463463374607431768211456) : numValid (numOf ds) = true := by
  have : 0 < ds.length := List.length_pos_iff.2 hne
  simp [numValid, numOf, this, hv]

theorem num_exit {e : List Char} {line : Bool} {bal : Int} (ds rest : List Char) (hne : ds ≠ [])
    (hv : decVal ds < 340282366920938463463374607431768211456)
    (hf : ∀ x, rest.head? = some x → isIdentCont x = false ∧ x ≠ '.') :
    scanTag e line (.num (numOf ds)) bal rest = scanTag e line .top bal rest := by
  cases rest with
  | nil => simp [scanTag, scanEof, numValid_numOf hne hv]
  | cons c r =>
    obtain ⟨h1, h2⟩ := hf c rfl
    exact scan_boundary (by simp [tokCont, numStep_stop ds h1 h2, numValid_numOf hne hv])

theorem radixPrefix_none (c : Char) (r : List Char)
    (h : ∀ x, r.head? = some x → isDigit x = true ∨ isIdentCont x = false) : radixPrefix c r = none := by
  unfold radixPrefix
  split
  · cases r with
    | nil => rfl
    | cons a r =>
      simp only []
      have ha := h a rfl
      have hne : ∀ k, isDigit k = false → isIdentCont k = true → a ≠ k := by
        rintro k hk1 hk2 rfl
        rcases ha with h' | h'
        · rw [hk1] at h'; cases h'
        · rw [hk2] at h'; cases h'
      simp [hne 'b' (by decide) (by decide), hne 'B' (by decide) (by decide), hne 'o' (by decide) (by decide),
        hne 'O' (by decide) (by decide), hne 'x' (by decide) (by decide), hne 'X' (by decide) (by decide)]
  · rfl

theorem tok_int {e : List Char} {line : Bool} {bal : Int} (c : Char) (cs rest : List Char)
    (hc : isDigit c = true) (hcs : ∀ x ∈ cs, isDigit x = true)
    (hv : decVal (c :: cs) < 340282366920938463463374607431768211456)
    (hp : Passes e line bal c (cs ++ rest))
    (hf : ∀ x, rest.head? = some x → isIdentCont x = false ∧ x ≠ '.') :
    scanTag e line .top bal (c :: cs ++ rest) = scanTag e line .top bal rest := by
  have hr : radixPrefix c (cs ++ rest) = none := by
    apply radixPrefix_none
    intro x hx
    cases cs with
    | nil => exact Or.inr (hf x (by simpa using hx)).1
    | cons a cs => simp at hx; subst hx; exact Or.inl (hcs _ (by simp))
  rw [List.cons_append, top_token hp (not_asciiWs_of_not_ws (digit_not_isWs hc)) (dispatch_digit hc bal _ hr), numFirst_eq,
    num_run [c] cs rest hcs]
  exact num_exit _ rest (by simp) (by simpa using hv) hf

/-- `Tok.wf` by kind -/
inductive Tok.Wf : Tok → Prop
  | ws {s : List Char} : s ≠ [] → (∀ c ∈ s, isAsciiWs c = true) → Tok.Wf (.ws s)
  | ident {c : Char} {cs : List Char} : isIdentStart c = true → (∀ x ∈ cs, isIdentCont x = true) → Tok.Wf (.ident (c :: cs))
  | int {c : Char} {cs : List Char} : isDigit c = true → (∀ x ∈ cs, isDigit x = true) →
      decVal (c :: cs) < 340282366920938463463374607431768211456 → Tok.Wf (.int (c :: cs))
  | str {q : Char} {body : List Char} : q = '\'' ∨ q = '"' → strBodyOk q 0 body = true → Tok.Wf (.str q body)
  | op {c : Char} {dl : Int} : singleOp c = some dl → Tok.Wf (.op c)
  | op2 {a b : Char} : twoCharOp a b = true → Tok.Wf (.op2 a b)

theorem Tok.wf_view {t : Tok} (h : t.wf = true) : t.Wf := by
  cases t with
  | ws s => simp only [Tok.wf, Bool.and_eq_true, List.all_eq_true, Bool.not_eq_true', List.isEmpty_eq_false_iff] at h; exact .ws h.1 h.2
  | ident s =>
    cases s with
    | nil => cases h
    | cons c cs => simp only [Tok.wf, Bool.and_eq_true, List.all_eq_true] at h; exact .ident h.1 h.2
  | int ds =>
    cases ds with
    | nil => cases h
    | cons c cs =>
      simp only [Tok.wf, Bool.and_eq_true, List.all_eq_true, decide_eq_true_eq, List.mem_cons, forall_eq_or_imp] at h
      exact .int h.1.2.1 h.1.2.2 h.2
  | str q body => simp only [Tok.wf, Bool.and_eq_true, Bool.or_eq_true, decide_eq_true_eq] at h; exact .str h.1 h.2
  | op c => obtain ⟨dl, hdl⟩ := Option.isSome_iff_exists.1 h; exact .op hdl
  | op2 a b => exact .op2 h

/-- One token: written as it is well formed (`wf`), followed by something that does not extend it
    (`follow`), at a place where neither the tag nor the line ends (`hws` for the characters of a
    blank, `hp` for the first character of any other token), it is consumed and changes the bracket
    depth by its `delta`. -/
theorem tok_scan {e : List Char} {line : Bool} {bal : Int} (t : Tok) (rest : List Char) (hwf : t.wf = true)
    (hfol : t.follow rest.head? = true)
    (hws : t.isWs = true → ∀ k, k < t.src.length → NoLineEnd line bal (t.src.drop k ++ rest))
    (hp : t.isWs = false → ∀ c r, t.src ++ rest = c :: r → Passes e line bal c r) :
    scanTag e line .top bal (t.src ++ rest) = scanTag e line .top (bal + t.delta) rest := by
  cases Tok.wf_view hwf with
  | @ws s _ hall =>
    rw [show (Tok.ws s).delta = 0 from rfl, Int.add_zero]
    exact tok_ws s rest hall (hws rfl)
  | @ident c cs h1 h2 =>
    have hp' := hp rfl c (cs ++ rest) rfl
    rw [show (Tok.ident (c :: cs)).delta = 0 from rfl, Int.add_zero, Tok.src, List.cons_append,
      top_token hp' (not_asciiWs_of_not_ws (identStart_not_isWs h1)) (dispatch_ident h1 bal _),
      ident_run cs rest h2]
    exact ident_exit rest (by intro x hx; rw [hx] at hfol; simpa [Tok.follow] using hfol)
  | @int c cs h1 h2 hv =>
    rw [show (Tok.int (c :: cs)).delta = 0 from rfl, Int.add_zero]
    exact tok_int c cs rest h1 h2 hv (hp rfl c _ rfl) (by
      intro x hx; rw [hx] at hfol; simpa [Tok.follow] using hfol)
  | @str q body hq hb =>
    rw [show (Tok.str q body).delta = 0 from rfl, Int.add_zero]
    exact tok_str q body rest hq hb (hp rfl q _ (by simp [Tok.src]))
  | @op c dl hdl =>
    have hf : isTwo c rest = false := by
      cases rest with
      | nil => rfl
      | cons c2 r => simpa [Tok.follow, isTwo] using hfol
    rw [show (Tok.op c).delta = dl by simp [Tok.delta, hdl]]
    exact top_token (hp rfl c _ rfl) (not_asciiWs_of_not_ws (singleOp_not_isWs hdl)) (dispatch_op hdl bal rest hf)
  | @op2 a b h =>
    have hp' := hp rfl a (b :: rest) rfl
    rw [show (Tok.op2 a b).delta = 0 from rfl, Int.add_zero]
    show scanTag e line .top bal (a :: b :: rest) = _
    exact scanTag_goto2 (by
      simp only [scanStep, tokCont]
      rw [topStep_dispatch hp'.noLine (not_asciiWs_of_not_ws (twoCharOp_not_isWs h)) hp'.noEnd, dispatch_op2 h])

theorem passes_of {e : List Char} {bal : Int} {c : Char} {r : List Char}
    (h : (false || bal != 0 || !endHere e (c :: r)) = true) : Passes e false bal c r := by
  refine ⟨noLineEnd_false _ _, noEnd_of ?_⟩
  simp only [Bool.false_or, Bool.or_eq_true, bne_iff_ne, ne_eq, Bool.not_eq_true'] at h
  rcases h with h | h
  · exact Or.inr (Or.inl h)
  · exact Or.inr (Or.inr h)

theorem interior_scan (e : List Char) (ts : List Tok) :
    ∀ (bal : Int) (fol : List Char), interiorOk e bal ts fol = true →
      scanTag e false .top bal (srcs ts ++ fol) = scanTag e false .top 0 fol := by
  induction ts with
  | nil =>
    intro bal fol h
    simp only [interiorOk, beq_iff_eq] at h
    subst h; rfl
  | cons t ts ih =>
    intro bal fol h
    simp only [interiorOk, Bool.and_eq_true] at h
    obtain ⟨⟨⟨hwf, hfol⟩, hend⟩, hrest⟩ := h
    rw [srcs, List.append_assoc, tok_scan t _ hwf hfol (fun _ _ _ => noLineEnd_false _ _), ih _ _ hrest]
    intro hw c r hcr
    apply passes_of
    rw [hw, srcs, List.append_assoc, hcr] at hend
    exact hend

/-- behind a well-formed interior the end delimiter (with its marker) is found, exactly there -/
theorem interior_end_found {e : List Char} (he : headOk e = true) (ts : List Tok) (m : Mark) (x : List Char)
    (h : interiorOk e 0 ts (m.src ++ (e ++ x)) = true) (hclose : closeOk e m x = true) :
    scanTag e false .top 0 (srcs ts ++ (m.src ++ (e ++ x))) = .found x m.ws := by
  rw [interior_scan e ts 0 _ h]
  have hs : startsWith e (e ++ x) = true := startsWith_append_self _ _
  cases m with
  | none =>
    obtain ⟨c, t, rfl, h1⟩ := headOk_cons he
    have hs' : startsWith (c :: t) (c :: (t ++ x)) = true := hs
    have hno : ((c = '-' || c = '+') && startsWith (c :: t) (t ++ x)) = false := by
      simp only [closeOk, bne_self_eq_false, Bool.false_or, List.cons_append, Bool.not_eq_true', isMarkChar] at hclose
      exact hclose
    exact scanTag_done (by simp [scanStep, tokCont, topStep, h1, hno, hs', Mark.ws])
  | minus | plus => exact scanTag_done (by simp [scanStep, tokCont, topStep, isAsciiWs, hs, Mark.ws])

theorem tok_first_not_ws {t : Tok} (hwf : t.wf = true) (hws : t.isWs = false) :
    ∃ c r, t.src = c :: r ∧ isWs c = false := by
  cases Tok.wf_view hwf with
  | ws => cases hws
  | ident h1 _ => exact ⟨_, _, rfl, identStart_not_isWs h1⟩
  | int h1 _ _ => exact ⟨_, _, rfl, digit_not_isWs h1⟩
  | str hq _ => exact ⟨_, _, rfl, by rcases hq with rfl | rfl <;> decide⟩
  | op hdl => exact ⟨_, [], rfl, singleOp_not_isWs hdl⟩
  | op2 h => exact ⟨_, _, rfl, twoCharOp_not_isWs h⟩

theorem lineEnd_none (u : List Char) (c : Char) (r : List Char) (hu : ∀ x ∈ u, isHws x = true)
    (hc : isWs c = false) : lineEnd (u ++ c :: r) = none := by
  unfold lineEnd
  have : (u ++ c :: r).dropWhile isHws = c :: r := by
    rw [List.dropWhile_append_of_pos hu, List.dropWhile_cons, not_hws_of_not_ws hc]; rfl
  simp only [this, List.isEmpty_cons, Bool.false_eq_true, if_false, nlLen_zero_of_not_nl r (not_nl_of_not_ws hc)]
  simp

theorem passes_line {bal : Int} {c : Char} {r : List Char} (hc : isWs c = false) :
    Passes [] true bal c r := by
  refine ⟨?_, noEnd_of (Or.inl rfl)⟩
  unfold NoLineEnd
  split
  · exact lineEnd_none [] c r (by simp) hc
  · rfl

theorem line_interior_scan (ts : List Tok) :
    ∀ (bal : Int) (fol : List Char), lineInteriorOk bal ts fol = true →
      scanTag [] true .top bal (srcs ts ++ fol) = scanTag [] true .top 0 fol := by
  induction ts with
  | nil =>
    intro bal fol h
    simp only [lineInteriorOk, beq_iff_eq] at h
    subst h; rfl
  | cons t ts ih =>
    intro bal fol h
    simp only [lineInteriorOk, Bool.and_eq_true] at h
    obtain ⟨⟨⟨hwf, hfol⟩, hws⟩, hrest⟩ := h
    rw [srcs, List.append_assoc, tok_scan t _ hwf hfol, ih _ _ hrest]
    · -- a blank at depth 0 is followed by a token that starts with a character that is not whitespace
      intro hw k hk
      simp only [hw, Bool.not_true, Bool.false_or, Bool.or_eq_true, bne_iff_ne, ne_eq, Bool.and_eq_true,
        List.all_eq_true, Bool.not_eq_true'] at hws
      unfold NoLineEnd
      rcases hws with hb | ⟨⟨hall, hne⟩, hnext⟩
      · have : (bal == 0) = false := by simpa using hb
        simp [this]
      · split
        · cases ts with
          | nil => simp at hne
          | cons t2 ts2 =>
            simp only [lineInteriorOk, Bool.and_eq_true] at hrest
            obtain ⟨c, r, hsrc, hc⟩ := tok_first_not_ws hrest.1.1.1 (by simpa using hnext)
            rw [srcs, hsrc, List.cons_append]
            exact lineEnd_none (t.src.drop k) c _ (fun x hx => hall x (List.mem_of_mem_drop hx)) hc
        · rfl
    · intro hw c r hcr
      obtain ⟨c', r', hsrc, hc⟩ := tok_first_not_ws hwf hw
      rw [hsrc] at hcr
      cases hcr
      exact passes_line hc

theorem line_end_found (fol : List Char) (h : lineFollow fol = true) :
    scanTag [] true .top 0 fol = .found (fol.drop (lineCut fol)) .dflt := by
  cases fol with
  | nil => simp [scanTag, scanEof, lineCut]
  | cons c r =>
    apply scanTag_done
    simp only [scanStep, tokCont, topStep, Bool.true_and, beq_self_eq_true, if_true]
    unfold lineFollow at h
    unfold lineEnd lineCut
    have hsplit := List.takeWhile_append_dropWhile (p := isHws) (l := c :: r)
    cases hd : (c :: r).dropWhile isHws with
    | nil =>
      rw [hd] at hsplit
      simp only [List.isEmpty_nil, if_true]
      have : ((c :: r).takeWhile isHws).length = (c :: r).length := by
        rw [List.append_nil] at hsplit; rw [hsplit]
      simp [nlLen, this]
    | cons a rest =>
      rw [hd] at h hsplit
      simp only [] at h
      have hpos := nlLen_pos_of_nl rest h
      simp only [List.isEmpty_cons, Bool.false_eq_true, if_false, hpos, if_true]
      have hdrop : (c :: r).drop ((c :: r).takeWhile isHws).length = a :: rest := by
        have := congrArg (List.drop ((c :: r).takeWhile isHws).length) hsplit
        rw [List.drop_left] at this
        exact this.symm
      rw [← List.drop_drop, hdrop]

theorem line_interior_end_found (ts : List Tok) (fol : List Char)
    (h : lineInteriorOk 0 ts fol = true) (hf : lineFollow fol = true) :
    scanTag [] true .top 0 (srcs ts ++ fol) = .found (fol.drop (lineCut fol)) .dflt := by
  rw [line_interior_scan ts 0 fol h, line_end_found fol hf]

end MJ.Lexer
