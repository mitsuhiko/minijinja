import MJ.Proofs.ReloaderStep
/-!
# The fs watcher across reloads (feature `watch-fs`)

`prepare_and_mark_reload` throws the fs watcher away before the creator runs, unless `persistent_watch` or fast
reload is on; it exists again once the creator has called `watch_path`.  `WatchInv`, in every reachable state:
registered paths are watched unless such a reload dropped the watcher, and the acquire that dropped it has read
fast reload as off, so it runs the creator and never clears.

The window without a watcher, `WinOk` over the states reachable from a given thread list (`ReachableFrom`) in which
every creator registers (`AllRegister`).  What IS promised: if every creator call registers its paths, the watcher
is only ever missing while the acquire that dropped it is between its flag reset and its creator's
`watch_path` call — it holds the `cached_env` lock then, so no user can read the old environment, and
whatever the new environment reads it reads after the registration.  In every other reachable state in which
an environment can be looked at (nobody inside, guard held, before the reload decision) the paths are
watched.  What is NOT promised: a creator that does not register (paths registered once from outside)
is silent after the first full reload (`MJ.C20`'s documented-exception example).
-/
namespace MJ.Reloader

/-- paths that were registered are being watched, unless the watcher was thrown away by a reload
    that started while neither `persistent_watch` nor fast reload was on (and nobody re-registered) -/
structure WatchInv (σ : State) : Prop where
  alive : σ.registered = true → σ.watching = true ∨ σ.lastDrop = some (false, false)
  reg : σ.watching = true → σ.registered = true
  /-- the acquire that dropped the watcher saw fast reload off, so it goes on to run the creator -/
  hold : ∀ c, σ.cur = some c →
    (c.droppedW = true → c.fastSeen = false) ∧
    ((c.pc = .locked ∨ (∃ b, c.pc = .checked b) ∨ c.pc = .toClear ∨ c.pc = .cleared) → c.droppedW = false)
  nocad : σ.clearsAfterDrop = 0

theorem watchInv_init (ths : List Thread) : WatchInv (init ths) := by
  constructor <;> simp [init]

section
variable {σ σ' : State} {c : Active}

theorem WatchInv.alive_reg_kept (h : WatchInv σ) (hk : WatcherKept σ σ') :
    (σ'.registered = true → σ'.watching = true ∨ σ'.lastDrop = some (false, false)) ∧
    (σ'.watching = true → σ'.registered = true) := by
  rcases hk with ⟨hw, hr, hl⟩ | ⟨hw, hr, -⟩
  · rw [hw, hr, hl]; exact ⟨h.alive, h.reg⟩
  · exact ⟨fun _ => .inl hw, fun _ => hr⟩

/-- across the drop: `dropWatcher` holds only with both switches off, which is what
    `lastDrop` then records if a watcher was alive; if none was, `lastDrop` stays -/
theorem WatchInv.alive_reg_stepActive (h : WatchInv σ) (hs : stepActive σ c = some σ') :
    (σ'.registered = true → σ'.watching = true ∨ σ'.lastDrop = some (false, false)) ∧
    (σ'.watching = true → σ'.registered = true) := by
  rcases (stepActive_holder hs).watcher with hk | ⟨hr, hw, hl⟩
  · exact h.alive_reg_kept hk
  · have h1 := h.alive
    have h2 := h.reg
    rw [hr, hw, hl]
    cases hp : σ.persistent <;> cases hf : σ.fast <;> cases hwa : σ.watching <;>
      simp_all [dropWatcher]

theorem watchInv_stepActive (h : WatchInv σ) (hc : σ.cur = some c)
    (hs : stepActive σ c = some σ') : WatchInv σ' where
  alive := (h.alive_reg_stepActive hs).1
  reg := (h.alive_reg_stepActive hs).2
  -- `droppedW` and `fastSeen` are written together, by the reset, from one reading of `fast`;
  -- `toClear` is only entered with `fastSeen`
  hold := by
    have h3 := h.hold c hc
    apply stepActive_elim hs <;> intros <;> rename_i h' <;> cases h' <;> simp_all [dropWatcher]
  -- the count moves only in a clear by an acquire with `droppedW`, which `hold` excludes at `.toClear`
  nocad := by
    rcases (stepActive_holder hs).clearsAfterDrop with h' | ⟨hpc, hd⟩
    · exact h'.trans h.nocad
    · cases hd.symm.trans ((h.hold c hc).2 (.inr (.inr (.inl hpc))))

end

theorem watchInv_step {σ σ' : State} {i : Nat} (h : WatchInv σ) (hs : step σ i = some σ') :
    WatchInv σ' := by
  rcases step_cases hs with ⟨c, hc, -, hs⟩ | ⟨cfg, -, -, -, rfl⟩ | ho
  · exact watchInv_stepActive h hc hs
  · exact ⟨h.alive, h.reg, fun c hc => by cases hc; simp, h.nocad⟩
  · exact ⟨(h.alive_reg_kept ho.watcher).1, (h.alive_reg_kept ho.watcher).2,
      by rw [ho.cur]; exact h.hold, ho.clearsAfterDrop.trans h.nocad⟩

theorem watchInv_of_reachable {σ : State} (h : Reachable σ) : WatchInv σ := by
  induction h with
  | init ths _ => exact watchInv_init ths
  | step i _ hs ih => exact watchInv_step ih hs

/-- states reachable from a GIVEN initial thread list -/
inductive ReachableFrom (ths : List Thread) : State → Prop where
  | init : ReachableFrom ths (init ths)
  | step {σ σ' : State} (i : Nat) (h : ReachableFrom ths σ) (hs : step σ i = some σ') : ReachableFrom ths σ'

theorem ReachableFrom.reachable {ths : List Thread} (h0 : ∀ t ∈ ths, t.initial = true) {σ : State}
    (h : ReachableFrom ths σ) : Reachable σ := by
  induction h with
  | init => exact .init ths h0
  | step i _ hs ih => exact .step i ih hs

theorem reachableFrom_run {ths : List Thread} {σ : State} (h : ReachableFrom ths σ) (sched : List Nat) :
    ReachableFrom ths (run σ sched) :=
  run_preserves (fun i h hs => .step i h hs) h sched

/-- every acquire that has not finished has a creator that calls `watch_path` -/
def AllRegister (σ : State) : Prop :=
  (∀ cfg, Thread.acqIdle cfg ∈ σ.threads → COp.watch ∈ cfg.script) ∧
  (∀ c, σ.cur = some c → COp.watch ∈ c.cfg.script)

/-- where the watcher may be missing -/
def WinOk (σ : State) : Prop :=
  match σ.cur with
  | none => σ.env ≠ none → σ.watching = true
  | some c =>
    match c.pc with
    | .locked | .checked _ | .toClear | .cleared | .holding => σ.env ≠ none → σ.watching = true
    | .reset => c.droppedW = false → σ.env ≠ none → σ.watching = true
    | .toCreate => True
    | .creating rest | .innerSet _ rest => COp.watch ∈ rest ∨ σ.watching = true
    | .created | .failed | .remarked => σ.watching = true

section
variable {σ σ' : State} {c : Active} {i : Nat}

theorem allRegister_step (h : AllRegister σ) (hs : step σ i = some σ') : AllRegister σ' := by
  rcases step_cases hs with ⟨c, hc, -, hs⟩ | ⟨cfg, hth, -, -, rfl⟩ | ho
  · exact ⟨fun cfg hm => h.1 cfg ((stepActive_holder hs).mem_threads hm nofun),
      fun c' hc' => ((stepActive_holder hs).cur _ hc').2.1 ▸ h.2 c hc⟩
  · exact ⟨fun cfg' hm => h.1 cfg' (mem_of_mem_set hm nofun),
      fun c hc => by cases hc; exact h.1 cfg (List.mem_of_getElem? hth)⟩
  · obtain ⟨t, hth, ht⟩ := ho.threads
    exact ⟨fun cfg hm => h.1 cfg (mem_of_mem_set (hth ▸ hm) (ht cfg).symm), by rw [ho.cur]; exact h.2⟩

/-- the watcher goes at the reset, where `droppedW` records it, and only with `fastSeen` off
    (`WatchInv.hold`), so that the creator runs; there `watch_path` is still to come -/
theorem winOk_stepActive (hw : WatchInv σ) (hr : AllRegister σ) (h : WinOk σ)
    (hc : σ.cur = some c) (hs : stepActive σ c = some σ') : WinOk σ' := by
  have h3c := hw.hold c hc
  have hreg := hr.2 c hc
  unfold WinOk at h ⊢
  simp only [hc] at h
  apply stepActive_elim hs <;> intros <;> simp_all [dropWatcher] <;> grind

theorem WinOk.mono (h : WinOk σ) (hc : σ'.cur = σ.cur) (he : σ'.env = σ.env)
    (hw : σ.watching = true → σ'.watching = true) : WinOk σ' := by
  unfold WinOk at *
  rw [hc, he]
  repeat' split at h
  all_goals grind

theorem winOk_step (hw : WatchInv σ) (hr : AllRegister σ) (h : WinOk σ)
    (hs : step σ i = some σ') : WinOk σ' := by
  rcases step_cases hs with ⟨c, hc, -, hs⟩ | ⟨cfg, -, hc, -, rfl⟩ | ho
  · exact winOk_stepActive hw hr h hc hs
  · simpa [WinOk, hc] using h
  · exact h.mono ho.cur ho.env ho.watcher.watching

end

theorem winOk_of_reachableFrom {ths : List Thread} (h0 : ∀ t ∈ ths, t.initial = true)
    (hreg : ∀ t ∈ ths, ∀ cfg, t = .acqIdle cfg → COp.watch ∈ cfg.script) {σ : State}
    (h : ReachableFrom ths σ) : AllRegister σ ∧ WinOk σ := by
  induction h with
  | init => exact ⟨⟨fun cfg hm => hreg _ hm cfg rfl, by simp [init]⟩, by simp [WinOk, init]⟩
  | step i hprev hs ih =>
    exact ⟨allRegister_step ih.1 hs,
      winOk_step (watchInv_of_reachable (hprev.reachable h0)) ih.1 ih.2 hs⟩

end MJ.Reloader
