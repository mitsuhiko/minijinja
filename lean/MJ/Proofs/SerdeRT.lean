import MJ.Proofs.SerdeLemmas
import MJ.Proofs.Float
/-! The serde round trip `de s (ser s d) = ok d` by induction on the shape (C16). -/
namespace MJ.Serde

theorem de_none_err : ∀ (s : Shape), mayBeNone s = false →
    de s .none = .error .err ∧ de s .undefined = .error .err
  | s, hs => by
    cases s with
    | nstruct s => exact de_none_err s hs
    | _ => first | exact ⟨rfl, rfl⟩ | exact Bool.noConfusion hs

theorem not_noneLike_of_de_ok {s : Shape} {v : V} {d : D} (hs : mayBeNone s = false) (h : de s v = .ok d) :
    noneLike v = false := by
  cases v with
  | none => rw [(de_none_err s hs).1] at h; cases h
  | undefined => rw [(de_none_err s hs).2] at h; cases h
  | _ => rfl

def VariantRT (n : Str) (v : VShape) (p : D) : Prop :=
  (v = .unit ∧ p = .unit ∧ serV n v p = .str n false) ∨
  (∃ x, serV n v p = .map [(.str n false, x)] ∧ deV v (some x) = .ok p)

mutual
theorem rt : ∀ (s : Shape) (d : D), wf s d = true → de s (ser s d) = .ok d
  | .bool, d, h | .f64, d, h | .char, d, h | .str, d, h | .bytes, d, h | .unit, d, h | .ustruct, d, h
  | .value, d, h => by
    cases d <;> first | exact Bool.noConfusion h | rfl
  | .int u lo hi, d, h => by
    cases d with
    | int i =>
      simp only [wf, Bool.and_eq_true, decide_eq_true_eq] at h
      simp only [ser, de, h, and_self, if_true]
    | _ => exact Bool.noConfusion h
  | .f32, d, h => by
    cases d with
    | f32 b =>
      simp only [wf, Bool.and_eq_true, decide_eq_true_eq, Bool.not_eq_true'] at h
      exact congrArg (fun x => Except.ok (D.f32 x)) (narrow_widen b h.1 h.2)
    | _ => exact Bool.noConfusion h
  | .opt s, d, h => by
    cases d with
    | none => rfl
    | some d =>
      simp only [wf, Bool.and_eq_true, Bool.not_eq_true'] at h
      have ih := rt s d h.2
      simp only [ser]
      rw [de_opt, not_noneLike_of_de_ok h.1 ih, ih]
      rfl
    | _ => exact Bool.noConfusion h
  | .nstruct s, d, h => rt s d h
  | .seq s, d, h => by
    cases d with
    | list ds =>
      simp only [wf, List.all_eq_true] at h
      simp only [ser, de]
      rw [mapMR_map_ok (de s) (ser s) ds (fun b hb => rt s b (h b hb))]
      rfl
    | _ => exact Bool.noConfusion h
  | .map k w, d, h => by
    cases d with
    | map kvs =>
      simp only [wf, Bool.and_eq_true, List.all_eq_true] at h
      obtain ⟨hall, hdist⟩ := h
      simp only [ser]
      have hkeys : (kvs.map fun p => (ser k p.1, ser w p.2)).map Prod.fst = kvs.map fun p => ser k p.1 := by
        simp [List.map_map, Function.comp_def]
      rw [buildMap_distinct _ (by rw [hkeys]; exact hdist)]
      simp only [de]
      rw [mapMR_map_ok (fun p => pairR (de k p.1) (de w p.2)) (fun p => (ser k p.1, ser w p.2)) kvs
        (fun b hb => by rw [rt k b.1 (hall b hb).1, rt w b.2 (hall b hb).2]; rfl)]
      rfl
    | _ => exact Bool.noConfusion h
  | .tup ss, d, h | .tstruct ss, d, h => by
    cases d with
    | list ds => exact congrArg (mapOk D.list) (rtList ss ds h)
    | _ => exact Bool.noConfusion h
  | .struct names ss, d, h => by
    cases d with
    | list ds =>
      simp only [wf, Bool.and_eq_true, beq_iff_eq] at h
      exact deStructMap_zipKeys_ok names ss _ ds (rtFields ss names ds [] h.1.1 h.1.2 h.2 (fun _ _ => rfl))
    | _ => exact Bool.noConfusion h
  | .enum names vs, d, h => by
    cases d with
    | variant i p =>
      simp only [wf, Bool.and_eq_true, beq_iff_eq] at h
      obtain ⟨⟨hnd, hlen⟩, hwv⟩ := h
      obtain ⟨v, hv, hwfv⟩ := wfVariant_getElem? vs i p hwv
      have hi : i < names.length := by
        rw [hlen]
        exact (List.getElem?_eq_some_iff.mp hv).1
      have hn : names[i]? = some names[i] := List.getElem?_eq_getElem hi
      have hfind := findName_of_getElem? names i names[i] hnd hn
      simp only [ser]
      rw [serVariant_of_getElem? names vs i p names[i] v hn hv]
      rcases rtVs vs i v hv names[i] p hwfv with ⟨hvu, hpu, hser⟩ | ⟨x, hser, hde⟩
      · rw [hser]
        simp only [de, hfind]
        rw [deVariant_of_getElem? vs i i none v hv, hvu, hpu]
        simp [deV]
      · rw [hser]
        simp only [de, hfind]
        rw [deVariant_of_getElem? vs i i (some x) v hv, hde]
        rfl
    | _ => exact Bool.noConfusion h
theorem rtList : ∀ (ss : List Shape) (ds : List D), wfList ss ds = true → deList ss (serList ss ds) = .ok ds
  | [], [], _ => rfl
  | [], _ :: _, h => Bool.noConfusion h
  | _ :: _, [], h => Bool.noConfusion h
  | s :: ss, d :: ds, h => by
    simp only [wfList, Bool.and_eq_true] at h
    simp only [serList, deList, rt s d h.1, rtList ss ds h.2, consR_ok]
theorem rtFields : ∀ (ss : List Shape) (names : List Str) (ds : List D) (pre : List (V × V)),
    nodupStr names = true → names.length = ss.length → wfList ss ds = true →
    (∀ n ∈ names, lookupStr n pre = none) →
    deFields names ss (pre ++ zipKeys names (serList ss ds)) = .ok ds
  | [], [], [], _, _, _, _, _ => rfl
  | [], _, _ :: _, _, _, _, h, _ => Bool.noConfusion h
  | [], _ :: _, _, _, _, hlen, _, _ => nomatch hlen
  | _ :: _, [], _, _, _, hlen, _, _ => nomatch hlen
  | _ :: _, _, [], _, _, _, h, _ => Bool.noConfusion h
  | s :: ss, n :: ns, d :: ds, pre, hnd, hlen, h, hpre => by
    simp only [wfList, Bool.and_eq_true] at h
    simp only [nodupStr, Bool.and_eq_true, Bool.not_eq_true'] at hnd
    simp only [serList, zipKeys, deFields]
    have hl : lookupStr n (pre ++ (V.str n false, ser s d) :: zipKeys ns (serList ss ds)) = some (ser s d) := by
      rw [lookupStr_append_none n pre _ (hpre n List.mem_cons_self)]
      simp [lookupStr]
    -- the entries already passed move into `pre`; none of them has one of the remaining names
    have htail := rtFields ss ns ds (pre ++ [(V.str n false, ser s d)]) hnd.2 (Nat.succ.inj hlen) h.2
      (fun m hm => lookupStr_snoc_ne m n pre _ (hpre m (List.mem_cons_of_mem _ hm))
        (fun heq => by subst heq; simp [hm] at hnd))
    simp only [List.append_assoc, List.singleton_append] at htail
    simp only [hl, rt s d h.1, htail, consR_ok]
theorem rtVs : ∀ (vs : List VShape) (i : Nat) (v : VShape), vs[i]? = some v →
    ∀ (n : Str) (p : D), wfV v p = true → VariantRT n v p
  | [], i, v, h => by simp at h
  | w :: ws, 0, v, h => by
    simp at h
    subst h
    exact rtV w
  | w :: ws, i+1, v, h => rtVs ws i v (by simpa using h)
theorem rtV : ∀ (v : VShape) (n : Str) (p : D), wfV v p = true → VariantRT n v p
  | .unit, n, p, h => by
    cases p with
    | unit => exact Or.inl ⟨rfl, rfl, rfl⟩
    | _ => exact Bool.noConfusion h
  | .newtype s, n, p, h => Or.inr ⟨ser s p, rfl, rt s p h⟩
  | .tuple ss, n, p, h => by
    cases p with
    | list ds =>
      refine Or.inr ⟨.seq false (serList ss ds), rfl, ?_⟩
      simp only [deV, serList_length ss ds h, Nat.lt_irrefl, if_false, rtList ss ds h, mapOk_ok]
    | _ => exact Bool.noConfusion h
  | .struct names ss, n, p, h => by
    cases p with
    | list ds =>
      simp only [wfV, Bool.and_eq_true, beq_iff_eq] at h
      exact Or.inr ⟨.map (zipKeys names (serList ss ds)), rfl,
        deStructMap_zipKeys_ok names ss _ ds (rtFields ss names ds [] h.1.1 h.1.2 h.2 (fun _ _ => rfl))⟩
    | _ => exact Bool.noConfusion h
end

theorem ser_not_noneLike (s : Shape) (d : D) (hs : mayBeNone s = false) (hw : wf s d = true) :
    noneLike (ser s d) = false :=
  not_noneLike_of_de_ok hs (rt s d hw)

end MJ.Serde
