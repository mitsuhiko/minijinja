import MJ.Model.FoldStmt
import MJ.Proofs.Fold
/-! `hoistS_spec`: statement-level hoisting (`HoistS`) touches head expressions only.  Kind, name and statement lists of every node stay, so the
    block table and the macro declarations (functions of those alone) stay; the heads keep their compiled values in every
    environment of the family.  Only the last needs the laws and well-formedness, hence the implication inside. -/
namespace MJ.Fold

section
variable {P : Prims} {R : Env → Prop}

theorem hoistList_evalC (hP : P.Lawful) (m : Mode) (ρ : Env) (es es' : Exprs) (hw : es.WF) (h : HoistList P ρ es es') :
    evalCList P m ρ es' = evalCList P m ρ es := by
  obtain ⟨hw', hr⟩ := hoistList_spec ρ es es' hw h
  rw [evalCList_eq' m ρ hP es' hw', evalCList_eq' m ρ hP es hw, hr hP]

mutual
  theorem hoistS_spec : ∀ (s s' : Stmt), HoistS P R s s' →
      registeredBlocks s' = registeredBlocks s ∧ declaredMacros s' = declaredMacros s ∧
      (P.Lawful → s.WF → ∀ m ρ, R ρ → headVals P m ρ s' = headVals P m ρ s)
    | .mk k n hs bs, s', h => by
      unfold HoistS at h
      obtain ⟨hs', bs', rfl, hh, hb⟩ := h
      obtain ⟨b1, b2, b3⟩ := hoistBodies_spec bs bs' hb
      refine ⟨by rw [registeredBlocks, registeredBlocks, b1], by rw [declaredMacros, declaredMacros, b2],
        fun hP hw m ρ hρ => ?_⟩
      rw [headVals, headVals, hoistList_evalC hP m ρ hs hs' hw.1 (hh ρ hρ), b3 hP hw.2 m ρ hρ]
  theorem hoistStmts_spec : ∀ (t t' : Stmts), HoistStmts P R t t' →
      blocksOfStmts t' = blocksOfStmts t ∧ macrosOfStmts t' = macrosOfStmts t ∧
      (P.Lawful → t.WF → ∀ m ρ, R ρ → headValsStmts P m ρ t' = headValsStmts P m ρ t)
    | .nil, t', h => by unfold HoistStmts at h; subst h; exact ⟨rfl, rfl, fun _ _ _ _ _ => rfl⟩
    | .cons s rest, t', h => by
      unfold HoistStmts at h
      obtain ⟨s', rest', rfl, hs, hr⟩ := h
      obtain ⟨s1, s2, s3⟩ := hoistS_spec s s' hs
      obtain ⟨r1, r2, r3⟩ := hoistStmts_spec rest rest' hr
      exact ⟨by rw [blocksOfStmts, blocksOfStmts, s1, r1], by rw [macrosOfStmts, macrosOfStmts, s2, r2],
        fun hP hw m ρ hρ => by rw [headValsStmts, headValsStmts, s3 hP hw.1 m ρ hρ, r3 hP hw.2 m ρ hρ]⟩
  theorem hoistBodies_spec : ∀ (b b' : Bodies), HoistBodies P R b b' →
      blocksOfBodies b' = blocksOfBodies b ∧ macrosOfBodies b' = macrosOfBodies b ∧
      (P.Lawful → b.WF → ∀ m ρ, R ρ → headValsBodies P m ρ b' = headValsBodies P m ρ b)
    | .nil, b', h => by unfold HoistBodies at h; subst h; exact ⟨rfl, rfl, fun _ _ _ _ _ => rfl⟩
    | .cons t rest, b', h => by
      unfold HoistBodies at h
      obtain ⟨t', rest', rfl, ht, hr⟩ := h
      obtain ⟨t1, t2, t3⟩ := hoistStmts_spec t t' ht
      obtain ⟨r1, r2, r3⟩ := hoistBodies_spec rest rest' hr
      exact ⟨by rw [blocksOfBodies, blocksOfBodies, t1, r1], by rw [macrosOfBodies, macrosOfBodies, t2, r2],
        fun hP hw m ρ hρ => by rw [headValsBodies, headValsBodies, t3 hP hw.1 m ρ hρ, r3 hP hw.2 m ρ hρ]⟩
end

theorem hoistStmts_blocks : ∀ (t t' : Stmts), HoistStmts P R t t' → blocksOfStmts t' = blocksOfStmts t :=
  fun t t' h => (hoistStmts_spec t t' h).1

theorem hoistBodies_blocks : ∀ (b b' : Bodies), HoistBodies P R b b' → blocksOfBodies b' = blocksOfBodies b :=
  fun b b' h => (hoistBodies_spec b b' h).1

theorem hoistStmts_macros : ∀ (t t' : Stmts), HoistStmts P R t t' → macrosOfStmts t' = macrosOfStmts t :=
  fun t t' h => (hoistStmts_spec t t' h).2.1

theorem hoistBodies_macros : ∀ (b b' : Bodies), HoistBodies P R b b' → macrosOfBodies b' = macrosOfBodies b :=
  fun b b' h => (hoistBodies_spec b b' h).2.1

variable (m : Mode) (ρ : Env)

theorem hoistStmts_headVals (hP : P.Lawful) (hρ : R ρ) : ∀ (t t' : Stmts), t.WF → HoistStmts P R t t' →
    headValsStmts P m ρ t' = headValsStmts P m ρ t :=
  fun t t' hw h => (hoistStmts_spec t t' h).2.2 hP hw m ρ hρ

theorem hoistBodies_headVals (hP : P.Lawful) (hρ : R ρ) : ∀ (b b' : Bodies), b.WF → HoistBodies P R b b' →
    headValsBodies P m ρ b' = headValsBodies P m ρ b :=
  fun b b' hw h => (hoistBodies_spec b b' h).2.2 hP hw m ρ hρ

end
end MJ.Fold
