import MJ.Proofs.JsonStr
import MJ.Proofs.JsonNum
/-! Whole documents (C16).  `writeAtP t` is the writer with every string post-processed by `postT t`; the reader
`pValue` inverts it (`pv`, with `pe` / `pm` for runs of elements and members) for every JSON value whose number
tokens the reader takes back (`NumOK`: `tokOK` everywhere) and every formatter the engine uses (compact, Jinja
separators, pretty with any indent).  Of a formatter the proof uses only that a separator is a comma or a colon
followed by whitespace and that everything else it writes is whitespace (`before_first`, `before_next`,
`keySep_spec`, `close_ws`). -/
namespace MJ.Json

def AllWs (l : List Char) : Prop := ∀ c ∈ l, isWs c = true

theorem allWs_nil : AllWs [] := by simp [AllWs]

theorem skipWs_append (ws l : List Char) (h : AllWs ws) : skipWs (ws ++ l) = skipWs l := by
  induction ws <;> simp_all [AllWs, skipWs]

theorem skipWs_cons (c : Char) (l : List Char) (h : isWs c = false) : skipWs (c :: l) = c :: l := by
  simp [skipWs, h]

def sepIs (c : Char) : List Char → Bool
  | d :: ws => d == c && ws.all isWs
  | [] => false

theorem sepIs_spec (c : Char) (sep : List Char) (h : sepIs c sep = true) :
    ∃ ws, sep = c :: ws ∧ AllWs ws := by
  cases sep with
  | nil => simp [sepIs] at h
  | cons d ws =>
    simp only [sepIs, Bool.and_eq_true, beq_iff_eq, List.all_eq_true] at h
    exact ⟨ws, by rw [h.1], h.2⟩

theorem jinja_seps_ok : sepIs ',' MJ.Gen.jinjaArraySep = true ∧ sepIs ',' MJ.Gen.jinjaMemberSep = true ∧
    sepIs ':' MJ.Gen.jinjaKeySep = true := by decide

theorem before_first (st : Style) (lvl : Nat) (arr : Bool) : AllWs (st.before lvl true arr) := by
  cases st <;> simp [Style.before, AllWs, indentOf, isWs]

theorem before_next (st : Style) (lvl : Nat) (arr : Bool) :
    ∃ ws, st.before lvl false arr = ',' :: ws ∧ AllWs ws := by
  cases st with
  | compact => exact ⟨[], rfl, allWs_nil⟩
  | jinja =>
    cases arr
    · exact sepIs_spec _ _ jinja_seps_ok.2.1
    · exact sepIs_spec _ _ jinja_seps_ok.1
  | pretty n => exact ⟨'\n' :: indentOf n lvl, rfl, by simp [AllWs, indentOf, isWs]⟩

theorem keySep_spec (st : Style) : ∃ ws, st.keySep = ':' :: ws ∧ AllWs ws := by
  cases st with
  | compact => exact ⟨[], rfl, allWs_nil⟩
  | jinja => exact sepIs_spec _ _ jinja_seps_ok.2.2
  | pretty n => exact ⟨[' '], rfl, by simp [AllWs, isWs]⟩

theorem close_ws (st : Style) (lvl : Nat) : AllWs (st.close lvl) := by
  cases st <;> simp [Style.close, AllWs, indentOf, isWs]

def writeStrP (t : List (Char × List Char)) (s : List Char) : List Char := '"' :: (postT t (escBody s) ++ ['"'])

mutual
def writeAtP (t : List (Char × List Char)) (st : Style) (lvl : Nat) : J → List Char
  | .null => ['n', 'u', 'l', 'l']
  | .bool true => ['t', 'r', 'u', 'e']
  | .bool false => ['f', 'a', 'l', 's', 'e']
  | .num tok => tok
  | .str s => writeStrP t s
  | .arr [] => ['[', ']']
  | .arr (x :: xs) =>
    '[' :: (st.before (lvl + 1) true true ++ (writeAtP t st (lvl + 1) x ++ (restElemsP t st (lvl + 1) xs ++
      (st.close lvl ++ [']']))))
  | .obj [] => ['{', '}']
  | .obj ((k, v) :: ms) =>
    '{' :: (st.before (lvl + 1) true false ++ (writeStrP t k ++ (st.keySep ++ (writeAtP t st (lvl + 1) v ++
      (restMembersP t st (lvl + 1) ms ++ (st.close lvl ++ ['}']))))))
/-- the elements after the first one, each with its separator -/
def restElemsP (t : List (Char × List Char)) (st : Style) (lvl : Nat) : List J → List Char
  | [] => []
  | x :: xs => st.before lvl false true ++ (writeAtP t st lvl x ++ restElemsP t st lvl xs)
def restMembersP (t : List (Char × List Char)) (st : Style) (lvl : Nat) : List (List Char × J) → List Char
  | [] => []
  | (k, v) :: ms =>
    st.before lvl false false ++ (writeStrP t k ++ (st.keySep ++ (writeAtP t st lvl v ++ restMembersP t st lvl ms)))
end

/-- a non-empty list of elements without the text before the first one -/
def elemsTextP (t : List (Char × List Char)) (st : Style) (lvl : Nat) : List J → List Char
  | [] => []
  | x :: xs => writeAtP t st lvl x ++ restElemsP t st lvl xs

def membersTextP (t : List (Char × List Char)) (st : Style) (lvl : Nat) : List (List Char × J) → List Char
  | [] => []
  | (k, v) :: ms => writeStrP t k ++ (st.keySep ++ (writeAtP t st lvl v ++ restMembersP t st lvl ms))

mutual
def NumOK : J → Prop
  | .num tok => tokOK tok
  | .arr xs => NumOKList xs
  | .obj ms => NumOKMembers ms
  | _ => True
def NumOKList : List J → Prop
  | [] => True
  | x :: xs => NumOK x ∧ NumOKList xs
def NumOKMembers : List (List Char × J) → Prop
  | [] => True
  | (_, v) :: ms => NumOK v ∧ NumOKMembers ms
end

/-- what may follow a value: nothing, or a character that cannot continue a number -/
def StopOK : List Char → Prop
  | [] => True
  | c :: _ => isNumChar c = false

theorem spanNum_tok (tok rest : List Char) (h : ∀ c ∈ tok, isNumChar c = true) (hr : StopOK rest) :
    spanNum (tok ++ rest) = (tok, rest) := by
  induction tok <;> cases rest <;> simp_all [spanNum, StopOK]

theorem ws_not_numChar (c : Char) (h : isWs c = true) : isNumChar c = false := by
  simp only [isWs, Bool.or_eq_true, decide_eq_true_eq] at h
  rcases h with ((rfl | rfl) | rfl) | rfl <;> decide

theorem stopOK_of_ws (ws l : List Char) (h : AllWs ws) (hl : StopOK l) : StopOK (ws ++ l) := by
  cases ws with
  | nil => exact hl
  | cons c cs => exact ws_not_numChar c (h c List.mem_cons_self)

theorem head_writeAtP (t : List (Char × List Char)) (st : Style) (lvl : Nat) (j : J) (hj : NumOK j) :
    ∃ c tl, writeAtP t st lvl j = c :: tl ∧ isWs c = false ∧ c ≠ ']' := by
  cases j with
  | null => exact ⟨'n', _, rfl, by decide, by decide⟩
  | bool b => cases b <;> exact ⟨_, _, rfl, by decide, by decide⟩
  | num tok =>
    simp only [NumOK, tokOK] at hj
    obtain ⟨_, hall, hne⟩ := hj
    cases tok with
    | nil => exact absurd rfl hne
    | cons c cs =>
      have hc := hall c (by simp)
      refine ⟨c, cs, rfl, ?_, ?_⟩
      · exact Bool.eq_false_iff.mpr fun hw => by rw [ws_not_numChar c hw] at hc; cases hc
      · intro h; subst h; simp [isNumChar, isDigit] at hc
  | str s => exact ⟨'"', _, rfl, by decide, by decide⟩
  | arr xs => cases xs <;> exact ⟨'[', _, rfl, by decide, by decide⟩
  | obj ms => cases ms <;> exact ⟨'{', _, rfl, by decide, by decide⟩

theorem numChar_not_struct (c : Char) (h : isNumChar c = true) : c ≠ '"' ∧ c ≠ '[' ∧ c ≠ '{' := by
  refine ⟨?_, ?_, ?_⟩ <;> (intro e; subst e; simp [isNumChar, isDigit] at h)

mutual
theorem pv : ∀ (j : J) (t : List (Char × List Char)) (st : Style) (lvl : Nat) (ws rest : List Char) (fuel : Nat),
    TableOK t → NumOK j → StopOK rest → AllWs ws → (writeAtP t st lvl j).length ≤ fuel →
    pValue fuel (ws ++ (writeAtP t st lvl j ++ rest)) = some (j, rest)
  | j, t, st, lvl, _, _, 0, _, hj, _, _, hlen => by
    obtain ⟨c, tl, h, _⟩ := head_writeAtP t st lvl j hj
    rw [h] at hlen
    exact absurd hlen (Nat.not_succ_le_zero _)
  | .null, t, st, lvl, ws, rest, f + 1, _, _, _, hws, hlen => by
    simp [pValue, writeAtP, skipWs_append _ _ hws, skipWs, isWs, isNumChar, isDigit, pLit]
  | .bool b, t, st, lvl, ws, rest, f + 1, _, _, _, hws, hlen => by
    cases b <;> simp [pValue, writeAtP, skipWs_append _ _ hws, skipWs, isWs, isNumChar, isDigit, pLit]
  | .num tok, t, st, lvl, ws, rest, f + 1, _, hj, hrest, hws, hlen => by
    have hj' := hj
    simp only [NumOK, tokOK] at hj
    obtain ⟨hvalid, hall, hne⟩ := hj
    cases tok with
    | nil => exact absurd rfl hne
    | cons c cs =>
      have hc := hall c (by simp)
      obtain ⟨q1, q2, q3⟩ := numChar_not_struct c hc
      obtain ⟨c', tl, hhead, hnws, _⟩ := head_writeAtP t st lvl (.num (c :: cs)) hj'
      simp only [writeAtP] at hhead
      have hcc : c' = c := by simp at hhead; exact hhead.1.symm
      subst hcc
      simp only [pValue, writeAtP, skipWs_append _ _ hws, List.cons_append, skipWs_cons _ _ hnws]
      simp only [q1, q2, q3, if_false, hc, if_true]
      have hsp := spanNum_tok (c' :: cs) rest hall hrest
      simp only [List.cons_append] at hsp
      rw [hsp]
      simp [hvalid]
  | .str s, t, st, lvl, ws, rest, f + 1, ht, _, _, hws, hlen => by
    simp only [pValue, writeAtP, writeStrP, skipWs_append _ _ hws, List.cons_append, List.append_assoc,
      List.nil_append]
    rw [skipWs_cons _ _ (by decide)]
    simp only [if_true]
    rw [parse_escaped t ht s rest]
  | .arr [], t, st, lvl, ws, rest, f + 1, _, _, _, hws, hlen => by
    simp only [pValue, writeAtP, skipWs_append _ _ hws, List.cons_append, List.nil_append]
    rw [skipWs_cons _ _ (by decide)]
    simp only [show ('[' = '"') = False by decide, if_false, if_true]
    rw [skipWs_cons _ _ (by decide)]
    simp
  | .arr (x :: xs), t, st, lvl, ws, rest, f + 1, ht, hj, hrest, hws, hlen => by
    simp only [NumOK] at hj
    have hx : NumOK x := hj.1
    obtain ⟨c2, tl, hhead, hnws, hnb⟩ := head_writeAtP t st (lvl + 1) x hx
    simp only [writeAtP, List.length_cons, List.length_append, List.length_nil] at hlen
    have key := pe (x :: xs) t st (lvl + 1) [] rest (st.close lvl) f ht hj hrest allWs_nil (close_ws st lvl)
      (by simp) (by simp only [elemsTextP, List.length_append]; omega)
    simp only [pValue, writeAtP, skipWs_append _ _ hws, List.cons_append, List.append_assoc,
      List.nil_append]
    rw [skipWs_cons _ _ (by decide)]
    simp only [show ('[' = '"') = False by decide, if_false, if_true]
    rw [skipWs_append _ _ (before_first st (lvl + 1) true)]
    simp only [elemsTextP, List.nil_append, List.append_assoc] at key
    rw [hhead] at key ⊢
    simp only [List.cons_append] at key ⊢
    rw [skipWs_cons _ _ hnws]
    simp only [hnb, if_false]
    rw [key]
  | .obj [], t, st, lvl, ws, rest, f + 1, _, _, _, hws, hlen => by
    simp only [pValue, writeAtP, skipWs_append _ _ hws, List.cons_append, List.nil_append]
    rw [skipWs_cons _ _ (by decide)]
    simp only [show ('{' = '"') = False by decide, show ('{' = '[') = False by decide, if_false, if_true]
    rw [skipWs_cons _ _ (by decide)]
    simp
  | .obj ((k, v) :: ms), t, st, lvl, ws, rest, f + 1, ht, hj, hrest, hws, hlen => by
    simp only [writeAtP, List.length_cons, List.length_append, List.length_nil] at hlen
    have key := pm ((k, v) :: ms) t st (lvl + 1) [] rest (st.close lvl) f ht hj hrest allWs_nil (close_ws st lvl)
      (by simp) (by simp only [membersTextP, List.length_append]; omega)
    simp only [pValue, writeAtP, skipWs_append _ _ hws, List.cons_append, List.append_assoc,
      List.nil_append]
    rw [skipWs_cons _ _ (by decide)]
    simp only [show ('{' = '"') = False by decide, show ('{' = '[') = False by decide, if_false, if_true]
    rw [skipWs_append _ _ (before_first st (lvl + 1) false)]
    simp only [membersTextP, writeStrP, List.cons_append, List.nil_append, List.append_assoc] at key ⊢
    rw [skipWs_cons _ _ (by decide)]
    simp only [show ('"' = '}') = False by decide, if_false]
    rw [key]
theorem pe : ∀ (l : List J) (t : List (Char × List Char)) (st : Style) (lvl : Nat) (ws rest cl : List Char) (fuel : Nat),
    TableOK t → NumOKList l → StopOK rest → AllWs ws → AllWs cl → l ≠ [] →
    (elemsTextP t st lvl l).length + 1 ≤ fuel →
    pElems fuel (ws ++ (elemsTextP t st lvl l ++ (cl ++ ']' :: rest))) = some (l, rest)
  | _, _, _, _, _, _, _, 0, _, _, _, _, _, _, hlen => absurd hlen (Nat.not_succ_le_zero _)
  | [], _, _, _, _, _, _, _, _, _, _, _, _, hne, _ => absurd rfl hne
  | [x], t, st, lvl, ws, rest, cl, f + 1, ht, hj, hrest, hws, hcl, _, hlen => by
    simp only [NumOKList] at hj
    simp only [elemsTextP, restElemsP, List.append_nil] at hlen ⊢
    have hv := pv x t st lvl ws (cl ++ ']' :: rest) f ht hj.1 (stopOK_of_ws cl (']' :: rest) hcl (by decide : isNumChar ']' = false)) hws
      (by omega)
    simp only [pElems, hv, skipWs_append _ _ hcl]
    rw [skipWs_cons _ _ (by decide)]
    simp
  | x :: y :: ys, t, st, lvl, ws, rest, cl, f + 1, ht, hj, hrest, hws, hcl, _, hlen => by
    simp only [NumOKList] at hj
    obtain ⟨wsB, hB, hwsB⟩ := before_next st lvl true
    have hE : elemsTextP t st lvl (x :: y :: ys)
        = writeAtP t st lvl x ++ (',' :: (wsB ++ elemsTextP t st lvl (y :: ys))) := by
      simp only [elemsTextP, restElemsP, hB, List.cons_append]
    rw [hE] at hlen ⊢
    simp only [List.length_append, List.length_cons] at hlen
    have hv := pv x t st lvl ws (',' :: (wsB ++ (elemsTextP t st lvl (y :: ys) ++ (cl ++ ']' :: rest)))) f ht hj.1
      (by simp [StopOK, isNumChar, isDigit]) hws (by omega)
    have hrec := pe (y :: ys) t st lvl wsB rest cl f ht hj.2 hrest hwsB hcl (by simp) (by omega)
    simp only [List.append_assoc, List.cons_append] at hv ⊢
    simp only [pElems, hv]
    rw [skipWs_cons _ _ (by decide)]
    simp only [if_true]
    rw [hrec]
theorem pm : ∀ (l : List (List Char × J)) (t : List (Char × List Char)) (st : Style) (lvl : Nat)
    (ws rest cl : List Char) (fuel : Nat),
    TableOK t → NumOKMembers l → StopOK rest → AllWs ws → AllWs cl → l ≠ [] →
    (membersTextP t st lvl l).length + 1 ≤ fuel →
    pMembers fuel (ws ++ (membersTextP t st lvl l ++ (cl ++ '}' :: rest))) = some (l, rest)
  | _, _, _, _, _, _, _, 0, _, _, _, _, _, _, hlen => absurd hlen (Nat.not_succ_le_zero _)
  | [], _, _, _, _, _, _, _, _, _, _, _, _, hne, _ => absurd rfl hne
  | [(k, v)], t, st, lvl, ws, rest, cl, f + 1, ht, hj, hrest, hws, hcl, _, hlen => by
    simp only [NumOKMembers] at hj
    obtain ⟨wsK, hK, hwsK⟩ := keySep_spec st
    simp only [membersTextP, restMembersP, writeStrP, hK, List.append_nil, List.length_cons, List.length_append] at hlen ⊢
    have hv := pv v t st lvl wsK (cl ++ '}' :: rest) f ht hj.1 (stopOK_of_ws cl ('}' :: rest) hcl (by decide : isNumChar '}' = false)) hwsK
      (by omega)
    simp only [pMembers, skipWs_append _ _ hws, List.cons_append, List.append_assoc, 
      List.nil_append]
    rw [skipWs_cons _ _ (by decide)]
    simp only [if_true]
    rw [parse_escaped t ht k]
    simp only []
    rw [skipWs_cons _ _ (by decide)]
    simp only [if_true, hv, skipWs_append _ _ hcl]
    rw [skipWs_cons _ _ (by decide)]
    simp
  | (k, v) :: m2 :: ms, t, st, lvl, ws, rest, cl, f + 1, ht, hj, hrest, hws, hcl, _, hlen => by
    simp only [NumOKMembers] at hj
    obtain ⟨wsK, hK, hwsK⟩ := keySep_spec st
    obtain ⟨wsB, hB, hwsB⟩ := before_next st lvl false
    have hE : membersTextP t st lvl ((k, v) :: m2 :: ms)
        = '"' :: (postT t (escBody k) ++ ('"' :: (':' :: (wsK ++ (writeAtP t st lvl v ++
            (',' :: (wsB ++ membersTextP t st lvl (m2 :: ms)))))))) := by
      obtain ⟨k2, v2⟩ := m2
      simp only [membersTextP, restMembersP, writeStrP, hK, hB, List.cons_append, List.append_assoc,
        List.nil_append]
    rw [hE] at hlen ⊢
    simp only [List.length_append, List.length_cons] at hlen
    have hv := pv v t st lvl wsK (',' :: (wsB ++ (membersTextP t st lvl (m2 :: ms) ++ (cl ++ '}' :: rest)))) f ht hj.1
      (by simp [StopOK, isNumChar, isDigit]) hwsK (by omega)
    have hrec := pm (m2 :: ms) t st lvl wsB rest cl f ht hj.2 hrest hwsB hcl (by simp) (by omega)
    simp only [pMembers, skipWs_append _ _ hws, List.cons_append, List.append_assoc]
    rw [skipWs_cons _ _ (by decide)]
    simp only [if_true]
    rw [parse_escaped t ht k]
    simp only []
    rw [skipWs_cons _ _ (by decide)]
    simp only [if_true, hv]
    rw [skipWs_cons _ _ (by decide)]
    simp only [if_true]
    rw [hrec]
end

end MJ.Json
