import MJ.Model.MetaArms
/-! The walkers of `MJ/Model/Meta.lean` are the interpretation of their arm tables (C18). -/
namespace MJ.Meta

theorem walkList_append (st : St) (a b : List Stmt) :
    walkList st (a ++ b) = walkList (walkList st a) b := by
  induction a generalizing st with
  | nil => simp [walkList]
  | cons s ss ih => simp [walkList, ih]

/-- `body.iter().for_each(|x| track_walk(x, state))` -/
theorem each_walk (view : View) (k : Nat) (ss : List Stmt) (s : IState) :
    (ss.map Val.stmt).foldl
      (fun s v => runActs walkList view (Binds.empty.bind (.one k) v) s [.walk (.var k)]) s =
      { s with st := walkList s.st ss } := by
  induction ss generalizing s with
  | nil => simp [walkList]
  | cons x xs ih =>
    simp only [List.map_cons, List.foldl_cons, ih]
    simp [runActs, Act.run, Ref.eval, Binds.bind, Binds.set, walkList]

/-- `for (target, expr) in &assignments { visit expr; track_assign target }` -/
theorem each_pairs (view : View) (ps : List (Expr × Expr)) (s : IState) :
    (ps.map (fun p => Val.pair (.expr p.1) (.expr p.2))).foldl
      (fun s v => runActs walkList view (Binds.empty.bind (.two 1 2) v) s
        [.visit (.var 2), .assignTarget (.var 1)]) s =
      { s with st := withAssigns s.st ps } := by
  induction ps generalizing s with
  | nil => simp [withAssigns]
  | cons p ps ih =>
    obtain ⟨t, e⟩ := p
    simp only [List.map_cons, List.foldl_cons, ih]
    simp [runActs, Act.run, Ref.eval, Binds.bind, Binds.set, withAssigns]

/-- `names.iter().for_each(|(arg, alias)| track_assign(alias.as_ref().unwrap_or(arg)))` -/
theorem each_aliases (view : View) (ts : List Expr) (s : IState) :
    (ts.map (fun t => Val.pair (.expr t) (.optExpr none))).foldl
      (fun s v => runActs walkList view (Binds.empty.bind (.two 1 2) v) s
        [.assignTarget (.alt 2 1)]) s =
      { s with st := ts.foldl trackAssign s.st } := by
  induction ts generalizing s with
  | nil => simp
  | cons t ts ih =>
    simp only [List.map_cons, List.foldl_cons, ih]
    simp [runActs, Act.run, Ref.eval, Binds.bind, Binds.set]

/-- every statement is walked by the operations of its arm, in that order -/
theorem walk_interprets_arm (st : St) (s : Stmt) :
    walk st s = runOps walkList s.view (stmtOps s) st := by
  cases s <;>
    simp only [walk, runOps, stmtOps, Stmt.view, Op.run, Act.run, Ref.eval, Val.elems, each_walk,
      each_pairs, each_aliases, walkBody, armEmitExpr, armForLoop, armIfCond, armWithBlock, armSet,
      armAutoEscape, armFilterBlock, armSetBlock, armBlock, armName, armImport, armFromImport,
      armMacro, armCallBlock, armDo, MJ.Meta.visitMacro, visitExpr, MJ.Meta.visitOpt,
      List.foldl_cons, List.foldl_nil, ↓reduceIte, String.reduceEq]

/-- `Stmt::Template`: the children in order -/
theorem walkList_interprets_template (st : St) (t : List Stmt) :
    walkList st t =
      runOps walkList (fun f => if f = "children" then .stmts t else .unit) armTemplate st := by
  simp [runOps, armTemplate, walkBody, Op.run, Ref.eval, Val.elems, each_walk]

theorem row_mem {rows : List Row} {r : Row} (i : Nat) (h : rows[i]? = some r) : r ∈ rows :=
  List.mem_of_getElem? h

/-- the row of the table a statement is walked by -/
theorem stmtOps_row : (s : Stmt) → ∃ cfg, (s.variant, cfg, Arm.ops (stmtOps s)) ∈ modelWalkArms
  | .emit _ => ⟨_, row_mem 1 rfl⟩
  | .raw => ⟨_, row_mem 2 rfl⟩
  | .forLoop .. => ⟨_, row_mem 3 rfl⟩
  | .ifCond .. => ⟨_, row_mem 4 rfl⟩
  | .withBlock .. => ⟨_, row_mem 5 rfl⟩
  | .set .. => ⟨_, row_mem 6 rfl⟩
  | .autoEscape .. => ⟨_, row_mem 7 rfl⟩
  | .filterBlock .. => ⟨_, row_mem 8 rfl⟩
  | .setBlock .. => ⟨_, row_mem 9 rfl⟩
  | .block .. => ⟨_, row_mem 10 rfl⟩
  | .extends _ => ⟨_, row_mem 11 rfl⟩
  | .include _ => ⟨_, row_mem 12 rfl⟩
  | .importAs .. => ⟨_, row_mem 13 rfl⟩
  | .fromImport .. => ⟨_, row_mem 14 rfl⟩
  | .macro .. => ⟨_, row_mem 15 rfl⟩
  | .callBlock .. => ⟨_, row_mem 16 rfl⟩
  | .brk => ⟨_, row_mem 17 rfl⟩
  | .cont => ⟨_, row_mem 17 rfl⟩
  | .doStmt .. => ⟨_, row_mem 18 rfl⟩

theorem nvarsList_eq (es : List Expr) : nvarsList es = es.flatMap nvars := by
  induction es with
  | nil => simp [nvarsList]
  | cons e es ih => simp [nvarsList, ih]

theorem nvarsArgs_eq (as : List CallArg) : nvarsArgs as = as.flatMap nvarsArg := by
  induction as with
  | nil => simp [nvarsArgs]
  | cons a as ih => simp [nvarsArgs, ih]

theorem zip_evens_odds (view : View) (kvs : List Expr) :
    (zipVals ((evens kvs).map Val.expr) ((odds kvs).map Val.expr)).flatMap
      (fun v => actsLeaves view (Binds.empty.bind (.two 1 2) v)
        [.visit (.var 1), .visit (.var 2)]) = kvs.flatMap nvars := by
  induction kvs using evens.induct with
  | case1 => simp [evens, odds, zipVals]
  | case2 k =>
    simp [evens, odds, zipVals, actsLeaves, Act.leaves, Ref.eval, Binds.bind, Binds.set, nvars]
  | case3 k v rest ih =>
    simp only [evens, odds, List.map_cons, zipVals, List.flatMap_cons, ih]
    simp [actsLeaves, Act.leaves, Ref.eval, Binds.bind, Binds.set]

/-- every expression whose arm is a plain list of operations is visited by those operations:
the leaves in that order -/
theorem nvars_interprets_arm (e : Expr) (os : List Op) (h : exprOps e = some os) :
    nvars e = opsLeaves e.view os := by
  cases e with
  | map kvs =>
    simp only [exprOps, Option.some.injEq] at h
    subst h
    have hk : (Ref.field "keys").eval (Expr.view (.map kvs)) Binds.empty = .exprs (evens kvs) := by
      simp [Ref.eval, Expr.view]
    have hv : (Ref.field "values").eval (Expr.view (.map kvs)) Binds.empty = .exprs (odds kvs) := by
      simp [Ref.eval, Expr.view]
    rw [nvars, nvarsList_eq]
    simp only [opsLeaves, eArmMap, List.flatMap_cons, List.flatMap_nil, List.append_nil, Op.leaves,
      hk, hv, Val.elems]
    exact (zip_evens_odds _ kvs).symm
  | _ =>
    simp only [exprOps, Option.some.injEq, reduceCtorEq] at h <;> subst h <;>
    simp only [nvars, opsLeaves, Op.leaves, Act.leaves, actsLeaves, Ref.eval, Val.elems,
      Expr.view, Val.getField, Binds.bind, Binds.set, nvarsList_eq, nvarsArgs_eq, nvarsCall,
      eArmUnary, eArmBinOp, eArmCompare, eArmIfExpr, eArmFilter, eArmTest, eArmGetItem, eArmSlice,
      eArmCall, eArmItems, visitEach, visitArgs, List.flatMap_map, List.flatMap_cons,
      List.flatMap_nil, List.append_nil, ↓reduceIte, String.reduceEq]

/-- the two arms with real logic, as the model has them: a variable is one leaf; an attribute
chain that ends in a variable is one leaf (the dotted name), any other attribute look-up visits
the inner expression -/
theorem nvars_logic_arms :
    (∀ id, nvars (.var id) = [(id, [])]) ∧
    (∀ e name, nvars (.getattr e name) =
      match chainOf (.getattr e name) with
      | some l => [l]
      | none => opsLeaves (Expr.view (.getattr e name)) [.act (.visit (.field "expr"))]) := by
  refine ⟨fun id => by simp [nvars], fun e name => ?_⟩
  rw [nvars]
  cases h : chainOf (.getattr e name) <;>
    simp [opsLeaves, Op.leaves, Act.leaves, Ref.eval, Expr.view]

/-- the row of the table an expression is visited by: its operations, or (`Var`, `GetAttr`) a
control skeleton -/
theorem exprOps_row : (e : Expr) →
    (∃ os, exprOps e = some os ∧ (e.variant, "", Arm.ops os) ∈ modelExprArms) ∨
    (exprOps e = none ∧ ∃ sk, (e.variant, "", Arm.logic sk) ∈ modelExprArms)
  | .var _ => .inr ⟨rfl, _, row_mem 0 rfl⟩
  | .const => .inl ⟨_, rfl, row_mem 1 rfl⟩
  | .unary _ => .inl ⟨_, rfl, row_mem 2 rfl⟩
  | .binop .. => .inl ⟨_, rfl, row_mem 3 rfl⟩
  | .compare .. => .inl ⟨_, rfl, row_mem 4 rfl⟩
  | .ifExpr .. => .inl ⟨_, rfl, row_mem 5 rfl⟩
  | .filter .. => .inl ⟨_, rfl, row_mem 6 rfl⟩
  | .test .. => .inl ⟨_, rfl, row_mem 7 rfl⟩
  | .getattr .. => .inr ⟨rfl, _, row_mem 8 rfl⟩
  | .getitem .. => .inl ⟨_, rfl, row_mem 9 rfl⟩
  | .slice .. => .inl ⟨_, rfl, row_mem 10 rfl⟩
  | .call .. => .inl ⟨_, rfl, row_mem 11 rfl⟩
  | .list _ => .inl ⟨_, rfl, row_mem 12 rfl⟩
  | .tuple _ => .inl ⟨_, rfl, row_mem 13 rfl⟩
  | .map _ => .inl ⟨_, rfl, row_mem 14 rfl⟩

theorem targetAtomsL_eq (es : List Expr) : targetAtomsL es = es.flatMap targetAtoms := by
  induction es with
  | nil => simp [targetAtomsL]
  | cons e es ih => simp [targetAtomsL, ih]

theorem targetAtoms_interprets_arm (e : Expr) :
    targetAtoms e = opsAtoms e.view (targetOps e) := by
  -- four arms do something; an expression of any other form is no target: both sides are `[]`
  cases e
  case var | list | tuple | getattr =>
    simp [targetAtoms, targetOps, opsAtoms, Op.atoms, Act.atoms, Ref.eval, Val.elems, Expr.view,
      tArmVar, tArmItems, tArmGetAttr, targetAtomsL_eq, Binds.bind, Binds.set, List.flatMap_map]
  all_goals rfl

end MJ.Meta
