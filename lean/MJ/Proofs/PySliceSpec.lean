import MJ.Model.PySlice
/-! Sanity of the CPython transcription: `indices` read declaratively (which positions are selected,
in which order, that each of them exists), and the count formula that the Rust code computes too. -/
namespace MJ.PySlice

theorem clampPos_nonneg (L : Int) (b : Option Int) (d : Int) (hL : 0 ≤ L) (hd : 0 ≤ d) :
    0 ≤ clampPos L b d := by
  unfold clampPos
  cases b with
  | none => exact hd
  | some s => simp only; split <;> omega

theorem clampPos_le (L : Int) (b : Option Int) (d : Int) (hL : 0 ≤ L) (hd : d ≤ L) :
    clampPos L b d ≤ L := by
  unfold clampPos
  cases b with
  | none => exact hd
  | some s => simp only; split <;> omega

theorem clampNeg_ge (L : Int) (b : Option Int) (d : Int) (hL : 0 ≤ L) (hd : -1 ≤ d) : -1 ≤ clampNeg L b d := by
  unfold clampNeg
  cases b with
  | none => exact hd
  | some s => simp only; split <;> omega

theorem clampNeg_le (L : Int) (b : Option Int) (d : Int) (hL : 0 ≤ L) (hd : d ≤ L - 1) :
    clampNeg L b d ≤ L - 1 := by
  unfold clampNeg
  cases b with
  | none => exact hd
  | some s => simp only; split <;> omega

theorem clampPos_of_ge (L x d : Int) (hx0 : 0 ≤ x) (hx : L ≤ x) : clampPos L (some x) d = L := by
  unfold clampPos; simp only; rw [if_neg (by omega)]; omega

theorem clampPos_of_le (L x d : Int) (hx0 : x < 0) (hx : x ≤ -L) : clampPos L (some x) d = 0 := by
  unfold clampPos; simp only; rw [if_pos hx0]; omega

theorem clampNeg_of_ge (L x d : Int) (hx0 : 0 ≤ x) (hx : L - 1 ≤ x) : clampNeg L (some x) d = L - 1 := by
  unfold clampNeg; simp only; rw [if_neg (by omega)]; omega

theorem clampNeg_of_le (L x d : Int) (hx0 : x < 0) (hx : x ≤ -L - 1) : clampNeg L (some x) d = -1 := by
  unfold clampNeg; simp only; rw [if_pos hx0]; omega

/-- the count formula of `adjust`: the `j`-th step from `lo` is counted iff it stays before `hi` -/
theorem lt_count_iff (lo hi : Int) (k j : Nat) (hk : 0 < k) :
    j < (if lo < hi then ((hi - lo - 1) / (k : Int) + 1).toNat else 0) ↔ lo + (j : Int) * k < hi := by
  rw [← Int.natCast_mul]
  by_cases h : lo < hi
  · obtain ⟨m, hm⟩ : ∃ m : Nat, hi - lo - 1 = (m : Int) := ⟨(hi - lo - 1).toNat, by omega⟩
    have hdiv : j < m / k + 1 ↔ j * k ≤ m := by rw [Nat.lt_succ_iff, Nat.le_div_iff_mul_le hk]
    rw [if_pos h, hm, ← Int.natCast_ediv]
    generalize m / k = q at hdiv ⊢
    generalize j * k = p at hdiv ⊢
    omega
  · rw [if_neg h]
    generalize j * k = p
    omega

theorem adjust_pos (len : Nat) (start stop : Option Int) (k : Nat) (hk : 0 < k) :
    adjust len start stop (k : Int) =
      (clampPos len start 0,
        if clampPos len start 0 < clampPos len stop len then
          ((clampPos len stop len - clampPos len start 0 - 1) / (k : Int) + 1).toNat
        else 0) := by
  unfold adjust
  rw [if_pos (show (k : Int) > 0 by omega)]

theorem adjust_neg (len : Nat) (start stop : Option Int) (k : Nat) :
    adjust len start stop (-(k : Int)) =
      (clampNeg len start ((len : Int) - 1),
        if clampNeg len stop (-1) < clampNeg len start ((len : Int) - 1) then
          ((clampNeg len start ((len : Int) - 1) - clampNeg len stop (-1) - 1) / (k : Int) + 1).toNat
        else 0) := by
  unfold adjust
  rw [if_neg (show ¬ (-(k : Int) > 0) by omega), Int.neg_neg]

theorem exists_mul_iff (x : Int) (k : Nat) (hk : 0 < k) :
    (∃ j : Nat, x = (j : Int) * k) ↔ 0 ≤ x ∧ x % (k : Int) = 0 := by
  constructor
  · rintro ⟨j, rfl⟩
    exact ⟨Int.mul_nonneg (Int.natCast_nonneg j) (Int.natCast_nonneg k), Int.mul_emod_left _ _⟩
  · rintro ⟨h0, hm⟩
    obtain ⟨q, rfl⟩ := Int.dvd_of_emod_eq_zero hm
    have hq : 0 ≤ q := by
      refine Int.not_lt.mp fun hneg => ?_
      have := Int.mul_neg_of_pos_of_neg (show (0 : Int) < k by omega) hneg
      omega
    exact ⟨q.toNat, by rw [Int.toNat_of_nonneg hq, Int.mul_comm]⟩

/-- for a positive step the selected positions are exactly the `i` with `lo ≤ i < hi` that are
    congruent to `lo` modulo the step, where lo/hi are Python's clamped bounds -/
theorem mem_indices_pos (len : Nat) (start stop : Option Int) (k : Nat) (hk : 0 < k) (i : Nat) :
    i ∈ indices len start stop (k : Int) ↔
      clampPos len start 0 ≤ (i : Int) ∧ (i : Int) < clampPos len stop len ∧
      ((i : Int) - clampPos len start 0) % (k : Int) = 0 := by
  have hlo := clampPos_nonneg len start 0 (Int.natCast_nonneg _) (Int.le_refl 0)
  unfold indices
  rw [adjust_pos len start stop k hk]
  generalize clampPos len start 0 = lo at hlo ⊢
  generalize clampPos len stop len = hi
  simp only [List.mem_map, List.mem_range, lt_count_iff lo hi k _ hk]
  constructor
  · rintro ⟨j, hj, rfl⟩
    have hx := Int.mul_nonneg (Int.natCast_nonneg j) (Int.natCast_nonneg k)
    have hi' : ((lo + (j : Int) * k).toNat : Int) = lo + j * k := Int.toNat_of_nonneg (by omega)
    exact ⟨by omega, by omega, ((exists_mul_iff _ k hk).mp ⟨j, by omega⟩).2⟩
  · rintro ⟨h1, h2, h3⟩
    obtain ⟨j, hj⟩ := (exists_mul_iff _ k hk).mpr ⟨by omega, h3⟩
    exact ⟨j, by omega, by omega⟩

theorem indices_pos_sorted (len : Nat) (start stop : Option Int) (k : Nat) (hk : 0 < k) :
    (indices len start stop (k : Int)).Pairwise (· < ·) := by
  have hlo := clampPos_nonneg len start 0 (Int.natCast_nonneg _) (Int.le_refl 0)
  unfold indices
  rw [adjust_pos len start stop k hk, List.pairwise_map]
  refine List.Pairwise.imp ?_ List.pairwise_lt_range
  intro a b hab
  have := Int.mul_lt_mul_of_pos_right (show (a : Int) < b by omega) (show (0 : Int) < k by omega)
  have := Int.mul_nonneg (Int.natCast_nonneg a) (Int.natCast_nonneg k)
  omega

/-- for a negative step `-k` the selected positions are exactly the `i` with `stop' < i ≤ start'`
    congruent to `start'` modulo `k`, where start'/stop' are Python's clamped bounds (−1 = before
    the first element) -/
theorem mem_indices_neg (len : Nat) (start stop : Option Int) (k : Nat) (hk : 0 < k) (i : Nat) :
    i ∈ indices len start stop (-(k : Int)) ↔
      clampNeg len stop (-1) < (i : Int) ∧ (i : Int) ≤ clampNeg len start ((len : Int) - 1) ∧
      (clampNeg len start ((len : Int) - 1) - (i : Int)) % (k : Int) = 0 := by
  have hlo := clampNeg_ge len stop (-1) (Int.natCast_nonneg _) (Int.le_refl _)
  unfold indices
  rw [adjust_neg len start stop k]
  generalize clampNeg len start ((len : Int) - 1) = hi
  generalize clampNeg len stop (-1) = lo at hlo ⊢
  simp only [List.mem_map, List.mem_range, lt_count_iff lo hi k _ hk, Int.mul_neg]
  constructor
  · rintro ⟨j, hj, rfl⟩
    have hx := Int.mul_nonneg (Int.natCast_nonneg j) (Int.natCast_nonneg k)
    have hi' : ((hi + -((j : Int) * k)).toNat : Int) = hi - j * k := by omega
    exact ⟨by omega, by omega, ((exists_mul_iff _ k hk).mp ⟨j, by omega⟩).2⟩
  · rintro ⟨h1, h2, h3⟩
    obtain ⟨j, hj⟩ := (exists_mul_iff _ k hk).mpr ⟨by omega, h3⟩
    exact ⟨j, by omega, by omega⟩

theorem indices_lt (len : Nat) (start stop : Option Int) (step : Int) (h0 : step ≠ 0) :
    ∀ i ∈ indices len start stop step, i < len := by
  intro i hi
  have hL := Int.natCast_nonneg len
  by_cases hpos : step > 0
  · obtain ⟨k, rfl⟩ : ∃ k : Nat, step = (k : Int) := ⟨step.toNat, by omega⟩
    have h := ((mem_indices_pos len start stop k (by omega) i).mp hi).2.1
    have := clampPos_le len stop len hL (Int.le_refl _)
    omega
  · obtain ⟨k, rfl⟩ : ∃ k : Nat, step = -(k : Int) := ⟨step.natAbs, by omega⟩
    have h := ((mem_indices_neg len start stop k (by omega) i).mp hi).2.1
    have := clampNeg_le len start ((len : Int) - 1) hL (Int.le_refl _)
    omega

theorem indices_rev (n : Nat) : indices n none none (-1) = (List.range n).map (fun j => n - 1 - j) := by
  unfold indices
  rw [show (-1 : Int) = -((1 : Nat) : Int) from rfl, adjust_neg n none none 1]
  rw [show clampNeg n none ((n : Int) - 1) = (n : Int) - 1 from rfl, show clampNeg n none (-1) = -1 from rfl]
  have hn : (if (-1 : Int) < (n : Int) - 1 then (((n : Int) - 1 - -1 - 1) / ((1 : Nat) : Int) + 1).toNat else 0) = n := by
    rw [Int.natCast_one, Int.ediv_one]; split <;> omega
  rw [hn]
  refine List.map_congr_left fun j hj => ?_
  have := List.mem_range.mp hj
  omega

end MJ.PySlice
