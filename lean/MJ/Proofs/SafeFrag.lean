import MJ.Model.SafeProg
/-! C02, stage "programs / syntactic fragment": the safe-marking-free fragment as a predicate on the
program text.  The predicate follows the auto-escape mode `m` (Html / None — Json is outside the
fragment) and the kind of the innermost output target `k` (`true` = opaque: discarded output, the
capture of an `import`, a capture that ends in mode `None`) through the statements:

* an expression may be written only under Html, or into an opaque target (`allows`);
* a capture begun in mode `m` is opaque iff `m` is not Html;
* `{% autoescape %}` switches the mode for its body: `true`/`"html"` to Html, `false`/`"none"` to None;
* bodies that run in a mode decided elsewhere — macros, call blocks, recursive loops — must be fine
  under both (Html, clean target) and (None, opaque target): `Poly`;
* a template whose name selects None may be imported anywhere (its top level writes into the module
  capture) and included only where the target is opaque; blocks and `super()` need Html. -/
namespace MJ.Safe

/-- whatever model the name has belongs to the fragment (not `safe`, not `tojson`); a name without a model
    satisfies this too: `applyNamed` fails on it -/
def FilterOk (name : String) (ps : List Nat) : Prop :=
  ∀ m g ok, lookupF name m ps = some (g, ok) → ok = true

/-- may an expression be written?  Html escapes it; an opaque target never becomes a `Safe` string -/
def allows (m : Mode) (k : Bool) : Prop := m = .html ∨ (m = .none ∧ k = true)

/-- the mode an `autoescape` block of the fragment selects -/
def autoMode : AutoArg → Option Mode
  | .tru => some .html
  | .fals => some .none
  | .str s => if s = "html" then some .html else if s = "none" then some .none else Option.none

mutual
inductive OkE : Mode → Expr → Prop
  | var {m : Mode} (n : String) : OkE m (.var n)
  | lit {m : Mode} (s : String) : OkE m (.lit s)
  | int {m : Mode} (n : Int) : OkE m (.int n)
  | bool {m : Mode} (b : Bool) : OkE m (.bool b)
  | none {m : Mode} : OkE m .none
  | cat {m : Mode} {a b : Expr} : OkE m a → OkE m b → OkE m (.cat a b)
  | add {m : Mode} {a b : Expr} : OkE m a → OkE m b → OkE m (.add a b)
  | mul {m : Mode} {a : Expr} (n : Nat) : OkE m a → OkE m (.mul a n)
  | filt {m : Mode} {name : String} {ps : List Nat} {args : List Expr} :
      FilterOk name ps → OkEs m args → OkE m (.filt name ps args)
  | meth {m : Mode} {name : String} {ps : List Nat} {args : List Expr} :
      (∀ k ∈ ["str", "dict", "list"], FilterOk (k ++ "." ++ name) ps) → OkEs m args → OkE m (.meth name ps args)
  | index {m : Mode} {a : Expr} (k : Nat) : OkE m a → OkE m (.index a k)
  | slice {m : Mode} {a : Expr} (x y : Nat) : OkE m a → OkE m (.slice a x y)
  | attr {m : Mode} {a : Expr} (key : String) : OkE m a → OkE m (.attr a key)
  | list {m : Mode} {xs : List Expr} : OkEs m xs → OkE m (.list xs)
  | dict {m : Mode} {kvs : List (String × Expr)} : OkKs m kvs → OkE m (.dict kvs)
  | call {m : Mode} {args : List Expr} (g : String) : OkEs m args → OkE m (.call g args)
  | modCall {m : Mode} {args : List Expr} (a g : String) : OkEs m args → OkE m (.modCall a g args)
  | modVar {m : Mode} (a x : String) : OkE m (.modVar a x)
  | caller {m : Mode} : OkE m .caller
  /-- `super()` runs a block of the chain: Html only -/
  | super {m : Mode} : m = .html → OkE m .super
  | loopRec {m : Mode} {e : Expr} : OkE m e → OkE m (.loopRec e)
  | loopIndex {m : Mode} : OkE m .loopIndex
  | loopFirst {m : Mode} : OkE m .loopFirst
  | not {m : Mode} {e : Expr} : OkE m e → OkE m (.not e)
  | cond {m : Mode} {c a b : Expr} : OkE m c → OkE m a → OkE m b → OkE m (.cond c a b)
inductive OkEs : Mode → List Expr → Prop
  | nil {m : Mode} : OkEs m []
  | cons {m : Mode} {e : Expr} {es : List Expr} : OkE m e → OkEs m es → OkEs m (e :: es)
inductive OkKs : Mode → List (String × Expr) → Prop
  | nil {m : Mode} : OkKs m []
  | cons {m : Mode} {k : String} {e : Expr} {kvs : List (String × Expr)} :
      OkE m e → OkKs m kvs → OkKs m ((k, e) :: kvs)
end

mutual
inductive OkS (p : Prog) : Mode → Bool → Stmt → Prop
  | text {m : Mode} {k : Bool} (s : String) : OkS p m k (.text s)
  | emit {m : Mode} {k : Bool} {e : Expr} : allows m k → OkE m e → OkS p m k (.emit e)
  | set {m : Mode} {k : Bool} {e : Expr} (n : String) : OkE m e → OkS p m k (.set n e)
  | setBlock {m : Mode} {k : Bool} {body : List Stmt} (n : String) :
      OkSs p m (m != .html) body → OkS p m k (.setBlock n Option.none body)
  | setBlockF {m : Mode} {k : Bool} {body : List Stmt} {name : String} {ps : List Nat} (n : String) :
      FilterOk name ps → OkSs p m (m != .html) body → OkS p m k (.setBlock n (some (name, ps)) body)
  | filterBlock {m : Mode} {k : Bool} {body : List Stmt} {name : String} {ps : List Nat} :
      allows m k → FilterOk name ps → OkSs p m (m != .html) body → OkS p m k (.filterBlock name ps body)
  | forIn {m : Mode} {k : Bool} {it : Expr} {body els : List Stmt} (v : String) :
      OkE m it → OkSs p m k body → OkSs p m k els → OkS p m k (.forIn v it false body els)
  /-- the body of a recursive loop also runs inside the capture of `loop(…)`, in the mode found there -/
  | forRec {m : Mode} {k : Bool} {it : Expr} {body els : List Stmt} (v : String) :
      OkE m it → OkSs p m k body → OkSs p m k els → OkSs p .html false body → OkSs p .none true body →
      OkS p m k (.forIn v it true body els)
  | ifE {m : Mode} {k : Bool} {c : Expr} {a b : List Stmt} : OkE m c → OkSs p m k a → OkSs p m k b → OkS p m k (.ifE c a b)
  | withE {m : Mode} {k : Bool} {e : Expr} {body : List Stmt} (n : String) : OkE m e → OkSs p m k body → OkS p m k (.withE n e body)
  /-- the body of a call block runs where the macro calls `caller()` -/
  | callBlock {m : Mode} {k : Bool} {args : List Expr} {body : List Stmt} (g : String) :
      allows m k → OkEs m args → OkSs p .html false body → OkSs p .none true body → OkS p m k (.callBlock g args body)
  /-- the included template runs in the mode ITS name selects and writes into the current target -/
  | incl {m : Mode} {k : Bool} (name : String) : allows (modeOf p name) k → OkS p m k (.incl name)
  /-- a block (and whatever overrides it) runs under Html -/
  | block {m : Mode} {k : Bool} {body : List Stmt} (name : String) : m = .html → OkSs p .html false body → OkS p m k (.block name body)
  | auto {m m' : Mode} {k : Bool} {a : AutoArg} {body : List Stmt} : autoMode a = some m' → OkSs p m' k body → OkS p m k (.auto a body)
inductive OkSs (p : Prog) : Mode → Bool → List Stmt → Prop
  | nil {m : Mode} {k : Bool} : OkSs p m k []
  | cons {m : Mode} {k : Bool} {s : Stmt} {ss : List Stmt} : OkS p m k s → OkSs p m k ss → OkSs p m k (s :: ss)
end

/-- fine wherever it can run: under Html with a clean target and under None with an opaque one -/
def Poly (p : Prog) (ss : List Stmt) : Prop := OkSs p .html false ss ∧ OkSs p .none true ss

theorem allows_mono {m : Mode} {k : Bool} (h : allows m k) : allows m true := by
  rcases h with h | ⟨h, _⟩
  · exact Or.inl h
  · exact Or.inr ⟨h, rfl⟩

mutual
/-- what is fine with a clean target is fine with an opaque one -/
theorem OkS.mono {p : Prog} {m : Mode} : ∀ {k : Bool} {s : Stmt}, OkS p m k s → OkS p m true s
  | _, _, .text s => .text s
  | _, _, .emit ha he => .emit (allows_mono ha) he
  | _, _, .set n he => .set n he
  | _, _, .setBlock n hb => .setBlock n hb
  | _, _, .setBlockF n hf hb => .setBlockF n hf hb
  | _, _, .filterBlock ha hf hb => .filterBlock (allows_mono ha) hf hb
  | _, _, .forIn v hi hb he => .forIn v hi (OkSs.mono hb) (OkSs.mono he)
  | _, _, .forRec v hi hb he h1 h2 => .forRec v hi (OkSs.mono hb) (OkSs.mono he) h1 h2
  | _, _, .ifE hc ha hb => .ifE hc (OkSs.mono ha) (OkSs.mono hb)
  | _, _, .withE n he hb => .withE n he (OkSs.mono hb)
  | _, _, .callBlock g ha hargs h1 h2 => .callBlock g (allows_mono ha) hargs h1 h2
  | _, _, .incl name ha => .incl name (allows_mono ha)
  | _, _, .block name hm hb => .block name hm hb
  | _, _, .auto ha hb => .auto ha (OkSs.mono hb)
theorem OkSs.mono {p : Prog} {m : Mode} : ∀ {k : Bool} {ss : List Stmt}, OkSs p m k ss → OkSs p m true ss
  | _, _, .nil => .nil
  | _, _, .cons h hs => .cons (OkS.mono h) (OkSs.mono hs)
end

theorem OkSs.anySink {p : Prog} {m : Mode} {ss : List Stmt} (h : OkSs p m false ss) (k : Bool) : OkSs p m k ss := by
  cases k
  · exact h
  · exact h.mono

/-- a `Poly` body is fine inside any capture: begun in mode `m`, the capture is opaque iff `m` is not Html -/
theorem Poly.inCapture {p : Prog} {ss : List Stmt} (h : Poly p ss) {m : Mode} (hm : m ≠ .json) : OkSs p m (m != .html) ss := by
  cases m with
  | html => exact h.1
  | none => exact h.2
  | json => exact absurd rfl hm

/-- the top level of a template in the mode its name selects: a None template writes only into opaque targets -/
def TmplOk (p : Prog) (t : Tmpl) : Prop :=
  modeOf p t.name ≠ .json ∧
  OkSs p (modeOf p t.name) (modeOf p t.name != .html) t.pre ∧
  OkSs p (modeOf p t.name) (modeOf p t.name != .html) t.body ∧
  ∀ md ∈ t.macros, Poly p md.body

/-- **the fragment**: no template name selects Json; the top level of every template is fine in the
    mode its name selects (a template whose name selects None writes only into opaque targets: it can be
    imported anywhere, included only inside captures that end in None); macro bodies are `Poly`; the
    rendered template selects Html and every template of its inheritance chain is fine under Html
    (parents run in the mode of the rendered template, whatever their own name says) -/
structure ProgOk (p : Prog) : Prop where
  tmpls : ∀ t ∈ p.templates, TmplOk p t
  main : modeOf p p.main = .html
  chain : ∀ t ∈ inheritChain p (p.templates.length + 1) p.main, OkSs p .html false t.pre ∧ OkSs p .html false t.body

/-- facts about the environment the unguarded interpreter relies on -/
structure EnvFrag (env : Env) : Prop where
  prog : ∀ t ∈ env.prog.templates, TmplOk env.prog t
  caller : ∀ c, env.caller = some c → Poly env.prog c.body
  recLoop : ∀ v body, env.recLoop = some (v, body) → Poly env.prog body
  supers : ∀ b ∈ env.supers, OkSs env.prog .html false b
  chains : ∀ n bs, env.chains.lookup n = some bs → ∀ b ∈ bs, OkSs env.prog .html false b

/-- what the interpreter maintains in both modes of operation: never Json; an opaque target is an
    unflagged buffer; (unguarded only) the environment holds fragment code -/
structure EnvInv (strict : Bool) (env : Env) (fl : List Bool) : Prop where
  mode : env.mode ≠ .json
  init : env.initMode ≠ .json
  sink : env.opaq = true → ∃ r, fl = false :: r
  frag : strict = false → EnvFrag env

theorem derive_autoMode {a : AutoArg} {init m m' : Mode} (ha : autoMode a = some m') (hi : init ≠ .json)
    (h : deriveAutoEscape a init = some m) : m = m' := by
  revert ha h
  fun_cases autoMode a <;> intro ha h <;> cases ha
  · -- `true` keeps the mode the instruction stream was entered with, Html when that is None
    simp only [deriveAutoEscape, Option.some.injEq] at h
    subst h
    cases init <;> simp at hi ⊢
  · cases h; rfl
  · simp only [deriveAutoEscape, Option.some.injEq] at h; exact h.symm
  · simp only [deriveAutoEscape, Option.some.injEq] at h; exact h.symm

/-- `derive_auto_escape` never yields Json unless asked for it by name or already there -/
theorem derive_not_json {a : AutoArg} {init m : Mode} (hi : init ≠ .json) (h : deriveAutoEscape a init = some m)
    (hj : (m == .json) = false) : m ≠ .json := by
  intro hm; subst hm; simp at hj

theorem autoMode_not_json {a : AutoArg} {m : Mode} (h : autoMode a = some m) : m ≠ .json := by
  revert h
  fun_cases autoMode a <;> intro h <;> cases h <;> nofun

theorem methodKind_mem {v : V} {k : String} (h : methodKind v = some k) : k ∈ ["str", "dict", "list"] := by
  revert h
  fun_cases methodKind v <;> intro h <;> cases h <;> repeat constructor

theorem findTmpl_mem {p : Prog} {name : String} {t : Tmpl} (h : findTmpl p name = some t) : t ∈ p.templates ∧ t.name = name :=
  ⟨List.mem_of_find?_eq_some h, by simpa using List.find?_some h⟩

theorem findMacro_mem {p : Prog} {g : String} {home : Tmpl} {md : MacroDef} (h : findMacro p g = some (home, md)) :
    home ∈ p.templates ∧ md ∈ home.macros := by
  unfold findMacro at h
  obtain ⟨t, ht, hx⟩ := List.exists_of_findSome?_eq_some h
  simp only [Option.map_eq_some_iff, Prod.mk.injEq] at hx
  obtain ⟨md', hmd, rfl, rfl⟩ := hx
  exact ⟨ht, List.mem_of_find?_eq_some hmd⟩

end MJ.Safe
