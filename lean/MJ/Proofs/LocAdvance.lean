import MJ.Model.Loc
/-!
C14: the position counters as a function of the consumed prefix.
-/
namespace MJ.Loc
open MJ

/-- the `(line, col)` the tokenizer has after consuming the prefix `p` -/
def posOf (p : List Char) : Nat × Nat := p.foldl stepChar (1, 0)

/-- length of the last line of `p` (everything after the last `\n`) -/
def lastSeg : List Char → Nat
  | [] => 0
  | c :: cs => if '\n' ∈ cs then lastSeg cs else if c = '\n' then cs.length else cs.length + 1

theorem lastSeg_no_nl (p : List Char) (h : '\n' ∉ p) : lastSeg p = p.length := by
  induction p with
  | nil => rfl
  | cons c cs ih =>
    simp only [List.mem_cons, not_or] at h
    have h1 : '\n' ≠ c := h.1
    simp [lastSeg, h.2]
    intro hc; exact absurd hc.symm h1

theorem lastSeg_append_nl (a b : List Char) (hb : '\n' ∉ b) : lastSeg (a ++ '\n' :: b) = b.length := by
  induction a with
  | nil => simp [lastSeg, hb]
  | cons c cs ih => simp [lastSeg, ih]

theorem lastSeg_whole_lines {P : List Char} (hP : P = [] ∨ ∃ a, P = a ++ ['\n']) : lastSeg P = 0 := by
  rcases hP with rfl | ⟨a, rfl⟩
  · rfl
  · exact lastSeg_append_nl a [] List.not_mem_nil

theorem lastSeg_append (a b : List Char) :
    lastSeg (a ++ b) = if '\n' ∈ b then lastSeg b else lastSeg a + b.length := by
  induction a with
  | nil =>
    by_cases hb : '\n' ∈ b
    · simp [hb]
    · simp [hb, lastSeg_no_nl b hb, lastSeg]
  | cons c cs ih =>
    simp only [List.cons_append, lastSeg, List.mem_append]
    by_cases hb : '\n' ∈ b
    · simp [hb, ih]
    · simp only [hb, or_false, if_false] at ih ⊢
      by_cases hcs : '\n' ∈ cs
      · simp [hcs, ih]
      · simp only [hcs, if_false, List.length_append]
        split <;> omega

theorem satInc_le (x : Nat) : satInc x ≤ x + 1 := by unfold satInc; split <;> omega
theorem satInc_le_max (x : Nat) : satInc x ≤ 65535 := by unfold satInc; split <;> omega
theorem satInc_eq_min (x : Nat) (h : x ≤ 65535) : satInc x = min (x + 1) 65535 := by
  unfold satInc; split <;> omega

theorem stepChar_nl (l c : Nat) : stepChar (l, c) '\n' = (satInc l, 0) := by simp [stepChar]

theorem stepChar_of_ne {ch : Char} (h : ch ≠ '\n') (l c : Nat) : stepChar (l, c) ch = (l, satInc c) := by
  simp [stepChar, h]

/-- closed form of the loop in `advance` from any start `(l, c)` -/
theorem foldl_stepChar (cs : List Char) (l c : Nat) (hl : l ≤ 65535) (hc : c ≤ 65535) :
    cs.foldl stepChar (l, c) =
      (min (l + cs.count '\n') 65535,
       if '\n' ∈ cs then min (lastSeg cs) 65535 else min (c + cs.length) 65535) := by
  induction cs generalizing l c with
  | nil => simp; omega
  | cons ch cs ih =>
    rw [List.foldl_cons]
    by_cases hch : ch = '\n'
    · subst hch
      rw [stepChar_nl, ih _ _ (satInc_le_max l) (by omega)]
      simp only [List.count_cons_self, List.mem_cons, true_or, if_true, lastSeg]
      congr 1
      · rw [satInc_eq_min l hl]; omega
      · by_cases hm : '\n' ∈ cs <;> simp [hm]
    · rw [stepChar_of_ne hch, ih _ _ hl (satInc_le_max c)]
      have hne : ¬ ('\n' = ch) := fun h => hch h.symm
      rw [List.count_cons_of_ne hch]
      simp only [List.mem_cons, hne, false_or, lastSeg, List.length_cons]
      by_cases hm : '\n' ∈ cs
      · simp [hm]
      · simp only [hm, if_false]
        congr 1
        rw [satInc_eq_min c hc]; omega

theorem posOf_eq (p : List Char) :
    posOf p = (min (1 + p.count '\n') 65535, min (lastSeg p) 65535) := by
  unfold posOf
  rw [foldl_stepChar p 1 0 (by omega) (by omega)]
  by_cases hm : '\n' ∈ p
  · simp [hm]
  · simp [hm, lastSeg_no_nl p hm]

theorem posOf_append (p q : List Char) : posOf (p ++ q) = q.foldl stepChar (posOf p) := by
  simp [posOf, List.foldl_append]

theorem posOf_le (p : List Char) : (posOf p).1 ≤ 65535 ∧ (posOf p).2 ≤ 65535 := by
  rw [posOf_eq]; simp; omega

theorem foldl_stepChar_line_le (cs : List Char) (l c : Nat) :
    (cs.foldl stepChar (l, c)).1 ≤ l + cs.count '\n' := by
  induction cs generalizing l c with
  | nil => simp
  | cons ch cs ih =>
    rw [List.foldl_cons]
    by_cases hch : ch = '\n'
    · subst hch
      rw [stepChar_nl, List.count_cons_self]
      have := ih (satInc l) 0
      have := satInc_le l
      omega
    · rw [stepChar_of_ne hch, List.count_cons_of_ne hch]
      exact ih l (satInc c)

theorem take_eq_take_append (src : List Char) {a b : Nat} (h : a ≤ b) :
    src.take b = src.take a ++ (src.drop a).take (b - a) := by
  rw [← List.take_add, Nat.add_sub_cancel' h]

theorem utf8Len_append (p q : List Char) : utf8Len (p ++ q) = utf8Len p + utf8Len q := by
  induction p with
  | nil => simp [utf8Len]
  | cons c cs ih => simp [utf8Len, ih]; omega

theorem utf8Len_take_le (src : List Char) (k : Nat) : utf8Len (src.take k) ≤ utf8Len src := by
  have h := utf8Len_append (src.take k) (src.drop k)
  rw [List.take_append_drop] at h; omega

theorem utf8Len_take_mono (src : List Char) {a b : Nat} (h : a ≤ b) :
    utf8Len (src.take a) ≤ utf8Len (src.take b) := by
  have : src.take a = (src.take b).take a := by rw [List.take_take]; congr; omega
  rw [this]; exact utf8Len_take_le _ _

theorem length_le_utf8Len (p : List Char) : p.length ≤ utf8Len p := by
  induction p with
  | nil => simp [utf8Len]
  | cons c cs ih => simp [utf8Len]; have := Char.utf8Size_pos c; omega

theorem utf8Len_replicate_nl (n : Nat) : utf8Len (List.replicate n '\n') = n := by
  induction n with
  | zero => rfl
  | succ n ih =>
    have : '\n'.utf8Size = 1 := by decide
    simp [List.replicate_succ, utf8Len, ih, this]; omega

theorem advanceGo_spec (cs : List Char) (n : Nat) (lc : Nat × Nat) (rest : List Char) (lc' : Nat × Nat)
    (h : advanceGo cs n lc = some (rest, lc')) :
    ∃ p, cs = p ++ rest ∧ utf8Len p = n ∧ lc' = p.foldl stepChar lc := by
  revert h
  fun_induction advanceGo cs n lc with
  | case1 cs lc => intro h; cases h; exact ⟨[], rfl, rfl, rfl⟩
  | case2 => intro h; cases h
  | case3 c cs n lc hle ih =>
    intro h
    obtain ⟨p, hp, hl, hlc⟩ := ih h
    exact ⟨c :: p, by rw [hp]; rfl, by rw [utf8Len, hl]; omega, hlc⟩
  | case4 => intro h; cases h

theorem advanceGo_prefix (p rest : List Char) (lc : Nat × Nat) :
    advanceGo (p ++ rest) (utf8Len p) lc = some (rest, p.foldl stepChar lc) := by
  induction p generalizing lc with
  | nil => cases rest <;> simp [utf8Len, advanceGo]
  | cons c cs ih =>
    have hpos := Char.utf8Size_pos c
    obtain ⟨m, hm⟩ : ∃ m, c.utf8Size + utf8Len cs = m + 1 := ⟨c.utf8Size + utf8Len cs - 1, by omega⟩
    simp only [List.cons_append, utf8Len, hm, advanceGo]
    have hle : c.utf8Size ≤ m + 1 := by omega
    rw [if_pos hle]
    have : m + 1 - c.utf8Size = utf8Len cs := by omega
    rw [this, ih]; simp

/-- two prefixes of the same text with the same byte length are the same prefix -/
theorem take_eq_of_utf8Len_eq (src : List Char) (a b : Nat) (ha : a ≤ src.length) (hb : b ≤ src.length)
    (h : utf8Len (src.take a) = utf8Len (src.take b)) : a = b := by
  induction src generalizing a b with
  | nil => simp at ha hb; omega
  | cons c cs ih =>
    cases a with
    | zero =>
      cases b with
      | zero => rfl
      | succ b => simp [utf8Len] at h; have := Char.utf8Size_pos c; omega
    | succ a =>
      cases b with
      | zero => simp [utf8Len] at h; have := Char.utf8Size_pos c; omega
      | succ b =>
        simp [utf8Len] at h ha hb
        rw [ih a b ha hb h]

theorem stripLast_prefix (c : Char) (cs : List Char) : stripLast c cs <+: cs := by
  unfold stripLast
  split
  · exact List.dropLast_prefix cs
  · exact List.prefix_refl cs

theorem tokSource_prefix (keep : Bool) (src : List Char) : tokSource keep src <+: src := by
  unfold tokSource
  split
  · exact List.prefix_refl src
  · exact (stripLast_prefix _ _).trans (stripLast_prefix _ _)

end MJ.Loc
