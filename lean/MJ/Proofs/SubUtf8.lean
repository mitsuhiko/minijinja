import MJ.Model.Subscript
/-!
# The `Chars` iterator on UTF-8 bytes yields the characters, one boundary at a time

`encode cs` is the byte string of a Rust `String` holding the scalar values `cs`; every scalar
value takes 1–4 bytes.  The model's `charIndices` walks a byte cursor like `str::char_indices`.
Here: on `encode cs` the cursor visits exactly the offsets `|encode (cs.take i)|` (character
boundaries: the bytes before it and after it are again encodings of character lists) and decodes
exactly `cs`.  So the character count / `nth` / `skip`/`take` of the engine's string code work on
`cs`, not on bytes (the two differ as soon as a character is not ASCII).
-/
namespace MJ.Sub

theorem encode_nil : encode [] = [] := rfl
theorem encode_cons (c : Char) (cs : List Char) : encode (c :: cs) = String.utf8EncodeChar c ++ encode cs := by
  simp [encode]
theorem encode_append (as bs : List Char) : encode (as ++ bs) = encode as ++ encode bs := by
  simp [encode]

theorem width_bounds (c : Char) : 1 ≤ (String.utf8EncodeChar c).length ∧ (String.utf8EncodeChar c).length ≤ 4 := by
  rw [String.length_utf8EncodeChar]
  exact ⟨c.utf8Size_pos, c.utf8Size_le_four⟩

theorem decodeAt_nil : decodeAt [] = none := by
  simp [decodeAt, ByteArray.utf8DecodeChar?]

theorem decodeAt_encode_cons (c : Char) (rest : List UInt8) :
    decodeAt (String.utf8EncodeChar c ++ rest) = some c := by
  unfold decodeAt
  have h4 := (width_bounds c).2
  rw [List.take_append, List.take_of_length_le h4, List.toByteArray_append]
  exact ByteArray.utf8DecodeChar?_utf8EncodeChar_append

theorem drop_encode_cons (c : Char) (rest : List UInt8) :
    (String.utf8EncodeChar c ++ rest).drop c.utf8Size = rest := by
  rw [← String.length_utf8EncodeChar c]
  simp

/-- byte offsets of the characters of `cs` when the first one starts at `pos` -/
def offsetsFrom : Nat → List Char → List (Nat × Char)
  | _, [] => []
  | pos, c :: cs => (pos, c) :: offsetsFrom (pos + c.utf8Size) cs

theorem charIndicesFuel_encode (cs : List Char) : ∀ (fuel pos : Nat), (encode cs).length ≤ fuel →
    charIndicesFuel fuel pos (encode cs) = offsetsFrom pos cs := by
  induction cs with
  | nil =>
    intro fuel pos _
    cases fuel with
    | zero => rfl
    | succ f => simp [charIndicesFuel, encode_nil, decodeAt_nil, offsetsFrom]
  | cons c cs ih =>
    intro fuel pos hf
    rw [encode_cons] at hf ⊢
    have hw := c.utf8Size_pos
    cases fuel with
    | zero => simp at hf; omega
    | succ f =>
      simp only [charIndicesFuel, decodeAt_encode_cons, drop_encode_cons, offsetsFrom]
      rw [ih f _ (by simp at hf; omega)]

theorem charIndices_encode (cs : List Char) : charIndices (encode cs) = offsetsFrom 0 cs :=
  charIndicesFuel_encode cs _ 0 (Nat.le_refl _)

theorem map_snd_offsetsFrom (cs : List Char) : ∀ pos, (offsetsFrom pos cs).map (·.2) = cs := by
  induction cs with
  | nil => intro; rfl
  | cons c cs ih => intro pos; simp [offsetsFrom, ih]

/-- `s.chars()` of the string holding `cs` is `cs` -/
theorem chars_encode (cs : List Char) : chars (encode cs) = cs := by
  unfold chars
  rw [charIndices_encode, map_snd_offsetsFrom]

theorem length_offsetsFrom (cs : List Char) : ∀ pos, (offsetsFrom pos cs).length = cs.length := by
  induction cs with
  | nil => intro; rfl
  | cons c cs ih => intro pos; simp [offsetsFrom, ih]

theorem offsetsFrom_getElem? (cs : List Char) : ∀ (pos i : Nat), i < cs.length →
    (offsetsFrom pos cs)[i]? = (cs[i]?).map fun c => (pos + (encode (cs.take i)).length, c) := by
  induction cs with
  | nil => intro _ i h; simp at h
  | cons c cs ih =>
    intro pos i h
    cases i with
    | zero => simp [offsetsFrom, encode_nil]
    | succ i =>
      simp only [offsetsFrom, List.getElem?_cons_succ, List.take_succ_cons]
      rw [ih _ i (by simpa using h), encode_cons, List.length_append, String.length_utf8EncodeChar]
      cases cs[i]? <;> simp [Nat.add_assoc]

/-- the byte cursor stands on a character boundary at every step: the `i`-th decoding step starts
    at offset `|encode (cs.take i)|`, the bytes before it are the encoding of the first `i`
    characters and the bytes from it on the encoding of the others -/
theorem cursor_on_boundaries (cs : List Char) (i : Nat) (h : i < cs.length) :
    (charIndices (encode cs))[i]? = (cs[i]?).map (fun c => ((encode (cs.take i)).length, c)) ∧
    (encode cs).take (encode (cs.take i)).length = encode (cs.take i) ∧
    (encode cs).drop (encode (cs.take i)).length = encode (cs.drop i) := by
  refine ⟨?_, ?_, ?_⟩
  · rw [charIndices_encode, offsetsFrom_getElem? cs 0 i h]; simp
  · conv => lhs; rw [← List.take_append_drop i cs, encode_append]
    simp
  · conv => lhs; rw [← List.take_append_drop i cs, encode_append]
    simp

/-- the character count is the number of scalar values, not of bytes -/
theorem charCount_encode (cs : List Char) : (chars (encode cs)).length = cs.length := by rw [chars_encode]

theorem byteLen_ge_charLen (cs : List Char) : cs.length ≤ (encode cs).length := by
  induction cs with
  | nil => simp [encode_nil]
  | cons c cs ih => rw [encode_cons]; have := c.utf8Size_pos; simp; omega

example : (encode ['h', 'é', 'l', 'l', 'o']).length = 6 ∧ (chars (encode ['h', 'é', 'l', 'l', 'o'])).length = 5 := by
  rw [chars_encode]; decide
example : (encode ['a', 'é', '€', '𝄞']).length = 1 + 2 + 3 + 4 := by decide

end MJ.Sub
