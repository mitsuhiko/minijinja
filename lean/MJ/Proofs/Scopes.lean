import MJ.Model.Scopes
/-!
# Soundness of the scope-stack check (C01)

If every function of a table passes `chk` (pops only what it pushed, ends at its entry height on
every path) then, started with a non-empty stack, no execution of any balanced program over that
table reaches `need` with an empty stack, and every execution ends at the height it started at.
-/
namespace MJ.Scopes
open MJ.Gen (ScopeProg)

theorem tableOk_get {funs : List ScopeProg} (hok : tableOk funs = true) {f : Nat} {body : ScopeProg}
    (h : funs[f]? = some body) : chk body 0 = some 0 := by
  have hm : body ∈ funs := List.mem_of_getElem? h
  have := (List.all_eq_true.mp hok) body hm
  simpa [balanced] using this

theorem chk_branch {a b k : ScopeProg} {d e : Nat} (h : chk (.branch a b k) d = some e) :
    ∃ x, chk a d = some x ∧ chk b d = some x ∧ chk k x = some e := by
  unfold chk at h
  split at h
  · rename_i x y ha hb
    by_cases hxy : x = y
    · subst hxy; simp at h; exact ⟨x, ha, hb, h⟩
    · simp [hxy] at h
  · simp at h

theorem chk_loop {body k : ScopeProg} {d e : Nat} (h : chk (.loop body k) d = some e) :
    chk body d = some d ∧ chk k d = some e := by
  unfold chk at h
  by_cases hb : chk body d = some d
  · simp [hb] at h; exact ⟨hb, h⟩
  · simp [hb] at h

theorem chk_iso {body k : ScopeProg} {d e : Nat} (h : chk (.isolated body k) d = some e) :
    chk body 0 = some 0 ∧ chk k d = some e := by
  unfold chk at h
  by_cases hb : chk body 0 = some 0
  · simp [hb] at h; exact ⟨hb, h⟩
  · simp [hb] at h

/-- the invariant: with `h = base + d` (`base ≥ 1` = the height at function entry, `d` = what the
check counted) a checked segment cannot panic and ends at `base + e` -/
theorem exec_sound {funs : List ScopeProg} (hok : tableOk funs = true) {p : ScopeProg} {h : Nat} {r : Option Nat}
    (hx : Exec funs p h r) :
    ∀ base d e, h = base + d → 1 ≤ base → chk p d = some e → r = some (base + e) := by
  intro base d e hh hb hc
  induction hx generalizing base d e with
  | done =>
    simp [chk] at hc
    subst hc; simp [hh]
  | push _ ih =>
    simp only [chk] at hc
    exact ih base (d + 1) e (by omega) hb hc
  | pop _ ih =>
    simp only [chk] at hc
    by_cases hd : d = 0
    · simp [hd] at hc
    · simp [hd] at hc
      exact ih base (d - 1) e (by omega) hb hc
  | needOk _ _ ih =>
    simp only [chk] at hc
    exact ih base d e hh hb hc
  | needPanic =>
    omega
  | callPanic hf _ ih =>
    cases ih (base + d) 0 0 (by omega) (by omega) (tableOk_get hok hf)
  | callOk hf _ _ ihb ihk =>
    simp only [chk] at hc
    have h1 := ihb (base + d) 0 0 (by omega) (by omega) (tableOk_get hok hf)
    simp at h1
    exact ihk base d e (by omega) hb hc
  | callExt _ _ ih =>
    simp only [chk] at hc
    exact ih base d e hh hb hc
  | branchLPanic _ ih =>
    obtain ⟨x, ha, _, _⟩ := chk_branch hc
    cases ih base d x hh hb ha
  | branchL _ _ iha ihk =>
    obtain ⟨x, ha, _, hk⟩ := chk_branch hc
    exact ihk base x e (Option.some.inj (iha base d x hh hb ha)) hb hk
  | branchRPanic _ ih =>
    obtain ⟨x, _, hb', _⟩ := chk_branch hc
    cases ih base d x hh hb hb'
  | branchR _ _ ihb ihk =>
    obtain ⟨x, _, hb', hk⟩ := chk_branch hc
    exact ihk base x e (Option.some.inj (ihb base d x hh hb hb')) hb hk
  | loopExit _ ih =>
    exact ih base d e hh hb (chk_loop hc).2
  | loopPanic _ ih =>
    cases ih base d d hh hb (chk_loop hc).1
  | loopIter _ _ ihb ihl =>
    exact ihl base d e (Option.some.inj (ihb base d d hh hb (chk_loop hc).1)) hb hc
  | isoPanic _ ih =>
    cases ih 1 0 0 rfl (by omega) (chk_iso hc).1
  | iso _ _ _ ihk =>
    exact ihk base d e hh hb (chk_iso hc).2

/-- a balanced program over a balanced table, started on a non-empty stack: no panic, and the
stack is as high at the end as at the start -/
theorem balanced_exec {funs : List ScopeProg} (hok : tableOk funs = true) {p : ScopeProg}
    (hp : balanced p = true) {h : Nat} (hh : 1 ≤ h) {r : Option Nat} (hx : Exec funs p h r) : r = some h := by
  have hc : chk p 0 = some 0 := by simpa [balanced] using hp
  simpa using exec_sound hok hx h 0 0 rfl hh hc

/-- in particular `need` (`last_mut().unwrap()`) is never reached with an empty stack -/
theorem balanced_no_panic {funs : List ScopeProg} (hok : tableOk funs = true) {p : ScopeProg}
    (hp : balanced p = true) {h : Nat} (hh : 1 ≤ h) : ¬ Exec funs p h none := by
  intro hx
  have := balanced_exec hok hp hh hx
  simp at this

end MJ.Scopes
