import MJ.Model.Store
/-!
The template store of C15 (`MJ/Model/Store.lean`).  Read through `find`, `ins` and `del` are point
updates `upd` (`find_ins`, `find_del`); `Store.abs` and `Spec.flat` are read off name by name, so every
change of the tiers is a point update of the specification's maps (`abs_upd`, `flat_upd`).  That gives
the refinements `step_refines` and `spec_step_refines`, together `store_step_flat`, and by induction
`run_flat`, `results_flat`.  The three `get`s end in one cascade, `memo` of `load`.  On `Flat`: what a
lookup found stays until evicted (`flat_run_keeps`), and lookups do not change later answers
(`flat_get_get_result`).  `iter` read as an association list is the contents of any store
(`Store.find_iter`); under `Store.Inv` (no name twice in a tier, none in both), which holds along every
run from the empty store, it lists each stored template once (`Store.iter_names_nodup`, `Store.mem_iter_iff`).
-/
namespace MJ.Store

variable (c : LtCfg → Source → Bool)

theorem upd_self {β : Type} (f : Name → Option β) (n : Name) (v : Option β) : upd f n v n = v :=
  if_pos rfl

theorem upd_ne {β : Type} (f : Name → Option β) {n m : Name} (v : Option β) (h : m ≠ n) :
    upd f n v m = f m :=
  if_neg h

theorem upd_eq_self {β : Type} {f : Name → Option β} {n : Name} {v : Option β} (h : f n = v) :
    upd f n v = f := by
  funext m
  by_cases hm : m = n
  · rw [hm, upd_self, h]
  · exact upd_ne f v hm

theorem upd_map₂ {α β γ : Type} (g : Option α → Option β → Option γ) (f₁ : Name → Option α)
    (f₂ : Name → Option β) (n : Name) (x : Option α) (y : Option β) :
    (fun m => g (upd f₁ n x m) (upd f₂ n y m)) = upd (fun m => g (f₁ m) (f₂ m)) n (g x y) := by
  funext m
  unfold upd
  split <;> rfl

theorem find_del {β : Type} (l : List (Name × β)) (n : Name) : find (del l n) = upd (find l) n none := by
  funext m
  induction l with
  | nil => simp [del, find, upd]
  | cons p t ih =>
    have ih' : find (del t n) m = if m = n then none else find t m := ih
    by_cases hk : p.1 = n <;> by_cases hm : p.1 = m <;> simp_all [del, find, upd]

theorem find_ins {β : Type} (l : List (Name × β)) (n : Name) (v : β) :
    find (ins l n v) = upd (find l) n (some v) := by
  funext m
  unfold ins
  rw [find, find_del]
  unfold upd
  by_cases hm : m = n
  · rw [if_pos hm.symm, if_pos hm]
  · rw [if_neg (fun e => hm e.symm), if_neg hm, if_neg hm]

theorem find_del_self {β : Type} (l : List (Name × β)) (n : Name) : find (del l n) n = none := by
  rw [find_del, upd_self]

theorem find_del_ne {β : Type} (l : List (Name × β)) {n m : Name} (h : m ≠ n) :
    find (del l n) m = find l m := by
  rw [find_del, upd_ne _ _ h]

theorem find_ins_self {β : Type} (l : List (Name × β)) (n : Name) (v : β) :
    find (ins l n v) n = some v := by
  rw [find_ins, upd_self]

theorem find_ins_ne {β : Type} (l : List (Name × β)) {n m : Name} (v : β) (h : m ≠ n) :
    find (ins l n v) m = find l m := by
  rw [find_ins, upd_ne _ _ h]

theorem find_nil {β : Type} (n : Name) : find ([] : List (Name × β)) n = none := rfl

theorem Flat.ext' {a b : Flat} (h1 : a.loader = b.loader) (h0 : a.cfg = b.cfg) (h2 : ∀ m, a.contents m = b.contents m) :
    a = b := by
  cases a; cases b
  simp only [Flat.mk.injEq]
  exact ⟨h1, h0, funext h2⟩

/-! ### a lookup that misses: ask the loader, memoise what compiles

`Store.get`, `Spec.get`, `Flat.get` and `MemoConc.creator` end in the same cascade once the name is
not held: `load` says what the loader and the compiler make of it, `memo` stores a found template and
leaves the state alone otherwise. -/

def load (loader : Option (Name → LoadRes)) (cfg : LtCfg) (n : Name) : Res :=
  match loader with
  | none => .notFound
  | some l =>
    match l n with
    | .err => .loaderError
    | .panics => .panicked
    | .missing => .notFound
    | .src src => if c cfg src then .found (src, cfg) else .compileError

def memo {σ : Type} (x : σ) (store : Tmpl → σ) : Res → σ × Res
  | .found t => (store t, .found t)
  | r => (x, r)

theorem memo_snd {σ : Type} (x : σ) (store : Tmpl → σ) (r : Res) : (memo x store r).2 = r := by
  cases r <;> rfl

theorem memo_refines {σ τ : Type} (φ : σ → τ) (x : σ) (store : Tmpl → σ) (store' : Tmpl → τ) (r : Res)
    (h : ∀ t, φ (store t) = store' t) :
    (memo x store r).2 = (memo (φ x) store' r).2 ∧ φ (memo x store r).1 = (memo (φ x) store' r).1 := by
  cases r with
  | found t => exact ⟨rfl, h t⟩
  | _ => exact ⟨rfl, rfl⟩

theorem memo_load {σ : Type} (x : σ) (store : Tmpl → σ)
    (loader : Option (Name → LoadRes)) (cfg : LtCfg) (n : Name) :
    (match loader with
     | none => (x, Res.notFound)
     | some l =>
       match l n with
       | .err => (x, .loaderError)
       | .panics => (x, .panicked)
       | .missing => (x, .notFound)
       | .src src => if c cfg src then (store (src, cfg), .found (src, cfg)) else (x, .compileError))
      = memo x store (load c loader cfg n) := by
  unfold load
  cases loader with
  | none => rfl
  | some l =>
    dsimp only
    cases l n with
    | src src => dsimp only; cases c cfg src <;> rfl
    | _ => rfl

theorem Store.get_borrowed {s : Store} {n : Name} {t : Tmpl}
    (hb : find s.borrowed n = some t) : s.get c n = (s, .found t) := by
  unfold Store.get
  rw [hb]

theorem Store.get_owned {s : Store} {n : Name} {t : Tmpl} {o : Origin}
    (hb : find s.borrowed n = none) (ho : find s.owned n = some (t, o)) : s.get c n = (s, .found t) := by
  unfold Store.get
  rw [hb, ho]

theorem Store.get_miss {s : Store} {n : Name}
    (hb : find s.borrowed n = none) (ho : find s.owned n = none) :
    s.get c n = memo s (fun t => { s with owned := ins s.owned n (t, .loaded) }) (load c s.loader s.cfg n) := by
  unfold Store.get
  rw [hb, ho]
  exact memo_load c s (fun t => { s with owned := ins s.owned n (t, .loaded) }) s.loader s.cfg n

theorem Store.get_fst (s : Store) (n : Name) :
    (s.get c n).1 = s ∨ ∃ t, find s.borrowed n = none ∧ find s.owned n = none ∧
      s.get c n = ({ s with owned := ins s.owned n (t, .loaded) }, .found t) := by
  cases hb : find s.borrowed n with
  | some t => rw [Store.get_borrowed c hb]; exact Or.inl rfl
  | none =>
    cases ho : find s.owned n with
    | some p => rw [Store.get_owned c hb (o := p.2) ho]; exact Or.inl rfl
    | none =>
      rw [Store.get_miss c hb ho]
      cases load c s.loader s.cfg n with
      | found t => exact Or.inr ⟨t, rfl, rfl, rfl⟩
      | _ => exact Or.inl rfl

theorem Store.get_frame (s : Store) (n : Name) :
    (s.get c n).1.loader = s.loader ∧ (s.get c n).1.cfg = s.cfg ∧ (s.get c n).1.borrowed = s.borrowed ∧
    ∀ m x, find s.owned m = some x → find (s.get c n).1.owned m = some x := by
  rcases Store.get_fst c s n with h' | ⟨t, _, ho, h'⟩
  · rw [h']; exact ⟨rfl, rfl, rfl, fun _ _ h => h⟩
  · rw [h']
    refine ⟨rfl, rfl, rfl, fun m x h => ?_⟩
    have hmn : m ≠ n := fun e => by rw [e, ho] at h; cases h
    exact (find_ins_ne s.owned _ hmn).trans h

theorem Spec.get_explicit {sp : Spec} {n : Name} {t : Tmpl}
    (he : sp.explicit n = some t) : sp.get c n = (sp, .found t) := by
  unfold Spec.get
  rw [he]

theorem Spec.get_cached {sp : Spec} {n : Name} {t : Tmpl}
    (he : sp.explicit n = none) (hc : sp.cached n = some t) : sp.get c n = (sp, .found t) := by
  unfold Spec.get
  rw [he, hc]

theorem Spec.get_miss {sp : Spec} {n : Name}
    (he : sp.explicit n = none) (hc : sp.cached n = none) :
    sp.get c n = memo sp (fun t => { sp with cached := upd sp.cached n (some t) }) (load c sp.loader sp.cfg n) := by
  unfold Spec.get
  rw [he, hc]
  exact memo_load c sp (fun t => { sp with cached := upd sp.cached n (some t) }) sp.loader sp.cfg n

theorem Flat.get_hit {f : Flat} {n : Name} {t : Tmpl}
    (h : f.contents n = some t) : f.get c n = (f, .found t) := by
  unfold Flat.get
  rw [h]

theorem Flat.get_miss {f : Flat} {n : Name} (h : f.contents n = none) :
    f.get c n = memo f (fun t => { f with contents := upd f.contents n (some t) }) (load c f.loader f.cfg n) := by
  unfold Flat.get
  rw [h]
  exact memo_load c f (fun t => { f with contents := upd f.contents n (some t) }) f.loader f.cfg n

theorem Flat.get_fst (f : Flat) (m : Name) :
    (f.get c m).1 = f ∨ ∃ t, f.contents m = none ∧ load c f.loader f.cfg m = .found t ∧
      f.get c m = ({ f with contents := upd f.contents m (some t) }, .found t) := by
  cases hm : f.contents m with
  | some t => rw [Flat.get_hit c hm]; exact Or.inl rfl
  | none =>
    rw [Flat.get_miss c hm]
    cases hl : load c f.loader f.cfg m with
    | found t => exact Or.inr ⟨t, rfl, rfl, rfl⟩
    | _ => exact Or.inl rfl

/-! ### Store refines Spec

`Store.abs` reads the two tiers name by name (`explicitAt`, `cachedAt`), so a point update of both
tiers is a point update of both maps of the specification: `abs_upd` covers every operation. -/

def explicitAt (b : Option Tmpl) (o : Option (Tmpl × Origin)) : Option Tmpl :=
  match b with
  | some t => some t
  | none =>
    match o with
    | some (t, .explicit) => some t
    | _ => none

def cachedAt (b : Option Tmpl) (o : Option (Tmpl × Origin)) : Option Tmpl :=
  match b with
  | some _ => none
  | none =>
    match o with
    | some (t, .loaded) => some t
    | _ => none

theorem abs_explicit (s : Store) (m : Name) :
    s.abs.explicit m = explicitAt (find s.borrowed m) (find s.owned m) := rfl

theorem abs_cached (s : Store) (m : Name) :
    s.abs.cached m = cachedAt (find s.borrowed m) (find s.owned m) := rfl

theorem abs_upd (s : Store) (n : Name) {b' : List (Name × Tmpl)} {o' : List (Name × (Tmpl × Origin))}
    {x : Option Tmpl} {y : Option (Tmpl × Origin)}
    (hb : find b' = upd (find s.borrowed) n x) (ho : find o' = upd (find s.owned) n y) :
    ({ s with borrowed := b', owned := o' } : Store).abs =
      { s.abs with explicit := upd s.abs.explicit n (explicitAt x y),
                   cached := upd s.abs.cached n (cachedAt x y) } := by
  have he := upd_map₂ explicitAt (find s.borrowed) (find s.owned) n x y
  have hc := upd_map₂ cachedAt (find s.borrowed) (find s.owned) n x y
  rw [← hb, ← ho] at he hc
  exact congr (congrArg (Spec.mk s.loader s.cfg) he) hc

theorem get_refines (s : Store) (n : Name) :
    (s.get c n).2 = (s.abs.get c n).2 ∧ (s.get c n).1.abs = (s.abs.get c n).1 := by
  have he := abs_explicit s n
  have hc := abs_cached s n
  cases hb : find s.borrowed n with
  | some t =>
    rw [hb] at he
    rw [Store.get_borrowed c hb, Spec.get_explicit c he]
    exact ⟨rfl, rfl⟩
  | none =>
    rw [hb] at he hc
    cases ho : find s.owned n with
    | some p =>
      obtain ⟨t, o⟩ := p
      rw [ho] at he hc
      rw [Store.get_owned c hb ho]
      cases o
      · rw [Spec.get_explicit c he]; exact ⟨rfl, rfl⟩
      · rw [Spec.get_cached c he hc]; exact ⟨rfl, rfl⟩
    | none =>
      rw [ho] at he hc
      rw [Store.get_miss c hb ho, Spec.get_miss c he hc]
      refine memo_refines Store.abs _ _ _ _ fun t => ?_
      rw [abs_upd s n (upd_eq_self hb).symm (find_ins s.owned n (t, .loaded))]
      exact congrArg (fun e => Spec.mk s.loader s.cfg e _) (upd_eq_self he)

theorem step_refines (s : Store) (op : Op) :
    (s.step c op).2 = (s.abs.step c op).2 ∧ (s.step c op).1.abs = (s.abs.step c op).1 := by
  cases op with
  | get n => exact get_refines c s n
  | addBorrowed n src =>
    simp only [Store.step, Spec.step, show s.abs.cfg = s.cfg from rfl]
    cases c s.cfg src
    · exact ⟨rfl, rfl⟩
    · exact ⟨rfl, abs_upd s n (find_ins s.borrowed n (src, s.cfg)) (find_del s.owned n)⟩
  | addOwned n src =>
    simp only [Store.step, Spec.step, show s.abs.cfg = s.cfg from rfl]
    cases c s.cfg src
    · exact ⟨rfl, rfl⟩
    · exact ⟨rfl, abs_upd s n (find_del s.borrowed n) (find_ins s.owned n ((src, s.cfg), .explicit))⟩
  | remove n => exact ⟨rfl, abs_upd s n (find_del s.borrowed n) (find_del s.owned n)⟩
  | clear | setLoader l | setCfg l => exact ⟨rfl, rfl⟩

def flatAt (e c : Option Tmpl) : Option Tmpl :=
  match e with
  | some t => some t
  | none => c

theorem flat_contents (sp : Spec) (m : Name) : sp.flat.contents m = flatAt (sp.explicit m) (sp.cached m) := rfl

theorem flat_upd (sp : Spec) (n : Name) (x y : Option Tmpl) :
    ({ sp with explicit := upd sp.explicit n x, cached := upd sp.cached n y } : Spec).flat =
      { sp.flat with contents := upd sp.flat.contents n (flatAt x y) } :=
  congrArg (Flat.mk sp.loader sp.cfg) (upd_map₂ flatAt sp.explicit sp.cached n x y)

/-- the explicit/cached distinction is a ghost: operations are determined by the union -/
theorem spec_step_refines (sp : Spec) (op : Op) :
    (sp.step c op).2 = (sp.flat.step c op).2 ∧ (sp.step c op).1.flat = (sp.flat.step c op).1 := by
  cases op with
  | get n =>
    show (sp.get c n).2 = (sp.flat.get c n).2 ∧ (sp.get c n).1.flat = (sp.flat.get c n).1
    have hf := flat_contents sp n
    cases he : sp.explicit n with
    | some t =>
      rw [he] at hf
      rw [Spec.get_explicit c he, Flat.get_hit c hf]
      exact ⟨rfl, rfl⟩
    | none =>
      rw [he] at hf
      cases hc : sp.cached n with
      | some t =>
        rw [hc] at hf
        rw [Spec.get_cached c he hc, Flat.get_hit c hf]
        exact ⟨rfl, rfl⟩
      | none =>
        rw [hc] at hf
        rw [Spec.get_miss c he hc, Flat.get_miss c hf]
        refine memo_refines Spec.flat _ _ _ _ fun t => ?_
        have := flat_upd sp n none (some t)
        rwa [upd_eq_self he] at this
  | addBorrowed n src | addOwned n src =>
    simp only [Spec.step, Flat.step, show sp.flat.cfg = sp.cfg from rfl]
    cases c sp.cfg src
    · exact ⟨rfl, rfl⟩
    · exact ⟨rfl, flat_upd sp n (some (src, sp.cfg)) none⟩
  | remove n => exact ⟨rfl, flat_upd sp n none none⟩
  | clear | setLoader l | setCfg l => exact ⟨rfl, rfl⟩

def Store.flat (s : Store) : Flat := s.abs.flat

theorem store_step_flat (s : Store) (op : Op) :
    (s.step c op).2 = (s.flat.step c op).2 ∧ (s.step c op).1.flat = (s.flat.step c op).1 := by
  obtain ⟨h1, h2⟩ := step_refines c s op
  obtain ⟨h3, h4⟩ := spec_step_refines c s.abs op
  exact ⟨h1.trans h3, by unfold Store.flat; rw [h2, h4]⟩

theorem results_flat (ops : List Op) :
    ∀ s : Store, s.results c ops = s.flat.results c ops := by
  induction ops with
  | nil => intro s; rfl
  | cons op ops ih =>
    intro s
    obtain ⟨h1, h2⟩ := store_step_flat c s op
    simp only [Store.results, Flat.results]
    rw [ih, h1, h2]

theorem run_flat (ops : List Op) :
    ∀ s : Store, (s.run c ops).flat = s.flat.run c ops := by
  induction ops with
  | nil => intro s; rfl
  | cons op ops ih =>
    intro s
    simp only [Store.run, Flat.run]
    rw [ih, (store_step_flat c s op).2]

theorem Store.run_append (l : List Op) (op : Op) :
    ∀ s : Store, Store.run c s (l ++ [op]) = ((Store.run c s l).step c op).1 := by
  induction l with
  | nil => intro s; rfl
  | cons a l ih => intro s; exact ih _

theorem flat_get_keeps (f : Flat) (m n : Name) (t : Tmpl)
    (h : f.contents n = some t) : (f.get c m).1.contents n = some t := by
  rcases Flat.get_fst c f m with h' | ⟨t', hm, _, h'⟩
  · rw [h']; exact h
  · rw [h']; exact (upd_ne f.contents _ (fun e => by rw [e, hm] at h; cases h)).trans h

theorem flat_step_keeps (f : Flat) (op : Op) (n : Name) (src : Tmpl)
    (h : f.contents n = some src) (he : op.evicts n = false) :
    (f.step c op).1.contents n = some src := by
  have keep : ∀ m v, (m == n) = false → upd f.contents m v n = some src := fun m v hm =>
    (upd_ne f.contents v (fun e => by simp [e] at hm)).trans h
  cases op with
  | addBorrowed m s2 | addOwned m s2 =>
    simp only [Flat.step]
    cases c f.cfg s2
    · exact h
    · exact keep m _ he
  | remove m => exact keep m _ he
  | clear => cases he
  | setLoader l | setCfg l => exact h
  | get m => exact flat_get_keeps c f m n src h

theorem flat_run_keeps (ops : List Op) (n : Name) (src : Tmpl) :
    ∀ f : Flat, f.contents n = some src → (∀ op ∈ ops, op.evicts n = false) →
      (f.run c ops).contents n = some src := by
  induction ops with
  | nil => intro f h _; exact h
  | cons op ops ih =>
    intro f h he
    exact ih _ (flat_step_keeps c f op n src h (he op (List.mem_cons_self ..)))
      (fun o ho => he o (List.mem_cons_of_mem _ ho))

theorem flat_get_found (f : Flat) (n : Name) (src : Tmpl)
    (h : (f.step c (.get n)).2 = .found src) : (f.step c (.get n)).1.contents n = some src := by
  change (f.get c n).2 = .found src at h
  show (f.get c n).1.contents n = some src
  cases hn : f.contents n with
  | some t =>
    rw [Flat.get_hit c hn] at h ⊢
    cases h
    exact hn
  | none =>
    rw [Flat.get_miss c hn] at h ⊢
    rw [memo_snd] at h
    rw [h]
    exact upd_self f.contents n _

theorem found_of_contents (s : Store) (n : Name) (t : Tmpl)
    (h : s.flat.contents n = some t) : (s.get c n).2 = .found t :=
  (store_step_flat c s (.get n)).1.trans (congrArg Prod.snd (Flat.get_hit c h))

theorem add_contents (s : Store) (n : Name) (src : Source)
    (h : c s.cfg src = true) (op : Op) (hop : op = .addBorrowed n src ∨ op = .addOwned n src) :
    (s.step c op).1.flat.contents n = some (src, s.cfg) := by
  rw [(store_step_flat c s op).2]
  rcases hop with rfl | rfl <;> simp only [Flat.step, show s.flat.cfg = s.cfg from rfl, h, if_true] <;>
    exact upd_self _ _ _

theorem Flat.get_snd (f : Flat) (n : Name) :
    (f.get c n).2 = match f.contents n with
      | some t => .found t
      | none => load c f.loader f.cfg n := by
  cases h : f.contents n with
  | some t => rw [Flat.get_hit c h]
  | none => rw [Flat.get_miss c h, memo_snd]

theorem Flat.get_frame (f : Flat) (m : Name) :
    (f.get c m).1.loader = f.loader ∧ (f.get c m).1.cfg = f.cfg := by
  rcases Flat.get_fst c f m with h' | ⟨t, _, _, h'⟩
  · rw [h']; exact ⟨rfl, rfl⟩
  · rw [h']; exact ⟨rfl, rfl⟩

theorem flat_get_get_result (f : Flat) (m n : Name) :
    ((f.get c m).1.get c n).2 = (f.get c n).2 := by
  rcases Flat.get_fst c f m with h' | ⟨t, hm, hl, h'⟩
  · rw [h']
  · -- `m` is memoised as `t`: a lookup of `m` then hits what it would have loaded, others see no change
    rw [h', Flat.get_snd, Flat.get_snd]
    by_cases hnm : n = m
    · subst hnm; simp only [upd_self, hm, hl]
    · simp only [upd_ne _ _ hnm]

theorem get_get_result (s : Store) (m n : Name) :
    ((s.get c m).1.get c n).2 = (s.get c n).2 :=
  ((store_step_flat c (s.get c m).1 (.get n)).1.trans
    (congrArg (fun f => (Flat.get c f n).2) (store_step_flat c s (.get m)).2)).trans
    ((flat_get_get_result c s.flat m n).trans (store_step_flat c s (.get n)).1.symm)

theorem run_gets_get (l : List Op) (hl : ∀ op ∈ l, ∃ m, op = .get m) (n : Name) :
    ∀ s : Store, ((Store.run c s l).get c n).2 = (s.get c n).2 := by
  induction l with
  | nil => intro s; rfl
  | cons op l ih =>
    intro s
    obtain ⟨m, rfl⟩ := hl op (List.mem_cons_self ..)
    exact (ih (fun o ho => hl o (List.mem_cons_of_mem _ ho)) _).trans (get_get_result c s m n)

def keys {β : Type} (l : List (Name × β)) : List Name := l.map (·.1)

theorem keys_del {β : Type} (l : List (Name × β)) (n : Name) :
    keys (del l n) = (keys l).filter (fun m => m != n) := by
  unfold keys del
  rw [List.filter_map]
  rfl

theorem find_eq_none_iff {β : Type} (l : List (Name × β)) (n : Name) : find l n = none ↔ n ∉ keys l := by
  fun_induction find l n with
  | case1 => exact ⟨fun _ => List.not_mem_nil, fun _ => rfl⟩
  | case2 v t n => exact ⟨nofun, fun h => absurd (List.mem_cons_self ..) h⟩
  | case3 k v t n hk ih =>
    exact ih.trans ⟨fun h hm => (List.mem_cons.mp hm).elim (fun e => hk e.symm) h, fun h hm => h (List.mem_cons_of_mem _ hm)⟩

theorem nodup_filter_ne {l : List Name} (h : l.Nodup) (n : Name) : (l.filter (fun m => m != n)).Nodup :=
  h.filter _

def Store.Inv (s : Store) : Prop :=
  (keys s.borrowed).Nodup ∧ (keys s.owned).Nodup ∧ ∀ n ∈ keys s.borrowed, n ∉ keys s.owned

theorem Store.empty_inv : Store.empty.Inv :=
  ⟨List.nodup_nil, List.nodup_nil, fun _ h => absurd h List.not_mem_nil⟩

theorem not_mem_keys_del {β : Type} (l : List (Name × β)) (n : Name) : n ∉ keys (del l n) := by
  rw [keys_del, List.mem_filter]
  exact fun h => by simp at h

theorem mem_keys_of_mem_del {β : Type} {l : List (Name × β)} {n m : Name} (h : m ∈ keys (del l n)) :
    m ∈ keys l := by
  rw [keys_del] at h
  exact (List.mem_filter.mp h).1

/-- Every change of the tiers is made of these: taking a name out of a tier keeps the invariant, and
    so does putting a name that is in neither tier in front of one. -/
theorem Store.Inv.del_borrowed {s : Store} (h : s.Inv) (n : Name) :
    ({ s with borrowed := del s.borrowed n } : Store).Inv :=
  ⟨by show (keys (del s.borrowed n)).Nodup; rw [keys_del]; exact h.1.filter _, h.2.1,
   fun m hm => h.2.2 m (mem_keys_of_mem_del hm)⟩

theorem Store.Inv.del_owned {s : Store} (h : s.Inv) (n : Name) :
    ({ s with owned := del s.owned n } : Store).Inv :=
  ⟨h.1, by show (keys (del s.owned n)).Nodup; rw [keys_del]; exact h.2.1.filter _,
   fun m hm hmo => h.2.2 m hm (mem_keys_of_mem_del hmo)⟩

theorem Store.Inv.cons_borrowed {s : Store} (h : s.Inv) {n : Name} (hb : n ∉ keys s.borrowed)
    (ho : n ∉ keys s.owned) (t : Tmpl) : ({ s with borrowed := (n, t) :: s.borrowed } : Store).Inv :=
  ⟨List.nodup_cons.mpr ⟨hb, h.1⟩, h.2.1,
   fun m hm => (List.mem_cons.mp hm).elim (fun e => e ▸ ho) (h.2.2 m)⟩

theorem Store.Inv.cons_owned {s : Store} (h : s.Inv) {n : Name} (hb : n ∉ keys s.borrowed)
    (ho : n ∉ keys s.owned) (x : Tmpl × Origin) : ({ s with owned := (n, x) :: s.owned } : Store).Inv :=
  ⟨h.1, List.nodup_cons.mpr ⟨ho, h.2.1⟩,
   fun m hm hmo => (List.mem_cons.mp hmo).elim (fun (e : m = n) => hb (e ▸ hm)) (h.2.2 m hm)⟩

theorem Store.get_inv (s : Store) (n : Name) (h : s.Inv) :
    (s.get c n).1.Inv := by
  rcases Store.get_fst c s n with h' | ⟨t, hb, _, h'⟩
  · rw [h']; exact h
  · rw [h']; exact (h.del_owned n).cons_owned ((find_eq_none_iff _ _).mp hb) (not_mem_keys_del _ n) _

theorem Store.step_inv (s : Store) (op : Op) (h : s.Inv) :
    (s.step c op).1.Inv := by
  cases op with
  | get n => exact Store.get_inv c s n h
  | addBorrowed n src =>
    simp only [Store.step]
    cases c s.cfg src
    · exact h
    · exact ((h.del_borrowed n).del_owned n).cons_borrowed (not_mem_keys_del _ n) (not_mem_keys_del _ n) _
  | addOwned n src =>
    simp only [Store.step]
    cases c s.cfg src
    · exact h
    · exact ((h.del_borrowed n).del_owned n).cons_owned (not_mem_keys_del _ n) (not_mem_keys_del _ n) _
  | remove n => exact (h.del_borrowed n).del_owned n
  | clear => exact Store.empty_inv
  | setLoader l | setCfg l => exact h

theorem Store.run_inv (ops : List Op) : ∀ s : Store, s.Inv → (s.run c ops).Inv := by
  induction ops with
  | nil => intro s h; exact h
  | cons op ops ih => intro s h; exact ih _ (Store.step_inv c s op h)

theorem Store.iter_names_nodup (s : Store) (h : s.Inv) : (s.iter.map (·.1)).Nodup := by
  obtain ⟨h1, h2, h3⟩ := h
  unfold Store.iter
  rw [List.map_append, List.map_map]
  exact List.nodup_append.mpr ⟨h1, h2, fun a ha b hb e => h3 a ha (e ▸ hb)⟩

theorem find_eq_some_iff {β : Type} (l : List (Name × β)) (h : (keys l).Nodup) (n : Name) (v : β) :
    find l n = some v ↔ (n, v) ∈ l := by
  fun_induction find l n with
  | case1 => exact ⟨nofun, fun h => absurd h List.not_mem_nil⟩
  | case2 w t n =>
    have hn : ∀ x, (n, x) ∉ t := fun x hm => (List.nodup_cons.mp h).1 (List.mem_map_of_mem (f := (·.1)) hm)
    rw [List.mem_cons, Prod.mk.injEq, Option.some.injEq]
    exact ⟨fun hw => Or.inl ⟨rfl, hw.symm⟩, fun h => h.elim (fun h => h.2.symm) (fun hm => absurd hm (hn v))⟩
  | case3 k w t n hk ih =>
    rw [ih (List.nodup_cons.mp h).2, List.mem_cons, Prod.mk.injEq]
    exact ⟨Or.inr, fun h => h.elim (fun h => absurd h.1.symm hk) id⟩

theorem find_append {β : Type} (l₁ l₂ : List (Name × β)) (n : Name) :
    find (l₁ ++ l₂) n = (find l₁ n).or (find l₂ n) := by
  fun_induction find l₁ n with
  | case1 => rfl
  | case2 v t n => exact if_pos rfl
  | case3 k v t n h ih => exact (if_neg h).trans ih

theorem find_map {β γ : Type} (g : β → γ) (l : List (Name × β)) (n : Name) :
    find (l.map fun p => (p.1, g p.2)) n = (find l n).map g := by
  fun_induction find l n with
  | case1 => rfl
  | case2 v t n => exact if_pos rfl
  | case3 k v t n h ih => exact (if_neg h).trans ih

/-- `LoaderStore::iter`, read as an association list, is the contents of the store — whatever the
    tiers hold: an owned entry under a borrowed name is shadowed in both. -/
theorem Store.find_iter (s : Store) (n : Name) : find s.iter n = s.flat.contents n := by
  unfold Store.iter Store.flat
  rw [find_append, find_map, flat_contents, abs_explicit, abs_cached]
  cases find s.borrowed n with
  | some t => rfl
  | none =>
    cases find s.owned n with
    | none => rfl
    | some p =>
      obtain ⟨t, o⟩ := p
      cases o <;> rfl

/-- `LoaderStore::iter` yields `(n, t)` exactly when a lookup of `n` is answered with `t` from the
    store itself (no loader involved) -/
theorem Store.mem_iter_iff (s : Store) (h : s.Inv) (n : Name) (t : Tmpl) :
    (n, t) ∈ s.iter ↔ s.flat.contents n = some t := by
  rw [← Store.find_iter]
  exact (find_eq_some_iff s.iter (Store.iter_names_nodup s h) n t).symm

end MJ.Store
