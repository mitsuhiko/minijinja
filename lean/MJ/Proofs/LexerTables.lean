import MJ.Proofs.LexerTok
import MJ.Gen.Tables
/-! The literal tables of `lexer.rs` / `utils.rs` that the model transcribes (`MJ.Gen`), stated for
every character; the `table_*` theorems of `Props/C10.lean` are their restrictions to ASCII. -/
namespace MJ.Lexer

/-- `singleOp` is the lookup in the operator table of the source: off the operator characters both
    sides are `none` (`singleOp_none`), on them both are evaluated -/
theorem singleOp_eq_table (c : Char) :
    singleOp c = (MJ.Gen.c10SingleOps.find? (·.1 == c)).map (·.2) := by
  by_cases hc : c ∈ opChars
  · revert c; decide +kernel
  · have hne : ∀ k ∈ opChars, c ≠ k := fun k hk h => hc (h ▸ hk)
    rw [singleOp_none hne, List.find?_eq_none.2 fun x hx => ?_]; rfl
    have : x.1 ∈ opChars := (by decide +kernel : ∀ x ∈ MJ.Gen.c10SingleOps, x.1 ∈ opChars) x hx
    simpa using fun h => hne _ this h.symm

/-- behind `0` exactly the letters of the radix table start a radix prefix -/
theorem radixPrefix_isSome_eq_table (a : Char) :
    (radixPrefix '0' [a]).isSome = MJ.Gen.c10RadixPrefixes.any (·.2.1 == a) := by
  by_cases ha : a ∈ ['b', 'B', 'o', 'O', 'x', 'X']
  · revert a; decide +kernel
  · simp only [List.mem_cons, List.not_mem_nil, or_false, not_or] at ha
    obtain ⟨h1, h2, h3, h4, h5, h6⟩ := ha
    have e : ∀ k : Char, a ≠ k → (k == a) = false := fun k h => by simpa using fun h' => h h'.symm
    simp [radixPrefix, MJ.Gen.c10RadixPrefixes, h1, h2, h3, h4, h5, h6, e]

/-- behind a backslash only `u`, `x` and the octal digits start an escape that takes further
    characters; every other character is taken as it is -/
theorem strStep_bs_table (c : Char) :
    (match strStep '"' .bs 0 c with
      | .cont (.u 0 0) 0 => c == 'u'
      | .cont (.x 0) 0 => c == 'x'
      | .cont (.oct 2 v) 0 => isOct c && v == c.toNat - 48
      | .cont .txt 0 => !(c == 'u' || c == 'x' || isOct c)
      | _ => false) = true := by
  by_cases hu : c = 'u'
  · subst hu; decide
  · by_cases hx : c = 'x'
    · subst hx; decide
    · cases ho : isOct c <;> simp [strStep, hu, hx, ho]

theorem toNat_ofNat_of_lt {n : Nat} (h : n < 128) : (Char.ofNat n).toNat = n := by
  have hv : n.isValidChar := Or.inl (by omega)
  simp [Char.ofNat, hv, Char.ofNatAux, Char.toNat, UInt32.toNat]

end MJ.Lexer
