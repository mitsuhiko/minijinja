import MJ.Proofs.CmpF64Order
/-!
# `n as f64` (round to nearest, ties to even) — what the proofs need to know about it

* `ofNat_spec`: the result is the finite float whose exact value is `rnd n`;
* `scaledOfMag_multiple`: every float of magnitude at least `2^l` is a multiple of `2^(l-52)`;
* `rnd_eq_rne`: above `2^53`, `rnd n` is `n / 2^k` rounded by `rne` (nearest, ties to even), times `2^k`, `k = ⌊log2 n⌋ - 52`;
  `rne_between`: no multiple of `d` lies strictly between `p` and `rne p d * d`;
* `rnd_below` / `rnd_above`: hence no float lies strictly between `n` and `rnd n`.

`rne` and the grid lemma are shared with the float operators (`MJ.Proofs.NumRound`), whence their namespace.
-/
namespace MJ.F64

theorem P52_eq : P52 = 2 ^ 52 := by decide
theorem P63_eq : P63 = 2 ^ 63 := by decide
theorem infMag_eq : infMag = 2047 * P52 := by decide

/-- the exact value of `n as f64` -/
def rnd (n : Nat) : Nat :=
  if n = 0 then 0
  else
    let l := Nat.log2 n
    if l ≤ 52 then n
    else
      let k := l - 52
      let q := n / 2 ^ k
      let r := n % 2 ^ k
      let half := 2 ^ (k - 1)
      (if half < r ∨ (r = half ∧ q % 2 = 1) then q + 1 else q) * 2 ^ k

/-- decoding `e * 2^52 + m` with `m ≤ 2^52` (a mantissa overflow carries into the exponent) -/
theorem scaledOfMag_em (e m : Nat) (he : 1 ≤ e) (hm : m ≤ P52) :
    scaledOfMag (e * P52 + m) = (P52 + m) * 2 ^ (e - 1) := by
  unfold scaledOfMag
  by_cases hlt : m < P52
  · have h1 : (e * P52 + m) / P52 = e := by
      rw [Nat.mul_comm, Nat.mul_add_div P52_pos, Nat.div_eq_of_lt hlt]; rfl
    have h2 : (e * P52 + m) % P52 = m := by
      rw [Nat.mul_comm, Nat.mul_add_mod, Nat.mod_eq_of_lt hlt]
    rw [h1, h2, if_neg (by omega)]
  · have hm' : m = P52 := by omega
    subst hm'
    have h0 : e * P52 + P52 = P52 * (e + 1) := by rw [Nat.mul_comm, Nat.mul_succ]
    have h1 : (e * P52 + P52) / P52 = e + 1 := by
      rw [h0, Nat.mul_div_cancel_left _ P52_pos]
    have h2 : (e * P52 + P52) % P52 = 0 := by
      rw [h0, Nat.mul_mod_right]
    rw [h1, h2, if_neg (by omega)]
    have : e + 1 - 1 = (e - 1) + 1 := by omega
    rw [this, Nat.pow_succ]
    simp only [Nat.add_zero, P52]
    generalize 2 ^ (e - 1) = t
    omega

theorem log2_bounds {n : Nat} (h : n ≠ 0) : 2 ^ n.log2 ≤ n ∧ n < 2 ^ (n.log2 + 1) :=
  ⟨Nat.log2_self_le h, Nat.lt_log2_self⟩

/-- the quotient that becomes the 53-bit significand -/
theorem q_bounds {n l : Nat} (hl : 52 < l) (h1 : 2 ^ l ≤ n) (h2 : n < 2 ^ (l + 1)) :
    P52 ≤ n / 2 ^ (l - 52) ∧ n / 2 ^ (l - 52) < 2 * P52 := by
  have hk : 0 < 2 ^ (l - 52) := Nat.pow_pos (by omega)
  have e1 : 2 ^ l = P52 * 2 ^ (l - 52) := by
    rw [P52_eq, ← Nat.pow_add]; congr 1; omega
  have e2 : 2 ^ (l + 1) = 2 * P52 * 2 ^ (l - 52) := by
    rw [Nat.pow_succ, e1]
    simp only [P52]
    generalize 2 ^ (l - 52) = t
    omega
  constructor
  · rw [Nat.le_div_iff_mul_le hk, ← e1]; exact h1
  · rw [Nat.div_lt_iff_lt_mul hk, ← e2]; exact h2

/-- the bits of a significand `X ∈ [2^52, 2^53]` at exponent `l` (`X = 2^53` carries): a finite float of value
    `X·2^(l-52)` -/
theorem encode_spec {l X : Nat} (hl : l < 1000) (h1 : P52 ≤ X) (h2 : X ≤ 2 * P52) :
    (l + 1023) * P52 + (X - P52) < infMag ∧
    scaledOfMag ((l + 1023) * P52 + (X - P52)) = X * 2 ^ (l + 1022) := by
  refine ⟨?_, ?_⟩
  · rw [infMag_eq]; simp only [P52] at *; omega
  · rw [scaledOfMag_em (l + 1023) (X - P52) (by omega) (by omega),
      show P52 + (X - P52) = X by omega, show l + 1023 - 1 = l + 1022 by omega]

/-- the bits `n as f64` decode to the value `rnd n`; the result is a finite non-negative float -/
theorem ofNat_spec (n : Nat) (hn : n.log2 < 1000) :
    ofNat n < infMag ∧ scaledOfMag (ofNat n) = rnd n * scale := by
  unfold ofNat rnd
  by_cases h0 : n = 0
  · subst h0
    rw [if_pos rfl, if_pos rfl, scaledOfMag_zero, Nat.zero_mul]
    exact ⟨by decide, rfl⟩
  · rw [if_neg h0, if_neg h0]
    obtain ⟨b1, b2⟩ := log2_bounds h0
    simp only []
    by_cases hl : n.log2 ≤ 52
    · rw [if_pos hl, if_pos hl]
      -- the significand is `n` shifted up to 53 bits
      refine And.imp_right (fun b => b.trans ?_) (encode_spec hn ?_ ?_)
      · have : 2 ^ n.log2 * 2 ^ (52 - n.log2) = P52 := by rw [P52_eq, ← Nat.pow_add]; congr 1; omega
        rw [← this]; exact Nat.mul_le_mul_right _ b1
      · have : 2 ^ (n.log2 + 1) * 2 ^ (52 - n.log2) = 2 * P52 := by
          rw [P52_eq, ← Nat.pow_add, show n.log2 + 1 + (52 - n.log2) = 52 + 1 by omega, Nat.pow_succ, Nat.mul_comm]
        rw [← this]; exact Nat.mul_le_mul_right _ (Nat.le_of_lt b2)
      · rw [Nat.mul_assoc, ← Nat.pow_add, show 52 - n.log2 + (n.log2 + 1022) = 1074 by omega]
        rfl
    · rw [if_neg hl, if_neg hl]
      -- the significand is the quotient by `2^(l-52)`, rounded
      obtain ⟨q1, q2⟩ := q_bounds (by omega) b1 b2
      refine And.imp_right (fun b => b.trans ?_) (encode_spec hn ?_ ?_)
      · split <;> omega
      · split <;> omega
      · rw [Nat.mul_assoc]
        show _ * 2 ^ (n.log2 + 1022) = _ * (2 ^ (n.log2 - 52) * 2 ^ 1074)
        rw [← Nat.pow_add, show n.log2 - 52 + 1074 = n.log2 + 1022 by omega]

theorem scale_eq_pow : scale = 2 ^ 1074 := rfl
theorem scale_pos' : 0 < scale := Nat.pow_pos (by omega)

end MJ.F64

namespace MJ.NumF
open MJ.F64

theorem scaledOfMag_multiple (l m : Nat) (hl : 52 ≤ l) (h : 2 ^ l ≤ scaledOfMag m) :
    ∃ j, scaledOfMag m = j * 2 ^ (l - 52) := by
  unfold scaledOfMag at *
  have hf : m % P52 < P52 := Nat.mod_lt _ P52_pos
  generalize m / P52 = e at *
  generalize m % P52 = f at *
  by_cases he : e = 0
  · rw [if_pos he] at h
    exfalso
    have h1 : 2 ^ 52 ≤ 2 ^ l := two_pow_le hl
    rw [P52_eq] at hf
    omega
  · rw [if_neg he] at h ⊢
    have hlt : (P52 + f) * 2 ^ (e - 1) < 2 ^ (e + 52) := by
      have : 2 ^ (e + 52) = (P52 + P52) * 2 ^ (e - 1) := by
        rw [show e + 52 = (e - 1) + 53 by omega, Nat.pow_add]
        rw [show (2:Nat) ^ 53 = P52 + P52 by decide, Nat.mul_comm]
      rw [this]
      exact Nat.mul_lt_mul_of_pos_right (by omega) (Nat.pow_pos (by omega))
    have hexp : l < e + 52 := by
      have : 2 ^ l < 2 ^ (e + 52) := Nat.lt_of_le_of_lt h hlt
      exact (Nat.pow_lt_pow_iff_right (by omega)).mp this
    refine ⟨(P52 + f) * 2 ^ (e - 1 - (l - 52)), ?_⟩
    rw [Nat.mul_assoc]
    refine congrArg (fun t => (P52 + f) * t) ?_
    rw [← Nat.pow_add, show e - 1 - (l - 52) + (l - 52) = e - 1 by omega]

/-- `p / d` rounded to the nearest integer, ties to even -/
def rne (p d : Nat) : Nat :=
  if d < 2 * (p % d) ∨ (2 * (p % d) = d ∧ p / d % 2 = 1) then p / d + 1 else p / d

theorem le_rne (p d : Nat) : p / d ≤ rne p d := by
  unfold rne; split <;> omega

theorem rne_le_succ (p d : Nat) : rne p d ≤ p / d + 1 := by
  unfold rne; split <;> omega

theorem rne_between (p : Nat) {d : Nat} (hd : 0 < d) (j : Nat) :
    (p ≤ j * d → rne p d ≤ j) ∧ (j * d ≤ p → j ≤ rne p d) := by
  have hp : p / d * d + p % d = p := by rw [Nat.mul_comm]; exact Nat.div_add_mod p d
  constructor
  · intro h
    -- `j` is at least `p / d`, and more when `p` is not itself a multiple
    have hj : p / d ≤ j := Nat.div_le_of_le_mul (by rw [Nat.mul_comm]; exact h)
    rcases Nat.lt_or_eq_of_le hj with hlt | heq
    · exact Nat.le_trans (rne_le_succ p d) hlt
    · have h0 : p % d = 0 := by rw [← heq] at h; omega
      unfold rne; rw [h0, if_neg (by omega)]; omega
  · intro h
    exact Nat.le_trans ((Nat.le_div_iff_mul_le hd).mpr h) (le_rne p d)

end MJ.NumF

namespace MJ.F64
open MJ.NumF

theorem rnd_of_log2_le {n : Nat} (h : n.log2 ≤ 52) : rnd n = n := by
  unfold rnd
  split
  · next h0 => exact h0.symm
  · exact if_pos h

/-- above `2^53` the conversion `<int> as f64` rounds to a multiple of `2^k`, `k = ⌊log2 n⌋ - 52`,
    by the same rule as `encodeRat` -/
theorem _root_.MJ.NumF.rnd_eq_rne {n : Nat} (hl : 52 < n.log2) :
    rnd n = rne n (2 ^ (n.log2 - 52)) * 2 ^ (n.log2 - 52) := by
  have h0 : n ≠ 0 := by intro h; subst h; simp at hl
  have hk : 2 ^ (n.log2 - 52) = 2 * 2 ^ (n.log2 - 52 - 1) := by
    rw [← Nat.pow_succ']; congr 1; omega
  unfold rnd rne
  rw [if_neg h0]
  simp only []
  rw [if_neg (by omega)]
  rw [hk]
  generalize 2 ^ (n.log2 - 52 - 1) = half
  have hc : ∀ q r, (half < r ∨ r = half ∧ q % 2 = 1) ↔
      (2 * half < 2 * r ∨ 2 * r = 2 * half ∧ q % 2 = 1) := by intros; omega
  simp only [hc]

theorem le_rnd {n : Nat} (hl : 52 < n.log2) : 2 ^ n.log2 ≤ rnd n := by
  have h0 : n ≠ 0 := by intro h; rw [h] at hl; exact absurd hl (by decide)
  obtain ⟨b1, b2⟩ := log2_bounds h0
  rw [rnd_eq_rne hl, show 2 ^ n.log2 = P52 * 2 ^ (n.log2 - 52) by rw [P52_eq, ← Nat.pow_add]; congr 1; omega]
  exact Nat.mul_le_mul_right _ (Nat.le_trans (q_bounds hl b1 b2).1 (le_rne _ _))

/-- a float of magnitude at least `2^l` lies on the grid `rnd n` is rounded to (`l = ⌊log2 n⌋`) -/
theorem on_grid {n m : Nat} (hl : 52 < n.log2) (h : 2 ^ n.log2 * scale ≤ scaledOfMag m) :
    ∃ j, scaledOfMag m = j * 2 ^ (n.log2 - 52) * scale := by
  obtain ⟨j, hj⟩ := scaledOfMag_multiple (n.log2 + 1074) m (by omega) (by rw [Nat.pow_add]; exact h)
  refine ⟨j, ?_⟩
  rw [hj, Nat.mul_assoc, scale_eq_pow, ← Nat.pow_add]
  congr 2; omega

/-- no float lies strictly between `n` and `rnd n` from above … -/
theorem rnd_above (n m : Nat) (h : n * scale ≤ scaledOfMag m) : rnd n * scale ≤ scaledOfMag m := by
  by_cases hl : n.log2 ≤ 52
  · rw [rnd_of_log2_le hl]; exact h
  · have hl : 52 < n.log2 := by omega
    have h0 : n ≠ 0 := by intro h; rw [h] at hl; exact absurd hl (by decide)
    obtain ⟨j, hj⟩ := on_grid hl (Nat.le_trans (Nat.mul_le_mul_right _ (log2_bounds h0).1) h)
    rw [hj] at h ⊢
    rw [rnd_eq_rne hl]
    exact Nat.mul_le_mul_right _ (Nat.mul_le_mul_right _
      ((rne_between n (Nat.pow_pos (by omega)) j).1 (Nat.le_of_mul_le_mul_right h scale_pos')))

/-- … nor from below -/
theorem rnd_below (n m : Nat) (h : scaledOfMag m ≤ n * scale) : scaledOfMag m ≤ rnd n * scale := by
  by_cases hl : n.log2 ≤ 52
  · rw [rnd_of_log2_le hl]; exact h
  · have hl : 52 < n.log2 := by omega
    -- below `2^l` there is nothing to show: `rnd n` is at least `2^l`
    by_cases hg : 2 ^ n.log2 * scale ≤ scaledOfMag m
    · obtain ⟨j, hj⟩ := on_grid hl hg
      rw [hj] at h ⊢
      rw [rnd_eq_rne hl]
      exact Nat.mul_le_mul_right _ (Nat.mul_le_mul_right _
        ((rne_between n (Nat.pow_pos (by omega)) j).2 (Nat.le_of_mul_le_mul_right h scale_pos')))
    · exact Nat.le_trans (Nat.le_of_lt (Nat.lt_of_not_le hg)) (Nat.mul_le_mul_right _ (le_rnd hl))

end MJ.F64
