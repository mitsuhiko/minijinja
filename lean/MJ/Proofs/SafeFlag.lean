import MJ.Model.SafeProg
import MJ.Proofs.SafeInv
/-! C02: the machine.  Its invariant `StInv` (registers satisfy `V.Inv`, capture buffers and output are `Clean`) with
the side condition `StepOk` on a step, and the invariant with *flagged* capture buffers, `StInvF fl`, of which
`StInv` is the case where every buffer is flagged: `stepF_preserves_inv` under the flag discipline `StepRel`, then
`step_preserves_inv`, `run_preserves_inv`.  A buffer flagged `true` must stay free of data-tainted metacharacters
(its text becomes a `Safe` string when the capture ends in a mode other than `None`); a buffer flagged `false` may
hold anything: its text is discarded, becomes the text of a module object, or becomes an unmarked string (capture
that ends in mode `None`).  Last a Hoare logic for the interpreter monad: `HT fl fl' m` says that a successful run
of `m` takes `StInvF fl` to `StInvF fl'`. -/
namespace MJ.Safe

def StInv (st : St) : Prop := (∀ v ∈ st.pool, v.Inv) ∧ (∀ b ∈ st.caps, Clean b) ∧ Clean st.outR

theorem stInv_init : StInv ({} : St) :=
  ⟨fun v hv => by simp [Array.mem_def] at hv, fun b hb => (by cases hb), Clean.nil⟩

theorem StInv.out_clean {st : St} (h : StInv st) : Clean st.out := h.2.2.reverse

theorem pool_mem {st : St} {i : Nat} {v : V} (h : st.pool[i]? = some v) : v ∈ st.pool := by
  rw [Array.getElem?_eq_some_iff] at h
  obtain ⟨hi, rfl⟩ := h
  exact Array.getElem_mem hi

theorem args_inv {st : St} {is : List Nat} {xs : List V} (hp : ∀ v ∈ st.pool, v.Inv) (ha : st.args is = some xs) :
    ∀ x ∈ xs, x.Inv := by
  unfold St.args at ha
  refine mapM_all (P := V.Inv) ha ?_
  intro i _ b hb
  exact hp b (pool_mem hb)

theorem insertKV_inv {k : String} {v : V} (hv : v.Inv) (l : List (String × V)) (hl : ∀ kv ∈ l, kv.2.Inv) :
    ∀ kv ∈ insertKV k v l, kv.2.Inv := by
  fun_induction insertKV k v l
  · exact List.forall_mem_singleton.mpr hv
  · exact List.forall_mem_cons.mpr ⟨hv, hl⟩
  · exact List.forall_mem_cons.mpr ⟨hv, fun kv h => hl kv (.tail _ h)⟩
  · rename_i ih
    exact List.forall_mem_cons.mpr ⟨hl _ (.head _), ih fun kv h => hl kv (.tail _ h)⟩

theorem foldl_insertKV_inv : ∀ (kvs acc : List (String × V)), (∀ kv ∈ kvs, kv.2.Inv) → (∀ kv ∈ acc, kv.2.Inv) →
    ∀ kv ∈ kvs.foldl (fun acc kv => insertKV kv.1 kv.2 acc) acc, kv.2.Inv := by
  intro kvs
  induction kvs with
  | nil => intro acc _ ha; simpa using ha
  | cons p ps ih =>
    intro acc hk ha
    simp only [List.foldl_cons]
    exact ih _ (fun x hx => hk x (List.mem_cons_of_mem _ hx)) (insertKV_inv (hk p List.mem_cons_self) acc ha)

theorem kvArgs_inv {st : St} {kis : List (String × Nat)} {kvs : List (String × V)} (hp : ∀ v ∈ st.pool, v.Inv)
    (hk : st.kvArgs kis = some kvs) : (V.map (kvs.foldl (fun acc kv => insertKV kv.1 kv.2 acc) [])).Inv := by
  have hall : ∀ kv ∈ kvs, kv.2.Inv := by
    unfold St.kvArgs at hk
    refine mapM_all (P := fun kv : String × V => kv.2.Inv) hk ?_
    intro ki _ b hb
    simp only [Option.map_eq_some_iff] at hb
    obtain ⟨v, hv, rfl⟩ := hb
    exact hp v (pool_mem hv)
  exact inv_map.mpr (foldl_insertKV_inv kvs [] hall nofun)

/-- a step of the safe-marking-free fragment while HTML auto-escaping is in effect -/
def StepOk : Step → Prop
  | .emit m _ => m = .html
  | .apply g _ => InvPreserving g
  | .value v => v.Inv
  | _ => True

def CapsOk : List Bool → List TStr → Prop
  | [], [] => True
  | f :: fl, b :: bs => (f = true → Clean b) ∧ CapsOk fl bs
  | _, _ => False

theorem CapsOk.length_eq : ∀ {fl : List Bool} {caps : List TStr}, CapsOk fl caps → caps.length = fl.length
  | [], [], _ => rfl
  | _ :: _, _ :: _, h => congrArg (· + 1) (CapsOk.length_eq h.2)

def StInvF (fl : List Bool) (st : St) : Prop := (∀ v ∈ st.pool, v.Inv) ∧ CapsOk fl st.caps ∧ Clean st.outR

theorem stInvF_init : StInvF [] ({} : St) :=
  ⟨fun v hv => by simp [Array.mem_def] at hv, trivial, Clean.nil⟩

theorem StInvF.out_clean {fl : List Bool} {st : St} (h : StInvF fl st) : Clean st.out := h.2.2.reverse

theorem capsOk_all_true : ∀ (caps : List TStr), CapsOk (caps.map fun _ => true) caps ↔ ∀ b ∈ caps, Clean b
  | [] => by simp [CapsOk]
  | b :: bs => by simp [CapsOk, capsOk_all_true bs]

theorem stInv_iff_flagged (st : St) : StInv st ↔ StInvF (st.caps.map fun _ => true) st := by
  unfold StInv StInvF
  rw [capsOk_all_true]

theorem StInvF.push {fl : List Bool} {st : St} {v : V} (h : StInvF fl st) (hv : v.Inv) : StInvF fl (st.push v) := by
  obtain ⟨hp, hc, ho⟩ := h
  refine ⟨?_, by simpa [St.push_eq] using hc, by simpa [St.push_eq] using ho⟩
  intro x hx
  simp only [St.push_eq, Array.mem_push] at hx
  rcases hx with hx | rfl
  · exact hp x hx
  · exact hv

theorem StInvF.write_clean {fl : List Bool} {st : St} {s : TStr} (h : StInvF fl st) (hs : Clean s) : StInvF fl (st.write s) := by
  obtain ⟨hp, hc, ho⟩ := h
  unfold St.write
  split
  · rename_i heq
    exact ⟨hp, by simpa [heq] using hc, hs.reverse.append ho⟩
  · rename_i b r heq
    refine ⟨hp, ?_, ho⟩
    rw [heq] at hc
    cases fl with
    | nil => simp [CapsOk] at hc
    | cons f fl =>
      simp only [CapsOk] at hc ⊢
      exact ⟨fun hf => hs.reverse.append (hc.1 hf), hc.2⟩

theorem StInvF.write_any {fl : List Bool} {st : St} {s : TStr} (h : StInvF (false :: fl) st) : StInvF (false :: fl) (st.write s) := by
  obtain ⟨hp, hc, ho⟩ := h
  unfold St.write
  split
  · rename_i heq
    rw [heq] at hc
    simp [CapsOk] at hc
  · rename_i b r heq
    refine ⟨hp, ?_, ho⟩
    rw [heq] at hc
    simp only [CapsOk] at hc ⊢
    exact ⟨fun hf => (by cases hf), hc.2⟩

/-- how a step may change the flags, and what it needs -/
def StepRel : Step → List Bool → List Bool → Prop
  | .emit m _, fl, fl' => fl' = fl ∧ (m = .html ∨ (m = .none ∧ ∃ r, fl = false :: r))
  | .apply g _, fl, fl' => fl' = fl ∧ InvPreserving g
  | .value v, fl, fl' => fl' = fl ∧ v.Inv
  | .beginCapture, fl, fl' => ∃ c, fl' = c :: fl
  | .endCapture m, fl, fl' => ∃ c, fl = c :: fl' ∧ (m ≠ .none → c = true)
  | .macroReturn m, fl, fl' => ∃ c, fl = c :: fl' ∧ (m ≠ .none → c = true)
  | _, fl, fl' => fl' = fl

theorem endCapture_flag {fl : List Bool} {c : Bool} {st : St} {m : Mode} {buf : TStr} {rest : List TStr}
    (h : StInvF (c :: fl) st) (hm : m ≠ .none → c = true) (heq : st.caps = buf :: rest) :
    StInvF fl ({ st with caps := rest }.push (capturedValue m buf.reverse)) := by
  obtain ⟨hp, hc, ho⟩ := h
  rw [heq] at hc
  simp only [CapsOk] at hc
  have base : StInvF fl { st with caps := rest } := ⟨hp, hc.2, ho⟩
  refine base.push (inv_str fun hs => ?_)
  have : m ≠ .none := by
    intro hmn; subst hmn; simp at hs
  exact (hc.1 (hm this)).reverse

theorem stepF_preserves_inv (s : Step) (fl fl' : List Bool) (st st' : St) (hrel : StepRel s fl fl')
    (h : StInvF fl st) (hr : s.run st = some st') : StInvF fl' st' := by
  revert hr
  fun_cases Step.run st s <;> intro hr <;> simp only [StepRel] at hrel <;> try cases hr
  · subst hrel; exact h.push (inv_str_false _)
  · subst hrel; exact h.push (inv_int _)
  · subst hrel; exact h.push (inv_bool _)
  · subst hrel; exact h.push inv_none
  · subst hrel; exact h.push inv_undef
  · subst hrel
    simp only [Option.map_eq_some_iff] at hr
    obtain ⟨xs, hxs, rfl⟩ := hr
    exact h.push (inv_seq.mpr (args_inv h.1 hxs))
  · subst hrel
    simp only [Option.map_eq_some_iff] at hr
    obtain ⟨kvs, hkvs, rfl⟩ := hr
    exact h.push (kvArgs_inv h.1 hkvs)
  · obtain ⟨rfl, hv⟩ := hrel; exact h.push hv
  · subst hrel; exact h.write_clean (Clean.ofTmpl _)
  · obtain ⟨rfl, hm⟩ := hrel
    simp only [Option.map_eq_some_iff] at hr
    obtain ⟨v, hv, rfl⟩ := hr
    rcases hm with rfl | ⟨_, r, rfl⟩
    · exact h.write_clean (writeEscaped_html_clean (h.1 v (pool_mem hv)))
    · exact h.write_any
  · obtain ⟨c, rfl⟩ := hrel
    exact ⟨h.1, by simp only [CapsOk]; exact ⟨fun _ => Clean.nil, h.2.1⟩, h.2.2⟩
  · obtain ⟨c, rfl, hm⟩ := hrel; exact endCapture_flag h hm ‹_›
  · obtain ⟨c, rfl, hm⟩ := hrel; exact endCapture_flag h hm ‹_›
  · obtain ⟨rfl, hg⟩ := hrel
    rename_i xs hxs
    simp only [Option.map_eq_some_iff] at hr
    obtain ⟨r, hgr, rfl⟩ := hr
    exact h.push (hg xs r (args_inv h.1 hxs) hgr)

theorem capsOk_clean : ∀ {fl : List Bool} {caps : List TStr}, CapsOk fl caps → (∀ f ∈ fl, f = true) → ∀ b ∈ caps, Clean b
  | [], [], _, _ => nofun
  | f :: _, _ :: _, h, hall =>
    List.forall_mem_cons.mpr ⟨h.1 (hall f (.head _)), capsOk_clean h.2 fun f hf => hall f (.tail _ hf)⟩

theorem StInvF.unflagged {fl : List Bool} {st : St} (h : StInvF fl st) (hall : ∀ f ∈ fl, f = true) : StInv st :=
  ⟨h.1, capsOk_clean h.2.1 hall, h.2.2⟩

/-- each primitive step of the fragment maps a state satisfying the invariant (all registers `Inv`,
    every capture buffer and the output free of data-tainted metacharacters) to such a state -/
theorem step_preserves_inv (s : Step) (st st' : St) (hok : StepOk s) (h : StInv st)
    (hr : s.run st = some st') : StInv st' := by
  have hall : ∀ caps : List TStr, ∀ f ∈ caps.map fun _ => true, f = true := fun _ f hf => by
    obtain ⟨_, _, rfl⟩ := List.mem_map.mp hf; rfl
  have hrel : ∃ fl', StepRel s (st.caps.map fun _ => true) fl' ∧ ∀ f ∈ fl', f = true := by
    have ends (m : Mode) (hr : (Step.endCapture m).run st = some st') :
        ∃ fl', (∃ c, (st.caps.map fun _ => true) = c :: fl' ∧ (m ≠ .none → c = true)) ∧ ∀ f ∈ fl', f = true := by
      cases hc : st.caps with
      | nil => simp [Step.run, hc] at hr
      | cons b bs => exact ⟨_, ⟨true, rfl, fun _ => rfl⟩, hall bs⟩
    cases s with
    | emit m i => exact ⟨_, ⟨rfl, Or.inl hok⟩, hall _⟩
    | apply g is => exact ⟨_, ⟨rfl, hok⟩, hall _⟩
    | value v => exact ⟨_, ⟨rfl, hok⟩, hall _⟩
    | beginCapture => exact ⟨_, ⟨true, rfl⟩, hall ([] :: st.caps)⟩
    | endCapture m => exact ends m hr
    | macroReturn m => exact ends m hr
    | _ => exact ⟨_, rfl, hall _⟩
  obtain ⟨fl', hrel, hfl'⟩ := hrel
  exact (stepF_preserves_inv s _ fl' st st' hrel ((stInv_iff_flagged st).mp h) hr).unflagged hfl'

theorem run_preserves_inv : ∀ (steps : List Step) (st st' : St), (∀ s ∈ steps, StepOk s) → StInv st →
    run steps st = some st' → StInv st'
  | [], st, st', _, h, hr => by simp only [run, Option.some.injEq] at hr; subst hr; exact h
  | s :: rest, st, st', hok, h, hr => by
    simp only [run] at hr
    split at hr
    · cases hr
    · rename_i st1 h1
      exact run_preserves_inv rest st1 st' (fun x hx => hok x (List.mem_cons_of_mem _ hx))
        (step_preserves_inv s st st1 (hok s List.mem_cons_self) h h1) hr

def HT {α : Type} (fl fl' : List Bool) (m : M α) : Prop :=
  ∀ st a st', StInvF fl st → m st = some (a, st') → StInvF fl' st'

theorem HT.pure {α : Type} {fl : List Bool} (a : α) : HT fl fl (Pure.pure a : M α) := by
  intro st a' st' h hr
  simp only [Pure.pure, M.pure, Option.some.injEq, Prod.mk.injEq] at hr
  obtain ⟨_, rfl⟩ := hr; exact h

theorem HT.fail {α : Type} {fl fl' : List Bool} : HT fl fl' (failM : M α) := by
  intro st a st' _ hr; simp [failM] at hr

theorem HT.bind {α β : Type} {fl fl1 fl2 : List Bool} {m : M α} {f : α → M β} (hm : HT fl fl1 m)
    (hf : ∀ a, HT fl1 fl2 (f a)) : HT fl fl2 (m >>= f) := by
  intro st b st' h hr
  simp only [Bind.bind, M.bind] at hr
  split at hr
  · cases hr
  · rename_i a st1 h1
    exact hf a st1 b st' (hm st a st1 h h1) hr

theorem HT.ofStep {α : Type} {s : Step} {fl fl' : List Bool} (hs : StepRel s fl fl') (f : St → α) :
    HT fl fl' (fun st => (s.run st).map fun st' => (f st', st')) := by
  intro st a st' h hr
  simp only [Option.map_eq_some_iff, Prod.mk.injEq] at hr
  obtain ⟨st1, h1, _, rfl⟩ := hr
  exact stepF_preserves_inv s fl fl' st st1 hs h h1

theorem HT.stepM {s : Step} {fl fl' : List Bool} (hs : StepRel s fl fl') : HT fl fl' (stepM s) := HT.ofStep hs _
theorem HT.pushM {s : Step} {fl fl' : List Bool} (hs : StepRel s fl fl') : HT fl fl' (pushM s) := HT.ofStep hs _

theorem HT.readM {fl : List Bool} (i : Nat) : HT fl fl (readM i) := by
  intro st a st' h hr
  simp only [Safe.readM, Option.map_eq_some_iff, Prod.mk.injEq] at hr
  obtain ⟨_, _, _, rfl⟩ := hr
  exact h

theorem HT.ite {α : Type} {fl fl' : List Bool} {c : Prop} [Decidable c] {a b : M α} (ha : HT fl fl' a) (hb : HT fl fl' b) :
    HT fl fl' (if c then a else b) := by
  split
  · exact ha
  · exact hb

theorem HT.guard {α : Type} {fl fl' : List Bool} {c : Prop} [Decidable c] {b : M α} (hb : ¬ c → HT fl fl' b) :
    HT fl fl' (if c then failM else b) := by
  split
  · exact HT.fail
  · exact hb ‹_›

theorem HT.apply {α : Type} {fl fl' : List Bool} {m : M α} (h : HT fl fl' m) {st st' : St} {a : α} (hs : StInvF fl st)
    (hr : m st = some (a, st')) : StInvF fl' st' := h st a st' hs hr

end MJ.Safe
