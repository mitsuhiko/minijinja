import MJ.Proofs.Store
/-!
Several environments (C15): copy-on-write registries behind `Arc::make_mut`, a world of environments
and their clones.  `Cow.makeMut_view` and `Cow.clone_view` say what every handle sees afterwards; read
through `regView` and put together by `World.view_congr` they give `World.step_view_other` (an
environment an operation is not aimed at stays as it is) and `World.step_local` (the one it is aimed at
steps like its plain value, `EnvSpec.step`) — in particular `Environment::empty()` is a stripped
`Environment::new()` (`World.stripped_new_value`).  Both need `World.WF`: handles point into the heap,
and every store has its handle in each registry and its run-time configuration.
-/
namespace MJ.Store

variable (c : LtCfg → Source → Bool)

theorem count_one_unique {l : List Nat} {a i j : Nat} (hc : l.count a = 1)
    (hi : l[i]? = some a) (hj : l[j]? = some a) : i = j := by
  induction l generalizing i j with
  | nil => cases hi
  | cons x t ih =>
    rw [List.count_cons] at hc
    have tail : ∀ k, t[k]? = some a → x ≠ a := fun k hk e => by
      have := List.count_pos_iff.mpr (List.mem_of_getElem? hk)
      rw [if_pos (beq_iff_eq.mpr e)] at hc
      omega
    match i, j with
    | 0, 0 => rfl
    | 0, j + 1 => exact absurd (Option.some.inj hi) (tail j hj)
    | i + 1, 0 => exact absurd (Option.some.inj hj) (tail i hi)
    | i + 1, j + 1 =>
      rw [if_neg (by simpa using tail i hi)] at hc
      exact congrArg (· + 1) (ih hc hi hj)

theorem Cow.makeMut_WF {β : Type} (w : Cow β) (i : Nat) (f : β → β) (h : w.WF) : (w.makeMut i f).WF := by
  fun_cases Cow.makeMut w i f
  · exact h
  · exact h
  · intro b hb
    exact Nat.lt_of_lt_of_eq (h b hb) List.length_set.symm
  · intro b hb
    show b < (w.cells ++ [_]).length
    rw [List.length_append]
    rcases List.mem_or_eq_of_mem_set hb with hb | hb
    · exact Nat.lt_add_right 1 (h b hb)
    · rw [hb]; exact Nat.lt_add_one _

theorem Cow.makeMut_ptr_length {β : Type} (w : Cow β) (i : Nat) (f : β → β) :
    (w.makeMut i f).ptr.length = w.ptr.length := by
  fun_cases Cow.makeMut w i f
  · rfl
  · rfl
  · rfl
  · exact List.length_set

/-- `Arc::make_mut` changes what handle `i` sees and nothing any other handle sees -/
theorem Cow.makeMut_view {β : Type} (w : Cow β) (i j : Nat) (f : β → β) (h : w.WF) :
    (w.makeMut i f).view j = if j = i then (w.view i).map f else w.view j := by
  have dangling : w.view i = none → w.view j = if j = i then (w.view i).map f else w.view j := fun hn => by
    by_cases hji : j = i
    · rw [if_pos hji, hji, hn]; rfl
    · rw [if_neg hji]
  fun_cases Cow.makeMut w i f
  · rename_i hp
    exact dangling (by unfold Cow.view; rw [hp])
  · rename_i a hp hv
    exact dangling (by unfold Cow.view; rw [hp]; exact hv)
  · -- the only handle to `a`: written in place; no other handle points there
    rename_i a hp v hv hc
    have ha : a < w.cells.length := h a (List.mem_of_getElem? hp)
    rw [show w.view i = some v by unfold Cow.view; rw [hp]; exact hv]
    unfold Cow.view
    by_cases hji : j = i
    · rw [if_pos hji, hji]; simp only [hp]; exact List.getElem?_set_self ha
    · rw [if_neg hji]
      cases hq : w.ptr[j]? with
      | none => rfl
      | some b => exact List.getElem?_set_ne (fun (e : a = b) => hji (count_one_unique hc (e.symm ▸ hq) hp))
  · -- shared: handle `i` moves to a fresh copy, everybody else keeps their allocation
    rename_i a hp v hv hc
    rw [show w.view i = some v by unfold Cow.view; rw [hp]; exact hv]
    unfold Cow.view
    by_cases hji : j = i
    · rw [if_pos hji, hji]
      simp only [List.getElem?_set_self (List.getElem?_eq_some_iff.mp hp).1]
      exact List.getElem?_concat_length
    · rw [if_neg hji]
      simp only [List.getElem?_set_ne (fun e => hji e.symm)]
      cases hq : w.ptr[j]? with
      | none => rfl
      | some b => exact List.getElem?_append_left (h b (List.mem_of_getElem? hq))

theorem Cow.clone_WF {β : Type} (w : Cow β) (i : Nat) (h : w.WF) : (w.clone i).WF := by
  unfold Cow.clone
  cases hp : w.ptr[i]? with
  | none => exact h
  | some a =>
    intro b hb
    simp only [List.mem_append, List.mem_singleton] at hb
    rcases hb with hb | hb
    · exact h b hb
    · subst hb; exact h b (List.mem_of_getElem? hp)

theorem Cow.clone_ptr_length {β : Type} (w : Cow β) (i : Nat) (hi : i < w.ptr.length) :
    (w.clone i).ptr.length = w.ptr.length + 1 := by
  unfold Cow.clone
  simp [List.getElem?_eq_getElem hi]

/-- cloning adds a handle that sees what handle `i` sees and leaves every existing handle alone -/
theorem Cow.clone_view {β : Type} (w : Cow β) (i j : Nat) (hi : i < w.ptr.length) :
    (w.clone i).view j = if j = w.ptr.length then w.view i else w.view j := by
  obtain ⟨a, hp⟩ : ∃ a, w.ptr[i]? = some a := ⟨_, List.getElem?_eq_getElem hi⟩
  unfold Cow.clone Cow.view
  simp only [hp]
  by_cases hj : j = w.ptr.length
  · rw [if_pos hj, hj, List.getElem?_concat_length]
  · rw [if_neg hj]
    by_cases hlt : j < w.ptr.length
    · rw [List.getElem?_append_left hlt]
    · have h1 : (w.ptr ++ [a])[j]? = none :=
        List.getElem?_eq_none (by rw [List.length_append]; exact Nat.lt_of_le_of_ne (Nat.le_of_not_lt hlt) (Ne.symm hj))
      rw [h1, List.getElem?_eq_none (Nat.le_of_not_lt hlt)]

theorem Cow.view_isSome {β : Type} (w : Cow β) (h : w.WF) {i : Nat} (hi : i < w.ptr.length) :
    ∃ v, w.view i = some v := by
  have hp : w.ptr[i]? = some w.ptr[i] := List.getElem?_eq_getElem hi
  have ha : w.ptr[i] < w.cells.length := h _ (List.getElem_mem hi)
  exact ⟨w.cells[w.ptr[i]], by simp [Cow.view, hp, List.getElem?_eq_getElem ha]⟩

theorem regView_makeMut_upd (c : Cow Registry) (h : c.WF) {e : Nat} (he : e < c.ptr.length)
    {f : Registry → Registry} {name : Name} {x : Option Nat} (hf : ∀ r, find (f r) = upd (find r) name x) (j : Nat) :
    regView (c.makeMut e f) j = if j = e then upd (regView c e) name x else regView c j := by
  obtain ⟨r, hr⟩ := Cow.view_isSome c h he
  unfold regView
  rw [Cow.makeMut_view c e j f h, hr]
  by_cases hje : j = e
  · rw [if_pos hje, if_pos hje]; exact hf r
  · rw [if_neg hje, if_neg hje]

theorem regView_makeMut_ne (c : Cow Registry) (h : c.WF) {e j : Nat} (hje : j ≠ e) (f : Registry → Registry) :
    regView (c.makeMut e f) j = regView c j := by
  unfold regView
  rw [Cow.makeMut_view c e j f h, if_neg hje]

theorem regView_clone (c : Cow Registry) (e j : Nat) (he : e < c.ptr.length) :
    regView (c.clone e) j = if j = c.ptr.length then regView c e else regView c j := by
  unfold regView
  rw [Cow.clone_view c e j he]
  by_cases hj : j = c.ptr.length
  · rw [if_pos hj, if_pos hj]
  · rw [if_neg hj, if_neg hj]

theorem World.modReg_stores (w : World) (k : RegKind) (e : Nat) (f : Registry → Registry) :
    (w.modReg k e f).stores = w.stores := by
  cases k <;> rfl

theorem World.modReg_rts (w : World) (k : RegKind) (e : Nat) (f : Registry → Registry) :
    (w.modReg k e f).rts = w.rts := by
  cases k <;> rfl

theorem World.modReg_WF (w : World) (k : RegKind) (e : Nat) (f : Registry → Registry) (h : w.WF) :
    (w.modReg k e f).WF := by
  obtain ⟨h1, h2, h3, h4, h5, h6, h7⟩ := h
  cases k
  · exact ⟨Cow.makeMut_WF _ _ _ h1, h2, h3, (Cow.makeMut_ptr_length _ _ _).trans h4, h5, h6, h7⟩
  · exact ⟨h1, Cow.makeMut_WF _ _ _ h2, h3, h4, (Cow.makeMut_ptr_length _ _ _).trans h5, h6, h7⟩
  · exact ⟨h1, h2, Cow.makeMut_WF _ _ _ h3, h4, h5, (Cow.makeMut_ptr_length _ _ _).trans h6, h7⟩

theorem World.view_congr {w w' : World} {j j' : Nat} (hs : w'.stores[j']? = w.stores[j]?)
    (hr : w'.rts[j']? = w.rts[j]?) (hf : regView w'.filters j' = regView w.filters j)
    (ht : regView w'.tests j' = regView w.tests j) (hg : regView w'.globals j' = regView w.globals j) :
    w'.view j' = w.view j := by
  unfold World.view
  rw [hs, hr, hf, ht, hg]

theorem World.modReg_view_other (w : World) (k : RegKind) (e j : Nat) (f : Registry → Registry)
    (h : w.WF) (hje : j ≠ e) : (w.modReg k e f).view j = w.view j := by
  obtain ⟨h1, h2, h3, _⟩ := h
  cases k
  · exact World.view_congr rfl rfl (regView_makeMut_ne _ h1 hje f) rfl rfl
  · exact World.view_congr rfl rfl rfl (regView_makeMut_ne _ h2 hje f) rfl
  · exact World.view_congr rfl rfl rfl rfl (regView_makeMut_ne _ h3 hje f)

theorem World.WF.of_lengths {w w' : World} (h : w.WF) (hf : w'.filters = w.filters) (ht : w'.tests = w.tests)
    (hg : w'.globals = w.globals) (hs : w'.stores.length = w.stores.length) (hr : w'.rts.length = w.rts.length) :
    w'.WF := by
  unfold World.WF at h ⊢
  rw [hf, ht, hg, hs, hr]
  exact h

theorem World.step_WF (w : World) (op : WOp) (h : w.WF) : (w.step c op).1.WF := by
  cases op with
  | store e op =>
    simp only [World.step]
    cases hs : w.stores[e]? with
    | none => exact h
    | some s => exact h.of_lengths rfl rfl rfl List.length_set rfl
  | regAdd k e name v | regRemove k e name => exact World.modReg_WF w k e _ h
  | setRt e r => exact h.of_lengths rfl rfl rfl rfl List.length_set
  | clone e =>
    simp only [World.step]
    cases hs : w.stores[e]? with
    | none => exact h
    | some s =>
      obtain ⟨h1, h2, h3, h4, h5, h6, h7⟩ := h
      have he : e < w.stores.length := (List.getElem?_eq_some_iff.mp hs).1
      have len : ∀ r : Cow Registry, r.ptr.length = w.stores.length →
          (r.clone e).ptr.length = (w.stores ++ [s]).length := fun r hr => by
        rw [Cow.clone_ptr_length r e (hr ▸ he), hr, List.length_append]; rfl
      refine ⟨Cow.clone_WF _ _ h1, Cow.clone_WF _ _ h2, Cow.clone_WF _ _ h3, len _ h4, len _ h5, len _ h6, ?_⟩
      rw [List.length_append, List.length_append, h7]; rfl

theorem World.run_WF (k : List WOp) : ∀ w : World, w.WF → (w.run c k).WF := by
  induction k with
  | nil => exact fun _ h => h
  | cons op ops ih => exact fun w h => ih _ (World.step_WF c w op h)

theorem Cow.single_WF {β : Type} (x : β) : (⟨[x], [0]⟩ : Cow β).WF :=
  fun a ha => by rw [List.mem_singleton.mp ha]; exact Nat.zero_lt_one

theorem World.init_WF (f t g : Registry) : (World.init f t g).WF :=
  ⟨Cow.single_WF f, Cow.single_WF t, Cow.single_WF g, rfl, rfl, rfl, rfl⟩

theorem World.initEmpty_WF : World.initEmpty.WF :=
  ⟨Cow.single_WF _, Cow.single_WF _, Cow.single_WF _, rfl, rfl, rfl, rfl⟩

theorem World.step_length_le (w : World) (op : WOp) :
    w.stores.length ≤ (w.step c op).1.stores.length := by
  cases op with
  | store e op =>
    simp only [World.step]
    cases w.stores[e]? <;> simp
  | regAdd k e name v | regRemove k e name => simp [World.step, World.modReg_stores]
  | setRt e r => simp [World.step]
  | clone e =>
    simp only [World.step]
    cases w.stores[e]? <;> simp

/-- an operation leaves every live environment it is not aimed at exactly as it was; cloning leaves them all,
    the cloned one included -/
theorem World.step_view_other (w : World) (op : WOp) (h : w.WF) (j : Nat) (hj : j < w.stores.length)
    (hne : (∀ e, op ≠ .clone e) → op.target ≠ j) : (w.step c op).1.view j = w.view j := by
  cases op with
  | store e op =>
    simp only [World.step]
    cases hs : w.stores[e]? with
    | none => rfl
    | some s => exact World.view_congr (List.getElem?_set_ne (hne fun _ => nofun)) rfl rfl rfl rfl
  | regAdd k e name v | regRemove k e name =>
    exact World.modReg_view_other w k e j _ h (fun x => hne (fun _ => nofun) x.symm)
  | setRt e r => exact World.view_congr rfl (List.getElem?_set_ne (hne fun _ => nofun)) rfl rfl rfl
  | clone e =>
    simp only [World.step]
    cases hs : w.stores[e]? with
    | none => rfl
    | some s =>
      obtain ⟨_, _, _, h4, h5, h6, h7⟩ := h
      have he : e < w.stores.length := (List.getElem?_eq_some_iff.mp hs).1
      have old : ∀ r : Cow Registry, r.ptr.length = w.stores.length → regView (r.clone e) j = regView r j :=
        fun r hr => by rw [regView_clone r e j (hr ▸ he), if_neg (hr ▸ Nat.ne_of_lt hj)]
      exact World.view_congr (List.getElem?_append_left hj) (List.getElem?_append_left (h7 ▸ hj))
        (old _ h4) (old _ h5) (old _ h6)

theorem World.run_view_other (k : List WOp) : ∀ (w : World), w.WF → ∀ j, j < w.stores.length →
    (∀ op ∈ k, (∀ e, op ≠ .clone e) → op.target ≠ j) → (w.run c k).view j = w.view j := by
  induction k with
  | nil => exact fun _ _ _ _ _ => rfl
  | cons op ops ih =>
    intro w hw j hj hk
    exact (ih _ (World.step_WF c w op hw) j (Nat.lt_of_lt_of_le hj (World.step_length_le c w op))
      (fun o ho => hk o (List.mem_cons_of_mem _ ho))).trans
      (World.step_view_other c w op hw j hj (hk op (List.mem_cons_self ..)))

theorem World.clone_view_new (w : World) (e : Nat) (h : w.WF)
    (he : e < w.stores.length) : (w.step c (.clone e)).1.view w.stores.length = w.view e := by
  obtain ⟨_, _, _, h4, h5, h6, h7⟩ := h
  obtain ⟨s, hs⟩ : ∃ s, w.stores[e]? = some s := ⟨_, List.getElem?_eq_getElem he⟩
  obtain ⟨r, hr⟩ : ∃ r, w.rts[e]? = some r := ⟨_, List.getElem?_eq_getElem (h7 ▸ he)⟩
  simp only [World.step, hs]
  have new : ∀ r : Cow Registry, r.ptr.length = w.stores.length →
      regView (r.clone e) w.stores.length = regView r e :=
    fun r hr => by rw [regView_clone r e _ (hr ▸ he), if_pos hr.symm]
  refine World.view_congr ?_ ?_ (new _ h4) (new _ h5) (new _ h6)
  · rw [List.getElem?_append_right (Nat.le_refl _), Nat.sub_self, hs]; rfl
  · rw [← h7, List.getElem?_append_right (Nat.le_refl _), Nat.sub_self, hr]; rfl

theorem World.flatView_of_store {w : World} {e : Nat} {s : Store} (hs : w.stores[e]? = some s) :
    w.flatView e = some { flat := s.flat, rt := (w.rts[e]?).getD RtCfg.default,
                          filters := regView w.filters e, tests := regView w.tests e,
                          globals := regView w.globals e } := by
  unfold World.flatView World.view
  rw [hs]
  rfl

theorem World.flatView_isSome (w : World) {e : Nat} (he : e < w.stores.length) : ∃ v, w.flatView e = some v :=
  ⟨_, World.flatView_of_store (List.getElem?_eq_getElem he)⟩

theorem World.lt_of_flatView {w : World} {e : Nat} {v : EnvSpec} (hv : w.flatView e = some v) :
    e < w.stores.length := by
  refine Decidable.byContradiction fun h => ?_
  have : w.stores[e]? = none := List.getElem?_eq_none (Nat.le_of_not_lt h)
  simp [World.flatView, World.view, this] at hv

theorem World.modReg_local (w : World) (hw : w.WF) {e : Nat} (he : e < w.stores.length) {s : Store}
    (hs : w.stores[e]? = some s) (k : RegKind) (f : Registry → Registry) (name : Name) (x : Option Nat)
    (hf : ∀ r, find (f r) = upd (find r) name x) :
    (w.modReg k e f).flatView e =
      some (EnvSpec.modReg { flat := s.flat, rt := (w.rts[e]?).getD RtCfg.default, filters := regView w.filters e,
                             tests := regView w.tests e, globals := regView w.globals e } k name x) := by
  obtain ⟨h1, h2, h3, h4, h5, h6, _⟩ := hw
  have upd_at : ∀ r : Cow Registry, r.WF → r.ptr.length = w.stores.length →
      regView (r.makeMut e f) e = upd (regView r e) name x := fun r hr hl =>
    (regView_makeMut_upd r hr (hl ▸ he) hf e).trans (if_pos rfl)
  cases k <;> simp only [World.modReg, EnvSpec.modReg, World.flatView, World.view, hs]
  · rw [upd_at _ h1 h4]; rfl
  · rw [upd_at _ h2 h5]; rfl
  · rw [upd_at _ h3 h6]; rfl

theorem World.step_local (w : World) (hw : w.WF) {e : Nat} (op : EOp) {v : EnvSpec}
    (hv : w.flatView e = some v) :
    (w.step c (op.at e)).1.flatView e = some (v.step c op).1 ∧ (w.step c (op.at e)).2 = (v.step c op).2 := by
  have he := World.lt_of_flatView hv
  obtain ⟨s, hs⟩ : ∃ s, w.stores[e]? = some s := ⟨_, List.getElem?_eq_getElem he⟩
  rw [World.flatView_of_store hs] at hv
  cases hv
  cases op with
  | store op =>
    obtain ⟨r1, r2⟩ := store_step_flat c s op
    simp only [EOp.at, World.step, hs, EnvSpec.step]
    refine ⟨?_, r1⟩
    rw [World.flatView_of_store (List.getElem?_set_self he), r2]
  | regAdd k name x => exact ⟨World.modReg_local w hw he hs k _ name (some x) (fun r => find_ins r name x), rfl⟩
  | regRemove k name => exact ⟨World.modReg_local w hw he hs k _ name none (fun r => find_del r name), rfl⟩
  | setRt r =>
    refine ⟨?_, rfl⟩
    simp only [EOp.at, World.step, EnvSpec.step, World.flatView, World.view, hs]
    rw [List.getElem?_set_self (hw.2.2.2.2.2.2 ▸ he)]
    rfl

theorem World.runAt_eq_run (e : Nat) : ∀ (ops : List EOp) (w : World), w.runAt c e ops = w.run c (ops.map (EOp.at e))
  | [], _ => rfl
  | _ :: ops, _ => World.runAt_eq_run e ops _

theorem World.runAt_WF (e : Nat) (ops : List EOp) (w : World) (h : w.WF) : (w.runAt c e ops).WF :=
  World.runAt_eq_run c e ops w ▸ World.run_WF c _ w h

theorem World.run_local (ops : List EOp) :
    ∀ (w : World), w.WF → ∀ e v, w.flatView e = some v →
      (w.runAt c e ops).flatView e = some (v.run c ops) ∧ w.resultsAt c e ops = v.results c ops := by
  induction ops with
  | nil => intro w _ e v hv; exact ⟨hv, rfl⟩
  | cons op ops ih =>
    intro w hw e v hv
    obtain ⟨h1, h2⟩ := World.step_local c w hw op hv
    obtain ⟨i1, i2⟩ := ih _ (World.step_WF c w _ hw) e _ h1
    exact ⟨i1, by simp only [World.resultsAt, EnvSpec.results]; rw [i2, h2]⟩

def removeAll (fn : Name → Option Nat) : List Name → Name → Option Nat
  | [] => fn
  | n :: ns => removeAll (upd fn n none) ns

theorem removeAll_eq_empty (names : List Name) :
    ∀ fn : Name → Option Nat, (∀ m, m ∉ names → fn m = none) → removeAll fn names = fun _ => none := by
  induction names with
  | nil => exact fun fn h => funext fun m => h m List.not_mem_nil
  | cons n ns ih =>
    intro fn h
    refine ih _ fun m hm => ?_
    by_cases hmn : m = n
    · rw [hmn]; exact upd_self fn n none
    · exact (upd_ne fn none hmn).trans (h m fun hc => (List.mem_cons.mp hc).elim hmn hm)

theorem removeAll_keys (r : Registry) : removeAll (find r) (keys r) = find ([] : Registry) :=
  removeAll_eq_empty (keys r) _ fun m => (find_eq_none_iff r m).mpr

theorem EnvSpec.run_append (a b : List EOp) (v : EnvSpec) :
    v.run c (a ++ b) = (v.run c a).run c b := by
  induction a generalizing v with
  | nil => rfl
  | cons op ops ih => simp only [List.cons_append, EnvSpec.run]; exact ih _

theorem EnvSpec.run_remove (k : RegKind) (r : List (Name × Nat)) (v : EnvSpec) :
    v.run c (r.map (fun p => EOp.regRemove k p.1)) =
      match k with
      | .filter => { v with filters := removeAll v.filters (keys r) }
      | .test => { v with tests := removeAll v.tests (keys r) }
      | .global => { v with globals := removeAll v.globals (keys r) } := by
  induction r generalizing v with
  | nil => cases k <;> rfl
  | cons p t ih =>
    simp only [List.map_cons, EnvSpec.run, EnvSpec.step]
    rw [ih]
    cases k <;> rfl

theorem regView_single (r : Registry) : regView ⟨[r], [0]⟩ 0 = find r := by
  simp [regView, Cow.view]

theorem World.stripped_new_value (f t g : Registry) :
    ((World.init f t g).runAt c 0 (stripOps f t g)).flatView 0 = World.initEmpty.flatView 0 := by
  obtain ⟨a1, _⟩ := World.run_local c (stripOps f t g) (World.init f t g) (World.init_WF f t g) 0 _
    (World.flatView_of_store (s := Store.empty) rfl)
  rw [a1, World.flatView_of_store (w := World.initEmpty) (e := 0) rfl]
  congr 1
  unfold stripOps
  rw [EnvSpec.run_append, EnvSpec.run_append, EnvSpec.run_append, EnvSpec.run_remove, EnvSpec.run_remove,
    EnvSpec.run_remove]
  simp only [EnvSpec.run, EnvSpec.step, World.init, World.initEmpty, regView_single]
  rw [removeAll_keys, removeAll_keys, removeAll_keys]
  rfl

end MJ.Store
