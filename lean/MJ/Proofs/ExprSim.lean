import MJ.Proofs.SimRel
import MJ.Proofs.ArgBind
/-!
# Expressions compile correctly (C03)

By induction on the fuel of the reference evaluation: the model VM, running the code that the model
code generator emits for an expression of the fragment (`wfExpr`), pushes the value the reference
semantics assigns to it — including constant folding, short-circuit `and` / `or`, conditional
expressions, filters, tests, attribute / item access, list and map literals, chained comparisons and
**macro calls** with positional and keyword arguments.  Here is the step of that induction
(`sim_exprs_step`), with the call itself as a hypothesis (`SimCall`); the step of `SimCall` is `sim_call_step` of
`MJ/Proofs/MacroSim.lean`, and the induction is closed with the statements in `MJ/Proofs/StmtSim.lean` (`all_sim`).  Calls may append
closures to the state (the macros declared while the callee ran): the result state is described up to
such an extension.

The statements are about pieces of code, not about runs from a start state: `Seg E s p L st st'` says that
`L`, sitting at `p`, takes the operand stack `st` to `st'` from wherever a run from `s` has got to `p`.
Segments compose like the code they speak of (`Seg.append`, `Seg.cons`, `Seg.goto` for a forward jump), the
single instructions are the rules `Goes.*` of `MJ/Proofs/VmSim.lean`; since the code generator computes a
jump target as the sum of the lengths in front of it, the side condition of a jump rule is closed by `rfl`.
`SegOf` is the common form of the simulation statements.
-/
namespace MJ.Vm
open MJ.Eval MJ.Compile

theorem At.cast {C b b' L} (h : At C b L) (hb : b = b') : At C b' L := by subst hb; exact h

/-- closures only grow by appending -/
def Ext (cls cls' : List Scope) : Prop := ∃ extra, cls' = cls ++ extra

theorem Ext.refl (cls : List Scope) : Ext cls cls := ⟨[], by simp⟩
theorem Ext.trans {a b c : List Scope} (h1 : Ext a b) (h2 : Ext b c) : Ext a c := by
  obtain ⟨e1, rfl⟩ := h1; obtain ⟨e2, rfl⟩ := h2; exact ⟨e1 ++ e2, by simp⟩

/-- the names of `A` are bound in the cells of the current context -/
def ABound (heap : Heap) (loc : List Nat) (A : List String) : Prop := ∀ x ∈ A, BoundIn heap loc x

/-- what an expression is evaluated under: configuration, ghost map, what may be read, the cells -/
structure ECtx where
  K : Cfg
  G : Ghost
  P : Option (List String)
  clo : Option Nat
  heap : Heap
  loc : List Nat
  env : List Nat
  A : List String

def ECtx.ok (E : ECtx) (s : VmState) : Prop :=
  HRel E.K E.G E.P E.clo E.heap E.loc E.env s ∧ ABound E.heap E.loc E.A ∧ E.loc ≠ []

theorem ECtx.ok.next {E : ECtx} {s : VmState} (h : E.ok s) {cls' : List Scope} (hx : Ext s.closures cls') (pc : Nat)
    (st : List Val) : E.ok { s with pc := pc, stack := st, closures := cls' } := by
  obtain ⟨extra, rfl⟩ := hx
  exact ⟨h.1.ext _ rfl extra rfl, h.2.1, h.2.2⟩

/-- the VM gets from `s` to program counter `pc'` with operand stack `st'`; the closures may have
been extended by the macro calls on the way -/
def Pushed (E : ECtx) (s : VmState) (pc' : Nat) (st' : List Val) : Prop :=
  ∃ cls', Ext s.closures cls' ∧ Reach E.K.ctx E.K.C s { s with pc := pc', stack := st', closures := cls' }

theorem Pushed.refl (E : ECtx) (s : VmState) : Pushed E s s.pc s.stack := ⟨s.closures, Ext.refl _, Reach.refl s⟩

theorem Pushed.cast {E s p st p' st'} (h : Pushed E s p st) (hp : p = p') (hs : st = st') : Pushed E s p' st' := by
  subst hp; subst hs; exact h

/-- one more instruction that does not touch frames or closures -/
theorem Pushed.step {E : ECtx} {s : VmState} {p1 p2 : Nat} {st1 st2 : List Val} {i : Instr} (h1 : Pushed E s p1 st1)
    (hi : E.K.C[p1]? = some i)
    (hs : ∀ cls1, MJ.Vm.step E.K.ctx i { s with pc := p1, stack := st1, closures := cls1 } =
      .ok { s with pc := p2, stack := st2, closures := cls1 }) : Pushed E s p2 st2 := by
  obtain ⟨c1, x1, r1⟩ := h1
  exact ⟨c1, x1, r1.trans (Reach.one (i := i) hi (hs c1))⟩

/-- the code `L`, sitting at `p`, takes the operand stack `st` to `st'`: any run from `s` that has got to
`p` with `st` goes on to the end of `L` with `st'` (frames untouched, closures at most extended) -/
def Seg (E : ECtx) (s : VmState) (p : Nat) (L : List Instr) (st st' : List Val) : Prop :=
  At E.K.C p L → Pushed E s p st → Pushed E s (p + L.length) st'

namespace Seg
variable {E : ECtx} {s : VmState} {p : Nat} {st st1 st2 : List Val}

theorem nil : Seg E s p [] st st := fun _ h => h

/-- for a state that stands at the start of the code -/
theorem run {L : List Instr} (h : Seg E s p L st st1) (hAt : At E.K.C p L) (hpc : s.pc = p) (hst : s.stack = st) :
    Pushed E s (p + L.length) st1 :=
  h hAt ((Pushed.refl E s).cast hpc hst)

theorem append {L1 L2 : List Instr} (h1 : Seg E s p L1 st st1) (h2 : Seg E s (p + L1.length) L2 st1 st2) :
    Seg E s p (L1 ++ L2) st st2 :=
  fun hAt h => (h2 hAt.right (h1 hAt.left h)).cast (by simp [Nat.add_assoc]) rfl

theorem cast {L L' : List Instr} (h : Seg E s p L st st1) (hL : L = L') : Seg E s p L' st st1 := hL ▸ h

theorem to {L : List Instr} {st1' : List Val} (h : Seg E s p L st st1) (hst : st1 = st1') : Seg E s p L st st1' := hst ▸ h

theorem castIn {L : List Instr} {st' : List Val} (h : Seg E s p L st st1) (hst : st = st') : Seg E s p L st' st1 := hst ▸ h

theorem move {L : List Instr} {p' : Nat} (h : Seg E s p L st st1) (hp : p = p') : Seg E s p' L st st1 := hp ▸ h

/-- a step of `i` that goes on to `t`: the next instruction (`L1 = []`) or a forward jump over `L1` -/
theorem goto {i : Instr} {t : Nat} {L1 L2 : List Instr} (hi : Goes E.K.ctx i p st t st1)
    (ht : t = p + 1 + L1.length) (h2 : Seg E s t L2 st1 st2) : Seg E s p (i :: (L1 ++ L2)) st st2 := by
  intro hAt h
  subst ht
  exact (h2 hAt.tail.right (h.step (i := i) hAt.head fun _ => hi _ _ _)).cast
    (by simp only [List.length_cons, List.length_append]; omega) rfl

/-- a conditional jump past a then-branch `L1` and the jump `j` that ends it -/
theorem goto_past {i j : Instr} {t : Nat} {L1 L2 : List Instr} (hi : Goes E.K.ctx i p st t st1)
    (ht : t = p + 1 + L1.length + 1) (h2 : Seg E s t L2 st1 st2) : Seg E s p (i :: (L1 ++ j :: L2)) st st2 :=
  (goto (L1 := L1 ++ [j]) hi (by simp only [List.length_append, List.length_singleton]; omega) h2).cast (by simp)

theorem cons {i : Instr} {L : List Instr} (hi : Goes E.K.ctx i p st (p + 1) st1) (h2 : Seg E s (p + 1) L st1 st2) :
    Seg E s p (i :: L) st st2 :=
  goto (L1 := []) hi rfl h2

theorem one {i : Instr} (hi : Goes E.K.ctx i p st (p + 1) st1) : Seg E s p [i] st st1 := cons hi nil

/-- a jump over `L` -/
theorem over {i : Instr} {t : Nat} {L : List Instr} (hi : Goes E.K.ctx i p st t st1) (ht : t = p + 1 + L.length) :
    Seg E s p (i :: L) st st1 :=
  (goto (L2 := []) hi ht nil).cast (by simp)

end Seg

theorem Reach.cast {ctx C s s' t t'} (h : Reach ctx C s t) (hs : s = s') (ht : t = t') : Reach ctx C s' t' := by
  subst hs; subst ht; exact h

theorem Reach.one' {ctx C s s' i} (k : Nat) (hk : C[k]? = some i) (hpc : s.pc = k)
    (hs : MJ.Vm.step ctx i s = .ok s') : Reach ctx C s s' := by
  subst hpc; exact Reach.one hk hs

/-- what the render context and the cells must satisfy for macro calls: the closure invariant of `HRel` -/
def GInv (K : Cfg) (G : Ghost) (heap : Heap) (cls : List Scope) : Prop :=
  (∀ c env', G c = some env' → ∃ m, cls[c]? = some m ∧
    ∀ x u, assocGet x m = some u → ValAgree K G cls heap.length x ((MJ.Eval.lookup K.ctx heap env' x).getD .undef) u) ∧
  (∀ c env', G c = some env' → ∀ id ∈ env', id < heap.length)

theorem HRel.ginv {K G P clo heap loc env s} (h : HRel K G P clo heap loc env s) : GInv K G heap s.closures :=
  ⟨h.closOK, h.genv⟩

/-- the keyword arguments `kw` of the reference semantics as the VM passes them: one value `m` -/
def KwBundle (kw m : List (String × Val)) : Prop := ∀ k, assocGet k m = assocGet k kw

/-- keyword arguments in general: data is equal on both sides and plain; the hidden `caller` of a call
block is a macro on both sides -/
def KwRel (K : Cfg) (G : Ghost) (cls : List Scope) (hl : Nat) (kw m : List (String × Val)) : Prop :=
  (∀ k, k ≠ "caller" → assocGet k m = assocGet k kw ∧ ∀ v, assocGet k kw = some v → MJ.Eval.plain v = true) ∧
  ((assocGet "caller" kw = none ∧ assocGet "caller" m = none) ∨
   (∃ w u, assocGet "caller" kw = some w ∧ assocGet "caller" m = some u ∧ MacroRel K G cls hl u w))

/-- the values a `CallFunction` pops, for the evaluated arguments `as` (positional values are plain data) -/
def ArgsRel (K : Cfg) (G : Ghost) (cls : List Scope) (hl : Nat) (as : List (Option String × Val)) (args : List Val) : Prop :=
  (∀ v, v ∈ (splitArgs as).1 → MJ.Eval.plain v = true) ∧
  (((splitArgs as).2 = [] ∧ args = (splitArgs as).1) ∨
   ((splitArgs as).2 ≠ [] ∧ ∃ m, KwRel K G cls hl (splitArgs as).2 m ∧ args = (splitArgs as).1 ++ [.kwargs m]))

theorem assocGet_none_of_not_mem {α : Type} {k : String} {l : List (String × α)} (h : k ∉ l.map (·.1)) :
    assocGet k l = none := by
  cases hg : assocGet k l with
  | none => rfl
  | some v => exact absurd (List.mem_map.2 ⟨_, assocGet_mem' hg, rfl⟩) h

/-- ordinary calls: the keyword values are data, there is no `caller` keyword -/
theorem KwRel.of_data {K : Cfg} {G : Ghost} {cls : List Scope} {hl : Nat} {as : List (Option String × Val)} {m : List (String × Val)}
    (hpl : ∀ v, v ∈ as.map (·.2) → MJ.Eval.plain v = true) (hnc : "caller" ∉ (splitArgs as).2.map (·.1))
    (hb : KwBundle (splitArgs as).2 m) : KwRel K G cls hl (splitArgs as).2 m := by
  have := assocGet_none_of_not_mem hnc
  exact ⟨fun k _ => ⟨hb k, fun v hv => hpl v (mem_splitArgs_kw (assocGet_mem' hv))⟩, Or.inl ⟨this, by rw [hb "caller"]; exact this⟩⟩

/-- a macro call: the VM binds the arguments like the reference semantics, runs the macro's code in
a fresh context up to its `Return`, and the captured output is the value of the call -/
def SimCall (n : Nat) : Prop :=
  ∀ (K : Cfg) (G : Ghost) (heap : Heap) (cls : List Scope) (w u : Val) (as : List (Option String × Val))
    (args : List Val) (v : Val),
    callValue n K.ctx heap w as = .ok v → MacroRel K G cls heap.length u w → ArgsRel K G cls heap.length as args →
    GInv K G heap cls → PlainSt K.M K.ctx heap →
    ∃ nm spec off clo cref vals caller s1, u = .vmMacro nm spec off clo cref ∧
      prepareArgs spec cref args = .ok (vals, caller) ∧
      Reach K.ctx K.C (calleeState off clo caller vals cls) s1 ∧ K.C[s1.pc]? = some .return_ ∧
      v = .str (s1.outs.getLast?.getD "") ∧ Ext cls s1.closures

theorem evalArgs_keys {n ctx heap stack} {M P A} : ∀ (args : List (Option String × Expr)) (as),
    evalArgs n ctx heap stack args = .ok as → wfArgs M P A args = true → ∀ p ∈ as, p.1 = none := by
  induction n with
  | zero => intro args as h; simp [evalArgs] at h
  | succ m ih =>
    intro args as h hs
    match args, hs with
    | [], _ => simp [evalArgs] at h; subst h; simp
    | (some _, _) :: _, hs => simp [wfArgs] at hs
    | (none, e) :: rest, hs =>
      simp only [evalArgs, bind_ok] at h
      obtain ⟨v, _, ws, hws, h⟩ := h
      cases h
      have hs' : wfExpr M P A e = true ∧ wfArgs M P A rest = true := by simpa [wfArgs] using hs
      intro p hp
      rcases List.mem_cons.1 hp with rfl | hp
      · rfl
      · exact ih rest ws hws hs'.2 p hp

theorem insertPairs_kw : ∀ (kw : List (String × Val)) (acc : List (String × Val)),
    (kw.map (·.1)).Nodup → (∀ k ∈ kw.map (·.1), assocGet k acc = none) →
    ∃ m, insertPairs (kw.map fun p => (Val.str p.1, p.2)) acc = .ok m ∧
      ∀ k', assocGet k' m = match assocGet k' kw with
        | some v => some v
        | none => assocGet k' acc
  | [], acc, _, _ => ⟨acc, by simp [insertPairs], fun k' => by simp [assocGet]⟩
  | (k, v) :: rest, acc, hnd, hacc => by
    have hk : assocGet k acc = none := hacc k (by simp)
    have hnd' : (rest.map (·.1)).Nodup := (List.nodup_cons.1 (by simpa using hnd)).2
    have hknot : k ∉ rest.map (·.1) := (List.nodup_cons.1 (by simpa using hnd)).1
    have hacc' : ∀ k2 ∈ rest.map (·.1), assocGet k2 (mapInsert k v acc) = none := by
      intro k2 hk2
      rw [assocGet_mapInsert]
      have : ¬ k2 = k := fun e => hknot (e ▸ hk2)
      simp [this, hacc k2 (by simp [hk2])]
    obtain ⟨m, hm, hget⟩ := insertPairs_kw rest (mapInsert k v acc) hnd' hacc'
    refine ⟨m, by simp [insertPairs, hk, hm], fun k' => ?_⟩
    rw [hget k', assocGet_mapInsert]
    by_cases h : k = k'
    · subst h
      simp [assocGet, assocGet_none_of_not_mem hknot]
    · have : ¬ k' = k := fun e => h e.symm
      simp [assocGet, h, this]

theorem evalArgs_keysOf {n ctx heap stack} : ∀ (args : List (Option String × Expr)) (as),
    evalArgs n ctx heap stack args = .ok as → (splitArgs as).2.map (·.1) = keysOf args ∧
      (splitArgs as).1.length = (posArgs args).length ∧ (splitArgs as).2.length = (kwArgs args).length := by
  induction n with
  | zero => intro args as h; simp [evalArgs] at h
  | succ m ih =>
    intro args as h
    match args with
    | [] => simp [evalArgs] at h; subst h; simp [splitArgs, keysOf, posArgs, kwArgs]
    | (k, e) :: rest =>
      simp only [evalArgs, bind_ok] at h
      obtain ⟨v, _, ws, hws, h⟩ := h
      cases h
      have := ih rest ws hws
      cases k with
      | none => simpa [splitArgs_cons_none, keysOf, posArgs, kwArgs] using this
      | some k => simpa [splitArgs_cons_some, keysOf, posArgs, kwArgs] using this

/-- literal keyword arguments: the constant bundle the code generator builds is the bundle of the
evaluated arguments -/
theorem staticKwargs_bundle {n ctx heap stack} : ∀ (args : List (Option String × Expr)) (as) (m),
    evalArgs n ctx heap stack args = .ok as → staticKwargs (kwArgs args) = some m → (keysOf args).Nodup →
    ∀ k, assocGet k m = assocGet k (splitArgs as).2 := by
  induction n with
  | zero => intro args as m h; simp [evalArgs] at h
  | succ j ih =>
    intro args as m h hst hnd
    match args with
    | [] =>
      simp [evalArgs] at h; subst h
      simp [kwArgs, staticKwargs] at hst; subst hst
      intro k; simp [splitArgs, assocGet]
    | (none, e) :: rest =>
      simp only [evalArgs, bind_ok] at h
      obtain ⟨v, _, ws, hws, h⟩ := h
      cases h
      simpa [splitArgs_cons_none] using ih rest ws m hws (by simpa [kwArgs] using hst) (by simpa [keysOf] using hnd)
    | (some k0, e) :: rest =>
      simp only [evalArgs, bind_ok] at h
      obtain ⟨v, hv, ws, hws, h⟩ := h
      cases h
      have hkw : kwArgs ((some k0, e) :: rest) = (k0, e) :: kwArgs rest := by simp [kwArgs]
      rw [hkw] at hst
      have hnd' : k0 ∉ keysOf rest ∧ (keysOf rest).Nodup := by simpa [keysOf] using hnd
      cases e with
      | const l =>
        simp only [staticKwargs] at hst
        cases hr : staticKwargs (kwArgs rest) with
        | none => rw [hr] at hst; simp at hst
        | some m' =>
          have ihr := ih rest ws m' hws hr hnd'.2
          have hk0 : assocGet k0 m' = none := by
            rw [ihr k0]
            exact assocGet_none_of_not_mem (by rw [(evalArgs_keysOf rest ws hws).1]; exact hnd'.1)
          rw [hr, Option.map_some, hk0, Option.some.injEq] at hst
          subst hst
          have hvl : v = litVal l := by cases j <;> simp [evalExpr] at hv; exact hv.symm
          intro k
          rw [assocGet_mapInsert, splitArgs_cons_some]
          by_cases hk : k = k0
          · subst hk; simp [assocGet, hvl]
          · have : ¬ k0 = k := fun e => hk e.symm
            simp [assocGet, hk, this, ihr k]
      | _ => simp [staticKwargs] at hst

theorem allowed_safe {P : Option (List String)} {A : List String} {x : String} {heap : Heap} {loc : List Nat}
    (h : allowed P A x = true) (hA : ABound heap loc A) : BoundIn heap loc x ∨ tailOk P x := by
  cases P with
  | none => exact Or.inr trivial
  | some fv =>
    simp only [allowed, Bool.or_eq_true, List.contains_iff_mem] at h
    rcases h with h | h
    · exact Or.inr h
    · exact Or.inl (hA x h)

/-- what the VM finds for a readable variable, against the reference semantics -/
theorem ECtx.ok.lookup {E : ECtx} {s : VmState} (h : E.ok s) {x : String} (hx : allowed E.P E.A x = true) :
    ValAgree E.K E.G s.closures E.heap.length x ((MJ.Eval.lookup E.K.ctx E.heap (E.loc ++ E.env) x).getD .undef)
      (lookupFrames E.K.ctx s.closures x s.frames) :=
  h.1.lookupAgree h.2.2 x (allowed_safe hx h.2.1)

/-- the `CallFunction` at the end of the code of a call: the argument values are on the operand stack -/
theorem Seg.call {n} (ihCall : SimCall n) {E : ECtx} {s : VmState} {p : Nat} {st : List Val} {x : String} {w v : Val}
    {as : List (Option String × Val)} {args : List Val} (hok : E.ok s) (hxM : x ∈ E.K.M) (hxa : allowed E.P E.A x = true)
    (hw : MJ.Eval.lookup E.K.ctx E.heap (E.loc ++ E.env) x = some w) (hcall : callValue n E.K.ctx E.heap w as = .ok v)
    (hargs : ∀ cls, Ext s.closures cls → ArgsRel E.K E.G cls E.heap.length as args) {k : Nat} (hk : k = args.length) :
    Seg E s p [.callFunction x k] (args.reverse ++ st) (v :: st) := by
  subst hk
  intro hAt ⟨c1, x1, r1⟩
  have hok1 := hok.next x1 p (args.reverse ++ st)
  have hag := hok1.lookup hxa
  rw [hw] at hag
  simp only [Option.getD_some, ValAgree, if_pos hxM] at hag
  obtain ⟨nm, spec, off, clo, cref, vals, caller, s1, hu, hprep, hreach, hret, hv, hext⟩ :=
    ihCall E.K E.G E.heap c1 w _ as args v hcall hag (hargs c1 x1) hok1.1.ginv hok1.1.plain
  refine ⟨s1.closures, x1.trans hext, r1.trans ?_⟩
  refine Reach.call (name := x) (argc := args.length) (args := args) (rest := st) hAt.head
    (by simpa using popN_append args st) hu hprep hreach hret ?_
  subst hv
  exact Reach.refl _

/-- a variable that may be read: the VM finds a value that agrees with that of the reference semantics -/
theorem Seg.lookup_then {E : ECtx} {s : VmState} {p : Nat} {st st2 : List Val} {x : String} {L : List Instr} (hok : E.ok s)
    (hxa : allowed E.P E.A x = true)
    (h2 : ∀ cls u, ValAgree E.K E.G cls E.heap.length x ((MJ.Eval.lookup E.K.ctx E.heap (E.loc ++ E.env) x).getD .undef) u →
      Seg E s (p + 1) L (u :: st) st2) : Seg E s p (.lookup x :: L) st st2 := by
  intro hAt ⟨c1, x1, r1⟩
  exact (h2 c1 _ ((hok.next x1 p st).lookup hxa) hAt.tail
    ⟨c1, x1, r1.trans (Reach.one (i := .lookup x) hAt.head rfl)⟩).cast (by simp only [List.length_cons]; omega) rfl

/-- a data variable: the VM finds the value of the reference semantics -/
theorem Seg.lookup {E : ECtx} {s : VmState} {p : Nat} {st : List Val} {x : String} (hok : E.ok s) (hx : ¬ x ∈ E.K.M)
    (hxa : allowed E.P E.A x = true) :
    Seg E s p [.lookup x] st ((MJ.Eval.lookup E.K.ctx E.heap (E.loc ++ E.env) x).getD .undef :: st) :=
  Seg.lookup_then hok hxa fun cls u hag => by
    simp only [ValAgree, if_neg hx] at hag
    exact hag ▸ Seg.nil

/-- the final comparison of a chain (and any single comparison operator) -/
theorem Seg.cmp {E : ECtx} {s : VmState} {p : Nat} {st : List Val} {op a b r} (hr : compareOp op a b = .ok r) :
    Seg E s p (cmpInstrs op) (b :: a :: st) (.bool r :: st) := by
  cases op
  case notin =>
    obtain ⟨c, hc, rfl⟩ := map_ok.1 hr
    exact .cons (st1 := .bool c :: st) (fun _ _ _ => by simp only [MJ.Vm.step, hc, Except.map]) ((Seg.one .not).to (by simp [truthy]))
  all_goals
    simp only [compareOp] at hr
    exact .one fun _ _ _ => by simp [MJ.Vm.step, binCmp, compareOp, hr, Except.map]

/-- the common form of the simulation statements: the code `rel x` pushes `out r` for the result `r` of `ev x` -/
def SegOf {α β : Type} (ev : Scope → Heap → List Nat → β → Res α) (wf : List String → Option (List String) → List String → β → Bool)
    (rel : β → Nat → Aux → List Instr × Aux) (out : α → List Val) : Prop :=
  ∀ (E : ECtx) x r, ev E.K.ctx E.heap (E.loc ++ E.env) x = .ok r → wf E.K.M E.P E.A x = true →
    ∀ {s}, E.ok s → ∀ p a st, (rel x p a).2.oof = false → Seg E s p (rel x p a).1 st (out r ++ st)

def SegExpr (n : Nat) : Prop := SegOf (evalExpr n) wfExpr relExpr (fun v => [v])
def SegList (n : Nat) : Prop := SegOf (evalList n) wfList relList List.reverse
def SegArgs (n : Nat) : Prop := SegOf (evalArgs n) wfArgs relArgs (fun as => (as.map (·.2)).reverse)
def SegPairs (n : Nat) : Prop := SegOf (evalPairs n) wfPairs relPairs (fun ps => (flat ps).reverse)
def SegPosArgs (n : Nat) : Prop := SegOf (evalArgs n) wfCallArgs relPosArgs (fun as => (splitArgs as).1.reverse)
def SegKwArgs (n : Nat) : Prop := SegOf (evalArgs n) wfCallArgs relKwArgs (fun as => (flatKw (splitArgs as).2).reverse)

/-- the statement for a state that stands at the start of the code -/
theorem SegOf.run {α β : Type} {ev : Scope → Heap → List Nat → β → Res α} {wf rel out} (h : SegOf ev wf rel out) (E : ECtx) (x : β) (r : α)
    (hev : ev E.K.ctx E.heap (E.loc ++ E.env) x = .ok r) (hwf : wf E.K.M E.P E.A x = true) (base : Nat) (a : Aux) (s : VmState)
    (hAt : At E.K.C base (rel x base a).1) (hoof : (rel x base a).2.oof = false) (hpc : s.pc = base) (hok : E.ok s) :
    Pushed E s (base + (rel x base a).1.length) (out r ++ s.stack) :=
  (h E x r hev hwf hok base a s.stack hoof).run hAt hpc rfl

theorem seg_list_step {n} (ihE : SegExpr n) (ihL : SegList n) : SegList (n + 1) := by
  intro E es vs hev hs s hok p a st hoof
  cases es with
  | nil => simp [evalList] at hev; subst hev; exact Seg.nil
  | cons e rest =>
    simp only [evalList, bind_ok] at hev
    obtain ⟨v, hv, ws, hws, hev⟩ := hev
    cases hev
    have hs' : wfExpr E.K.M E.P E.A e = true ∧ wfList E.K.M E.P E.A rest = true := by simpa [wfList] using hs
    simp only [relList] at hoof ⊢
    exact ((ihE E e v hv hs'.1 hok p a st (oof_false_of_relList hoof)).append (ihL E rest ws hws hs'.2 hok _ _ _ hoof)).to
      (by simp)

theorem seg_args_step {n} (ihE : SegExpr n) (ihA : SegArgs n) : SegArgs (n + 1) := by
  intro E args as hev hs s hok p a st hoof
  match args, hs with
  | [], _ => simp [evalArgs] at hev; subst hev; exact Seg.nil
  | (some _, _) :: _, hs => simp [wfArgs] at hs
  | (none, e) :: rest, hs =>
    simp only [evalArgs, bind_ok] at hev
    obtain ⟨v, hv, ws, hws, hev⟩ := hev
    cases hev
    have hs' : wfExpr E.K.M E.P E.A e = true ∧ wfArgs E.K.M E.P E.A rest = true := by simpa [wfArgs] using hs
    simp only [relArgs] at hoof ⊢
    exact ((ihE E e v hv hs'.1 hok p a st (oof_false_of_relArgs hoof)).append (ihA E rest ws hws hs'.2 hok _ _ _ hoof)).to
      (by simp)

theorem seg_pairs_step {n} (ihE : SegExpr n) (ihP : SegPairs n) : SegPairs (n + 1) := by
  intro E kvs ps hev hs s hok p a st hoof
  match kvs with
  | [] => simp [evalPairs] at hev; subst hev; exact Seg.nil
  | (k, e) :: rest =>
    simp only [evalPairs, bind_ok] at hev
    obtain ⟨kv, hkv, v, hv, ws, hws, hev⟩ := hev
    cases hev
    have hs' : (wfExpr E.K.M E.P E.A k = true ∧ wfExpr E.K.M E.P E.A e = true) ∧ wfPairs E.K.M E.P E.A rest = true := by
      simpa [wfPairs] using hs
    simp only [relPairs] at hoof ⊢
    have ho2 := oof_false_of_relPairs hoof
    exact (((ihE E k kv hkv hs'.1.1 hok p a st (oof_false_of_relExpr ho2)).append (ihE E e v hv hs'.1.2 hok _ _ _ ho2)).append
      ((ihP E rest ws hws hs'.2 hok _ _ _ (by simpa [Nat.add_assoc] using hoof)).cast (by simp [Nat.add_assoc]))).to
      (by simp [flat])

theorem seg_posArgs_step {n} (ihE : SegExpr n) (ihA : SegPosArgs n) : SegPosArgs (n + 1) := by
  intro E args as hev hs s hok p a st hoof
  match args with
  | [] => simp [evalArgs] at hev; subst hev; exact Seg.nil
  | (k, e) :: rest =>
    simp only [evalArgs, bind_ok] at hev
    obtain ⟨v, hv, ws, hws, hev⟩ := hev
    cases hev
    have hs' : wfExpr E.K.M E.P E.A e = true ∧ wfCallArgs E.K.M E.P E.A rest = true := by simpa [wfCallArgs] using hs
    cases k with
    | some k =>
      simp only [relPosArgs, splitArgs_cons_some] at hoof ⊢
      exact ihA E rest ws hws hs'.2 hok p a st hoof
    | none =>
      simp only [relPosArgs, splitArgs_cons_none] at hoof ⊢
      exact ((ihE E e v hv hs'.1 hok p a st (oof_false_of_relPosArgs hoof)).append
        (ihA E rest ws hws hs'.2 hok _ _ _ hoof)).to (by simp)

theorem seg_kwArgs_step {n} (ihE : SegExpr n) (ihA : SegKwArgs n) : SegKwArgs (n + 1) := by
  intro E args as hev hs s hok p a st hoof
  match args with
  | [] => simp [evalArgs] at hev; subst hev; exact Seg.nil
  | (k, e) :: rest =>
    simp only [evalArgs, bind_ok] at hev
    obtain ⟨v, hv, ws, hws, hev⟩ := hev
    cases hev
    have hs' : wfExpr E.K.M E.P E.A e = true ∧ wfCallArgs E.K.M E.P E.A rest = true := by simpa [wfCallArgs] using hs
    cases k with
    | none =>
      simp only [relKwArgs, splitArgs_cons_none] at hoof ⊢
      exact ihA E rest ws hws hs'.2 hok p a st hoof
    | some k =>
      simp only [relKwArgs, splitArgs_cons_some] at hoof ⊢
      exact ((Seg.cons (.loadConst (.str k)) (ihE E e v hv hs'.1 hok _ _ _ (oof_false_of_relKwArgs hoof))).append
        ((ihA E rest ws hws hs'.2 hok _ _ _ hoof).move (by simp only [List.length_cons]; omega))).to
        (by simp [flatKw, flat])

/-- the operator loop of a chained comparison together with the clean-up code behind it -/
def SegChain (n : Nat) : Prop :=
  ∀ (E : ECtx) ops a v, evalChain n E.K.ctx E.heap (E.loc ++ E.env) a ops = .ok v → wfChain E.K.M E.P E.A ops = true → ops ≠ [] →
    ∀ {s}, E.ok s → ∀ p aux cs st, (relChain ops p aux cs).2.oof = false → cs = p + (relChain ops p aux cs).1.length + 1 →
      Seg E s p ((relChain ops p aux cs).1 ++ [.jump (cs + 2), .swap, .discardTop]) (a :: st) (v :: st)

theorem seg_chain_step {n} (ihE : SegExpr n) (ihC : SegChain n) : SegChain (n + 1) := by
  intro E ops a v hev hs hne s hok p aux cs st hoof hcs
  match ops, hne with
  | [(op, e)], _ =>
    have hse : wfExpr E.K.M E.P E.A e = true := by simpa [wfChain] using hs
    simp only [evalChain, bind_ok] at hev
    obtain ⟨b, hb, r, hr, hev⟩ := hev
    simp only [relChain] at hoof hcs ⊢
    have hv : v = .bool r := by
      cases r with
      | false => simp at hev; exact hev.symm
      | true => cases n <;> simp [evalChain] at hev; exact hev.symm
    subst hv
    exact ((ihE E e b hb hse hok p aux _ hoof).append (.cmp hr)).append (.over (.jump _) (by simp only [List.length_cons, List.length_nil]; omega))
  | (op, e) :: o2 :: rest, _ =>
    have hs' : wfExpr E.K.M E.P E.A e = true ∧ wfChain E.K.M E.P E.A (o2 :: rest) = true := by simpa [wfChain] using hs
    simp only [evalChain, bind_ok] at hev
    obtain ⟨b, hb, r, hr, hev⟩ := hev
    simp only [relChain] at hoof hcs ⊢
    simp only [List.length_append, List.length_cons, List.length_nil] at hcs
    simp only [List.append_assoc, List.cons_append, List.nil_append]
    refine (ihE E e b hb hs'.1 hok p aux _ (oof_false_of_relChain hoof)).append (.cons (.compareAndPreserve hr) ?_)
    cases r with
    | true =>
      simp only [if_true] at hev
      exact .cons (.jumpIfFalseOrPop_go _ (by simp [truthy])) ((ihC E (o2 :: rest) b v hev hs'.2 (by simp) hok _ _ cs st hoof (by omega)).move rfl)
    | false =>
      simp at hev; subst hev
      exact .goto_past (.jumpIfFalseOrPop_jump _ (by simp [truthy])) (by omega) (.cons .swap (.one .discardTop))

theorem seg_folded {n e v w} {E : ECtx} {s : VmState} {p a st} (hc : asConst e = .val w)
    (hev : evalExpr n E.K.ctx E.heap (E.loc ++ E.env) e = .ok v) : Seg E s p (relExpr e p a).1 st (v :: st) := by
  rw [relExpr_val hc]
  have hv : v = w := by
    rcases asConst_sound hc n E.K.ctx E.heap (E.loc ++ E.env) with h | h <;> rw [h] at hev <;> cases hev
    rfl
  exact hv ▸ .one (.loadConst v)

/-- `is defined` / `is undefined` cannot tell a macro object from the macro value it stands for -/
theorem MacroRel.applyTest_defined {K G cls hl u w name} (h : MacroRel K G cls hl u w)
    (hname : name = "defined" ∨ name = "undefined") : applyTest name u [] = applyTest name w [] := by
  cases w <;> first
    | (have : u = _ := h; subst this; rfl)
    | (obtain ⟨off, clo, hu, _⟩ := h; subst hu
       rcases hname with rfl | rfl <;> simp [applyTest])

theorem seg_expr_step {n} (ihE : SegExpr n) (ihL : SegList n) (ihA : SegArgs n) (ihP : SegPairs n)
    (ihC : SegChain n) (ihPA : SegPosArgs n) (ihKA : SegKwArgs n) (ihCall : SimCall n) :
    SegExpr (n + 1) := by
  intro E e v hev hs s hok p a st hoof
  show Seg E s p (relExpr e p a).1 st (v :: st)
  cases hc : asConst e with
  | val w => exact seg_folded hc hev
  | oof => rw [relExpr_oof hc] at hoof; simp at hoof
  | no =>
    cases e with
    | const l => simp [asConst] at hc
    | var x =>
      rw [rel_var]
      simp [evalExpr] at hev; subst hev
      have hx : ¬ x ∈ E.K.M ∧ allowed E.P E.A x = true := by simpa [wfExpr] using hs
      exact .lookup hok hx.1 hx.2
    | unop op x =>
      have hsx : wfExpr E.K.M E.P E.A x = true := by simpa [wfExpr] using hs
      cases op with
      | not =>
        rw [rel_not hc] at hoof ⊢
        simp only [evalExpr, bind_ok] at hev
        obtain ⟨w, hw, hev⟩ := hev
        cases hev
        exact (ihE E x w hw hsx hok p a st hoof).append (.one .not)
      | neg =>
        rw [rel_neg hc] at hoof ⊢
        simp only [evalExpr, bind_ok] at hev
        obtain ⟨w, hw, hev⟩ := hev
        exact (ihE E x w hw hsx hok p a st hoof).append (.one (.neg hev))
    | binop op l r =>
      have hs' : wfExpr E.K.M E.P E.A l = true ∧ wfExpr E.K.M E.P E.A r = true := by simpa [wfExpr] using hs
      by_cases hand : op = .and
      · subst hand
        rw [rel_and hc] at hoof ⊢
        simp only [evalExpr, bind_ok] at hev
        obtain ⟨x, hx, hev⟩ := hev
        simp only [List.append_assoc, List.cons_append, List.nil_append]
        refine (ihE E l x hx hs'.1 hok p a st (oof_false_of_relExpr hoof)).append ?_
        by_cases ht : truthy x = true
        · rw [if_pos ht] at hev
          exact .cons (.jumpIfFalseOrPop_go _ ht) (ihE E r v hev hs'.2 hok _ _ st hoof)
        · rw [if_neg ht] at hev; cases hev
          exact .over (.jumpIfFalseOrPop_jump _ ht) rfl
      · by_cases hor : op = .or
        · subst hor
          rw [rel_or hc] at hoof ⊢
          simp only [evalExpr, bind_ok] at hev
          obtain ⟨x, hx, hev⟩ := hev
          simp only [List.append_assoc, List.cons_append, List.nil_append]
          refine (ihE E l x hx hs'.1 hok p a st (oof_false_of_relExpr hoof)).append ?_
          by_cases ht : truthy x = true
          · rw [if_pos ht] at hev; cases hev
            exact .over (.jumpIfTrueOrPop_jump _ ht) rfl
          · rw [if_neg ht] at hev
            exact .cons (.jumpIfTrueOrPop_go _ ht) (ihE E r v hev hs'.2 hok _ _ st hoof)
        · rw [rel_binop hc hand hor] at hoof ⊢
          rw [evalExpr_binop hand hor] at hev
          simp only [bind_ok] at hev
          obtain ⟨x, hx, y, hy, hev⟩ := hev
          exact ((ihE E l x hx hs'.1 hok p a st (oof_false_of_relExpr hoof)).append (ihE E r y hy hs'.2 hok _ _ _ hoof)).append
            (.one (.binInstr hand hor hev))
    | cmp x ops =>
      have hs' : (2 ≤ ops.length ∧ wfExpr E.K.M E.P E.A x = true) ∧ wfChain E.K.M E.P E.A ops = true := by
        simpa [wfExpr] using hs
      rw [relExpr.eq_def] at hoof ⊢
      simp only [hc] at hoof ⊢
      simp only [evalExpr, bind_ok] at hev
      obtain ⟨xv, hx, hev⟩ := hev
      have hlen := (relChain_cs ops (p + (relExpr x p a).1.length) (relExpr x p a).2
        (p + (relExpr x p a).1.length +
          (relChain ops (p + (relExpr x p a).1.length) (relExpr x p a).2 0).1.length + 1) 0).1
      have hne : ops ≠ [] := by intro h0; rw [h0] at hs'; simp at hs'
      simp only [List.append_assoc]
      exact (ihE E x xv hx hs'.1.2 hok p a st (oof_false_of_relChain hoof)).append
        (ihC E ops xv v hev hs'.2 hne hok _ _ _ st hoof (by omega))
    | ife c t f =>
      simp only [evalExpr, bind_ok] at hev
      obtain ⟨cv, hcv, hev⟩ := hev
      cases f with
      | none =>
        have hs' : wfExpr E.K.M E.P E.A c = true ∧ wfExpr E.K.M E.P E.A t = true := by simpa [wfExpr] using hs
        rw [rel_ife_none] at hoof ⊢
        simp only at hoof ⊢
        refine (ihE E c cv hcv hs'.1 hok p a st (oof_false_of_relExpr hoof)).append ?_
        by_cases ht : truthy cv = true
        · rw [if_pos ht] at hev
          exact .cons (.jumpIfFalse_go _ ht) ((ihE E t v hev hs'.2 hok _ _ st hoof).append (.over (.jump _) rfl))
        · rw [if_neg ht] at hev; cases hev
          exact .goto_past (.jumpIfFalse_jump _ ht) rfl (.one (.loadConst _))
      | some f =>
        have hs' : (wfExpr E.K.M E.P E.A c = true ∧ wfExpr E.K.M E.P E.A t = true) ∧ wfExpr E.K.M E.P E.A f = true := by
          simpa [wfExpr] using hs
        rw [rel_ife_some] at hoof ⊢
        simp only at hoof ⊢
        have ho2 := oof_false_of_relExpr hoof
        refine (ihE E c cv hcv hs'.1.1 hok p a st (oof_false_of_relExpr ho2)).append ?_
        by_cases ht : truthy cv = true
        · rw [if_pos ht] at hev
          exact .cons (.jumpIfFalse_go _ ht) ((ihE E t v hev hs'.1.2 hok _ _ st ho2).append (.over (.jump _) rfl))
        · rw [if_neg ht] at hev
          exact .goto_past (.jumpIfFalse_jump _ ht) rfl (ihE E f v hev hs'.2 hok _ _ st hoof)
    | filter name x args =>
      have hs' : wfExpr E.K.M E.P E.A x = true ∧ wfArgs E.K.M E.P E.A args = true := by simpa [wfExpr] using hs
      rw [relExpr.eq_def] at hoof ⊢
      simp only [hc] at hoof ⊢
      simp only [evalExpr, bind_ok] at hev
      obtain ⟨xv, hx, as, has, hev⟩ := hev
      have hsplit := splitArgs_none as (evalArgs_keys args as has hs'.2)
      rw [hsplit.2, hsplit.1] at hev
      have hoA : (relArgs args (p + (relExpr x p a).1.length) (relExpr x p a).2).2.oof = false := by
        simpa using hoof
      rw [← evalArgs_length args as has, ← List.length_map (as := as) (·.2)]
      exact ((ihE E x xv hx hs'.1 hok p a st (oof_false_of_relArgs hoA)).append (ihA E args as has hs'.2 hok _ _ _ hoA)).append
        (.one (.applyFilter hev))
    | getattr x name =>
      have hsx : wfExpr E.K.M E.P E.A x = true := by simpa [wfExpr] using hs
      rw [rel_getattr] at hoof ⊢
      simp only [evalExpr, bind_ok] at hev
      obtain ⟨w, hw, hev⟩ := hev
      exact (ihE E x w hw hsx hok p a st hoof).append (.one (.getAttr hev))
    | getitem x i =>
      have hs' : wfExpr E.K.M E.P E.A x = true ∧ wfExpr E.K.M E.P E.A i = true := by simpa [wfExpr] using hs
      rw [rel_getitem] at hoof ⊢
      simp only [evalExpr, bind_ok] at hev
      obtain ⟨xv, hx, iv, hi, hev⟩ := hev
      exact ((ihE E x xv hx hs'.1 hok p a st (oof_false_of_relExpr hoof)).append (ihE E i iv hi hs'.2 hok _ _ _ hoof)).append
        (.one (.getItem hev))
    | list items =>
      have hsl : wfList E.K.M E.P E.A items = true := by simpa [wfExpr] using hs
      rw [relExpr.eq_def] at hoof ⊢
      simp only [hc] at hoof ⊢
      simp only [evalExpr, bind_ok] at hev
      obtain ⟨vs, hvs, hev⟩ := hev
      cases hev
      rw [← evalList_length items vs hvs]
      exact (ihL E items vs hvs hsl hok p a st hoof).append (.one .buildList)
    | map kvs =>
      have hsp : wfPairs E.K.M E.P E.A kvs = true := by simpa [wfExpr] using hs
      rw [relExpr.eq_def] at hoof ⊢
      simp only [hc] at hoof ⊢
      simp only [evalExpr, bind_ok] at hev
      obtain ⟨ps, hps, m, hm, hev⟩ := hev
      cases hev
      rw [← evalPairs_length kvs ps hps]
      exact (ihP E kvs ps hps hsp hok p a st hoof).append (.one (.buildMap hm))
    | test name x args =>
      by_cases hMx : ∃ y, x = .var y ∧ y ∈ E.K.M
      · -- `m is defined` for a macro name `m`
        obtain ⟨y, rfl, hyM⟩ := hMx
        have hs' : (name = "defined" ∨ name = "undefined") ∧ allowed E.P E.A y = true ∧ args = [] := by
          have := hs
          simp only [wfExpr, Bool.or_eq_true, Bool.and_eq_true] at this
          rcases this with h | h
          · exact ⟨by simpa using h.1.1.2, h.1.2, by simpa using h.2⟩
          · have : ¬ y ∈ E.K.M := by simpa using h.1.1
            exact absurd hyM this
        obtain ⟨hname, hya, rfl⟩ := hs'
        have hrel : relExpr (.test name (.var y) []) p a =
            ([.lookup y, .performTest name 1 (a.testId name).1], (a.testId name).2) := by
          conv => lhs; unfold relExpr
          simp [asConst, relArgs, relExpr]
        rw [hrel]
        cases n with
        | zero => simp [evalExpr, bind, Except.bind] at hev
        | succ n' =>
          simp only [evalExpr, evalArgs, bind, Except.bind, splitArgs, List.filterMap_nil] at hev
          obtain ⟨b, ht, rfl⟩ := map_ok.1 hev
          refine .lookup_then hok hya fun cls u hag => .one (Goes.performTest (args := []) ?_)
          simp only [ValAgree, if_pos hyM] at hag
          rw [hag.applyTest_defined hname]; exact ht
      have hs' : wfExpr E.K.M E.P E.A x = true ∧ wfArgs E.K.M E.P E.A args = true := by
        have := hs
        simp only [wfExpr, Bool.or_eq_true, Bool.and_eq_true] at this
        rcases this with h | h
        · cases x <;> try (simp at h; done)
          rename_i y
          simp only [Bool.and_eq_true] at h
          exact absurd ⟨y, rfl, by simpa using h.1.1.1⟩ hMx
        · exact h
      rw [relExpr.eq_def] at hoof ⊢
      simp only [hc] at hoof ⊢
      simp only [evalExpr, bind_ok] at hev
      obtain ⟨xv, hx, as, has, hev⟩ := hev
      have hsplit := splitArgs_none as (evalArgs_keys args as has hs'.2)
      rw [hsplit.2, hsplit.1] at hev
      obtain ⟨b, ht, rfl⟩ := map_ok.1 hev
      have hoA : (relArgs args (p + (relExpr x p a).1.length) (relExpr x p a).2).2.oof = false := by
        simpa using hoof
      rw [← evalArgs_length args as has, ← List.length_map (as := as) (·.2)]
      exact ((ihE E x xv hx hs'.1 hok p a st (oof_false_of_relArgs hoA)).append (ihA E args as has hs'.2 hok _ _ _ hoA)).append
        (.one (.performTest ht))
    | call f args =>
      cases f with
      | var x =>
        have hs' : ((x ∈ E.K.M ∧ allowed E.P E.A x = true) ∧ (keysOf args).Nodup ∧ ¬ "caller" ∈ keysOf args) ∧ wfCallArgs E.K.M E.P E.A args = true := by
          simpa [wfExpr] using hs
        simp only [evalExpr, bind, Except.bind] at hev
        cases hw' : MJ.Eval.lookup E.K.ctx E.heap (E.loc ++ E.env) x with
        | none => rw [hw'] at hev; simp at hev
        | some w =>
          rw [hw'] at hev
          simp only at hev
          split at hev
          · simp at hev
          · rename_i as has
            obtain ⟨hkeys, hplen, hklen⟩ := evalArgs_keysOf args as has
            have hplA : ∀ v, v ∈ as.map (·.2) → MJ.Eval.plain v = true := evalArgs_plain hok.1.plain n args as hs'.2 has
            have hncA : "caller" ∉ (splitArgs as).2.map (·.1) := by rw [hkeys]; exact hs'.1.2.2
            have hpos : ∀ v, v ∈ (splitArgs as).1 → MJ.Eval.plain v = true := fun v hv => hplA v (mem_splitArgs_pos hv)
            have call : ∀ {vals k p st}, (∀ cls, ArgsRel E.K E.G cls E.heap.length as vals) → k = vals.length →
                Seg E s p [.callFunction x k] (vals.reverse ++ st) (v :: st) := fun ha hk =>
              .call ihCall hok hs'.1.1.1 hs'.1.1.2 hw' hev (fun cls _ => ha cls) hk
            rw [relExpr.eq_def] at hoof ⊢
            simp only [hc] at hoof ⊢
            cases hk : kwArgs args with
            | nil =>
              simp only [hk] at hoof ⊢
              have hkw : (splitArgs as).2 = [] := by simpa [hk] using hklen
              exact (ihPA E args as has hs'.2 hok p a st hoof).append (call (fun _ => ⟨hpos, .inl ⟨hkw, rfl⟩⟩) hplen.symm)
            | cons k0 ks =>
              simp only [hk] at hoof ⊢
              have hkwne : (splitArgs as).2 ≠ [] := by
                intro h0; have := hklen; rw [hk, h0] at this; simp at this
              have callK : ∀ {m p}, KwBundle (splitArgs as).2 m → Seg E s p [.callFunction x ((posArgs args).length + 1)]
                  (.kwargs m :: ((splitArgs as).1.reverse ++ st)) (v :: st) := fun {m p} hb =>
                (call (vals := (splitArgs as).1 ++ [.kwargs m]) (fun _ => ⟨hpos, .inr ⟨hkwne, m, .of_data hplA hncA hb, rfl⟩⟩)
                  (by simp [hplen])).castIn (by simp)
              cases hst : staticKwargs (k0 :: ks) with
              | some m =>
                simp only [hst] at hoof ⊢
                have hbundle : KwBundle (splitArgs as).2 m :=
                  staticKwargs_bundle args as m has (by rw [hk]; exact hst) hs'.1.2.1
                exact (ihPA E args as has hs'.2 hok p a st hoof).append (.cons (.loadConst _) (callK hbundle))
              | none =>
                simp only [hst] at hoof ⊢
                have hnd : ((splitArgs as).2.map (·.1)).Nodup := by rw [hkeys]; exact hs'.1.2.1
                obtain ⟨m, hm, hget⟩ := insertPairs_kw (splitArgs as).2 [] hnd (fun k _ => by simp [assocGet])
                have hbundle : KwBundle (splitArgs as).2 m := by
                  intro k; rw [hget k]; cases assocGet k (splitArgs as).2 <;> simp [assocGet]
                rw [← hk, ← hklen]
                exact ((ihPA E args as has hs'.2 hok p a st (oof_false_of_relKwArgs hoof)).append
                  (ihKA E args as has hs'.2 hok _ _ _ hoof)).append (.cons (.buildKwargs hm) (callK hbundle))
      | _ => simp [wfExpr] at hs

/-- the expression-level statements at fuel `n` together, as `AllSim` carries them through its induction -/
def SimExprs (n : Nat) : Prop :=
  SegExpr n ∧ SegList n ∧ SegArgs n ∧ SegPairs n ∧ SegChain n ∧ SegPosArgs n ∧ SegKwArgs n

theorem sim_exprs_zero : SimExprs 0 := by
  refine ⟨?_, ?_, ?_, ?_, ?_, ?_, ?_⟩
  · intro E e v h; simp [evalExpr] at h
  · intro E es vs h; simp [evalList] at h
  · intro E args as h; simp [evalArgs] at h
  · intro E kvs ps h; simp [evalPairs] at h
  · intro E ops a v h; simp [evalChain] at h
  · intro E args as h; simp [evalArgs] at h
  · intro E args as h; simp [evalArgs] at h

theorem sim_exprs_step {n} (ih : SimExprs n) (ihCall : SimCall n) : SimExprs (n + 1) := by
  obtain ⟨hE, hL, hA, hP, hC, hPA, hKA⟩ := ih
  exact ⟨seg_expr_step hE hL hA hP hC hPA hKA ihCall, seg_list_step hE hL, seg_args_step hE hA, seg_pairs_step hE hP,
    seg_chain_step hE hC, seg_posArgs_step hE hPA, seg_kwArgs_step hE hKA⟩

end MJ.Vm
