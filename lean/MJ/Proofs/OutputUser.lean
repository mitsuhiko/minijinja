import MJ.Model.OutputSites
import MJ.Proofs.Output
/-!
# User code, and write sites that drop an error, between engine and sink (C19)

User code (a custom formatter, an `Object::render`) sees the result of each of its writes and may
do anything with it (`UserCode`).  Whatever it does, the sink and the caller cannot tell: the run
is the strict run of its all-writes-succeeded operations, or that run stopped at a failed write
and both end with the same adapter (`runX_okOps`) — up to the first failed write the user code
sees successes only, and after it the adapter is poisoned (`runX_poisoned`); at the API the sink's
log and the result are those of the strict render, or the user code panicked later
(`renderToX_flattenX`).  User code that forwards failures, or that writes to a writer that never
fails, *is* those operations (`runX_flattenX`).

Two kinds of code that drop a result are such strategies.  User code that ignores a result
(`UOp.writeIgn`) writes and returns `Ok` (`UOp.toX`, `runU_eq`).  So does a write site of the model
with switches (`MJ/Model/OutputSites.lean`) that drops the `fmt::Error` (`SXOp.toXWith`,
`runSX_eq`): with the switches of the adapter and of the boundary on, `renderToF` is `renderToX`
of these strategies for ANY classification of the sites (`renderToF_eq`), and sites that all
propagate give strict operations (`toXWith_propagate`).
-/
namespace MJ.Output
open MJ

/-- a failed write leaves the adapter poisoned: it was so before, or the sink's error was stored -/
theorem Out.write_failed (o : Out WriteWrapper) (c : Chunk) (h : (o.write c).2 = false) :
    ∃ e, (o.write c).1.w.err = some e := by
  obtain ⟨w, s⟩ := o
  cases s with
  | nil =>
    rw [Out.write_base] at h ⊢
    exact Option.ne_none_iff_exists'.1 fun hn => by rw [(put_ok_iff w c).2 hn] at h; cases h
  | cons top s => cases top <;> cases h

theorem Out.write_poisoned (o : Out WriteWrapper) (c : Chunk) {e : IoErr} (h : o.w.err = some e) :
    (o.write c).1.w = o.w := by
  obtain ⟨w, s⟩ := o
  cases s with
  | nil => rw [Out.write_base, put_poisoned h]
  | cons top s => cases top <;> rfl

/-- **Sticky**: user code running against a poisoned adapter cannot reach the sink, whatever it
    does with the results of its writes -/
theorem UserCode.run_poisoned (u : UserCode) (o : Out WriteWrapper) {e : IoErr} (h : o.w.err = some e) :
    (u.run o).1.w = o.w := by
  induction u generalizing o with
  | ret ok => rfl
  | write c k ih =>
    have hw := Out.write_poisoned o c h
    rw [UserCode.run, ih _ _ (hw ▸ h), hw]

theorem stepX_poisoned (x : XOp) (st : St WriteWrapper) {e : IoErr} (h : st.out.w.err = some e) :
    (stepX x st).1.out.w = st.out.w := by
  cases x with
  | user u => exact UserCode.run_poisoned u st.out h
  | strict o =>
    obtain ⟨⟨w, s⟩, ws⟩ := st
    rcases step_cases o s ws with ⟨c, rfl, rfl⟩ | ⟨s', ws', halt, hstep⟩
    · rw [stepX, step_base_write, put_poisoned h]
    · rw [stepX, hstep w]

theorem runX_poisoned (xs : List XOp) (st : St WriteWrapper) {e : IoErr} (h : st.out.w.err = some e) :
    (runX xs st).1.out.w = st.out.w := by
  induction xs generalizing st with
  | nil => rfl
  | cons x xs ih =>
    have hs := stepX_poisoned x st h
    rw [runX_cons]
    generalize stepX x st = r at hs
    obtain ⟨st', _ | y⟩ := r
    · exact (ih st' (hs ▸ h)).trans hs
    · exact hs

/-- user code that ignores the result of a write is the strategy that writes and returns `Ok`
    whatever happened -/
def UOp.toX : UOp → XOp
  | .strict o => .strict o
  | .writeIgn c => .user (.write c fun _ => .ret true)

theorem runU_eq {B : Type} [FmtWrite B] (us : List UOp) (st : St B) :
    runU us st = runX (us.map UOp.toX) st := by
  induction us generalizing st with
  | nil => rfl
  | cons u us ih =>
    rw [runU, List.map_cons, runX_cons, show stepU u st = stepX u.toX st by cases u <;> rfl]
    rcases stepX u.toX st with ⟨st', _ | _ | _⟩
    · exact ih st'
    · rfl
    · rfl

theorem flattenX_toX (us : List UOp) : flattenX (us.map UOp.toX) = strictU us := by
  induction us with
  | nil => rfl
  | cons u us ih => cases u <;> exact congrArg (_ :: ·) ih

theorem writeBytesF_ok (w : WriteWrapper) (s : Bytes) : w.writeBytesF true true s = w.writeBytes s := by
  unfold WriteWrapper.writeBytesF WriteWrapper.writeBytes WriteWrapper.writeBytesOk
  cases w.err with
  | some e => rfl
  | none => cases (writeAll w.script s).err <;> rfl

theorem fmtWriteF_ok : fmtWriteF AdapterFacts.ok = (inferInstance : FmtWrite WriteWrapper) := by
  show (⟨_, _⟩ : FmtWrite WriteWrapper) = ⟨WriteWrapper.writeBytes, WriteWrapper.writeBytes⟩
  congr 1 <;> funext w s <;> exact writeBytesF_ok w s

theorem finishF_ok (w : WriteWrapper) (r : Chk (Except Err Unit)) : w.finishF ApiFacts.ok r = w.finish r := by
  rcases r with _ | (e | u) <;> rfl

theorem stepSX_eq {B : Type} [FmtWrite B] (prop : Nat → Bool) (x : SXOp) (st : St B) :
    stepSX prop x st = stepX (x.toXWith prop) st := by
  cases x with
  | user u => rfl
  | op i o =>
    cases o with
    | write c =>
      rw [stepSX, SXOp.toXWith]
      cases prop i <;> rfl
    | _ => rfl

theorem runSX_eq {B : Type} [FmtWrite B] (prop : Nat → Bool) (xs : List SXOp) (st : St B) :
    runSX prop xs st = runX (xs.map (SXOp.toXWith prop)) st := by
  induction xs generalizing st with
  | nil => rfl
  | cons x xs ih =>
    rw [runSX, List.map_cons, runX_cons, stepSX_eq]
    rcases stepX (x.toXWith prop) st with ⟨st', _ | _ | _⟩
    · exact ih st'
    · rfl
    · rfl

theorem toXWith_propagate (prop : Nat → Bool) (xs : List SXOp)
    (h : ∀ i o, SXOp.op i o ∈ xs → prop i = true) :
    xs.map (SXOp.toXWith prop) = xs.map SXOp.toX := by
  refine List.map_congr_left fun x hx => ?_
  cases x with
  | user u => rfl
  | op i o =>
    cases o with
    | write c => rw [SXOp.toXWith, h i _ hx]; rfl
    | _ => rfl

/-- with the adapter and the boundary as the model has them, the engine with ANY classification
    of its write sites is a render with user strategies -/
theorem renderToF_eq (F : CodeFacts) (api : Api) (xs : List SXOp) (script : List Beh)
    (ha : F.adapter = AdapterFacts.ok) (hb : F.api api = ApiFacts.ok) :
    renderToF F api xs script = renderToX (xs.map (SXOp.toXWith F.site)) script := by
  rw [renderToF, renderToX, ha, hb, fmtWriteF_ok, runSX_eq, finishF_ok]

theorem renderStringF_eq (F : CodeFacts) (xs : List SXOp) :
    renderStringF F xs = renderStringX (xs.map (SXOp.toXWith F.site)) := by
  rw [renderStringF, renderStringX, runSX_eq]

theorem Out.write_ok {B : Type} [FmtWrite B] (hput : ∀ (b : B) c, (put b c).2 = true) (o : Out B)
    (c : Chunk) : (o.write c).2 = true := by
  obtain ⟨w, s⟩ := o
  cases s with
  | nil => exact hput w c
  | cons top s => cases top <;> rfl

/-- user code runs as its all-writes-succeeded operations do if it forwards failures — or if
    there are none, as on the `String` -/
theorem runX_user_okOps {B : Type} [FmtWrite B] (u : UserCode)
    (h : u.forwards ∨ ∀ (b : B) c, (put b c).2 = true) (xs : List XOp) (st : St B) :
    runX (.user u :: xs) st = runX (u.okOps.map XOp.strict ++ xs) st := by
  induction u generalizing st with
  | ret ok => cases ok <;> rfl
  | write c k ih =>
    have hX : runX (.user (.write c k) :: xs) st =
        runX (.user (k (st.out.write c).2) :: xs) ⟨(st.out.write c).1, st.wraps⟩ := rfl
    rw [hX, UserCode.okOps, List.map_cons, List.cons_append, runX_cons (.strict (.write c)),
      show stepX (.strict (.write c)) st = step (.write c) st from rfl, step]
    cases hok : (st.out.write c).2 with
    | true => exact ih true (h.imp (·.2) id) _
    | false =>
      rcases h with ⟨hf, _⟩ | hput
      · rw [hf]; rfl
      · rw [Out.write_ok hput] at hok; cases hok

theorem runX_flattenX {B : Type} [FmtWrite B] (xs : List XOp)
    (h : (∀ u, XOp.user u ∈ xs → u.forwards) ∨ ∀ (b : B) c, (put b c).2 = true) (st : St B) :
    runX xs st = run (flattenX xs) st := by
  induction xs generalizing st with
  | nil => rfl
  | cons x xs ih =>
    have hx := h.imp (fun h u hu => h u (List.mem_cons_of_mem _ hu)) id
    cases x with
    | strict o =>
      rw [show XOp.strict o :: xs = [o].map XOp.strict ++ xs from rfl, runX_append, runX_strict,
        andThen_congr _ (ih hx), ← run_append]
      rfl
    | user u =>
      rw [runX_user_okOps u (h.imp (· u List.mem_cons_self) id) xs st, runX_append, runX_strict,
        andThen_congr _ (ih hx), ← run_append]
      rfl

/-- **Dropped errors change nothing.**  A run with user code of any behaviour IS the strict run of
    its all-writes-succeeded operations (`flattenX`), unless the strict run stopped at a failed
    write; then the two end with the same adapter, which holds an error: up to that write the
    strategies see successes only, and after it the adapter is poisoned (`Out.write_failed`),
    whatever the strategies go on to do. -/
theorem runX_okOps (xs : List XOp) (st : St WriteWrapper) :
    runX xs st = run (flattenX xs) st ∨
    ((runX xs st).1.out.w = (run (flattenX xs) st).1.out.w ∧
      (run (flattenX xs) st).1.out.w.err ≠ none ∧ ∃ e0, (run (flattenX xs) st).2 = .ok (.error e0)) := by
  induction xs generalizing st with
  | nil => exact Or.inl rfl
  | cons x xs ih =>
    cases x with
    | strict o =>
      rw [runX_cons, show flattenX (.strict o :: xs) = o :: flattenX xs from rfl, run_cons,
        show stepX (.strict o) st = step o st from rfl]
      rcases step o st with ⟨st', _ | y⟩
      · exact ih st'
      · exact Or.inl rfl
    | user u =>
      induction u generalizing st with
      | ret ok =>
        cases ok with
        | true => exact ih st
        | false => exact Or.inl rfl
      | write c k ihk =>
        have hp := Out.write_failed st.out c
        rw [show runX (.user (.write c k) :: xs) st =
            runX (.user (k (st.out.write c).2) :: xs) ⟨(st.out.write c).1, st.wraps⟩ from rfl,
          show flattenX (.user (.write c k) :: xs) = .write c :: flattenX (.user (k true) :: xs) from rfl,
          run_cons, step]
        cases hok : (st.out.write c).2 with
        | true => exact ihk true _
        | false =>
          obtain ⟨e, he⟩ := hp hok
          exact Or.inr ⟨runX_poisoned _ _ he, (he ▸ nofun : (st.out.write c).1.w.err ≠ none), _, rfl⟩

/-- **Dropped errors change nothing at the API.**  With user code of any behaviour the sink sees
    exactly the calls of the strict render of the all-writes-succeeded operations, and the API
    returns that render's result — or a panic raised later by the user code. -/
theorem renderToX_flattenX (xops : List XOp) (script : List Beh) :
    (renderToX xops script).calls = (renderTo (flattenX xops) script).calls ∧
    ((renderToX xops script).result = (renderTo (flattenX xops) script).result ∨
     (renderToX xops script).result = .panic) := by
  rw [renderToX, renderTo]
  rcases runX_okOps xops (St.init (⟨script, [], none⟩ : WriteWrapper)) with h | ⟨hw, herr, e0, hres⟩
  · rw [h]; exact ⟨rfl, Or.inl rfl⟩
  · obtain ⟨e, he⟩ := Option.ne_none_iff_exists'.1 herr
    rw [hw, hres, finish_of_some he (.ok (.error e0)) nofun]
    exact ⟨rfl, finish_of_some_or_panic he _⟩

/-- **The specification of a render into a sink with user strategies**, relative to the plain
    render of the same operations (cf. `render_tracks`; here user code may have dropped the error
    and panicked later): on the `String` every strategy takes its all-writes-succeeded path, and
    the sink sees what it sees when these operations run strictly. -/
theorem renderX_tracks (xops : List XOp) (script : List Beh) :
    ∃ err, Tracks (renderToX xops script).calls err (renderStringX xops).buf ∧
      (err = none → (renderToX xops script).result = (renderStringX xops).result) ∧
      (∀ e, err = some e → (renderToX xops script).result = .ok (.error (.writeFailure (some e))) ∨
        (renderToX xops script).result = .panic) := by
  have hS : renderStringX xops = renderString (flattenX xops) := by
    rw [renderStringX, renderString, runX_flattenX xops (Or.inr fun b c => by rw [put_string])]
  rcases runX_okOps xops (St.init (⟨script, [], none⟩ : WriteWrapper)) with h | ⟨hw, herr, _⟩
  · rw [show renderToX xops script = renderTo (flattenX xops) script by rw [renderToX, renderTo, h], hS]
    obtain ⟨err, ht, hq, he⟩ := render_tracks (flattenX xops) script
    exact ⟨err, ht, hq, fun e h => Or.inl (he e h)⟩
  · rw [(run_init_feed (flattenX xops) _).1] at hw herr
    rw [renderToX, hw, hS, renderString_buf]
    exact ⟨_, (feed_init (chunksOf (flattenX xops)) script).1, fun h => absurd h herr,
      fun e he => finish_of_some_or_panic he _⟩

theorem trackFailed_acc (rs : List Bool) (acc : Bool) :
    rs.foldl (fun failed ok => failed || !ok) acc = (acc || rs.any (fun ok => !ok)) := by
  induction rs generalizing acc with
  | nil => simp
  | cons r rs ih => simp [ih, Bool.or_assoc]

end MJ.Output
