import MJ.Model.Coll
/-!
# batch and slice: a split into runs whose concatenation is the input, with the promised lengths
-/
namespace MJ.Coll
open MJ

variable {α : Type}

/-- the loop appends runs of exactly `n` items to `rv` and is left with a run of at most `n`; together they
    are the items it started with and the ones it read -/
theorem batchLoop_spec (n : Nat) (hn : 0 < n) (xs tmp : List α) (rv : List (List α))
    (ht : tmp.length ≤ n) :
    ∃ mid last, batchLoop n xs tmp rv = (rv ++ mid, last) ∧ (∀ r ∈ mid, r.length = n) ∧
      mid.flatten ++ last = tmp ++ xs ∧ last.length ≤ n := by
  induction xs generalizing tmp rv with
  | nil => exact ⟨[], tmp, by simp [batchLoop], by simp, by simp, ht⟩
  | cons x xs ih =>
    unfold batchLoop
    by_cases h : tmp.length = n
    · rw [if_pos h]
      obtain ⟨mid, last, e, h2, h3, h4⟩ := ih [x] (rv ++ [tmp]) (by simp; omega)
      refine ⟨tmp :: mid, last, by rw [e]; simp, ?_, ?_, h4⟩
      · intro r hr
        rcases List.mem_cons.mp hr with rfl | hr
        · exact h
        · exact h2 r hr
      · simp only [List.flatten_cons, List.append_assoc, h3]; simp
    · rw [if_neg h]
      obtain ⟨mid, last, e, h2, h3, h4⟩ := ih (tmp ++ [x]) rv (by simp; omega)
      exact ⟨mid, last, e, h2, by simp [h3], h4⟩

/-- `batch` with a positive count, in one equation: full runs `mid` and a rest `last` of at most `count` items
    that together are the input; the rest, if there is one, becomes the last run, padded to `count` items
    when a filler is given (the subtraction cannot underflow, so no panic; the padded run has `count`
    items, which is what the reservation is asked for) -/
theorem batch_eq (xs : List α) (n : Nat) (hn : 0 < n) (fill : Option α) :
    ∃ mid last, (∀ r ∈ mid, r.length = n) ∧ mid.flatten ++ last = xs ∧ last.length ≤ n ∧
      batch xs n fill = if last = [] then .ok mid else
        match fill with
        | none => .ok (mid ++ [last])
        | some f => if reservable n then .ok (mid ++ [last ++ List.replicate (n - last.length) f]) else .error := by
  obtain ⟨mid, last, hb, h2, h3, h4⟩ := batchLoop_spec n hn xs [] [] (by simp)
  simp only [List.nil_append] at hb h3
  refine ⟨mid, last, h2, h3, h4, ?_⟩
  unfold batch
  rw [if_neg (by omega), hb]
  cases last with
  | nil => rfl
  | cons a t =>
    cases fill with
    | none => rfl
    | some f =>
      have e : (a :: t).length + (n - (a :: t).length) = n := by omega
      simp only [List.isEmpty_cons, Bool.false_eq_true, if_false, reduceCtorEq, if_neg (Nat.not_lt.mpr h4), e]
      cases reservable n <;> rfl

/-- `batch` without a fill value: the runs concatenate to the input; every run but the last has
    exactly `count` items, the last between 1 and `count` -/
theorem batch_nofill (xs : List α) (n : Nat) (hn : 0 < n) :
    ∃ rs, batch xs n none = .ok rs ∧ rs.flatten = xs ∧
      (∀ r ∈ rs.dropLast, r.length = n) ∧
      (∀ r, rs.getLast? = some r → 0 < r.length ∧ r.length ≤ n) := by
  obtain ⟨mid, last, h2, h3, h4, e⟩ := batch_eq xs n hn none
  rw [e]
  by_cases hl : last = []
  · subst hl
    refine ⟨mid, if_pos rfl, by simpa using h3, fun r hr => h2 r (List.dropLast_subset _ hr), fun r hr => ?_⟩
    have := h2 r (List.mem_of_getLast? hr)
    omega
  · refine ⟨mid ++ [last], if_neg hl, by simpa using h3, by simpa using h2, fun r hr => ?_⟩
    rw [List.getLast?_concat] at hr
    cases hr
    exact ⟨List.length_pos_iff.mpr hl, h4⟩

/-- `batch` with a fill value: every run has exactly `count` items; the runs concatenate to the
    input followed by fewer than `count` copies of the filler (or the request is refused with an
    error when the last run cannot be allocated); never a panic -/
theorem batch_fill (xs : List α) (n : Nat) (hn : 0 < n) (f : α) :
    batch xs n (some f) = .error ∨
    ∃ rs k, batch xs n (some f) = .ok rs ∧ k < n ∧ rs.flatten = xs ++ List.replicate k f ∧
      ∀ r ∈ rs, r.length = n := by
  obtain ⟨mid, last, h2, h3, h4, e⟩ := batch_eq xs n hn (some f)
  rw [e]
  by_cases hl : last = []
  · subst hl
    exact .inr ⟨mid, 0, if_pos rfl, hn, by simpa using h3, h2⟩
  · rw [if_neg hl]
    cases reservable n
    · exact .inl rfl
    · have := List.length_pos_iff.mpr hl
      refine .inr ⟨_, n - last.length, rfl, by omega, by simp [← h3], fun r hr => ?_⟩
      rcases List.mem_append.mp hr with hr | hr
      · exact h2 r hr
      · rw [List.mem_singleton.mp hr, List.length_append, List.length_replicate]; omega

theorem batch_zero (xs : List α) (fill : Option α) : batch xs 0 fill = .error := by
  simp [batch]

/-- length of run `i`: the first `extra` runs get one more item -/
def runLen (ips extra i : Nat) : Nat := ips + (if i < extra then 1 else 0)
/-- where run `i` starts -/
def pos (ips extra i : Nat) : Nat := min i extra + i * ips

theorem pos_succ (ips extra i : Nat) : pos ips extra (i + 1) = pos ips extra i + runLen ips extra i := by
  unfold pos runLen
  by_cases h : i < extra
  · rw [if_pos h, Nat.min_eq_left (by omega), Nat.min_eq_left (by omega), Nat.succ_mul]; omega
  · rw [if_neg h, Nat.min_eq_right (by omega), Nat.min_eq_right (by omega), Nat.succ_mul]; omega

theorem pos_mono (ips extra i j : Nat) (h : i ≤ j) : pos ips extra i ≤ pos ips extra j := by
  induction j with
  | zero => have : i = 0 := by omega
            subst this; exact Nat.le_refl _
  | succ j ih =>
    by_cases hij : i = j + 1
    · subst hij; exact Nat.le_refl _
    · have := ih (by omega)
      rw [pos_succ]; omega

/-- the run the loop produces in iteration `i` -/
def runOf (xs : List α) (ips extra : Nat) (fill : Option α) (i : Nat) : List α :=
  let tmp := (xs.drop (pos ips extra i)).take (runLen ips extra i)
  match fill with
  | some f => if extra ≤ i then tmp ++ [f] else tmp
  | none => tmp

theorem bind_ok {β γ : Type} (a : β) (f : β → Chk γ) : (Chk.ok a).bind f = f a := rfl

theorem usize_nat (n : Nat) (h : n < 18446744073709551616) : Chk.usize (n : Int) = .ok n :=
  Chk.usize_ok n (Int.natCast_nonneg n) (by omega)

/-- the loop never panics and yields exactly the runs `runOf` describes -/
theorem sliceLoop_spec (xs : List α) (ips extra : Nat) (fill : Option α) (n slice : Nat)
    (hlen : xs.length < 18446744073709551616)
    (hend : pos ips extra (slice + n) ≤ xs.length) :
    sliceLoop xs ips extra fill n slice (min slice extra) =
      .ok ((List.range n).map (fun j => runOf xs ips extra fill (slice + j))) := by
  induction n generalizing slice with
  | zero => rfl
  | succ n ih =>
    have hp1 : pos ips extra (slice + 1) ≤ xs.length :=
      Nat.le_trans (pos_mono ips extra _ _ (by omega)) hend
    have hp0 : pos ips extra slice ≤ pos ips extra (slice + 1) := pos_mono ips extra _ _ (by omega)
    have hps := pos_succ ips extra slice
    -- every index the iteration computes is at most `pos (slice + 1)`, which is within the list
    have us : ∀ {k : Nat}, k ≤ pos ips extra (slice + 1) → Chk.usize (k : Int) = .ok k :=
      fun h => usize_nat _ (Nat.lt_of_le_of_lt (Nat.le_trans h hp1) hlen)
    have hoff' : (if slice < extra then min slice extra + 1 else min slice extra) = min (slice + 1) extra := by
      by_cases h : slice < extra
      · rw [if_pos h, Nat.min_eq_left (by omega), Nat.min_eq_left (by omega)]
      · rw [if_neg h, Nat.min_eq_right (by omega), Nat.min_eq_right (by omega)]
    have hA : pos ips extra slice = min slice extra + slice * ips := rfl
    have hB : pos ips extra (slice + 1) = min (slice + 1) extra + (slice + 1) * ips := rfl
    have hc1 : (slice : Int) * (ips : Int) = ((slice * ips : Nat) : Int) := (Int.natCast_mul _ _).symm
    have hc2 : ((slice : Int) + 1) * (ips : Int) = (((slice + 1) * ips : Nat) : Int) := by
      rw [Int.natCast_mul, Int.natCast_add]; rfl
    have ih' := ih (slice + 1) (by rw [show slice + 1 + n = slice + (n + 1) by omega]; exact hend)
    unfold sliceLoop
    rw [hc1, hc2, hoff']
    rw [us (k := slice * ips) (Nat.le_trans (Nat.le_add_left _ _) hp0), bind_ok]
    rw [← Int.natCast_add, us (k := min slice extra + slice * ips) hp0, bind_ok]
    dsimp only
    rw [us (k := min (slice + 1) extra) (Nat.le_add_right _ _), bind_ok]
    rw [us (k := (slice + 1) * ips) (Nat.le_add_left _ _), bind_ok]
    rw [← Int.natCast_add, us (k := min (slice + 1) extra + (slice + 1) * ips) (Nat.le_refl _), bind_ok]
    rw [← hA, ← hB]
    have e6 : range xs (pos ips extra slice) (pos ips extra (slice + 1)) =
        .ok ((xs.drop (pos ips extra slice)).take (runLen ips extra slice)) := by
      unfold range
      rw [if_pos ⟨hp0, hp1⟩]
      congr 2; omega
    rw [e6, bind_ok, ih', bind_ok]
    rw [List.range_succ_eq_map, List.map_cons, List.map_map]
    refine congrArg Chk.ok (List.cons_eq_cons.mpr ⟨?_, ?_⟩)
    · unfold runOf; cases fill <;> rfl
    · apply List.map_congr_left
      intro j _
      show runOf xs ips extra fill (slice + 1 + j) = runOf xs ips extra fill (slice + (j + 1))
      rw [show slice + 1 + j = slice + (j + 1) by omega]

theorem pos_count (len count : Nat) (hc : 0 < count) :
    pos (len / count) (len % count) count = len := by
  unfold pos
  have := Nat.mod_lt len hc
  rw [Nat.min_eq_right (by omega)]
  have h2 := Nat.div_add_mod len count
  generalize count * (len / count) = q at *
  omega

/-- `slice` never panics: with a positive count that can be reserved it returns exactly `count` runs -/
theorem slicef_ok (xs : List α) (count : Nat) (fill : Option α) (hc : 0 < count)
    (hr : reservable count = true) (hlen : xs.length < 18446744073709551616) :
    slicef xs count fill =
      .ok ((List.range count).map (runOf xs (xs.length / count) (xs.length % count) fill)) := by
  unfold slicef
  rw [if_neg (by omega)]
  simp only [hr, Bool.not_true, Bool.false_eq_true, if_false]
  have h := sliceLoop_spec xs (xs.length / count) (xs.length % count) fill count 0 hlen
    (by rw [Nat.zero_add, pos_count _ _ hc]; exact Nat.le_refl _)
  rw [Nat.zero_min] at h
  rw [h]
  simp only [Nat.zero_add]

theorem slicef_error (xs : List α) (count : Nat) (fill : Option α)
    (h : count = 0 ∨ reservable count = false) : slicef xs count fill = .error := by
  unfold slicef
  rcases h with h | h
  · simp [h]
  · by_cases h0 : count = 0
    · simp [h0]
    · simp [h0, h]

theorem pieces_flatten (xs : List α) (ips extra m : Nat) (hm : pos ips extra m ≤ xs.length) :
    ((List.range m).map (fun j => (xs.drop (pos ips extra j)).take (runLen ips extra j))).flatten =
      xs.take (pos ips extra m) := by
  induction m with
  | zero => simp [pos]
  | succ m ih =>
    have hle : pos ips extra m ≤ xs.length :=
      Nat.le_trans (pos_mono ips extra _ _ (by omega)) hm
    rw [List.range_succ, List.map_append, List.flatten_append, ih hle, pos_succ]
    simp only [List.map_cons, List.map_nil, List.flatten_cons, List.flatten_nil, List.append_nil]
    rw [List.take_add]

theorem runOf_length_nofill (xs : List α) (ips extra i : Nat) (h : pos ips extra (i + 1) ≤ xs.length) :
    (runOf xs ips extra none i).length = runLen ips extra i := by
  unfold runOf
  simp only [List.length_take, List.length_drop]
  rw [pos_succ] at h; omega

theorem runOf_length_fill (xs : List α) (ips extra i : Nat) (f : α) (h : pos ips extra (i + 1) ≤ xs.length) :
    (runOf xs ips extra (some f) i).length = ips + 1 := by
  unfold runOf
  rw [pos_succ] at h
  by_cases he : extra ≤ i
  · simp only [he, if_true, List.length_append, List.length_take, List.length_drop, List.length_singleton]
    unfold runLen at *
    rw [if_neg (by omega)] at h ⊢; omega
  · simp only [he, if_false, List.length_take, List.length_drop]
    unfold runLen at *
    rw [if_pos (by omega)] at h ⊢; omega

end MJ.Coll
