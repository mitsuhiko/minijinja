import MJ.Proofs.SerdeLemmas
/-! `de` decides (ok / error) every object-free value for every value-free shape: the `unmodelled`
outcome only stands for dynamic objects and embedded-`Value` fields (C16). -/
namespace MJ.Serde

mutual
def objFree : V → Bool
  | .obj _ => false
  | .seq _ xs => objFreeList xs
  | .map kvs => objFreePairs kvs
  | _ => true
def objFreeList : List V → Bool
  | [] => true
  | x :: xs => objFree x && objFreeList xs
def objFreePairs : List (V × V) → Bool
  | [] => true
  | (k, v) :: rest => objFree k && objFree v && objFreePairs rest
end

mutual
def valueFree : Shape → Bool
  | .value => false
  | .opt s => valueFree s
  | .seq s => valueFree s
  | .nstruct s => valueFree s
  | .map k v => valueFree k && valueFree v
  | .tup ss => valueFreeList ss
  | .tstruct ss => valueFreeList ss
  | .struct _ ss => valueFreeList ss
  | .enum _ vs => valueFreeVs vs
  | _ => true
def valueFreeList : List Shape → Bool
  | [] => true
  | s :: ss => valueFree s && valueFreeList ss
def valueFreeVs : List VShape → Bool
  | [] => true
  | v :: vs => valueFreeV v && valueFreeVs vs
def valueFreeV : VShape → Bool
  | .unit => true
  | .newtype s => valueFree s
  | .tuple ss => valueFreeList ss
  | .struct _ ss => valueFreeList ss
end

/-- the result is `ok` or the error class `err` -/
def Decided {α : Type} (r : R α) : Prop := r ≠ .error .unmodelled

theorem decided_ok {α : Type} (a : α) : Decided (.ok a : R α) := by simp [Decided]
theorem decided_err {α : Type} : Decided (.error .err : R α) := by simp [Decided]

theorem decided_error {α β : Type} {r : R α} {e : Err} (h : Decided r) (hr : r = .error e) :
    Decided (.error e : R β) := by
  subst hr
  exact fun h' => h (by cases h'; rfl)

theorem decided_mapOk {α β : Type} (f : α → β) (r : R α) (h : Decided r) : Decided (mapOk f r) := by
  cases r <;> simp_all [Decided, mapOk]

theorem decided_consR {α : Type} (a : R α) (l : R (List α)) (ha : Decided a) (hl : Decided l) :
    Decided (consR a l) := by
  cases a <;> cases l <;> simp_all [Decided, consR]

theorem decided_pairR {α β : Type} (a : R α) (b : R β) (ha : Decided a) (hb : Decided b) :
    Decided (pairR a b) := by
  cases a <;> cases b <;> simp_all [Decided, pairR]

theorem decided_guardR {α : Type} (g : R Unit) (r : R α) (hg : Decided g) (hr : Decided r) : Decided (guardR g r) := by
  cases g <;> simp_all [Decided, guardR]

theorem decided_ite {α : Type} {c : Prop} [Decidable c] {a b : R α} (ha : Decided a) (hb : Decided b) :
    Decided (if c then a else b) := by
  split <;> assumption

theorem decided_mapMR {α β : Type} (f : α → R β) (l : List α) (h : ∀ x ∈ l, Decided (f x)) :
    Decided (mapMR f l) := by
  induction l with
  | nil => exact decided_ok _
  | cons x xs ih =>
    simp only [mapMR]
    split <;> (try split) <;> simp_all [Decided]

theorem objFreeList_mem (xs : List V) (h : objFreeList xs = true) : ∀ x ∈ xs, objFree x = true := by
  induction xs <;> simp_all [objFreeList]

theorem objFreePairs_mem (kvs : List (V × V)) (h : objFreePairs kvs = true) :
    ∀ p ∈ kvs, objFree p.1 = true ∧ objFree p.2 = true := by
  induction kvs with
  | nil => simp
  | cons q qs ih =>
    obtain ⟨k, v⟩ := q
    simp only [objFreePairs, Bool.and_eq_true] at h
    exact List.forall_mem_cons.mpr ⟨h.1, ih h.2⟩

mutual
theorem decided_ignoreV : ∀ (v : V), objFree v = true → Decided (ignoreV v)
  | v, h => by
    cases v with
    | seq _ xs => exact decided_ignoreList xs h
    | map kvs => exact decided_ignorePairs kvs h
    | obj _ => exact Bool.noConfusion h
    | _ => first | exact decided_ok _ | exact decided_err
theorem decided_ignoreList : ∀ (xs : List V), objFreeList xs = true → Decided (ignoreList xs)
  | [], _ => by simp [ignoreList, Decided]
  | x :: xs, h => by
    simp only [objFreeList, Bool.and_eq_true] at h
    simp only [ignoreList]
    cases hi : ignoreV x with
    | ok u => exact decided_ignoreList xs h.2
    | error e => exact decided_error (decided_ignoreV x h.1) hi
theorem decided_ignorePairs : ∀ (kvs : List (V × V)), objFreePairs kvs = true → Decided (ignorePairs kvs)
  | [], _ => by simp [ignorePairs, Decided]
  | (k, v) :: rest, h => by
    simp only [objFreePairs, Bool.and_eq_true] at h
    simp only [ignorePairs]
    cases hi : ignoreV k with
    | error e => exact decided_error (decided_ignoreV k h.1.1) hi
    | ok u =>
      cases hj : ignoreV v with
      | error e => exact decided_error (decided_ignoreV v h.1.2) hj
      | ok u' => exact decided_ignorePairs rest h.2
end

theorem decided_ignoredOK (names : List Str) (kvs : List (V × V)) (h : objFreePairs kvs = true) :
    Decided (ignoredOK names kvs) := by
  fun_induction ignoredOK names kvs <;> simp_all [objFreePairs, decided_ok, decided_guardR, decided_ignoreV]

theorem decided_ignoredSlots (slots : List (Option Nat × V)) (h : ∀ p ∈ slots, objFree p.2 = true) :
    Decided (ignoredSlots slots) := by
  fun_induction ignoredSlots slots <;> simp_all [decided_ok, decided_guardR, decided_ignoreV]

theorem decided_deByte (v : V) (h : objFree v = true) : Decided (deByte v) := by
  fun_cases deByte v <;> simp_all [decided_ok, decided_err, objFree]

theorem lookupStr_objFree (n : Str) (kvs : List (V × V)) (h : objFreePairs kvs = true) (x : V)
    (hx : lookupStr n kvs = some x) : objFree x = true := by
  fun_induction lookupStr n kvs <;> simp_all [objFreePairs]

theorem decided_fieldOfKey (names : List Str) (k : V) (h : objFree k = true) : Decided (fieldOfKey names k) := by
  fun_cases fieldOfKey names k <;> simp_all [decided_ok, decided_err, objFree]

theorem resolveKeys_spec (names : List Str) (kvs : List (V × V)) (h : objFreePairs kvs = true) :
    Decided (resolveKeys names kvs) ∧
      ∀ slots, resolveKeys names kvs = .ok slots → ∀ p ∈ slots, objFree p.2 = true := by
  induction kvs with
  | nil => simp [resolveKeys, Decided]
  | cons q qs ih =>
    obtain ⟨k, v⟩ := q
    simp only [objFreePairs, Bool.and_eq_true] at h
    obtain ⟨ihd, ihs⟩ := ih h.2
    simp only [resolveKeys]
    cases hf : fieldOfKey names k with
    | error e => exact ⟨decided_error (decided_fieldOfKey names k h.1.1) hf, nofun⟩
    | ok i =>
      cases hr : resolveKeys names qs with
      | error e => exact ⟨decided_error ihd hr, nofun⟩
      | ok l =>
        refine ⟨decided_ok _, ?_⟩
        rintro _ ⟨⟩
        exact List.forall_mem_cons.mpr ⟨h.1.2, ihs l hr⟩

theorem findSlot_mem (i : Nat) (slots : List (Option Nat × V)) (x : V) (h : findSlot i slots = some x) :
    ∃ p ∈ slots, p.2 = x := by
  fun_induction findSlot i slots <;> simp_all

theorem decided_deStructMap (names : List Str) (ss : List Shape) (kvs : List (V × V)) (hk : objFreePairs kvs = true)
    (hF : Decided (deFields names ss kvs))
    (hS : ∀ slots, (∀ p ∈ slots, objFree p.2 = true) → Decided (deSlots names ss 0 slots)) :
    Decided (deStructMap names ss kvs) := by
  unfold deStructMap
  split
  · exact decided_guardR _ _ (decided_ignoredOK names kvs hk) (decided_mapOk _ _ hF)
  · obtain ⟨hd, hsl⟩ := resolveKeys_spec names kvs hk
    split
    · rename_i e he
      exact decided_error hd he
    · rename_i slots hr
      split
      · exact decided_err
      · exact decided_guardR _ _ (decided_ignoredSlots slots (hsl slots hr)) (decided_mapOk _ _ (hS slots (hsl slots hr)))

mutual
theorem decided_de : ∀ (s : Shape) (v : V), valueFree s = true → objFree v = true → Decided (de s v)
  | .bool, v, _, hv | .unit, v, _, hv | .ustruct, v, _, hv => by
    cases v with
    | obj _ => exact Bool.noConfusion hv
    | _ => first | exact decided_ok _ | exact decided_err
  | .int _ _ _, v, _, hv => by
    cases v with
    | int _ _ => exact decided_ite (decided_ok _) decided_err
    | obj _ => exact Bool.noConfusion hv
    | _ => exact decided_err
  | .f32, v, _, hv | .f64, v, _, hv => by
    cases v with
    | f64 _ => exact decided_ok _
    | int _ _ => exact decided_ite (decided_ok _) decided_err
    | obj _ => exact Bool.noConfusion hv
    | _ => exact decided_err
  | .char, v, _, hv => by
    cases v with
    | str s _ =>
      cases s with
      | nil => exact decided_err
      | cons _ cs => cases cs <;> first | exact decided_ok _ | exact decided_err
    | obj _ => exact Bool.noConfusion hv
    | _ => exact decided_err
  | .str, v, _, hv => by
    cases v with
    | str _ _ => exact decided_ok _
    | bytes b =>
      simp only [de]
      split <;> first | exact decided_ok _ | exact decided_err
    | obj _ => exact Bool.noConfusion hv
    | _ => exact decided_err
  | .bytes, v, _, hv => by
    cases v with
    | seq _ xs => exact decided_mapOk _ _ (decided_mapMR _ _ fun x hx => decided_deByte x (objFreeList_mem xs hv x hx))
    | obj _ => exact Bool.noConfusion hv
    | _ => first | exact decided_ok _ | exact decided_err
  | .value, _, hs, _ => Bool.noConfusion hs
  | .opt s, v, hs, hv => by
    rw [de_opt]
    exact decided_ite (decided_ok _) (decided_mapOk _ _ (decided_de s v hs hv))
  | .nstruct s, v, hs, hv => decided_de s v hs hv
  | .seq s, v, hs, hv => by
    cases v with
    | seq _ xs => exact decided_mapOk _ _ (decided_mapMR _ _ fun x hx => decided_de s x hs (objFreeList_mem xs hv x hx))
    | obj _ => exact Bool.noConfusion hv
    | _ => exact decided_err
  | .map k w, v, hs, hv => by
    simp only [valueFree, Bool.and_eq_true] at hs
    cases v with
    | map kvs =>
      exact decided_mapOk _ _ (decided_mapMR _ _ fun p hp =>
        decided_pairR _ _ (decided_de k p.1 hs.1 (objFreePairs_mem kvs hv p hp).1)
          (decided_de w p.2 hs.2 (objFreePairs_mem kvs hv p hp).2))
    | obj _ => exact Bool.noConfusion hv
    | _ => exact decided_err
  | .tup ss, v, hs, hv | .tstruct ss, v, hs, hv => by
    cases v with
    | seq _ xs => exact decided_mapOk _ _ (decided_deList ss xs hs hv)
    | obj _ => exact Bool.noConfusion hv
    | _ => exact decided_err
  | .struct names ss, v, hs, hv => by
    cases v with
    | seq _ xs => exact decided_mapOk _ _ (decided_deList ss xs hs hv)
    | map kvs =>
      exact decided_deStructMap names ss kvs hv (decided_deFields ss names kvs hs hv)
        (fun slots h => decided_deSlots ss names 0 slots hs h)
    | obj _ => exact Bool.noConfusion hv
    | _ => exact decided_err
  | .enum names vs, v, hs, hv => by
    cases v with
    | str n _ =>
      simp only [de]
      split
      · exact decided_deVariant vs _ _ none hs nofun
      · exact decided_err
    | map kvs =>
      match kvs with
      | [] => exact decided_err
      | [(k, p)] =>
        have hp : objFree p = true := by
          simp only [objFree, objFreePairs, Bool.and_eq_true] at hv
          exact hv.1.2
        rw [de_enum_entry]
        split
        · exact decided_deVariant vs _ _ (some p) hs (fun x hx => Option.some.inj hx ▸ hp)
        · exact decided_err
      | _ :: _ :: _ => rw [de_enum_many]; exact decided_err
    | obj _ => exact Bool.noConfusion hv
    | _ => exact decided_err
theorem decided_deList : ∀ (ss : List Shape) (xs : List V), valueFreeList ss = true → objFreeList xs = true →
    Decided (deList ss xs)
  | [], _, _, _ => decided_ok _
  | _ :: _, [], _, _ => decided_err
  | s :: ss, x :: xs, hs, hx => by
    simp only [valueFreeList, Bool.and_eq_true] at hs
    simp only [objFreeList, Bool.and_eq_true] at hx
    simp only [deList]
    exact decided_consR _ _ (decided_de s x hs.1 hx.1) (decided_deList ss xs hs.2 hx.2)
theorem decided_deFields : ∀ (ss : List Shape) (names : List Str) (kvs : List (V × V)),
    valueFreeList ss = true → objFreePairs kvs = true → Decided (deFields names ss kvs)
  | [], names, _, _, _ => by cases names <;> exact decided_ok _
  | _ :: _, [], _, _, _ => decided_ok _
  | s :: ss, n :: ns, kvs, hs, hk => by
    simp only [valueFreeList, Bool.and_eq_true] at hs
    simp only [deFields]
    have ht := decided_deFields ss ns kvs hs.2 hk
    split
    · rename_i x hx
      exact decided_consR _ _ (decided_de s x hs.1 (lookupStr_objFree n kvs hk x hx)) ht
    · split
      · exact decided_consR _ _ (decided_ok _) ht
      · exact decided_err
theorem decided_deSlots : ∀ (ss : List Shape) (names : List Str) (j : Nat) (slots : List (Option Nat × V)),
    valueFreeList ss = true → (∀ p ∈ slots, objFree p.2 = true) → Decided (deSlots names ss j slots)
  | [], names, _, _, _, _ => by cases names <;> exact decided_ok _
  | _ :: _, [], _, _, _, _ => decided_ok _
  | s :: ss, n :: ns, j, slots, hs, hk => by
    simp only [valueFreeList, Bool.and_eq_true] at hs
    simp only [deSlots]
    have ht := decided_deSlots ss ns (j + 1) slots hs.2 hk
    split
    · rename_i x hx
      obtain ⟨p, hp, hpx⟩ := findSlot_mem j slots x hx
      exact decided_consR _ _ (decided_de s x hs.1 (by rw [← hpx]; exact hk p hp)) ht
    · split
      · exact decided_consR _ _ (decided_ok _) ht
      · exact decided_err
theorem decided_deVariant : ∀ (vs : List VShape) (i orig : Nat) (payload : Option V), valueFreeVs vs = true →
    (∀ x, payload = some x → objFree x = true) → Decided (deVariant vs i orig payload)
  | [], _, _, _, _, _ => decided_err
  | w :: _, 0, orig, payload, hs, hp => by
    simp only [valueFreeVs, Bool.and_eq_true] at hs
    simp only [deVariant]
    exact decided_mapOk _ _ (decided_deV w hs.1 payload hp)
  | _ :: ws, i+1, orig, payload, hs, hp => by
    simp only [valueFreeVs, Bool.and_eq_true] at hs
    simp only [deVariant]
    exact decided_deVariant ws i orig payload hs.2 hp
theorem decided_deV : ∀ (w : VShape), valueFreeV w = true → ∀ (payload : Option V),
    (∀ x, payload = some x → objFree x = true) → Decided (deV w payload)
  | .unit, _, payload, hp => by
    cases payload with
    | none => exact decided_ok _
    | some x =>
      have hx := hp x rfl
      cases x with
      | obj _ => exact Bool.noConfusion hx
      | _ => first | exact decided_ok _ | exact decided_err
  | .newtype s, hs, payload, hp => by
    cases payload with
    | none => exact decided_err
    | some x => exact decided_de s x hs (hp x rfl)
  | .tuple ss, hs, payload, hp => by
    cases payload with
    | none => exact decided_err
    | some x =>
      have hx := hp x rfl
      cases x with
      | seq _ xs => exact decided_ite decided_err (decided_mapOk _ _ (decided_deList ss xs hs hx))
      | obj _ => exact Bool.noConfusion hx
      | _ => exact decided_err
  | .struct names ss, hs, payload, hp => by
    cases payload with
    | none => exact decided_err
    | some x =>
      have hx := hp x rfl
      cases x with
      | map kvs =>
        exact decided_deStructMap names ss kvs hx (decided_deFields ss names kvs hs hx)
          (fun slots h => decided_deSlots ss names 0 slots hs h)
      | obj _ => exact Bool.noConfusion hx
      | _ => exact decided_err
end

theorem decided_structMap : ∀ (ss : List Shape) (names : List Str) (kvs : List (V × V)),
    valueFreeList ss = true → objFreePairs kvs = true →
    Decided (if allStrKeys kvs = true then guardR (ignoredOK names kvs) (mapOk D.list (deFields names ss kvs))
      else match resolveKeys names kvs with
        | .error e => .error e
        | .ok slots =>
          if dupSlots slots = true then .error .err
          else guardR (ignoredSlots slots) (mapOk D.list (deSlots names ss 0 slots)))
  | ss, names, kvs, hs, hk =>
    decided_deStructMap names ss kvs hk (decided_deFields ss names kvs hs hk)
      (fun slots h => decided_deSlots ss names 0 slots hs h)

end MJ.Serde
