import MJ.Model.Meta
/-! What the tracker's operations do to its observables (assigned, `out`, the report) and what the
frames bind; `Step`, a scope-local stretch of the walk; `track_walk` as a composition of six
elementary operations (`Piece`), so that what holds of the six holds of the walk — first of all
that it is scope-local: it leaves the lower part of the scope stack alone, never shrinks the report
and never touches an empty stack (`step_walkList`, `walkList_no_panic`); `Inv`, the invariant that
ties the tracker to the frames (C18). -/
namespace MJ.Meta

/-- what the tracker has reported so far: `out` without nested tracking, otherwise the roots of
the dotted names in `nested_out` -/
def St.reported (st : St) (x : String) : Prop :=
  match st.nested with
  | none => x ∈ st.out
  | some n => ∃ a, (x, a) ∈ n

theorem reported_none {st : St} (h : st.nested = none) (x : String) :
    st.reported x ↔ x ∈ st.out := by
  simp [St.reported, h]

theorem isAssigned_iff (st : St) (x : String) :
    st.isAssigned x = true ↔ ∃ f ∈ st.assigned, x ∈ f := by
  simp [St.isAssigned]

theorem bound_iff (top : Frame) (below : List Frame) (x : String) :
    bound top below x = true ↔ x ∈ top ∨ ∃ f ∈ below, x ∈ f := by
  simp [bound]

theorem bound_false_iff (top : Frame) (below : List Frame) (x : String) :
    bound top below x = false ↔ ¬ (x ∈ top ∨ ∃ f ∈ below, x ∈ f) := by
  rw [← bound_iff]; cases bound top below x <;> simp

theorem mem_lookups (top : Frame) (below : List Frame) (xs : List String) (x : String) :
    x ∈ lookups top below xs ↔ x ∈ xs ∧ bound top below x = false := by
  simp [lookups]

theorem bound_push (top : Frame) (below : List Frame) (x : String) :
    bound [] (top :: below) x = bound top below x := by
  simp [bound]

theorem lookups_push {top : Frame} {below : List Frame} (xs : List String) :
    lookups [] (top :: below) xs = lookups top below xs := by
  simp [lookups, bound_push]

theorem bound_cons_iff (f top : Frame) (below : List Frame) (x : String) :
    bound f (top :: below) x = true ↔ x ∈ f ∨ bound top below x = true := by
  simp [bound]

theorem bound_under (f top : Frame) (below : List Frame) (x : String)
    (h : bound top below x = true) : bound f (top :: below) x = true :=
  (bound_cons_iff f top below x).2 (Or.inr h)

theorem bound_mono {top top' : Frame} {below : List Frame} {x : String}
    (h : ∀ y ∈ top, y ∈ top') (hb : bound top below x = true) : bound top' below x = true := by
  rw [bound_iff] at *
  rcases hb with hb | hb
  · exact Or.inl (h _ hb)
  · exact Or.inr hb

theorem unbound_anti {top top' : Frame} {below : List Frame} {x : String}
    (h : ∀ y ∈ top, y ∈ top') (hb : bound top' below x = false) : bound top below x = false := by
  cases hx : bound top below x
  · rfl
  · rw [bound_mono h hx] at hb; cases hb

theorem unbound_of_push {f top : Frame} {below : List Frame} {x : String}
    (hb : bound f (top :: below) x = false) : bound top below x = false := by
  cases hx : bound top below x
  · rfl
  · rw [bound_under f top below x hx] at hb; cases hb

/-! ### `Step a b`: `b` arises from `a` by a scope-local piece of the walk -/

structure Step (a b : St) : Prop where
  tail : ∀ f fs, a.assigned = f :: fs → ∃ g, b.assigned = g :: fs
  rep : ∀ x, a.reported x → b.reported x
  out : ∀ x ∈ a.out, x ∈ b.out
  bad : ∀ f _fs, a.assigned = f :: _fs → b.bad = a.bad
  mode : b.nested.isSome = a.nested.isSome

theorem Step.nested_none {a b : St} (h : Step a b) (hn : a.nested = none) : b.nested = none := by
  have := h.mode
  rw [hn] at this
  cases hb : b.nested with
  | none => rfl
  | some n => rw [hb] at this; cases this

theorem Step.nested_some {a b : St} (h : Step a b) {n : List Leaf} (hn : a.nested = some n) :
    ∃ m, b.nested = some m := by
  have := h.mode
  rw [hn] at this
  cases hb : b.nested with
  | none => rw [hb] at this; cases this
  | some m => exact ⟨m, rfl⟩

theorem Step.ne {a b : St} (h : Step a b) (hne : a.assigned ≠ []) : b.assigned ≠ [] := by
  obtain ⟨f, fs, hf⟩ := List.exists_cons_of_ne_nil hne
  obtain ⟨g, hg⟩ := h.tail f fs hf
  simp [hg]

theorem Step.refl (a : St) : Step a a :=
  ⟨fun f _ h => ⟨f, h⟩, fun _ h => h, fun _ h => h, fun _ _ _ => rfl, rfl⟩

theorem Step.trans {a b c : St} (h1 : Step a b) (h2 : Step b c) : Step a c := by
  refine ⟨?_, fun x hx => h2.rep x (h1.rep x hx), fun x hx => h2.out x (h1.out x hx), ?_,
    h2.mode.trans h1.mode⟩
  · intro f fs h
    obtain ⟨g, hg⟩ := h1.tail f fs h
    exact h2.tail g fs hg
  · intro f fs h
    obtain ⟨g, hg⟩ := h1.tail f fs h
    rw [h2.bad g fs hg, h1.bad f fs h]

theorem assign_out (st : St) (x : String) : (st.assign x).out = st.out := by
  unfold St.assign; split <;> rfl

theorem assign_nested (st : St) (x : String) : (st.assign x).nested = st.nested := by
  unfold St.assign; split <;> rfl

theorem assign_reported (st : St) (x y : String) : (st.assign x).reported y ↔ st.reported y := by
  simp [St.reported, assign_out, assign_nested]

theorem step_assign (st : St) (x : String) : Step st (st.assign x) := by
  refine ⟨?_, fun y hy => (assign_reported st x y).2 hy, fun y hy => by rw [assign_out]; exact hy,
    ?_, by rw [assign_nested]⟩
  · intro f fs h
    exact ⟨x :: f, by simp [St.assign, h]⟩
  · intro f fs h
    simp [St.assign, h]

/-! ### what `assign` and `visitLeaf` do to "assigned", to `out` and to the report, in either mode

One equivalence per operation and observable; an assignment on an empty stack is lost (Rust
would have panicked), hence `st.assigned ≠ []`. -/

theorem isAssigned_assign (st : St) (x y : String) :
    (st.assign x).isAssigned y = true ↔ st.isAssigned y = true ∨ (y = x ∧ st.assigned ≠ []) := by
  cases hs : st.assigned with
  | nil => simp [St.assign, St.isAssigned, hs]
  | cons f fs => simp [St.assign, St.isAssigned, hs, or_comm, or_assoc]

theorem assign_ne (st : St) (hne : st.assigned ≠ []) (x : String) : (st.assign x).assigned ≠ [] := by
  obtain ⟨f, fs, hf⟩ := List.exists_cons_of_ne_nil hne
  simp [St.assign, hf]

theorem isAssigned_visitLeaf (st : St) (l : Leaf) (y : String) :
    (visitLeaf st l).isAssigned y = true ↔
      st.isAssigned y = true ∨ (y = l.1 ∧ st.nested = none ∧ st.assigned ≠ []) := by
  fun_cases visitLeaf st l with
  | case1 ha => exact ⟨Or.inl, fun h => h.elim id fun e => e.1 ▸ ha⟩
  | case2 _ hn => rw [isAssigned_assign]; simp [hn, St.isAssigned]
  | case3 _ n hn => simp [hn, St.isAssigned]

theorem mem_out_visitLeaf (st : St) (l : Leaf) (y : String) :
    y ∈ (visitLeaf st l).out ↔
      y ∈ st.out ∨ (y = l.1 ∧ ¬ st.isAssigned l.1 = true ∧ st.nested = none) := by
  fun_cases visitLeaf st l with
  | case1 ha => simp [ha]
  | case2 ha hn => simp [assign_out, ha, hn, or_comm]
  | case3 _ n hn => simp [hn]

theorem reported_visitLeaf (st : St) (l : Leaf) (y : String) :
    (visitLeaf st l).reported y ↔ st.reported y ∨ (y = l.1 ∧ ¬ st.isAssigned l.1 = true) := by
  fun_cases visitLeaf st l with
  | case1 ha => simp [ha]
  | case2 ha hn => rw [assign_reported]; simp [St.reported, ha, hn, or_comm]
  | case3 ha n hn =>
    simp only [St.reported, hn, List.mem_cons]
    exact ⟨fun ⟨a, h⟩ => h.elim (fun e => Or.inr ⟨e ▸ rfl, ha⟩) (fun h => Or.inl ⟨a, h⟩),
      fun h => h.elim (fun ⟨a, h⟩ => ⟨a, Or.inr h⟩) (fun e => ⟨l.2, Or.inl (e.1 ▸ rfl)⟩)⟩

theorem step_visitLeaf (st : St) (l : Leaf) : Step st (visitLeaf st l) := by
  -- the report and `out` grow by the equivalences above; the stack, `bad` and the mode case by case
  have hr := fun y hy => (reported_visitLeaf st l y).2 (Or.inl hy)
  have ho := fun y hy => (mem_out_visitLeaf st l y).2 (Or.inl hy)
  revert hr ho
  fun_cases visitLeaf st l with
  | case1 => exact fun _ _ => Step.refl st
  | case2 =>
    have h := step_assign { st with out := l.1 :: st.out } l.1
    exact fun hr ho => ⟨h.tail, hr, ho, h.bad, h.mode⟩
  | case3 _ n hn => exact fun hr ho => ⟨fun f _ h => ⟨f, h⟩, hr, ho, fun _ _ _ => rfl, by simp [hn]⟩

theorem pop_reported (st : St) (x : String) : st.pop.reported x ↔ st.reported x := Iff.rfl
theorem push_reported (st : St) (x : String) : st.push.reported x ↔ st.reported x := Iff.rfl

/-- a scope and a block are walked the same way: on a stack that starts with an empty scope (on
top of the old one, or alone), and afterwards the old stack is put back -/
theorem step_restore {a b : St} {t : List (List String)} (h : Step { a with assigned := [] :: t } b) :
    Step a { b with assigned := a.assigned } :=
  ⟨fun f _ hf => ⟨f, hf⟩, h.rep, h.out, fun _ _ _ => h.bad [] t rfl, h.mode⟩

theorem pop_of_step {a b : St} (h : Step a.push b) : b.pop = { b with assigned := a.assigned } := by
  obtain ⟨g, hg⟩ := h.tail [] a.assigned rfl
  simp [St.pop, hg]

theorem step_of_scope {a b : St} (h : Step a.push b) : Step a b.pop :=
  pop_of_step h ▸ step_restore h

/-- what the bodies of a block table report when each is analysed on its own -/
def freeOf (bt : BT) : List String := bt.flatMap (fun b => (walkList St.init b).out)

theorem freeOf_nil : freeOf [] = [] := rfl

theorem freeOf_cons (b : List Stmt) (bt : BT) :
    freeOf (b :: bt) = (walkList St.init b).out ++ freeOf bt := List.flatMap_cons

theorem freeOf_append (bt bt' : BT) : freeOf (bt ++ bt') = freeOf bt ++ freeOf bt' :=
  List.flatMap_append

theorem mem_freeOf {bt : BT} {body : List Stmt} (hb : body ∈ bt) {x : String}
    (hx : x ∈ (walkList St.init body).out) : x ∈ freeOf bt :=
  List.mem_flatMap.2 ⟨body, hb, hx⟩

/-! ### `Piece L B f`: `f` is put together from the tracker's elementary operations

Every part of `track_walk` is: nothing, an assignment, a visited leaf, one part after another, a
part in a scope of its own, a part on a scope stack of its own (a block).  `L` lists the leaves
visited, `B` what the blocks among the parts report when analysed on their own.  What holds of
these six holds of the walk (`piece_walk`). -/

inductive Piece : List Leaf → List String → (St → St) → Prop
  | id : Piece [] [] (fun st => st)
  | assign (x : String) : Piece [] [] (fun st => st.assign x)
  | leaf (l : Leaf) : Piece [l] [] (fun st => visitLeaf st l)
  | comp {L1 L2 : List Leaf} {B1 B2 : List String} {f g : St → St} :
      Piece L1 B1 f → Piece L2 B2 g → Piece (L1 ++ L2) (B1 ++ B2) (fun st => g (f st))
  | scope {L : List Leaf} {B : List String} {f : St → St} :
      Piece L B f → Piece L B (fun st => (f st.push).pop)
  | block {L : List Leaf} {B : List String} {f : St → St} :
      Piece L B f → Piece L ((f St.init).out ++ B)
        (fun st => { f { st with assigned := [[]] } with assigned := st.assigned })

theorem Piece.step {L : List Leaf} {B : List String} {f : St → St} (h : Piece L B f) :
    ∀ st, Step st (f st) := by
  induction h with
  | id => exact Step.refl
  | assign x => exact fun st => step_assign st x
  | leaf l => exact fun st => step_visitLeaf st l
  | comp _ _ ihf ihg => exact fun st => (ihf st).trans (ihg _)
  | scope _ ih => exact fun st => step_of_scope (ih _)
  | block _ ih => exact fun st => step_restore (ih _)

theorem piece_visitLeaves (ls : List Leaf) : Piece ls [] (fun st => visitLeaves st ls) := by
  induction ls with
  | nil => exact Piece.id
  | cons l ls ih => simpa [visitLeaves] using Piece.comp (Piece.leaf l) ih

theorem piece_visitExpr (e : Expr) : Piece (nvars e) [] (fun st => visitExpr st e) :=
  piece_visitLeaves _

theorem piece_visitOpt (e : Option Expr) : Piece (nvarsOpt e) [] (fun st => visitOpt st e) :=
  piece_visitLeaves _

theorem piece_trackAtoms (as : List TAtom) :
    Piece (atomLeaves as) [] (fun st => as.foldl trackAtom st) := by
  induction as with
  | nil => exact Piece.id
  | cons a as ih =>
    cases a with
    | name x => simpa [atomLeaves, trackAtom] using Piece.comp (Piece.assign x) ih
    | look e => simpa [atomLeaves, trackAtom] using Piece.comp (piece_visitExpr e) ih

theorem piece_trackAssign (t : Expr) : Piece (targetLeaves t) [] (fun st => trackAssign st t) :=
  piece_trackAtoms _

theorem piece_trackTargets (ts : List Expr) :
    Piece (targetsLeaves ts) [] (fun st => ts.foldl trackAssign st) := by
  induction ts with
  | nil => exact Piece.id
  | cons t ts ih => simpa [targetsLeaves] using Piece.comp (piece_trackAssign t) ih

theorem piece_macroArgs (as : List String) (ds : List Expr) :
    Piece (defaultsLeaves as ds) [] (fun st => macroArgs st as ds) := by
  induction as generalizing ds with
  | nil => simpa [macroArgs, defaultsLeaves] using Piece.id
  | cons a as ih =>
    cases ds with
    | nil => simpa [macroArgs, defaultsLeaves] using Piece.comp (Piece.assign a) (ih [])
    | cons d ds =>
      simpa [macroArgs, defaultsLeaves] using
        Piece.comp (Piece.comp (piece_visitExpr d) (Piece.assign a)) (ih ds)

theorem piece_withAssigns (as : List (Expr × Expr)) :
    Piece (assignsLeaves as) [] (fun st => withAssigns st as) := by
  induction as with
  | nil => simpa [withAssigns, assignsLeaves] using Piece.id
  | cons p as ih =>
    obtain ⟨t, e⟩ := p
    simpa [withAssigns, assignsLeaves, List.append_assoc] using
      Piece.comp (Piece.comp (piece_visitExpr e) (piece_trackAssign t)) ih

/-- `tracker_visit_macro` after the scope is pushed: `caller`, the arguments, the body -/
theorem piece_macroBody {L : List Leaf} {B : List String} {f : St → St} (args : List String)
    (defaults : List Expr) (hf : Piece L B f) :
    Piece (defaultsLeaves args.reverse defaults.reverse ++ L) B
      (fun st => f (macroArgs (st.assign "caller") args.reverse defaults.reverse)) := by
  simpa only [List.nil_append] using
    Piece.comp (Piece.comp (Piece.assign "caller") (piece_macroArgs args.reverse defaults.reverse)) hf

mutual
theorem piece_walk : (s : Stmt) → Piece (leaves s) (freeOf (blockBodies s)) (fun st => walk st s)
  | .emit e => by simpa only [walk, leaves, blockBodies, freeOf_nil] using piece_visitExpr e
  | .raw => by simpa only [walk, leaves, blockBodies, freeOf_nil] using Piece.id
  | .forLoop target iter filter _ body els => by
      have h1 := Piece.scope (Piece.comp (Piece.comp (Piece.comp (Piece.comp (piece_visitExpr iter)
        (piece_trackAssign target)) (piece_visitOpt filter)) (Piece.assign "loop"))
        (piece_walkList body))
      have h2 := Piece.scope (piece_walkList els)
      simpa only [walk, leaves, blockBodies, freeOf_append, List.append_assoc, List.nil_append] using
        Piece.comp h1 h2
  | .ifCond c t f => by
      simpa only [walk, leaves, blockBodies, freeOf_append, List.append_assoc, List.nil_append] using
        Piece.comp (Piece.comp (piece_visitExpr c) (Piece.scope (piece_walkList t)))
          (Piece.scope (piece_walkList f))
  | .withBlock assigns body => by
      simpa only [walk, leaves, blockBodies, List.nil_append] using
        Piece.scope (Piece.comp (piece_withAssigns assigns) (piece_walkList body))
  | .set target e => by
      simpa only [walk, leaves, blockBodies, freeOf_nil, List.nil_append] using
        Piece.comp (piece_visitExpr e) (piece_trackAssign target)
  | .autoEscape e body => by
      simpa only [walk, leaves, blockBodies, List.nil_append] using
        Piece.comp (piece_visitExpr e) (Piece.scope (piece_walkList body))
  | .filterBlock filter body => by
      simpa only [walk, leaves, blockBodies, List.append_nil] using
        Piece.comp (Piece.scope (piece_walkList body)) (piece_visitExpr filter)
  | .setBlock target filter body => by
      simpa only [walk, leaves, blockBodies, List.append_assoc, List.append_nil] using
        Piece.comp (Piece.comp (Piece.scope (piece_walkList body)) (piece_visitOpt filter))
          (piece_trackAssign target)
  | .macro name args defaults body => by
      simpa only [walk, leaves, blockBodies, List.append_nil] using
        Piece.comp (Piece.scope (piece_macroBody args defaults (piece_walkList body)))
          (Piece.assign name)
  | .callBlock callee cargs args defaults body => by
      simpa only [walk, leaves, blockBodies, List.nil_append] using
        Piece.comp (piece_visitLeaves (nvarsCall callee cargs))
          (Piece.scope (piece_macroBody args defaults (piece_walkList body)))
  | .doStmt callee cargs => by
      simpa only [walk, leaves, blockBodies, freeOf_nil] using
        piece_visitLeaves (nvarsCall callee cargs)
  | .brk => by simpa only [walk, leaves, blockBodies, freeOf_nil] using Piece.id
  | .cont => by simpa only [walk, leaves, blockBodies, freeOf_nil] using Piece.id
  | .block _ body => by
      simpa only [walk, leaves, blockBodies, freeOf_cons] using Piece.block (piece_walkList body)
  | .include name => by simpa only [walk, leaves, blockBodies, freeOf_nil] using piece_visitExpr name
  | .extends name => by simpa only [walk, leaves, blockBodies, freeOf_nil] using piece_visitExpr name
  | .importAs e target => by
      simpa only [walk, leaves, blockBodies, freeOf_nil, List.nil_append] using
        Piece.comp (piece_visitExpr e) (piece_trackAssign target)
  | .fromImport e targets => by
      simpa only [walk, leaves, blockBodies, freeOf_nil, List.nil_append] using
        Piece.comp (piece_visitExpr e) (piece_trackTargets targets)
theorem piece_walkList :
    (ss : List Stmt) → Piece (leavesL ss) (freeOf (blockBodiesL ss)) (fun st => walkList st ss)
  | [] => by simpa only [walkList, leavesL, blockBodiesL, freeOf_nil] using Piece.id
  | s :: ss => by
      simpa only [walkList, leavesL, blockBodiesL, freeOf_append] using
        Piece.comp (piece_walk s) (piece_walkList ss)
end

theorem step_visitLeaves (st : St) (ls : List Leaf) : Step st (visitLeaves st ls) :=
  (piece_visitLeaves ls).step st

theorem step_visitExpr (st : St) (e : Expr) : Step st (visitExpr st e) := step_visitLeaves _ _
theorem step_visitOpt (st : St) (e : Option Expr) : Step st (visitOpt st e) := step_visitLeaves _ _

theorem step_trackAtoms (st : St) (as : List TAtom) : Step st (as.foldl trackAtom st) :=
  (piece_trackAtoms as).step st

theorem step_trackAssign (st : St) (t : Expr) : Step st (trackAssign st t) := step_trackAtoms _ _

theorem step_macroArgs (st : St) (as : List String) (ds : List Expr) :
    Step st (macroArgs st as ds) :=
  (piece_macroArgs as ds).step st

theorem step_walk : (s : Stmt) → (st : St) → Step st (walk st s) :=
  fun s => (piece_walk s).step

theorem step_walkList : (ss : List Stmt) → (st : St) → Step st (walkList st ss) :=
  fun ss => (piece_walkList ss).step

/-- the analysis never pops or assigns on an empty scope stack (`unwrap` cannot panic) -/
theorem walkList_no_panic (t : List Stmt) {st0 : St} (h0 : st0.assigned = [[]]) :
    (walkList st0 t).bad = st0.bad :=
  (step_walkList t st0).bad [] [] h0

theorem findMacroClosure_no_panic (args : List String) (defaults : List Expr) (body : List Stmt) :
    (macroClosureSt args defaults body).bad = false :=
  (Step.trans (step_macroArgs St.init _ _) (step_walkList body _)).bad [] [] rfl

theorem reported_findUndeclared (t : List Stmt) (x : String) :
    (walkList St.init t).reported x ↔ x ∈ findUndeclared t :=
  reported_none ((step_walkList t St.init).nested_none rfl) x

theorem reported_findUndeclaredNested (t : List Stmt) (x : String) :
    (walkList St.initNested t).reported x ↔ ∃ attrs, (x, attrs) ∈ findUndeclaredNested t := by
  obtain ⟨n, hn⟩ := (step_walkList t St.initNested).nested_some (n := []) rfl
  simp only [St.reported, findUndeclaredNested, hn, Option.getD_some]

theorem reported_both {t : List Stmt} {x : String}
    (h : ∀ st0 : St, st0.assigned = [[]] → (walkList st0 t).reported x) :
    x ∈ findUndeclared t ∧ ∃ attrs, (x, attrs) ∈ findUndeclaredNested t :=
  ⟨(reported_findUndeclared t x).1 (h _ rfl), (reported_findUndeclaredNested t x).1 (h _ rfl)⟩

/-- every name the analysis considers assigned is already reported or bound in a frame -/
def Inv (top : Frame) (below : List Frame) (st : St) : Prop :=
  ∀ x, st.isAssigned x = true → st.reported x ∨ bound top below x = true

/-- the invariant depends on the frames only through what they bind -/
theorem Inv.of_bound {top top' : Frame} {below below' : List Frame} {st : St}
    (h : Inv top below st)
    (hb : ∀ x, bound top below x = true → bound top' below' x = true) : Inv top' below' st :=
  fun x hx => (h x hx).imp id (hb x)

theorem Inv.fresh {top : Frame} {below : List Frame} {st : St} (h : st.assigned = [[]]) :
    Inv top below st := by
  intro y hy; simp [St.isAssigned, h] at hy

theorem Inv.mono_top {top top' : Frame} {below : List Frame} {st : St}
    (h : Inv top below st) (hs : ∀ y ∈ top, y ∈ top') : Inv top' below st :=
  h.of_bound (fun _ hx => bound_mono hs hx)

theorem Inv.push_frame {top : Frame} {below : List Frame} {st : St}
    (h : Inv top below st) : Inv [] (top :: below) st :=
  h.of_bound (fun x hx => by rw [bound_push]; exact hx)

theorem isAssigned_push (st : St) (y : String) : st.push.isAssigned y = st.isAssigned y := by
  simp [St.isAssigned, St.push]

/-- the invariant depends on the tracker only through what it considers assigned (less is fine)
and what it has reported (more is fine) -/
theorem Inv.of_le {top : Frame} {below : List Frame} {a b : St} (h : Inv top below a)
    (he : ∀ x, b.isAssigned x = true → a.isAssigned x = true)
    (ho : ∀ x, a.reported x → b.reported x) : Inv top below b :=
  fun x hx => (h x (he x hx)).imp (ho x) id

theorem Inv.push {top : Frame} {below : List Frame} {st : St}
    (h : Inv top below st) : Inv top below st.push :=
  h.of_le (fun x hx => isAssigned_push st x ▸ hx) (fun _ hx => hx)

theorem Inv.of_scope {top : Frame} {below : List Frame} {a b : St} (h : Inv top below a)
    (hs : Step a.push b) : Inv top below b.pop :=
  pop_of_step hs ▸ h.of_le (fun _ hx => hx) hs.rep

/-- an assignment of a name that the frames bind, once the top frame has grown to `top'` -/
theorem inv_assign {top top' : Frame} {below : List Frame} {st : St} (x : String)
    (h : Inv top below st) (hs : ∀ y ∈ top, y ∈ top') (hb : bound top' below x = true) :
    Inv top' below (st.assign x) := by
  intro y hy
  rcases (isAssigned_assign st x y).1 hy with hy' | ⟨rfl, _⟩
  · exact (h y hy').imp (assign_reported st x y).2 (bound_mono hs)
  · exact Or.inr hb

theorem inv_visitLeaf {top : Frame} {below : List Frame} {st : St} (l : Leaf)
    (h : Inv top below st) :
    Inv top below (visitLeaf st l) ∧
      (bound top below l.1 = false → (visitLeaf st l).reported l.1) := by
  -- the variable itself: reported at this leaf, or assigned before and then justified by `h`
  have hl : (visitLeaf st l).reported l.1 ∨ bound top below l.1 = true := by
    by_cases ha : st.isAssigned l.1 = true
    · exact (h l.1 ha).imp ((step_visitLeaf st l).rep _) id
    · exact Or.inl ((reported_visitLeaf st l _).2 (Or.inr ⟨rfl, ha⟩))
  refine ⟨fun y hy => ?_, fun hb => hl.resolve_right (by rw [hb]; exact Bool.false_ne_true)⟩
  rcases (isAssigned_visitLeaf st l y).1 hy with hy' | ⟨rfl, _⟩
  · exact (h y hy').imp ((step_visitLeaf st l).rep y) id
  · exact hl

theorem inv_visitLeaves {top : Frame} {below : List Frame} (ls : List Leaf) {st : St}
    (h : Inv top below st) :
    Inv top below (visitLeaves st ls) ∧
      ∀ x ∈ lookups top below (roots ls), (visitLeaves st ls).reported x := by
  induction ls generalizing st with
  | nil => exact ⟨h, fun x hx => by simp [lookups, roots] at hx⟩
  | cons y ys ih =>
    obtain ⟨h1, h2⟩ := inv_visitLeaf y h
    obtain ⟨h3, h4⟩ := ih h1
    have hs : visitLeaves st (y :: ys) = visitLeaves (visitLeaf st y) ys := by simp [visitLeaves]
    rw [hs]
    refine ⟨h3, fun x hx => ?_⟩
    rw [mem_lookups] at hx
    obtain ⟨hx1, hx2⟩ := hx
    simp only [roots, List.map_cons, List.mem_cons] at hx1
    rcases hx1 with rfl | hx1
    · exact (step_visitLeaves _ ys).rep _ (h2 hx2)
    · exact h4 x ((mem_lookups _ _ _ _).2 ⟨hx1, hx2⟩)

end MJ.Meta
