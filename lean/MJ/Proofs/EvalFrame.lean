import MJ.Model.Eval
/-!
# The reference interpreter arm by arm, and what every statement keeps of the heap (C03)

The arms of `exec`, `execIters`, `bindDefaults` that state a law by themselves are written as equations
(`for_else_iff_empty`, `if_no_scope`, `iteration_scope`, `arg_default_evaluated_iff_used`), each with the
inversion the proofs about `exec` read (`exec_forS_ok`, `execIters_cons_ok`, `bindDefaults_cons_ok`: what a
run of the arm that succeeds consists of; `bindWith_cons_ok` says it of one `with` binding).
`evalExpr_binop`: a binary operator other than `and` / `or` evaluates both operands and applies `binVal`.

The interpreter changes the heap in two ways only: it writes into the innermost visible cell, and it pushes
a cell for a body (`for` iteration, `with`) and drops it afterwards.  A relation between heaps that both
keep is a `HeapRel`, and every statement keeps it (`HeapRel.exec_all`, by induction on the fuel for `exec`,
`execBlock`, `execIters` together).  `Frame` is the instance "all cells but the innermost visible one are
unchanged, and their number is the same" (`exec_frame`); with it a loop leaves the heap as it was
(`execIters_heap`).

At the end (`MJ.Vm.*`, the names the simulation uses): what `splitArgs`, `mapInsert`, `evalArgs` / `evalList` /
`evalPairs`, `heapSetAll`, `setAll`, `bindTargets` do.
-/
namespace MJ.Eval

theorem bind_ok {α β : Type} {x : Res α} {f : α → Res β} {b : β} :
    (x >>= f) = .ok b ↔ ∃ a, x = .ok a ∧ f a = .ok b := by
  cases x <;> simp [bind, Except.bind]

theorem map_ok {α β : Type} {x : Res α} {f : α → β} {b : β} :
    Except.map f x = .ok b ↔ ∃ a, x = .ok a ∧ f a = b := by
  cases x <;> simp [Except.map]

/-- the value of a strict binary operator -/
def binVal (op : BinOp) (a b : Val) : Res Val :=
  match op with
  | .concat => .ok (.str (render a ++ render b))
  | .eq => (compareOp .eq a b).map .bool
  | .ne => (compareOp .ne a b).map .bool
  | .lt => (compareOp .lt a b).map .bool
  | .le => (compareOp .le a b).map .bool
  | .gt => (compareOp .gt a b).map .bool
  | .ge => (compareOp .ge a b).map .bool
  | .isin => (compareOp .isin a b).map .bool
  | op => arith op a b

theorem evalExpr_binop {m ctx heap stack op l r} (h1 : op ≠ .and) (h2 : op ≠ .or) :
    evalExpr (m + 1) ctx heap stack (.binop op l r) =
      (evalExpr m ctx heap stack l >>= fun a => evalExpr m ctx heap stack r >>= fun b => binVal op a b) := by
  cases op <;> simp [evalExpr, bind, Except.bind, binVal] at h1 h2 ⊢ <;> rfl

theorem indexList_mem {α : Type} {xs : List α} {i : Int} {x : α} (h : indexList xs i = some x) : x ∈ xs := by
  unfold indexList at h
  split at h
  · exact List.mem_of_getElem? h
  · split at h
    · exact List.mem_of_getElem? h
    · cases h

theorem mem_splitArgs_pos {as : List (Option String × Val)} {x : Val} (h : x ∈ (splitArgs as).1) : x ∈ as.map (·.2) := by
  simp only [splitArgs, List.mem_filterMap] at h
  obtain ⟨a, ha, hm⟩ := h
  obtain ⟨k, v⟩ := a
  cases k with
  | none => simp at hm; subst hm; exact List.mem_map.2 ⟨_, ha, rfl⟩
  | some _ => simp at hm

end MJ.Eval

namespace MJ.C03
open MJ.Eval

/-- the items a loop walks: all of them, or those that pass the loop filter (the engine counts the
latter with checked `i128` arithmetic) -/
def keptItems (n : Nat) (ctx : Scope) (heap : Heap) (stack : List Nat) (target : Target)
    (flt : Option Expr) (xs : List Val) : Res (List Val) :=
  match flt with
  | none => .ok xs
  | some c => (filterItems n ctx heap stack target c xs).bind fun ks =>
      if (ks.length : Int) ≤ i128Max then .ok ks else .error .invalidOp

def loopSized (flt : Option Expr) (v : Val) : Bool :=
  match flt with
  | none => isSized v
  | some _ => true

/-- **for/else**: the `else` branch runs iff the (filtered) sequence is empty, in which case nothing
else runs; otherwise the body runs once per (filtered) item with `loopInfos` of exactly that
sequence and the `else` branch does not run. -/
theorem for_else_iff_empty (n : Nat) (ctx : Scope) (stack : List Nat) (σ : State) (target : Target)
    (iter : Expr) (flt : Option Expr) (body els : List Stmt) :
    exec (n + 1) ctx stack σ (.forS target iter flt body els) =
      (evalExpr n ctx σ.heap stack iter).bind fun v =>
      (iterate v).bind fun xs =>
      (keptItems n ctx σ.heap stack target flt xs).bind fun kept =>
        if kept = [] then execBlock n ctx stack σ els
        else (execIters n ctx stack σ target body (kept.zip (loopInfos (loopSized flt v) kept))).bind
          fun σ' => .ok (σ', .normal) := by
  simp only [exec, bind, Except.bind, keptItems, loopSized]
  cases evalExpr n ctx σ.heap stack iter with
  | error e => rfl
  | ok v =>
    simp only
    cases iterate v with
    | error e => rfl
    | ok xs =>
      cases flt with
      | none => cases xs <;> simp
      | some c =>
        simp only
        cases filterItems n ctx σ.heap stack target c xs with
        | error e => rfl
        | ok kept =>
          by_cases hk : (kept.length : Int) ≤ i128Max
          · simp only [if_pos hk]; cases kept <;> simp
          · simp only [if_neg hk]

theorem exec_forS_ok {n ctx stack σ target iter flt body els σ' fl}
    (h : exec (n + 1) ctx stack σ (.forS target iter flt body els) = .ok (σ', fl)) :
    ∃ v xs0 xs, evalExpr n ctx σ.heap stack iter = .ok v ∧ iterate v = .ok xs0 ∧
      keptItems n ctx σ.heap stack target flt xs0 = .ok xs ∧
      ∃ σi, execIters n ctx stack σ target body (xs.zip (loopInfos (loopSized flt v) xs)) = .ok σi ∧
        ((xs = [] ∧ σi = σ ∧ execBlock n ctx stack σ els = .ok (σ', fl)) ∨ (xs ≠ [] ∧ σ' = σi ∧ fl = .normal)) := by
  rw [for_else_iff_empty] at h
  obtain ⟨v, hv, h⟩ := bind_ok.1 h
  obtain ⟨xs0, hxs, h⟩ := bind_ok.1 h
  obtain ⟨xs, hk, h⟩ := bind_ok.1 h
  refine ⟨v, xs0, xs, hv, hxs, hk, ?_⟩
  split at h
  · rename_i hnil; subst hnil
    cases n with
    | zero => simp [execBlock] at h
    | succ m => exact ⟨σ, by simp [execIters, loopInfos, loopInfosFrom], Or.inl ⟨rfl, rfl, h⟩⟩
  · obtain ⟨σi, hi, h⟩ := bind_ok.1 h
    cases h
    exact ⟨_, hi, Or.inr ⟨‹_›, rfl, rfl⟩⟩

theorem keptItems_ok {n ctx heap st t flt xs0 xs} (h : keptItems n ctx heap st t flt xs0 = .ok xs) :
    (flt = none ∧ xs = xs0) ∨
      ∃ c, flt = some c ∧ filterItems n ctx heap st t c xs0 = .ok xs ∧ (xs.length : Int) ≤ i128Max := by
  cases flt with
  | none => cases h; exact Or.inl ⟨rfl, rfl⟩
  | some c =>
    obtain ⟨ks, hks, h⟩ := bind_ok.1 h
    split at h
    · cases h; exact Or.inr ⟨c, rfl, hks, ‹_›⟩
    · cases h

/-- **`if` introduces no scope**: the chosen branch runs in the very same scope stack and state. -/
theorem if_no_scope (n : Nat) (ctx : Scope) (stack : List Nat) (σ : State) (c : Expr) (t f : List Stmt) :
    exec (n + 1) ctx stack σ (.ifS c t f) =
      (evalExpr n ctx σ.heap stack c).bind fun cv =>
        if truthy cv then execBlock n ctx stack σ t else execBlock n ctx stack σ f := by
  simp only [exec, bind, Except.bind]

theorem exec_set_var {m ctx cell rest σ x e v}
    (he : evalExpr m ctx σ.heap (cell :: rest) e = .ok v) :
    exec (m + 1) ctx (cell :: rest) σ (.set (.var x) e) =
      .ok ({ σ with heap := heapSet σ.heap cell x v }, .normal) := by
  simp [exec, bind, Except.bind, he, bindTarget, topCell, heapSetAll]

/-- **Every iteration gets a scope of its own** holding the loop target(s) and `loop`; the scope is
dropped after the body; `break` ends the walk. -/
theorem iteration_scope (n : Nat) (ctx : Scope) (stack : List Nat) (σ : State) (target : Target)
    (body : List Stmt) (x : Val) (info : LoopInfo) (rest : List (Val × LoopInfo)) :
    execIters (n + 1) ctx stack σ target body ((x, info) :: rest) =
      (bindTarget target x).bind fun bs =>
      (execBlock n ctx (σ.heap.length :: stack)
        { σ with heap := σ.heap ++ [setAll [("loop", loopVal info)] bs] } body).bind fun r =>
        match r.2 with
        | .brk => .ok { r.1 with heap := r.1.heap.take σ.heap.length }
        | _ => execIters n ctx stack { r.1 with heap := r.1.heap.take σ.heap.length } target body rest := by
  simp only [execIters, Except.bind]
  cases bindTarget target x with
  | error e => rfl
  | ok bs =>
    simp only
    cases execBlock n ctx (σ.heap.length :: stack) { σ with heap := σ.heap ++ [setAll [("loop", loopVal info)] bs] } body with
    | error e => rfl
    | ok r => obtain ⟨σ2, fl⟩ := r; cases fl <;> rfl

theorem execIters_cons_ok {n ctx stack σ target body x info rest σ'}
    (h : execIters (n + 1) ctx stack σ target body ((x, info) :: rest) = .ok σ') :
    ∃ bs σ2 fl, bindTarget target x = .ok bs ∧
      execBlock n ctx (σ.heap.length :: stack) { σ with heap := σ.heap ++ [setAll [("loop", loopVal info)] bs] } body = .ok (σ2, fl) ∧
      (if fl = .brk then σ' = { σ2 with heap := σ2.heap.take σ.heap.length }
       else execIters n ctx stack { σ2 with heap := σ2.heap.take σ.heap.length } target body rest = .ok σ') := by
  rw [iteration_scope] at h
  obtain ⟨bs, hbs, h⟩ := bind_ok.1 h
  obtain ⟨⟨σ2, fl⟩, hb, h⟩ := bind_ok.1 h
  refine ⟨bs, σ2, fl, hbs, hb, ?_⟩
  cases fl <;> simp_all

/-- **The default expression is evaluated** (at call time, in the macro's scope) exactly when `slotOf` chooses it:
binding one parameter is "evaluate the default, store it" or "store the bound value". -/
theorem arg_default_evaluated_iff_used (n : Nat) (ctx : Scope) (heap : Heap) (cell : Nat) (st : List Nat)
    (params : List String) (defaults : List Expr) (i : Nat) (p : String) (v : Val) (rest : List (String × Val)) :
    bindDefaults (n + 1) ctx heap (cell :: st) params defaults i ((p, v) :: rest) =
      match slotOf v (defaultOf params defaults i) with
      | .dflt d => (evalExpr n ctx heap (cell :: st) d).bind fun dv =>
          bindDefaults n ctx (heapSet heap cell p dv) (cell :: st) params defaults (i + 1) rest
      | .passed w => bindDefaults n ctx (heapSet heap cell p w) (cell :: st) params defaults (i + 1) rest := by
  simp only [bindDefaults, topCell]
  cases slotOf v (defaultOf params defaults i) with
  | passed w => rfl
  | dflt d =>
    simp only [Except.bind]
    cases evalExpr n ctx heap (cell :: st) d <;> rfl

theorem bindDefaults_cons_ok {n ctx heap cell st params defaults i p v rest heap2}
    (h : bindDefaults (n + 1) ctx heap (cell :: st) params defaults i ((p, v) :: rest) = .ok heap2) :
    ∃ w, (slotOf v (defaultOf params defaults i) = .passed w ∨
        ∃ d, slotOf v (defaultOf params defaults i) = .dflt d ∧ evalExpr n ctx heap (cell :: st) d = .ok w) ∧
      bindDefaults n ctx (heapSet heap cell p w) (cell :: st) params defaults (i + 1) rest = .ok heap2 := by
  rw [arg_default_evaluated_iff_used] at h
  cases hs : slotOf v (defaultOf params defaults i) with
  | passed w => rw [hs] at h; exact ⟨w, Or.inl rfl, h⟩
  | dflt d =>
    rw [hs] at h
    obtain ⟨w, hd, h⟩ := bind_ok.1 h
    exact ⟨w, Or.inr ⟨d, rfl, hd⟩, h⟩

theorem bindWith_cons_ok {n ctx heap stack t e rest heap'}
    (h : bindWith (n + 1) ctx heap stack ((t, e) :: rest) = .ok heap') :
    ∃ cell v bs, topCell stack = .ok cell ∧ evalExpr n ctx heap stack e = .ok v ∧ bindTarget t v = .ok bs ∧
      bindWith n ctx (heapSetAll heap cell bs) stack rest = .ok heap' := by
  simp only [bindWith] at h
  split at h
  · cases h
  · split at h
    · cases h
    · split at h
      · cases h
      · exact ⟨_, _, _, ‹_›, ‹_›, ‹_›, h⟩

theorem heapSet_length (h : Heap) (id : Nat) (x : String) (v : Val) :
    (heapSet h id x v).length = h.length := by
  unfold heapSet; split <;> simp

theorem heapSet_getElem?_ne (h : Heap) (id i : Nat) (x : String) (v : Val) (hne : i ≠ id) :
    (heapSet h id x v)[i]? = h[i]? := by
  unfold heapSet; split
  · simp [List.getElem?_set]; intro h1; exact absurd h1.symm hne
  · rfl


/-- `h'` has the cells of `h`, all unchanged except possibly the innermost cell of `stack` -/
def Frame (stack : List Nat) (h h' : Heap) : Prop :=
  h'.length = h.length ∧ ∀ i, stack.head? ≠ some i → h'[i]? = h[i]?

theorem Frame.refl (stack : List Nat) (h : Heap) : Frame stack h h := ⟨rfl, fun _ _ => rfl⟩

theorem Frame.trans {stack : List Nat} {a b c : Heap} (h1 : Frame stack a b) (h2 : Frame stack b c) :
    Frame stack a c :=
  ⟨h2.1.trans h1.1, fun i hi => (h2.2 i hi).trans (h1.2 i hi)⟩

theorem topCell_ok {stack : List Nat} {cell : Nat} (h : topCell stack = .ok cell) :
    stack.head? = some cell := by
  cases stack with
  | nil => simp [topCell] at h
  | cons a rest => simp [topCell] at h; simp [h]

theorem Frame.heapSet {stack : List Nat} {cell : Nat} (hc : topCell stack = .ok cell) (h : Heap) (x : String)
    (v : Val) : Frame stack h (heapSet h cell x v) := by
  refine ⟨heapSet_length _ _ _ _, fun i hi => heapSet_getElem?_ne _ _ _ _ _ ?_⟩
  intro e; subst e; exact hi (topCell_ok hc)

/-- dropping the cell that was pushed for a body gives back the heap from before the body -/
theorem take_of_frame (h : Heap) (c : Scope) (stack : List Nat) (h' : Heap)
    (hf : Frame (h.length :: stack) (h ++ [c]) h') : h'.take h.length = h := by
  apply List.ext_getElem?
  intro i
  by_cases hi : i < h.length
  · rw [List.getElem?_take_of_lt hi, hf.2 i (by simp; omega)]
    simp [List.getElem?_append_left hi]
  · have : h.length ≤ i := Nat.le_of_not_lt hi
    rw [List.getElem?_eq_none (by simp; omega), List.getElem?_eq_none this]


/-- a relation between heaps, relative to the scope stack, that every write into the innermost cell
keeps and that survives dropping the cell pushed for a body.  The interpreter changes the heap in no
other way, so every statement keeps such a relation (`HeapRel.exec_all`). -/
structure HeapRel (R : List Nat → Heap → Heap → Prop) : Prop where
  refl : ∀ stack h, R stack h h
  trans : ∀ {stack a b c}, R stack a b → R stack b c → R stack a c
  set : ∀ {stack cell}, topCell stack = .ok cell → ∀ (h : Heap) (x : String) (v : Val), R stack h (heapSet h cell x v)
  pop : ∀ {stack : List Nat} {h : Heap} {c : Scope} {h' : Heap},
    R (h.length :: stack) (h ++ [c]) h' → R stack h (h'.take h.length)

theorem HeapRel.setAll {R} (hR : HeapRel R) {stack cell} (hc : topCell stack = .ok cell) :
    ∀ (bs : List (String × Val)) (h : Heap), R stack h (heapSetAll h cell bs)
  | [], h => hR.refl _ h
  | (x, v) :: rest, h => hR.trans (hR.set hc h x v) (hR.setAll hc rest _)

theorem HeapRel.bindWith {R} (hR : HeapRel R) : ∀ (fuel : Nat) (ctx : Scope) (heap : Heap) (stack : List Nat)
    (binds : List (Target × Expr)) (heap' : Heap),
    bindWith fuel ctx heap stack binds = .ok heap' → R stack heap heap' := by
  intro fuel
  induction fuel with
  | zero => intro ctx heap stack binds heap' h; simp [MJ.Eval.bindWith] at h
  | succ n ih =>
    intro ctx heap stack binds heap' h
    cases binds with
    | nil => simp [MJ.Eval.bindWith] at h; subst h; exact hR.refl _ _
    | cons b rest =>
      obtain ⟨t, e⟩ := b
      obtain ⟨cell, _, _, hc, _, _, h⟩ := bindWith_cons_ok h
      exact hR.trans (hR.setAll hc _ heap) (ih _ _ _ _ _ h)

theorem HeapRel.exec_all {R} (hR : HeapRel R) : ∀ fuel,
    (∀ ctx stack σ s σ' fl, exec fuel ctx stack σ s = .ok (σ', fl) → R stack σ.heap σ'.heap) ∧
    (∀ ctx stack σ ss σ' fl, execBlock fuel ctx stack σ ss = .ok (σ', fl) → R stack σ.heap σ'.heap) ∧
    (∀ ctx stack σ t body items σ', execIters fuel ctx stack σ t body items = .ok σ' → R stack σ.heap σ'.heap) := by
  intro fuel
  induction fuel with
  | zero =>
    refine ⟨?_, ?_, ?_⟩
    · intro ctx stack σ s σ' fl h; simp [exec] at h
    · intro ctx stack σ ss σ' fl h; simp [execBlock] at h
    · intro ctx stack σ t body items σ' h; simp [execIters] at h
  | succ n ih =>
    obtain ⟨he, hb, hi⟩ := ih
    refine ⟨?_, ?_, ?_⟩
    · intro ctx stack σ s σ' fl h
      cases s with
      | text t => simp [exec] at h; obtain ⟨rfl, _⟩ := h; exact hR.refl _ _
      | emit e =>
        simp only [exec, bind_ok] at h
        obtain ⟨v, _, h⟩ := h
        cases h; exact hR.refl _ _
      | ifS c t f =>
        simp only [exec, bind_ok] at h
        obtain ⟨cv, _, h⟩ := h
        split at h <;> exact hb _ _ _ _ _ _ h
      | forS target iter flt body els =>
        obtain ⟨_, _, _, _, _, _, σi, hit, hc⟩ := exec_forS_ok h
        rcases hc with ⟨_, rfl, hels⟩ | ⟨_, rfl, _⟩
        · exact hb _ _ _ _ _ _ hels
        · exact hi _ _ _ _ _ _ _ hit
      | set target e =>
        simp only [exec, bind_ok] at h
        obtain ⟨v, _, bs, _, cell, hc, h⟩ := h
        cases h; exact hR.setAll hc _ _
      | setBlock x filters body =>
        simp only [exec, bind_ok] at h
        obtain ⟨r, hr, h⟩ := h
        have f := hb _ _ _ _ _ _ hr
        split at h
        · simp only [bind_ok] at h
          obtain ⟨v, _, cell, hc, h⟩ := h
          cases h; exact hR.trans f (hR.set hc _ _ _)
        · cases h; exact f
      | withS binds body =>
        simp only [exec, bind_ok] at h
        obtain ⟨heap1, hw, r, hr, h⟩ := h
        cases h
        exact hR.pop (hR.trans (hR.bindWith _ _ _ _ _ _ hw) (hb _ _ _ _ _ _ hr))
      | filterBlock filters body =>
        simp only [exec, bind_ok] at h
        obtain ⟨r, hr, h⟩ := h
        have f := hb _ _ _ _ _ _ hr
        split at h
        · simp only [bind_ok] at h
          obtain ⟨v, _, h⟩ := h
          cases h; exact f
        · cases h; exact f
      | macroS name params defaults body uc =>
        simp only [exec, bind_ok] at h
        obtain ⟨cell, hc, h⟩ := h
        cases h; exact hR.set hc _ _ _
      | callBlock callee args params defaults body uc =>
        have key : ∀ (fv : Res Val), (fv >>= fun fv => evalArgs n ctx σ.heap stack args >>= fun as =>
            callValue n ctx σ.heap fv (as ++ [(some "caller", Val.macro "caller" params defaults body uc stack)]) >>= fun v =>
            (.ok ({ σ with out := σ.out ++ render v }, Flow.normal) : Res (State × Flow))) = .ok (σ', fl) →
            R stack σ.heap σ'.heap := by
          intro fv hk
          simp only [bind_ok] at hk
          obtain ⟨_, _, _, _, _, _, hk⟩ := hk
          cases hk; exact hR.refl _ _
        simp only [exec] at h
        split at h
        · split at h <;> exact key _ h
        · exact key _ h
      | breakS => simp [exec] at h; obtain ⟨rfl, _⟩ := h; exact hR.refl _ _
      | continueS => simp [exec] at h; obtain ⟨rfl, _⟩ := h; exact hR.refl _ _
    · intro ctx stack σ ss σ' fl h
      cases ss with
      | nil => simp [execBlock] at h; obtain ⟨rfl, _⟩ := h; exact hR.refl _ _
      | cons s rest =>
        simp only [execBlock] at h
        split at h
        · simp at h
        · rename_i σ1 hs
          exact hR.trans (he _ _ _ _ _ _ hs) (hb _ _ _ _ _ _ h)
        · rename_i σ1 fl1 _ hs
          simp at h; obtain ⟨rfl, _⟩ := h
          exact he _ _ _ _ _ _ hs
    · intro ctx stack σ t body items σ' h
      cases items with
      | nil => simp [execIters] at h; subst h; exact hR.refl _ _
      | cons it rest =>
        obtain ⟨_, σ2, fl, _, hbody, h⟩ := execIters_cons_ok h
        have f := hR.pop (hb _ _ _ _ _ _ hbody)
        split at h
        · subst h; exact f
        · exact hR.trans f (hi _ _ _ _ _ _ _ h)

theorem Frame.rel : HeapRel Frame where
  refl := Frame.refl
  trans := Frame.trans
  set := Frame.heapSet
  pop hf := by rw [take_of_frame _ _ _ _ hf]; exact Frame.refl _ _

theorem heapSetAll_length (bs : List (String × Val)) : ∀ (h : Heap) (id : Nat),
    (heapSetAll h id bs).length = h.length :=
  fun h id => (Frame.rel.setAll (stack := [id]) rfl bs h).1

theorem heapSetAll_getElem?_ne (bs : List (String × Val)) : ∀ (h : Heap) (id i : Nat), i ≠ id →
    (heapSetAll h id bs)[i]? = h[i]? :=
  fun h id i hne => (Frame.rel.setAll (stack := [id]) rfl bs h).2 i (by simpa using Ne.symm hne)

theorem bindWith_frame : ∀ (fuel : Nat) (ctx : Scope) (heap : Heap) (stack : List Nat)
    (binds : List (Target × Expr)) (heap' : Heap),
    bindWith fuel ctx heap stack binds = .ok heap' → Frame stack heap heap' :=
  Frame.rel.bindWith

theorem exec_frame {fuel ctx stack σ s σ' fl} (h : exec fuel ctx stack σ s = .ok (σ', fl)) :
    Frame stack σ.heap σ'.heap := (Frame.rel.exec_all fuel).1 _ _ _ _ _ _ h

theorem execBlock_frame {fuel ctx stack σ ss σ' fl} (h : execBlock fuel ctx stack σ ss = .ok (σ', fl)) :
    Frame stack σ.heap σ'.heap := (Frame.rel.exec_all fuel).2.1 _ _ _ _ _ _ h

/-- every iteration runs in a cell of its own, dropped when the iteration ends -/
theorem execIters_heap {fuel ctx stack σ t body items σ'}
    (h : execIters fuel ctx stack σ t body items = .ok σ') : σ'.heap = σ.heap := by
  induction fuel generalizing σ items with
  | zero => simp [execIters] at h
  | succ n ih =>
    cases items with
    | nil => simp [execIters] at h; subst h; rfl
    | cons it rest =>
      obtain ⟨_, σ2, fl, _, hbody, h⟩ := execIters_cons_ok h
      have htake : σ2.heap.take σ.heap.length = σ.heap := take_of_frame _ _ _ _ (execBlock_frame hbody)
      split at h
      · subst h; exact htake
      · exact (ih h).trans htake


theorem assocGet_assocSet_same {α : Type} (x : String) (v : α) (c : List (String × α)) :
    assocGet x (assocSet x v c) = some v := by
  induction c with
  | nil => simp [assocSet, assocGet]
  | cons p rest ih =>
    obtain ⟨k, w⟩ := p
    by_cases hk : k = x
    · simp [assocSet, assocGet, hk]
    · simp [assocSet, assocGet, hk, ih]

theorem assocGet_assocSet_other {α : Type} (x y : String) (v : α) (c : List (String × α)) (hne : y ≠ x) :
    assocGet y (assocSet x v c) = assocGet y c := by
  induction c with
  | nil => simp [assocSet, assocGet, Ne.symm hne]
  | cons p rest ih =>
    obtain ⟨k, w⟩ := p
    by_cases hk : k = x
    · subst hk; simp [assocSet, assocGet, Ne.symm hne]
    · by_cases hy : k = y
      · subst hy; simp [assocSet, assocGet, hk]
      · simp [assocSet, assocGet, hk, hy, ih]

theorem heapSet_getElem?_same (h : Heap) (id : Nat) (x : String) (v : Val) (hid : id < h.length) :
    (heapSet h id x v)[id]? = some (assocSet x v h[id]) := by
  unfold heapSet
  rw [List.getElem?_eq_getElem hid]
  simp [hid]

theorem lookup_heapSet_same (ctx : Scope) (h : Heap) (cell : Nat) (rest : List Nat) (x : String) (v : Val)
    (hid : cell < h.length) : lookup ctx (heapSet h cell x v) (cell :: rest) x = some v := by
  simp [lookup, lookupIn, heapSet_getElem?_same h cell x v hid, assocGet_assocSet_same]

theorem heapSet_other (h : Heap) (cell : Nat) (x y : String) (v : Val) (hne : y ≠ x) (hid : cell < h.length) :
    ((heapSet h cell x v)[cell]?).bind (assocGet y) = (h[cell]?).bind (assocGet y) := by
  rw [heapSet_getElem?_same h cell x v hid, List.getElem?_eq_getElem hid]
  simp [assocGet_assocSet_other x y v _ hne]


theorem execBlock_nil {n ctx stack σ σ' fl} (h : execBlock n ctx stack σ [] = .ok (σ', fl)) :
    σ' = σ ∧ fl = .normal := by
  cases n with
  | zero => simp [execBlock] at h
  | succ k => simp [execBlock] at h; exact ⟨h.1.symm, h.2.symm⟩


theorem isSome_assocSet {α : Type} (x y : String) (v : α) (c : List (String × α)) (h : (assocGet y c).isSome = true) :
    (assocGet y (assocSet x v c)).isSome = true := by
  by_cases hy : y = x
  · subst hy; simp [assocGet_assocSet_same]
  · rw [assocGet_assocSet_other x y v c hy]; exact h

end MJ.C03

namespace MJ.Vm
open MJ.Eval MJ.C03

/-! What the functions on argument lists, keyword bundles and cells do (`splitArgs`, `mapInsert`, `insertPairs`, `evalArgs`,
`heapSetAll`, `setAll`, `bindTargets`), under the names the simulation of `MJ/Proofs/ExprSim.lean` and after uses. -/

theorem evalExpr_succ_of_ok {n ctx heap stack e v} (h : evalExpr n ctx heap stack e = .ok v) : ∃ m, n = m + 1 := by
  cases n with
  | zero => simp [evalExpr] at h
  | succ m => exact ⟨m, rfl⟩

theorem mem_splitArgs_kw {as : List (Option String × Val)} {k : String} {v : Val} (h : (k, v) ∈ (splitArgs as).2) :
    v ∈ as.map (·.2) := by
  simp only [splitArgs, List.mem_filterMap] at h
  obtain ⟨a, ha, hm⟩ := h
  obtain ⟨k', v'⟩ := a
  cases k' with
  | none => simp at hm
  | some k'' => simp at hm; obtain ⟨_, rfl⟩ := hm; exact List.mem_map.2 ⟨_, ha, rfl⟩

theorem splitArgs_none (as : List (Option String × Val)) (h : ∀ p ∈ as, p.1 = none) :
    (splitArgs as).1 = as.map (·.2) ∧ (splitArgs as).2 = [] := by
  induction as with
  | nil => simp [splitArgs]
  | cons p rest ih =>
    obtain ⟨k, v⟩ := p
    have hk : k = none := h (k, v) (by simp)
    subst hk
    have := ih (fun p hp => h p (by simp [hp]))
    simp [splitArgs] at this ⊢
    exact this

theorem splitArgs_cons_none (v : Val) (vs : List (Option String × Val)) :
    splitArgs ((none, v) :: vs) = (v :: (splitArgs vs).1, (splitArgs vs).2) := by simp [splitArgs]

theorem splitArgs_cons_some (k : String) (v : Val) (vs : List (Option String × Val)) :
    splitArgs ((some k, v) :: vs) = ((splitArgs vs).1, (k, v) :: (splitArgs vs).2) := by simp [splitArgs]

theorem splitArgs_append_kw (as : List (Option String × Val)) (k : String) (v : Val) :
    splitArgs (as ++ [(some k, v)]) = ((splitArgs as).1, (splitArgs as).2 ++ [(k, v)]) := by
  simp [splitArgs, List.filterMap_append]

theorem evalArgs_length {n ctx heap stack} : ∀ (args : List (Option String × Expr)) (as),
    evalArgs n ctx heap stack args = .ok as → as.length = args.length := by
  induction n with
  | zero => intro args as h; simp [evalArgs] at h
  | succ m ih =>
    intro args as h
    match args with
    | [] => simp [evalArgs] at h; subst h; rfl
    | (k, e) :: rest =>
      simp only [evalArgs, bind_ok] at h
      obtain ⟨v, _, ws, hws, h⟩ := h
      cases h
      simp [ih rest ws hws]

theorem evalList_length {n ctx heap stack} : ∀ (es : List Expr) (vs), evalList n ctx heap stack es = .ok vs →
    vs.length = es.length := by
  induction n with
  | zero => intro es vs h; simp [evalList] at h
  | succ m ih =>
    intro es vs h
    match es with
    | [] => simp [evalList] at h; subst h; rfl
    | e :: rest =>
      simp only [evalList, bind_ok] at h
      obtain ⟨v, _, ws, hws, h⟩ := h
      cases h
      simp [ih rest ws hws]

theorem evalPairs_length {n ctx heap stack} : ∀ (kvs : List (Expr × Expr)) (ps), evalPairs n ctx heap stack kvs = .ok ps →
    ps.length = kvs.length := by
  induction n with
  | zero => intro kvs ps h; simp [evalPairs] at h
  | succ m ih =>
    intro kvs ps h
    match kvs with
    | [] => simp [evalPairs] at h; subst h; rfl
    | (k, e) :: rest =>
      simp only [evalPairs, bind_ok] at h
      obtain ⟨kv, _, v, _, ws, hws, h⟩ := h
      cases h
      simp [ih rest ws hws]

theorem assocGet_mapInsert (k k' : String) (v : Val) : ∀ (acc : List (String × Val)),
    assocGet k' (mapInsert k v acc) = if k' = k then some v else assocGet k' acc := by
  intro acc
  fun_induction mapInsert k v acc
  case case4 k1 v1 rest h1 h2 ih =>
    by_cases h : k1 = k'
    · subst h; simp [assocGet, Ne.symm h1]
    · simp [assocGet, h, ih]
  all_goals by_cases h : k = k' <;> simp [assocGet, h, eq_comm]

theorem heapSetAll_append (h : Heap) (c : Nat) (b1 b2 : List (String × Val)) :
    heapSetAll h c (b1 ++ b2) = heapSetAll (heapSetAll h c b1) c b2 := by
  induction b1 generalizing h with
  | nil => rfl
  | cons p rest ih => obtain ⟨x, v⟩ := p; simp [heapSetAll, ih]

theorem heapSetAll_last (h : Heap) (c : Scope) (bs : List (String × Val)) :
    heapSetAll (h ++ [c]) h.length bs = h ++ [setAll c bs] := by
  induction bs generalizing c with
  | nil => rfl
  | cons p rest ih =>
    obtain ⟨x, v⟩ := p
    simp only [heapSetAll, setAll]
    have : heapSet (h ++ [c]) h.length x v = h ++ [assocSet x v c] := by
      simp [heapSet]
    rw [this, ih]

theorem setAll_bound (bs : List (String × Val)) (c : Scope) (x : String)
    (h : (assocGet x c).isSome = true ∨ x ∈ bs.map (·.1)) : (assocGet x (setAll c bs)).isSome = true := by
  fun_induction setAll c bs
  · simpa using h
  · rename_i c y v rest ih
    refine ih ?_
    simp only [List.map_cons, List.mem_cons] at h
    rcases h with h | rfl | h
    · exact Or.inl (isSome_assocSet y x v c h)
    · exact Or.inl (by simp [assocGet_assocSet_same])
    · exact Or.inr h

theorem bindTargets_length : ∀ (ts : List Target) (vs : List Val) (bs), bindTargets ts vs = .ok bs →
    vs.length = ts.length
  | [], [], _, _ => rfl
  | [], _ :: _, _, h => by simp [bindTargets] at h
  | _ :: _, [], _, h => by simp [bindTargets] at h
  | t :: ts, v :: vs, bs, h => by
    simp only [bindTargets] at h
    split at h
    · split at h
      · rename_i bs' hbs; simp [bindTargets_length ts vs bs' hbs]
      · simp at h
    · simp at h

theorem assocGet_setAll_congr : ∀ (bs : List (String × Val)) {c c' : Scope}, (∀ x, assocGet x c = assocGet x c') →
    ∀ x, assocGet x (setAll c bs) = assocGet x (setAll c' bs)
  | [], _, _, h, x => h x
  | (y, v) :: rest, c, c', h, x => assocGet_setAll_congr rest (fun z => by
      by_cases hz : z = y
      · subst hz; rw [assocGet_assocSet_same, assocGet_assocSet_same]
      · rw [assocGet_assocSet_other _ _ _ _ hz, assocGet_assocSet_other _ _ _ _ hz, h z]) x

/-- distinct names may be bound in any order: the cells answer alike -/
theorem assocGet_setAll_perm {bs bs' : List (String × Val)} (hp : bs.Perm bs') :
    (bs.map (·.1)).Nodup → ∀ (c : Scope) (x : String), assocGet x (setAll c bs) = assocGet x (setAll c bs') := by
  induction hp with
  | nil => intro _ _ _; rfl
  | cons a _ ih => intro hnd c x; exact ih (List.nodup_cons.1 (by simpa using hnd)).2 _ x
  | swap a b l =>
    intro hnd c x
    have hab : ¬ b.1 = a.1 := fun e => by simp [e] at hnd
    refine assocGet_setAll_congr l (fun z => ?_) x
    by_cases hza : z = a.1 <;> by_cases hzb : z = b.1
    · exact absurd (hzb.symm.trans hza) hab
    · subst hza; rw [assocGet_assocSet_same, assocGet_assocSet_other _ _ _ _ hzb, assocGet_assocSet_same]
    · subst hzb; rw [assocGet_assocSet_same, assocGet_assocSet_other _ _ _ _ hza, assocGet_assocSet_same]
    · simp only [assocGet_assocSet_other _ _ _ _ hza, assocGet_assocSet_other _ _ _ _ hzb]
  | trans h1 _ ih1 ih2 => intro hnd c x; rw [ih1 hnd, ih2 ((h1.map _).nodup_iff.1 hnd)]

theorem bindTargets_vars : ∀ (bs : List (String × Val)), bindTargets (bs.map fun p => Target.var p.1) (bs.map (·.2)) = .ok bs
  | [] => rfl
  | (p, v) :: rest => by simp [bindTargets, bindTarget, bindTargets_vars rest]

end MJ.Vm
