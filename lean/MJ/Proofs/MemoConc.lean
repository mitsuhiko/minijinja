import MJ.Model.MemoConc
import MJ.Proofs.Store
/-!
The concurrent model of the memoising tier (C15).  Under the mutex invariant (`Sys.Inv`) a step of a
thread is either invisible or one whole `Store.get` taking effect at that instant (`Effect`,
`stepThr_effect`); linearisability, the threads' programs, the permanence of memo entries, the shape
of the linearisation and progress all follow from that summary without looking at the steps again.
-/
namespace MJ.MemoConc
open MJ.Store

variable (c : LtCfg → Source → Bool)

theorem getElem?_set_cases {α : Type} (l : List α) (i j : Nat) (a b : α) (h : (l.set i a)[j]? = some b) :
    (j = i ∧ b = a) ∨ (j ≠ i ∧ l[j]? = some b) := by
  by_cases hji : j = i
  · subst hji
    rw [List.getElem?_set_self'] at h
    by_cases hlt : j < l.length
    · simp [hlt] at h; exact Or.inl ⟨rfl, h.symm⟩
    · simp [hlt] at h
  · rw [List.getElem?_set_ne (fun e => hji e.symm)] at h
    exact Or.inr ⟨hji, h⟩

theorem getElem?_set_self_of_some {α : Type} (l : List α) (i : Nat) (a b : α) (h : l[i]? = some b) :
    (l.set i a)[i]? = some a :=
  List.getElem?_set_self (List.getElem?_eq_some_iff.mp h).1

theorem creator_eq (s : Store) (n : Name) :
    creator c s n = memo s (fun t => { s with owned := ins s.owned n (t, .loaded) }) (load c s.loader s.cfg n) := by
  unfold creator
  exact memo_load c s (fun t => { s with owned := ins s.owned n (t, .loaded) }) s.loader s.cfg n

/-- `LoaderStore::get` = look in the borrowed tier, look in the memo map, else create -/
theorem get_eq_creator (s : Store) (n : Name)
    (hb : find s.borrowed n = none) (ho : find s.owned n = none) : s.get c n = creator c s n :=
  (Store.get_miss c hb ho).trans (creator_eq c s n).symm

/-- per thread: a thread inside the critical section holds the mutex, is working on the head of its
    to-do list, found nothing in the borrowed tier, and — once it has looked — nobody has put the name
    into the map since -/
def ThrOk (σ : Sys) (i : Nat) (t : Thr) : Prop :=
  match t.pc with
  | .idle => σ.lock ≠ some i
  | .locked n => σ.lock = some i ∧ find σ.store.borrowed n = none ∧ ∃ rest, t.todo = n :: rest
  | .missed n => σ.lock = some i ∧ find σ.store.borrowed n = none ∧ (∃ rest, t.todo = n :: rest) ∧
      find σ.store.owned n = none
  | .releasing n _ => σ.lock = some i ∧ ∃ rest, t.todo = n :: rest

def Sys.Inv (σ : Sys) : Prop :=
  (∀ i t, σ.thr[i]? = some t → ThrOk σ i t) ∧ ∀ i, σ.lock = some i → i < σ.thr.length

theorem ThrOk.holds {σ : Sys} {i : Nat} {t : Thr} (h : ThrOk σ i t) (hpc : t.pc ≠ .idle) : σ.lock = some i := by
  unfold ThrOk at h
  split at h
  · contradiction
  · exact h.1
  · exact h.1
  · exact h.1

theorem ThrOk.of_idle {σ : Sys} {i : Nat} {t : Thr} (hpc : t.pc = .idle) (hl : σ.lock ≠ some i) : ThrOk σ i t := by
  unfold ThrOk
  rw [hpc]
  exact hl

/-- while the mutex is free or with thread `i`, every other thread is idle, and in order -/
theorem ThrOk.other {σ σ' : Sys} {i j : Nat} {t : Thr} (h : ThrOk σ j t) (hji : j ≠ i)
    (hl : σ.lock = some i ∨ σ.lock = none) (hl' : σ'.lock = some i ∨ σ'.lock = none) : ThrOk σ' j t := by
  have ne : ∀ {l : Option Nat}, l = some i ∨ l = none → l ≠ some j := fun hl e =>
    hl.elim (fun h => hji (Option.some.inj (e.symm.trans h))) (fun h => nomatch e.symm.trans h)
  exact ThrOk.of_idle (Decidable.byContradiction fun hpc => ne hl (h.holds hpc)) (ne hl')

/-- mutual exclusion -/
theorem Sys.Inv.holder_unique {σ : Sys} (hσ : σ.Inv) {i j : Nat} {ti tj : Thr} (hi : σ.thr[i]? = some ti)
    (hj : σ.thr[j]? = some tj) (hni : ti.pc ≠ .idle) (hnj : tj.pc ≠ .idle) : i = j :=
  Option.some.inj (((hσ.1 i ti hi).holds hni).symm.trans ((hσ.1 j tj hj).holds hnj))

/-- whoever holds the mutex is a thread inside its critical section -/
theorem Sys.Inv.holder {σ : Sys} (hσ : σ.Inv) {i : Nat} (hl : σ.lock = some i) :
    ∃ t, σ.thr[i]? = some t ∧ t.pc ≠ .idle := by
  have hi := hσ.2 i hl
  refine ⟨σ.thr[i], List.getElem?_eq_getElem hi, fun hpc => ?_⟩
  have := hσ.1 i _ (List.getElem?_eq_getElem hi)
  unfold ThrOk at this
  rw [hpc] at this
  exact this hl

theorem start_thr {s : Store} {todos : List (List Name)} {i : Nat} {t : Thr} (h : (Sys.start s todos).thr[i]? = some t) :
    ∃ td, todos[i]? = some td ∧ t = { pc := .idle, todo := td, done := [] } := by
  simp only [Sys.start, List.getElem?_map, Option.map_eq_some_iff] at h
  obtain ⟨td, htd, e⟩ := h
  exact ⟨td, htd, e.symm⟩

theorem start_inv (s : Store) (todos : List (List Name)) : (Sys.start s todos).Inv := by
  refine ⟨fun i t h => ?_, fun i h => nomatch h⟩
  obtain ⟨td, _, rfl⟩ := start_thr h
  exact ThrOk.of_idle rfl (fun h => nomatch h)

theorem inv_set {σ σ' : Sys} {i : Nat} {t t' : Thr} (hσ : σ.Inv) (hti : σ.thr[i]? = some t)
    (hthr : σ'.thr = σ.thr.set i t') (hself : ThrOk σ' i t')
    (hother : ∀ j tj, j ≠ i → ThrOk σ j tj → ThrOk σ' j tj)
    (hlock : ∀ j, σ'.lock = some j → σ.lock = some j ∨ j = i) : σ'.Inv := by
  refine ⟨fun j tj hj => ?_, fun j hj => ?_⟩
  · rw [hthr] at hj
    rcases getElem?_set_cases _ _ _ _ _ hj with ⟨rfl, rfl⟩ | ⟨hji, hj'⟩
    · exact hself
    · exact hother j tj hji (hσ.1 j tj hj')
  · rw [hthr, List.length_set]
    rcases hlock j hj with h | rfl
    · exact hσ.2 j h
    · exact (List.getElem?_eq_some_iff.mp hti).1

theorem stepThr_inv (σ : Sys) (i : Nat) (hσ : σ.Inv) : (σ.stepThr c i).Inv := by
  fun_cases Sys.stepThr c σ i
  case case1 | case2 | case4 => exact hσ   -- no such thread, no work, or blocked
  case case3 t hti hpc n rest _ tm _ =>   -- answered by the borrowed tier
    have hok := hσ.1 i t hti
    simp only [ThrOk, hpc] at hok
    exact inv_set hσ hti rfl (ThrOk.of_idle rfl hok) (fun _ _ _ h => h) (fun _ h => Or.inl h)
  case case5 t hti hpc n rest htodo hb hlock =>   -- takes the free mutex
    exact inv_set hσ hti rfl ⟨rfl, hb, rest, htodo⟩
      (fun _ _ hji h => h.other hji (Or.inr hlock) (Or.inl rfl)) (fun j h => Or.inr (Option.some.inj h).symm)
  case case6 t hti n hpc tm o _ =>   -- looks and finds
    have hok := hσ.1 i t hti
    simp only [ThrOk, hpc] at hok
    exact inv_set hσ hti rfl ⟨hok.1, hok.2.2⟩ (fun _ _ _ h => h) (fun _ h => Or.inl h)
  case case7 t hti n hpc hown =>   -- looks and misses
    have hok := hσ.1 i t hti
    simp only [ThrOk, hpc] at hok
    exact inv_set hσ hti rfl ⟨hok.1, hok.2.1, hok.2.2, hown⟩ (fun _ _ _ h => h) (fun _ h => Or.inl h)
  case case8 t hti n hpc =>   -- creates and inserts
    have hok := hσ.1 i t hti
    simp only [ThrOk, hpc] at hok
    exact inv_set hσ hti rfl ⟨hok.1, hok.2.2.1⟩ (fun _ _ hji h => h.other hji (Or.inl hok.1) (Or.inl hok.1))
      (fun _ h => Or.inl h)
  case case9 t hti n r hpc =>   -- releases
    have hok := hσ.1 i t hti
    simp only [ThrOk, hpc] at hok
    exact inv_set hσ hti rfl (ThrOk.of_idle rfl (fun e => nomatch e))
      (fun _ _ hji h => h.other hji (Or.inl hok.1) (Or.inr rfl)) (fun _ h => nomatch h)

theorem step_inv (σ : Sys) (e : Ev) (hσ : σ.Inv) : (σ.step c e).Inv := by
  cases e with
  | thread i => exact stepThr_inv c σ i hσ
  | world l => exact hσ

theorem run_keeps {P : Sys → Prop} (hstep : ∀ σ e, σ.Inv → P σ → P (σ.step c e)) (es : List Ev) :
    ∀ σ : Sys, σ.Inv → P σ → P (σ.run c es) := by
  induction es with
  | nil => exact fun _ _ h => h
  | cons e es ih => exact fun σ hσ h => ih _ (step_inv c σ e hσ) (hstep σ e hσ h)

theorem run_inv (es : List Ev) (σ : Sys) (h : σ.Inv) : (σ.run c es).Inv :=
  run_keeps c (fun σ e hσ _ => step_inv c σ e hσ) es σ h h

def Thr.plan (t : Thr) : List Name := (t.done.map (·.1)).reverse ++ t.todo

/-- what `Sys.Moves` asks of a thread and its successor -/
def Thr.Ahead (t' t : Thr) : Prop := t'.pc ≠ t.pc ∨ t'.todo.length < t.todo.length

/-- What a step of thread `i` (currently `t`) amounts to: nothing (it is idle and has no work, or waits
    for the mutex); a move nobody else can see (store, linearisation and the thread's answers stay);
    or one whole `Store.get` taking effect at this instant.  A thread that moves gets somewhere and
    keeps to its plan. -/
inductive Effect (c : LtCfg → Source → Bool) (σ : Sys) (i : Nat) (t : Thr) : Sys → Prop
  | stay (h : t.pc = .idle ∧ (t.todo = [] ∨ σ.lock ≠ none)) : Effect c σ i t σ
  | silent (l : Option Nat) (t' : Thr) (ha : t'.answers = t.answers) (hp : t'.plan = t.plan)
      (hm : t'.Ahead t) : Effect c σ i t { σ with lock := l, thr := σ.thr.set i t' }
  | lookup (n : Name) (t' : Thr) (ha : t'.answers = (n, (σ.store.get c n).2) :: t.answers)
      (hp : t'.plan = t.plan) (hm : t'.Ahead t) :
      Effect c σ i t { store := (σ.store.get c n).1, lock := σ.lock, thr := σ.thr.set i t',
                       trace := (some i, .get n) :: σ.trace }

/-- The mutex makes `look` and `create + insert` one lookup: between them nobody else touches the map
    (`ThrOk` at `missed`), so the creator runs in a state in which `Store.get` would take the same path. -/
theorem stepThr_effect (σ : Sys) (i : Nat) (t : Thr) (hσ : σ.Inv)
    (hti : σ.thr[i]? = some t) : Effect c σ i t (σ.stepThr c i) := by
  have hok := hσ.1 i t hti
  unfold Sys.stepThr
  simp only [hti]
  cases hpc : t.pc with
  | idle =>
    simp only []
    cases htodo : t.todo with
    | nil => exact .stay ⟨hpc, Or.inl htodo⟩
    | cons n rest =>
      simp only []
      cases hb : find σ.store.borrowed n with
      | some tm =>
        have := Effect.lookup (c := c) (σ := σ) (i := i) (t := t) n
          { pc := .idle, todo := rest, done := (n, .found tm) :: t.done }
        rw [Store.get_borrowed c hb] at this
        exact this (by simp only [Thr.answers, hpc]) (by simp [Thr.plan, htodo]) (Or.inr (by simp [htodo]))
      | none =>
        simp only []
        cases hl : σ.lock with
        | some _ => exact .stay ⟨hpc, Or.inr (by rw [hl]; exact fun h => nomatch h)⟩
        | none =>
          exact .silent _ _ (by simp only [Thr.answers, hpc]) (by unfold Thr.plan; rw [htodo]) (Or.inl (by simp [hpc]))
  | locked n =>
    simp only [ThrOk, hpc] at hok
    simp only []
    cases ho : find σ.store.owned n with
    | some p =>
      have := Effect.lookup (c := c) (σ := σ) (i := i) (t := t) n { t with pc := .releasing n (.found p.1) }
      rw [Store.get_owned c hok.2.1 (o := p.2) ho] at this
      exact this (by simp only [Thr.answers, hpc]) rfl (Or.inl (by simp [hpc]))
    | none => exact .silent σ.lock _ (by simp only [Thr.answers, hpc]) rfl (Or.inl (by simp [hpc]))
  | missed n =>
    simp only [ThrOk, hpc] at hok
    have := Effect.lookup (c := c) (σ := σ) (i := i) (t := t) n
      { t with pc := .releasing n (creator c σ.store n).2 }
    rw [get_eq_creator c σ.store n hok.2.1 hok.2.2.2] at this
    exact this (by simp only [Thr.answers, hpc]) rfl (Or.inl (by simp [hpc]))
  | releasing n r =>
    simp only [ThrOk, hpc] at hok
    obtain ⟨_, rest, htodo⟩ := hok
    exact .silent none _ (by simp only [Thr.answers, hpc]) (by simp [Thr.plan, htodo]) (Or.inl (by simp [hpc]))

theorem stepThr_keeps {P : Sys → Prop} (σ : Sys) (i : Nat) (hσ : σ.Inv) (h0 : P σ)
    (h : ∀ t σ', σ.thr[i]? = some t → Effect c σ i t σ' → P σ') : P (σ.stepThr c i) := by
  cases hti : σ.thr[i]? with
  | none => unfold Sys.stepThr; rw [hti]; exact h0
  | some t => exact h t _ hti (stepThr_effect c σ i t hσ hti)

/-- the run is its linearisation: the shared store is what the sequential run of the linearisation gives,
    every thread has got the answers the sequential run gives to its lookups, and what it has answered
    followed by what it still has to do is its program -/
def Sys.Ref (s₀ : Store) (todos : List (List Name)) (σ : Sys) : Prop :=
  Store.run c s₀ σ.history = σ.store ∧
  ∀ i t, σ.thr[i]? = some t → t.answers = seqAnswers c s₀ σ.trace (some i) ∧ todos[i]? = some t.plan

theorem run_history_cons (s₀ : Store) (x : Who × Op) (tr : List (Who × Op)) :
    Store.run c s₀ ((x :: tr).reverse.map (·.2)) = ((Store.run c s₀ (tr.reverse.map (·.2))).step c x.2).1 := by
  rw [List.reverse_cons, List.map_append]
  exact Store.run_append c _ x.2 s₀

theorem effect_ref (s₀ : Store) (todos : List (List Name)) {σ σ' : Sys} {i : Nat} {t : Thr}
    (hti : σ.thr[i]? = some t) (hr : σ.Ref c s₀ todos) (he : Effect c σ i t σ') : σ'.Ref c s₀ todos := by
  obtain ⟨hr1, hr2⟩ := hr
  cases he with
  | stay => exact ⟨hr1, hr2⟩
  | silent l t' ha hp =>
    refine ⟨hr1, fun j tj hj => ?_⟩
    rcases getElem?_set_cases _ _ _ _ _ hj with ⟨rfl, rfl⟩ | ⟨_, hj'⟩
    · rw [ha, hp]; exact hr2 _ _ hti
    · exact hr2 _ _ hj'
  | lookup n t' ha hp =>
    have hrun : Store.run c s₀ (σ.trace.reverse.map (·.2)) = σ.store := hr1
    refine ⟨?_, fun j tj hj => ?_⟩
    · exact (run_history_cons c s₀ (some i, .get n) σ.trace).trans (congrArg (fun st => (Store.step c st (.get n)).1) hrun)
    · rcases getElem?_set_cases _ _ _ _ _ hj with ⟨rfl, rfl⟩ | ⟨hji, hj'⟩
      · rw [ha, hp]
        simp only [seqAnswers, if_true]
        rw [hrun, (hr2 _ _ hti).1]
        exact ⟨rfl, (hr2 _ _ hti).2⟩
      · have hne : ¬ ((some i : Who) = some j) := fun e => hji (Option.some.inj e).symm
        simp only [seqAnswers, hne, if_false]
        exact hr2 _ _ hj'

theorem step_ref (s₀ : Store) (todos : List (List Name)) (σ : Sys) (e : Ev) (hσ : σ.Inv)
    (hr : σ.Ref c s₀ todos) : (σ.step c e).Ref c s₀ todos := by
  cases e with
  | thread i => exact stepThr_keeps c σ i hσ hr (fun t σ' hti he => effect_ref c s₀ todos hti hr he)
  | world l =>
    obtain ⟨hr1, hr2⟩ := hr
    have hrun : Store.run c s₀ (σ.trace.reverse.map (·.2)) = σ.store := hr1
    refine ⟨?_, fun j tj hj => hr2 j tj hj⟩
    exact (run_history_cons c s₀ (none, .setLoader l) σ.trace).trans (congrArg (fun st => (Store.step c st (.setLoader l)).1) hrun)

theorem start_ref (s : Store) (todos : List (List Name)) :
    (Sys.start s todos).Ref c s todos := by
  refine ⟨rfl, fun i t h => ?_⟩
  obtain ⟨td, htd, rfl⟩ := start_thr h
  exact ⟨rfl, htd⟩

theorem reach_inv (s : Store) (todos : List (List Name)) (sched : List Ev) : ((Sys.start s todos).run c sched).Inv :=
  run_inv c sched _ (start_inv s todos)

theorem reach_ref (s : Store) (todos : List (List Name)) (sched : List Ev) :
    ((Sys.start s todos).run c sched).Ref c s todos :=
  run_keeps c (step_ref c s todos) sched _ (start_inv s todos) (start_ref c s todos)

theorem step_owned_kept (m : Name) (x : Tmpl × Origin) (σ : Sys) (e : Ev) (hσ : σ.Inv)
    (h : find σ.store.owned m = some x) : find (σ.step c e).store.owned m = some x := by
  cases e with
  | world l => exact h
  | thread i =>
    refine stepThr_keeps (P := fun σ' => find σ'.store.owned m = some x) c σ i hσ h (fun t σ' _ he => ?_)
    cases he with
    | stay => exact h
    | silent => exact h
    | lookup n => exact (Store.get_frame c σ.store n).2.2.2 m x h

theorem seqAnswers_pure (s₀ : Store) (who : Who) (tr : List (Who × Op)) (hall : ∀ x ∈ tr, ∃ m, x.2 = .get m) :
    ∀ p ∈ seqAnswers c s₀ tr who, p.2 = (s₀.get c p.1).2 := by
  fun_induction seqAnswers c s₀ tr who with
  | case1 => exact nofun
  | case2 older who n ih =>
    have hold := (List.forall_mem_cons.mp hall).2
    intro p hp
    rcases List.mem_cons.mp hp with rfl | hp'
    · refine run_gets_get c _ (fun o ho => ?_) n s₀
      obtain ⟨y, hy, rfl⟩ := List.mem_map.mp ho
      exact hold y (List.mem_reverse.mp hy)
    · exact ih hold p hp'
  | case3 w older who n _ ih => exact ih (List.forall_mem_cons.mp hall).2
  | case4 w op older who _ ih => exact ih (List.forall_mem_cons.mp hall).2

def onlyThreads : List Ev → Bool
  | [] => true
  | .thread _ :: es => onlyThreads es
  | .world _ :: _ => false

theorem run_trace_gets (es : List Ev) (hes : onlyThreads es = true) :
    ∀ σ : Sys, σ.Inv → (∀ x ∈ σ.trace, ∃ m, x.2 = .get m) → ∀ x ∈ (σ.run c es).trace, ∃ m, x.2 = .get m := by
  induction es with
  | nil => intro σ _ h; exact h
  | cons e es ih =>
    intro σ hσ h
    cases e with
    | world l => cases hes
    | thread i =>
      refine ih hes _ (stepThr_inv c σ i hσ)
        (stepThr_keeps (P := fun σ' => ∀ x ∈ σ'.trace, ∃ m, x.2 = .get m) c σ i hσ h (fun t σ' _ he => ?_))
      cases he with
      | stay => exact h
      | silent => exact h
      | lookup n => exact fun x hx => (List.mem_cons.mp hx).elim (fun e => ⟨n, e ▸ rfl⟩) (h x)

/-- a step of thread `j` that gets it somewhere: its program counter changes or its to-do list shrinks -/
def Sys.Moves (c : LtCfg → Source → Bool) (σ : Sys) (j : Nat) : Prop :=
  ∃ t t', σ.thr[j]? = some t ∧ (σ.stepThr c j).thr[j]? = some t' ∧ (t'.pc ≠ t.pc ∨ t'.todo.length < t.todo.length)

theorem moves_of_effect {σ σ' : Sys} {i : Nat} {t : Thr} (hti : σ.thr[i]? = some t) (he : Effect c σ i t σ')
    (hs : ¬ (t.pc = .idle ∧ (t.todo = [] ∨ σ.lock ≠ none))) :
    ∃ t', σ'.thr[i]? = some t' ∧ t'.Ahead t := by
  cases he with
  | stay h => exact absurd h hs
  | silent l t' _ _ hm => exact ⟨t', getElem?_set_self_of_some _ _ _ _ hti, hm⟩
  | lookup n t' _ _ hm => exact ⟨t', getElem?_set_self_of_some _ _ _ _ hti, hm⟩

theorem progress_of_inv (σ : Sys) (hi : σ.Inv)
    (hwork : ∃ (i : Nat) (t : Thr), σ.thr[i]? = some t ∧ t.todo ≠ []) : ∃ j, σ.Moves c j := by
  cases hl : σ.lock with
  | some i =>
    obtain ⟨t, hti, hne⟩ := hi.holder hl
    obtain ⟨t', h1, h2⟩ := moves_of_effect c hti (stepThr_effect c σ i t hi hti) (fun h => hne h.1)
    exact ⟨i, t, t', hti, h1, h2⟩
  | none =>
    -- the mutex is free: a thread with work is answered by the borrowed tier or takes the mutex
    obtain ⟨i, t, hti, hwork⟩ := hwork
    obtain ⟨t', h1, h2⟩ := moves_of_effect c hti (stepThr_effect c σ i t hi hti)
      (fun h => h.2.elim hwork (fun h' => h' hl))
    exact ⟨i, t, t', hti, h1, h2⟩

end MJ.MemoConc
