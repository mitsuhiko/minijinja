import MJ.Proofs.Output
/-!
# Structured renders refine to operation sequences (C19)

`exec p o` (big-step, errors wrapped on the way out, later output may depend on captured values)
and `run (flatten p)` (the flat operation sequence) agree on the `Output` and on the result
(`run_flatten`).  Both are built from the same sequencing (`andThen`), so the refinement is
checked once for sequencing (`Refines.andThen`) and then read off constructor by constructor.
The refinement carries the capture stack a successful evaluation leaves, which is what makes
`end_capture` pop the value `flatten` computed.  `exec` never panics because `flatten p` is well
bracketed (`balanced_flatten`) and well-bracketed runs never do (`run_no_panic`).
-/
namespace MJ.Output
open MJ

/-- what a completed program does to the capture stack: its output is appended to the innermost
    capture buffer, a discard swallows it, at top level the stack stays empty -/
def appendTop : List (Option Bytes) → Bytes → List (Option Bytes)
  | [], _ => []
  | some buf :: tl, s => some (buf ++ s) :: tl
  | none :: tl, _ => none :: tl

@[simp] theorem appendTop_nil (st : List (Option Bytes)) : appendTop st [] = st := by
  cases st with
  | nil => rfl
  | cons a tl => cases a <;> simp [appendTop]

theorem appendTop_append (st : List (Option Bytes)) (a b : Bytes) :
    appendTop (appendTop st a) b = appendTop st (a ++ b) := by
  cases st with
  | nil => rfl
  | cons x tl => cases x <;> simp [appendTop]

theorem appendTop_begin (d : Bool) (s : List (Option Bytes)) (x : Bytes) :
    appendTop ((if d then none else some []) :: s) x = (if d then none else some x) :: s := by
  cases d <;> rfl

def mapErr (f : Err → Err) : Chk (Except Err Unit) → Chk (Except Err Unit)
  | .ok (.error e) => .ok (.error (f e))
  | r => r

theorem wrapAll_cons (w : Wrap) (ws : List Wrap) (e : Err) :
    wrapAll (w :: ws) e = wrapAll ws (.wrapped w e) := rfl

theorem Out.write_stack {B : Type} [FmtWrite B] (o : Out B) (c : Chunk) :
    (o.write c).1.stack = appendTop o.stack c.bytes := by
  obtain ⟨w, stack⟩ := o
  cases stack with
  | nil => rfl
  | cons a tl => cases a <;> rfl

theorem exec_seq {B : Type} [FmtWrite B] (a b : Prog) (o : Out B) :
    exec (.seq a b) o = andThen (exec a o) (exec b) := by
  rw [exec]
  rcases exec a o with ⟨o', (e | u) | _⟩ <;> rfl

theorem exec_capture {B : Type} [FmtWrite B] (d : Bool) (body : Prog) (k : Option Bytes → Prog)
    (o : Out B) :
    exec (.capture d body k) o =
      andThen (exec body (o.beginCapture d)) fun o' =>
        match o'.endCapture with
        | .ok (o'', v) => exec (k v) o''
        | .panic => (o', .panic) := by
  rw [exec]
  rcases exec body (o.beginCapture d) with ⟨o', (e | u) | _⟩ <;> rfl

theorem exec_nested {B : Type} [FmtWrite B] (w : Wrap) (body : Prog) (o : Out B) :
    exec (.nested w body) o = ((exec body o).1, mapErr (.wrapped w) (exec body o).2) := by
  rw [exec]
  rcases exec body o with ⟨o', (e | u) | _⟩ <;> rfl

/-- an evaluation on an `Output` of its own: only its value and its result matter to the caller -/
theorem exec_own {B : Type} [FmtWrite B] (f : Fresh) (body : Prog) (k : Bytes → Prog) (o : Out B) :
    exec (.own f body k) o =
      ownThen (ownRun f body) (fun v => exec (k v) o) (fun res => (o, res)) := by
  cases f <;> rfl

/-- the flat run `r` refines the structured evaluation `e` under the nesting `ws`: same `Output`,
    the error wrapped once per nested evaluation being unwound, and after success the nesting is
    what it was and the capture stack is `s` -/
def Refines {B : Type} (ws : List Wrap) (s : List (Option Bytes)) (r : St B × Chk (Except Err Unit))
    (e : Out B × Chk (Except Err Unit)) : Prop :=
  r.1.out = e.1 ∧ r.2 = mapErr (wrapAll ws) e.2 ∧ (e.2 = .ok (.ok ()) → r.1.wraps = ws ∧ e.1.stack = s)

theorem Refines.andThen {B : Type} {ws : List Wrap} {s s' : List (Option Bytes)}
    {r : St B × Chk (Except Err Unit)}
    {e : Out B × Chk (Except Err Unit)} {k : St B → St B × Chk (Except Err Unit)}
    {k' : Out B → Out B × Chk (Except Err Unit)} (h : Refines ws s r e)
    (hk : e.2 = .ok (.ok ()) → e.1.stack = s → Refines ws s' (k ⟨e.1, ws⟩) (k' e.1)) :
    Refines ws s' (andThen r k) (andThen e k') := by
  obtain ⟨⟨out, wr⟩, rr⟩ := r
  obtain ⟨o', res⟩ := e
  obtain ⟨h1, h2, h3⟩ := h
  dsimp only at h1 h2 h3 hk
  subst h1 h2
  rcases res with (err | u) | _
  · exact ⟨rfl, rfl, nofun⟩
  · cases (h3 rfl).1
    exact hk rfl (h3 rfl).2
  · exact ⟨rfl, rfl, nofun⟩

/-- **Refinement**: the flat run of `flatten p` and the structured evaluation of `p` agree; when
    they succeed, what `p` wrote to the target that was current at its start has been appended to
    the innermost capture (so the capture that `capture` opens is still on the stack when its body
    is done, and the value `end_capture` pops is the one `flatten` put into the continuation). -/
theorem run_flatten {B : Type} [FmtWrite B] (p : Prog) (o : Out B) (ws : List Wrap) :
    Refines ws (appendTop o.stack (written p)) (run (flatten p) ⟨o, ws⟩) (exec p o) := by
  induction p generalizing o ws with
  | skip => exact ⟨rfl, rfl, fun _ => ⟨rfl, (appendTop_nil _).symm⟩⟩
  | emit c =>
    show Refines ws _ (run [.write c] ⟨o, ws⟩) _
    rw [run_cons, step, exec]
    cases (o.write c).2 with
    | true => exact ⟨rfl, rfl, fun _ => ⟨rfl, Out.write_stack o c⟩⟩
    | false => exact ⟨rfl, rfl, nofun⟩
  | fail e => exact ⟨rfl, rfl, nofun⟩
  | seq a b iha ihb =>
    rw [flatten, run_append, exec_seq]
    refine (iha o ws).andThen fun _ hs => ?_
    rw [written, ← appendTop_append, ← hs]
    exact ihb _ ws
  | capture d body k ihb ihk =>
    rw [flatten, run_cons_go (rfl : step (.beginCapture d) ⟨o, ws⟩ = (⟨o.beginCapture d, ws⟩, none)),
      run_append, exec_capture]
    refine (ihb _ ws).andThen fun _ hs => ?_
    replace hs := hs.trans (appendTop_begin d o.stack (written body))
    generalize (exec body (o.beginCapture d)).1 = o' at hs
    obtain ⟨w', s'⟩ := o'
    cases hs
    rw [run_cons_go (step_endCapture_cons ..)]
    exact ihk _ _ ws
  | nested w body ih =>
    rw [flatten, run_cons_go (step_enter ..), run_append, exec_nested]
    obtain ⟨h1, h2, h3⟩ := ih o (w :: ws)
    generalize run (flatten body) ⟨o, w :: ws⟩ = r at h1 h2 h3
    generalize exec body o = e at h1 h2 h3
    obtain ⟨⟨out, wr⟩, rr⟩ := r
    obtain ⟨o', (err | u) | _⟩ := e
    · cases h1; cases h2; exact ⟨rfl, rfl, nofun⟩
    · cases h1; cases h2; cases (h3 rfl).1; exact ⟨rfl, rfl, fun _ => ⟨rfl, (h3 rfl).2⟩⟩
    · cases h1; cases h2; exact ⟨rfl, rfl, nofun⟩
  | own f body k _ ihk =>
    rw [flatten, exec_own]
    show Refines ws (appendTop o.stack (written (k (ownRun f body).1))) _ _
    generalize ownRun f body = r
    obtain ⟨v, (e | u) | _⟩ := r
    · exact ⟨rfl, rfl, nofun⟩
    · exact ihk v o ws
    · exact ⟨rfl, rfl, nofun⟩

theorem no_panic_of_balanced {p : Prog} (h : ∀ d, balanced d (flatten p) = true)
    {B : Type} [FmtWrite B] (o : Out B) : (exec p o).2 ≠ .panic := by
  intro hp
  have hr := (run_flatten p o []).2.1
  rw [hp] at hr
  exact run_no_panic (flatten p) o.w o.stack [] (h _) hr

theorem ownRun_no_panic_of {body : Prog}
    (h : ∀ {B : Type} [FmtWrite B] (o : Out B), (exec body o).2 ≠ .panic) (f : Fresh) :
    (ownRun f body).2 ≠ .panic := by
  cases f with
  | string => exact h (⟨([] : Bytes), []⟩ : Out Bytes)
  | null => exact h (⟨(), [none]⟩ : Out Unit)
  | sink script => exact finish_ne_panic _ _ (h _)

theorem balanced_flatten (p : Prog) (d : Nat) (rest : List Op) :
    balanced d (flatten p ++ rest) = balanced d rest := by
  induction p generalizing d rest with
  | skip => rfl
  | emit c => rfl
  | fail id => rfl
  | seq a b iha ihb => rw [flatten, List.append_assoc, iha, ihb]
  | capture dd body k ihb ihk =>
    show balanced (d + 1) ((flatten body ++ .endCapture :: flatten (k _)) ++ rest) = _
    rw [List.append_assoc, ihb]
    exact ihk _ d rest
  | nested w body ih =>
    show balanced d ((flatten body ++ [.leave]) ++ rest) = _
    rw [List.append_assoc, ih]
    rfl
  | own f body k ihb ihk =>
    have hown := ownRun_no_panic_of
      (fun o => no_panic_of_balanced (fun d => by rw [← List.append_nil (flatten body), ihb]; rfl) o) f
    rw [flatten]
    generalize ownRun f body = r at hown
    obtain ⟨v, (e | u) | _⟩ := r
    · rfl
    · exact ihk v d rest
    · exact absurd rfl hown

/-- the structured evaluation never hits the `end_capture` panic: its flattening is well bracketed -/
theorem exec_no_panic (p : Prog) {B : Type} [FmtWrite B] (o : Out B) : (exec p o).2 ≠ .panic :=
  no_panic_of_balanced (fun d => by rw [← List.append_nil (flatten p), balanced_flatten]; rfl) o

theorem ownRun_no_panic (f : Fresh) (body : Prog) : (ownRun f body).2 ≠ .panic :=
  ownRun_no_panic_of (fun o => exec_no_panic body o) f

theorem mapErr_wrapAll_nil (r : Chk (Except Err Unit)) : mapErr (wrapAll []) r = r := by
  rcases r with (e | u) | _ <;> rfl

theorem renderProg_eq (p : Prog) (script : List Beh) :
    renderProgTo p script = renderTo (flatten p) script ∧
    renderProgString p = renderString (flatten p) := by
  constructor
  · obtain ⟨h1, h2, _⟩ := run_flatten p (⟨(⟨script, [], none⟩ : WriteWrapper), []⟩ : Out WriteWrapper) []
    rw [mapErr_wrapAll_nil] at h2
    rw [renderProgTo, renderTo, St.init, h1, h2]
  · obtain ⟨h1, h2, _⟩ := run_flatten p (⟨([] : Bytes), []⟩ : Out Bytes) []
    rw [mapErr_wrapAll_nil] at h2
    rw [renderProgString, renderString, St.init, h1, h2]

end MJ.Output
