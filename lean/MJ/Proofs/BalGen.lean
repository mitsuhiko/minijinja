import MJ.Model.BalGen
import MJ.Proofs.Bal
/-!
# The model generator emits accepted certificates (helper lemmas for C05)

`Typed P fin b F`: every instruction of the fragment `F`, sitting at offset `b` of the whole stream
`P` (with end state `fin`), passes the checker's per-pc test against the certificate `certOf P fin`.
`Piece P fin b σ F τ`: `F` takes the certified state from `σ` to `τ`; pieces compose (`append`, `cons`),
and each control construct of the generator is a rule (`ifThen`, `ifElse`, `loop`, `macro`, `leave`).
`comp_piece`: the code of every statement is a piece from its entry state to the same state;
`checkCert` of the whole stream follows.
-/
namespace MJ.BalGen
open MJ.Bal

def stateAt (P : ACode) (fin : AbsState) (pc : Nat) : Option AbsState := look (certOf P fin) pc

theorem code_get (P : ACode) (pc : Nat) : (codeOf P)[pc]? = (P[pc]?).map (·.1) := by
  simp [codeOf]

theorem stateAt_of_get {P : ACode} {fin : AbsState} {pc : Nat} {i : Instr} {A : AbsState}
    (h : P[pc]? = some (i, A)) : stateAt P fin pc = some A := by
  obtain ⟨hlt, hget⟩ := List.getElem?_eq_some_iff.mp h
  simp [stateAt, look, certOf, List.getElem?_append_left, hlt, hget]

theorem stateAt_end (P : ACode) (fin : AbsState) : stateAt P fin P.length = some fin := by
  simp [stateAt, look, certOf]

theorem code_of_get {P : ACode} {pc : Nat} {i : Instr} {A : AbsState}
    (h : P[pc]? = some (i, A)) : (codeOf P)[pc]? = some i := by
  simp [code_get, h]

/-- the fragment `F` sits at offset `b` of `P` -/
def Embeds (P : ACode) (b : Nat) (F : ACode) : Prop := ∀ k x, F[k]? = some x → P[b + k]? = some x

theorem embeds_nil (P : ACode) (b : Nat) : Embeds P b [] := by
  intro k x h; simp at h

theorem embeds_append {P : ACode} {b : Nat} {F G : ACode} (h : Embeds P b (F ++ G)) :
    Embeds P b F ∧ Embeds P (b + F.length) G := by
  constructor
  · intro k x hk
    apply h
    rw [List.getElem?_append_left (List.getElem?_eq_some_iff.mp hk).1]; exact hk
  · intro k x hk
    have := h (F.length + k) x (by rw [List.getElem?_append_right (by omega)]; simpa using hk)
    rw [← Nat.add_assoc] at this; exact this

theorem embeds_cons {P : ACode} {b : Nat} {x : Instr × AbsState} {F : ACode} (h : Embeds P b (x :: F)) :
    P[b]? = some x ∧ Embeds P (b + 1) F := by
  constructor
  · simpa using h 0 x (by simp)
  · intro k y hk
    have := h (k + 1) y (by simpa using hk)
    rw [Nat.add_comm k 1, ← Nat.add_assoc] at this; exact this

theorem embeds_self (P : ACode) : Embeds P 0 P := by
  intro k x h; simpa using h

def WS (P : ACode) (fin : AbsState) (A : AbsState) : Prop :=
  wsFrames (codeOf P) (certOf P fin) A.frames A.caps A.escs = true

/-- the checker's per-pc test for one annotated instruction and, for a `BuildMacro`, its test of the region entry
the instruction names -/
def InstrOk (P : ACode) (fin : AbsState) (pc : Nat) (i : Instr) (A : AbsState) : Prop :=
  WS P fin A ∧
  (∃ es, edges (certOf P fin) pc i A = some es ∧ ∀ x ∈ es, stateAt P fin x.1 = some x.2) ∧
  (∀ o, i = .buildMacro o → stateAt P fin o = some AbsState.init)

def Typed (P : ACode) (fin : AbsState) (b : Nat) (F : ACode) : Prop :=
  ∀ k i A, F[k]? = some (i, A) → InstrOk P fin (b + k) i A

theorem typed_nil (P : ACode) (fin : AbsState) (b : Nat) : Typed P fin b [] := by
  intro k i A h; simp at h

theorem typed_append {P : ACode} {fin : AbsState} {b : Nat} {F G : ACode}
    (hF : Typed P fin b F) (hG : Typed P fin (b + F.length) G) : Typed P fin b (F ++ G) := by
  intro k i A h
  rcases Nat.lt_or_ge k F.length with hk | hk
  · rw [List.getElem?_append_left hk] at h; exact hF k i A h
  · rw [List.getElem?_append_right hk] at h
    have := hG (k - F.length) i A h
    rwa [Nat.add_assoc, Nat.add_sub_cancel' hk] at this

theorem typed_cons {P : ACode} {fin : AbsState} {b : Nat} {i : Instr} {A : AbsState} {F : ACode}
    (hx : InstrOk P fin b i A) (hF : Typed P fin (b + 1) F) : Typed P fin b ((i, A) :: F) := by
  intro k j B h
  cases k with
  | zero => simp at h; obtain ⟨rfl, rfl⟩ := h; simpa using hx
  | succ k =>
    simp at h
    have := hF k j B h
    rwa [Nat.add_assoc, Nat.add_comm 1 k] at this

/-! ### `wsFrames` only improves when more is pushed -/

theorem ws_mono {code : Code} {cert : Cert} {G : List FrameKind} {c e c' e' : Nat}
    (h : wsFrames code cert G c e = true) (hc : c ≤ c') (he : e ≤ e') :
    wsFrames code cert G c' e' = true := by
  induction G with
  | nil => simp [wsFrames]
  | cons g G ih =>
    cases g with
    | withF => simp only [wsFrames] at h ⊢; exact ih h
    | loopF t v r =>
      cases r with
      | false => simp only [wsFrames] at h ⊢; exact ih h
      | true =>
        simp only [wsFrames, Bool.and_eq_true] at h ⊢
        refine ⟨⟨?_, h.1.2⟩, ih h.2⟩
        cases hl : look cert t with
        | none => rw [hl] at h; simp at h
        | some B =>
          rw [hl] at h
          simp only [Bool.and_eq_true, decide_eq_true_eq] at h ⊢
          exact ⟨⟨h.1.1.1.1, by omega⟩, by omega⟩

theorem WS_pushW {P fin A} (h : WS P fin A) : WS P fin (pushW A) := by
  simpa [WS, pushW, wsFrames] using h

theorem WS_pushC {P fin A} (h : WS P fin A) : WS P fin (pushC A) := by
  unfold WS pushC; exact ws_mono h (by simp) (Nat.le_refl _)

theorem WS_pushE {P fin A} (h : WS P fin A) : WS P fin (pushE A) := by
  unfold WS pushE; exact ws_mono h (Nat.le_refl _) (by simp)

theorem WS_init (P fin) : WS P fin AbsState.init := by
  simp [WS, AbsState.init, wsFrames]

theorem WS_pushL {P fin A} {t : Nat} {v r : Bool} (h : WS P fin A)
    (hs : stateAt P fin t = some A) (hc : (codeOf P)[t]? = some (.pushLoop v r)) :
    WS P fin (pushL t v r A) := by
  cases r with
  | false => simpa [WS, pushL, wsFrames] using h
  | true =>
    simp only [WS, pushL, wsFrames, Bool.and_eq_true, decide_eq_true_eq]
    refine ⟨⟨?_, hc⟩, h⟩
    simp only [stateAt] at hs
    rw [hs]
    simp

section instr
variable {P : ACode} {fin : AbsState} {pc : Nat} {A : AbsState}

theorem edge_one {q : Nat} {B : AbsState} (h : stateAt P fin q = some B) :
    ∀ x ∈ [(q, B)], stateAt P fin x.1 = some x.2 :=
  List.forall_mem_singleton.mpr h

theorem edge_two {q r : Nat} {B C : AbsState} (hq : stateAt P fin q = some B) (hr : stateAt P fin r = some C) :
    ∀ x ∈ [(q, B), (r, C)], stateAt P fin x.1 = some x.2 :=
  List.forall_mem_cons.mpr ⟨hq, edge_one hr⟩

theorem ok_other (hw : WS P fin A) (hn : stateAt P fin (pc + 1) = some A) :
    InstrOk P fin pc .other A :=
  ⟨hw, ⟨[(pc + 1, A)], rfl, edge_one hn⟩, nofun⟩

theorem ok_callFunction (hw : WS P fin A) (hn : stateAt P fin (pc + 1) = some A) :
    InstrOk P fin pc .callFunction A :=
  ⟨hw, ⟨[(pc + 1, A)], rfl, edge_one hn⟩, nofun⟩

theorem ok_fastRecurse (hw : WS P fin A) (hn : stateAt P fin (pc + 1) = some A) :
    InstrOk P fin pc .fastRecurse A := by
  refine ⟨hw, ?_, nofun⟩
  simp only [edges]
  split
  · exact ⟨_, rfl, edge_one hn⟩
  · exact ⟨_, rfl, nofun⟩

theorem ok_buildMacro {o : Nat} (hw : WS P fin A) (hn : stateAt P fin (pc + 1) = some A)
    (ho : stateAt P fin o = some AbsState.init) : InstrOk P fin pc (.buildMacro o) A :=
  ⟨hw, ⟨[(pc + 1, A)], rfl, edge_one hn⟩,
   by intro o' h; cases h; exact ho⟩

theorem ok_pushWith (hw : WS P fin A) (hn : stateAt P fin (pc + 1) = some (pushW A)) :
    InstrOk P fin pc .pushWith A :=
  ⟨hw, ⟨[(pc + 1, pushW A)], rfl, edge_one hn⟩, nofun⟩

theorem ok_popFrame (hw : WS P fin (pushW A)) (hn : stateAt P fin (pc + 1) = some A) :
    InstrOk P fin pc .popFrame (pushW A) :=
  ⟨hw, ⟨[(pc + 1, A)], rfl, edge_one hn⟩, nofun⟩

theorem ok_pushLoop {v r : Bool} (hw : WS P fin A) (hn : stateAt P fin (pc + 1) = some (pushL pc v r A)) :
    InstrOk P fin pc (.pushLoop v r) A :=
  ⟨hw, ⟨[(pc + 1, pushL pc v r A)], rfl, edge_one hn⟩, nofun⟩

theorem ok_iterate {t tgt : Nat} {v r : Bool} (hw : WS P fin (pushL t v r A))
    (hn : stateAt P fin (pc + 1) = some (pushL t v r A)) (ht : stateAt P fin tgt = some (pushL t v r A)) :
    InstrOk P fin pc (.iterate tgt) (pushL t v r A) :=
  ⟨hw, ⟨[(pc + 1, pushL t v r A), (tgt, pushL t v r A)], rfl, edge_two hn ht⟩, nofun⟩

theorem ok_pushDidNotIterate {t : Nat} {v r : Bool} (hw : WS P fin (pushL t v r A))
    (hn : stateAt P fin (pc + 1) = some (pushL t v r A)) :
    InstrOk P fin pc .pushDidNotIterate (pushL t v r A) :=
  ⟨hw, ⟨[(pc + 1, pushL t v r A)], rfl, edge_one hn⟩, nofun⟩

theorem ok_popLoopFrame {t : Nat} {v r : Bool} (hw : WS P fin (pushL t v r A))
    (hn : stateAt P fin (pc + 1) = some A) (ht : stateAt P fin t = some A) :
    InstrOk P fin pc .popLoopFrame (pushL t v r A) := by
  refine ⟨hw, ?_, nofun⟩
  have hl : look (certOf P fin) t = some { frames := A.frames, caps := A.caps, escs := A.escs } := ht
  simp only [edges, pushL, hl, ne_eq, not_true_eq_false, and_false, if_false]
  exact ⟨_, rfl, edge_one hn⟩

theorem ok_beginCapture (hw : WS P fin A) (hn : stateAt P fin (pc + 1) = some (pushC A)) :
    InstrOk P fin pc .beginCapture A :=
  ⟨hw, ⟨[(pc + 1, pushC A)], rfl, edge_one hn⟩, nofun⟩

theorem ok_endCapture (hw : WS P fin (pushC A)) (hn : stateAt P fin (pc + 1) = some A) :
    InstrOk P fin pc .endCapture (pushC A) := by
  refine ⟨hw, ?_, nofun⟩
  simp only [edges, pushC, Nat.add_eq_zero_iff, Nat.succ_ne_self, and_false, if_false, Nat.add_sub_cancel]
  exact ⟨_, rfl, edge_one hn⟩

theorem ok_pushAutoEscape (hw : WS P fin A) (hn : stateAt P fin (pc + 1) = some (pushE A)) :
    InstrOk P fin pc .pushAutoEscape A :=
  ⟨hw, ⟨[(pc + 1, pushE A)], rfl, edge_one hn⟩, nofun⟩

theorem ok_popAutoEscape (hw : WS P fin (pushE A)) (hn : stateAt P fin (pc + 1) = some A) :
    InstrOk P fin pc .popAutoEscape (pushE A) := by
  refine ⟨hw, ?_, nofun⟩
  simp only [edges, pushE, Nat.add_eq_zero_iff, Nat.succ_ne_self, and_false, if_false, Nat.add_sub_cancel]
  exact ⟨_, rfl, edge_one hn⟩

theorem ok_jump {t : Nat} (hw : WS P fin A) (ht : stateAt P fin t = some A) :
    InstrOk P fin pc (.jump t) A :=
  ⟨hw, ⟨[(t, A)], rfl, edge_one ht⟩, nofun⟩

theorem ok_jumpIfFalse {t : Nat} (hw : WS P fin A) (hn : stateAt P fin (pc + 1) = some A)
    (ht : stateAt P fin t = some A) : InstrOk P fin pc (.jumpIfFalse t) A :=
  ⟨hw, ⟨[(pc + 1, A), (t, A)], rfl, edge_two hn ht⟩, nofun⟩

theorem ok_jumpIfFalseOrPop {t : Nat} (hw : WS P fin A) (hn : stateAt P fin (pc + 1) = some A)
    (ht : stateAt P fin t = some A) : InstrOk P fin pc (.jumpIfFalseOrPop t) A :=
  ⟨hw, ⟨[(pc + 1, A), (t, A)], rfl, edge_two hn ht⟩, nofun⟩

theorem ok_jumpIfTrueOrPop {t : Nat} (hw : WS P fin A) (hn : stateAt P fin (pc + 1) = some A)
    (ht : stateAt P fin t = some A) : InstrOk P fin pc (.jumpIfTrueOrPop t) A :=
  ⟨hw, ⟨[(pc + 1, A), (t, A)], rfl, edge_two hn ht⟩, nofun⟩

theorem ok_ret (P : ACode) (fin : AbsState) (pc : Nat) : InstrOk P fin pc .ret AbsState.init :=
  ⟨WS_init P fin, ⟨[], by simp [edges], nofun⟩, nofun⟩

end instr

theorem others_length (n : Nat) (σ : AbsState) : (others n σ).length = n := by simp [others]

theorem cleanup_length (sc : List Scope) (σ : AbsState) : (cleanup sc σ).1.length = cleanupLen sc := by
  induction sc generalizing σ with
  | nil => rfl
  | cons s rest ih =>
    cases s <;> simp [cleanup, cleanupLen, ih] <;> omega

theorem comp_length (s : Stmt) : ∀ (Γ : Ctx) (b : Nat) (σ : AbsState),
    (comp Γ b σ s).length = size Γ.scopes Γ.loop.isSome s := by
  induction s with
  | continueS =>
    intro Γ b σ
    cases hl : Γ.loop with
    | none => simp [comp, size, cleanup_length, hl]
    | some p => obtain ⟨it, en⟩ := p; simp [comp, size, cleanup_length, hl]
  | _ =>
    intro Γ b σ
    simp only [comp, size, List.length_append, List.length_cons, List.length_nil, List.length_map,
      others_length, cleanup_length, Option.isSome_some, *]
    try omega

theorem embeds_others {P : ACode} {b n : Nat} {A : AbsState} {G : ACode} (h : Embeds P b (others n A ++ G)) :
    Embeds P b (others n A) ∧ Embeds P (b + n) G := by
  have := embeds_append h
  rwa [others_length] at this

section piece
variable {P : ACode} {fin : AbsState}

/-- The fragment `F`, sitting at `b`, takes the certified state from `σ` to `τ`: once the pc behind it
is known to carry `τ`, its own first pc carries `σ` and each of its instructions passes the checker.
State knowledge flows backwards through a composition (`append`, `cons`), so only the targets of jumps
have to be named. -/
def Piece (P : ACode) (fin : AbsState) (b : Nat) (σ : AbsState) (F : ACode) (τ : AbsState) : Prop :=
  Embeds P b F → stateAt P fin (b + F.length) = some τ → Typed P fin b F ∧ stateAt P fin b = some σ

theorem Piece.nil {b : Nat} {σ : AbsState} : Piece P fin b σ [] σ :=
  fun _ hn => ⟨typed_nil _ _ _, hn⟩

theorem Piece.append {b n : Nat} {σ τ υ : AbsState} {F G : ACode} (hl : F.length = n)
    (hF : Piece P fin b σ F τ) (hG : Piece P fin (b + n) τ G υ) : Piece P fin b σ (F ++ G) υ := by
  subst hl
  intro hE hn
  obtain ⟨hEF, hEG⟩ := embeds_append hE
  rw [List.length_append, ← Nat.add_assoc] at hn
  obtain ⟨tG, sG⟩ := hG hEG hn
  obtain ⟨tF, sF⟩ := hF hEF sG
  exact ⟨typed_append tF tG, sF⟩

/-- one instruction: it may use the state behind it (`τ`); a jump does not, and `τ` is then free -/
theorem Piece.cons {b : Nat} {i : Instr} {σ τ υ : AbsState} {F : ACode}
    (hx : stateAt P fin (b + 1) = some τ → InstrOk P fin b i σ) (hF : Piece P fin (b + 1) τ F υ) :
    Piece P fin b σ ((i, σ) :: F) υ := by
  intro hE hn
  obtain ⟨h0, hEF⟩ := embeds_cons hE
  rw [List.length_cons, Nat.add_comm F.length 1, ← Nat.add_assoc] at hn
  obtain ⟨tF, sF⟩ := hF hEF hn
  exact ⟨typed_cons (hx sF) tF, stateAt_of_get h0⟩

/-- an expression: every instruction and every jump target inside it carries the same state -/
theorem Piece.flat {b : Nat} {σ : AbsState} (l : List Instr) (hl : l.all (flatInstr l.length) = true)
    (hw : WS P fin σ) : Piece P fin b σ (l.map (fun i => (shift b i, σ))) σ := by
  intro hE hn
  rw [List.length_map] at hn
  have hst : ∀ j, j ≤ l.length → stateAt P fin (b + j) = some σ := by
    intro j hj
    rcases Nat.lt_or_ge j l.length with h1 | h1
    · exact stateAt_of_get (hE j (shift b l[j], σ) (by rw [List.getElem?_map, List.getElem?_eq_getElem h1]; rfl))
    · rw [Nat.le_antisymm hj h1]; exact hn
  refine ⟨fun k i A' h => ?_, hst 0 (Nat.zero_le _)⟩
  have hk : k < l.length := by simpa using (List.getElem?_eq_some_iff.mp h).1
  rw [List.getElem?_map, List.getElem?_eq_getElem hk] at h
  obtain ⟨rfl, rfl⟩ := Prod.mk.inj (Option.some.inj h)
  have hs : flatInstr l.length l[k] = true := List.all_eq_true.mp hl _ (List.getElem_mem hk)
  have hnext : stateAt P fin (b + k + 1) = some σ := hst (k + 1) hk
  cases hi : l[k] <;> rw [hi] at hs <;> simp [flatInstr] at hs <;> simp only [shift]
  · exact ok_other hw hnext
  · exact ok_jump hw (hst _ hs)
  · exact ok_jumpIfFalse hw hnext (hst _ hs)
  · exact ok_jumpIfFalseOrPop hw hnext (hst _ hs)
  · exact ok_jumpIfTrueOrPop hw hnext (hst _ hs)
  · exact ok_fastRecurse hw hnext
  · exact ok_callFunction hw hnext

theorem simple_flat {i : Instr} (h : simpleInstr i = true) (n b : Nat) :
    flatInstr n i = true ∧ shift b i = i := by
  cases i <;> first | exact ⟨rfl, rfl⟩ | cases h

theorem Piece.simple {b : Nat} {σ : AbsState} (l : List Instr) (hl : l.all simpleInstr = true)
    (hw : WS P fin σ) : Piece P fin b σ (l.map (fun i => (i, σ))) σ := by
  rw [List.all_eq_true] at hl
  rw [show l.map (fun i => (i, σ)) = l.map (fun i => (shift b i, σ)) from
    List.map_congr_left fun i hi => by rw [(simple_flat (hl i hi) 0 b).2]]
  exact .flat l (List.all_eq_true.mpr fun i hi => (simple_flat (hl i hi) _ b).1) hw

theorem Piece.pad {b n : Nat} {σ : AbsState} (hw : WS P fin σ) : Piece P fin b σ (others n σ) σ := by
  rw [show others n σ = (List.replicate n Instr.other).map (fun i => (i, σ)) by simp [others]]
  exact .simple _ (by simp [simpleInstr]) hw

theorem WS_applyScopes (sc : List Scope) {A : AbsState} (h : WS P fin A) :
    WS P fin (applyScopes sc A) := by
  induction sc with
  | nil => exact h
  | cons s rest ih =>
    cases s
    · exact WS_pushW ih
    · exact WS_pushC ih
    · exact WS_pushE ih

theorem popScope_applyScopes (s : Scope) (rest : List Scope) (σ : AbsState) :
    popScope s (applyScopes (s :: rest) σ) = applyScopes rest σ := by
  cases s <;> rfl

theorem cleanup_snd (sc : List Scope) (σL : AbsState) : (cleanup sc (applyScopes sc σL)).2 = σL := by
  induction sc with
  | nil => rfl
  | cons s rest ih => cases s <;> simp only [cleanup, popScope_applyScopes] <;> exact ih

/-- `leave_scopes_of_innermost_loop` -/
theorem Piece.cleanup (sc : List Scope) {b : Nat} {σL : AbsState} (hw : WS P fin σL) :
    Piece P fin b (applyScopes sc σL) (cleanup sc (applyScopes sc σL)).1 σL := by
  induction sc generalizing b with
  | nil => exact .nil
  | cons s rest ih =>
    have hr := WS_applyScopes (P := P) (fin := fin) rest hw
    cases s <;> simp only [BalGen.cleanup, popScope_applyScopes]
    · exact .cons (ok_popFrame (A := applyScopes rest σL) (WS_pushW hr)) ih
    · exact .cons (ok_endCapture (A := applyScopes rest σL) (WS_pushC hr))
        (.cons (ok_other hr) ih)
    · exact .cons (ok_popAutoEscape (A := applyScopes rest σL) (WS_pushE hr)) ih

/-- `break` / `continue`: the clean-up of the scopes open since the loop, then a jump to a pc that is
certified with the loop's state -/
theorem Piece.leave (sc : List Scope) {b tgt : Nat} {σL τ : AbsState} (hw : WS P fin σL)
    (ht : stateAt P fin tgt = some σL) :
    Piece P fin b (applyScopes sc σL)
      ((BalGen.cleanup sc (applyScopes sc σL)).1 ++ [(.jump tgt, (BalGen.cleanup sc (applyScopes sc σL)).2)]) τ := by
  refine .append (cleanup_length _ _) (.cleanup sc hw) ?_
  rw [cleanup_snd]
  exact .cons (fun _ => ok_jump hw ht) .nil

/-- `start_if … end_if`: a conditional jump over `T` -/
theorem Piece.ifThen {b m : Nat} {σ : AbsState} {T : ACode} (hw : WS P fin σ) (hl : T.length = m)
    (hT : Piece P fin (b + 1) σ T σ) : Piece P fin b σ ((.jumpIfFalse (b + 1 + m), σ) :: T) σ := by
  subst hl
  intro hE hn
  have hn' := hn
  rw [List.length_cons, Nat.add_comm T.length 1, ← Nat.add_assoc] at hn'
  exact Piece.cons (fun h => ok_jumpIfFalse hw h hn') hT hE hn

/-- `start_if … start_else … end_if` -/
theorem Piece.ifElse {b m k : Nat} {σ : AbsState} {T E : ACode} (hw : WS P fin σ) (hlT : T.length = m)
    (hlE : E.length = k) (hT : Piece P fin (b + 1) σ T σ) (hE : Piece P fin (b + 1 + m + 1) σ E σ) :
    Piece P fin b σ ((.jumpIfFalse (b + 1 + m + 1), σ) :: (T ++ (.jump (b + 1 + m + 1 + k), σ) :: E)) σ := by
  subst hlT hlE
  intro hEm hn
  have hn' : stateAt P fin (b + 1 + T.length + 1 + E.length) = some σ := by
    rw [← hn]; congr 1; simp only [List.length_cons, List.length_append]; omega
  -- the code in front of the else body ends where the else body begins: that is the target of the first jump
  have hA : Piece P fin b σ ((.jumpIfFalse (b + 1 + T.length + 1), σ) :: (T ++ [(.jump (b + 1 + T.length + 1 + E.length), σ)])) σ := by
    intro hE' hElse
    have hElse' : stateAt P fin (b + 1 + T.length + 1) = some σ := by
      rw [← hElse]; congr 1; simp only [List.length_cons, List.length_append, List.length_nil]; omega
    exact Piece.cons (fun h => ok_jumpIfFalse hw h hElse')
      (Piece.append rfl hT (Piece.cons (fun _ => ok_jump hw hn') .nil)) hE' hElse
  have hl : ((Instr.jumpIfFalse (b + 1 + T.length + 1), σ) ::
      (T ++ [(Instr.jump (b + 1 + T.length + 1 + E.length), σ)])).length = 1 + T.length + 1 := by
    simp only [List.length_cons, List.length_append, List.length_nil]; omega
  have := Piece.append hl hA (by rw [← Nat.add_assoc, ← Nat.add_assoc]; exact hE)
  simp only [List.cons_append, List.append_assoc, List.nil_append] at this
  exact this hEm hn

/-- `start_for_loop … end_for_loop`: `PushLoop`, `Iterate`, the assignment, the body, the jump back and
the exit code `X` (`PopLoopFrame`; for a loop with an else block `PushDidNotIterate` in front of it and the else
block under its `JumpIfFalse` behind it).  The
body is typed knowing that the pcs of `Iterate` and of the loop end carry the loop state: what `break`
and `continue` need. -/
theorem Piece.loop {b nt m : Nat} {σ υ : AbsState} {v r : Bool} {B X : ACode} (hw : WS P fin σ)
    (hlB : B.length = m)
    (hB : stateAt P fin (b + 1) = some (pushL b v r σ) → stateAt P fin (b + 2 + nt + m + 1) = some (pushL b v r σ) →
      WS P fin (pushL b v r σ) → Piece P fin (b + 2 + nt) (pushL b v r σ) B (pushL b v r σ))
    (hX : stateAt P fin b = some σ → WS P fin (pushL b v r σ) →
      Piece P fin (b + 2 + nt + m + 1) (pushL b v r σ) X υ) :
    Piece P fin b σ ((.pushLoop v r, σ) :: (.iterate (b + 2 + nt + m + 1), pushL b v r σ) ::
      (BalGen.others nt (pushL b v r σ) ++ (B ++ (.jump (b + 1), pushL b v r σ) :: X))) υ := by
  subst hlB
  intro hE hn
  obtain ⟨hpl, hE1⟩ := embeds_cons hE
  obtain ⟨hit, hE2⟩ := embeds_cons hE1
  obtain ⟨_, hE3⟩ := embeds_others hE2
  obtain ⟨_, hE4⟩ := embeds_append hE3
  obtain ⟨_, hEX⟩ := embeds_cons hE4
  have sPl := stateAt_of_get (fin := fin) hpl
  have sIt := stateAt_of_get (fin := fin) hit
  have wL : WS P fin (pushL b v r σ) := WS_pushL hw sPl (code_of_get hpl)
  have eX : b + 1 + 1 + nt + B.length + 1 = b + 2 + nt + B.length + 1 := by omega
  rw [eX] at hEX
  have sEnd := ((hX sPl wL) hEX (by
    rw [← hn]; congr 1
    simp only [List.length_cons, List.length_append, others_length]; omega)).2
  refine Piece.cons (ok_pushLoop hw) (Piece.cons (fun h => ok_iterate wL h sEnd)
    (Piece.append (others_length _ _) (.pad wL) (Piece.append rfl ?_
      (Piece.cons (τ := pushL b v r σ) (fun _ => ok_jump wL sIt) ?_)))) hE hn
  · rw [show b + 1 + 1 + nt = b + 2 + nt by omega]; exact hB sIt sEnd wL
  · rw [show b + 1 + 1 + nt + B.length + 1 = b + 2 + nt + B.length + 1 by omega]; exact hX sPl wL

/-- `compile_macro_expression`: a jump over arguments, body and `Return` to the code `R` that builds the
macro; the body is a region of its own (entry state `init`), which `BuildMacro` refers back to -/
theorem Piece.macro {b na m ne : Nat} {i : Instr} {σ υ : AbsState} {B R : ACode} (hw : WS P fin σ)
    (hlB : B.length = m) (hB : Piece P fin (b + 1 + na) AbsState.init B AbsState.init)
    (hR : stateAt P fin (b + 1) = some AbsState.init → Piece P fin (b + 1 + na + m + 1 + ne) σ ((i, σ) :: R) υ) :
    Piece P fin b σ ((.jump (b + 1 + na + m + 1), σ) :: (BalGen.others na AbsState.init ++ (B ++
      (.ret, AbsState.init) :: (BalGen.others ne σ ++ (i, σ) :: R)))) υ := by
  subst hlB
  intro hE hn
  obtain ⟨_, hE1⟩ := embeds_cons hE
  obtain ⟨hEa, hE2⟩ := embeds_others hE1
  obtain ⟨hEb, hE3⟩ := embeds_append hE2
  obtain ⟨hret, hE4⟩ := embeds_cons hE3
  obtain ⟨hEe, hE5⟩ := embeds_others hE4
  have nbody := (hB hEb (stateAt_of_get hret)).2
  have nentry := (Piece.pad (WS_init P fin) hEa (by rw [others_length]; exact nbody)).2
  have nT := (Piece.pad hw hEe (by rw [others_length]; exact stateAt_of_get (embeds_cons hE5).1)).2
  exact Piece.cons (fun _ => ok_jump hw nT) (.append (others_length ..) (.pad (WS_init ..))
    (.append rfl hB (.cons (fun _ => ok_ret P fin _) (.append (others_length ..) (.pad hw) (hR nentry))))) hE hn

end piece

/-- what `break` / `continue` rely on: the current state is the state at the loop's `Iterate` with
the open scopes applied, and the pcs they jump to are certified with that loop state -/
def LoopIface (P : ACode) (fin : AbsState) (Γ : Ctx) (σ : AbsState) : Prop :=
  ∃ it en σL, Γ.loop = some (it, en) ∧ σ = applyScopes Γ.scopes σL ∧
    stateAt P fin it = some σL ∧ stateAt P fin en = some σL ∧ WS P fin σL

theorem LoopIface.scope {P : ACode} {fin : AbsState} {Γ : Ctx} {σ : AbsState} (sc : Scope)
    (h : LoopIface P fin Γ σ) : LoopIface P fin { Γ with scopes := sc :: Γ.scopes } (applyScope sc σ) := by
  obtain ⟨it, en, σL, hl, rfl, h1, h2, h3⟩ := h
  exact ⟨it, en, σL, hl, rfl, h1, h2, h3⟩

theorem comp_piece (s : Stmt) (Γ : Ctx) (b : Nat) (σ : AbsState) (inLoop : Bool) (P : ACode) (fin : AbsState)
    (hok : ok inLoop s = true) (hw : WS P fin σ) (hi : inLoop = true → LoopIface P fin Γ σ) :
    Piece P fin b σ (comp Γ b σ s) σ := by
  induction s generalizing Γ b σ inLoop <;> simp only [comp, List.append_assoc, List.cons_append, List.nil_append]
  case skip => exact .nil
  case seq a c iha ihc =>
    replace hok := (Bool.and_eq_true _ _).mp hok
    exact .append (comp_length ..) (iha Γ b σ inLoop hok.1 hw hi) (ihc Γ _ σ inLoop hok.2 hw hi)
  case simple is => exact .simple is hok hw
  case flat is => exact .flat is hok hw
  case ifS n t iht =>
    exact .append (others_length ..) (.pad hw) (.ifThen hw (comp_length ..) (iht Γ _ σ inLoop hok hw hi))
  case ifElse n t e iht ihe =>
    replace hok := (Bool.and_eq_true _ _).mp hok
    exact .append (others_length ..) (.pad hw)
      (.ifElse hw (comp_length ..) (comp_length ..) (iht Γ _ σ inLoop hok.1 hw hi) (ihe Γ _ σ inLoop hok.2 hw hi))
  case forS v r npre nt body ihb =>
    exact .append (others_length ..) (.pad hw) (.loop hw (comp_length ..)
      (fun sIt sEnd wL => ihb _ _ _ true hok wL fun _ => ⟨_, _, _, rfl, rfl, sIt, sEnd, wL⟩)
      (fun sPl wL => .cons (fun h => ok_popLoopFrame wL h sPl) .nil))
  case forElse v r npre nt body e ihb ihe =>
    replace hok := (Bool.and_eq_true _ _).mp hok
    exact .append (others_length ..) (.pad hw) (.loop hw (comp_length ..)
      (fun sIt sEnd wL => ihb _ _ _ true hok.1 wL fun _ => ⟨_, _, _, rfl, rfl, sIt, sEnd, wL⟩)
      (fun sPl wL => .cons (ok_pushDidNotIterate wL) (.cons (fun h => ok_popLoopFrame wL h sPl)
        (.ifThen hw (comp_length ..) (ihe _ _ _ inLoop hok.2 hw hi)))))
  case withS n body ihb =>
    exact .cons (ok_pushWith hw) (.append (others_length ..) (.pad (WS_pushW hw))
      (.append (comp_length ..) (ihb _ _ _ inLoop hok (WS_pushW hw) fun h => (hi h).scope .withS)
        (.cons (ok_popFrame (WS_pushW hw)) .nil)))
  case capture body npost ihb =>
    exact .cons (ok_beginCapture hw)
      (.append (comp_length ..) (ihb _ _ _ inLoop hok (WS_pushC hw) fun h => (hi h).scope .capture)
        (.cons (ok_endCapture (WS_pushC hw)) (.pad hw)))
  case autoEscape npre body ihb =>
    exact .append (others_length ..) (.pad hw) (.cons (ok_pushAutoEscape hw)
      (.append (comp_length ..) (ihb _ _ _ inLoop hok (WS_pushE hw) fun h => (hi h).scope .autoEscape)
        (.cons (ok_popAutoEscape (WS_pushE hw)) .nil)))
  case macroS nargs body nenc nafter ihb =>
    exact .macro hw (comp_length ..) (ihb Γ _ _ false hok (WS_init P fin) (by intro h; cases h))
      (fun nentry => .cons (fun h => ok_buildMacro hw h nentry) (.pad hw))
  case importS n m =>
    have wcw : WS P fin (pushW (pushC σ)) := WS_pushW (WS_pushC hw)
    exact .cons (ok_beginCapture hw) (.cons (ok_pushWith (WS_pushC hw))
      (.append (others_length ..) (.pad wcw) (.cons (ok_other wcw)
        (.cons (ok_endCapture (A := pushW σ) wcw) (.cons (ok_other (WS_pushW hw))
          (.cons (ok_popFrame (WS_pushW hw)) (.pad hw)))))))
  case breakS =>
    obtain ⟨it, en, σL, hl, rfl, _, h2, h3⟩ := hi hok
    simp only [hl]
    exact .leave Γ.scopes h3 h2
  case continueS =>
    obtain ⟨it, en, σL, hl, rfl, h1, _, h3⟩ := hi hok
    simp only [hl]
    exact .leave Γ.scopes h3 h1

theorem mem_macroEntries {l : List Instr} {o : Nat} (h : o ∈ macroEntries l) : Instr.buildMacro o ∈ l := by
  induction l with
  | nil => cases h
  | cons i rest ih =>
    cases i with
    | buildMacro o' =>
      rcases List.mem_cons.mp h with rfl | h
      · exact .head _
      · exact .tail _ (ih h)
    | _ => exact .tail _ (ih h)

theorem checkCert_of_typed (P : ACode) (hT : Typed P AbsState.init 0 P)
    (h0 : stateAt P AbsState.init 0 = some AbsState.init) :
    checkCert (codeOf P) (certOf P AbsState.init) = true := by
  refine checkCert_iff.mpr ⟨fun e he => ?_, fun pc A hA => ?_⟩
  · rcases List.mem_cons.mp he with rfl | he
    · exact h0
    · have hl : (codeOf P).toList = P.map (·.1) := by simp [codeOf]
      rw [hl] at he
      obtain ⟨k, hk⟩ := List.getElem?_of_mem (mem_macroEntries he)
      rw [List.getElem?_map] at hk
      cases hp : P[k]? with
      | none => rw [hp] at hk; cases hk
      | some x =>
        obtain ⟨i, A⟩ := x
        rw [hp] at hk
        cases hk
        exact (hT k _ A hp).2.2 e rfl
  · have hpc : pc < P.length + 1 := by simpa [certOf] using look_lt hA
    rcases Nat.lt_or_ge pc P.length with hlt | hge
    · have hget : P[pc]? = some P[pc] := List.getElem?_eq_getElem hlt
      obtain ⟨hw, hedge, _⟩ := hT pc P[pc].1 P[pc].2 hget
      cases (stateAt_of_get hget).symm.trans hA
      rw [Nat.zero_add] at hedge
      have hc := code_of_get hget
      exact ⟨hw, fun hn => (nomatch hc.symm.trans hn), fun i hi => by cases hc.symm.trans hi; exact hedge⟩
    · obtain rfl : pc = P.length := by omega
      cases (stateAt_end P _).symm.trans hA
      have hc : (codeOf P)[P.length]? = none := by simp [code_get]
      exact ⟨WS_init _ _, fun _ => rfl, fun i hi => nomatch hc.symm.trans hi⟩

/-- the model generator emits, for every statement the parser accepts, a certificate that the
verified checker accepts -/
theorem compileTemplate_checked (s : Stmt) (hok : ok false s = true) :
    checkCert (codeOf (compileTemplate s)) (certOf (compileTemplate s) AbsState.init) = true := by
  obtain ⟨hT, h0⟩ := comp_piece s ⟨none, []⟩ 0 AbsState.init false (compileTemplate s) AbsState.init hok
    (WS_init _ _) (by intro h; cases h) (embeds_self _) (by rw [Nat.zero_add]; exact stateAt_end _ _)
  exact checkCert_of_typed _ hT h0

end MJ.BalGen
