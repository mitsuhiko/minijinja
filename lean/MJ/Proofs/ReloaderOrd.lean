import MJ.Proofs.ReloaderInv
/-!
# The ORDER invariant: every reload decision is taken under the `cached_env` lock

`lockedAt < checkedAt` for the holder and for every handed-out guard is part of `Inv` (`TimeOk`,
`AcqRecOk`).  Here: the intervals `[lockedAt, checkedAt]` of different acquires are disjoint and
ordered, so nobody else locks (let alone checks) between an acquire's lock and its decision.
-/
namespace MJ.Reloader

structure OrdInv (σ : State) : Prop where
  /-- every logged guard's decision precedes the holder's lock — except the holder's own record,
      which exists only once it holds the guard -/
  own : ∀ c, σ.cur = some c → ∀ a ∈ σ.acqLog,
    (c.pc = .holding ∧ a.lockedAt = c.lockedAt ∧ a.checkedAt = c.checkedAt) ∨ a.checkedAt < c.lockedAt
  pair : ∀ a ∈ σ.acqLog, ∀ b ∈ σ.acqLog, a.lockedAt < b.lockedAt → a.checkedAt < b.lockedAt

theorem ordInv_init (ths : List Thread) : OrdInv (init ths) := by
  constructor <;> simp [init]

section
variable {σ σ' : State} {c : Active}

theorem ordInv_stepActive (hi : Inv σ) (h : OrdInv σ) (hc : σ.cur = some c)
    (hs : stepActive σ c = some σ') : OrdInv σ' := by
  have h1 := h.own c hc
  rcases (stepActive_holder hs).acqLog with h' | ⟨e, -, hpc, -, -, hcur, h'⟩
  · -- the log stays: a holder whose record is in it is `.holding` and releases the mutex; any
    -- other keeps its lock time
    refine ⟨fun c' hc' a ha => ?_, h' ▸ h.pair⟩
    rcases h1 a (h' ▸ ha) with ⟨hp, -⟩ | hlt
    · simp [stepActive, hp] at hs
      cases hs; cases hc'
    · exact .inr (((stepActive_holder hs).cur _ hc').2.2 ▸ hlt)
  · -- the handout: the record it adds is the holder's own, every other was checked before the holder
    -- locked
    have key : ∀ a ∈ σ.acqLog, a.checkedAt < c.lockedAt := fun a ha =>
      (h1 a ha).resolve_left fun h' => by
        rcases hpc with hpc | hpc | hpc <;> rw [hpc] at h' <;> cases h'.1
    refine ⟨fun c' hc' a ha => ?_, fun a ha b hb hlt => ?_⟩
    · cases hcur.symm.trans hc'
      rcases List.mem_cons.mp (h' ▸ ha) with rfl | ha
      · exact .inl ⟨rfl, rfl, rfl⟩
      · exact .inr (key a ha)
    · rcases List.mem_cons.mp (h' ▸ ha) with rfl | ha <;>
        rcases List.mem_cons.mp (h' ▸ hb) with rfl | hb
      · exact absurd hlt (Nat.lt_irrefl _)
      · have := key b hb; have := (hi.acqLog_lt b hb).1; simp only at hlt; omega
      · exact key a ha
      · exact h.pair a ha b hb hlt

end

theorem ordInv_step {σ σ' : State} {i : Nat} (hi : Inv σ) (h : OrdInv σ) (hs : step σ i = some σ') :
    OrdInv σ' := by
  rcases step_cases hs with ⟨c, hc, -, hs⟩ | ⟨cfg, -, -, -, rfl⟩ | ho
  · exact ordInv_stepActive hi h hc hs
  · -- the lock is taken at `now`, after every logged check
    refine ⟨fun c hc a ha => ?_, h.pair⟩
    cases hc
    exact .inr (hi.acqLog_lt a ha).2
  · exact ⟨by rw [ho.cur, ho.acqLog]; exact h.own, by rw [ho.acqLog]; exact h.pair⟩

theorem ordInv_of_reachable {σ : State} (h : Reachable σ) : OrdInv σ := by
  induction h with
  | init ths _ => exact ordInv_init ths
  | step i hprev hs ih => exact ordInv_step (inv_of_reachable hprev) ih hs

end MJ.Reloader
