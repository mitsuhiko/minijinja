import MJ.Proofs.NumRound
import MJ.Proofs.CmpF64Cast
/-!
# Floats as signed bit patterns: the operators of the model on exact values

A result of the model is `signedBits neg (encodeRat p q)`: a sign and the rounded magnitude; its
exact value is read as the integer `sm neg x = ±x` (`MJ/Proofs/CmpF64Cast.lean`).  What `encodeRat`
guarantees on magnitudes (`MJ/Proofs/NumRound.lean`) is carried over to signed values once
(`signedBits_rounded`: nearest to `±p / q`, ties to even; `signedBits_finite_iff`: finite exactly
below `ovfThreshold`, else the infinity of that sign; `signedBits_ieee` joins the two, which makes the
float `+ - * /` theorems of `MJ/Props/C08.lean` total; `key_signed_encode`: exact when the value
is a double); the operators `-x`, `abs`, `+`, `*`, `/`, `%`, `rem_euclid`, `round` and
`f64_div_euclid` are instances.  `<int> as f64` from `2^53` on is C07's `rnd`, which is `rne` on the
grid of its binade (`rnd_eq_rne`): `rnd_half_ulp`, `rnd_tie_even`.  Builds on C07's lemmas about the
bit-pattern model (`MJ/Proofs/CmpF64*.lean`).
-/
namespace MJ.NumF
open MJ.F64 MJ.Val MJ.Cmp

/-- `s` (in units of `2^-1074`) is the magnitude of a finite double -/
def Representable (s : Nat) : Prop := ∃ m, m < infMag ∧ scaledOfMag m = s

/-- the magnitude of any finite float is representable -/
theorem representable_scaled {b : Nat} (h : isFinite b = true) : Representable (scaled b) := by
  unfold isFinite at h
  exact ⟨mag b, by simpa using h, rfl⟩

theorem encodeRat_lt_P63 (p q : Nat) : encodeRat p q < P63 :=
  Nat.lt_of_le_of_lt (encodeRat_le_infMag p q) infMag_lt_P63

theorem signedBits_parity (neg : Bool) (M : Nat) : signedBits neg M % 2 = M % 2 := by
  unfold signedBits P63
  cases neg <;> simp only [if_true, if_false, Bool.false_eq_true] <;> omega

theorem dist_zero (x : Nat) : dist x 0 = x := by unfold dist; omega

theorem natAbs_sub_same (neg : Bool) (x y : Nat) : (sm neg x - sm neg y).natAbs = dist x y := by
  unfold dist
  cases neg <;> simp only [sm, if_true, if_false, Bool.false_eq_true] <;> omega

theorem natAbs_sub_opp (neg : Bool) (x y : Nat) : (sm neg x - sm (!neg) y).natAbs = x + y := by
  cases neg <;> simp only [sm, if_true, if_false, Bool.false_eq_true, Bool.not_true, Bool.not_false] <;> omega

theorem key_signed_encode (neg : Bool) (s : Nat) (h : Representable s) :
    key (signedBits neg (encodeRat s 1)) = sm neg s ∧
    isFinite (signedBits neg (encodeRat s 1)) = true := by
  obtain ⟨m, hm, rfl⟩ := h
  have hlt := Nat.lt_trans hm infMag_lt_P63
  rw [encodeRat_exact m hm, key_signedBits neg hlt, isFinite_signedBits neg hlt]
  exact ⟨rfl, decide_eq_true hm⟩

/-- **a rounded signed result is exactly rounded**: the finite result `±encodeRat p q` is a double
    nearest to the exact value `e = ±p / q` (values in units of `2^-1074`, compared after
    multiplying by `q`), and if another double is equally close its bit pattern is even -/
theorem signedBits_rounded (neg : Bool) {p q : Nat} (hq : 0 < q)
    (hfin : isFinite (signedBits neg (encodeRat p q)) = true) {e : Int}
    (he : e = sm neg p) (m : Nat) :
    (e - key (signedBits neg (encodeRat p q)) * (q : Int)).natAbs ≤ (e - key m * (q : Int)).natAbs ∧
    ((e - key (signedBits neg (encodeRat p q)) * (q : Int)).natAbs = (e - key m * (q : Int)).natAbs →
      key m ≠ key (signedBits neg (encodeRat p q)) → signedBits neg (encodeRat p q) % 2 = 0) := by
  have hlt := encodeRat_lt_P63 p q
  have hM : encodeRat p q < infMag := by
    rw [isFinite_signedBits neg hlt] at hfin
    exact of_decide_eq_true hfin
  obtain ⟨d1, t1⟩ := encodeRat_nearest p q hq hM (mag m)
  obtain ⟨d0, t0⟩ := encodeRat_nearest p q hq hM 0
  rw [scaledOfMag_zero, Nat.zero_mul, dist_zero] at d0 t0
  rw [signedBits_parity, he, key_sm m, scaled, key_sm, sm_mul_nat, sm_mul_nat,
    (signedBits_sign_mag neg hlt).1, scaled_signedBits neg hlt, natAbs_sub_same]
  by_cases hs : sign m = neg
  · -- a competitor of the same sign competes in magnitude
    rw [hs, natAbs_sub_same]
    exact ⟨d1, fun hd hne => t1 hd (fun h => hne (by rw [h]))⟩
  · -- one of the opposite sign is no closer than zero, and as close only if it is zero itself
    rw [show sign m = !neg by cases neg <;> simp_all, natAbs_sub_opp]
    refine ⟨by omega, fun hd hne => t0 (by omega) (fun h => hne ?_)⟩
    have hU : scaledOfMag (mag m) = 0 :=
      (Nat.mul_eq_zero.1 (by omega : scaledOfMag (mag m) * q = 0)).resolve_right (by omega)
    rw [hU, ← h]
    exact sm_congr fun h => absurd rfl h

theorem signedBits_finite_iff (neg : Bool) {p q : Nat} (hq : 0 < q) :
    (isFinite (signedBits neg (encodeRat p q)) = true ↔ p < ovfThreshold * q) ∧
    (isFinite (signedBits neg (encodeRat p q)) = false →
      signedBits neg (encodeRat p q) = signedBits neg infMag) := by
  rw [isFinite_signedBits neg (encodeRat_lt_P63 p q), decide_eq_true_iff, decide_eq_false_iff_not]
  exact ⟨encodeRat_finite_iff p q hq,
    fun h => by rw [Nat.le_antisymm (encodeRat_le_infMag p q) (Nat.le_of_not_lt h)]⟩

/-- **the result `r = ±encodeRat p q` of an operator whose exact value is `e = ±p / q`** (in units of
    `2^-1074`, compared after multiplying by `q`): finite exactly below the overflow threshold,
    otherwise the infinity of that sign; when finite, a double nearest to `e`, the even one of two -/
theorem signedBits_ieee (neg : Bool) {p q : Nat} (hq : 0 < q) {e : Int}
    (he : e = sm neg p) {r : Nat} (hr : r = signedBits neg (encodeRat p q)) :
    (isFinite r = true ↔ p < ovfThreshold * q) ∧
    (isFinite r = false → r = signedBits neg infMag) ∧
    (isFinite r = true → ∀ m : Nat,
      (e - key r * (q : Int)).natAbs ≤ (e - key m * (q : Int)).natAbs ∧
      ((e - key r * (q : Int)).natAbs = (e - key m * (q : Int)).natAbs → key m ≠ key r → r % 2 = 0)) := by
  subst hr
  exact ⟨(signedBits_finite_iff neg hq).1, (signedBits_finite_iff neg hq).2,
    fun hfin m => signedBits_rounded neg hq hfin he m⟩

theorem key_fabs (b : Nat) : key (fabs b) = ((key b).natAbs : Int) := by
  have h := sign_of_lt (mag_lt_P63 b)
  unfold fabs
  unfold key scaled
  rw [h.1, h.2]
  cases sign b <;> simp

theorem isFinite_fneg (b : Nat) : isFinite (fneg b) = isFinite b := by
  unfold isFinite; rw [mag_fneg]

theorem key_ofKey (k : Int) (h : Representable k.natAbs) :
    key (ofKey k) = k ∧ isFinite (ofKey k) = true := by
  obtain ⟨h1, h2⟩ := key_signed_encode (decide (k < 0)) _ h
  exact ⟨h1.trans (eq_sm k).symm, h2⟩

/-- a sum is rounded by `ofKey`, except that an exact zero from two negative operands is `-0.0` -/
theorem fadd_eq_ofKey (a b : Nat) :
    fadd a b = ofKey (key a + key b) ∨ (key a + key b = 0 ∧ fadd a b = P63) := by
  unfold fadd
  simp only []
  by_cases h0 : key a + key b = 0
  · rw [if_pos h0, h0]
    cases (sign a && sign b)
    · exact Or.inl (by decide)
    · exact Or.inr ⟨rfl, rfl⟩
  · rw [if_neg h0]; exact Or.inl rfl

theorem key_fadd (a b : Nat) (h : Representable (key a + key b).natAbs) :
    key (fadd a b) = key a + key b ∧ isFinite (fadd a b) = true := by
  rcases fadd_eq_ofKey a b with h1 | ⟨h0, h1⟩
  · rw [h1]; exact key_ofKey _ h
  · rw [h1, h0]; exact ⟨by decide, by decide⟩

theorem key_mul_key (a b : Nat) : key a * key b = sm (sign a != sign b) (scaled a * scaled b) :=
  sm_mul ..

theorem log2_le_of_lt_P53 {n : Nat} (hn : n < P53) : n.log2 ≤ 52 := by
  by_cases h0 : n = 0
  · subst h0; decide
  · have : n.log2 < 53 := (Nat.log2_lt h0).2 (by rw [← P53_eq_pow]; exact hn)
    omega

/-- `1000` is the bound under which C07's `ofNat_spec`, `ofInt_spec` speak of `<int> as f64` -/
theorem log2_lt_of_lt_P53 {n : Nat} (hn : n < P53) : n.log2 < 1000 :=
  Nat.lt_of_le_of_lt (log2_le_of_lt_P53 hn) (by decide)

theorem rnd_small (n : Nat) (hn : n < P53) : rnd n = n := rnd_of_log2_le (log2_le_of_lt_P53 hn)

theorem representable_int (n : Nat) (hn : n < P53) : Representable (n * scale) := by
  obtain ⟨h1, h2⟩ := ofNat_spec n (log2_lt_of_lt_P53 hn)
  exact ⟨ofNat n, h1, by rw [h2, rnd_small n hn]⟩

/-- `<int> as f64` from `2^53` on: the error is at most half a unit in the last place
    (`2^(⌊log2 n⌋ - 52)`), in both directions; together with C07's `rnd_above`/`rnd_below` (no double
    lies strictly between `n` and `rnd n`) this is "correctly rounded" -/
theorem rnd_half_ulp (n : Nat) (hl : 52 < n.log2) :
    2 * (rnd n - n) ≤ 2 ^ (n.log2 - 52) ∧ 2 * (n - rnd n) ≤ 2 ^ (n.log2 - 52) := by
  have := (rne_spec n (Nat.pow_pos (by omega) : 0 < 2 ^ (n.log2 - 52))).1
  rw [← rnd_eq_rne hl] at this
  unfold dist at this
  omega

/-- ties go to the even neighbour -/
theorem rnd_tie_even (n : Nat) (hl : 52 < n.log2)
    (htie : n % 2 ^ (n.log2 - 52) = 2 ^ (n.log2 - 52 - 1)) :
    (rnd n / 2 ^ (n.log2 - 52)) % 2 = 0 := by
  rw [rnd_eq_rne hl, Nat.mul_div_cancel _ (Nat.pow_pos (by omega))]
  apply rne_tie
  rw [htie, ← Nat.pow_succ']
  congr 1
  omega

/-- float `%` (fmod) is the truncated remainder of the exact values; its result always fits the
    format, which is the hypothesis -/
theorem key_fmod (a b : Nat) (hrep : Representable (scaled a % scaled b)) :
    key (fmod a b) = Int.tmod (key a) (key b) ∧ isFinite (fmod a b) = true := by
  obtain ⟨h1, h2⟩ := key_signed_encode (sign a) _ hrep
  exact ⟨h1.trans (sm_tmod ..).symm, h2⟩

theorem key_fremEuclid (a b : Nat) (h1 : Representable (scaled a % scaled b))
    (h2 : Representable (MJ.Num.fRemEuclid (key a) (key b)).natAbs) :
    key (fremEuclid a b) = MJ.Num.fRemEuclid (key a) (key b) ∧ isFinite (fremEuclid a b) = true := by
  obtain ⟨hk, hfin⟩ := key_fmod a b h1
  unfold fremEuclid MJ.Num.fRemEuclid at *
  simp only [] at *
  rw [hk]
  by_cases hneg : (key a).tmod (key b) < 0
  · rw [if_pos hneg] at h2 ⊢
    rw [if_pos hneg]
    have hab : key (fabs b) = ((key b).natAbs : Int) := key_fabs b
    have := key_fadd (fmod a b) (fabs b) (by rw [hk, hab]; exact h2)
    rw [hk, hab] at this
    exact this
  · rw [if_neg hneg, if_neg hneg]
    exact ⟨hk, hfin⟩

/-- the division of an exact multiple `b·Q` by `b`, `|Q| = n < 2^53`, is `Q` exactly -/
theorem key_fdiv_exact (d b : Nat) (t : Bool) (n : Nat) (hd : key d = key b * sm t n) (hb : key b ≠ 0)
    (hn : n < P53) :
    key (fdiv d b) = sm t (n * scale) ∧ isFinite (fdiv d b) = true := by
  rw [key_sm d, key_sm b, sm_mul] at hd
  obtain ⟨hsd, hs⟩ := sm_inj hd
  have hsb : scaled b ≠ 0 := fun h => hb (by rw [key_sm, h]; cases sign b <;> rfl)
  unfold fdiv
  rw [hsd, show scaled b * n * scale = (n * scale) * scaled b by
    rw [Nat.mul_comm (scaled b), Nat.mul_right_comm], encodeRat_mul _ _ (Nat.pos_of_ne_zero hsb)]
  obtain ⟨h1, h2⟩ := key_signed_encode (sign d != sign b) _ (representable_int _ hn)
  refine ⟨h1.trans (sm_congr fun h0 => ?_), h2⟩
  -- the quotient is not zero, so neither is `d`, and its sign bit is `sign b != t`
  rw [hs (hsd ▸ Nat.mul_ne_zero hsb fun h => h0 (by rw [h, Nat.zero_mul]))]
  cases sign b <;> cases t <;> rfl

theorem key_fround_int (x : Nat) (t : Bool) (n : Nat) (hx : key x = sm t (n * scale)) (hn : n < P53) :
    key (fround x) = sm t (n * scale) ∧ isFinite (fround x) = true := by
  obtain ⟨hsx, hs⟩ := sm_inj ((key_sm x).symm.trans hx)
  unfold fround
  simp only []
  rw [hsx, Nat.mul_div_cancel _ scale_pos', Nat.mul_mod_left, if_neg (by have := scale_pos'; omega)]
  obtain ⟨h1, h2⟩ := key_signed_encode (sign x) _ (representable_int _ hn)
  exact ⟨h1.trans (sm_congr fun h0 => hs (hsx ▸ h0)), h2⟩

theorem fRemEuclid_eq_emod (a b : Int) (hb : b ≠ 0) : MJ.Num.fRemEuclid a b = a % b := by
  unfold MJ.Num.fRemEuclid
  simp only []
  rw [Int.tmod_eq_emod]
  have h0 := Int.emod_nonneg a hb
  have h1 := Int.emod_lt a hb
  split <;> split <;> omega

/-- `ops::f64_div_euclid`: when the remainder, the difference `a - r` and the quotient fit the
    format (`|q| < 2^53`), the result is the Euclidean quotient of the exact values -/
theorem key_fdivEuclid (a b : Nat) (hb : key b ≠ 0)
    (h1 : Representable (scaled a % scaled b))
    (h2 : Representable (key a % key b).natAbs)
    (h3 : Representable (key a - key a % key b).natAbs)
    (h4 : (key a / key b).natAbs < P53) :
    key (fdivEuclid a b) = key a / key b * (scale : Int) ∧ isFinite (fdivEuclid a b) = true := by
  have hR := fRemEuclid_eq_emod (key a) (key b) hb
  obtain ⟨hr, _⟩ := key_fremEuclid a b h1 (by rw [hR]; exact h2)
  rw [hR] at hr
  -- d = a - r
  have hdk : key a + key (fneg (fremEuclid a b)) = key a - key a % key b := by
    rw [key_fneg, hr]; omega
  obtain ⟨hd, hdf⟩ := key_fadd a (fneg (fremEuclid a b)) (by rw [hdk]; exact h3)
  rw [hdk] at hd
  have hmul : key a - key a % key b = key b * (key a / key b) := by
    have := Int.emod_def (key a) (key b); omega
  rw [hmul, eq_sm (key a / key b)] at hd
  obtain ⟨hq, hqf⟩ := key_fdiv_exact _ b _ _ hd hb h4
  have e : fdivEuclid a b = fround (fdiv (fadd a (fneg (fremEuclid a b))) b) := by
    simp only [fdivEuclid, fsub, hdf, hqf, Bool.not_true, Bool.false_eq_true, if_false]
  rw [e, eq_sm (key a / key b), sm_mul_nat]
  exact key_fround_int _ _ _ hq h4

end MJ.NumF
