import MJ.Model.JsonSer
import MJ.Proofs.ValueSer
import MJ.Proofs.JsonFull
/-! serde_json driven by `impl Serialize for Value` writes exactly `writeJ (jsonOf v)` (C16). -/
namespace MJ.JsonSer
open MJ.Serde MJ.Json MJ.ValueSer

theorem keyOfCall_scalar (v : V) (h : isScalarV v = true) : keyOfCall (scalarCall v) = keyOf v := by
  cases v <;> simp [isScalarV] at h <;> simp [scalarCall, keyOfCall, keyOf]

theorem jOfCall_scalar (v : V) (h : isScalarV v = true) : jOfCall (scalarCall v) = jsonOf v := by
  cases v <;> simp [isScalarV] at h <;> simp [scalarCall, jOfCall, jsonOf]

theorem keyOfCall_serCalls (k : LV) (h : Honest k) : keyOfCall (serCalls k) = keyOf (toV false k) := by
  cases k with
  | leaf v => simp only [serCalls, toV]; exact keyOfCall_scalar v (by simpa [Honest] using h)
  | list t xs => simp [serCalls, toV, keyOfCall, keyOf]
  | lazy en xs => cases en <;> simp [serCalls, toV, keyOfCall, keyOf]
  | vmap kvs => simp [serCalls, toV, keyOfCall, keyOf]
  | omap e kvs => simp [serCalls, toV, keyOfCall, keyOf]

mutual
theorem jOfCall_serCalls : ∀ (lv : LV), Honest lv → jOfCall (serCalls lv) = jsonOf (toV false lv)
  | .leaf v, h => by simp only [serCalls, toV]; exact jOfCall_scalar v (by simpa [Honest] using h)
  | .list t xs, h => by
    simp only [Honest] at h
    simp only [serCalls, toV, jOfCall, jsonOf, jOfCallList_serCalls xs h]
    generalize jsonOfList (toVList false xs) = r
    cases r <;> rfl
  | .lazy en xs, h => by
    simp only [Honest] at h
    cases en <;> simp only [serCalls, toV, jOfCall, jsonOf, jOfCallList, jsonOfList, jOfCallList_serCalls xs h.2] <;>
      (generalize jsonOfList (toVList false xs) = r; cases r <;> rfl)
  | .vmap kvs, h => by
    simp only [Honest] at h
    simp only [serCalls, toV, jOfCall, jsonOf, jOfCallPairs_serCalls kvs h]
    simp only [Bool.false_eq_true, if_false]
    generalize jsonOfPairs (toVPairs false kvs) = r
    cases r <;> rfl
  | .omap e kvs, h => by
    simp only [Honest] at h
    cases e
    · simp [serCalls, toV, jOfCall, jsonOf, jOfCallPairs, jsonOfPairs]
    · simp only [serCalls, toV, jOfCall, jsonOf, if_true, jOfCallPairs_serCalls kvs h]
      generalize jsonOfPairs (toVPairs false kvs) = r
      cases r <;> rfl
theorem jOfCallList_serCalls : ∀ (xs : List LV), HonestList xs → jOfCallList (serCallsList xs) = jsonOfList (toVList false xs)
  | [], _ => rfl
  | x :: xs, h => by
    simp only [HonestList] at h
    simp only [serCallsList, toVList, jOfCallList, jsonOfList, jOfCall_serCalls x h.1, jOfCallList_serCalls xs h.2]
theorem jOfCallPairs_serCalls : ∀ (kvs : List (LV × LV)), HonestPairs kvs →
    jOfCallPairs (serCallsPairs kvs) = jsonOfPairs (toVPairs false kvs)
  | [], _ => rfl
  | (k, v) :: rest, h => by
    simp only [HonestPairs] at h
    simp only [serCallsPairs, toVPairs, jOfCallPairs, jsonOfPairs, keyOfCall_serCalls k h.1, jOfCall_serCalls v h.2.1,
      jOfCallPairs_serCalls rest h.2.2]
end

theorem endC_succ (st : Style) (close : Char) (lvl : Nat) (hv : Bool) :
    endC st close ⟨lvl + 1, hv⟩ = .ok ((if hv then st.close lvl else []) ++ [close], ⟨lvl, hv⟩) := by
  cases st <;> cases hv <;> simp [endC, Style.close]

theorem bytesText_eq (st : Style) (lvl : Nat) (hv first : Bool) (bs : List Nat) :
    bytesText st ⟨lvl, hv⟩ first bs = writeElems st lvl first (bs.map fun n => J.num (natDigits n)) := by
  induction bs generalizing first with
  | nil => simp [bytesText, writeElems]
  | cons b bs ih => simp [bytesText, writeElems, writeAt, ih]

/-- final state of a run of elements / entries -/
def afterRun (n : Nat) (s : PSt) : PSt := if n = 0 then s else ⟨s.indent, true⟩

theorem afterRun_hasValue (n lvl : Nat) : afterRun n ⟨lvl, true⟩ = ⟨lvl, true⟩ := by
  simp only [afterRun]
  split <;> rfl

mutual
theorem wCall_ok : ∀ (c : Call) (st : Style) (j : J) (s : PSt), ContractOK c → jOfCall c = .ok j →
    ∃ hv, wCall st c s = .ok (writeAt st s.indent j, ⟨s.indent, hv⟩)
  | .unit, st, j, s, _, hj | .int _, st, j, s, _, hj | .str _, st, j, s, _, hj => by
    cases hj; exact ⟨s.hasValue, rfl⟩
  | .bool b, st, j, s, _, hj => by
    cases hj; cases b <;> exact ⟨s.hasValue, rfl⟩
  | .f64 b, st, j, s, _, hj => by
    simp only [jOfCall] at hj
    by_cases hf : f64Finite b = true
    · simp [hf] at hj; subst hj; exact ⟨s.hasValue, by simp [wCall, writeAt, hf]⟩
    · simp [hf] at hj; subst hj; exact ⟨s.hasValue, by simp [wCall, writeAt, hf]⟩
  | .bytes [], st, j, s, _, hj => by
    simp [jOfCall] at hj; subst hj
    refine ⟨false, ?_⟩
    simp only [wCall, beginC, endC_succ]
    simp [writeAt]
  | .bytes (b :: bs), st, j, s, _, hj => by
    simp [jOfCall] at hj; subst hj
    refine ⟨true, ?_⟩
    simp only [wCall, beginC, endV, endC_succ, bytesText_eq]
    simp [writeAt, List.append_assoc]
  | .seq ann elems, st, j, s, hc, hj => by
    simp only [ContractOK] at hc
    simp only [jOfCall] at hj
    split at hj <;> cases hj
    rename_i js hl
    have hrun := wElems_ok elems st js true (beginC s) hc.2 hl
    cases elems with
    | nil =>
      -- with or without the `Some(0)` shortcut: `[` and `]` at once
      cases hl
      refine ⟨false, ?_⟩
      by_cases h0 : ann = some 0 <;> simp [wCall, h0, wElems, beginC, endC_succ, writeAt]
    | cons e es =>
      have h0 : ann ≠ some 0 := fun h0 => by simpa using hc.1 0 h0
      obtain ⟨x, xs, _, _, hjs⟩ := join2_ok _ _ _ _ (by simpa [jOfCallList] using hl)
      subst hjs
      refine ⟨true, ?_⟩
      simp only [wCall, h0, if_false, hrun]
      simp only [afterRun, List.length_cons, Nat.succ_ne_zero, if_false, beginC, endC_succ]
      simp [writeAt, List.append_assoc]
  | .map ann entries, st, j, s, hc, hj => by
    simp only [ContractOK] at hc
    simp only [jOfCall] at hj
    split at hj <;> cases hj
    rename_i js hl
    have hrun := wEntries_ok entries st js true (beginC s) hc.2 hl
    cases entries with
    | nil =>
      cases hl
      refine ⟨false, ?_⟩
      by_cases h0 : ann = some 0 <;> simp [wCall, h0, wEntries, beginC, endC_succ, writeAt]
    | cons e es =>
      have h0 : ann ≠ some 0 := fun h0 => by simpa using hc.1 0 h0
      obtain ⟨k, v⟩ := e
      obtain ⟨x, xs, hx, _, hjs⟩ := join2_ok _ _ _ _ (by simpa [jOfCallPairs] using hl)
      obtain ⟨kk, vv, _, _, hkv⟩ := join2_ok _ _ _ _ hx
      subst hjs; subst hkv
      refine ⟨true, ?_⟩
      simp only [wCall, h0, if_false, hrun]
      simp only [afterRun, List.length_cons, Nat.add_one_ne_zero, if_false, beginC, endC_succ]
      simp [writeAt, List.append_assoc]
theorem wElems_ok : ∀ (cs : List Call) (st : Style) (js : List J) (first : Bool) (s : PSt),
    ContractOKList cs → jOfCallList cs = .ok js →
    wElems st first cs s = .ok (writeElems st s.indent first js, afterRun cs.length s)
  | [], st, js, first, s, _, hj => by
    simp [jOfCallList] at hj; subst hj
    simp [wElems, writeElems, afterRun]
  | c :: cs, st, js, first, s, hc, hj => by
    simp only [ContractOKList] at hc
    obtain ⟨x, xs, hx, hxs, hjs⟩ := join2_ok _ _ _ _ (by simpa [jOfCallList] using hj)
    subst hjs
    obtain ⟨hv, h1⟩ := wCall_ok c st x s hc.1 hx
    have h2 := wElems_ok cs st xs false ⟨s.indent, true⟩ hc.2 hxs
    rw [afterRun_hasValue] at h2
    simp only [wElems, h1, endV, h2]
    simp only [afterRun, List.length_cons, Nat.add_one_ne_zero, if_false, writeElems, List.append_assoc]
theorem wEntries_ok : ∀ (es : List (Call × Call)) (st : Style) (js : List (List Char × J)) (first : Bool) (s : PSt),
    ContractOKPairs es → jOfCallPairs es = .ok js →
    wEntries st first es s = .ok (writeMembers st s.indent first js, afterRun es.length s)
  | [], st, js, first, s, _, hj => by
    simp [jOfCallPairs] at hj; subst hj
    simp [wEntries, writeMembers, afterRun]
  | (k, v) :: es, st, js, first, s, hc, hj => by
    simp only [ContractOKPairs] at hc
    obtain ⟨x, xs, hx, hxs, hjs⟩ := join2_ok _ _ _ _ (by simpa [jOfCallPairs] using hj)
    obtain ⟨kk, vv, hk, hv', hkv⟩ := join2_ok _ _ _ _ hx
    subst hjs; subst hkv
    obtain ⟨hv, h1⟩ := wCall_ok v st vv s hc.2.1 hv'
    have h2 := wEntries_ok es st xs false ⟨s.indent, true⟩ hc.2.2 hxs
    rw [afterRun_hasValue] at h2
    simp only [wEntries, hk, h1, endV, h2]
    simp only [afterRun, List.length_cons, Nat.add_one_ne_zero, if_false, writeMembers, List.append_assoc]
end

/-- the text serde_json writes for a contract-keeping call stream is the model writer on its image -/
theorem writeCalls_eq (st : Style) (c : Call) (j : J) (hc : ContractOK c) (hj : jOfCall c = .ok j) :
    writeCalls st c = .ok (writeJ st j) := by
  obtain ⟨hv, h⟩ := wCall_ok c st j ⟨0, false⟩ hc hj
  simp [writeCalls, h, writeJ]

/-- … in particular for the calls `impl Serialize for Value` makes for honest objects -/
theorem writeCalls_value (st : Style) (lv : LV) (j : J) (h : Honest lv) (hj : jsonOf (toV false lv) = .ok j) :
    writeCalls st (serCalls lv) = .ok (writeJ st j) :=
  writeCalls_eq st (serCalls lv) j (contract_serCalls lv h) (by rw [jOfCall_serCalls lv h]; exact hj)

end MJ.JsonSer
