import MJ.Proofs.CompileRel
import MJ.Proofs.FoldSound
import MJ.Model.Vm
/-!
# The model VM on code at an address (C03)

`At C base L`: the code `C` holds `L` at `base`.  `Reach` is the run of the VM as a relation, a macro
call being one step whose premise is the run of the callee; `Reach.toRun` turns it into `run` with
enough fuel.  One rule per instruction: `Goes` for an instruction that only works on the operand stack
(where it goes on, with what stack), an equation `step_*` for one that touches frames, captures or
closures.
-/
namespace MJ.Vm
open MJ.Eval MJ.Compile

theorem lt_of_getElem?_some {α : Type} {l : List α} {i : Nat} {x : α} (h : l[i]? = some x) : i < l.length :=
  (List.getElem?_eq_some_iff.1 h).1

/-- `C` contains the instruction list `L` at offset `base` -/
def At (C : List Instr) (base : Nat) (L : List Instr) : Prop :=
  ∀ k, k < L.length → C[base + k]? = L[k]?

theorem At.left {C base L1 L2} (h : At C base (L1 ++ L2)) : At C base L1 := by
  intro k hk
  rw [h k (by simp; omega), List.getElem?_append_left hk]

theorem At.right {C base L1 L2} (h : At C base (L1 ++ L2)) : At C (base + L1.length) L2 := by
  intro k hk
  have := h (L1.length + k) (by simp; omega)
  rw [Nat.add_assoc, this, List.getElem?_append_right (by omega)]
  simp

theorem At.head {C base i L} (h : At C base (i :: L)) : C[base]? = some i := by
  simpa using h 0 (by simp)

theorem At.head_at {C base i L} (h : At C base (i :: L)) {k : Nat} (hk : k = base) : C[k]? = some i :=
  hk ▸ h.head

theorem At.tail {C base i L} (h : At C base (i :: L)) : At C (base + 1) L := by
  have := At.right (L1 := [i]) (L2 := L) (by simpa using h)
  simpa using this

theorem At.of_append (pre L post : List Instr) : At (pre ++ L ++ post) pre.length L := by
  intro k hk
  rw [List.append_assoc, List.getElem?_append_right (by omega)]
  simp [List.getElem?_append_left hk]

theorem At.prefix {C rest : List Instr} {off : Nat} {L : List Instr} (h : At C off L) : At (C ++ rest) off L := by
  intro k hk
  have h1 := h k hk
  rw [List.getElem?_append_left (lt_of_getElem?_some (h1.trans (List.getElem?_eq_getElem hk)))]; exact h1

/-- the VM gets from `s` to `s'` by executing instructions of `C`; a `CallFunction` is one step whose
premise is the run of the macro's code (in a fresh context, up to its `Return`) -/
inductive Reach (ctx : Scope) (C : List Instr) : VmState → VmState → Prop where
  | refl (s : VmState) : Reach ctx C s s
  | cons {s s' s'' : VmState} {i : Instr} : C[s.pc]? = some i → MJ.Vm.step ctx i s = .ok s' →
      Reach ctx C s' s'' → Reach ctx C s s''
  | call {s s1 s'' : VmState} {name : String} {argc : Nat} {args rest : List Val} {nm : String} {spec : List String}
      {off : Nat} {clo : Option Nat} {cref : Bool} {vals : List Val} {caller : Option Val} :
      C[s.pc]? = some (.callFunction name argc) → popN argc s.stack = some (args, rest) →
      lookupFrames ctx s.closures name s.frames = .vmMacro nm spec off clo cref →
      prepareArgs spec cref args = .ok (vals, caller) →
      Reach ctx C (calleeState off clo caller vals s.closures) s1 → C[s1.pc]? = some .return_ →
      Reach ctx C { s with pc := s.pc + 1, stack := .str (s1.outs.getLast?.getD "") :: rest, closures := s1.closures } s'' →
      Reach ctx C s s''

theorem Reach.trans {ctx C s1 s2 s3} (h1 : Reach ctx C s1 s2) (h2 : Reach ctx C s2 s3) : Reach ctx C s1 s3 := by
  induction h1 with
  | refl => exact h2
  | cons hi hs _ ih => exact Reach.cons hi hs (ih h2)
  | call hi hp hl ha hb hr _ _ ih2 => exact Reach.call hi hp hl ha hb hr (ih2 h2)

theorem Reach.one {ctx C s s' i} (hi : C[s.pc]? = some i) (hs : MJ.Vm.step ctx i s = .ok s') : Reach ctx C s s' :=
  Reach.cons hi hs (Reach.refl _)

/-- the run stops: the program counter is outside the code, or at a `Return` -/
def Halted (C : List Instr) (s : VmState) : Prop := C[s.pc]? = none ∨ C[s.pc]? = some .return_

theorem run_halted {ctx C s} (h : Halted C s) (k : Nat) : MJ.Vm.run ctx C (k + 1) s = .ok s := by
  rcases h with h | h <;> simp [MJ.Vm.run, h]

theorem step_not_return {ctx i s s'} (h : MJ.Vm.step ctx i s = .ok s') : i ≠ .return_ := by
  intro e; subst e; cases h

theorem stepF_succ {ctx C i} (h : ∀ name argc, i ≠ .callFunction name argc) (k : Nat) (s : VmState) :
    MJ.Vm.stepF ctx C (k + 1) i s = MJ.Vm.step ctx i s := by
  cases i <;> first | rfl | exact absurd rfl (h _ _)

theorem step_not_call {ctx i s s'} (h : MJ.Vm.step ctx i s = .ok s') : ∀ name argc, i ≠ .callFunction name argc := by
  intro name argc e; subst e; cases h

theorem stepF_of_step {ctx C i s s'} (h : MJ.Vm.step ctx i s = .ok s') (k : Nat) :
    MJ.Vm.stepF ctx C (k + 1) i s = .ok s' := by
  rw [stepF_succ (step_not_call h), h]

theorem run_succ {ctx C s i} (hi : C[s.pc]? = some i) (hne : i ≠ .return_) (k : Nat) :
    MJ.Vm.run ctx C (k + 1) s =
      match MJ.Vm.stepF ctx C k i s with
      | .ok s' => MJ.Vm.run ctx C k s'
      | .error e => .error e := by
  rw [MJ.Vm.run, hi]
  cases i <;> first | rfl | exact absurd rfl hne

theorem Reach.toRun {ctx C s s'} (h : Reach ctx C s s') (hend : Halted C s') :
    ∃ fuel, ∀ k, MJ.Vm.run ctx C (fuel + k) s = .ok s' := by
  induction h with
  | refl s => exact ⟨1, fun k => by rw [Nat.add_comm]; exact run_halted hend k⟩
  | @cons s s1 s2 i hi hs _ ih =>
    obtain ⟨f, hf⟩ := ih hend
    refine ⟨f + 2, fun k => ?_⟩
    have e : f + 2 + k = (f + k + 1) + 1 := by omega
    rw [e, run_succ hi (step_not_return hs), stepF_of_step hs]
    have e2 : f + k + 1 = f + (k + 1) := by omega
    rw [e2]; exact hf _
  | @call s s1 s2 name argc args rest nm spec off clo cref vals caller hi hp hl ha _ hr _ ih1 ih2 =>
    obtain ⟨f1, hf1⟩ := ih1 (Or.inr hr)
    obtain ⟨f2, hf2⟩ := ih2 hend
    refine ⟨f1 + f2 + 3, fun k => ?_⟩
    -- one unit of fuel each for `run`, `stepF`, `callF`; then `f1` for the callee, `f2` for the rest
    have e : f1 + f2 + 3 + k = (f1 + (f2 + k) + 1 + 1) + 1 := by omega
    rw [e, run_succ hi (by intro h; cases h), MJ.Vm.stepF, hp]
    simp only
    rw [hl, MJ.Vm.callF, ha]
    simp only
    rw [hf1]
    simp only
    have e5 : f1 + (f2 + k) + 1 + 1 = f2 + (f1 + k + 2) := by omega
    rw [e5]; exact hf2 _

theorem popN_append (xs rest : List Val) : popN xs.length (xs.reverse ++ rest) = some (xs, rest) := by
  simp [popN]

/-- the arguments of a filter or test on top of its operand, as the instruction pops them -/
theorem popN_operand (x : Val) (args st : List Val) :
    popN (1 + args.length) (args.reverse ++ x :: st) = some (x :: args, st) := by
  simpa [Nat.add_comm] using popN_append (x :: args) st

/-- key, value, key, value, …: what `BuildMap` / `BuildKwargs` pop -/
def flat : List (Val × Val) → List Val
  | [] => []
  | (k, v) :: rest => k :: v :: flat rest

theorem flat_length (ps : List (Val × Val)) : (flat ps).length = 2 * ps.length := by
  induction ps with
  | nil => rfl
  | cons p rest ih => obtain ⟨k, v⟩ := p; simp [flat, ih]; omega

theorem pairUp_flat (ps : List (Val × Val)) : pairUp (flat ps) = some ps := by
  induction ps with
  | nil => rfl
  | cons p rest ih => obtain ⟨k, v⟩ := p; simp [flat, pairUp, ih]

def flatKw (kw : List (String × Val)) : List Val := flat (kw.map fun p => (Val.str p.1, p.2))

theorem pairUp_flatKw (kw : List (String × Val)) : pairUp (flatKw kw) = some (kw.map fun p => (Val.str p.1, p.2)) := by
  unfold flatKw; exact pairUp_flat _

theorem flatKw_length (kw : List (String × Val)) : (flatKw kw).length = 2 * kw.length := by
  unfold flatKw; rw [flat_length]; simp

theorem flat_append (a b : List (Val × Val)) : flat (a ++ b) = flat a ++ flat b := by
  induction a with
  | nil => rfl
  | cons p rest ih => obtain ⟨k, v⟩ := p; simp [flat, ih]

theorem flatKw_snoc (kw : List (String × Val)) (k : String) (v : Val) :
    flatKw (kw ++ [(k, v)]) = flatKw kw ++ [.str k, v] := by
  unfold flatKw; rw [List.map_append, flat_append]; rfl

theorem step_binInstr {ctx op a b rest} {s : VmState} (h1 : op ≠ .and) (h2 : op ≠ .or) (hs : s.stack = b :: a :: rest) :
    MJ.Vm.step ctx (binInstr op) s = (binVal op a b).map fun v => { s with pc := s.pc + 1, stack := v :: rest } := by
  cases op
  case and => exact absurd rfl h1
  case or => exact absurd rfl h2
  case isin => cases hc : contains b a <;> simp [binInstr, MJ.Vm.step, hs, binVal, compareOp, Except.map, hc]
  all_goals simp [binInstr, MJ.Vm.step, binArith, binCmp, hs, binVal, compareOp, Except.map]

/-- one step of `i` at `p` with operand stack `st`: on to `t` with `st'`, nothing else touched -/
def Goes (ctx : Scope) (i : Instr) (p : Nat) (st : List Val) (t : Nat) (st' : List Val) : Prop :=
  ∀ fr outs cls, MJ.Vm.step ctx i ⟨p, st, fr, outs, cls⟩ = .ok ⟨t, st', fr, outs, cls⟩

namespace Goes
variable {ctx : Scope} {p : Nat} {st : List Val}

theorem step_eq {i t st'} (h : Goes ctx i p st t st') {s : VmState} (hpc : s.pc = p) (hst : s.stack = st) :
    MJ.Vm.step ctx i s = .ok { s with pc := t, stack := st' } := by
  cases s; subst hpc; subst hst; exact h _ _ _

theorem loadConst (v : Val) : Goes ctx (.loadConst v) p st (p + 1) (v :: st) := fun _ _ _ => rfl
theorem jump (t : Nat) : Goes ctx (.jump t) p st t st := fun _ _ _ => rfl
theorem swap {a b} : Goes ctx .swap p (a :: b :: st) (p + 1) (b :: a :: st) := fun _ _ _ => rfl
theorem dupTop {a} : Goes ctx .dupTop p (a :: st) (p + 1) (a :: a :: st) := fun _ _ _ => rfl
theorem discardTop {a} : Goes ctx .discardTop p (a :: st) (p + 1) st := fun _ _ _ => rfl
theorem not {a} : Goes ctx .not p (a :: st) (p + 1) (.bool (!truthy a) :: st) := fun _ _ _ => rfl
theorem isUndefined {a : Val} :
    Goes ctx .isUndefined p (a :: st) (p + 1) (.bool (match a with | .undef => true | _ => false) :: st) := fun _ _ _ => rfl
theorem jumpIfFalse {a} (t : Nat) : Goes ctx (.jumpIfFalse t) p (a :: st) (if truthy a = true then p + 1 else t) st := by
  intro _ _ _; simp only [MJ.Vm.step]; split <;> rfl
theorem jumpIfFalse_go {a} (t : Nat) (h : truthy a = true) : Goes ctx (.jumpIfFalse t) p (a :: st) (p + 1) st := by
  simpa only [if_pos h] using jumpIfFalse (a := a) t
theorem jumpIfFalse_jump {a} (t : Nat) (h : ¬ truthy a = true) : Goes ctx (.jumpIfFalse t) p (a :: st) t st := by
  simpa only [if_neg h] using jumpIfFalse (a := a) t
theorem jumpIfFalseOrPop_go {a} (t : Nat) (h : truthy a = true) : Goes ctx (.jumpIfFalseOrPop t) p (a :: st) (p + 1) st := by
  intro _ _ _; simp only [MJ.Vm.step, h, if_true]
theorem jumpIfFalseOrPop_jump {a} (t : Nat) (h : ¬ truthy a = true) : Goes ctx (.jumpIfFalseOrPop t) p (a :: st) t (a :: st) := by
  intro _ _ _; simp only [MJ.Vm.step, h]; rfl
theorem jumpIfTrueOrPop_go {a} (t : Nat) (h : ¬ truthy a = true) : Goes ctx (.jumpIfTrueOrPop t) p (a :: st) (p + 1) st := by
  intro _ _ _; simp only [MJ.Vm.step, h]; rfl
theorem jumpIfTrueOrPop_jump {a} (t : Nat) (h : truthy a = true) : Goes ctx (.jumpIfTrueOrPop t) p (a :: st) t (a :: st) := by
  intro _ _ _; simp only [MJ.Vm.step, h, if_true]
theorem neg {a v} (h : negVal a = .ok v) : Goes ctx .neg p (a :: st) (p + 1) (v :: st) := by
  intro _ _ _; simp only [MJ.Vm.step, h, Except.map]
theorem getAttr {a v name} (h : getAttr a name = .ok v) : Goes ctx (.getAttr name) p (a :: st) (p + 1) (v :: st) := by
  intro _ _ _; simp only [MJ.Vm.step, h, Except.map]
theorem getItem {a b v} (h : getItem b a = .ok v) : Goes ctx .getItem p (a :: b :: st) (p + 1) (v :: st) := by
  intro _ _ _; simp only [MJ.Vm.step, h, Except.map]
theorem binInstr {op a b v} (h1 : op ≠ .and) (h2 : op ≠ .or) (h : binVal op a b = .ok v) :
    Goes ctx (binInstr op) p (b :: a :: st) (p + 1) (v :: st) := by
  intro _ _ _; rw [step_binInstr h1 h2 rfl, h]; rfl
theorem compareAndPreserve {op a b r} (h : compareOp op a b = .ok r) :
    Goes ctx (.compareAndPreserve op) p (b :: a :: st) (p + 1) (.bool r :: b :: st) := by
  intro _ _ _; simp only [MJ.Vm.step, h, Except.map]
theorem buildList {vs : List Val} : Goes ctx (.buildList (some vs.length)) p (vs.reverse ++ st) (p + 1) (.list vs :: st) := by
  intro _ _ _; simp only [MJ.Vm.step, popN_append]
theorem buildList_counted {vs : List Val} :
    Goes ctx (.buildList none) p (.int vs.length :: (vs.reverse ++ st)) (p + 1) (.list vs :: st) := by
  intro _ _ _; simp only [MJ.Vm.step, Int.toNat_natCast, popN_append]
theorem buildMap {ps : List (Val × Val)} {m} (h : insertPairs ps [] = .ok m) :
    Goes ctx (.buildMap ps.length) p ((flat ps).reverse ++ st) (p + 1) (.map m :: st) := by
  intro _ _ _
  have hpop := popN_append (flat ps) st
  rw [flat_length] at hpop
  simp only [MJ.Vm.step, hpop, MJ.Vm.buildMap, pairUp_flat, h, Except.map]
theorem buildKwargs {kw : List (String × Val)} {m} (h : insertPairs (kw.map fun p => (Val.str p.1, p.2)) [] = .ok m) :
    Goes ctx (.buildKwargs kw.length) p ((flatKw kw).reverse ++ st) (p + 1) (.kwargs m :: st) := by
  intro _ _ _
  have hpop := popN_append (flatKw kw) st
  rw [flatKw_length] at hpop
  simp only [MJ.Vm.step, hpop, pairUp_flatKw, h, Except.map]
theorem applyFilter {name x args v id} (h : applyFilter name x args = .ok v) :
    Goes ctx (.applyFilter name (1 + args.length) id) p (args.reverse ++ x :: st) (p + 1) (v :: st) := by
  intro _ _ _; simp only [MJ.Vm.step, popN_operand, h, Except.map]
theorem performTest {name x args b id} (h : applyTest name x args = .ok b) :
    Goes ctx (.performTest name (1 + args.length) id) p (args.reverse ++ x :: st) (p + 1) (.bool b :: st) := by
  intro _ _ _; simp only [MJ.Vm.step, popN_operand, h, Except.map]

end Goes

section
variable {ctx : Scope} {s : VmState}

theorem step_emitRaw (t : String) :
    MJ.Vm.step ctx (.emitRaw t) s = .ok { s with pc := s.pc + 1, outs := appendOut t s.outs } := rfl
theorem step_emit {v rest} (h : s.stack = v :: rest) :
    MJ.Vm.step ctx .emit s = .ok { s with pc := s.pc + 1, stack := rest, outs := appendOut (render v) s.outs } := by
  simp only [MJ.Vm.step, h]
theorem step_storeLocal {x v rest} (h : s.stack = v :: rest) :
    MJ.Vm.step ctx (.storeLocal x) s = .ok { s with pc := s.pc + 1, stack := rest, frames := storeLocal x v s.frames, closures := storeClosure x v s.frames s.closures } := by
  simp only [MJ.Vm.step, h]
theorem step_unpackList {n v rest xs} (h : s.stack = v :: rest)
    (hv : v = .list xs ∨ ∃ kvs, v = .map kvs ∧ xs = kvs.map fun kv => Val.str kv.1) (hn : xs.length = n) :
    MJ.Vm.step ctx (.unpackList n) s = .ok { s with pc := s.pc + 1, stack := xs ++ rest } := by
  rcases hv with rfl | ⟨kvs, rfl, rfl⟩ <;> simp only [MJ.Vm.step, h, hn, if_true]
theorem step_pushLoop {flags a rest xs} (h : s.stack = a :: rest) (hx : iterate a = .ok xs) :
    MJ.Vm.step ctx (.pushLoop flags) s = .ok { s with
      pc := s.pc + 1, stack := rest,
      frames := { locals := [], loop := some { withLoopVar := flags % 2 == 1, len := if isSized a then some xs.length else none,
                                               calls := 0, iterated := false, prev := none, cur := none, rest := xs } } :: s.frames } := by
  simp only [MJ.Vm.step, h, hx, Except.map]
theorem step_pushWith : MJ.Vm.step ctx .pushWith s = .ok { s with pc := s.pc + 1, frames := {} :: s.frames } := rfl
theorem step_iterate_next {t x frames} (h : nextLoopItem s.frames = some (x, frames)) :
    MJ.Vm.step ctx (.iterate t) s = .ok { s with pc := s.pc + 1, stack := x :: s.stack, frames := frames } := by
  simp only [MJ.Vm.step, h]
theorem step_iterate_done {t} (h : nextLoopItem s.frames = none) :
    MJ.Vm.step ctx (.iterate t) s = .ok { s with pc := t } := by
  simp only [MJ.Vm.step, h]
/-- `Iterate` when the loop frame is the innermost one -/
theorem step_iterate_top_done {t f0 fs l} (hfr : s.frames = f0 :: fs) (hl : f0.loop = some l) (hr : l.rest = []) :
    MJ.Vm.step ctx (.iterate t) s = .ok { s with pc := t } :=
  step_iterate_done (by simp [nextLoopItem, hfr, hl, hr])
theorem step_iterate_top_next {t f0 fs l x xs} (hfr : s.frames = f0 :: fs) (hl : f0.loop = some l) (hr : l.rest = x :: xs) :
    MJ.Vm.step ctx (.iterate t) s = .ok { s with
      pc := s.pc + 1, stack := x :: s.stack,
      frames := { f0 with locals := [], closure := none,
                          loop := some { l with calls := l.calls + 1, iterated := true, prev := l.cur, cur := some x, rest := xs } } :: fs } :=
  step_iterate_next (by simp [nextLoopItem, hfr, hl, hr])
theorem step_pushDidNotIterate {l} (h : currentLoop s.frames = some l) :
    MJ.Vm.step ctx .pushDidNotIterate s = .ok { s with pc := s.pc + 1, stack := .bool (!l.iterated) :: s.stack } := by
  simp only [MJ.Vm.step, h]
theorem step_popFrame : MJ.Vm.step ctx .popFrame s = .ok { s with pc := s.pc + 1, frames := s.frames.tail } := rfl
theorem step_popLoopFrame : MJ.Vm.step ctx .popLoopFrame s = .ok { s with pc := s.pc + 1, frames := s.frames.tail } := rfl
theorem step_beginCapture : MJ.Vm.step ctx .beginCapture s = .ok { s with pc := s.pc + 1, outs := "" :: s.outs } := rfl
theorem step_endCapture {o r rest} (h : s.outs = o :: r :: rest) :
    MJ.Vm.step ctx .endCapture s = .ok { s with pc := s.pc + 1, outs := r :: rest, stack := .str o :: s.stack } := by
  simp only [MJ.Vm.step, h]
/-- `Enclose` when the closure of the innermost frame is `cls1[c]` (`cls1` = the closures, with a fresh
empty one appended if the frame had none) -/
theorem step_enclose {ctx : Scope} {x : String} {s : VmState} {f : Frame} {rest : List Frame} {c : Nat} {cls1 : List Scope}
    {m : Scope} (hfr : s.frames = f :: rest)
    (hc : (f.closure = some c ∧ cls1 = s.closures) ∨ (f.closure = none ∧ c = s.closures.length ∧ cls1 = s.closures ++ [[]]))
    (hm : cls1[c]? = some m) :
    MJ.Vm.step ctx (.enclose x) s = .ok (if (assocGet x m).isSome = true
      then { s with pc := s.pc + 1, frames := { f with closure := some c } :: rest, closures := cls1 }
      else { s with pc := s.pc + 1, frames := { f with closure := some c } :: rest,
                    closures := cls1.set c (assocSet x (lookupFrames ctx cls1 x ({ f with closure := some c } :: rest)) m) }) := by
  rcases hc with ⟨hcl, rfl⟩ | ⟨hcl, rfl, rfl⟩
  · simp only [MJ.Vm.step, encloseStep, hfr, hcl, Option.getD_some, hm]
    split <;> rfl
  · simp only [MJ.Vm.step, encloseStep, hfr, hcl, Option.getD_none, hm]
    split <;> rfl
theorem step_getClosure : MJ.Vm.step ctx .getClosure s =
    .ok { s with pc := s.pc + 1, stack := (match topClosure s.frames with | some c => .int c | none => .undef) :: s.stack } := rfl
theorem step_buildMacro {name offset flags spec cl rest} (h : s.stack = .list spec :: cl :: rest) :
    MJ.Vm.step ctx (.buildMacro name offset flags) s =
      .ok { s with pc := s.pc + 1, stack := .vmMacro name (specNames spec) offset (closureOf cl) (flags / 2 % 2 == 1) :: rest } := by
  simp only [MJ.Vm.step, h]

end

theorem specNames_str (ps : List String) : specNames (ps.map Val.str) = ps := by
  unfold specNames
  induction ps with
  | nil => rfl
  | cons p rest ih => simp [ih]

end MJ.Vm
