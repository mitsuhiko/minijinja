import MJ.Proofs.JsonNum
/-!
# The digits printed for a finite double lie in its rounding interval (C16)

`shortestDec` searches, in exact integer arithmetic, for the decimal `d·10^k` with the largest `k` inside the
double's rounding interval.  The candidate bounds at a power are exact (`inInterval_iff`).  Three steps: whenever
the search stops at a candidate (`f64Found`), the decimal it returns lies in the interval, open or closed exactly
as round-to-nearest-even makes it (`shortestDec_reads_back`); the search does stop at a candidate for every
finite non-zero double (`f64Found_all`: at 10^-325 the interval is wider than three units, so it holds an
integer, and the search reaches that power within its 800 steps); ryu's layout of the digits (`layoutF`, five
cases, each a `numTok`) is a JSON number token (`tokOK_f64Text`) that an independent digit-by-digit reader
(`readTok`) evaluates to `d·10^k` (`readTok_layout`).  Together: `f64Text_denotes`.
-/
namespace MJ.Json

theorem ceilDiv_le_iff (x b d : Nat) (hb : 0 < b) : ceilDiv x b ≤ d ↔ x ≤ d * b := by
  unfold ceilDiv
  rw [← Nat.lt_succ_iff, Nat.div_lt_iff_lt_mul hb, Nat.succ_mul]
  omega

theorem eq_mul_of_mod_eq_zero {x b : Nat} (h : x % b = 0) : ∃ c, x = c * b :=
  ⟨x / b, by have := Nat.div_add_mod x b; rw [h] at this; rw [Nat.mul_comm]; omega⟩

/-- the lower bound with its end point excluded: one more when the end point is hit exactly -/
theorem lowerOpen_le_iff (x b d : Nat) (hb : 0 < b) :
    (if x % b = 0 then ceilDiv x b + 1 else ceilDiv x b) ≤ d ↔ x < d * b := by
  by_cases hz : x % b = 0
  · rw [if_pos hz]
    obtain ⟨c, rfl⟩ := eq_mul_of_mod_eq_zero hz
    have hc : ceilDiv (c * b) b = c :=
      Nat.le_antisymm ((ceilDiv_le_iff _ _ _ hb).mpr (Nat.le_refl _))
        (Nat.le_of_mul_le_mul_right ((ceilDiv_le_iff _ _ _ hb).mp (Nat.le_refl _)) hb)
    rw [hc]
    exact ⟨fun h => Nat.mul_lt_mul_of_pos_right h hb, fun h => Nat.lt_of_mul_lt_mul_right h⟩
  · rw [if_neg hz, ceilDiv_le_iff _ _ _ hb]
    exact ⟨fun h => Nat.lt_of_le_of_ne h fun e => hz (e ▸ Nat.mul_mod_left d b), Nat.le_of_lt⟩

/-- the upper bound with its end point excluded (`1 ≤ d`: at `x = 0` the subtraction is cut off) -/
theorem le_upperOpen_iff (x b d : Nat) (hb : 0 < b) (hd : 1 ≤ d) :
    d ≤ (if x % b = 0 then x / b - 1 else x / b) ↔ d * b < x := by
  by_cases hz : x % b = 0
  · rw [if_pos hz]
    obtain ⟨c, rfl⟩ := eq_mul_of_mod_eq_zero hz
    rw [Nat.mul_div_cancel _ hb]
    exact ⟨fun h => Nat.mul_lt_mul_of_pos_right (by omega) hb, fun h => by have := Nat.lt_of_mul_lt_mul_right h; omega⟩
  · rw [if_neg hz, Nat.le_div_iff_mul_le hb]
    exact ⟨fun h => Nat.lt_of_le_of_ne h fun e => hz (e ▸ Nat.mul_mod_left d b), Nat.le_of_lt⟩

/-- the bounds `decCandidates` computes at the power `10^k` are exact: `d` lies between them iff `d·10^k` lies in
the interval.  From right to left this is why the digits found read back; from left to right, an integer inside
the interval shows that the search stops there. -/
theorem inInterval_iff (lo v hi den : Nat) (closed : Bool) (k : Int) (d : Nat) (hden : 0 < den) (hd : 1 ≤ d) :
    InInterval lo hi den closed d k ↔
      (decCandidates lo v hi den closed k).1 ≤ d ∧ d ≤ (decCandidates lo v hi den closed k).2.1 := by
  unfold InInterval decCandidates
  simp only
  generalize (if k < 0 then 10 ^ k.natAbs else 1 : Nat) = a
  generalize hb : den * (if k < 0 then 1 else 10 ^ k.natAbs : Nat) = b
  have hbpos : 0 < b := by
    rw [← hb]; apply Nat.mul_pos hden; split <;> first | exact Nat.one_pos | exact Nat.pow_pos (by decide)
  cases closed with
  | true =>
    simp only [Bool.not_true, Bool.false_and, if_true, Bool.false_eq_true, if_false]
    rw [ceilDiv_le_iff _ _ _ hbpos, Nat.le_div_iff_mul_le hbpos]
  | false =>
    simp only [Bool.not_false, Bool.true_and, decide_eq_true_eq, Bool.false_eq_true, if_false]
    rw [lowerOpen_le_iff _ _ _ hbpos, le_upperOpen_iff _ _ _ hbpos hd]

/-- the power `10^k` has a candidate: what makes the search stop at `k` -/
abbrev candAt (lo v hi den : Nat) (closed : Bool) (k : Int) : Prop :=
  (decCandidates lo v hi den closed k).1 ≤ (decCandidates lo v hi den closed k).2.1 ∧
    1 ≤ (decCandidates lo v hi den closed k).2.1

theorem shortestFrom_in_interval (lo v hi den : Nat) (closed : Bool) (hden : 0 < den) :
    ∀ (fuel : Nat) (k : Int), shortestFound lo v hi den closed fuel k = true →
      InInterval lo hi den closed (shortestFrom lo v hi den closed fuel k).1 (shortestFrom lo v hi den closed fuel k).2 := by
  intro fuel
  induction fuel with
  | zero => intro k h; simp [shortestFound] at h
  | succ n ih =>
    intro k h
    unfold shortestFound at h
    unfold shortestFrom
    simp only at h ⊢
    by_cases hc : candAt lo v hi den closed k
    · rw [if_pos hc]
      simp only
      refine (inInterval_iff lo v hi den closed k _ hden ?_).mpr ⟨?_, ?_⟩
      · exact Nat.le_max_left _ _
      · apply Nat.le_trans _ (Nat.le_max_right 1 _)
        split
        · exact Nat.le_refl _
        · split <;> omega
      · apply Nat.max_le.mpr
        refine ⟨hc.2, ?_⟩
        split
        · exact hc.1
        · split <;> omega
    · rw [if_neg hc] at h ⊢
      exact ih (k - 1) h

theorem shortestDec_eq (bits : Nat) :
    shortestDec bits = shortestFrom (f64Interval bits).lo (f64Interval bits).v (f64Interval bits).hi
      (f64Interval bits).den (f64Interval bits).closed 800 (f64Interval bits).kStart := rfl

theorem f64Interval_den_pos (bits : Nat) : 0 < (f64Interval bits).den := by
  have key : ∀ (c : Prop) [Decidable c] (n : Nat), 0 < (if c then 2 ^ n else 1) := by
    intro c _ n
    split
    · exact Nat.pow_pos (by decide)
    · exact Nat.one_pos
  exact key _ _

theorem shortestDec_reads_back (bits : Nat) (h : f64Found bits = true) :
    ReadsBack bits (shortestDec bits).1 (shortestDec bits).2 := by
  rw [shortestDec_eq]
  exact shortestFrom_in_interval _ _ _ _ _ (f64Interval_den_pos bits) 800 _ h

theorem found_of_candidate (lo v hi den : Nat) (closed : Bool) :
    ∀ (fuel : Nat) (k : Int) (j : Nat), j < fuel → candAt lo v hi den closed (k - j) →
      shortestFound lo v hi den closed fuel k = true := by
  intro fuel
  induction fuel with
  | zero => intro k j h; omega
  | succ n ih =>
    intro k j hj hc
    unfold shortestFound
    simp only
    by_cases h0 : candAt lo v hi den closed k
    · rw [if_pos h0]
    · rw [if_neg h0]
      cases j with
      | zero => exfalso; apply h0; simpa [candAt] using hc
      | succ j' =>
        apply ih (k - 1) j' (by omega)
        have : k - 1 - (j' : Int) = k - ((j' + 1 : Nat) : Int) := by omega
        rw [this]; exact hc

/-- a wide enough interval has a candidate at a negative power: `⌊lo/den⌋ + 1` lies strictly inside -/
theorem cand_of_wide (lo v hi den : Nat) (closed : Bool) (k : Int) (hk : k < 0) (hden : 0 < den)
    (hw : lo * 10 ^ k.natAbs + 3 * den ≤ hi * 10 ^ k.natAbs) : candAt lo v hi den closed k := by
  have hin : InInterval lo hi den closed (lo * 10 ^ k.natAbs / den + 1) k := by
    unfold InInterval
    simp only [hk, if_true, Nat.mul_one]
    generalize lo * 10 ^ k.natAbs = L at hw ⊢
    have h1 := Nat.div_add_mod L den
    have h2 := Nat.mod_lt L hden
    have h3 : (L / den + 1) * den = den * (L / den) + den := by rw [Nat.add_mul, Nat.one_mul, Nat.mul_comm]
    split <;> omega
  obtain ⟨h1, h2⟩ := (inInterval_iff lo v hi den closed k _ hden (Nat.le_add_left 1 _)).mp hin
  exact ⟨Nat.le_trans h1 h2, Nat.le_trans (Nat.le_add_left 1 _) h2⟩

theorem pow2_le_pow10 (n : Nat) (h : n ≤ 1076) : 2 ^ n ≤ 10 ^ 325 :=
  Nat.le_trans (Nat.pow_le_pow_right (by decide) h) (by decide +kernel)

/-- the digit search stops at a candidate for every finite non-zero double: at the power 10^-325 the rounding
interval is wider than three units, and the search, which starts at a power of at most 10^310 (`hk2` bounds it by
400), reaches it within its 800 steps -/
theorem f64Found_all (bits : Nat) (hfin : f64Finite bits = true)
    (hnz : bits % 9223372036854775808 ≠ 0) : f64Found bits = true := by
  replace hfin : bits / 4503599627370496 % 2048 ≠ 2047 := by simpa [f64Finite] using hfin
  replace hnz : bits / 4503599627370496 % 2048 ≠ 0 ∨ bits % 4503599627370496 ≠ 0 := by omega
  unfold f64Found f64Interval
  simp only
  generalize hef : bits / 4503599627370496 % 2048 = ef at hfin hnz ⊢
  generalize hmf : bits % 4503599627370496 = mf at hnz ⊢
  have hef2 : ef < 2048 := by rw [← hef]; exact Nat.mod_lt _ (by decide)
  clear hef hmf
  generalize he2 : ((if ef = 0 then 1 else (ef : Int)) - 1075 - 2 : Int) = e2
  have he2lo : -1076 ≤ e2 := by rw [← he2]; split <;> omega
  have he2hi : e2 ≤ 969 := by rw [← he2]; split <;> omega
  generalize hm : (if ef = 0 then mf else 4503599627370496 + mf) = m
  have hm1 : 1 ≤ m := by rw [← hm]; split <;> omega
  have hk1 : -325 ≤ (e2 + 56) * 30103 / 100000 + 2 := by omega
  have hk2 : (e2 + 56) * 30103 / 100000 + 2 ≤ 400 := by omega
  apply found_of_candidate _ _ _ _ _ 800 _ (((e2 + 56) * 30103 / 100000 + 2 + 325).toNat) (by omega)
  have hk : (e2 + 56) * 30103 / 100000 + 2 - ((((e2 + 56) * 30103 / 100000 + 2 + 325).toNat : Nat) : Int) = -325 := by
    omega
  rw [hk]
  have hden : 0 < (if e2 < 0 then 2 ^ e2.natAbs else 1 : Nat) := by
    split
    · exact Nat.pow_pos (by decide)
    · exact Nat.one_pos
  apply cand_of_wide _ _ _ _ _ (-325) (by decide) hden
  show _ * 10 ^ 325 + _ ≤ _ * 10 ^ 325
  have hdle : (if e2 < 0 then 2 ^ e2.natAbs else 1 : Nat) ≤ 10 ^ 325 := by
    split
    · exact pow2_le_pow10 _ (by omega)
    · exact Nat.one_le_pow _ _ (by decide)
  have hnum : 1 ≤ (if e2 < 0 then 1 else 2 ^ e2.natAbs : Nat) := by
    split
    · exact Nat.le_refl _
    · exact Nat.pow_pos (by decide)
  generalize (if e2 < 0 then 2 ^ e2.natAbs else 1 : Nat) = den at hdle hden ⊢
  generalize (if e2 < 0 then 1 else 2 ^ e2.natAbs : Nat) = num at hnum ⊢
  generalize (10 : Nat) ^ 325 = A at hdle ⊢
  -- (4m + 2)·num·A ≥ (4m − c)·num·A + 3·den with c ∈ {1, 2}
  have h1 : (4 * m - (if mf = 0 ∧ 1 < ef then 1 else 2)) + 3 ≤ 4 * m + 2 := by split <;> omega
  have h2 : ((4 * m - (if mf = 0 ∧ 1 < ef then 1 else 2)) + 3) * num * A ≤ (4 * m + 2) * num * A :=
    Nat.mul_le_mul_right _ (Nat.mul_le_mul_right _ h1)
  have h3 : 3 * den ≤ 3 * num * A := by
    calc 3 * den ≤ 3 * A := Nat.mul_le_mul_left _ hdle
      _ = 3 * 1 * A := by rw [Nat.mul_one]
      _ ≤ 3 * num * A := Nat.mul_le_mul_right _ (Nat.mul_le_mul_left _ hnum)
  rw [Nat.add_mul, Nat.add_mul] at h2
  omega

theorem shortestDec_reads_back_all (bits : Nat) (hfin : f64Finite bits = true)
    (hnz : bits % 9223372036854775808 ≠ 0) : ReadsBack bits (shortestDec bits).1 (shortestDec bits).2 :=
  shortestDec_reads_back bits (f64Found_all bits hfin hnz)

theorem shortestFrom_pos (lo v hi den : Nat) (closed : Bool) (fuel : Nat) (k : Int) :
    1 ≤ (shortestFrom lo v hi den closed fuel k).1 := by
  induction fuel generalizing k with
  | zero => simp [shortestFrom]
  | succ f ih =>
    simp only [shortestFrom]
    split
    · exact Nat.le_max_left 1 _
    · exact ih (k - 1)

theorem shortestDec_pos (bits : Nat) : 1 ≤ (shortestDec bits).1 := by
  unfold shortestDec
  exact shortestFrom_pos _ _ _ _ _ _ _

theorem f64Text_eq (bits : Nat) : f64Text bits =
    if bits % 9223372036854775808 = 0 then (if bits / 9223372036854775808 % 2 = 1 then ['-'] else []) ++ ['0', '.', '0']
    else layoutF (if bits / 9223372036854775808 % 2 = 1 then ['-'] else []) (natDigits (shortestDec bits).1)
      (shortestDec bits).2 := rfl

/-- ryu's layout of the digits `natDigits d` with exponent `k` is a token that denotes `d·10^k` -/
theorem readTok_layout (d : Nat) (k : Int) :
    sameDec (readTok (layoutF [] (natDigits d) k)).1 (readTok (layoutF [] (natDigits d) k)).2 d k := by
  obtain ⟨ip, fp, ex, e, hi, hf, _, hval⟩ := layoutF_tok (natDigits d) k (allDig_natDigits d) (natDigits_ne_nil d)
  rw [e [], List.nil_append, readTok_numTok ip fp ex hi hf]
  rwa [natOfDigits_natDigits] at hval

/-- the text printed for a float: the sign and a token whose parts denote the digits found (zero for ±0) -/
theorem f64Text_tok (bits : Nat) :
    ∃ ip fp ex, f64Text bits = (if bits / 9223372036854775808 % 2 = 1 then ['-'] else []) ++ numTok ip fp ex ∧
      IntPart ip ∧ AllDig ip ∧ AllDig fp ∧
      if bits % 9223372036854775808 = 0 then natOfDigits (ip ++ fp) = 0
      else sameDec (natOfDigits (ip ++ fp)) (ex.getD 0 - (fp.length : Int)) (shortestDec bits).1 (shortestDec bits).2 := by
  rw [f64Text_eq]
  by_cases hz : bits % 9223372036854775808 = 0
  · simp only [if_pos hz]
    exact ⟨['0'], ['0'], none, rfl, ⟨'0', [], rfl, fun _ => rfl⟩, allDig_zero, allDig_zero, by decide⟩
  · simp only [if_neg hz]
    obtain ⟨ip, fp, ex, e, hi, hf, hip, hval⟩ := layoutF_tok (natDigits (shortestDec bits).1) (shortestDec bits).2
      (allDig_natDigits _) (natDigits_ne_nil _)
    rw [natOfDigits_natDigits] at hval
    -- the digits of a positive number have no leading zero
    obtain ⟨_, d, ds', hd, _, hnz⟩ := natDigits_spec (shortestDec bits).1
    exact ⟨ip, fp, ex, e _, hip (by rw [hd]; simpa using hnz (shortestDec_pos bits)), hi, hf, hval⟩

/-- the text printed for a float is a JSON number token the reader takes back unchanged -/
theorem tokOK_f64Text (bits : Nat) : tokOK (f64Text bits) := by
  obtain ⟨ip, fp, ex, e, hip, hi, hf, _⟩ := f64Text_tok bits
  rw [e]
  simpa using tokOK_numTok (decide (bits / 9223372036854775808 % 2 = 1)) ip fp ex hip hi hf

/-- **the printed float token denotes the same double**: the token is the double's sign followed by a body
which, read digit by digit (integer part, fraction, exponent), denotes a decimal inside the double's rounding
interval (or zero for ±0) -/
theorem f64Text_denotes (bits : Nat) (hfin : f64Finite bits = true) :
    ∃ body, f64Text bits = (if bits / 9223372036854775808 % 2 = 1 then ['-'] else []) ++ body ∧
      ((bits % 9223372036854775808 ≠ 0 ∧
          ∃ d k, sameDec (readTok body).1 (readTok body).2 d k ∧ ReadsBack bits d k) ∨
        (bits % 9223372036854775808 = 0 ∧ (readTok body).1 = 0)) := by
  obtain ⟨ip, fp, ex, e, _, hi, hf, h⟩ := f64Text_tok bits
  refine ⟨_, e, ?_⟩
  rw [readTok_numTok ip fp ex hi hf]
  by_cases hz : bits % 9223372036854775808 = 0
  · exact Or.inr ⟨hz, by simpa [hz] using h⟩
  · exact Or.inl ⟨hz, _, _, by simpa [hz] using h, shortestDec_reads_back_all bits hfin hz⟩

/-- every correctly rounded reader reads the token printed for a finite double as that double -/
theorem float_token_reads_back (readNumber : List Char → Option Nat) (hr : CorrectlyRounded readNumber)
    (bits : Nat) (hb : bits < 18446744073709551616) (hfin : f64Finite bits = true) :
    readNumber (f64Text bits) = some bits := by
  obtain ⟨body, ht, h⟩ := f64Text_denotes bits hfin
  rw [ht]
  exact hr bits body hb hfin h

end MJ.Json
