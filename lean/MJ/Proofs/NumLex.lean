import MJ.Model.NumLex
/-! An integer literal, as the scanner of `eat_number` sees it, is a run of characters that continue a
number of its radix (`cont`) before the end of the input or a terminator (`Ends`): `scan_items`
(the loop takes exactly that run and keeps its state), `detectRadix_dec` (a decimal run shows no
radix prefix).  `from_str_radix` reads the canonical digits of `v`, after any leading zeros, as `v`
(`fromStrRadix_spelling`). -/
namespace MJ.NumLex

/-- characters that keep an integer literal of the given radix going -/
def cont (radix : Nat) (c : Char) : Bool :=
  isDigit c || (radix == 16 && isHexLetter c) || c == '_'

/-- a character at which every number ends: not a digit, letter, `_` or `.` (operators, brackets,
    whitespace, quotes, …) -/
def isTerm (c : Char) : Bool := !(isDigit c || c.isAlpha || c == '_' || c == '.')

/-- the input after the literal: nothing, or something starting with a terminator -/
def Ends (rest : List Char) : Prop := rest = [] ∨ ∃ c cs, rest = c :: cs ∧ isTerm c = true

theorem ne_of_isDigit {c d : Char} (h : isDigit c = true) (hd : isDigit d = false) : c ≠ d := by
  rintro rfl; rw [h] at hd; cases hd

theorem isHexLetter_cases {c : Char} (h : isHexLetter c = true) :
    c = 'a' ∨ c = 'b' ∨ c = 'c' ∨ c = 'd' ∨ c = 'e' ∨ c = 'f' ∨
    c = 'A' ∨ c = 'B' ∨ c = 'C' ∨ c = 'D' ∨ c = 'E' ∨ c = 'F' := by
  simpa [isHexLetter, or_assoc] using h

theorem isAlpha_of_hexLetter {c : Char} (h : isHexLetter c = true) : c.isAlpha = true := by
  rcases isHexLetter_cases h with h | h | h | h | h | h | h | h | h | h | h | h <;> subst h <;> decide

/-- a digit is none of `.`, `E`, `e`, which the arms before the digit arms look for -/
theorem step_digit (radix : Nat) {st : St} (hst : st = .integer ∨ st = .radixInteger) {c : Char}
    (h : isDigit c = true) (after : List Char) : step radix st c after = some st := by
  have h1 := ne_of_isDigit h (d := '.') (by decide)
  have h2 := ne_of_isDigit h (d := 'E') (by decide)
  have h3 := ne_of_isDigit h (d := 'e') (by decide)
  rcases hst with rfl | rfl <;> simp [step, h, h1, h2, h3]

theorem step_underscore (radix : Nat) {st : St} (hst : st = .integer ∨ st = .radixInteger)
    (after : List Char) : step radix st '_' after = some st := by
  rcases hst with rfl | rfl <;> simp [step, isDigit, isHexLetter]

/-- in the state `RadixInteger` every earlier arm asks for another state, or for a digit, which
    keeps the state as well -/
theorem step_hexLetter {c : Char} (h : isHexLetter c = true) (after : List Char) :
    step 16 .radixInteger c after = some .radixInteger := by
  by_cases hd : isDigit c = true <;> simp [step, h, hd]

theorem step_cont {radix : Nat} {st : St}
    (hst : (radix = 10 ∧ st = .integer) ∨ st = .radixInteger) {c : Char} (h : cont radix c = true)
    (after : List Char) : step radix st c after = some st := by
  have hst' : st = .integer ∨ st = .radixInteger := hst.imp And.right id
  simp only [cont, Bool.or_eq_true, Bool.and_eq_true, beq_iff_eq] at h
  rcases h with (h | ⟨hr, h⟩) | h
  · exact step_digit radix hst' h after
  · subst hr
    rcases hst with ⟨h10, _⟩ | rfl
    · omega
    · exact step_hexLetter h after
  · subst h
    exact step_underscore radix hst' after

theorem step_term (radix : Nat) {st : St} (hst : st = .integer ∨ st = .radixInteger) {c : Char}
    (h : isTerm c = true) (after : List Char) : step radix st c after = none := by
  simp only [isTerm, Bool.not_eq_true', Bool.or_eq_false_iff, beq_eq_false_iff_ne, ne_eq] at h
  obtain ⟨⟨⟨hd, ha⟩, hu⟩, hdot⟩ := h
  have hE : c ≠ 'E' := by rintro rfl; exact absurd ha (by decide)
  have he : c ≠ 'e' := by rintro rfl; exact absurd ha (by decide)
  have hhex : isHexLetter c = false := by
    cases hh : isHexLetter c with
    | false => rfl
    | true => rw [isAlpha_of_hexLetter hh] at ha; cases ha
  rcases hst with rfl | rfl <;> simp [step, hd, hu, hdot, hE, he, hhex]

theorem scan_items {radix : Nat} {st : St}
    (hst : (radix = 10 ∧ st = .integer) ∨ st = .radixInteger) (items rest : List Char)
    (hitems : ∀ c ∈ items, cont radix c = true) (hrest : Ends rest) :
    scan radix st (items ++ rest) = (items, st, rest) := by
  have hst' : st = .integer ∨ st = .radixInteger := hst.imp And.right id
  induction items with
  | nil =>
    rcases hrest with rfl | ⟨c, cs, rfl, hc⟩
    · simp [scan]
    · simp [scan, step_term radix hst' hc]
  | cons c cs ih =>
    have hc := hitems c (List.mem_cons_self ..)
    have ih' := ih (fun x hx => hitems x (List.mem_cons_of_mem _ hx))
    simp only [List.cons_append, scan, step_cont hst hc, ih']

theorem not_radixLetter {p : Char} (h : cont 10 p = true ∨ isTerm p = true) :
    ¬ (p = 'b' ∨ p = 'B') ∧ ¬ (p = 'o' ∨ p = 'O') ∧ ¬ (p = 'x' ∨ p = 'X') := by
  refine ⟨?_, ?_, ?_⟩ <;> rintro (rfl | rfl) <;> revert h <;> decide

/-- no radix prefix is detected in front of a decimal run: a leading `0` is followed by a digit, `_`, a
    terminator or nothing, and a terminator is not `0` -/
theorem detectRadix_dec {items rest : List Char} (hitems : ∀ c ∈ items, cont 10 c = true)
    (hrest : Ends rest) : detectRadix (items ++ rest) = (10, items ++ rest) := by
  unfold detectRadix
  split
  · next p tl heq =>
    have hp : cont 10 p = true ∨ isTerm p = true := by
      match items, hitems, heq with
      | [], _, heq =>
        rcases hrest with rfl | ⟨c, cs, rfl, hc⟩
        · cases heq
        · injection heq with h1 _; subst h1; exact absurd hc (by decide)
      | [_], _, heq =>
        rcases hrest with rfl | ⟨c, cs, rfl, hc⟩
        · cases heq
        · injection heq with _ h2; injection h2 with h2 _; subst h2; exact Or.inr hc
      | _ :: x :: _, hitems, heq =>
        injection heq with _ h2; injection h2 with h2 _; subst h2
        exact Or.inl (hitems _ (List.mem_cons_of_mem _ (List.mem_cons_self ..)))
    obtain ⟨hb, ho, hx⟩ := not_radixLetter hp
    rw [if_neg hb, if_neg ho, if_neg hx, heq]
  · rfl

theorem digit36_digitChar : ∀ d : Fin 16, digit36 (Nat.digitChar d.val) = some d.val := by decide

theorem digitVal_digitChar {radix d : Nat} (hr : radix ≤ 16) (hd : d < radix) :
    digitVal radix (Nat.digitChar d) = some d := by
  have := digit36_digitChar ⟨d, by omega⟩
  simp only [] at this
  simp [digitVal, this, hd]

theorem parseDigits_append_single (radix : Nat) (xs : List Char) (c : Char) (acc : Nat) :
    parseDigits radix acc (xs ++ [c]) =
      match parseDigits radix acc xs with
      | none => none
      | some a =>
        match digitVal radix c with
        | none => none
        | some d => some (a * radix + d) := by
  induction xs generalizing acc with
  | nil =>
    simp only [List.nil_append, parseDigits]
    cases digitVal radix c <;> rfl
  | cons x xs ih =>
    simp only [List.cons_append, parseDigits]
    cases digitVal radix x with
    | none => rfl
    | some d => exact ih _

theorem parseDigits_toDigits {radix : Nat} (h2 : 2 ≤ radix) (h16 : radix ≤ 16) (v : Nat) :
    parseDigits radix 0 (Nat.toDigits radix v) = some v := by
  induction v using Nat.strongRecOn with
  | _ v ih =>
    by_cases hv : v < radix
    · rw [Nat.toDigits_of_lt_base hv]
      simp [parseDigits, digitVal_digitChar h16 hv]
    · have hq : 0 < v / radix := Nat.div_pos (by omega) (by omega)
      have hm : v % radix < radix := Nat.mod_lt _ (by omega)
      have hsplit : radix * (v / radix) + v % radix = v := Nat.div_add_mod v radix
      have happ := @Nat.toDigits_append_toDigits radix (v / radix) (v % radix) (by omega) hq hm
      rw [hsplit, Nat.toDigits_of_lt_base hm] at happ
      rw [← happ, parseDigits_append_single]
      have hlt : v / radix < v := Nat.div_lt_self (by omega) (by omega)
      rw [ih _ hlt]
      simp only [digitVal_digitChar h16 hm]
      congr 1
      rw [Nat.mul_comm]
      exact hsplit

theorem spelling_ne_nil (radix k v : Nat) : List.replicate k '0' ++ Nat.toDigits radix v ≠ [] := by
  intro h
  have := Nat.length_toDigits_pos (b := radix) (n := v)
  rw [(List.append_eq_nil_iff.1 h).2] at this
  exact Nat.lt_irrefl _ this

theorem parseDigits_zeros {radix : Nat} (h2 : 2 ≤ radix) (k : Nat) (ds : List Char) :
    parseDigits radix 0 (List.replicate k '0' ++ ds) = parseDigits radix 0 ds := by
  induction k with
  | zero => rfl
  | succ k ih =>
    have h0 : digitVal radix '0' = some 0 := by
      have : (0 : Nat) < radix := by omega
      simp [digitVal, digit36, this]
    simp only [List.replicate_succ, List.cons_append, parseDigits, h0]
    have : 0 * radix + 0 = 0 := by omega
    rw [this]
    exact ih

theorem fromStrRadix_spelling {radix : Nat} (h2 : 2 ≤ radix) (h16 : radix ≤ 16) (k v : Nat) :
    fromStrRadix radix (List.replicate k '0' ++ Nat.toDigits radix v) = some v := by
  unfold fromStrRadix
  split
  · rename_i h; exact absurd h (spelling_ne_nil radix k v)
  · rw [parseDigits_zeros h2, parseDigits_toDigits h2 h16]

end MJ.NumLex
