import MJ.Model.Json
/-! The string layer of the JSON text: alphabet of the `tojson` post-processing (characters, and bytes of
the UTF-8 encoding) and `read ∘ postprocess ∘ escape = id` for every string (C16). -/
namespace MJ.Json

/-- post-processing with an arbitrary replacement table (`[]` = none: JSON auto-escaping) -/
def postT (t : List (Char × List Char)) (s : List Char) : List Char := s.flatMap fun c => replOf c t

theorem htmlSafe_eq_postT (s : List Char) : htmlSafe s = postT MJ.Gen.tojsonReplacements s := rfl

/-- no replacement rule for this character -/
def Plain (t : List (Char × List Char)) (c : Char) : Prop := ∀ p ∈ t, p.1 ≠ c

theorem replOf_cases (c : Char) (t : List (Char × List Char)) :
    (replOf c t = [c] ∧ Plain t c) ∨ ∃ p ∈ t, p.1 = c ∧ replOf c t = p.2 := by
  induction t with
  | nil => exact Or.inl ⟨rfl, fun _ hp => absurd hp List.not_mem_nil⟩
  | cons p ps ih =>
    obtain ⟨k, r⟩ := p
    by_cases hk : k = c
    · exact Or.inr ⟨(k, r), List.mem_cons_self, hk, by simp [replOf, hk]⟩
    · rcases ih with ⟨h, hpl⟩ | ⟨q, hq, hqc, hqr⟩
      · refine Or.inl ⟨by simp [replOf, hk, h], fun q hq => ?_⟩
        rcases List.mem_cons.mp hq with rfl | hq
        · exact hk
        · exact hpl q hq
      · exact Or.inr ⟨q, List.mem_cons_of_mem _ hq, hqc, by simp [replOf, hk, hqr]⟩

theorem replOf_not_key (c : Char) (t : List (Char × List Char)) (h : Plain t c) : replOf c t = [c] := by
  rcases replOf_cases c t with h1 | ⟨p, hp, hpc, _⟩
  · exact h1.1
  · exact absurd hpc (h p hp)

theorem postT_cons (t : List (Char × List Char)) (c : Char) (s : List Char) (h : Plain t c) :
    postT t (c :: s) = c :: postT t s := by
  simp only [postT, List.flatMap_cons, replOf_not_key c t h]
  rfl

theorem postT_fixed (t : List (Char × List Char)) (s : List Char) (h : ∀ c ∈ s, Plain t c) : postT t s = s := by
  induction s with
  | nil => rfl
  | cons c cs ih =>
    rw [postT_cons t c cs (h c List.mem_cons_self), ih (fun x hx => h x (List.mem_cons_of_mem _ hx))]

theorem postT_nil (s : List Char) : postT [] s = s :=
  postT_fixed [] s (fun _ _ _ hp => absurd hp List.not_mem_nil)

theorem postT_append (t : List (Char × List Char)) (a b : List Char) : postT t (a ++ b) = postT t a ++ postT t b := by
  simp [postT, List.flatMap_append]

def forbidden : List Char := ['<', '>', '&', '\'']

def replClean (t : List (Char × List Char)) : Bool := t.all fun p => p.2.all fun c => !forbidden.contains c
def replCovers (t : List (Char × List Char)) : Bool := forbidden.all fun f => t.any fun p => p.1 == f

theorem postT_alphabet (t : List (Char × List Char)) (hclean : replClean t = true) (hcov : replCovers t = true)
    (s : List Char) (c : Char) (hc : c ∈ postT t s) : c ∉ forbidden := by
  simp only [postT, List.mem_flatMap] at hc
  obtain ⟨c0, _, hc0⟩ := hc
  rcases replOf_cases c0 t with ⟨hr, hpl⟩ | ⟨p, hp, _, hr⟩ <;> rw [hr] at hc0
  · -- `c` itself went through, so the table has no rule for it: it is not one of the covered characters
    obtain rfl := List.mem_singleton.mp hc0
    intro hf
    simp only [replCovers, List.all_eq_true, List.any_eq_true] at hcov
    obtain ⟨p, hp, hpk⟩ := hcov c hf
    exact hpl p hp (by simpa using hpk)
  · simp only [replClean, List.all_eq_true] at hclean
    simpa using hclean p hp c hc0

/-! ### alphabet of the bytes: what reaches an HTML parser is the UTF-8 encoding -/

theorem utf8EncodeChar_byte (c : Char) (b : Nat) (hb : b ∈ MJ.Serde.utf8EncodeChar c) :
    (c.toNat < 128 ∧ b = c.toNat) ∨ 128 ≤ b := by
  revert hb
  fun_cases MJ.Serde.utf8EncodeChar c <;> intro hb <;> simp at hb <;> omega

def forbiddenBytes : List Nat := [60, 62, 38, 39]

theorem forbidden_char_of_byte (c : Char) (h : c.toNat ∈ forbiddenBytes) : c ∈ forbidden := by
  simp only [forbiddenBytes, List.mem_cons, List.not_mem_nil, or_false] at h
  simp only [forbidden, List.mem_cons, List.not_mem_nil, or_false]
  rcases h with h | h | h | h
  · left; exact Char.toNat_inj.mp h
  · right; left; exact Char.toNat_inj.mp h
  · right; right; left; exact Char.toNat_inj.mp h
  · right; right; right; exact Char.toNat_inj.mp h

/-- post-processing with a clean, covering table: no byte of the UTF-8 output is one of `< > & '` -/
theorem postT_alphabet_bytes (t : List (Char × List Char)) (hclean : replClean t = true) (hcov : replCovers t = true)
    (s : List Char) (b : Nat) (hb : b ∈ MJ.Serde.utf8Encode (postT t s)) : b ∉ forbiddenBytes := by
  simp only [MJ.Serde.utf8Encode, List.mem_flatMap] at hb
  obtain ⟨c, hc, hbc⟩ := hb
  have hcf := postT_alphabet t hclean hcov s c hc
  rcases utf8EncodeChar_byte c b hbc with ⟨_, rfl⟩ | h128
  · exact fun hf => hcf (forbidden_char_of_byte c hf)
  · simp only [forbiddenBytes, List.mem_cons, List.not_mem_nil, or_false]
    omega

/-! ### the escape table of serde_json (re-checked whenever the sources change) -/

def escAlphabet : List Char :=
  ['\\', 'u', '"', '0', '1', '2', '3', '4', '5', '6', '7', '8', '9', 'a', 'b', 'c', 'd', 'e', 'f', 't', 'n', 'r']

theorem hexLower_mem : ∀ k, k < 16 → hexLower k ∈ escAlphabet := by decide
theorem hexVal_hexLower : ∀ k, k < 16 → hexVal? (hexLower k) = some k := by decide

/-- what a row of the table may be: no escape (never for control characters, the quote and the backslash;
always from 0x80 on), a `\u00XX` escape (control characters only), or a short escape that the reader
undoes -/
abbrev EscRow (n code : Nat) : Prop :=
  (code = 0 ∧ (n < 128 → 32 ≤ n ∧ n ≠ 34 ∧ n ≠ 92)) ∨
  (code = 117 ∧ n < 32) ∨
  (n < 128 ∧ code ≠ 0 ∧ code ≠ 117 ∧ shortUnescape (Char.ofNat code) = some (Char.ofNat n) ∧
    Char.ofNat code ∈ escAlphabet)

theorem escTable_rows : ∀ p ∈ MJ.Gen.jsonEscapeTable.zipIdx, EscRow p.2 p.1 := by decide +kernel

theorem getD_of_zipIdx {P : Nat → Nat → Prop} : ∀ (l : List Nat) (k : Nat), (∀ p ∈ l.zipIdx k, P p.2 p.1) →
    ∀ n, n < l.length → P (k + n) (l.getD n 0)
  | [], _, _, n, hn => absurd hn (Nat.not_lt_zero n)
  | a :: _, k, h, 0, _ => h (a, k) List.mem_cons_self
  | _ :: l, k, h, n + 1, hn =>
    Nat.succ_add_eq_add_succ k n ▸
      getD_of_zipIdx l (k + 1) (fun p hp => h p (List.mem_cons_of_mem _ hp)) n (Nat.lt_of_succ_lt_succ hn)

theorem escCode_row (n : Nat) (h : n < 256) : EscRow n (escCode n) := by
  have := getD_of_zipIdx MJ.Gen.jsonEscapeTable 0 escTable_rows n
    (Nat.lt_of_lt_of_eq h (by decide +kernel : 256 = MJ.Gen.jsonEscapeTable.length))
  rwa [Nat.zero_add] at this

/-- bytes ≥ 0x80 (all bytes of multi-byte UTF-8 sequences) are never escaped: escaping per byte and
per character coincide -/
theorem escape_table_high_plain : ∀ n, n < 256 → 128 ≤ n → escCode n = 0 := by
  intro n h hn
  rcases escCode_row n h with ⟨h0, _⟩ | ⟨_, hlt⟩ | ⟨hlt, _⟩
  · exact h0
  · exact absurd (Nat.lt_of_le_of_lt hn hlt) (by decide)
  · exact absurd (Nat.lt_of_le_of_lt hn hlt) (Nat.lt_irrefl _)

/-- a replacement is a `\uXXXX` escape of its own key -/
def replDecodes (p : Char × List Char) : Bool :=
  match p.2 with
  | [b, u, h1, h2, h3, h4] =>
    b == '\\' && u == 'u' && hex4? h1 h2 h3 h4 == some p.1.toNat && decide (p.1.toNat < 55296)
  | _ => false

def TableOK (t : List (Char × List Char)) : Prop :=
  (∀ p ∈ t, replDecodes p = true) ∧ (∀ p ∈ t, p.1 ∉ escAlphabet)

theorem tableOK_nil : TableOK [] := ⟨by simp, by simp⟩

theorem postT_escAlphabet (t : List (Char × List Char)) (ht : TableOK t) (s : List Char)
    (hs : ∀ c ∈ s, c ∈ escAlphabet) : postT t s = s :=
  postT_fixed t s (fun c hc p hp hpc => ht.2 p hp (hpc ▸ hs c hc))

theorem parse_raw (c : Char) (tail : List Char) (h1 : c ≠ '"') (h2 : c ≠ '\\') (h3 : ¬ c.toNat < 32) :
    parseStrBody (c :: tail) = consTo c (parseStrBody tail) := by
  rw [parseStrBody.eq_def]
  simp [h1, h2, h3]

theorem parse_u4 (h1 h2 h3 h4 : Char) (n : Nat) (tail : List Char) (hn : hex4? h1 h2 h3 h4 = some n)
    (hlo : n < 55296) :
    parseStrBody ('\\' :: 'u' :: h1 :: h2 :: h3 :: h4 :: tail) = consTo (Char.ofNat n) (parseStrBody tail) := by
  rw [parseStrBody.eq_def]
  have c1 : ¬ (55296 ≤ n ∧ n ≤ 56319) := by omega
  have c2 : ¬ (56320 ≤ n ∧ n ≤ 57343) := by omega
  simp [hn, c1, c2]

theorem parse_short (e ch : Char) (tail : List Char) (he : e ≠ 'u') (hs : shortUnescape e = some ch) :
    parseStrBody ('\\' :: e :: tail) = consTo ch (parseStrBody tail) := by
  rw [parseStrBody.eq_def]
  simp [he, hs]

theorem parse_repl (p : Char × List Char) (hp : replDecodes p = true) (tail : List Char) :
    parseStrBody (p.2 ++ tail) = consTo p.1 (parseStrBody tail) := by
  obtain ⟨k, r⟩ := p
  simp only [replDecodes] at hp
  split at hp
  · rename_i _r b u h1 h2 h3 h4
    simp only [Bool.and_eq_true, beq_iff_eq, decide_eq_true_eq] at hp
    obtain ⟨⟨⟨hb, hu⟩, hhex⟩, hlt⟩ := hp
    subst hb
    subst hu
    simp only [List.cons_append, List.nil_append]
    rw [parse_u4 h1 h2 h3 h4 k.toNat tail hhex hlt]
    simp [Char.ofNat_toNat]
  · simp at hp

theorem toNat_lt_of_ne (c : Char) : c.toNat < 1114112 := by
  rcases c.valid with h | h
  · exact Nat.lt_trans h (by decide)
  · exact h.2

theorem parse_escChar (t : List (Char × List Char)) (ht : TableOK t) (c : Char) (tail : List Char) :
    parseStrBody (postT t (escChar c) ++ tail) = consTo c (parseStrBody tail) := by
  have raw : (¬ c.toNat < 32) → c.toNat ≠ 34 → c.toNat ≠ 92 →
      parseStrBody (postT t [c] ++ tail) = consTo c (parseStrBody tail) := by
    intro h3 h1 h2
    have hp : postT t [c] = replOf c t := by simp [postT]
    rw [hp]
    rcases replOf_cases c t with ⟨h, _⟩ | ⟨p, hp, hpc, hpr⟩
    · rw [h]
      exact parse_raw c tail (fun h => h1 (h ▸ rfl)) (fun h => h2 (h ▸ rfl)) h3
    · rw [hpr, parse_repl p (ht.1 p hp) tail, hpc]
  unfold escChar
  by_cases hlt : c.toNat < 128
  · simp only [hlt, if_true]
    rcases escCode_row c.toNat (by omega) with ⟨h0, hplain⟩ | ⟨hu, hn⟩ | ⟨_, h0, hu, hs, hmem⟩
    · simp only [h0, if_true]
      obtain ⟨g1, g2, g3⟩ := hplain hlt
      exact raw (by omega) g2 g3
    · simp only [hu, show (117 : Nat) ≠ 0 by decide, if_false, if_true]
      have hseq : postT t ['\\', 'u', '0', '0', hexLower (c.toNat / 16), hexLower (c.toNat % 16)]
          = ['\\', 'u', '0', '0', hexLower (c.toNat / 16), hexLower (c.toNat % 16)] := by
        apply postT_escAlphabet t ht
        simp only [List.forall_mem_cons]
        exact ⟨by decide, by decide, by decide, by decide, hexLower_mem _ (by omega), hexLower_mem _ (by omega), nofun⟩
      rw [hseq]
      have hhex : hex4? '0' '0' (hexLower (c.toNat / 16)) (hexLower (c.toNat % 16)) = some c.toNat := by
        have z : hexVal? '0' = some 0 := by decide
        simp only [hex4?, z, hexVal_hexLower _ (show c.toNat / 16 < 16 by omega),
          hexVal_hexLower _ (show c.toNat % 16 < 16 by omega)]
        congr 1
        omega
      simp only [List.cons_append, List.nil_append]
      rw [parse_u4 _ _ _ _ c.toNat tail hhex (by omega)]
      simp [Char.ofNat_toNat]
    · simp only [h0, hu, if_false]
      have hne : Char.ofNat (escCode c.toNat) ≠ 'u' := fun h => by
        rw [h, show shortUnescape 'u' = none by decide] at hs; cases hs
      have hseq : postT t ['\\', Char.ofNat (escCode c.toNat)] = ['\\', Char.ofNat (escCode c.toNat)] := by
        apply postT_escAlphabet t ht
        simp only [List.forall_mem_cons]
        exact ⟨by decide, hmem, nofun⟩
      rw [hseq]
      simp only [List.cons_append, List.nil_append]
      rw [parse_short _ _ tail hne hs]
      simp [Char.ofNat_toNat]
  · simp only [hlt, if_false]
    exact raw (by omega) (by omega) (by omega)

theorem parse_escaped (t : List (Char × List Char)) (ht : TableOK t) (s rest : List Char) :
    parseStrBody (postT t (escBody s) ++ '"' :: rest) = some (s, rest) := by
  induction s with
  | nil =>
    simp only [escBody, List.flatMap_nil, postT, List.nil_append]
    rw [parseStrBody.eq_def]
    simp
  | cons c cs ih =>
    have : escBody (c :: cs) = escChar c ++ escBody cs := by simp [escBody]
    rw [this, postT_append, List.append_assoc, parse_escChar t ht c, ih]
    rfl

end MJ.Json
