import MJ.Proofs.LexerText
import MJ.Proofs.LexerScan
/-! The tag side of one round of the root loop.  `tagOk` is read by kind, with its parts named
(`VarOk`, `tagOk_var` … `tagOk_lineComment`).  `handleTag` per marker, from what its scanner answers
on the tag's source (`handleTag_var_src` …): it emits the tag's tokens and continues behind the tag
with the left cut of the next text applied (`nextK`, `nextKG`) or pending (`nextTf`); the two
together are the left cut of the rules (`leftCut_eq`, `leftCutG_eq`). -/
namespace MJ.Lexer

/-- what `tagOk` asks of a variable / block tag with end delimiter `e` -/
structure VarOk (e : List Char) (ts : List Tok) (l r : Mark) (z : List Char) : Prop where
  interior : interiorOk e 0 ts (r.src ++ (e ++ z)) = true
  start : bodyStartOk (srcs ts) l r e = true
  close : closeOk e r z = true

theorem tagOk_var {d : Delims} {ts : List Tok} {l r : Mark} {z : List Char} :
    tagOk d ⟨.var ts, l, r⟩ z = true ↔ VarOk d.ve ts l r z := by
  simp only [tagOk, Bool.and_eq_true]
  exact ⟨fun h => ⟨h.1.1, h.1.2, h.2⟩, fun h => ⟨⟨h.1, h.2⟩, h.3⟩⟩

theorem tagOk_block {d : Delims} {ts : List Tok} {l r : Mark} {z : List Char} :
    tagOk d ⟨.block ts, l, r⟩ z = true ↔ VarOk d.be ts l r z ∧
      startsWith rawName ((srcs ts ++ (r.src ++ (d.be ++ z))).dropWhile isAsciiWs) = false := by
  simp only [tagOk, Bool.and_eq_true, Bool.not_eq_true']
  exact ⟨fun h => ⟨⟨h.1.1.1, h.1.1.2, h.1.2⟩, h.2⟩, fun h => ⟨⟨⟨h.1.1, h.1.2⟩, h.1.3⟩, h.2⟩⟩

theorem tagOk_comment {d : Delims} {body : List Char} {l r : Mark} {z : List Char} :
    tagOk d ⟨.comment body, l, r⟩ z = true ↔ noPatIn d.ce (body ++ r.src) (d.ce ++ z) = true ∧
      bodyStartOk body l r d.ce = true ∧ bodyEndOk body r = true := by
  simp only [tagOk, Bool.and_eq_true, and_assoc]

theorem tagOk_raw {d : Delims} {c : List Char} {ri l2 : Mark} {tight : Bool} {l r : Mark} {z : List Char} :
    tagOk d ⟨.raw c ri l2 tight, l, r⟩ z = true ↔
      closeOk d.be ri (c ++ (d.bs ++ (l2.src ++ (endrawBody tight ++ (r.src ++ (d.be ++ z)))))) = true ∧
        closeOk d.be r z = true := by
  simp only [tagOk, Tag.rawClose, Bool.and_eq_true, List.append_assoc]

theorem tagOk_lineStmt {d : Delims} {ts : List Tok} {l r : Mark} {z : List Char} :
    tagOk d ⟨.lineStmt ts, l, r⟩ z = true ↔ d.ls ≠ [] ∧ l = .none ∧ r = .none ∧
      lineInteriorOk 0 ts z = true ∧ lineFollow z = true := by
  simp [tagOk, and_assoc]

theorem tagOk_lineComment {d : Delims} {body : List Char} {l r : Mark} {z : List Char} :
    tagOk d ⟨.lineComment body, l, r⟩ z = true ↔ d.lc ≠ [] ∧ l = .none ∧ r = .none ∧
      (∀ c ∈ body, isNl c = false) ∧ commentFollow z = true ∧
      (∀ c, (body ++ z).head? = some c → isMarkChar c = false) := by
  simp only [tagOk, Bool.and_eq_true, and_assoc, Bool.not_eq_true', List.isEmpty_eq_false_iff, beq_iff_eq,
    List.all_eq_true]
  refine and_congr_right fun _ => and_congr_right fun _ => and_congr_right fun _ => and_congr_right fun _ =>
    and_congr_right fun _ => ?_
  cases body ++ z <;> simp

theorem Tag.start_mem_startPats {d : Delims} (g : Tag) (z : List Char) (hok : tagOk d g z = true) :
    (g.marker, g.start d) ∈ startPats d := by
  have h3 : ∀ mp ∈ [(Marker.var, d.vs), (Marker.block, d.bs), (Marker.comment, d.cs)], mp ∈ startPats d :=
    fun mp h => List.mem_append_left _ (List.mem_append_left _ h)
  cases g with
  | mk kind l r =>
    cases kind with
    | var ts => exact h3 _ (.head _)
    | block ts => exact h3 _ (.tail _ (.head _))
    | comment body => exact h3 _ (.tail _ (.tail _ (.head _)))
    | raw c ri l2 tight => exact h3 _ (.tail _ (.head _))
    | lineStmt ts =>
      obtain ⟨hls, _⟩ := tagOk_lineStmt.1 hok
      exact List.mem_append_left _ (List.mem_append_right _ (by rw [if_neg (by simpa using hls)]; exact .head _))
    | lineComment body =>
      obtain ⟨hlc, _⟩ := tagOk_lineComment.1 hok
      exact List.mem_append_right _ (by rw [if_neg (by simpa using hlc)]; exact .head _)

theorem tailFree_cons {d : Delims} {first : Bool} {t : List Char} {g : Tag} {t' : List Char}
    {rest : List (Tag × List Char)} :
    tailFree d first t ((g, t') :: rest) = true ↔
      noStartIn d t (unparseTail d ((g, t') :: rest)) = true ∧
      ownLongest d (g.start d) (unparseTail d ((g, t') :: rest)) = true ∧
      rawFree d g (t' ++ unparseTail d rest) = true ∧ tagOk d g (t' ++ unparseTail d rest) = true ∧
      (g.marker != .lineStmt || lineStartText first t) = true ∧ tailFree d false t' rest = true := by
  rw [tailFree]; simp only [Bool.and_eq_true, and_assoc]

theorem Tag.marker_blockish (g : Tag) : (g.marker != .var) = g.blockish := by
  cases g with | mk kind l r => cases kind <;> rfl

theorem Tag.marker_isLine (g : Tag) : g.marker.isLine = g.isLine := by
  cases g with | mk kind l r => cases kind <;> rfl

theorem Mark.ws_len (m : Mark) : m.ws.len = m.src.length := by cases m <;> rfl

/-- the text that follows is empty or starts with a non-whitespace character -/
def NoWsHead (more : List Char) : Prop := more = [] ∨ ∃ c r, more = c :: r ∧ isWs c = false

theorem NoWsHead.ws {more : List Char} (h : NoWsHead more) (c : Char) (hc : more.head? = some c) : isWs c = false := by
  rcases h with rfl | ⟨c', r, rfl, hw⟩
  · cases hc
  · cases hc; exact hw

theorem NoWsHead.hws {more : List Char} (h : NoWsHead more) (c : Char) (hc : more.head? = some c) :
    isHws c = false := not_hws_of_not_ws (h.ws c hc)

theorem nlLen_append (t more : List Char) (h : NoWsHead more) : nlLen (t ++ more) = nlLen t := by
  have hnl : ∀ c r, more = c :: r → c ≠ '\n' ∧ c ≠ '\r' := by
    intro c r hm
    have hw := h.ws c (by rw [hm]; rfl)
    constructor <;> (rintro rfl; revert hw; decide)
  cases t with
  | nil =>
    cases more with
    | nil => rfl
    | cons c r =>
      obtain ⟨h1, h2⟩ := hnl c r rfl
      simp [nlLen, h1, h2]
  | cons a t =>
    cases t with
    | nil =>
      cases more with
      | nil => rfl
      | cons c r =>
        obtain ⟨h1, h2⟩ := hnl c r rfl
        simp [nlLen, h1]
    | cons b t => simp [nlLen]

/-- characters skipped right behind a tag with right marker `m` (the pending `-` is `nextTf`) -/
def nextK (cfg : Cfg) (blockish : Bool) (m : Mark) (t' : List Char) : Nat :=
  match m with
  | .none => if blockish && cfg.trim then nlLen t' else 0
  | _ => 0

def nextTf (m : Mark) : Bool := m == .minus

theorem nextK_le (cfg : Cfg) (b : Bool) (m : Mark) (t' : List Char) : nextK cfg b m t' ≤ t'.length := by
  cases m <;> simp only [nextK] <;> try exact Nat.zero_le _
  split
  · exact nlLen_le t'
  · exact Nat.zero_le _

/-- the left cut of the rules is what is skipped now plus what the pending `-` will skip -/
theorem leftCut_eq (cfg : Cfg) (b : Bool) (m : Mark) (t' : List Char) :
    leftCut cfg b m t' = if nextTf m then wsPre t' else nextK cfg b m t' := by
  cases m <;> rfl

theorem nextK_of_nextTf (cfg : Cfg) (b : Bool) (m : Mark) (t' : List Char) (h : nextTf m = true) :
    nextK cfg b m t' = 0 := by
  cases m <;> simp_all [nextTf, nextK]

theorem tailWs_eq (cfg : Cfg) (m : Mark) (t' more : List Char) (h : NoWsHead more) :
    tailWs cfg m.ws (t' ++ more) = (nextK cfg true m t', nextTf m) := by
  cases m <;> simp [tailWs, Mark.ws, nextK, nextTf, trimNl, nlLen_append _ _ h]

theorem nextK_var (cfg : Cfg) (m : Mark) (t' : List Char) : nextK cfg false m t' = 0 := by cases m <;> rfl

theorem nextTf_eq (m : Mark) : nextTf m = decide (m.ws = Ws.remove) := by cases m <;> rfl

theorem contAfter_tag (lead o : List Out) (preTag S t' more : List Char) (k : Nat) (tf : Bool) (hS : S ≠ [])
    (hk : k ≤ t'.length) :
    contAfter lead o preTag (S ++ (t' ++ more)) (S.length + k) tf =
      .next (lead ++ o) ((t'.take k).reverse ++ (S.reverse ++ preTag)) (t'.drop k ++ more) tf := by
  have h0 : S.length + k ≠ 0 := by
    cases S with
    | nil => exact absurd rfl hS
    | cons a S => simp
  rw [contAfter, if_neg h0, List.take_length_add_append, List.drop_length_add_append,
    List.take_append_of_le_length hk, List.drop_append_of_le_length hk, List.reverse_append]
  simp only [List.append_assoc]

theorem skipBasicTag_notRaw (s be : List Char)
    (h : startsWith rawName (s.dropWhile isAsciiWs) = false) : skipBasicTag s rawName be false = none := by
  simp [skipBasicTag, stripMarkerIf, h]

/-- behind an end delimiter the line-start scans stop: it ends in a character that is not
    whitespace, possibly followed by horizontal whitespace -/
theorem lastOk_ctx {e : List Char} (h : lastOk e = true) (pre : List Char) : CtxOk false (e.reverse ++ pre) := by
  unfold lastOk at h
  have hsplit := List.takeWhile_append_dropWhile (p := isHws) (l := e.reverse)
  cases hr : e.reverse.dropWhile isHws with
  | nil => simp [hr] at h
  | cons c r =>
    rw [hr] at hsplit
    refine Or.inr ⟨rfl, e.reverse.takeWhile isHws, c, r ++ pre, ?_, fun x hx => mem_takeWhile_sat hx,
      by simpa [hr] using h⟩
    conv => lhs; rw [← hsplit, List.append_assoc]
    rfl

theorem rawData_eq (cfg : Cfg) (ri l2 : Mark) (preRaw c : List Char) (hc : CtxOk false preRaw) :
    rawData cfg ri.ws l2.ws preRaw c = cut (leftCut cfg true ri c) (rightCut cfg false true l2 c) c := by
  have h1 : rawData cfg ri.ws l2.ws preRaw c =
      leadOf cfg l2.ws .block (c.reverse ++ preRaw) (c.drop (leftCut cfg true ri c)) := by
    cases ri <;> cases l2 <;>
      simp [rawData, leadOf, Mark.ws, leftCut, trimNl, shouldLstrip, dropWhile_eq_drop]
  rw [h1]
  exact leadOf_eq_cut cfg cfg c (Or.inl hc) l2 .block (Bool.or_false _).symm _

/-! ### `handleTag` by marker

Where the handler continues, given what its scanner answers.  The tag's source is `S = A ++ B` with
`A` the start delimiter and the left marker (the `skip` characters the caller has read), and it is
followed by the next text `t'` and then `more`. -/

theorem drop_skip {S A B : List Char} (hS : S = A ++ B) (X : List Char) :
    (S ++ X).drop A.length = B ++ X := by
  rw [hS, List.append_assoc, List.drop_left]

theorem handleTag_var_src (cfg : Cfg) (d : Delims) (lead : List Out) (preTag : List Char) {S A B : List Char}
    (t' more : List Char) {skip : Nat} (r : Mark) (hS : S = A ++ B) (hA : A.length = skip) (hA0 : A ≠ [])
    (h : scanTag d.ve false .top 0 (B ++ (t' ++ more)) = .found (t' ++ more) r.ws) :
    handleTag cfg d lead .var skip preTag (S ++ (t' ++ more)) =
      .next (lead ++ [.var]) ((t'.take (nextK cfg false r t')).reverse ++ (S.reverse ++ preTag))
        (t'.drop (nextK cfg false r t') ++ more) (nextTf r) := by
  subst hA
  have hlen : A.length + ((B ++ (t' ++ more)).length - (t' ++ more).length) = S.length + 0 := by
    rw [hS]; simp
  simp only [handleTag, drop_skip hS, h, hlen]
  rw [contAfter_tag lead _ preTag S t' more 0 _ (hS ▸ List.append_ne_nil_of_left_ne_nil hA0 B) (Nat.zero_le _),
    nextK_var, nextTf_eq]

theorem handleTag_block_src (cfg : Cfg) (d : Delims) (lead : List Out) (preTag : List Char) {S A B : List Char}
    (t' more : List Char) {skip : Nat} (r : Mark) (hS : S = A ++ B) (hA : A.length = skip) (hA0 : A ≠ [])
    (hm : NoWsHead more) (hraw : skipBasicTag (B ++ (t' ++ more)) rawName d.be false = none)
    (h : scanTag d.be false .top 0 (B ++ (t' ++ more)) = .found (t' ++ more) r.ws) :
    handleTag cfg d lead .block skip preTag (S ++ (t' ++ more)) =
      .next (lead ++ [.blk]) ((t'.take (nextK cfg true r t')).reverse ++ (S.reverse ++ preTag))
        (t'.drop (nextK cfg true r t') ++ more) (nextTf r) := by
  subst hA
  have hlen : A.length + ((B ++ (t' ++ more)).length - (t' ++ more).length) = S.length := by
    rw [hS]; simp
  simp only [handleTag, drop_skip hS, hraw, h, hlen, List.drop_left, tailWs_eq cfg r t' more hm]
  exact contAfter_tag lead _ preTag S t' more _ _ (hS ▸ List.append_ne_nil_of_left_ne_nil hA0 B) (nextK_le cfg true r t')

/-- the byte in front of the comment end is read as the right marker -/
theorem wsOfChar_comment_end (after : List Char) (skip : Nat) (body : List Char) (r : Mark) (y : List Char)
    (hd : after.drop skip = body ++ (r.src ++ y)) (hb : bodyEndOk body r = true) :
    (if body.length + r.src.length = 0 then Ws.dflt else
      wsOfChar (after.drop (body.length + r.src.length - 1 + skip)).head?) = r.ws := by
  rw [Nat.add_comm _ skip, ← List.drop_drop, hd]
  cases r with
  | minus | plus =>
    simp only [Mark.src, List.length_singleton, Nat.add_sub_cancel, List.drop_left]
    simp [Mark.ws, wsOfChar]
  | none =>
    simp only [bodyEndOk, bne_self_eq_false, Bool.false_or] at hb
    cases hr : body.reverse with
    | nil =>
      have : body = [] := by simpa using hr
      subst this
      simp [Mark.src, Mark.ws]
    | cons c r' =>
      rw [hr] at hb
      have hbody : body = r'.reverse ++ [c] := by
        have := congrArg List.reverse hr; simpa using this
      have hc : c ≠ '-' ∧ c ≠ '+' := by simpa [isMarkChar] using hb
      have hn : body.length + Mark.none.src.length - 1 = r'.reverse.length := by
        rw [hbody]; simp [Mark.src]
      have hpos : ¬ (body.length + Mark.none.src.length = 0) := by
        rw [hbody]; simp
      rw [if_neg hpos, hn, hbody, List.append_assoc, List.drop_left]
      simp [Mark.ws, wsOfChar, hc.1, hc.2]

theorem handleTag_comment_src (cfg : Cfg) (d : Delims) (lead : List Out) (preTag : List Char) {S A : List Char}
    (body t' more : List Char) {skip : Nat} (r : Mark) (hS : S = A ++ (body ++ (r.src ++ d.ce)))
    (hA : A.length = skip) (hA0 : A ≠ []) (hm : NoWsHead more) (hce0 : d.ce ≠ [])
    (hce : noPatIn d.ce (body ++ r.src) (d.ce ++ (t' ++ more)) = true) (hb : bodyEndOk body r = true) :
    handleTag cfg d lead .comment skip preTag (S ++ (t' ++ more)) =
      .next (lead ++ []) ((t'.take (nextK cfg true r t')).reverse ++ (S.reverse ++ preTag))
        (t'.drop (nextK cfg true r t') ++ more) (nextTf r) := by
  subst hA
  have hd : (S ++ (t' ++ more)).drop A.length = body ++ (r.src ++ (d.ce ++ (t' ++ more))) := by
    rw [drop_skip hS]; simp only [List.append_assoc]
  have hfind : findSub d.ce (body ++ (r.src ++ (d.ce ++ (t' ++ more)))) = some (body.length + r.src.length) := by
    have := findSub_body d.ce hce0 (body ++ r.src) (t' ++ more) hce
    simpa only [List.append_assoc, List.length_append] using this
  have hlen : A.length + (body.length + r.src.length) + d.ce.length = S.length := by
    rw [hS]; simp only [List.length_append]; omega
  simp only [handleTag, hd, hfind, wsOfChar_comment_end _ _ body r _ hd hb, hlen, List.drop_left,
    tailWs_eq cfg r t' more hm]
  exact contAfter_tag lead _ preTag S t' more _ _ (hS ▸ List.append_ne_nil_of_left_ne_nil hA0 _) (nextK_le cfg true r t')

/-- a raw block: `O` is the rest of `{% raw %}`, `C` the content, `E` the `{% endraw %}` tag -/
theorem handleTag_raw_src (cfg : Cfg) (d : Delims) (lead : List Out) (preTag : List Char) {S A O C E : List Char}
    (t' more : List Char) {skip n : Nat} (ri l2 r : Mark) (hS : S = A ++ (O ++ (C ++ E))) (hA : A.length = skip)
    (hO : O.length = n) (hA0 : A ≠ []) (hm : NoWsHead more)
    (h1 : skipBasicTag (O ++ (C ++ (E ++ (t' ++ more)))) rawName d.be false = some (n, ri.ws))
    (h2 : findEndraw d 0 (C ++ (E ++ (t' ++ more))) = some (C.length, E.length, l2.ws, r.ws))
    (hctx : CtxOk false ((A ++ O).reverse ++ preTag)) :
    handleTag cfg d lead .block skip preTag (S ++ (t' ++ more)) =
      .next (lead ++ [.data (cut (leftCut cfg true ri C) (rightCut cfg false true l2 C) C)])
        ((t'.take (nextK cfg true r t')).reverse ++ (S.reverse ++ preTag))
        (t'.drop (nextK cfg true r t') ++ more) (nextTf r) := by
  subst hA hO
  have hsrc : S ++ (t' ++ more) = (A ++ O) ++ (C ++ (E ++ (t' ++ more))) := by
    rw [hS]; simp only [List.append_assoc]
  have hd1 : (S ++ (t' ++ more)).drop A.length = O ++ (C ++ (E ++ (t' ++ more))) := by
    rw [drop_skip hS]; simp only [List.append_assoc]
  have hd2 : (S ++ (t' ++ more)).drop (A.length + O.length) = C ++ (E ++ (t' ++ more)) := by
    rw [hsrc, ← List.length_append, List.drop_left]
  have ht : (S ++ (t' ++ more)).take (A.length + O.length) = A ++ O := by
    rw [hsrc, ← List.length_append, List.take_left]
  have hlen : A.length + O.length + C.length + E.length = S.length := by
    rw [hS]; simp only [List.length_append]; omega
  simp only [handleTag, hd1, h1, hd2, h2, ht, List.take_left, hlen, List.drop_left, tailWs_eq cfg r t' more hm,
    rawData_eq cfg ri l2 _ C hctx]
  exact contAfter_tag lead _ preTag S t' more _ _ (hS ▸ List.append_ne_nil_of_left_ne_nil hA0 _) (nextK_le cfg true r t')

/-- characters skipped right behind the tag `g` -/
def nextKG (cfg : Cfg) (g : Tag) (t' : List Char) : Nat :=
  match g.kind with
  | .lineStmt _ => lineCut t'
  | _ => nextK (cfgFor cfg g) g.blockish g.r t'

theorem lineCut_le (t : List Char) : lineCut t ≤ t.length := by
  unfold lineCut
  have h1 := List.takeWhile_append_dropWhile (p := isHws) (l := t)
  have h2 := nlLen_le (t.dropWhile isHws)
  have : t.length = (t.takeWhile isHws).length + (t.dropWhile isHws).length := by
    have := congrArg List.length h1
    rw [List.length_append] at this
    exact this.symm
  omega

theorem leftCutG_eq (cfg : Cfg) (g : Tag) (t' : List Char) (hr : g.isLine = true → g.r = .none) :
    leftCutG cfg g t' = if nextTf g.r then wsPre t' else nextKG cfg g t' := by
  unfold leftCutG nextKG
  cases hk : g.kind with
  | lineStmt ts => rw [hr (by rw [Tag.isLine, hk])]; rfl
  | _ => exact leftCut_eq _ _ _ _

theorem nextKG_of_nextTf (cfg : Cfg) (g : Tag) (t' : List Char) (hr : g.isLine = true → g.r = .none)
    (h : nextTf g.r = true) : nextKG cfg g t' = 0 := by
  unfold nextKG
  cases hk : g.kind with
  | lineStmt ts => rw [hr (by rw [Tag.isLine, hk])] at h; cases h
  | _ => exact nextK_of_nextTf _ _ _ _ h

theorem lineCut_append (t more : List Char) (h : NoWsHead more) : lineCut (t ++ more) = lineCut t := by
  unfold lineCut
  rw [takeWhile_append_stop t more h.hws, dropWhile_append_stop t more h.hws, nlLen_append _ _ h]

theorem handleTag_lineStmt_src (cfg : Cfg) (d : Delims) (lead : List Out) (preTag : List Char) {S A B : List Char}
    (t' more : List Char) {skip : Nat} (hS : S = A ++ B) (hA : A.length = skip) (hA0 : A ≠ []) (hm : NoWsHead more)
    (h : scanTag [] true .top 0 (B ++ (t' ++ more)) = .found ((t' ++ more).drop (lineCut (t' ++ more))) .dflt) :
    handleTag cfg d lead .lineStmt skip preTag (S ++ (t' ++ more)) =
      .next (lead ++ [.blk]) ((t'.take (lineCut t')).reverse ++ (S.reverse ++ preTag))
        (t'.drop (lineCut t') ++ more) false := by
  subst hA
  have hle := lineCut_le t'
  have hlen : A.length + ((B ++ (t' ++ more)).length - ((t' ++ more).drop (lineCut (t' ++ more))).length) =
      S.length + lineCut t' := by
    rw [hS, lineCut_append t' more hm]; simp only [List.length_append, List.length_drop]; omega
  simp only [handleTag, drop_skip hS, h, hlen]
  exact contAfter_tag lead _ preTag S t' more _ _ (hS ▸ List.append_ne_nil_of_left_ne_nil hA0 B) hle

theorem takeWhile_not_nl (body rest : List Char) (hb : ∀ c ∈ body, isNl c = false)
    (hr : commentFollow rest = true) :
    (body ++ rest).takeWhile (fun c => !isNl c) = body := by
  induction body with
  | nil =>
    cases rest with
    | nil => rfl
    | cons c r =>
      simp only [commentFollow] at hr
      simp [hr]
  | cons a body ih =>
    simp only [List.cons_append, List.takeWhile_cons, hb a (by simp), Bool.not_false, if_true]
    rw [ih (fun x hx => hb x (by simp [hx]))]

theorem handleTag_lineComment_src (cfg : Cfg) (d : Delims) (lead : List Out) (preTag : List Char) {S A : List Char}
    (body t' more : List Char) {skip : Nat} (hS : S = A ++ body) (hA : A.length = skip) (hA0 : A ≠ [])
    (hm : NoWsHead more) (hb : ∀ c ∈ body, isNl c = false) (hf : commentFollow (t' ++ more) = true) :
    handleTag cfg d lead .lineComment skip preTag (S ++ (t' ++ more)) =
      .next (lead ++ []) ((t'.take (nlLen t')).reverse ++ (S.reverse ++ preTag)) (t'.drop (nlLen t') ++ more) false := by
  subst hA
  have hlen : A.length + body.length + nlLen t' = S.length + nlLen t' := by rw [hS, List.length_append]
  simp only [handleTag, drop_skip hS, takeWhile_not_nl body _ hb hf, List.drop_left, skipNl, nlLen_append _ _ hm, hlen]
  exact contAfter_tag lead _ preTag S t' more _ _ (hS ▸ List.append_ne_nil_of_left_ne_nil hA0 body) (nlLen_le t')

end MJ.Lexer
