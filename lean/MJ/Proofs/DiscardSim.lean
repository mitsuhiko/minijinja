import MJ.Proofs.StmtSim
/-!
# Discarded output (C03 stage 3)

The top level of a child template (after `{% extends %}`) and of a module loaded with
`{% from … import … %}` runs with an output that throws away what is written to it, while the
assignments persist (`MJ.Eval.renderAfter`, `MJ.Vm.renderCodeAfter`).

* `runD_erase`: a run with a discarding output (`runD`) goes through the same program counters,
  operand stacks and frames as the ordinary run, fails where that fails, and ends with the same capture
  buffers above the bottom entry — in particular a capture begun under a discarding output records
  exactly what it records otherwise.  Nothing above the bottom entry depends on it: the output instructions work
  on the top entry (`eraseOuts_appendOut`, `eraseOuts_push`; `EndCapture` needs an entry below the top
  one), the others do not look at the output at all (`step_outs`).
* `vm_refines_eval_discard`: the refinement theorem for this entry form.
-/
namespace MJ.Vm
open MJ.Eval MJ.Compile MJ.C03

def eraseOuts (outs : List String) : List String :=
  match outs.reverse with
  | [] => []
  | _ :: r => ("" :: r).reverse

theorem eraseBottom_eq (s : VmState) : eraseBottom s = { s with outs := eraseOuts s.outs } := rfl

@[simp] theorem eraseOuts_nil : eraseOuts [] = [] := rfl
@[simp] theorem eraseOuts_single (b : String) : eraseOuts [b] = [""] := rfl

/-- the output stack seen from its bottom entry `b` -/
@[simp] theorem eraseOuts_concat (l : List String) (b : String) : eraseOuts (l ++ [b]) = l ++ [""] := by
  simp [eraseOuts]

@[simp] theorem eraseOuts_cons_concat (o : String) (l : List String) (b : String) :
    eraseOuts (o :: (l ++ [b])) = o :: (l ++ [""]) := eraseOuts_concat (o :: l) b

@[simp] theorem eraseOuts_cons_cons (o r : String) (l : List String) : eraseOuts (o :: r :: l) = o :: eraseOuts (r :: l) := by
  rcases List.eq_nil_or_concat l with rfl | ⟨l, b, rfl⟩
  · rfl
  · rw [List.concat_eq_append, eraseOuts_cons_concat, ← List.cons_append, eraseOuts_cons_concat]; rfl

theorem eraseOuts_idem (l : List String) : eraseOuts (eraseOuts l) = eraseOuts l := by
  rcases List.eq_nil_or_concat l with rfl | ⟨l, b, rfl⟩ <;> simp

theorem eraseBottom_idem (s : VmState) : eraseBottom (eraseBottom s) = eraseBottom s := by
  simp [eraseBottom_eq, eraseOuts_idem]

/-! The three things the VM does to the output stack give the same stack above the bottom entry whether or not that
entry was erased before. -/

theorem eraseOuts_appendOut (t : String) (l : List String) :
    eraseOuts (appendOut t (eraseOuts l)) = eraseOuts (appendOut t l) := by
  rcases List.eq_nil_or_concat l with rfl | ⟨l, b, rfl⟩
  · rfl
  · cases l <;> simp [appendOut]

theorem eraseOuts_push (l : List String) : eraseOuts ("" :: eraseOuts l) = eraseOuts ("" :: l) := by
  rcases List.eq_nil_or_concat l with rfl | ⟨l, b, rfl⟩ <;> simp

theorem encloseStep_outs (ctx : Scope) (x : String) (s : VmState) (o : List String) :
    encloseStep ctx x { s with outs := o } = (encloseStep ctx x s).map fun t => { t with outs := o } := by
  unfold encloseStep
  cases s.frames with
  | nil => rfl
  | cons f rest =>
    simp only
    split
    · rfl
    · split <;> rfl

/-- instructions other than the output instructions do not look at the output: both sides are the same
`match` on operand stack and frames -/
theorem step_outs (ctx : Scope) (i : Instr) (s : VmState) (o : List String)
    (h1 : i ≠ .emit) (h2 : ∀ t, i ≠ .emitRaw t) (h3 : i ≠ .beginCapture) (h4 : i ≠ .endCapture) :
    step ctx i { s with outs := o } = (step ctx i s).map fun t => { t with outs := o } := by
  obtain ⟨pc, stack, frames, outs, closures⟩ := s
  cases i
  case emit => exact absurd rfl h1
  case emitRaw t => exact absurd rfl (h2 t)
  case beginCapture => exact absurd rfl h3
  case endCapture => exact absurd rfl h4
  case enclose x => exact encloseStep_outs ctx x _ o
  case buildList n => cases n <;> simp only [step] <;> (repeat' split) <;> rfl
  all_goals simp only [step, binArith, binCmp]
  all_goals (repeat' split) <;> first | rfl | (simp only [Except.map]; split <;> rfl)

/-- one step from a state with the bottom entry of the output erased: the same step (the same error), up to the
bottom entry -/
theorem step_erase (ctx : Scope) (i : Instr) (s : VmState) :
    (step ctx i (eraseBottom s)).map eraseBottom = (step ctx i s).map eraseBottom := by
  by_cases h1 : i = .emit
  · subst h1
    cases hs : s.stack with
    | nil => simp [step, eraseBottom_eq, hs]
    | cons v rest =>
      rw [step_emit (s := eraseBottom s) hs, step_emit hs]
      simp [Except.map, eraseBottom_eq, eraseOuts_appendOut]
  by_cases h2 : ∃ t, i = .emitRaw t
  · obtain ⟨t, rfl⟩ := h2
    simp [step_emitRaw, Except.map, eraseBottom_eq, eraseOuts_appendOut]
  by_cases h3 : i = .beginCapture
  · subst h3
    simp [step_beginCapture, Except.map, eraseBottom_eq, eraseOuts_push]
  by_cases h4 : i = .endCapture
  · subst h4
    -- a capture can be ended when there is an entry below it; that may be the bottom entry
    rcases List.eq_nil_or_concat s.outs with ho | ⟨l, b, ho⟩
    · simp [step, eraseBottom_eq, ho]
    · rcases l with _ | ⟨o, _ | ⟨r, l⟩⟩ <;> simp [step, eraseBottom_eq, ho, Except.map]
  · -- the step is computed from the state without its output, which is put back unchanged
    obtain ⟨pc, st, fr, outs, cls⟩ := s
    have key := fun o => step_outs ctx i ⟨pc, st, fr, [], cls⟩ o h1 (fun t e => h2 ⟨t, e⟩) h3 h4
    show (step ctx i ⟨pc, st, fr, eraseOuts outs, cls⟩).map eraseBottom = (step ctx i ⟨pc, st, fr, outs, cls⟩).map eraseBottom
    rw [key (eraseOuts outs), key outs]
    cases step ctx i ⟨pc, st, fr, [], cls⟩ <;> simp [Except.map, eraseBottom_eq, eraseOuts_idem]

theorem stepF_erase (ctx : Scope) (C : List Instr) (f : Nat) (i : Instr) (s : VmState) :
    (stepF ctx C f i (eraseBottom s)).map eraseBottom = (stepF ctx C f i s).map eraseBottom := by
  cases f with
  | zero => rfl
  | succ f =>
    by_cases hc : ∃ name argc, i = .callFunction name argc
    · -- a call reads operand stack, frames and closures, and leaves the output alone
      obtain ⟨name, argc, rfl⟩ := hc
      simp only [stepF, eraseBottom_eq]
      cases popN argc s.stack with
      | none => rfl
      | some pr =>
        obtain ⟨args, rest⟩ := pr
        dsimp only
        cases callF ctx C f (lookupFrames ctx s.closures name s.frames) args s.closures <;>
          simp [Except.map, eraseBottom_eq, eraseOuts_idem]
    · rw [stepF_succ (fun n a e => hc ⟨n, a, e⟩), stepF_succ (fun n a e => hc ⟨n, a, e⟩)]
      exact step_erase ctx i s

theorem runD_halted {ctx C s} (h : Halted C s) (k : Nat) : runD ctx C (k + 1) s = .ok s := by
  rcases h with h | h <;> simp [runD, h]

theorem runD_succ {ctx C s i} (hi : C[s.pc]? = some i) (hne : i ≠ .return_) (k : Nat) :
    runD ctx C (k + 1) s = ((stepF ctx C k i s).map eraseBottom).bind (runD ctx C k) := by
  have : runD ctx C (k + 1) s = match stepF ctx C k i s with
      | .ok s' => runD ctx C k (eraseBottom s')
      | .error e => .error e := by
    rw [runD, hi]
    cases i <;> first | rfl | exact absurd rfl hne
  rw [this]; cases stepF ctx C k i s <;> rfl

/-- a run with a discarding output is the ordinary run up to the bottom entry of the output, failures included -/
theorem runD_erase (ctx : Scope) (C : List Instr) : ∀ (k : Nat) (s : VmState),
    runD ctx C k (eraseBottom s) = (run ctx C k s).map eraseBottom
  | 0, _ => rfl
  | k + 1, s => by
    by_cases hend : Halted C s
    · rw [run_halted hend, runD_halted (s := eraseBottom s) hend]; rfl
    · obtain ⟨i, hi, hr⟩ : ∃ i, C[s.pc]? = some i ∧ i ≠ .return_ := by
        cases hi : C[s.pc]? with
        | none => exact absurd (Or.inl hi) hend
        | some i => exact ⟨i, rfl, fun e => hend (Or.inr (by rw [hi, e]))⟩
      rw [run_succ hi hr, runD_succ (s := eraseBottom s) hi hr, stepF_erase]
      cases stepF ctx C k i s with
      | error e => rfl
      | ok s1 => exact runD_erase ctx C k s1

theorem run_erase (ctx : Scope) (C : List Instr) (k : Nat) (s s' : VmState) (h : run ctx C k s = .ok s') :
    runD ctx C k (eraseBottom s) = .ok (eraseBottom s') := by
  rw [runD_erase, h]; rfl

/-- **`vm_refines_eval_discard`**: the refinement theorem for a program whose output is discarded
while its assignments — and the macros it declares — persist (top level of a child template, imported
module) followed by the template that reads them (`MJ.Eval.renderAfter`): the model VM runs the first
`codeP.length` instructions with a discarding output — captures begun meanwhile still capture — and
the rest with a fresh output, and renders what the reference semantics renders. -/
theorem vm_refines_eval_discard (prog tail : List Stmt) (hfrag : CoreFragment (prog ++ tail)) (ctx : Scope)
    (hctx : CtxPlain ctx)
    (code : List Instr) (hcode : compileTemplate (prog ++ tail) = some code) (fuel : Nat) (out : String)
    (hev : renderAfter fuel ctx prog tail = .ok out) :
    ∃ codeP, compileTemplate prog = some codeP ∧
      ∃ k, ∀ j, renderCodeAfter (k + j) ctx code codeP.length = .ok out := by
  have hwf : wfBlock (macroNames (prog ++ tail)) none [] false prog = true ∧
      wfBlock (macroNames (prog ++ tail)) none [] false tail = true := by
    have := hfrag; simp only [CoreFragment, wfBlock_append, Bool.and_eq_true] at this; exact this
  have hcoreW : coreBlock false (prog ++ tail) = true := wf_coreBlock _ _ _ _ _ hfrag
  have hcoreP : coreBlock false prog = true := wf_coreBlock _ _ _ _ _ hwf.1
  -- the code of the whole and of the first part
  rw [compileTemplate_top _ hcoreW] at hcode
  split at hcode
  · simp at hcode
  · rename_i hoofW
    simp at hcode
    rw [relBlock_append] at hcode hoofW
    simp only at hcode hoofW
    have hoofT : (relBlock tail (0 + (relBlock prog 0 {} none).1.1.length) (relBlock prog 0 {} none).1.2 none).1.2.oof = false := by
      simpa using hoofW
    have hoofP : (relBlock prog 0 {} none).1.2.oof = false := oof_false_of_relBlock hoofT
    refine ⟨(relBlock prog 0 {} none).1.1, by rw [compileTemplate_top _ hcoreP]; simp [hoofP], ?_⟩
    simp only [renderAfter] at hev
    split at hev
    · rename_i σ1 fl1 hexec1
      split at hev
      · rename_i σ2 fl2 hexec2
        simp at hev; subst hev
        let K1 : Cfg := { ctx := ctx, M := macroNames (prog ++ tail), C := (relBlock prog 0 {} none).1.1 }
        let K2 : Cfg := { ctx := ctx, M := macroNames (prog ++ tail), C := code }
        have hcodeApp : code = (relBlock prog 0 {} none).1.1 ++
            (relBlock tail (0 + (relBlock prog 0 {} none).1.1.length) (relBlock prog 0 {} none).1.2 none).1.1 := hcode.symm
        -- phase 1: the first part, on its own code
        obtain ⟨s1, G1, k1, hk1, hrel1, _⟩ := run_block_top (K := K1) hexec1 hwf.1 (by intro k _; simp [K1]) hoofP
          (by simp [K1]) rfl (rel_init K1 hctx) rfl
        -- phase 2: the tail, in the frames the first part left, with a fresh output
        let s1' : VmState := { eraseBottom s1 with pc := (relBlock prog 0 {} none).1.1.length, stack := [], outs := [""] }
        have hrel1' : Rel K2 G1 none none { σ1 with out := "" } [0] [] s1' := by
          refine ⟨(HRel.recode (K := K1) (K' := K2) rfl ?_ rfl hrel1.1).same s1' rfl rfl, ⟨[], rfl⟩⟩
          intro off L hat
          show At code off L
          rw [hcodeApp]; exact At.prefix hat
        have hAt2 : At K2.C (0 + (relBlock prog 0 {} none).1.1.length)
            (relBlock tail (0 + (relBlock prog 0 {} none).1.1.length) (relBlock prog 0 {} none).1.2 none).1.1 := by
          show At code _ _
          rw [hcodeApp]
          simpa using At.of_append (relBlock prog 0 {} none).1.1
            (relBlock tail (0 + (relBlock prog 0 {} none).1.1.length) (relBlock prog 0 {} none).1.2 none).1.1 []
        obtain ⟨s2, _, k2, hk2, _, ho2⟩ := run_block_top (K := K2) (s := s1') hexec2 hwf.2 hAt2 hoofT
          (by show code.length = _; rw [hcodeApp]; simp) (by simp [s1']) hrel1' rfl
        -- each run gets the budget of both
        refine ⟨k1 + k2, fun j => ?_⟩
        have hD := run_erase ctx (relBlock prog 0 {} none).1.1 (k1 + (k2 + j)) {} s1 (hk1 (k2 + j))
        have hE : eraseBottom ({} : VmState) = {} := rfl
        have htake : code.take (relBlock prog 0 {} none).1.1.length = (relBlock prog 0 {} none).1.1 := by
          rw [hcodeApp]; simp
        have hk2' : run ctx code (k2 + (k1 + j)) s1' = .ok s2 := hk2 (k1 + j)
        rw [hE, ← Nat.add_assoc] at hD
        rw [Nat.add_left_comm, ← Nat.add_assoc] at hk2'
        simp only [renderCodeAfter, htake, hD]
        simp only [s1'] at hk2'
        simp [hk2', ho2]
      · simp at hev
    · simp at hev

end MJ.Vm
