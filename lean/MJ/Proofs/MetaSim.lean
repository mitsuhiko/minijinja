import MJ.Proofs.MetaClosure
/-! The simulation between run-time name resolution (`exec`) and the analysis (`walk`, either
mode): whatever a statement asks the context for is reported afterwards (or is promised by an
enclosing recursive loop / a block of the template), and the analysis' notion of "assigned"
stays justified (C18).  The statements are put together in the judgment `Run`: a piece of code
against the stretch of the walk over the same piece.  Re-entry requests are served by a handler
`K` of which only `KOK` is asked (`kok_reenter`: `reenter` has it); for a whole template the
result is `template_sound_both`. -/
namespace MJ.Meta

/-- result `r` of executing a piece of code from frame `top` over `below`, against the tracker
`st'` after walking the same piece; `P` = names that an enclosing construct accounts for (the
report of an enclosing recursive loop, the free names of the blocks), `Q` ⊆ `P` = those of
them that may be read although a frame binds them (block bodies run in other frames) -/
structure Sim (top : Frame) (below : List Frame) (r : Res) (st' : St)
    (P Q : String → Prop) : Prop where
  inv : r.stopped = false → Inv r.top below st'
  grow : ∀ x ∈ top, x ∈ r.top
  reads : ∀ x ∈ r.reads, st'.reported x ∨ P x
  unb : ∀ x ∈ r.reads, bound top below x = false ∨ Q x

/-- a piece of code executed from frame `top` over `below` with result `r`, while the tracker
walks the same piece from `st` to `st'`: the walk is scope-local, and if `st` is justified by
the frames the result is simulated -/
structure Run (top : Frame) (below : List Frame) (st : St) (r : Res) (st' : St)
    (P Q : String → Prop) : Prop where
  step : Step st st'
  sim : Inv top below st → Sim top below r st' P Q

section
variable {top : Frame} {below : List Frame} {P Q : String → Prop}

theorem Sim.mono {r : Res} {st : St} {P' Q' : String → Prop}
    (h : Sim top below r st P Q) (hp : ∀ x, P x → P' x) (hq : ∀ x, Q x → Q' x) :
    Sim top below r st P' Q' :=
  ⟨h.inv, h.grow, fun x hx => (h.reads x hx).imp id (hp x), fun x hx => (h.unb x hx).imp id (hq x)⟩

/-- the look-ups of a piece that ran in a frame pushed on top of `top`, judged from below the
pushed frame (where fewer names are bound) -/
theorem Sim.pushed {f : Frame} {r : Res} {st : St} (s : Sim f (top :: below) r st P Q) :
    ∀ x ∈ r.reads, (st.reported x ∨ P x) ∧ (bound top below x = false ∨ Q x) :=
  fun x hx => ⟨s.reads x hx, (s.unb x hx).imp unbound_of_push id⟩

theorem Run.nil (st : St) : Run top below st ⟨top, [], false, false⟩ st P Q :=
  ⟨Step.refl st, fun h => ⟨fun _ => h, fun _ hx => hx, fun _ hx => (nomatch hx),
    fun _ hx => (nomatch hx)⟩⟩

/-- `break` / `continue`: nothing is read, control does not go on -/
theorem Run.stop (st : St) : Run top below st ⟨top, [], true, false⟩ st P Q :=
  ⟨Step.refl st, fun _ => ⟨fun h => (nomatch h), fun _ hx => hx, fun _ hx => (nomatch hx),
    fun _ hx => (nomatch hx)⟩⟩

theorem Run.leaves (st : St) (ls : List Leaf) :
    Run top below st ⟨top, lookups top below (roots ls), false, false⟩ (visitLeaves st ls) P Q :=
  ⟨step_visitLeaves st ls, fun h =>
    ⟨fun _ => (inv_visitLeaves ls h).1, fun _ hx => hx,
      fun x hx => Or.inl ((inv_visitLeaves ls h).2 x hx),
      fun _ hx => Or.inl ((mem_lookups _ _ _ _).1 hx).2⟩⟩

theorem Run.assign (st : St) (x : String) :
    Run top below st ⟨x :: top, [], false, false⟩ (st.assign x) P Q :=
  ⟨step_assign st x, fun h => ⟨fun _ => inv_assign x h (fun _ hy => List.mem_cons_of_mem _ hy)
      (by simp [bound]), fun _ hy => List.mem_cons_of_mem _ hy,
    fun _ hx => (nomatch hx), fun _ hx => (nomatch hx)⟩⟩

theorem Run.seq {r1 r2 : Res} {st st1 st2 : St} (h1 : Run top below st r1 st1 P Q)
    (hs : r1.stopped = false) (h2 : Run r1.top below st1 r2 st2 P Q) :
    Run top below st ⟨r2.top, r1.reads ++ r2.reads, r2.stopped, r2.aborted⟩ st2 P Q := by
  refine ⟨h1.step.trans h2.step, fun h => ?_⟩
  have s1 := h1.sim h
  have s2 := h2.sim (s1.inv hs)
  refine ⟨s2.inv, fun x hx => s2.grow x (s1.grow x hx), fun x hx => ?_, fun x hx => ?_⟩
  · exact (List.mem_append.1 hx).elim (fun hx => (s1.reads x hx).imp (h2.step.rep x) id) (s2.reads x)
  · exact (List.mem_append.1 hx).elim (s1.unb x)
      (fun hx => (s2.unb x hx).imp (unbound_anti s1.grow) id)

/-- control does not go on after the piece (break/continue, or a failure after some of its
look-ups): the tracker walks on, the execution does not -/
theorem Run.cut {r1 r' : Res} {st st1 st2 : St} (h1 : Run top below st r1 st1 P Q)
    (h2 : Step st1 st2) (htop : r'.top = r1.top)
    (hsub : ∀ x ∈ r'.reads, x ∈ r1.reads) (hst : r'.stopped = true) :
    Run top below st r' st2 P Q := by
  refine ⟨h1.step.trans h2, fun h => ?_⟩
  have s1 := h1.sim h
  exact ⟨fun h => (by rw [hst] at h; cases h), fun x hx => htop ▸ s1.grow x hx,
    fun x hx => (s1.reads x (hsub x hx)).imp (h2.rep x) id, fun x hx => s1.unb x (hsub x hx)⟩

/-- look-ups in front of a piece of code that are known to be fine -/
theorem Run.prepend {r : Res} {st st' : St} (r0 : List String) (h : Run top below st r st' P Q)
    (h0 : ∀ x ∈ r0, (st'.reported x ∨ P x) ∧ (bound top below x = false ∨ Q x)) :
    Run top below st ⟨r.top, r0 ++ r.reads, r.stopped, r.aborted⟩ st' P Q := by
  refine ⟨h.step, fun hi => ?_⟩
  have s := h.sim hi
  exact ⟨s.inv, s.grow, fun x hx => (List.mem_append.1 hx).elim (fun hx => (h0 x hx).1) (s.reads x),
    fun x hx => (List.mem_append.1 hx).elim (fun hx => (h0 x hx).2) (s.unb x)⟩

/-- a piece that runs in the current frame while the analysis gives it a scope of its own; inside
the scope the tracker may walk on (`b` to `c`) through code that is not executed: what that
assigns is gone with the scope -/
theorem Run.scope_then {r : Res} {a b c : St} (h : Run top below a.push r b P Q) (hc : Step b c) :
    Run top below a r c.pop P Q := by
  have hs := h.step.trans hc
  refine ⟨step_of_scope hs, fun ha => ?_⟩
  have s := h.sim ha.push
  exact ⟨fun _ => (ha.mono_top s.grow).of_scope hs, s.grow,
    fun x hx => (s.reads x hx).imp (hc.rep x) id, s.unb⟩

theorem Run.scope {r : Res} {a b : St} (h : Run top below a.push r b P Q) :
    Run top below a r b.pop P Q :=
  h.scope_then (Step.refl b)

/-- after the piece the tracker walks on through a scope that the execution does not enter -/
theorem Run.skip {r : Res} {st a b : St} (h : Run top below st r a P Q) (hs : Step a.push b) :
    Run top below st r b.pop P Q :=
  ⟨h.step.trans (step_of_scope hs), fun hi =>
    ⟨fun hn => ((h.sim hi).inv hn).of_scope hs, (h.sim hi).grow,
      fun x hx => ((h.sim hi).reads x hx).imp ((step_of_scope hs).rep x) id, (h.sim hi).unb⟩⟩

/-- a construct that leaves the frame as it found it (what it binds is gone at its end), by its
look-ups one by one -/
theorem Run.closed {a b : St} (hs : Step a b) (hi : Inv top below a → Inv top below b)
    (rs : List String) (stp ab : Bool)
    (h : Inv top below a → ∀ x ∈ rs, (b.reported x ∨ P x) ∧ (bound top below x = false ∨ Q x)) :
    Run top below a ⟨top, rs, stp, ab⟩ b P Q :=
  ⟨hs, fun ha => ⟨fun _ => hi ha, fun _ hx => hx, fun x hx => (h ha x hx).1,
    fun x hx => (h ha x hx).2⟩⟩

end

/-- pairs (frame, look-ups) of the binding helpers as results -/
def Res.ofPair (p : Frame × List String) : Res := ⟨p.1, p.2, false, false⟩

section
variable {top : Frame} {below : List Frame} {P Q : String → Prop}

theorem sim_atoms (as : List TAtom) (st : St) :
    Run top below st (Res.ofPair (bindAtoms top below as)) (as.foldl trackAtom st) P Q := by
  induction as generalizing top st with
  | nil => exact Run.nil st
  | cons a as ih =>
    cases a with
    | name x => exact (Run.assign st x).seq rfl (ih _)
    | look e => exact (Run.leaves st (nvars e)).seq rfl (ih _)

theorem sim_trackAssign (t : Expr) (st : St) :
    Run top below st (Res.ofPair (bindAtoms top below (targetAtoms t))) (trackAssign st t) P Q :=
  sim_atoms _ st

theorem sim_targets (ts : List Expr) (st : St) :
    Run top below st (Res.ofPair (bindTargets top below ts)) (ts.foldl trackAssign st) P Q := by
  induction ts generalizing top st with
  | nil => exact Run.nil st
  | cons t ts ih => exact (sim_trackAssign t st).seq rfl (ih _)

theorem sim_with (as : List (Expr × Expr)) (st : St) :
    Run top below st (Res.ofPair (bindWith top below as)) (withAssigns st as) P Q := by
  induction as generalizing top st with
  | nil => exact Run.nil st
  | cons p as ih =>
    obtain ⟨t, e⟩ := p
    exact (Run.leaves st (nvars e)).seq rfl ((sim_trackAssign t _).seq rfl (ih _))

theorem sim_args (as : List String) (ds : List Expr) (st : St) :
    Run top below st (Res.ofPair (bindArgs top below as ds)) (macroArgs st as ds) P Q := by
  induction as generalizing top st ds with
  | nil => exact Run.nil st
  | cons a as ih =>
    cases ds with
    | nil => exact (Run.assign st a).seq rfl (ih [] _)
    | cons d ds => exact (Run.leaves st (nvars d)).seq rfl ((Run.assign _ a).seq rfl (ih ds _))

end

theorem loop_frame_mono {top top' : Frame} {below below' : List Frame} (f : Frame)
    (hb : ∀ x, bound top below x = true → bound top' below' x = true) (x : String)
    (h : bound f (top :: below) x = true) : bound f (top' :: below') x = true := by
  rw [bound_cons_iff] at *
  exact h.imp id (hb x)

/-- analysis-side ghost of a running recursive loop: the tracker in front of `track_assign`
of the loop target, and the loop filter -/
structure Ghost where
  sB : St
  filter : Option Expr

/-- the tracker at the start of the loop body -/
def Ghost.sE (g : Ghost) (atoms : List TAtom) : St :=
  (visitOpt (atoms.foldl trackAtom g.sB) g.filter).assign "loop"

/-- every running recursive loop can be re-entered from the current frames: its tracker is
justified by a loop frame on top of them, what its body reports is accounted for by `P` -/
def RcOK : RC → List Ghost → Frame → List Frame → (String → Prop) → Prop
  | [], [], _, _, _ => True
  | e :: rc, g :: G, top, below, P =>
      (Inv ["loop"] (top :: below) g.sB ∧
        (∀ x, (walkList (g.sE e.1) e.2).reported x → P x)) ∧
      RcOK rc G top below P
  | _, _, _, _, _ => False

theorem RcOK.nil {top : Frame} {below : List Frame} {P : String → Prop} : RcOK [] [] top below P :=
  trivial

theorem RcOK.mono {top top' : Frame} {below below' : List Frame} {P P' : String → Prop}
    (hb : ∀ x, bound top below x = true → bound top' below' x = true) (hp : ∀ x, P x → P' x) :
    ∀ {rc : RC} {G : List Ghost}, RcOK rc G top below P → RcOK rc G top' below' P'
  | [], [], _ => trivial
  | _ :: _, _ :: _, ⟨⟨h1, h2⟩, h⟩ =>
      ⟨⟨h1.of_bound (loop_frame_mono _ hb), fun x hx => hp x (h2 x hx)⟩, RcOK.mono hb hp h⟩
  | [], _ :: _, h => h.elim
  | _ :: _, [], h => h.elim

theorem RcOK.drop {top : Frame} {below : List Frame} {P : String → Prop} :
    ∀ {rc : RC} {G : List Ghost} (k : Nat), RcOK rc G top below P →
      RcOK (rc.drop k) (G.drop k) top below P
  | _, _, 0, h => h
  | [], [], _ + 1, _ => trivial
  | _ :: _, _ :: _, k + 1, h => RcOK.drop k h.2
  | [], _ :: _, _ + 1, h => h.elim
  | _ :: _, [], _ + 1, h => h.elim

/-- the ambient exceptions: `Q ⊆ P`, and `Q` accounts for the blocks of the template -/
structure Ctx (bt : BT) (P Q : String → Prop) : Prop where
  qp : ∀ x, Q x → P x
  free : ∀ body ∈ bt, ∀ x ∈ (walkList St.init body).out, Q x

theorem Ctx.mono {bt : BT} {P P' Q : String → Prop} (h : Ctx bt P Q)
    (hqp : ∀ x, Q x → P' x) : Ctx bt P' Q :=
  ⟨hqp, h.free⟩

theorem Ctx.same {bt : BT} {P Q : String → Prop} (h : Ctx bt P Q) : Ctx bt Q Q :=
  ⟨fun _ hx => hx, h.free⟩

/-- the handler only produces look-ups that are accounted for -/
def KOK (K : Reenter) : Prop :=
  ∀ (P Q : String → Prop) (rc : RC) (G : List Ghost) (bt : BT) (top : Frame) (below : List Frame)
    (reqs : List Ch), Ctx bt P Q → RcOK rc G top below P →
    ∀ x ∈ K rc bt top below reqs, P x ∧ (bound top below x = false ∨ Q x)

/-- induction hypothesis for a sub-body -/
def BodyOK (body : List Stmt) : Prop :=
  ∀ (K : Reenter), KOK K → ∀ (P Q : String → Prop) (rc : RC) (G : List Ghost) (bt : BT) (st : St)
    (top : Frame) (below : List Frame) (cs : List Ch),
    Ctx bt P Q → RcOK rc G top below P →
    Run top below st (execList K rc bt top below cs body) (walkList st body) P Q

/-- what `run_walk` claims of one statement -/
def StmtOK (s : Stmt) : Prop :=
  ∀ (K : Reenter), KOK K → ∀ (P Q : String → Prop) (rc : RC) (G : List Ghost) (bt : BT) (st : St)
    (top : Frame) (below : List Frame) (c : Ch),
    Ctx bt P Q → RcOK rc G top below P →
    Run top below st (exec K rc bt top below c s) (walk st s) P Q

/-- one activation of a loop body — an iteration, or the re-entry of a running recursive loop —:
a loop frame with `loop` and the targets on top of the current frames (the tracker goes from
the front of the target to the body start, `g.sE`), then the body, with the recursive loops
`rc'` running; `P` accounts for what the walk of the body reports -/
theorem loop_activation {K : Reenter} (hK : KOK K) {P Q : String → Prop} {bt : BT} {top : Frame}
    {below : List Frame} (g : Ghost) (atoms : List TAtom) {body : List Stmt} (hb : BodyOK body)
    {rc' : RC} {G' : List Ghost} (hbt : Ctx bt P Q) (hiB : Inv ["loop"] (top :: below) g.sB)
    (hrep : ∀ x, (walkList (g.sE atoms) body).reported x → P x)
    (hrc' : RcOK rc' G' (bindAtoms ["loop"] (top :: below) atoms).1 (top :: below) P)
    (kid : List Ch) :
    ∀ x ∈ (bindAtoms ["loop"] (top :: below) atoms).2 ++
        (execList K rc' bt (bindAtoms ["loop"] (top :: below) atoms).1 (top :: below) kid body).reads,
      P x ∧ (bound top below x = false ∨ Q x) := by
  have h1 := sim_atoms (top := ["loop"]) (below := top :: below) (P := P) (Q := Q) atoms g.sB
  -- the filter is not evaluated here, and `loop` is bound by the frame anyway
  have h2 : Run (bindAtoms ["loop"] (top :: below) atoms).1 (top :: below) _
      ⟨_, [], false, false⟩ (g.sE atoms) P Q :=
    Run.closed ((step_visitOpt _ g.filter).trans (step_assign _ "loop"))
      (fun h => inv_assign "loop" (inv_visitLeaves _ h).1 (fun _ hy => hy)
        ((bound_iff _ _ _).2 (Or.inl ((h1.sim hiB).grow "loop" (by simp)))))
      [] false false (fun _ _ hx => nomatch hx)
  have s := (h1.seq rfl (h2.seq rfl (hb K hK P Q rc' G' bt _ _ _ kid hbt hrc'))).sim hiB
  exact fun x hx => (s.pushed x hx).imp (·.elim (hrep x) id) id

theorem sim_if (e : Expr) (t f : List Stmt) (ht : BodyOK t) (hf : BodyOK f) :
    StmtOK (.ifCond e t f) := by
  intro K hK P Q rc G bt st top below c hbt hrc
  simp only [walk, exec]
  -- the analysis walks both branches, each in a scope of its own; the execution enters one
  by_cases hn : c.n = 0
  · rw [if_pos hn]
    exact (Run.leaves st (nvars e)).seq rfl (((Run.nil _).scope_then (step_walkList t _)).seq rfl
      (hf K hK P Q rc G bt _ _ _ c.sub0 hbt hrc).scope)
  · rw [if_neg hn]
    exact (Run.leaves st (nvars e)).seq rfl
      ((ht K hK P Q rc G bt _ _ _ c.sub0 hbt hrc).scope.skip (step_walkList f _))

theorem sim_autoEscape (e : Expr) (body : List Stmt) (hb : BodyOK body) :
    StmtOK (.autoEscape e body) :=
  fun K hK P Q rc G bt st _ _ c hbt hrc =>
    (Run.leaves st (nvars e)).seq rfl (hb K hK P Q rc G bt _ _ _ c.sub0 hbt hrc).scope

theorem sim_filterBlock (filter : Expr) (body : List Stmt) (hb : BodyOK body) :
    StmtOK (.filterBlock filter body) := by
  intro K hK P Q rc G bt st top below c hbt hrc
  have h1 := (hb K hK P Q rc G bt st.push _ _ c.sub0 hbt hrc).scope
  simp only [walk, exec]
  by_cases hs : (execList K rc bt top below c.sub0 body).stopped = true
  · rw [if_pos hs]
    exact h1.cut (step_visitExpr _ filter) rfl (fun _ hx => hx) hs
  · rw [if_neg hs]
    exact h1.seq (Bool.eq_false_iff.2 hs) (Run.leaves _ (nvars filter))

theorem sim_setBlock (target : Expr) (filter : Option Expr) (body : List Stmt) (hb : BodyOK body) :
    StmtOK (.setBlock target filter body) := by
  intro K hK P Q rc G bt st top below c hbt hrc
  have h1 := (hb K hK P Q rc G bt st.push _ _ c.sub0 hbt hrc).scope
  simp only [walk, exec]
  by_cases hs : (execList K rc bt top below c.sub0 body).stopped = true
  · rw [if_pos hs]
    exact h1.cut ((step_visitOpt _ filter).trans (step_trackAssign _ target)) rfl (fun _ hx => hx) hs
  · rw [if_neg hs]
    exact h1.seq (Bool.eq_false_iff.2 hs)
      ((Run.leaves _ (nvarsOpt filter)).seq rfl (sim_trackAssign target _))

theorem sim_set (target e : Expr) :
    StmtOK (.set target e) :=
  fun _ _ _ _ _ _ _ st _ _ _ _ _ => (Run.leaves st (nvars e)).seq rfl (sim_trackAssign target _)

/-- `import … as`: an assignment whose right-hand side is evaluated above a pushed empty frame -/
theorem sim_importAs (e target : Expr) :
    StmtOK (.importAs e target) := by
  intro K hK P Q rc G bt st top below c hbt hrc
  simpa only [walk, exec, lookups_push] using
    sim_set target e K hK P Q rc G bt st top below c hbt hrc

theorem sim_fromImport (e : Expr) (targets : List Expr) :
    StmtOK (.fromImport e targets) := by
  intro K _ P Q rc G bt st top below c _ _
  simp only [walk, exec, lookups_push]
  exact (Run.leaves st (nvars e)).seq rfl (sim_targets targets _)

theorem sim_withBlock (assigns : List (Expr × Expr)) (body : List Stmt) (hb : BodyOK body) :
    StmtOK (.withBlock assigns body) := by
  intro K hK P Q rc G bt st top below c hbt hrc
  -- the assignments and the body in a frame of their own, which is gone afterwards
  have h12 := (sim_with (top := []) assigns st.push).seq rfl (hb K hK P Q rc G bt _ _ _ c.sub0 hbt
    (hrc.mono (bound_under _ _ _) (fun _ hp => hp)))
  exact Run.closed (step_of_scope h12.step) (fun h => h.of_scope h12.step) _ _ _ fun h =>
    (h12.sim h.push.push_frame).pushed

theorem sim_for (target iter : Expr) (filter : Option Expr) (recursive : Bool)
    (body els : List Stmt) (hb : BodyOK body) (he : BodyOK els) :
    StmtOK (.forLoop target iter filter recursive body els) := by
  intro K hK P Q rc G bt st top below c hbt hrc
  -- tracker states along `track_walk`
  generalize hsB : visitExpr st.push iter = sB
  generalize hsD : visitOpt (trackAssign sB target) filter = sD
  generalize hsF : walkList (sD.assign "loop") body = sF
  generalize hsH : walkList sF.pop.push els = sH
  have hw : walk st (.forLoop target iter filter recursive body els) = sH.pop := by
    simp only [walk, hsB, hsD, hsF, hsH]
  have stDF : Step sD sF := hsF ▸ Step.trans (step_assign _ _) (step_walkList _ _)
  -- the iterable, evaluated outside; the filter pass, in a frame without `loop`; the else body,
  -- in the outer frame
  have hvB : Run top below st.push ⟨top, lookups top below (vars iter), false, false⟩ sB P Q :=
    hsB ▸ (Run.leaves st.push (nvars iter) : Run _ _ _ _ (visitExpr st.push iter) _ _)
  have hfp : Run [] (top :: below) sB _ sD (fun _ => False) (fun _ => False) :=
    hsD ▸ ((sim_trackAssign target sB).seq rfl (Run.leaves _ (nvarsOpt filter)) :
      Run _ _ _ _ (visitOpt (trackAssign sB target) filter) _ _)
  have hv0 := hvB.scope_then (hfp.step.trans stDF)
  have hElse : ∀ cs, Run top below sF.pop (execList K rc bt top below cs els) sH.pop P Q :=
    fun cs => hsH ▸ (he K hK P Q rc G bt _ _ _ cs hbt hrc).scope
  rw [hw]
  simp only [exec]
  by_cases hn0 : c.n = 0
  · rw [if_pos hn0]
    exact hv0.seq rfl (hElse c.sub0)
  · refine ⟨hv0.step.trans (hElse []).step, fun h => ?_⟩
    have oF : ∀ x, sF.reported x → sH.pop.reported x := (hElse []).step.rep
    have hiB : Inv top below sB := (hvB.sim h.push).inv rfl
    have hf := hfp.sim hiB.push_frame
    have rf_ok : ∀ x ∈ (bindAtoms [] (top :: below) (targetAtoms target)).2 ++
        lookups (bindAtoms [] (top :: below) (targetAtoms target)).1 (top :: below)
          (varsOpt filter),
        (sH.pop.reported x ∨ P x) ∧ (bound top below x = false ∨ Q x) := fun x hx =>
      (hf.pushed x hx).imp (fun h => Or.inl (oF x (stDF.rep x (h.resolve_right id))))
        (fun h => Or.inl (h.resolve_right id))
    by_cases hn1 : c.n = 1
    · rw [if_neg hn0, if_pos hn1]
      exact (hv0.seq rfl (Run.prepend _ (hElse c.sub0) rf_ok)).sim h
    · rw [if_neg hn0, if_neg hn1]
      -- iterations: loop frame with `loop`, target, then the body, which may rely on the
      -- enclosing promises plus its own report
      have hiBl : Inv ["loop"] (top :: below) sB := hiB.push_frame.mono_top (by simp)
      have hrepF : ∀ x, (walkList ((Ghost.mk sB filter).sE (targetAtoms target)) body).reported x →
          P x ∨ sF.reported x := fun x hx => Or.inr (by rw [← hsF, ← hsD]; exact hx)
      have hrc0 : RcOK rc G (bindAtoms ["loop"] (top :: below) (targetAtoms target)).1
          (top :: below) (fun x => P x ∨ sF.reported x) :=
        hrc.mono (bound_under _ _ _) (fun _ hp => Or.inl hp)
      have hrc1 : RcOK (if recursive then (targetAtoms target, body) :: rc else rc)
          (if recursive then Ghost.mk sB filter :: G else G)
          (bindAtoms ["loop"] (top :: below) (targetAtoms target)).1 (top :: below)
          (fun x => P x ∨ sF.reported x) := by
        cases recursive
        · exact hrc0
        · exact ⟨⟨hiBl.of_bound (loop_frame_mono _ (bound_under _ _ _)), hrepF⟩, hrc0⟩
      have hact := loop_activation hK (Ghost.mk sB filter) (targetAtoms target) hb
        (hbt.mono (fun x hq => Or.inl (hbt.qp x hq))) hiBl hrepF hrc1
      have hP : ∀ x, P x ∨ sF.reported x → sH.pop.reported x ∨ P x := fun x h => h.symm.imp (oF x) id
      -- the loop frames are gone afterwards; the tracker goes on through the scope of the else body
      exact (hv0.seq rfl (Run.prepend _ (Run.prepend _
        (Run.closed (hElse []).step (fun hiG => hiG.of_scope (hsH ▸ step_walkList els _)) _ _ _
          fun _ x hx => by
            obtain ⟨kid, _, hx⟩ := List.mem_flatMap.1 hx
            exact (hact kid x (List.mem_append_right _ hx)).imp (hP x) id)
        fun x hx => (hact [] x (List.mem_append_left _ hx)).imp (hP x) id)
        rf_ok)).sim h

theorem mem_closureNames {args : List String} {defaults : List Expr} {body : List Stmt}
    {x : String} : x ∈ closureNames args defaults body ↔
      x ∈ findMacroClosure args defaults body ∧ x ≠ "caller" := by
  simp [closureNames]

/-- everything the closure analysis reports is resolved by a frame that has `caller` (iff the
analysis saw it) and at least the closure names -/
theorem callFrame_bound (args : List String) (defaults : List Expr) (body : List Stmt)
    (keys : List String) (hk : ∀ x ∈ closureNames args defaults body, x ∈ keys)
    (x : String) (hx : x ∈ findMacroClosure args defaults body) :
    bound ((if callerRef args defaults body then ["caller"] else []) ++ keys) [[]] x = true := by
  rw [bound_iff]
  left
  by_cases hc : x = "caller"
  · subst hc
    have : callerRef args defaults body = true := by
      simp [callerRef, hx]
    simp [this]
  · exact List.mem_append_right _ (hk x (mem_closureNames.2 ⟨hx, hc⟩))

theorem macroFrame_bound (args : List String) (defaults : List Expr) (body : List Stmt) :
    ∀ x ∈ findMacroClosure args defaults body,
      bound (macroFrame args defaults body) [[]] x = true :=
  callFrame_bound args defaults body _ (fun _ h => h)

/-- closure visibility: a macro body (prologue + body) run in a context of its own — a frame
`F` that resolves whatever the closure analysis reports, locals, base context — asks the render
context for nothing except what the blocks it renders ask for: every free name of the body is
reported by the closure analysis, and those `F` resolves -/
theorem macro_body_reads {K : Reenter} (hK : KOK K) {P Q : String → Prop} {bt : BT} (F : Frame)
    (args : List String) (defaults : List Expr) (body : List Stmt)
    (hF : ∀ x ∈ findMacroClosure args defaults body, bound F [[]] x = true)
    (hb : BodyOK body) (hbt : Ctx bt P Q) (kid : List Ch) (x : String)
    (hx : x ∈ (bindArgs F [[]] args.reverse defaults.reverse).2 ++
      (execList K [] bt (bindArgs F [[]] args.reverse defaults.reverse).1 [[]] kid body).reads) :
    Q x := by
  have hall := ((sim_args (top := F) (below := [[]]) args.reverse defaults.reverse St.init).seq rfl
    (hb K hK Q Q [] [] bt _ _ _ kid hbt.same RcOK.nil)).sim (Inv.fresh rfl)
  have hflat : (walkList (macroArgs St.init args.reverse defaults.reverse) body).nested = none :=
    (Step.trans (step_macroArgs St.init _ _) (step_walkList body _)).nested_none rfl
  rcases hall.unb x hx with hu | hu
  · rcases hall.reads x hx with hr | hr
    · rw [reported_none hflat] at hr
      have := hF x hr
      rw [hu] at this; cases this
    · exact hr
  · exact hu

/-- look-ups of `Enclose` at a macro declaration -/
theorem enclose_reads (st1 : St) (hne : st1.assigned ≠ [])
    (args : List String) (defaults : List Expr) (body : List Stmt) (x : String)
    (hx : x ∈ closureNames args defaults body) :
    (walkList (macroArgs (st1.assign "caller") args.reverse defaults.reverse) body).reported x
      ∨ st1.isAssigned x = true := by
  obtain ⟨hx1, hx2⟩ := mem_closureNames.1 hx
  rcases closure_in_context (st1.assign "caller") (assign_ne _ hne _) args defaults body x hx1
    with h | h
  · exact Or.inl h
  · rcases (isAssigned_assign _ _ _).1 h with h | ⟨h, _⟩
    · exact Or.inr h
    · exact absurd h hx2

/-- a macro or call-block declaration — `Enclose` of the closure names in the current frames,
then (accounted for at the declaration) the executions of the body in frames of their own —
against `tracker_visit_macro` in a scope pushed on `s1` -/
theorem sim_decl {K : Reenter} (hK : KOK K) {P Q : String → Prop} {bt : BT} {top : Frame}
    {below : List Frame} (args : List String) (defaults : List Expr) (body : List Stmt)
    (hb : BodyOK body) (hbt : Ctx bt P Q) (s1 : St) (subs : List (List Ch)) :
    Run top below s1 ⟨top, lookups top below (closureNames args defaults body) ++
        subs.flatMap (fun kid =>
          (bindArgs (macroFrame args defaults body) [[]] args.reverse defaults.reverse).2 ++
            (execList K [] bt
              (bindArgs (macroFrame args defaults body) [[]] args.reverse defaults.reverse).1
              [[]] kid body).reads), false, false⟩
      (walkList (macroArgs (s1.push.assign "caller") args.reverse defaults.reverse) body).pop P Q := by
  have hs := (piece_macroBody args defaults (piece_walkList body)).step s1.push
  refine Run.closed (step_of_scope hs) (fun h => h.of_scope hs) _ _ _ fun h1 x hx => ?_
  rcases List.mem_append.1 hx with hx | hx
  · obtain ⟨hx1, hx2⟩ := (mem_lookups _ _ _ _).1 hx
    refine ⟨Or.inl ?_, Or.inl hx2⟩
    rcases enclose_reads s1.push (by simp [St.push]) args defaults body x hx1 with h | h
    · exact h
    · -- assigned outside the declaration and not bound in a frame: reported before
      rw [isAssigned_push] at h
      exact hs.rep x ((h1 x h).resolve_right (by rw [hx2]; exact Bool.false_ne_true))
  · obtain ⟨kid, _, hx⟩ := List.mem_flatMap.1 hx
    have := macro_body_reads hK _ args defaults body (macroFrame_bound args defaults body) hb hbt
      kid x hx
    exact ⟨Or.inr (hbt.qp x this), Or.inr this⟩

theorem sim_macro (name : String) (args : List String) (defaults : List Expr) (body : List Stmt)
    (hb : BodyOK body) :
    StmtOK (.macro name args defaults body) := by
  intro K hK P Q rc G bt st top below c hbt _
  simpa only [walk, exec, List.append_nil] using
    (sim_decl hK args defaults body hb hbt st c.subs).seq rfl (Run.assign _ name)

theorem sim_callBlock (callee : Expr) (cargs : List CallArg) (args : List String)
    (defaults : List Expr) (body : List Stmt) (hb : BodyOK body) :
    StmtOK (.callBlock callee cargs args defaults body) :=
  fun _ hK _ _ _ _ _ st _ _ c hbt _ =>
    (Run.leaves st (nvarsCall callee cargs)).seq rfl (sim_decl hK args defaults body hb hbt _ c.subs)

theorem sim_block (name : String) (body : List Stmt) (hb : BodyOK body) :
    StmtOK (.block name body) := by
  intro K hK P Q rc G bt st top below c hbt _
  -- a fresh frame on top of the current ones; the tracker on a scope stack of its own
  have hs := hb K hK P Q [] [] bt { st with assigned := [[]] } [] (top :: below) c.sub0 hbt RcOK.nil
  exact Run.closed (step_restore hs.step) (fun h => h.of_le (fun _ hx => hx) hs.step.rep) _ _ _
    fun _ => (hs.sim (Inv.fresh rfl)).pushed

/-- a statement followed by the rest of its list: the requests served at its start, the
statement, then — unless the render fails inside it or control leaves — the rest -/
theorem sim_cons {s : Stmt} {ss : List Stmt} (hs : StmtOK s) (hss : BodyOK ss) :
    BodyOK (s :: ss) := by
  intro K hK P Q rc G bt st top below cs hbt hrc
  have hq := hK P Q rc G bt top below (cs.headD Ch.default).reqs hbt hrc
  have h1 := hs K hK P Q rc G bt st top below (cs.headD Ch.default) hbt hrc
  have hq' : ∀ st' : St, ∀ x ∈ K rc bt top below (cs.headD Ch.default).reqs,
      (st'.reported x ∨ P x) ∧ (bound top below x = false ∨ Q x) :=
    fun _ x hx => ⟨Or.inr (hq x hx).1, (hq x hx).2⟩
  have h1' := Run.prepend _ h1 (hq' _)
  simp only [walkList, execList]
  by_cases ha : (cs.headD Ch.default).ab = 0
  · simp only [ha, ne_eq, not_true_eq_false, if_false]
    by_cases hst : (exec K rc bt top below (cs.headD Ch.default) s).stopped = true
    · simp only [hst, if_true]
      exact h1'.cut (step_walkList ss _) rfl (fun _ hx => hx) rfl
    · have hst' := Bool.eq_false_iff.2 hst
      simp only [hst', Bool.false_eq_true, if_false]
      refine ⟨h1.step.trans (step_walkList ss _), fun h => ?_⟩
      -- the running loops can still be re-entered from the frame the statement leaves
      have hrc' := hrc.mono (top' := (exec K rc bt top below (cs.headD Ch.default) s).top)
        (below' := below) (fun x hx => bound_mono (h1.sim h).grow hx) (fun _ hp => hp)
      exact (Run.prepend _ (h1.seq hst' (hss K hK P Q rc G bt _ _ below cs.tail hbt hrc')) (hq' _)).sim h
  · simp only [ha, ne_eq, not_false_eq_true, if_true]
    exact h1'.cut (step_walkList ss _) rfl (fun x hx => List.mem_of_mem_take hx) rfl

mutual
theorem run_walk : (s : Stmt) → StmtOK s
  | .emit e => fun _ _ _ _ _ _ _ st _ _ _ _ _ => Run.leaves st (nvars e)
  | .raw => fun _ _ _ _ _ _ _ st _ _ _ _ _ => Run.nil st
  | .forLoop target iter filter recursive body els =>
      sim_for target iter filter recursive body els (run_walkList body) (run_walkList els)
  | .ifCond e t f => sim_if e t f (run_walkList t) (run_walkList f)
  | .withBlock assigns body => sim_withBlock assigns body (run_walkList body)
  | .set target e => sim_set target e
  | .setBlock target filter body => sim_setBlock target filter body (run_walkList body)
  | .autoEscape e body => sim_autoEscape e body (run_walkList body)
  | .filterBlock filter body => sim_filterBlock filter body (run_walkList body)
  | .macro name args defaults body => sim_macro name args defaults body (run_walkList body)
  | .callBlock callee cargs args defaults body =>
      sim_callBlock callee cargs args defaults body (run_walkList body)
  | .doStmt callee cargs => fun _ _ _ _ _ _ _ st _ _ _ _ _ => Run.leaves st (nvarsCall callee cargs)
  | .brk => fun _ _ _ _ _ _ _ st _ _ _ _ _ => Run.stop st
  | .cont => fun _ _ _ _ _ _ _ st _ _ _ _ _ => Run.stop st
  | .block name body => sim_block name body (run_walkList body)
  | .include name => fun _ _ P Q _ _ _ st _ _ _ _ _ =>
      -- the included template may leave names behind in the top frame: that only binds more
      ⟨step_visitExpr st name, fun h =>
        have hv := (Run.leaves (P := P) (Q := Q) st (nvars name)).sim h
        ⟨fun _ => (hv.inv rfl).mono_top (fun _ hy => List.mem_append_right _ hy),
          fun _ hy => List.mem_append_right _ hy, hv.reads, hv.unb⟩⟩
  | .extends name => fun _ _ _ _ _ _ _ st _ _ _ _ _ => Run.leaves st (nvars name)
  | .importAs e target => sim_importAs e target
  | .fromImport e targets => sim_fromImport e targets
theorem run_walkList : (ss : List Stmt) → BodyOK ss
  | [] => fun _ _ _ _ _ _ _ st _ _ _ _ _ => Run.nil st
  | s :: ss => sim_cons (run_walk s) (run_walkList ss)
end

theorem sim_walk : (s : Stmt) → ∀ (K : Reenter), KOK K → ∀ (P Q : String → Prop) (rc : RC)
    (G : List Ghost) (bt : BT) (st : St) (top : Frame) (below : List Frame) (c : Ch),
    Ctx bt P Q → RcOK rc G top below P → Inv top below st →
    Sim top below (exec K rc bt top below c s) (walk st s) P Q :=
  fun s K hK P Q rc G bt st top below c hbt hrc h =>
    (run_walk s K hK P Q rc G bt st top below c hbt hrc).sim h

/-- a body of the block table entered with any frames, analysed on its own: what it asks for is
among the free names `Ctx` accounts for -/
theorem block_body_ok {K : Reenter} (hK : KOK K) {P Q : String → Prop} {bt : BT} (hbt : Ctx bt P Q)
    {body : List Stmt} (hb : body ∈ bt) (top : Frame) (below : List Frame) (cs : List Ch) :
    ∀ x ∈ (execList K [] bt top below cs body).reads, P x ∧ (bound top below x = false ∨ Q x) := by
  intro x hx
  have s := (run_walkList body K hK P Q [] [] bt St.init top below cs hbt RcOK.nil).sim (Inv.fresh rfl)
  exact ⟨(s.reads x hx).elim
    (fun hr => hbt.qp x (hbt.free body hb x ((reported_findUndeclared body x).1 hr))) id, s.unb x hx⟩

/-- one re-entry request (a running recursive loop, a block of the template) is accounted
for, whatever handler `K` serves the requests nested inside it -/
theorem serve_ok {K : Reenter} (hK : KOK K) (P Q : String → Prop) (rc : RC) (G : List Ghost)
    (bt : BT) (top : Frame) (below : List Frame) (r : Ch) (hbt : Ctx bt P Q)
    (hrc : RcOK rc G top below P) :
    ∀ x ∈ serve K rc bt top below r, P x ∧ (bound top below x = false ∨ Q x) := by
  intro x hx
  unfold serve at hx
  split at hx
  · -- a running recursive loop
    have hd := hrc.drop r.n
    split at hx
    · rename_i atoms body rest heq
      rw [heq] at hd
      cases hG : G.drop r.n with
      | nil => rw [hG] at hd; simp [RcOK] at hd
      | cons g G' =>
        rw [hG] at hd
        exact loop_activation hK g atoms (run_walkList body) hbt hd.1.1 hd.1.2
          (hd.mono (bound_under _ _ _) (fun _ hp => hp)) r.sub0 x hx
    · cases hx
  · -- a block of the template
    split at hx
    · rename_i body heq
      exact (block_body_ok hK hbt (List.mem_of_getElem? heq) [] (top :: below) r.sub0 x hx).imp id
        (Or.imp unbound_of_push id)
    · cases hx

/-- a handler `R d` that serves its requests one by one through `S`, the requests nested inside
them going to `R (d - 1)` and those of `R 0` to nobody, is accounted for when `S` is, given an
accounted-for handler for the nested requests -/
theorem kok_rounds {S : Reenter → RC → BT → Frame → List Frame → Ch → List String}
    (hS : ∀ {K : Reenter}, KOK K → ∀ (P Q : String → Prop) (rc : RC) (G : List Ghost) (bt : BT)
      (top : Frame) (below : List Frame) (r : Ch), Ctx bt P Q → RcOK rc G top below P →
      ∀ x ∈ S K rc bt top below r, P x ∧ (bound top below x = false ∨ Q x))
    {R : Nat → Reenter} (h0 : R 0 = fun _ _ _ _ _ => [])
    (hs : ∀ d, R (d + 1) = fun rc bt top below reqs => reqs.flatMap (S (R d) rc bt top below)) :
    ∀ d, KOK (R d)
  | 0 => fun _ _ _ _ _ _ _ _ _ _ _ hx => by rw [h0] at hx; cases hx
  | d + 1 => fun P Q rc G bt top below reqs hbt hrc x hx => by
    rw [hs d] at hx
    obtain ⟨r, _, hx⟩ := List.mem_flatMap.1 hx
    exact hS (kok_rounds hS h0 hs d) P Q rc G bt top below r hbt hrc x hx

/-- re-entries are accounted for, however deeply they nest -/
theorem kok_reenter : ∀ d, KOK (reenter d) :=
  kok_rounds serve_ok rfl fun _ => rfl

theorem blocksL_reported (ss : List Stmt) (st : St) :
    ∀ x ∈ freeOf (blockBodiesL ss), (walkList st ss).reported x :=
  (piece_walkList ss).blocks st

theorem ctx_freeOf (bt : BT) : Ctx bt (· ∈ freeOf bt) (· ∈ freeOf bt) :=
  ⟨fun _ h => h, fun _ hb _ hy => mem_freeOf hb hy⟩

/-- The general soundness statement.  The top-level code of a template entered with ANY frames
(nothing is assigned in the tracker yet, so the frames may bind whatever they like), any
accounted-for handler, either mode of the analysis, every execution (failing ones included); the
block table may hold, besides the blocks of the template, further bodies whose free names satisfy
`R` (host callables are request targets of this kind): every look-up is reported or satisfies `R` -/
theorem template_sound_in (K : Reenter) (hK : KOK K) (t : List Stmt) (bt : BT) (R : String → Prop)
    (hbt : ∀ body ∈ bt, body ∈ blockBodiesL t ∨ ∀ x ∈ (walkList St.init body).out, R x)
    (st0 : St) (h0 : st0.assigned = [[]]) (top : Frame) (below : List Frame)
    (cs : List Ch) (x : String) (hx : x ∈ (execList K [] bt top below cs t).reads) :
    (walkList st0 t).reported x ∨ R x := by
  have hctx : Ctx bt (fun x => x ∈ freeOf (blockBodiesL t) ∨ R x)
      (fun x => x ∈ freeOf (blockBodiesL t) ∨ R x) :=
    ⟨fun _ h => h, fun body hb x hx => (hbt body hb).imp (fun hb => mem_freeOf hb hx) (fun h => h x hx)⟩
  have hsim := (run_walkList t K hK _ _ [] [] bt st0 top below cs hctx RcOK.nil).sim (Inv.fresh h0)
  rcases hsim.reads x hx with h | h | h
  · exact Or.inl h
  · exact Or.inl (blocksL_reported t st0 x h)
  · exact Or.inr h

/-- … in both results of `find_undeclared` -/
theorem template_sound_both (K : Reenter) (hK : KOK K) (t : List Stmt) (bt : BT) (R : String → Prop)
    (hbt : ∀ body ∈ bt, body ∈ blockBodiesL t ∨ ∀ x ∈ (walkList St.init body).out, R x)
    (top : Frame) (below : List Frame) (cs : List Ch) (x : String)
    (hx : x ∈ (execList K [] bt top below cs t).reads) :
    (x ∈ findUndeclared t ∧ ∃ attrs, (x, attrs) ∈ findUndeclaredNested t) ∨ R x := by
  rcases template_sound_in K hK t bt R hbt St.init rfl top below cs x hx with h1 | h
  · rcases template_sound_in K hK t bt R hbt St.initNested rfl top below cs x hx with h2 | h
    · exact Or.inl ⟨(reported_findUndeclared t x).1 h1, (reported_findUndeclaredNested t x).1 h2⟩
    · exact Or.inr h
  · exact Or.inr h

/-- … with the blocks of the template as the block table -/
theorem template_sound (K : Reenter) (hK : KOK K) (t : List Stmt) (top : Frame)
    (below : List Frame) (cs : List Ch) (x : String)
    (hx : x ∈ (execList K [] (blockBodiesL t) top below cs t).reads) :
    x ∈ findUndeclared t ∧ ∃ attrs, (x, attrs) ∈ findUndeclaredNested t :=
  (template_sound_both K hK t _ (fun _ => False) (fun _ h => Or.inl h) top below cs x hx).resolve_right
    fun h => h

end MJ.Meta
