import MJ.Model.Fold
import MJ.Gen.Tables
/-!
# C04: the model's operator tables are the ones in the source

`lib/tables/c04.py` regenerates, on every run, the operator tables of the folder (`eval_binop`,
`eval_compare`, the unary arm of `as_const`), of the code generator (`compile_bin_op`, `sc_bool`,
`emit_compare`, `compare_op`) and of the VM (`func_binop!`/`op_binop!` instructions, the arms of
`CompareAndPreserve`) into `MJ.Gen`.  Here the tags of those tables are given their meaning and the
model's functions are proved to be *equal to the interpreted tables*: an arm that changes in the
source changes the table and these theorems stop compiling.
-/
namespace MJ.Fold.Tables
open MJ.Fold

def lookup (t : List (String × List String)) (k : String) : List String :=
  ((t.find? (·.1 == k)).map (·.2)).getD []

/-- single-word tags (instruction / `CompareOp` names) -/
def lookup1 (t : List (String × List String)) (k : String) : String :=
  match lookup t k with
  | [x] => x
  | _ => "?"

/-- the Rust name of a model operator -/
def rustBin : BinOp → String
  | .eq => "Eq" | .ne => "Ne" | .lt => "Lt" | .le => "Lte" | .gt => "Gt" | .ge => "Gte"
  | .and => "ScAnd" | .or => "ScOr" | .add => "Add" | .sub => "Sub" | .mul => "Mul" | .div => "Div"
  | .fdiv => "FloorDiv" | .rem => "Rem" | .pow => "Pow" | .cat => "Concat" | .in_ => "In"

def rustCmp : CmpOp → String
  | .eq => "Eq" | .ne => "Ne" | .lt => "Lt" | .le => "Lte" | .gt => "Gt" | .ge => "Gte"
  | .in_ => "In" | .notIn => "NotIn"

/-- all model operators, in the order of the Rust enums -/
def allBinOps : List BinOp :=
  [.eq, .ne, .lt, .le, .gt, .ge, .and, .or, .add, .sub, .mul, .div, .fdiv, .rem, .pow, .cat, .in_]
def allCmpOps : List CmpOp := [.eq, .ne, .lt, .le, .gt, .ge, .in_, .notIn]

section
variable (P : Prims)

/-- `a ⋈ b` on `Value` for the operator token `⋈` -/
def relOf (tok : String) : Option (V → V → Bool) :=
  match tok with
  | "==" => some P.eq
  | "!=" => some fun a b => !P.eq a b
  | "<" => some (ltV P)
  | "<=" => some (leV P)
  | ">" => some (gtV P)
  | ">=" => some (geV P)
  | _ => none

/-- `ops::<name>` -/
def opsOf (name : String) : Option (V → V → Except Err V) :=
  match name with
  | "add" => some P.add
  | "sub" => some P.sub
  | "mul" => some P.mul
  | "div" => some P.div
  | "int_div" => some P.fdiv
  | "rem" => some P.rem
  | "pow" => some P.pow
  | "contains" => some P.contains
  | _ => none

/-- meaning of a right-hand side of `eval_binop` / `eval_compare` -/
def interpFold (tag : List String) (l r : V) : Option V :=
  match tag with
  | ["ops", name, "lr"] => (opsOf P name).bind fun f => Except.toOpt (f l r)
  | ["ops", name, "rl"] => (opsOf P name).bind fun f => Except.toOpt (f r l)
  | ["concat", "lr"] => some (P.concat l r)
  | ["cmp", tok] => (relOf P tok).map fun f => .bool (f l r)
  | ["sel", "l?r", "l"] => some (if P.isTrue l then r else l)
  | ["sel", "l?l", "r"] => some (if P.isTrue l then l else r)
  | ["notcontains", "rl"] => (Except.toOpt (P.contains r l)).map fun v => .bool (!P.isTrue v)
  | _ => none

variable (m : Mode)

/-- meaning of a VM instruction applied to the two popped operands (`a` pushed first), through the
    `func_binop!`/`op_binop!` table; `StringConcat` and `In` have hand-written handlers -/
def interpInstr (instr : String) (a b : V) : Option (Except Err V) :=
  if instr = "StringConcat" then
    some (match assertDefined m a with
      | .error e => .error e
      | .ok _ => match assertDefined m b with
        | .error e => .error e
        | .ok _ => .ok (P.concat a b))
  else if instr = "In" then some (inInstr P m a b)
  else match lookup MJ.Gen.vmBinopTable instr with
    | ["func", name] => (opsOf P name).map fun f => f a b
    | ["op", tok] => (relOf P tok).map fun f => opBinop m f a b
    | _ => none

/-- `emit_compare`: one instruction, optionally followed by `Not` -/
def interpEmit (tag : List String) (a b : V) : Option (Except Err V) :=
  match tag with
  | [instr] => interpInstr P m instr a b
  | [instr, "Not"] => (interpInstr P m instr a b).map fun r => match r with
    | .error e => .error e
    | .ok v => notInstr P m v
  | _ => none

/-- an arm of `CompareAndPreserve` -/
def interpCap (tag : List String) (a b : V) : Option (Except Err Bool) :=
  match tag with
  | ["op", tok] => (relOf P tok).map fun f =>
    match assertDefined m a with
    | .error e => .error e
    | .ok _ => match assertDefined m b with
      | .error e => .error e
      | .ok _ => .ok (f a b)
  | ["contains", "ba"] => some (
    match assertDefined m b with
    | .error e => .error e
    | .ok _ => match assertDefined m a with
      | .error e => .error e
      | .ok _ => match P.contains b a with
        | .error e => .error e
        | .ok v => .ok (P.isTrue v))
  | ["contains", "ba", "not"] => some (
    match assertDefined m b with
    | .error e => .error e
    | .ok _ => match assertDefined m a with
      | .error e => .error e
      | .ok _ => match P.contains b a with
        | .error e => .error e
        | .ok v => .ok (!P.isTrue v))
  | _ => none

/-! The theorems are finite facts about the regenerated tables and are proved by evaluation.  The work is
string comparison, on which the elaborator's evaluator is slow: `decide +kernel` leaves the evaluation
to the kernel alone, and `eq_refl` (one defeq check per operator) avoids the fallbacks the `rfl` tactic
tries first. -/

def sameSet (xs ys : List String) : Bool := xs.all (ys.contains ·) && ys.all (xs.contains ·)

/-- the model has exactly the operators of the Rust enums, and the folder tables have a row for
    exactly those operators (so an operator added to the source breaks this theorem) -/
theorem operators_complete :
    sameSet MJ.Gen.binOpKinds (allBinOps.map rustBin) = true ∧
    sameSet MJ.Gen.compareOpKinds (allCmpOps.map rustCmp) = true ∧
    sameSet MJ.Gen.unaryOpKinds ["Not", "Neg"] = true ∧
    sameSet (MJ.Gen.foldBinopTable.map (·.1)) (allBinOps.map rustBin) = true ∧
    sameSet (MJ.Gen.foldCompareTable.map (·.1)) (allCmpOps.map rustCmp) = true ∧
    lookup MJ.Gen.foldUnaryTable "Not" = ["not", "is_true"] ∧ lookup MJ.Gen.foldUnaryTable "Neg" = ["ops", "neg"] := by
  decide +kernel

/-- `evalBinop` is `eval_binop` as found in the source -/
theorem evalBinop_from_source (op : BinOp) (l r : V) :
    evalBinop P op l r = interpFold P (lookup MJ.Gen.foldBinopTable (rustBin op)) l r := by
  cases op <;> eq_refl

/-- `evalCompare` is `eval_compare` as found in the source -/
theorem evalCompare_from_source (op : CmpOp) (l r : V) :
    evalCompare P op l r = interpFold P (lookup MJ.Gen.foldCompareTable (rustCmp op)) l r := by
  cases op <;> eq_refl

/-- `and`/`or` compile to the jump instructions the model's `evalRt` implements -/
theorem short_circuit_from_source :
    lookup1 MJ.Gen.codegenBinopTable (rustBin .and) = "JumpIfFalseOrPop" ∧
    lookup1 MJ.Gen.codegenBinopTable (rustBin .or) = "JumpIfTrueOrPop" := by
  decide +kernel

/-- `binInstr` is the instruction `compile_bin_op` selects, with the meaning the VM gives it -/
theorem binInstr_from_source (op : BinOp) (hand : op ≠ .and) (hor : op ≠ .or) (a b : V) :
    some (binInstr P m op a b) = interpInstr P m (lookup1 MJ.Gen.codegenBinopTable (rustBin op)) a b := by
  cases op <;> first | contradiction | eq_refl

/-- `finalCompare` is `emit_compare` -/
theorem finalCompare_from_source (op : CmpOp) (a b : V) :
    some (finalCompare P m op a b) = interpEmit P m (lookup MJ.Gen.emitCompareTable (rustCmp op)) a b := by
  cases op <;> eq_refl

/-- `compareAndPreserve` is `compare_op` followed by the matching arm of `CompareAndPreserve` -/
theorem compareAndPreserve_from_source (op : CmpOp) (a b : V) :
    some (compareAndPreserve P m op a b) =
      interpCap P m (lookup MJ.Gen.vmCompareAndPreserveTable (lookup1 MJ.Gen.compareOpTable (rustCmp op))) a b := by
  cases op <;> eq_refl

/-- the Rust variant a model expression stands for -/
def rustVariant : Expr → String
  | .const _ => "Const" | .var _ => "Var" | .list _ => "List" | .tuple _ => "Tuple" | .map _ => "Map"
  | .not _ | .neg _ => "UnaryOp" | .bin .. => "BinOp" | .cmp .. => "Compare"
  | .getAttr .. => "GetAttr" | .getItem .. => "GetItem" | .slice .. => "Slice" | .ifExpr .. => "IfExpr"
  | .filter .. => "Filter" | .test .. => "Test" | .call .. => "Call"
  | .callx .filter .. => "Filter" | .callx .test .. => "Test" | .callx .. => "Call"

/-- variants the model never folds -/
def unfoldedVariants : List String := ["Var", "Slice", "IfExpr", "Filter", "Test", "GetAttr", "GetItem", "Call"]

/-- variants for which the model has a folding rule -/
def foldRules : List String := ["Const", "List", "Tuple", "Map", "UnaryOp", "BinOp", "Compare"]

/-- Every arm of `Expr::as_const` is a variant the model has a folding rule for (a NEWLY folded
    variant breaks this theorem; an arm that disappears is harmless - the model's folder dispatches
    over the regenerated list and simply stops folding that variant too); constants are always
    loaded (`compile_expr` relies on it: `Expr::Const => unreachable!()`); the model knows every
    variant of `enum Expr`; the code generator evaluates at compile time only in the places the model
    knows (`as_const` first, the `Neg` shortcut, static keyword arguments - the model dispatches over
    this list as well) and calls `as_const` from exactly one place. -/
theorem traversal_from_source :
    MJ.Gen.asConstArms.all (foldRules.contains ·) = true ∧
    MJ.Gen.asConstArms.contains "Const" = true ∧
    sameSet MJ.Gen.exprVariants (foldRules ++ unfoldedVariants) = true ∧
    MJ.Gen.codegenSpecials.all (["fold-first", "neg-const-shortcut", "static-kwargs", "static-kwargs-off-for-caller",
      "caller-forces-kwargs", "caller-appended-last"].contains ·) = true ∧
    MJ.Gen.codegenSpecials.contains "fold-first" = true ∧
    MJ.Gen.codegenAsConstUses = 1 := by
  decide +kernel

/-- Who reaches the const-sensitive keyword-argument code, regenerated from `codegen.rs`:
    `compile_call_args` is called with a caller only by `compile_call` (which forwards its own),
    filters, tests and the `loop(...)` fast path pass `None`; `compile_call` gets `Some(caller)` only
    from `compile_call_block`, `None` from expressions and `{% do %}`.  So the call-block form
    modelled by `evalCallBlockC` is the only place where static keyword arguments meet a caller; a
    new call site with a caller breaks this theorem. -/
theorem call_sites_from_source :
    MJ.Gen.callArgsSites.all (fun r => r.2.getLast? == some "None" || (r.1 == "compile_call" && r.2.getLast? == some "caller")) = true ∧
    MJ.Gen.callSites.all (fun r => r.2 == ["None"] || r == ("compile_call_block", ["Some"])) = true ∧
    MJ.Gen.callSites.contains ("compile_call_block", ["Some"]) = true := by
  decide +kernel

/-- The sites of `codegen.rs` that can put a value into the instruction stream (`LoadConst`) and the
    sites that look at the literal-ness of an operand (`ast::Expr::Const/List/Tuple/Map` patterns), as
    the model knows them: `constsC` has one rule per `compile_expr`/`compile_call_args` row; the rows of
    `compile_for_loop` (loop filter counter), `compile_macro_expression` (macro object) and `"caller"` are
    statement-level and carry no user literal. -/
def knownLoadConstSites : List (String × String) := [
  ("compile_expr", "v.clone()"),                                          -- fold first
  ("compile_expr", "negated"),                                            -- `Neg` shortcut
  ("compile_expr", "Value::from(())"),                                    -- missing slice bound
  ("compile_expr", "ValueRepr::Undefined(UndefinedType::Silent).into()"), -- missing `else`
  ("compile_call_args", "Kwargs::wrap(collected_kwargs)"),                -- static keyword arguments
  ("compile_call_args", "Value::from(*key)"),                             -- dynamic keyword name
  ("compile_call_args", "Value::from(\"caller\")"),
  ("compile_for_loop", "Value::from(0usize)"),
  ("compile_for_loop", "Value::from(1usize)"),
  ("compile_macro_expression", "Value::from_object( macro_decl .args .iter() .map(|x| match ")]

def knownLiteralMatchSites : List (String × String) := [
  ("compile_expr", "Const:2"),          -- `unreachable!()` arm, `Neg` shortcut
  ("compile_expr", "List:1"), ("compile_expr", "Tuple:1"), ("compile_expr", "Map:1"),   -- the arms that build them
  ("compile_call_args", "Const:2"),     -- static keyword arguments: the test and the collection
  ("compile_assignment", "List:1")]     -- unpacking targets

/-- No other place of the code generator precomputes a value or inspects whether an operand is a
    literal: an operator-specific constant rewriting (a lookup table for `in`, a pre-joined string, …)
    adds a `LoadConst` site or a literal pattern and breaks this theorem. -/
theorem const_sites_from_source :
    MJ.Gen.loadConstSites.all (knownLoadConstSites.contains ·) = true ∧
    MJ.Gen.literalMatchSites.all (knownLiteralMatchSites.contains ·) = true := by
  decide +kernel

/-- the statement-list fields of the AST, each with the loop of `codegen.rs` that compiles it
    (`for node in &<var>.<field> { self.compile_stmt(node); }` in the named function) -/
def stmtLists : List ((String × String) × (String × String)) := [
  (("Template", "children"), ("compile_stmt", "t.children")),
  (("ForLoop", "body"), ("compile_for_loop", "for_loop.body")),
  (("ForLoop", "else_body"), ("compile_for_loop", "for_loop.else_body")),
  (("IfCond", "true_body"), ("compile_if_stmt", "if_cond.true_body")),
  (("IfCond", "false_body"), ("compile_if_stmt", "if_cond.false_body")),
  (("WithBlock", "body"), ("compile_stmt", "with_block.body")),
  (("SetBlock", "body"), ("compile_stmt", "set_block.body")),
  (("Block", "body"), ("compile_block", "block.body")),
  (("AutoEscape", "body"), ("compile_stmt", "auto_escape.body")),
  (("FilterBlock", "body"), ("compile_stmt", "filter_block.body")),
  (("Macro", "body"), ("compile_macro_expression", "macro_decl.body"))]

/-- the conditions in the functions that compile statement lists: emptiness of an `else` list,
    presence of an optional head, loop bookkeeping - none looks at the VALUE of an expression -/
def knownStmtConds : List (String × String) := [
  ("compile_for_loop", "!for_loop.else_body.is_empty()"),
  ("compile_for_loop", "let Some(ref filter_expr) = for_loop.filter_expr"),
  ("compile_if_stmt", "!if_cond.false_body.is_empty()"),
  ("compile_macro_expression", "caller_reference"),
  ("compile_macro_expression", "let Some(&mut Instruction::Jump(ref mut target)) = self.instructions.g"),
  ("compile_macro_expression", "let Some(default) = defaults_iter.next()"),
  ("compile_stmt", "let &mut PendingBlock::Loop"),
  ("compile_stmt", "let PendingBlock::Loop"),
  ("compile_stmt", "let Some(ref filter) = set_block.filter")]

def sameSetP (xs ys : List (String × String)) : Bool := xs.all (ys.contains ·) && ys.all (xs.contains ·)

/-- Every `Vec<Stmt>` field of the AST is compiled by exactly one loop of the canonical shape, there
    is no other call of `compile_stmt`, and no condition around them depends on an expression's value:
    the traversal `registeredBlocks` of the model (every list, always) is the code generator's.  The
    seeded change C04-3 (`if let Some(cond) = if_cond.expr.as_const()` choosing the list) breaks the
    last three conjuncts. -/
theorem stmt_traversal_from_source :
    sameSetP MJ.Gen.stmtListFields (stmtLists.map (·.1)) = true ∧
    sameSetP MJ.Gen.stmtCompileLoops (stmtLists.map (·.2)) = true ∧
    MJ.Gen.stmtCompileLoops.length = stmtLists.length ∧
    MJ.Gen.stmtCompileConds.all (knownStmtConds.contains ·) = true := by
  decide +kernel

/-- the model's folder dispatches over the table: a node other than a plain constant is folded only
    if the table it is given (for the concrete instance: the arms of `Expr::as_const` regenerated
    from the source) lists its variant -/
theorem asConst_dispatches_over_table (e : Expr) (h : asConst P e ≠ none) :
    rustVariant e = "Const" ∨ P.foldsVariant (rustVariant e) = true := by
  cases e
  case const => exact Or.inl rfl
  case var | getAttr | getItem | slice | ifExpr | filter | test | call | callx =>
    exfalso; apply h; simp [asConst]
  all_goals
    refine Or.inr ?_
    rw [asConst] at h
    unfold gate at h
    split at h
    · simpa [rustVariant] using ‹_›
    · exact absurd rfl h

end
end MJ.Fold.Tables
