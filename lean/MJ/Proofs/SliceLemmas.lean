import MJ.Model.Slice
import MJ.Model.PySlice
/-! `pick xs is` (the elements of `xs` at the positions `is`) is how the C09 statements say what a slice selects.  The two
ways the code selects are brought to it: `step_by` on a window element by element (`stepBy_getElem?` against
`pick_getElem?`), indexing with a list of positions that exist as `pick` outright (`mapM_index_ok`).  `index?_eq`:
`get_item_opt::index` is Python's `xs[i]`.  Last, the checked operations and casts of `Chk` on arguments in range
(`i64_ok`, `asI64_of_lt`, `asUsize_of_nonneg`, beside `Chk.usize_ok`): how both directions of slicing show that no step overflows. -/
namespace MJ.Slice
open MJ Chk

theorem stepBy_getElem? {α : Type} (k : Nat) (hk : 0 < k) (l : List α) (j : Nat) :
    (stepBy k l)[j]? = l[j * k]? := by
  fun_induction stepBy k l generalizing j with
  | case1 => simp
  | case2 x xs ih =>
    cases j with
    | zero => simp
    | succ j =>
      rw [List.getElem?_cons_succ, ih j, List.getElem?_drop]
      have : (j + 1) * k = (k - 1 + j * k) + 1 := by
        rw [Nat.succ_mul]; omega
      rw [this, List.getElem?_cons_succ]

theorem stepBy_sublist {α : Type} (k : Nat) (l : List α) : (stepBy k l).Sublist l := by
  fun_induction stepBy k l with
  | case1 => exact List.Sublist.refl _
  | case2 x xs ih => exact List.Sublist.cons_cons x (ih.trans (List.drop_sublist _ _))

/-- selecting the elements at the positions `is` -/
def pick {α : Type} (xs : List α) (is : List Nat) : List α := is.filterMap (xs[·]?)

theorem pick_getElem? {α : Type} (xs : List α) (is : List Nat) (h : ∀ i ∈ is, i < xs.length) (j : Nat) :
    (pick xs is)[j]? = (is[j]?).bind (xs[·]?) := by
  induction is generalizing j with
  | nil => simp [pick]
  | cons i is ih =>
    have hi : i < xs.length := h i (by simp)
    have : xs[i]? = some xs[i] := List.getElem?_eq_getElem hi
    unfold pick
    rw [List.filterMap_cons, this]
    cases j with
    | zero => simp [this]
    | succ j =>
      simp only [List.getElem?_cons_succ]
      exact ih (fun i hi' => h i (by simp [hi'])) j

theorem pick_length {α : Type} (xs : List α) (is : List Nat) (h : ∀ i ∈ is, i < xs.length) :
    (pick xs is).length = is.length := by
  induction is with
  | nil => rfl
  | cons i is ih =>
    have hi : i < xs.length := h i List.mem_cons_self
    rw [pick, List.filterMap_cons, List.getElem?_eq_getElem hi, List.length_cons, List.length_cons]
    exact congrArg (· + 1) (ih fun k hk => h k (List.mem_cons_of_mem i hk))

theorem mapM_index_ok {α : Type} (xs : List α) (is : List Nat) (h : ∀ i ∈ is, i < xs.length) :
    is.mapM (index xs) = .ok (pick xs is) := by
  induction is with
  | nil => rfl
  | cons i is ih =>
    have hi : i < xs.length := h i (by simp)
    have e : xs[i]? = some xs[i] := List.getElem?_eq_getElem hi
    rw [List.mapM_cons, ih (fun i hi' => h i (by simp [hi']))]
    simp [index, e, pick]

theorem mapM_ok {β γ : Type} (f : β → Chk γ) (g : β → γ) (l : List β) (h : ∀ b ∈ l, f b = .ok (g b)) :
    l.mapM f = .ok (l.map g) := by
  induction l with
  | nil => rfl
  | cons b l ih =>
    rw [List.mapM_cons, h b (by simp), ih (fun b hb => h b (by simp [hb]))]
    rfl

/-- `get_item_opt::index` with the element access is Python's `xs[i]`; out of range: nothing -/
theorem index?_eq {α : Type} (xs : List α) (i : Int) :
    index? xs i = (PySlice.index xs.length i).bind (xs[·]?) := by
  unfold index? PySlice.index
  by_cases h : i < 0
  · simp only [h, if_true]
    by_cases h2 : i.natAbs ≤ xs.length
    · rw [if_pos h2, if_pos ⟨by omega, by omega⟩]
      exact congrArg (xs[·]?) (by omega)
    · rw [if_neg h2, if_neg (by omega)]; rfl
  · simp only [h, if_false]
    by_cases h3 : i < xs.length
    · rw [if_pos ⟨by omega, h3⟩]; rfl
    · rw [if_neg (by omega)]; exact List.getElem?_eq_none (by omega)

theorem getD_one_eq_zero (step : Option Int) : step.getD 1 = 0 ↔ step = some 0 := by
  cases step with
  | none => exact ⟨fun h => absurd h (by decide), fun h => nomatch h⟩
  | some x => exact ⟨fun h => congrArg some h, fun h => Option.some.inj h⟩

theorem getD_range (step : Option Int) (h : OptInI64 step) : InI64 (step.getD 1) := by
  cases step with
  | none => exact ⟨by decide, by decide⟩
  | some x => exact h

theorem asI64_of_lt (n : Nat) (h : n < 9223372036854775808) : asI64 n = (n : Int) := by
  unfold asI64
  have : ((n : Int) % 18446744073709551616) = n := Int.emod_eq_of_lt (by omega) (by omega)
  simp only [this]
  split <;> omega

theorem asUsize_of_nonneg (x : Int) (h0 : 0 ≤ x) (h1 : x < 18446744073709551616) : asUsize x = x.toNat := by
  unfold asUsize
  rw [Int.emod_eq_of_lt h0 h1]

theorem i64_ok (x : Int) (h0 : -(9223372036854775808 : Int) ≤ x) (h1 : x < 9223372036854775808) : i64 x = .ok x := by
  unfold i64; rw [if_pos ⟨h0, h1⟩]

end MJ.Slice
