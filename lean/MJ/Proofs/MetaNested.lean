import MJ.Proofs.MetaBasic
/-! The walk adds to the nested report only attribute paths that occur in the code it walks
(C18). -/
namespace MJ.Meta

def St.nestedList (st : St) : List Leaf := st.nested.getD []

/-- `f` adds at most the leaves `L` to the nested report -/
def Within (L : List Leaf) (f : St → St) : Prop :=
  ∀ st l, l ∈ (f st).nestedList → l ∈ st.nestedList ∨ l ∈ L

theorem Within.id : Within [] (fun st => st) := fun _ _ h => Or.inl h

theorem Within.comp {L1 L2 : List Leaf} {f g : St → St} (hf : Within L1 f) (hg : Within L2 g) :
    Within (L1 ++ L2) (fun st => g (f st)) := by
  intro st l hl
  rcases hg (f st) l hl with h | h
  · rcases hf st l h with h | h
    · exact Or.inl h
    · exact Or.inr (List.mem_append_left _ h)
  · exact Or.inr (List.mem_append_right _ h)

theorem Within.mono {L L' : List Leaf} {f : St → St} (hf : Within L f) (h : ∀ l ∈ L, l ∈ L') :
    Within L' f := fun st l hl => (hf st l hl).imp (fun x => x) (h l)

theorem within_assign (x : String) : Within [] (fun st => st.assign x) := by
  intro st l hl
  left
  simp only at hl
  simpa [St.nestedList, assign_nested] using hl

theorem within_visitLeaf (l : Leaf) : Within [l] (fun st => visitLeaf st l) := by
  intro st l'
  show l' ∈ (visitLeaf st l).nestedList → _
  fun_cases visitLeaf st l with
  | case1 => exact Or.inl
  | case2 _ hn => simp [St.nestedList, assign_nested, hn]
  | case3 _ n hn => simp [St.nestedList, hn, or_comm]

theorem within_scope {L : List Leaf} {f : St → St} (hf : Within L f) :
    Within L (fun st => (f st.push).pop) := fun st l hl => hf st.push l hl

theorem within_block {L : List Leaf} {f : St → St} (hf : Within L f) :
    Within L (fun st => { f { st with assigned := [[]] } with assigned := st.assigned }) :=
  fun st l hl => hf { st with assigned := [[]] } l hl

theorem Piece.within {L : List Leaf} {B : List String} {f : St → St} (h : Piece L B f) :
    Within L f := by
  induction h with
  | id => exact Within.id
  | assign x => exact within_assign x
  | leaf l => exact within_visitLeaf l
  | comp _ _ ihf ihg => exact Within.comp ihf ihg
  | scope _ ih => exact within_scope ih
  | block _ ih => exact within_block ih

theorem within_walk : (s : Stmt) → Within (leaves s) (fun st => walk st s) :=
  fun s => (piece_walk s).within

end MJ.Meta
