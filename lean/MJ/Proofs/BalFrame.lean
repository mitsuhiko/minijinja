import MJ.Proofs.Bal
/-!
# The frame rule of the balance machine: a certified stream leaves its caller's stacks alone (C05)
-/
namespace MJ.Bal

/-- a frame of the caller: a `with` frame, or a loop frame whose loop cannot be re-entered from this
stream (its `recurse_jump_target` belongs to other instructions) -/
def Foreign : RFrame → Prop
  | .withF => True
  | .loopF _ r _ => r = none

/-- the machine state with the caller's frames, captures and auto-escape entries underneath -/
def lift (F0 : List RFrame) (c0 e0 : Nat) (s : VmState) : VmState :=
  { pc := s.pc, frames := s.frames ++ F0, caps := s.caps + c0, escs := s.escs + e0 }

def Outcome.lift (F0 : List RFrame) (c0 e0 : Nat) : Outcome → Outcome
  | .stuck => .stuck
  | .exit => .exit
  | .next l => .next (l.map (Bal.lift F0 c0 e0))

/-! The list lemmas go by the recursion of the function they are about, one case per equation: for `liveTargets` the
empty stack, a `with` frame, a loop frame with a recursion target, one without; for `innermostLoop` the empty stack, a
`with` frame, a loop frame. -/

theorem liveTargets_foreign {F0 : List RFrame} (hF : ∀ f ∈ F0, Foreign f) : liveTargets F0 = [] := by
  fun_induction liveTargets F0 with
  | case1 => rfl
  | case2 fs ih | case4 _ _ fs ih => exact ih fun g hg => hF g (List.mem_cons_of_mem _ hg)
  | case3 => cases hF _ List.mem_cons_self

theorem liveTargets_append {F0 : List RFrame} (hF : ∀ f ∈ F0, Foreign f) (fs : List RFrame) :
    liveTargets (fs ++ F0) = liveTargets fs := by
  fun_induction liveTargets fs with
  | case1 => exact liveTargets_foreign hF
  | case2 fs ih | case4 _ _ fs ih => simpa [liveTargets] using ih
  | case3 _ t _ fs ih => simp [liveTargets, ih]

theorem innermost_foreign {F0 : List RFrame} (hF : ∀ f ∈ F0, Foreign f) :
    innermostLoop F0 = none ∨ innermostLoop F0 = some none := by
  fun_induction innermostLoop F0 with
  | case1 => exact .inl rfl
  | case2 fs ih => exact ih fun g hg => hF g (List.mem_cons_of_mem _ hg)
  | case3 => exact .inr (congrArg some (hF _ List.mem_cons_self))

theorem innermost_append (F0 fs : List RFrame) :
    innermostLoop (fs ++ F0) = match innermostLoop fs with
      | some x => some x
      | none => innermostLoop F0 := by
  fun_induction innermostLoop fs with
  | case1 | case3 => rfl
  | case2 fs ih => exact ih

theorem recurseTo_lift (code : Code) (F0 : List RFrame) (c0 e0 : Nat) (s : VmState) (t : Nat) (cap : Bool) :
    recurseTo code (lift F0 c0 e0 s) t cap = (recurseTo code s t cap).map (lift F0 c0 e0) := by
  unfold recurseTo
  split
  · cases cap <;> simp [lift]; omega
  · rfl

theorem allSome_map_lift (F0 : List RFrame) (c0 e0 : Nat) (xs : List (Option VmState)) :
    allSome (xs.map (Option.map (lift F0 c0 e0))) = (allSome xs).map (List.map (lift F0 c0 e0)) := by
  fun_induction allSome xs with
  | case1 | case2 => rfl
  | case3 a xs l hl ih => simp only [List.map_cons, Option.map_some, allSome, ih, hl]
  | case4 a xs hl ih => simp only [List.map_cons, Option.map_some, allSome, ih, hl]; rfl

/-- the frame rule: where the machine relative to the region entry is not stuck, the machine that has
the caller's stacks underneath does exactly the same, and the caller's part is not touched -/
theorem step_lift {code : Code} {F0 : List RFrame} (hF : ∀ f ∈ F0, Foreign f) (c0 e0 : Nat)
    (s : VmState) (hns : step code s ≠ .stuck) :
    step code (lift F0 c0 e0 s) = (step code s).lift F0 c0 e0 := by
  cases hi : code[s.pc]? with
  | none => rw [step_eq_exit hi, step_eq_exit (s := lift F0 c0 e0 s) hi]; rfl
  | some i =>
    rw [step_eq_exec hi] at hns ⊢
    rw [step_eq_exec (s := lift F0 c0 e0 s) hi]
    obtain ⟨pc, fs, k, m⟩ := s
    cases i with
    | other | buildMacro | pushWith | pushLoop | jump | jumpIfFalse | jumpIfFalseOrPop | jumpIfTrueOrPop | ret => rfl
    | beginCapture => exact congrArg (fun n => Outcome.next [⟨pc + 1, fs ++ F0, n, m + e0⟩]) (Nat.add_right_comm k c0 1)
    | pushAutoEscape => exact congrArg (fun n => Outcome.next [⟨pc + 1, fs ++ F0, k + c0, n⟩]) (Nat.add_right_comm m e0 1)
    | popFrame =>
      cases fs with
      | nil => exact absurd rfl hns
      | cons f fs' =>
        cases f with
        | withF => rfl
        | loopF => exact absurd rfl hns
    | iterate | pushDidNotIterate =>
      cases fs with
      | nil => exact absurd rfl hns
      | cons f fs' =>
        cases f with
        | withF => exact absurd rfl hns
        | loopF => rfl
    | popLoopFrame =>
      cases fs with
      | nil => exact absurd rfl hns
      | cons f fs' =>
        cases f with
        | withF => exact absurd rfl hns
        | loopF _ _ ret =>
          cases ret with
          | none => rfl
          | some p =>
            obtain ⟨_, cap⟩ := p
            cases cap with
            | false => rfl
            | true =>
              cases k with
              | zero => exact absurd rfl hns
              | succ k => rw [lift, Nat.succ_add k c0]; rfl
    | endCapture =>
      cases k with
      | zero => exact absurd rfl hns
      | succ k => rw [lift, Nat.succ_add k c0]; rfl
    | popAutoEscape =>
      cases m with
      | zero => exact absurd rfl hns
      | succ m => rw [lift, Nat.succ_add m e0]; rfl
    | fastRecurse =>
      simp only [exec, lift, innermost_append] at hns ⊢
      cases hin : innermostLoop fs with
      | none => rcases innermost_foreign hF with h | h <;> rw [h] <;> rfl
      | some x =>
        cases x with
        | none => rfl
        | some t =>
          have := recurseTo_lift code F0 c0 e0 ⟨pc, fs, k, m⟩ t false
          simp only [lift] at this
          simp only [this]
          cases hrt : recurseTo code ⟨pc, fs, k, m⟩ t false with
          | none => simp [hin, hrt] at hns
          | some s' => rfl
    | callFunction =>
      simp only [exec, lift] at hns ⊢
      rw [liveTargets_append hF]
      have hmap : (liveTargets fs).map
            (fun t => recurseTo code { pc := pc, frames := fs ++ F0, caps := k + c0, escs := m + e0 } t true)
          = ((liveTargets fs).map (fun t => recurseTo code ⟨pc, fs, k, m⟩ t true)).map (Option.map (lift F0 c0 e0)) := by
        rw [List.map_map]
        exact List.map_congr_left fun t _ => recurseTo_lift code F0 c0 e0 ⟨pc, fs, k, m⟩ t true
      rw [hmap, allSome_map_lift]
      cases hall : allSome ((liveTargets fs).map (fun t => recurseTo code ⟨pc, fs, k, m⟩ t true)) with
      | none => simp [hall] at hns
      | some l => rfl

/-- every run on top of the caller's stacks is the lift of a run of the relative machine -/
theorem reach_lift {code : Code} {cert : Cert} (hc : checkCert code cert = true) {e : Nat}
    (he : e ∈ entries code) {F0 : List RFrame} (hF : ∀ f ∈ F0, Foreign f) (c0 e0 : Nat) {t : VmState}
    (hr : Reach code (lift F0 c0 e0 (initAt e)) t) :
    ∃ rel, Reach code (initAt e) rel ∧ t = lift F0 c0 e0 rel := by
  induction hr with
  | refl => exact ⟨_, .refl _, rfl⟩
  | tail _ hstep hmem ih =>
    obtain ⟨rel, hrel, rfl⟩ := ih
    have hns := (reach_sound hc he hrel).1
    rw [step_lift hF c0 e0 rel hns] at hstep
    cases hs : step code rel with
    | stuck => exact absurd hs hns
    | exit => simp [hs, Outcome.lift] at hstep
    | next l' =>
      simp only [hs, Outcome.lift, Outcome.next.injEq] at hstep
      subst hstep
      obtain ⟨r', hr', rfl⟩ := List.mem_map.mp hmem
      exact ⟨r', .tail hrel hs hr', rfl⟩

end MJ.Bal
