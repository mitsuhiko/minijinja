import MJ.Model.Path
/-!
Lemmas for C17 (`MJ/Props/C17.lean`) about the Unix model `MJ/Model/Path.lean`.

The loop of `safe_join` is a filter followed by a fold of `push` (`safeJoinLoop_eq`, `safeJoin_eq`), and a
segment that passes the filter is neither `.` nor `..`, not hidden and free of backslashes (`good_seg`).
`plain` components are appended unchanged by `normalize` and only descend in `walk`
(`normalize_append_plain`, `walk_append_plain`).  `StoreIn W dir` is the invariant of the template store: every
stored source was read at `safe_join(dir, name)` from a snapshot that `W` admits for the name;
`Env.get_sourced` and `Env.run_sourced` carry it through requests.  What `push` and `comps` do with a checked
segment is proved for every platform in `MJ/Proofs/PathPlat.lean` and specialised there.
-/
namespace MJ.Path

theorem consHead_ne_nil (c : Char) (l : List Str) : consHead c l ≠ [] := by
  cases l <;> simp [consHead]

theorem consHead_append (c : Char) (l r : List Str) (h : l ≠ []) :
    consHead c (l ++ r) = consHead c l ++ r := by
  cases l with
  | nil => exact absurd rfl h
  | cons x xs => simp [consHead]

theorem sep_not_mem_of_mem_splitOn (sep : Char) (s t : Str) (h : t ∈ splitOn sep s) : sep ∉ t := by
  induction s generalizing t with
  | nil => rw [List.mem_singleton.1 h]; exact List.not_mem_nil
  | cons c cs ih =>
    unfold splitOn at h
    split at h
    · rcases List.mem_cons.1 h with rfl | h
      · exact List.not_mem_nil
      · exact ih t h
    · rename_i hc
      -- `c` goes in front of the first piece of the rest
      cases hs : splitOn sep cs with
      | nil =>
        rw [hs] at h
        rw [List.mem_singleton.1 h]
        simpa using Ne.symm hc
      | cons x r =>
        rw [hs] at h
        rcases List.mem_cons.1 h with rfl | h
        · have := ih x (hs ▸ List.mem_cons_self)
          simpa [Ne.symm hc] using this
        · exact ih t (hs ▸ List.mem_cons_of_mem _ h)

theorem head?_ne_of_not_mem {c : Char} {s : Str} (h : c ∉ s) : s.head? ≠ some c := by
  cases s with
  | nil => simp
  | cons x xs =>
    simp only [List.head?_cons, ne_eq, Option.some.injEq]
    intro e; exact h (by simp [e])

/-- the separator the extractor found in the source is `/` -/
theorem sep_eq : MJ.Gen.c17SafeJoinSep = '/' := by decide

/-- the rules the extractor found in the source contain "hidden" and "backslash" -/
theorem rules_cover : '.' ∈ MJ.Gen.c17RejectPrefix ∧ '\\' ∈ MJ.Gen.c17RejectContains := by decide

theorem badSeg_of_prefix {s : Str} {c : Char} (hc : c ∈ MJ.Gen.c17RejectPrefix) (h : s.head? = some c) :
    badSeg s = true := by
  simp only [badSeg, Bool.or_eq_true, List.any_eq_true]
  exact Or.inl (Or.inl ⟨c, hc, by simp [h]⟩)

theorem badSeg_of_contains {s : Str} {c : Char} (hc : c ∈ MJ.Gen.c17RejectContains) (h : c ∈ s) :
    badSeg s = true := by
  simp only [badSeg, Bool.or_eq_true, List.any_eq_true]
  exact Or.inl (Or.inr ⟨c, hc, by simpa using h⟩)

theorem badSeg_of_hidden {s : Str} (h : s.head? = some '.') : badSeg s = true :=
  badSeg_of_prefix rules_cover.1 h

theorem badSeg_of_backslash {s : Str} (h : '\\' ∈ s) : badSeg s = true :=
  badSeg_of_contains rules_cover.2 h

theorem good_seg {s : Str} (h : badSeg s = false) :
    s ≠ ['.'] ∧ s ≠ dotdot ∧ s.head? ≠ some '.' ∧ '\\' ∉ s := by
  have hidden : s.head? ≠ some '.' := fun e => Bool.noConfusion ((badSeg_of_hidden e).symm.trans h)
  exact ⟨fun e => hidden (e ▸ rfl), fun e => hidden (e ▸ rfl), hidden,
    fun e => Bool.noConfusion ((badSeg_of_backslash e).symm.trans h)⟩

theorem safeJoinLoop_eq (rv : Str) (segs : List Str) :
    safeJoinLoop rv segs = if segs.any badSeg then none else some (segs.foldl push rv) := by
  induction segs generalizing rv with
  | nil => simp [safeJoinLoop]
  | cons s rest ih => by_cases hb : badSeg s = true <;> simp [safeJoinLoop, hb, ih]

theorem safeJoin_eq (base name : Str) :
    safeJoin base name =
      if (splitOn '/' name).any badSeg then none else some ((splitOn '/' name).foldl push base) := by
  rw [safeJoin, sep_eq, safeJoinLoop_eq]

theorem safeJoinLoop_none_of_bad (rv : Str) (segs : List Str) (s : Str) (hm : s ∈ segs)
    (hb : badSeg s = true) : safeJoinLoop rv segs = none := by
  rw [safeJoinLoop_eq, if_pos (List.any_eq_true.2 ⟨s, hm, hb⟩)]

theorem safeJoinLoop_isSome_iff (rv : Str) (segs : List Str) :
    (safeJoinLoop rv segs).isSome = true ↔ ∀ s ∈ segs, badSeg s = false := by
  rw [safeJoinLoop_eq]
  simp only [← Bool.not_eq_true, ← List.any_eq_false]
  cases segs.any badSeg <;> simp

/-- a piece that `components()` yields as `Normal`: neither empty nor `.` nor `..` -/
def plain (s : Str) : Prop := s ≠ [] ∧ s ≠ ['.'] ∧ s ≠ dotdot

theorem normStep_plain (abs : Bool) (st : List Str) {s : Str} (h : plain s) : normStep abs st s = st ++ [s] := by
  simp [normStep, h.1, h.2.1, h.2.2]

theorem normalizeFrom_plain (abs : Bool) (st segs : List Str) (h : ∀ s ∈ segs, plain s) :
    normalizeFrom abs st segs = st ++ segs := by
  induction segs generalizing st with
  | nil => exact (List.append_nil st).symm
  | cons s rest ih =>
    rw [normalizeFrom, List.foldl_cons, normStep_plain abs st (h s List.mem_cons_self)]
    exact (ih _ fun t ht => h t (List.mem_cons_of_mem _ ht)).trans (List.append_cons st s rest).symm

theorem normalize_append (abs : Bool) (cs segs : List Str) :
    normalize abs (cs ++ segs) = normalizeFrom abs (normalize abs cs) segs := by
  simp [normalize, normalizeFrom, List.foldl_append]

theorem normalize_append_plain (abs : Bool) (cs segs : List Str) (h : ∀ s ∈ segs, plain s) :
    normalize abs (cs ++ segs) = normalize abs cs ++ segs := by
  rw [normalize_append, normalizeFrom_plain _ _ _ h]

theorem walk_append (fs : FS) (d : fs.Node) (xs ys : List Str) :
    walk fs d (xs ++ ys) = (walk fs d xs).bind (fun e => walk fs e ys) := by
  induction xs generalizing d with
  | nil => simp [walk]
  | cons s r ih =>
    simp only [List.cons_append, walk]
    split
    · exact ih d
    · split
      · exact ih _
      · cases fs.child d s with
        | none => simp
        | some e => simpa using ih e

theorem Below.trans {fs : FS} {a b c : fs.Node} (h1 : Below fs a b) (h2 : Below fs b c) :
    Below fs a c := by
  induction h2 with
  | refl => exact h1
  | step _ hc ih => exact Below.step ih hc

theorem walk_plain_below (fs : FS) (d e : fs.Node) (segs : List Str) (h : ∀ s ∈ segs, plain s)
    (hw : walk fs d segs = some e) : Below fs d e := by
  fun_induction walk fs d segs with
  | case1 d => cases hw; exact Below.refl
  | case2 d s r hs ih => exact absurd hs (not_or.2 ⟨(h s List.mem_cons_self).1, (h s List.mem_cons_self).2.1⟩)
  | case3 d r _ ih => exact absurd rfl (h dotdot List.mem_cons_self).2.2
  | case4 d s r _ _ hc => cases hw
  | case5 d s r _ _ x hc ih =>
    exact Below.trans (Below.step Below.refl hc) (ih (fun t ht => h t (List.mem_cons_of_mem _ ht)) hw)

theorem walk_append_plain (fs : FS) (d e : fs.Node) (cs segs : List Str) (h : ∀ s ∈ segs, plain s)
    (hw : walk fs d (cs ++ segs) = some e) : ∃ b, walk fs d cs = some b ∧ Below fs b e := by
  rw [walk_append] at hw
  cases hb : walk fs d cs with
  | none => simp [hb] at hw
  | some b => exact ⟨b, rfl, walk_plain_below fs b e segs h (by simpa [hb] using hw)⟩

/-- the content `s` answered for the name `n` is what a snapshot held at the path
    `safe_join(dir, n)` designates; `W fs n` says which snapshots may answer for which name (the
    snapshots of the requests for `n`; every snapshot of a history; …) -/
def SourcedIn (W : Snapshot → Str → Prop) (dir n s : Str) : Prop :=
  ∃ fs, W fs n ∧ ∃ p, safeJoin dir n = some p ∧ fs p = .content s

def StoreIn (W : Snapshot → Str → Prop) (dir : Str) (c : List (Str × Str)) : Prop :=
  ∀ n s, (n, s) ∈ c → SourcedIn W dir n s

theorem lookup_mem {name s : Str} {c : List (Str × Str)} (h : lookup name c = some s) :
    (name, s) ∈ c := by
  fun_induction lookup name c with
  | case1 => cases h
  | case2 t r => cases h; exact List.mem_cons_self
  | case3 n t r hn ih => exact List.mem_cons_of_mem _ (ih h)

theorem Loader.mem_reads {l : Loader} {name p : Str} :
    p ∈ l.reads name ↔ safeJoin l.base name = some p := by
  unfold Loader.reads
  cases safeJoin l.base name <;> simp [eq_comm]

theorem load_found {l : Loader} {fs : Snapshot} {name s : Str} (h : l.load fs name = .found s) :
    ∃ p, safeJoin l.base name = some p ∧ fs p = .content s := by
  revert h
  fun_cases Loader.load l fs name <;> intro h <;> cases h
  rename_i p hj hf
  exact ⟨p, hj, hf⟩

theorem Env.get_loader (e : Env) (fs : Snapshot) (name : Str) : (e.get fs name).2.loader = e.loader := by
  fun_cases Env.get e fs name <;> rfl

theorem Env.after_loader (e : Env) (h : List (Snapshot × Str)) : (e.after h).loader = e.loader := by
  induction h generalizing e with
  | nil => rfl
  | cons x rest ih => exact (ih _).trans (e.get_loader x.1 x.2)

/-- one request at a moment that may answer for its name: the answer comes from the store or from
    the snapshot of the moment, and what is stored then comes from that snapshot -/
theorem Env.get_sourced (W : Snapshot → Str → Prop) (dir : Str) (e : Env) (fs : Snapshot) (name : Str)
    (hW : W fs name) (hb : e.loader.base = dir) (hc : StoreIn W dir e.cache) :
    StoreIn W dir (e.get fs name).2.cache ∧
    ∀ s, (e.get fs name).1 = .found s → SourcedIn W dir name s := by
  fun_cases Env.get e fs name with
  | case1 t hl => exact ⟨hc, fun s hs => LoadResult.found.inj hs ▸ hc name t (lookup_mem hl)⟩
  | case2 hl t hr =>
    obtain ⟨p, hp, hf⟩ := load_found hr
    have hj : SourcedIn W dir name t := ⟨fs, hW, p, hb ▸ hp, hf⟩
    refine ⟨fun n s hm => ?_, fun s hs => LoadResult.found.inj hs ▸ hj⟩
    rcases List.mem_cons.1 hm with e | hm
    · cases e; exact hj
    · exact hc n s hm
  | case3 hl hne => exact ⟨hc, fun s hs => (hne s hs).elim⟩

theorem Env.run_sourced (W : Snapshot → Str → Prop) (dir : Str) (h : List (Snapshot × Str)) (e : Env)
    (hW : ∀ x ∈ h, W x.1 x.2) (hb : e.loader.base = dir) (hc : StoreIn W dir e.cache) :
    (∀ n s, (n, LoadResult.found s) ∈ e.run h → SourcedIn W dir n s) ∧ StoreIn W dir (e.after h).cache := by
  fun_induction Env.run e h with
  | case1 e => exact ⟨fun n s hm => (nomatch hm), hc⟩
  | case2 e fs name rest ih =>
    obtain ⟨g1, g2⟩ := e.get_sourced W dir fs name (hW _ List.mem_cons_self) hb hc
    obtain ⟨i1, i2⟩ := ih (fun y hy => hW y (List.mem_cons_of_mem _ hy)) ((e.get_loader fs name).symm ▸ hb) g1
    refine ⟨fun n s hm => ?_, i2⟩
    rcases List.mem_cons.1 hm with e | hm
    · obtain ⟨rfl, hr⟩ := Prod.mk.inj e
      exact g2 s hr.symm
    · exact i1 n s hm

end MJ.Path
