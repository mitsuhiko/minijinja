import MJ.Proofs.Safe
/-! C02: every operator and filter model preserves `V.Inv` (`InvPreserving`), one lemma per model, gathered by name
in `lookupBase_inv` / `lookupF_inv`.  Most follow from the `inv_*` lemmas by kind of value; the `preserveF` and
`piecesF` filters go through `Reflects` / `SubPieces`.  `Forwards`, `Selects`, `NormalOut` (over the `Safe` / string
leaves of a value) are the class hypotheses for callables without a model. -/
namespace MJ.Safe

theorem validChar_small {n : Nat} (h : n < 55296) : n.isValidChar := Or.inl h

theorem upperC_reflecting : MetaReflecting upperC := by
  intro c d
  fun_cases upperC c <;> intro hd hm <;> simp only [List.mem_cons, List.not_mem_nil, or_false] at hd
  · subst hd; rw [isMeta_ofNat_false _ (by omega) (validChar_small (by omega))] at hm; cases hm
  · subst hd; rw [isMeta_ofNat_false _ (by omega) (validChar_small (by omega))] at hm; cases hm
  · rcases hd with rfl | rfl <;> cases hm
  · subst hd; exact hm

theorem lowerC_reflecting : MetaReflecting lowerC := by
  intro c d
  fun_cases lowerC c <;> intro hd hm <;> simp only [List.mem_cons, List.not_mem_nil, or_false] at hd
  · subst hd; rw [isMeta_ofNat_false _ (by omega) (validChar_small (by omega))] at hm; cases hm
  · subst hd; rw [isMeta_ofNat_false _ (by omega) (validChar_small (by omega))] at hm; cases hm
  · subst hd; exact hm

theorem invL_iff {xs : List V} : V.InvL xs ↔ ∀ x ∈ xs, x.Inv := by
  induction xs with
  | nil => simp [V.InvL]
  | cons x xs ih => simp [V.InvL, ih]

theorem inv_seq {xs : List V} : (V.seq xs).Inv ↔ ∀ x ∈ xs, x.Inv := by
  simp only [V.Inv]; exact invL_iff

theorem inv_str_false (s : TStr) : (V.str s false).Inv := by simp [V.Inv]
theorem inv_str_true {s : TStr} (h : Clean s) : (V.str s true).Inv := by simp [V.Inv]; exact h
theorem inv_str {s : TStr} {b : Bool} (h : b = true → Clean s) : (V.str s b).Inv := by simpa [V.Inv] using h
theorem clean_of_inv {s : TStr} (h : (V.str s true).Inv) : Clean s := by simpa [V.Inv] using h
theorem inv_int (n : Int) : (V.int n).Inv := by simp [V.Inv]
theorem inv_undef : V.undef.Inv := by simp [V.Inv]
theorem inv_none : V.none.Inv := by simp [V.Inv]
theorem inv_bool (b : Bool) : (V.bool b).Inv := by simp [V.Inv]
theorem inv_bytes (bs : List Nat) : (V.bytes bs).Inv := by simp [V.Inv]
theorem inv_obj (t : TStr) : (V.obj t).Inv := by simp [V.Inv]

theorem inv_seq_nil : (V.seq []).Inv := inv_seq.mpr nofun

theorem inv_seq_sub {xs ys : List V} (h : (V.seq xs).Inv) (hsub : ∀ y ∈ ys, y ∈ xs) : (V.seq ys).Inv :=
  inv_seq.mpr fun y hy => inv_seq.mp h y (hsub y hy)

theorem inv_seq_unmarked {α : Type} (l : List α) (f : α → TStr) : (V.seq (l.map fun a => .str (f a) false)).Inv :=
  inv_seq.mpr (List.forall_mem_map.mpr fun _ _ => inv_str_false _)

theorem inv_getD_undef {o : Option V} (h : ∀ x, o = some x → x.Inv) : (o.getD .undef).Inv := by
  cases o with
  | none => exact inv_undef
  | some x => exact h x rfl

theorem inv_str_char {s : TStr} {b : Bool} {c : TChar} (hs : (V.str s b).Inv) (hc : c ∈ s) : (V.str [c] b).Inv :=
  inv_str fun hb => by
    subst hb
    exact (clean_of_inv hs).mono fun _ h => List.mem_singleton.mp h ▸ hc

theorem invM_iff {kvs : List (String × V)} : V.InvM kvs ↔ ∀ kv ∈ kvs, kv.2.Inv := by
  induction kvs with
  | nil => simp [V.InvM]
  | cons kv kvs ih => obtain ⟨k, v⟩ := kv; simp [V.InvM, ih]

theorem inv_map {kvs : List (String × V)} : (V.map kvs).Inv ↔ ∀ kv ∈ kvs, kv.2.Inv := by
  simp only [V.Inv]; exact invM_iff

/-- whatever the kind of the value: in Html mode the escaping dispatch writes no metacharacter
    (strings and bytes through the escaper, containers and objects through the escaper applied to
    their text, numbers / booleans / none / undefined have no metacharacter in their text) -/
theorem writeHtml_noMeta (v : V) : NoMeta (writeHtml v) := by
  cases v with
  | str s safe => exact escapeStr_noMeta s
  | seq xs => exact htmlEscape_noMeta _
  | map kvs => exact htmlEscape_noMeta _
  | bytes bs =>
    simp only [writeHtml]
    split
    · exact escapeStr_noMeta _
    · exact htmlEscape_noMeta _
  | float cs =>
    apply ofDataL_noMeta
    intro c hc
    have := (List.mem_filter.mp hc).2
    cases h : isMeta c <;> simp [h] at this ⊢
  | obj t => exact htmlEscape_noMeta _
  | int n => exact ofDataL_noMeta (intChars_noMeta n)
  | bool b =>
    cases b
    · exact ofData_noMeta (by decide +kernel)
    · exact ofData_noMeta (by decide +kernel)
  | none => exact ofData_noMeta (by decide +kernel)
  | undef => exact NoMeta.nil

theorem writeEscaped_html_clean {v : V} (hv : v.Inv) : Clean (writeEscaped .html v) := by
  unfold writeEscaped
  split
  · exact clean_of_inv hv
  · exact (writeHtml_noMeta v).clean

/-- off Json the `escape` filter writes what Html mode writes (`None` falls back to Html) -/
theorem escapeWrite_noMeta {m : Mode} (hm : m ≠ .json) (v : V) : NoMeta (escapeWrite m v) := by
  cases m with
  | json => exact absurd rfl hm
  | _ => exact writeHtml_noMeta v

theorem strIn_safe_clean {v : V} (hv : v.Inv) (h : (StrIn.ofV v).safe = true) : Clean (StrIn.ofV v).s := by
  cases v with
  | str s safe => simp only [StrIn.ofV] at h ⊢; subst h; exact clean_of_inv hv
  | _ => simp [StrIn.ofV] at h

theorem strIn_format_clean {m : Mode} (hm : m ≠ .json) {v : V} (hv : v.Inv) : Clean ((StrIn.ofV v).format m) := by
  unfold StrIn.format
  split
  · exact strIn_safe_clean hv ‹_›
  · exact (escapeWrite_noMeta hm _).clean

def InvPreserving (g : Fn) : Prop := ∀ args r, (∀ a ∈ args, a.Inv) → g args = some r → r.Inv

def Reflects (g : TStr → TStr) : Prop := ∀ s, Clean s → Clean (g s)

def SubPieces (g : TStr → List TStr) : Prop := ∀ s, ∀ p ∈ g s, ∀ ch ∈ p, ch ∈ s

mutual
def V.safeLeaves : V → List TStr
  | .str s true => [s]
  | .seq xs => V.safeLeavesL xs
  | .map kvs => V.safeLeavesM kvs
  | _ => []
def V.safeLeavesL : List V → List TStr
  | [] => []
  | x :: xs => x.safeLeaves ++ V.safeLeavesL xs
def V.safeLeavesM : List (String × V) → List TStr
  | [] => []
  | (_, v) :: kvs => v.safeLeaves ++ V.safeLeavesM kvs
end

theorem mem_safeLeavesL {xs : List V} {l : TStr} : l ∈ V.safeLeavesL xs ↔ ∃ x ∈ xs, l ∈ x.safeLeaves := by
  induction xs with
  | nil => simp [V.safeLeavesL]
  | cons x xs ih => simp [V.safeLeavesL, ih]

mutual
theorem inv_iff_leaves : ∀ v : V, v.Inv ↔ ∀ l ∈ v.safeLeaves, Clean l
  | .str s true => by simp [V.Inv, V.safeLeaves]
  | .str s false => by simp [V.Inv, V.safeLeaves]
  | .int _ => by simp [V.Inv, V.safeLeaves]
  | .bool _ => by simp [V.Inv, V.safeLeaves]
  | .none => by simp [V.Inv, V.safeLeaves]
  | .undef => by simp [V.Inv, V.safeLeaves]
  | .bytes _ => by simp [V.Inv, V.safeLeaves]
  | .float _ => by simp [V.Inv, V.safeLeaves]
  | .obj _ => by simp [V.Inv, V.safeLeaves]
  | .seq xs => by simp only [V.Inv, V.safeLeaves]; exact invL_iff_leaves xs
  | .map kvs => by simp only [V.Inv, V.safeLeaves]; exact invM_iff_leaves kvs
theorem invM_iff_leaves : ∀ kvs : List (String × V), V.InvM kvs ↔ ∀ l ∈ V.safeLeavesM kvs, Clean l
  | [] => by simp [V.InvM, V.safeLeavesM]
  | (k, v) :: kvs => by
    simp only [V.InvM, V.safeLeavesM, List.mem_append]
    rw [inv_iff_leaves v, invM_iff_leaves kvs]
    constructor
    · rintro ⟨h1, h2⟩ l (h | h)
      · exact h1 l h
      · exact h2 l h
    · intro h; exact ⟨fun l hl => h l (Or.inl hl), fun l hl => h l (Or.inr hl)⟩
theorem invL_iff_leaves : ∀ xs : List V, V.InvL xs ↔ ∀ l ∈ V.safeLeavesL xs, Clean l
  | [] => by simp [V.InvL, V.safeLeavesL]
  | x :: xs => by
    simp only [V.InvL, V.safeLeavesL, List.mem_append]
    rw [inv_iff_leaves x, invL_iff_leaves xs]
    constructor
    · rintro ⟨h1, h2⟩ l (h | h)
      · exact h1 l h
      · exact h2 l h
    · intro h; exact ⟨fun l hl => h l (Or.inl hl), fun l hl => h l (Or.inr hl)⟩
end

/-- class `forward`: every `Safe` leaf of the result is a `Safe` leaf of an argument (the filter
    returns arguments, parts of containers, or containers of them; anything else it creates is
    unmarked) -/
def Forwards (g : Fn) : Prop := ∀ args r, g args = some r → ∀ l ∈ r.safeLeaves, l ∈ V.safeLeavesL args

mutual
def V.strLeaves : V → List (TStr × Bool)
  | .str s b => [(s, b)]
  | .seq xs => V.strLeavesL xs
  | .map kvs => V.strLeavesM kvs
  | _ => []
def V.strLeavesL : List V → List (TStr × Bool)
  | [] => []
  | x :: xs => x.strLeaves ++ V.strLeavesL xs
def V.strLeavesM : List (String × V) → List (TStr × Bool)
  | [] => []
  | (_, v) :: kvs => v.strLeaves ++ V.strLeavesM kvs
end

mutual
theorem safeLeaves_iff : ∀ (v : V) (l : TStr), l ∈ v.safeLeaves ↔ (l, true) ∈ v.strLeaves
  | .str s true, l => by simp [V.safeLeaves, V.strLeaves]
  | .str s false, l => by simp [V.safeLeaves, V.strLeaves]
  | .int _, l => by simp [V.safeLeaves, V.strLeaves]
  | .bool _, l => by simp [V.safeLeaves, V.strLeaves]
  | .none, l => by simp [V.safeLeaves, V.strLeaves]
  | .undef, l => by simp [V.safeLeaves, V.strLeaves]
  | .bytes _, l => by simp [V.safeLeaves, V.strLeaves]
  | .float _, l => by simp [V.safeLeaves, V.strLeaves]
  | .obj _, l => by simp [V.safeLeaves, V.strLeaves]
  | .seq xs, l => by simp only [V.safeLeaves, V.strLeaves]; exact safeLeavesL_iff xs l
  | .map kvs, l => by simp only [V.safeLeaves, V.strLeaves]; exact safeLeavesM_iff kvs l
theorem safeLeavesL_iff : ∀ (xs : List V) (l : TStr), l ∈ V.safeLeavesL xs ↔ (l, true) ∈ V.strLeavesL xs
  | [], l => by simp [V.safeLeavesL, V.strLeavesL]
  | x :: xs, l => by
    simp only [V.safeLeavesL, V.strLeavesL, List.mem_append]
    rw [safeLeaves_iff x l, safeLeavesL_iff xs l]
theorem safeLeavesM_iff : ∀ (kvs : List (String × V)) (l : TStr), l ∈ V.safeLeavesM kvs ↔ (l, true) ∈ V.strLeavesM kvs
  | [], l => by simp [V.safeLeavesM, V.strLeavesM]
  | (k, v) :: kvs, l => by
    simp only [V.safeLeavesM, V.strLeavesM, List.mem_append]
    rw [safeLeaves_iff v l, safeLeavesM_iff kvs l]
end

/-- class `select`: every string leaf of the result — text **and** bit — is a string leaf of an
    argument: the filter only selects, reorders or regroups what it was given -/
def Selects (g : Fn) : Prop := ∀ args r, g args = some r → ∀ l ∈ r.strLeaves, l ∈ V.strLeavesL args

theorem selects_forwards {g : Fn} (h : Selects g) : Forwards g := by
  intro args r hr l hl
  exact (safeLeavesL_iff args l).mpr (h args r hr (l, true) ((safeLeaves_iff r l).mp hl))

/-- class `normal`: the result has no `Safe` leaf at all -/
def NormalOut (g : Fn) : Prop := ∀ args r, g args = some r → r.safeLeaves = []

theorem forwards_inv {g : Fn} (h : Forwards g) : InvPreserving g := by
  intro args r hargs hr
  rw [inv_iff_leaves]
  intro l hl
  obtain ⟨x, hx, hlx⟩ := mem_safeLeavesL.mp (h args r hr l hl)
  exact (inv_iff_leaves x).mp (hargs x hx) l hlx

theorem normalOut_forwards {g : Fn} (h : NormalOut g) : Forwards g := by
  intro args r hr l hl; rw [h args r hr] at hl; cases hl

theorem normalOut_inv {g : Fn} (h : NormalOut g) : InvPreserving g := forwards_inv (normalOut_forwards h)

theorem normalF_normalOut (g : List V → TStr) : NormalOut (normalF g) := by
  intro args r hr; simp only [normalF, Option.some.injEq] at hr; subst hr; simp [V.safeLeaves]

theorem concatF_inv : InvPreserving concatF := by
  intro args r _
  fun_cases concatF args <;> intro hr <;> cases hr
  · exact inv_str_false _

theorem addF_inv : InvPreserving addF := by
  intro args r _
  fun_cases addF args <;> intro hr <;> cases hr
  · exact inv_str_false _

theorem repeatF_inv (n : Nat) : InvPreserving (repeatF n) := by
  intro args r _
  fun_cases repeatF n args <;> intro hr <;> cases hr
  · exact inv_str_false _

theorem sliceF_inv (a b : Nat) : InvPreserving (sliceF a b) := by
  intro args r hargs
  fun_cases sliceF a b args <;> intro hr <;> cases hr
  · exact inv_str_false _
  · rename_i xs
    exact inv_seq_sub (hargs (.seq xs) (.head _)) fun x hx => List.mem_of_mem_drop (List.mem_of_mem_take hx)
  · exact inv_bytes _
  · exact inv_seq_nil
  · exact inv_seq_nil

theorem elemF_inv (k : Nat) : InvPreserving (elemF k) := by
  intro args r hargs
  fun_cases elemF k args <;> intro hr <;> cases hr
  · split
    · exact inv_str_false _
    · exact inv_undef
  · rename_i xs
    exact inv_getD_undef fun x hx => inv_seq.mp (hargs (.seq xs) (.head _)) x (List.mem_of_getElem? hx)

theorem charsF_inv : InvPreserving charsF := by
  intro args r hargs
  fun_cases charsF args <;> intro hr <;> cases hr
  · exact inv_seq_unmarked _ _
  · rename_i xs; exact hargs (.seq xs) (.head _)
  · exact inv_seq_unmarked _ _
  · exact inv_seq_nil
  · exact inv_seq_nil

theorem lookup_getD_inv {kvs : List (String × V)} {k : String} {d : V} (hm : ∀ kv ∈ kvs, kv.2.Inv) (hd : d.Inv) :
    ((kvs.lookup k).getD d).Inv := by
  cases hl : kvs.lookup k with
  | none => exact hd
  | some v =>
    exact hm _ (lookup_some_mem hl)

theorem attrF_inv (key : String) : InvPreserving (attrF key) := by
  intro args r hargs
  fun_cases attrF key args <;> intro hr <;> cases hr
  · rename_i kvs
    exact lookup_getD_inv (inv_map.mp (hargs (.map kvs) (.head _))) inv_undef
  · exact inv_undef

theorem itemsF_inv : InvPreserving itemsF := by
  intro args r hargs
  fun_cases itemsF args <;> intro hr <;> cases hr
  · rename_i kvs
    have hm := inv_map.mp (hargs (.map kvs) (.head _))
    apply inv_seq.mpr
    intro x hx
    simp only [List.mem_map] at hx
    obtain ⟨kv, hkv, rfl⟩ := hx
    apply inv_seq.mpr
    intro y hy
    simp only [List.mem_cons, List.not_mem_nil, or_false] at hy
    rcases hy with rfl | rfl
    · exact inv_str_false _
    · exact hm kv hkv

theorem strStripF_inv (side : Nat) : InvPreserving (strStripF side) := by
  intro args r _
  fun_cases strStripF side args <;> intro hr <;> cases hr <;> exact inv_str_false _

theorem strMapF_inv (g : TStr → TStr) : InvPreserving (strMapF g) := by
  intro args r _
  fun_cases strMapF g args <;> intro hr <;> cases hr <;> exact inv_str_false _

theorem strReplaceF_inv : InvPreserving strReplaceF := by
  intro args r _
  fun_cases strReplaceF args <;> intro hr <;> cases hr <;> exact inv_str_false _

theorem strJoinF_inv : InvPreserving strJoinF := by
  intro args r _
  fun_cases strJoinF args <;> intro hr
  · simp only [Option.map_eq_some_iff] at hr
    obtain ⟨items, _, rfl⟩ := hr
    exact inv_str_false _
  · cases hr

theorem strSplitlinesF_inv : InvPreserving strSplitlinesF := by
  intro args r _
  fun_cases strSplitlinesF args <;> intro hr <;> cases hr
  · exact inv_seq_unmarked _ _

theorem dictValuesF_inv : InvPreserving dictValuesF := by
  intro args r hargs
  fun_cases dictValuesF args <;> intro hr <;> cases hr
  · rename_i kvs
    have hm := inv_map.mp (hargs (.map kvs) (.head _))
    apply inv_seq.mpr
    intro x hx
    simp only [List.mem_map] at hx
    obtain ⟨kv, hkv, rfl⟩ := hx
    exact hm kv hkv

theorem dictGetF_inv : InvPreserving dictGetF := by
  intro args r hargs
  fun_cases dictGetF args <;> intro hr <;> cases hr
  · rename_i kvs k _
    exact lookup_getD_inv (inv_map.mp (hargs (.map kvs) (.head _))) inv_none
  · rename_i kvs k _ d
    have hd : (optArg d).Inv := by
      have := hargs d (.tail _ (.tail _ (.head _)))
      cases d <;> simp only [optArg] <;> first | exact this | exact inv_none
    exact lookup_getD_inv (inv_map.mp (hargs (.map kvs) (.head _))) hd

theorem mem_insertBy {cs : Bool} {x y : V} {l : List V} (h : y ∈ insertBy cs x l) : y = x ∨ y ∈ l := by
  fun_induction insertBy cs x l
  · exact Or.inl (List.mem_singleton.mp h)
  · rename_i ih
    rcases List.mem_cons.mp h with rfl | h
    · exact Or.inr (.head _)
    · exact (ih h).imp_right (.tail _)
  · exact (List.mem_cons.mp h).imp_right id

theorem mem_sortVs {cs : Bool} {y : V} : ∀ {xs : List V}, y ∈ sortVs cs xs → y ∈ xs := by
  intro xs
  induction xs with
  | nil => intro h; simp [sortVs] at h
  | cons x xs ih =>
    intro h
    simp only [sortVs, List.foldr_cons] at h
    rcases mem_insertBy h with rfl | h
    · exact List.mem_cons_self
    · exact List.mem_cons_of_mem _ (ih h)

theorem sortF_inv (cs rev : Bool) : InvPreserving (sortF cs rev) := by
  intro args r hargs
  fun_cases sortF cs rev args <;> intro hr <;> cases hr
  rename_i xs _
  refine inv_seq_sub (hargs (.seq xs) (.head _)) fun y hy => ?_
  split at hy
  · exact List.mem_reverse.mp (mem_sortVs (List.mem_reverse.mp hy))
  · exact mem_sortVs hy

theorem minVs_mem {xs : List V} {m : V} (h : minVs xs = some m) : m ∈ xs := by
  fun_induction minVs xs <;> cases h
  · exact .head _
  · rename_i ih hm0 _; exact .tail _ (ih hm0)
  · exact .head _

theorem maxVs_mem {xs : List V} {m : V} (h : maxVs xs = some m) : m ∈ xs := by
  fun_induction maxVs xs <;> cases h
  · exact .head _
  · exact .head _
  · rename_i ih hm0 _; exact .tail _ (ih hm0)

theorem minF_inv : InvPreserving minF := by
  intro args r hargs
  fun_cases minF args <;> intro hr <;> cases hr
  rename_i xs _
  exact inv_getD_undef fun m hm => inv_seq.mp (hargs (.seq xs) (.head _)) m (minVs_mem hm)

theorem maxF_inv : InvPreserving maxF := by
  intro args r hargs
  fun_cases maxF args <;> intro hr <;> cases hr
  rename_i xs _
  exact inv_getD_undef fun m hm => inv_seq.mp (hargs (.seq xs) (.head _)) m (maxVs_mem hm)

theorem selectF_inv (inv : Bool) : InvPreserving (selectF inv) := by
  intro args r hargs
  fun_cases selectF inv args <;> intro hr <;> cases hr
  · rename_i xs
    exact inv_seq_sub (hargs (.seq xs) (.head _)) fun y hy => (List.mem_filter.mp hy).1

theorem mem_chunks {n : Nat} {y : V} (fuel : Nat) (xs c : List V) (h : c ∈ chunks fuel n xs) (hy : y ∈ c) : y ∈ xs := by
  fun_induction chunks fuel n xs
  · cases h
  · cases h
  · rename_i ih
    rcases List.mem_cons.mp h with rfl | h
    · exact List.mem_of_mem_take hy
    · exact List.mem_of_mem_drop (ih h)

theorem batchF_inv (n : Nat) : InvPreserving (batchF n) := by
  have go : ∀ (xs : List V) (fill : Option V) (r : V), (∀ x ∈ xs, x.Inv) → (∀ f, fill = some f → f.Inv) →
      (if n = 0 then Option.none else
        let cs := chunks xs.length n xs
        let cs := match fill, cs.reverse with
          | some f, last :: rest => (((last ++ List.replicate (n - last.length) f) :: rest).reverse)
          | _, _ => cs
        some (V.seq (cs.map V.seq))) = some r → r.Inv := by
    intro xs fill r hx hf hr
    split at hr
    · cases hr
    · simp only [Option.some.injEq] at hr
      subst hr
      refine inv_seq.mpr (List.forall_mem_map.mpr fun c0 hc0 => inv_seq.mpr fun y hy => ?_)
      split at hc0
      · rename_i f last rest hrev
        have hsub : ∀ q, q ∈ last :: rest → q ∈ chunks xs.length n xs := fun q => mem_of_reverse_eq hrev
        rcases List.mem_cons.mp (List.mem_reverse.mp hc0) with rfl | hc0
        · rcases List.mem_append.mp hy with hy | hy
          · exact hx y (mem_chunks _ _ _ (hsub _ List.mem_cons_self) hy)
          · rw [List.mem_replicate] at hy; rw [hy.2]; exact hf f rfl
        · exact hx y (mem_chunks _ _ _ (hsub _ (List.mem_cons_of_mem _ hc0)) hy)
      · exact hx y (mem_chunks _ _ _ hc0 hy)
  intro args r hargs hr
  unfold batchF at hr
  simp only at hr
  split at hr
  · exact go _ Option.none r (inv_seq.mp (hargs _ (.head _))) nofun hr
  · exact go _ Option.none r (inv_seq.mp (hargs _ (.head _))) nofun hr
  · exact go _ Option.none r (inv_seq.mp (hargs _ (.head _))) nofun hr
  · exact go _ (some _) r (inv_seq.mp (hargs _ (.head _))) (fun _ h => Option.some.inj h ▸ hargs _ (.tail _ (.head _))) hr
  · cases hr

theorem mem_uniqGo {y : V} (xs : List V) (seen : List (List Nat)) (h : y ∈ uniqGo seen xs) : y ∈ xs := by
  fun_induction uniqGo seen xs
  · cases h
  · rename_i ih; exact .tail _ (ih h)
  · rename_i ih
    rcases List.mem_cons.mp h with rfl | h
    · exact .head _
    · exact .tail _ (ih h)

theorem uniqueF_inv : InvPreserving uniqueF := by
  intro args r hargs
  fun_cases uniqueF args <;> intro hr <;> cases hr
  rename_i xs _
  exact inv_seq_sub (hargs (.seq xs) (.head _)) fun y hy => mem_uniqGo _ _ hy

theorem attrArgF_inv : InvPreserving attrArgF := by
  intro args r hargs
  fun_cases attrArgF args <;> intro hr
  · exact attrF_inv _ _ r (List.forall_mem_singleton.mpr (hargs _ (.head _))) hr
  · cases hr

theorem escapeF_inv {m : Mode} (hm : m ≠ .json) : InvPreserving (escapeF m) := by
  intro args r hargs
  fun_cases escapeF m args <;> intro hr <;> cases hr
  · rename_i s; exact hargs (.str s true) (.head _)
  · exact inv_str_true (escapeWrite_noMeta hm _).clean

theorem preserveF_head {g : TStr → TStr} (hg : Reflects g) {v r : V} {rest : List V} (hv : v.Inv)
    (hr : preserveF g (v :: rest) = some r) : r.Inv := by
  cases hr
  cases v with
  | str s safe =>
    simp only [StrIn.ofV, StrIn.preserve]
    apply inv_str; intro hs; subst hs; exact hg s (clean_of_inv hv)
  | _ => simp only [StrIn.ofV, StrIn.preserve]; exact inv_str_false _

theorem preserveF_inv {g : TStr → TStr} (hg : Reflects g) : InvPreserving (preserveF g) := by
  intro args r hargs hr
  cases args with
  | nil => cases hr
  | cons v rest => exact preserveF_head hg (hargs v (.head _)) hr

theorem reverseF_inv : InvPreserving reverseF := by
  intro args r hargs
  fun_cases reverseF args <;> intro hr <;> cases hr
  · rename_i s safe
    have hv := hargs (.str s safe) (.head _)
    apply inv_str; intro hs; subst hs
    exact (clean_of_inv hv).mono fun ch h => List.mem_reverse.mp h
  · rename_i xs
    exact inv_seq_sub (hargs (.seq xs) (.head _)) fun x hx => List.mem_reverse.mp hx
  · exact inv_bytes _
  · exact inv_undef
  · exact inv_none

theorem piecesF_head {g : TStr → List TStr} (hg : SubPieces g) {v r : V} {rest : List V} (hv : v.Inv)
    (hr : piecesF g (v :: rest) = some r) : r.Inv := by
  unfold piecesF at hr
  split at hr
  · rename_i s safe rest' heq
    cases heq; cases hr
    apply inv_seq.mpr
    intro x hx
    simp only [List.mem_map] at hx
    obtain ⟨p, hp, rfl⟩ := hx
    apply inv_str; intro hs; subst hs
    exact (clean_of_inv hv).mono (hg s p hp)
  · cases hr

theorem piecesF_inv {g : TStr → List TStr} (hg : SubPieces g) : InvPreserving (piecesF g) := by
  intro args r hargs hr
  cases args with
  | nil => cases hr
  | cons v rest => exact piecesF_head hg (hargs v (.head _)) hr

theorem firstF_inv : InvPreserving firstF := by
  intro args r hargs
  fun_cases firstF args <;> intro hr <;> cases hr
  · split
    · exact inv_str_false _
    · exact inv_undef
  · rename_i xs
    exact inv_getD_undef fun x hx => inv_seq.mp (hargs (.seq xs) (.head _)) x (List.mem_of_mem_head? hx)

theorem lastF_inv : InvPreserving lastF := by
  intro args r hargs
  fun_cases lastF args <;> intro hr <;> cases hr
  · rename_i s safe
    split
    · rename_i c hc
      exact inv_str_char (hargs (.str s safe) (.head _)) (List.mem_of_getLast? hc)
    · exact inv_undef
  · rename_i xs
    exact inv_getD_undef fun x hx => inv_seq.mp (hargs (.seq xs) (.head _)) x (List.mem_of_getLast? hx)

theorem defaultF_inv (lax : Bool) : InvPreserving (defaultF lax) := by
  intro args r hargs
  fun_cases defaultF lax args <;> intro hr <;> cases hr
  · rename_i v
    have hv := hargs v (.head _)
    split
    · exact inv_str_false _
    · split
      · exact inv_str_false _
      · exact hv
  · rename_i v d
    have hv := hargs v (.head _)
    have hd := hargs d (.tail _ (.head _))
    split
    · exact hd
    · split
      · exact hd
      · exact hv

theorem stringF_inv : InvPreserving stringF := by
  intro args r hargs
  fun_cases stringF args <;> intro hr <;> cases hr
  · rename_i s safe; exact hargs (.str s safe) (.head _)
  · exact inv_str_false _

theorem lengthF_inv : InvPreserving lengthF := by
  intro args r _
  fun_cases lengthF args <;> intro hr <;> cases hr <;> exact inv_int _

theorem replaceF_inv {m : Mode} (hm : m ≠ .json) : InvPreserving (replaceF m) := by
  intro args r hargs
  fun_cases replaceF m args <;> intro hr <;> cases hr
  · rename_i v f t _ _ _ _ _
    apply inv_str_true
    have h1 : Clean ((StrIn.ofV v).format m) := strIn_format_clean hm (hargs v (.head _))
    have h2 : Clean ((StrIn.ofV t).format m) := strIn_format_clean hm (hargs t (.tail _ (.tail _ (.head _))))
    exact (h1.append h2).mono fun ch h => List.mem_append.mpr (mem_replaceAll h)
  · exact inv_str_false _

theorem isSafeV_display_clean {v : V} (hv : v.Inv) (h : isSafeV v = true) : Clean v.display := by
  cases v with
  | str s safe =>
    cases safe with
    | true => exact clean_of_inv hv
    | false => simp [isSafeV] at h
  | _ => simp [isSafeV] at h

theorem joinSafe_clean {items : List V} {joiner : TStr} (hi : ∀ x ∈ items, x.Inv) (hj : Clean joiner) :
    Clean (joinSafe .html items joiner) := by
  have item : ∀ x, x.Inv → Clean (if isSafeV x then x.display else stateFormat .html x) := by
    intro x hx
    split
    · exact isSafeV_display_clean hx (by assumption)
    · exact writeEscaped_html_clean hx
  induction items with
  | nil => exact Clean.nil
  | cons x rest ih =>
    cases rest with
    | nil => exact item x (hi x (.head _))
    | cons y rest =>
      simp only [joinSafe]
      exact ((item x (hi x (.head _))).append hj).append (ih fun z hz => hi z (List.mem_cons_of_mem _ hz))

theorem iterItems_inv {v : V} {items : List V} (hv : v.Inv) (h : iterItems v = some items) :
    ∀ x ∈ items, x.Inv := by
  revert h
  fun_cases iterItems v <;> intro h <;> cases h
  · exact inv_seq.mp hv
  · exact inv_seq.mp (inv_seq_unmarked _ _)
  · exact inv_seq.mp (inv_seq_unmarked _ _)
  · exact nofun
  · exact nofun

theorem joinGo_inv {m : Mode} (hm : m ≠ .json) {v : V} {j : Option StrIn} {r : V} (hv : v.Inv)
    (hj : joinerSafe j = true → Clean (joinerStr j))
    (hjf : Clean (joinerFmt m j))
    (hr : joinGo m v j = some r) : r.Inv := by
  revert hr
  fun_cases joinGo m v j <;> intro hr <;> cases hr
  · exact inv_str_false _
  all_goals
    have hitems := iterItems_inv hv ‹iterItems v = some _›
    -- the safety-aware branches run under Html only
    obtain rfl : m = .html := by cases m <;> first | rfl | exact absurd rfl ‹¬ _ = Mode.none› | exact absurd rfl hm
  · exact inv_str_true (joinSafe_clean hitems (hj ‹_›))
  · exact inv_str_true (joinSafe_clean hitems hjf)
  · exact inv_str_false _

theorem joinF_inv {m : Mode} (hm : m ≠ .json) : InvPreserving (joinF m) := by
  intro args r hargs
  fun_cases joinF m args <;> intro hr
  · exact joinGo_inv hm (j := Option.none) (hargs _ (.head _)) nofun Clean.nil hr
  · exact joinGo_inv hm (j := Option.none) (hargs _ (.head _)) nofun Clean.nil hr
  · exact joinGo_inv hm (j := Option.none) (hargs _ (.head _)) nofun Clean.nil hr
  · have hjv := hargs _ (.tail _ (.head _))
    exact joinGo_inv hm (j := some (StrIn.ofV _)) (hargs _ (.head _)) (fun hs => strIn_safe_clean hjv hs)
      (strIn_format_clean hm hjv) hr
  · cases hr

/-- what may be handed to `FormatSpec::format` when the result is marked safe -/
def FmtOK : V → Prop
  | .int _ => True
  | .bool _ => True
  | v => Clean v.display

theorem pad_clean {sp : Spec} {t : TStr} (h : Clean t) : Clean (pad sp t) := by
  unfold pad; split
  · exact h.append (Clean.spaces _)
  · exact (Clean.spaces _).append h

theorem fmtStr_clean {sp : Spec} {d t : TStr} (hd : Clean d) (h : fmtStr sp d = some t) : Clean t := by
  unfold fmtStr at h
  split at h
  · cases h
    apply pad_clean
    split
    · exact hd.mono fun ch h => List.mem_of_mem_take h
    · exact hd
  · cases h

theorem fmtValue_clean {sp : Spec} {v : V} {t : TStr} (hv : FmtOK v) (h : fmtValue sp v = some t) : Clean t := by
  cases v with
  | int n =>
    simp only [fmtValue] at h
    split at h
    · cases h
    · cases h; exact pad_clean (ofDataL_noMeta (intChars_noMeta _)).clean
  | bool b =>
    simp only [fmtValue] at h
    split at h
    · cases h
      cases b
      · exact pad_clean (ofData_noMeta (by decide +kernel)).clean
      · exact pad_clean (ofData_noMeta (by decide +kernel)).clean
    · cases h
  | str s safe => exact fmtStr_clean hv h
  | none => exact fmtStr_clean hv h
  | undef => exact fmtStr_clean hv h
  | seq xs => exact fmtStr_clean hv h
  | map kvs => exact fmtStr_clean hv h
  | bytes bs => exact fmtStr_clean hv h
  | float cs => exact fmtStr_clean hv h
  | obj t => exact fmtStr_clean hv h

theorem mem_dropFlag {s : TStr} {ch : TChar} (h : ch ∈ (dropFlag s).2) : ch ∈ s := by
  unfold dropFlag at h
  split at h
  · split at h
    · exact List.mem_cons_of_mem _ h
    · exact h
  · exact h

theorem mem_parsePrec {s : TStr} {ch : TChar} (h : ch ∈ (parsePrec s).2) : ch ∈ s := by
  unfold parsePrec at h
  split at h
  · split at h
    · exact List.mem_cons_of_mem _ (mem_dropWhile h)
    · exact h
  · exact h

theorem parseSpec_rest {s rest : TStr} {sp : Spec} (h : parseSpec s = some (sp, rest)) :
    ∀ ch ∈ rest, ch ∈ s := by
  intro ch hc
  unfold parseSpec at h
  simp only at h
  split at h
  · rename_i c r heq
    split at h
    · simp only [Option.some.injEq, Prod.mk.injEq] at h
      obtain ⟨_, rfl⟩ := h
      have : ch ∈ (parsePrec ((dropFlag s).2.dropWhile isDig)).2 := by
        rw [heq]; exact List.mem_cons_of_mem _ hc
      exact mem_dropFlag (mem_dropWhile (mem_parsePrec this))
    · cases h
  · cases h

theorem printfGo_clean {tr : V → Char → Option V}
    (htr : ∀ a ty a', tr a ty = some a' → a.Inv → FmtOK a') (fuel : Nat) (f : TStr) (args : List V) (r : TStr)
    (hf : Clean f) (hargs : ∀ a ∈ args, a.Inv) (h : printfGo tr fuel f args = some r) : Clean r := by
  fun_induction printfGo tr fuel f args generalizing r <;> try cases h
  · exact Clean.nil
  · -- `%%`
    rename_i ih
    simp only [Option.map_eq_some_iff] at h
    obtain ⟨t, ht, rfl⟩ := h
    exact Clean.cons (hf _ (.head _)) (ih t (hf.mono fun _ hx => .tail _ (.tail _ hx)) hargs ht)
  · -- a conversion: the formatted argument, then the rest of the format string after the spec
    rename_i sp rest'' hps a xs a' hta t hfv ih
    simp only [Option.map_eq_some_iff] at h
    obtain ⟨t2, ht2, rfl⟩ := h
    have ht : Clean t := fmtValue_clean (htr a sp.ty a' hta (hargs a (.head _))) hfv
    have hr'' : Clean rest'' := hf.mono fun ch hch => .tail _ (parseSpec_rest hps ch hch)
    exact ht.append (ih t2 hr'' (fun x hx => hargs x (.tail _ hx)) ht2)
  · -- an ordinary character
    rename_i ih
    simp only [Option.map_eq_some_iff] at h
    obtain ⟨t, ht, rfl⟩ := h
    exact Clean.cons (hf _ (.head _)) (ih t (hf.mono fun _ hx => .tail _ hx) hargs ht)

theorem formatF_inv {m : Mode} (hm : m ≠ .json) : InvPreserving (formatF m) := by
  intro args r hargs
  fun_cases formatF m args <;> intro hr
  · rename_i f rest tr
    simp only [Option.map_eq_some_iff] at hr
    obtain ⟨t, ht, rfl⟩ := hr
    apply inv_str_true
    refine printfGo_clean ?_ _ f rest t (clean_of_inv (hargs _ (.head _))) (fun a ha => hargs a (.tail _ ha)) ht
    -- an argument goes in as it is only if it is a `Safe` string or a scalar, and escaped otherwise
    intro a ty a' h ha
    unfold tr at h
    split at h
    · cases h
    · split at h
      · rename_i hsc
        cases h
        cases a with
        | int n => trivial
        | bool b => trivial
        | str s safe => cases safe <;> first | exact clean_of_inv ha | cases hsc
        | _ => cases hsc
      · cases h
        exact (escapeWrite_noMeta hm _).clean
  · simp only [Option.map_eq_some_iff] at hr
    obtain ⟨t, _, rfl⟩ := hr
    exact inv_str_false _
  · cases hr

theorem truncateF_inv {m : Mode} (hm : m ≠ .json) (length leeway : Nat) (kw : Bool) :
    InvPreserving (truncateF m length leeway kw) := by
  intro args r hargs
  fun_cases truncateF m length leeway kw args <;> intro hr <;> cases hr
  · exact inv_str_false _
  · exact inv_str_false _
  · exact hargs _ (.head _)
  · rename_i s vsafe es esafe _ _ cut truncated _
    have hcut : ∀ ch ∈ truncated, ch ∈ s := by
      intro ch h
      unfold truncated at h
      split at h
      · exact List.mem_of_mem_take h
      · split at h
        · rename_i x r hx
          have : ch ∈ cut.reverse.dropWhile (fun c => c.c != ' ') := hx ▸ List.Mem.tail _ (List.mem_reverse.mp h)
          exact List.mem_of_mem_take (List.mem_reverse.mp (mem_dropWhile this))
        · exact List.mem_of_mem_take h
    apply inv_str_true
    apply Clean.append
    · split
      · rename_i hvs; subst hvs
        exact (clean_of_inv (hargs _ (.head _))).mono hcut
      · exact (escapeWrite_noMeta hm _).clean
    · split
      · rename_i hes; subst hes
        exact clean_of_inv (hargs _ (.tail _ (.head _)))
      · exact (escapeWrite_noMeta hm _).clean
  · exact inv_str_false _

theorem mapM_all {α β : Type} {f : α → Option β} {P : β → Prop} :
    ∀ {l : List α} {r : List β}, l.mapM f = some r → (∀ a ∈ l, ∀ b, f a = some b → P b) → ∀ b ∈ r, P b := by
  intro l
  induction l with
  | nil => intro r h _ b hb; simp at h; subst h; cases hb
  | cons a l ih =>
    intro r h hp b hb
    simp only [List.mapM_cons, Option.bind_eq_bind, Option.bind_eq_some_iff] at h
    obtain ⟨b0, hb0, bs, hbs, hr⟩ := h
    simp only [Option.pure_def, Option.some.injEq] at hr
    subst hr
    rcases List.mem_cons.mp hb with rfl | hb
    · exact hp a List.mem_cons_self _ hb0
    · exact ih hbs (fun a' ha' => hp a' (List.mem_cons_of_mem _ ha')) b hb

theorem mapF_inv {g : Fn} (hg : InvPreserving g) : InvPreserving (mapF g) := by
  intro args r hargs hr
  unfold mapF at hr
  split at hr
  · rename_i v extra
    split at hr
    · cases hr
    · rename_i items hit
      simp only [Option.map_eq_some_iff] at hr
      obtain ⟨rs, hrs, rfl⟩ := hr
      have hitems := iterItems_inv (hargs v List.mem_cons_self) hit
      apply inv_seq.mpr
      refine mapM_all (P := V.Inv) hrs ?_
      intro it hit' b hb
      apply hg _ _ _ hb
      intro a ha
      rcases List.mem_cons.mp ha with rfl | ha
      · exact hitems _ hit'
      · exact hargs a (List.mem_cons_of_mem _ ha)
  · cases hr

theorem reflects_mapChars {f : Char → List Char} (hf : MetaReflecting f) : Reflects (mapChars f) :=
  fun _ hs => clean_mapChars hf hs

theorem reflects_capitalize : Reflects capitalizeStr := by
  intro s hs
  unfold capitalizeStr
  split
  · exact Clean.nil
  · rename_i c rest
    apply Clean.append
    · exact clean_mapChars upperC_reflecting (hs.mono fun ch h => List.mem_singleton.mp h ▸ .head _)
    · exact clean_mapChars lowerC_reflecting (hs.mono fun ch h => .tail _ h)

theorem reflects_trimBy (p : Char → Bool) : Reflects (trimBy p) :=
  fun _ hs => hs.mono fun _ h => mem_trimBy h

theorem reflects_indent (w : Nat) (first blank : Bool) : Reflects (fun s => indentStr s w first blank) :=
  fun _ hs => clean_indentStr w first blank hs

theorem reflects_of_sub {g : TStr → TStr} (h : ∀ s, ∀ ch ∈ g s, ch ∈ s) : Reflects g :=
  fun s hs => hs.mono (h s)

theorem subPieces_split (sep : TStr) (left : Nat) : SubPieces (fun s => splitGo sep left 0 [] s) := by
  intro s p hp ch hc
  rcases mem_splitGo (sep := sep) s [] left 0 p hp hc with h | h
  · cases h
  · exact h

theorem subPieces_splitWs : SubPieces (splitWsGo []) := by
  intro s p hp ch hc
  rcases mem_splitWsGo s [] p hp hc with h | h
  · cases h
  · exact h

theorem subPieces_lines : SubPieces linesOf := fun _ _ hp _ hc => mem_linesOf hp hc

theorem trimF_inv : InvPreserving trimF := by
  intro args r hargs hr
  unfold trimF at hr
  split at hr
  · exact preserveF_head (reflects_trimBy _) (hargs _ (.head _)) hr
  · exact preserveF_head (reflects_trimBy _) (hargs _ (.head _)) hr
  · exact preserveF_head (reflects_trimBy _) (hargs _ (.head _)) hr
  · exact preserveF_head (reflects_trimBy _) (hargs _ (.head _)) hr
  · cases hr

theorem splitF_inv (left : Nat) : InvPreserving (splitF left) := by
  intro args r hargs hr
  unfold splitF at hr
  split at hr
  · exact piecesF_head subPieces_splitWs (hargs _ (.head _)) hr
  · exact piecesF_head subPieces_splitWs (hargs _ (.head _)) hr
  · exact piecesF_head subPieces_splitWs (hargs _ (.head _)) hr
  · simp only at hr
    split at hr
    · cases hr
    · exact piecesF_head (subPieces_split _ _) (hargs _ (.head _)) hr
  · cases hr

theorem randomF_inv (k : Nat) : InvPreserving (randomF k) := by
  intro args r hargs
  fun_cases randomF k args <;> intro hr <;> cases hr
  · rename_i s safe
    split
    · rename_i c hc
      exact inv_str_char (hargs (.str s safe) (.head _)) (List.mem_of_getElem? hc)
    · exact inv_undef
  · rename_i xs
    exact inv_getD_undef fun x hx => inv_seq.mp (hargs (.seq xs) (.head _)) x (List.mem_of_getElem? hx)

theorem lipsumF_inv (html : Bool) (cps : List Nat) : InvPreserving (lipsumF html cps) := by
  intro args r _ hr
  simp only [lipsumF, Option.some.injEq] at hr
  subst hr
  exact inv_str fun _ => Clean.ofTmpl _

/-- every operator and filter model of the fragment preserves the invariant in every mode but Json:
    one line per arm of `lookupBase`, in its order (`safe`, `tojson` and unknown names have no `true` flag) -/
theorem lookupBase_inv {m : Mode} (hm : m ≠ .json) (name : String) (ps : List Nat) (g : Fn)
    (h : lookupBase name m ps = some (g, true)) : InvPreserving g := by
  revert h
  fun_cases lookupBase name m ps <;> intro h <;> cases h
  · exact concatF_inv
  · exact addF_inv
  · exact repeatF_inv _
  · exact sliceF_inv _ _
  · exact elemF_inv _
  · exact charsF_inv
  · exact charsF_inv
  · exact escapeF_inv hm
  · exact preserveF_inv (reflects_mapChars upperC_reflecting)
  · exact preserveF_inv (reflects_mapChars lowerC_reflecting)
  · exact preserveF_inv reflects_capitalize
  · exact normalOut_inv (normalF_normalOut _)
  · exact trimF_inv
  · exact reverseF_inv
  · exact preserveF_inv (reflects_indent _ _ _)
  · exact replaceF_inv hm
  · exact joinF_inv hm
  · exact formatF_inv hm
  · exact truncateF_inv hm _ _ _
  · exact splitF_inv _
  · exact piecesF_inv subPieces_lines
  · exact firstF_inv
  · exact lastF_inv
  · exact defaultF_inv _
  · exact stringF_inv
  · exact lengthF_inv
  · exact itemsF_inv
  · exact sortF_inv _ _
  · exact minF_inv
  · exact maxF_inv
  · exact selectF_inv _
  · exact selectF_inv _
  · exact batchF_inv _
  · exact uniqueF_inv
  · exact attrArgF_inv
  · exact itemsF_inv
  · exact strMapF_inv _
  · exact strMapF_inv _
  · exact strMapF_inv _
  · exact strStripF_inv _
  · exact strStripF_inv _
  · exact strStripF_inv _
  · exact strReplaceF_inv
  · exact strJoinF_inv
  · exact strSplitlinesF_inv
  · exact preserveF_inv reflects_capitalize
  · exact splitF_inv _
  · exact itemsF_inv
  · exact charsF_inv
  · exact dictValuesF_inv
  · exact dictGetF_inv
  · exact randomF_inv _
  · exact lipsumF_inv _ _

theorem lookupF_inv {m : Mode} (hm : m ≠ .json) (name : String) (ps : List Nat) (g : Fn)
    (h : lookupF name m ps = some (g, true)) : InvPreserving g := by
  unfold lookupF at h
  split at h
  · simp only [Option.map_eq_some_iff] at h
    obtain ⟨⟨g0, ok⟩, h0, h1⟩ := h
    simp only [Prod.mk.injEq] at h1
    obtain ⟨rfl, rfl⟩ := h1
    exact mapF_inv (lookupBase_inv hm _ ps g0 h0)
  · exact lookupBase_inv hm name ps g h

/-- every operator and filter model the driver can run in Html mode and that belongs to the
    fragment preserves the invariant (so `StepOk (.apply g _)` holds for it) -/
theorem named_models_preserve_inv (name : String) (ps : List Nat) (g : Fn)
    (h : lookupBase name .html ps = some (g, true)) : InvPreserving g :=
  lookupBase_inv (by decide) name ps g h

/-- … and so does `map` with any such filter -/
theorem named_models_preserve_inv_map (name : String) (ps : List Nat) (g : Fn)
    (h : lookupF name .html ps = some (g, true)) : InvPreserving g :=
  lookupF_inv (by decide) name ps g h

end MJ.Safe
