import MJ.Model.SerdeDispatch
import MJ.Model.SerdeMethods
/-!
# The two dispatches of deserialize.rs, read off the regenerated tables (C16)

On the source value: a function of the value's kind.  `tableMatchesSpec` / `kindsMatch` are decided on the
tables regenerated from the source (`MJ.Gen.serdeDeDispatch`, `MJ.Gen.valueKindOfRepr`); the quantified
statements follow.  On the trait method: `dispatch_table` at the end.
-/
namespace MJ.SerdeDispatch

theorem table_matches_spec : tableMatchesSpec = true := by decide +kernel

theorem kinds_match : kindsMatch = true := by decide +kernel

theorem repr_mem_all (r : Repr) : r ∈ Repr.all := by cases r <;> decide

theorem src_mem_all (s : Src) : s ∈ Src.all := by
  cases s with
  | absent => exact List.mem_cons_self
  | val r => exact List.mem_cons_of_mem _ (List.mem_map.mpr ⟨r, repr_mem_all r, rfl⟩)

/-- every function of the owned deserializer that looks at its source resolves, on every
representation, to what `spec` says for the representation's kind -/
theorem value_fn_resolves (fn : String) (h : fn ∈ valueFns) (r : Repr) :
    resolve (armsOf fn) (.val r) = spec fn (some r.skind) := by
  have t := table_matches_spec
  simp only [tableMatchesSpec, Bool.and_eq_true, List.all_eq_true] at t
  have := t.1.2 fn h r (repr_mem_all r)
  exact eq_of_beq this

/-- so does every variant access, on every payload including the absent one -/
theorem variant_fn_resolves (fn : String) (h : fn ∈ variantFns) (s : Src) :
    resolve (armsOf fn) s = spec fn s.skind := by
  have t := table_matches_spec
  simp only [tableMatchesSpec, Bool.and_eq_true, List.all_eq_true] at t
  have := t.2 fn h s (src_mem_all s)
  exact eq_of_beq this

/-- two representations of one kind are dispatched alike by every function of deserialize.rs that
matches on the source value -/
theorem dispatch_by_kind (fn : String) (h : fn ∈ valueFns ++ variantFns) (r1 r2 : Repr)
    (hk : r1.skind = r2.skind) : resolve (armsOf fn) (.val r1) = resolve (armsOf fn) (.val r2) := by
  rcases List.mem_append.mp h with h | h
  · rw [value_fn_resolves fn h, value_fn_resolves fn h, hk]
  · rw [variant_fn_resolves fn h, variant_fn_resolves fn h]
    simp only [Src.skind, hk]

/-- `Value::kind()` knows every representation -/
theorem kind_total (r : Repr) : (kindName r).isSome = true := by
  have t := kinds_match
  simp only [kindsMatch, Bool.and_eq_true, List.all_eq_true] at t
  exact t.1.1.1 r (repr_mem_all r)

end MJ.SerdeDispatch

namespace MJ.SerdeMethods
open MJ.Serde MJ.Gen

/-- how `impl Deserializer for Value` answers a method of serde's `Deserializer` trait, on the method lists
regenerated from the sources -/
abbrev disp (m : String) : Dispatch :=
  dispatchOf valueDeserializerExplicit valueDeserializerForwarded serdeDeserializerTrait m

theorem dispatch_table : serdeDeserializerTrait.map (fun p => (p.1, disp p.1)) = deModel := by
  decide +kernel

end MJ.SerdeMethods
