import MJ.Proofs.LoopSim
import MJ.Proofs.MacroSim
/-!
# Statements compile correctly (C03)

Simulation between the reference semantics (`exec`, scopes as heap cells, macros close over cells by
reference) and the model VM (frames, macro objects with copied closures) for the statements of the
core fragment `wfStmt`, in the terms of `MJ/Proofs/StmtDone.lean` (`Rel`, `Done`, `Post`).  Here: text, emit, `set`,
set/filter blocks (`sim_capture`), `if`, `with`, `break`, `continue`; loops are in `MJ/Proofs/LoopSim.lean`, macro
declarations, macro calls and call blocks in `MJ/Proofs/MacroSim.lean`.  By induction on the
fuel of the reference execution, for expressions, statements, blocks, `with` bindings, loop
iterations, filter chains and calls together (`all_sim`); `vm_refines_eval` is the resulting theorem about
whole templates (`rel_init`, `run_block_top`).
-/
namespace MJ.Vm
open MJ.Eval MJ.Compile MJ.C03

theorem sim_binds_step {n} (ihE : SegExpr n) (ihW : SimBinds n) : SimBinds (n + 1) := by
  intro X binds G heap loc heap' out hev A hs hA hne base a s hAt hoof hpc hrel
  cases binds with
  | nil =>
    simp [bindWith] at hev; subst hev
    simp only [relBinds, List.length_nil, Nat.add_zero]
    rw [← hpc]; exact Done.refl hrel
  | cons b rest =>
    obtain ⟨t, e⟩ := b
    have hs' : (targetOk X.K.M t = true ∧ wfExpr X.K.M X.P A e = true) ∧ wfBinds X.K.M X.P (A ++ targetNames t) rest = true := by
      simpa [wfBinds] using hs
    cases loc with
    | nil => exact absurd rfl hne
    | cons cell rs =>
      obtain ⟨_, v, bs, hc, hv, hbs, hev⟩ := bindWith_cons_ok hev
      cases hc
      simp only [relBinds] at hAt hoof ⊢
      have ho1 := oof_false_of_relBinds hoof
      have hT : cell < heap.length := hrel.bound0
      have hA1 : ABound (heapSetAll heap cell bs) (cell :: rs) (A ++ targetNames t) :=
        (hA.mono (HeapLe.heapSetAll _ _ _)).append (ABound.of_cell (fun x hx =>
          heapSetAll_bound bs heap cell hT x (by rw [bindTarget_names t v bs hbs]; exact hx)))
      exact ((sim_assign ihE (X := X) (G := G) (σ := { heap := heap, out := out }) (A := A) hv hbs hs'.1.2 hs'.1.1 hA
        hAt.left ho1 hpc hrel).seq fun s1 G1 hpc1 _ hrel1 _ =>
          ihW X rest G1 _ (cell :: rs) heap' out hev (A ++ targetNames t) hs'.2 hA1 (by simp)
            (base + (relExpr e base a).1.length + (relTarget t).length) (relExpr e base a).2 s1
            (At.cast hAt.right (by simp [Nat.add_assoc])) hoof hpc1 hrel1).cast (by simp only [List.length_append]; omega)

theorem sim_block_step {n} (ihS : SimStmt n) (ihB : SimBlock n) : SimBlock (n + 1) := by
  intro X ss G σ loc σ' fl hev A lc hs hA hne base a s hAt hoof hpc hrel hcap
  cases ss with
  | nil =>
    simp [execBlock] at hev
    obtain ⟨rfl, rfl⟩ := hev
    simp only [Post, if_true, relBlock, List.length_nil, Nat.add_zero]
    rw [← hpc]; exact Done.refl hrel
  | cons st rest =>
    have hs' : wfStmt X.K.M X.P A lc.isSome st = true ∧ wfBlock X.K.M X.P (A ++ assignedBy st) lc.isSome rest = true := by
      simpa [wfBlock] using hs
    simp only [relBlock] at hAt hoof ⊢
    have ho1 := oof_false_of_relBlock hoof
    simp only [execBlock] at hev
    split at hev
    · simp at hev
    · rename_i σ1 h1
      have hA1 : ABound σ1.heap loc (A ++ assignedBy st) := by
        cases loc with
        | nil => exact absurd rfl hne
        | cons T r =>
          exact (hA.mono (exec_keys h1)).append (ABound.of_cell (exec_assigned_bound h1 hrel.bound0))
      exact ((Post.normal.1 (ihS X st G σ loc σ1 .normal h1 A lc hs'.1 hA hne base a s hAt.left ho1 hpc hrel hcap)).andThen
        fun s1 G1 hpc1 _ hrel1 hout1 =>
          ihB X rest G1 σ1 loc σ' fl hev (A ++ assignedBy st) lc hs'.2 hA1 hne (base + (relStmt st base a lc).1.1.length)
            (relStmt st base a lc).1.2 s1 hAt.right hoof hpc1 hrel1
            (cap_of_tail hcap hrel1 hrel hout1)).cast (by simp [Nat.add_assoc])
    · rename_i σ1 fl1 hne' h1
      simp at hev
      obtain ⟨rfl, rfl⟩ := hev
      have p1 := ihS X st G σ loc σ1 fl1 h1 A lc hs'.1 hA hne base a s hAt.left ho1 hpc hrel hcap
      have hfl : ¬ fl1 = .normal := fun h => hne' (by rw [h])
      exact (Post.not_normal hfl).2 ((Post.not_normal hfl).1 p1)

theorem sim_filters_step {n} (ihA : SegArgs n) (ihF : SimFilters n) : SimFilters (n + 1) := by
  intro E fs v v' hev hs s hok p a st hoof
  cases fs with
  | nil => simp [applyFilters] at hev; subst hev; exact Seg.nil
  | cons f rest =>
    obtain ⟨name, args⟩ := f
    have hs' : wfArgs E.K.M E.P E.A args = true ∧ wfFilters E.K.M E.P E.A rest = true := by simpa [wfFilters] using hs
    simp only [applyFilters, bind_ok] at hev
    obtain ⟨as, has, hev⟩ := hev
    rw [(splitArgs_none as (evalArgs_keys args as has hs'.1)).2, (splitArgs_none as (evalArgs_keys args as has hs'.1)).1] at hev
    simp only [bind_ok] at hev
    obtain ⟨v1, hv1, hev⟩ := hev
    simp only [relFilters] at hoof ⊢
    have hoA : (relArgs args p a).2.oof = false := by simpa using oof_false_of_relFilters hoof
    rw [← evalArgs_length args as has, ← List.length_map (as := as) (·.2)]
    simp only [List.append_assoc, List.cons_append, List.nil_append]
    exact (ihA E args as has hs'.1 hok p a _ hoA).append (.cons (.applyFilter hv1) (ihF E rest v1 v' hev hs'.2 hok _ _ st hoof))

/-- the code `break` / `continue` emit to leave the scopes opened inside the loop body -/
theorem leave_reach (ctx : Scope) (C : List Instr) : ∀ (sc : List ScopeKind) (s : VmState),
    At C s.pc (leaveCode sc) → nCap sc < s.outs.length →
    Reach ctx C s { s with pc := s.pc + (leaveCode sc).length, frames := s.frames.drop (nWith sc),
                           outs := s.outs.drop (nCap sc) }
  | [], s, _, _ => by
    simp only [leaveCode, nWith, nCap, List.length_nil, Nat.add_zero, List.drop_zero]
    exact Reach.refl s
  | .with_ :: rest, s, hAt, hc => by
    simp only [leaveCode] at hAt
    let s1 : VmState := { s with pc := s.pc + 1, frames := s.frames.tail }
    have r1 : Reach ctx C s s1 := Reach.one (i := .popFrame) hAt.head step_popFrame
    have r2 := leave_reach ctx C rest s1 (by simpa [s1] using hAt.tail) (by simpa [s1, nCap] using hc)
    refine (r1.trans r2).cast rfl ?_
    simp only [s1, leaveCode, nWith, nCap, List.length_cons]
    have : s.frames.tail.drop (nWith rest) = s.frames.drop (nWith rest + 1) := by cases s.frames <;> simp
    rw [this]
    congr 1; omega
  | .capture :: rest, s, hAt, hc => by
    simp only [leaveCode] at hAt
    simp only [nCap] at hc
    cases ho : s.outs with
    | nil => rw [ho] at hc; simp at hc
    | cons o os =>
      let s1 : VmState := { s with pc := s.pc + 1, outs := os, stack := .str o :: s.stack }
      have hos : ∃ o2 os2, os = o2 :: os2 := by
        cases os with
        | nil => rw [ho] at hc; simp at hc
        | cons o2 os2 => exact ⟨o2, os2, rfl⟩
      obtain ⟨o2, os2, rfl⟩ := hos
      have r1 : Reach ctx C s s1 := Reach.one (i := .endCapture) hAt.head (step_endCapture ho)
      let s2 : VmState := { s with pc := s.pc + 2, outs := o2 :: os2 }
      have r2 : Reach ctx C s1 s2 :=
        Reach.one' (i := .discardTop) _ hAt.tail.head (by simp [s1]) (Goes.discardTop.step_eq rfl rfl)
      have r3 := leave_reach ctx C rest s2 (by simpa [s2, Nat.add_assoc] using hAt.tail.tail)
        (by rw [ho] at hc; simp at hc; simpa [s2] using hc)
      refine (r1.trans (r2.trans r3)).cast rfl ?_
      simp only [s2, leaveCode, nWith, nCap, List.length_cons, List.drop_succ_cons]
      congr 1; omega

theorem sim_text {n} (X : SC) (t : String) : StmtGoal (n + 1) X (.text t) := by
  intro G σ loc σ' fl hev A lc hs hA hne base a s hAt hoof hpc hrel hcap
  simp [exec] at hev
  obtain ⟨rfl, rfl⟩ := hev
  simp only [relStmt, Post, if_true] at hAt ⊢
  have hr := hrel.appendOut t { s with pc := s.pc + 1, outs := MJ.Vm.appendOut t s.outs } rfl rfl rfl
  have := Done.of_pure (X := X) (s := s) (s' := { s with pc := s.pc + 1, outs := MJ.Vm.appendOut t s.outs })
    (Reach.one (i := .emitRaw t) (by rw [hpc]; exact hAt.head) (step_emitRaw t)) rfl hr.1 hr.2 rfl (Ext.refl _)
  simpa [hpc] using this

theorem sim_emit {n} (ihE : SegExpr n) (X : SC) (e : Expr) : StmtGoal (n + 1) X (.emit e) := by
  intro G σ loc σ' fl hev A lc hs hA hne base a s hAt hoof hpc hrel hcap
  have hse : wfExpr X.K.M X.P A e = true := by simpa [wfStmt] using hs
  simp only [exec, bind_ok] at hev
  obtain ⟨v, hv, hev⟩ := hev
  simp at hev
  obtain ⟨rfl, rfl⟩ := hev
  simp only [relStmt] at hAt hoof ⊢
  exact Post.normal.2 (((Done.of_pushed hrel (ihE.run (X.ectx G σ.heap loc A) e v hv hse base a s hAt.left hoof hpc (hrel.eok hA hne))).trans
    fun s1 G1 hpc1 hst1 hrel1 _ => Done.emit hrel1 hpc1 hAt.right.head hst1).cast (by simp [Nat.add_assoc]))

theorem sim_set {n} (ihE : SegExpr n) (X : SC) (target : Target) (e : Expr) : StmtGoal (n + 1) X (.set target e) := by
  intro G σ loc σ' fl hev A lc hs hA hne base a s hAt hoof hpc hrel hcap
  have hse : targetOk X.K.M target = true ∧ wfExpr X.K.M X.P A e = true := by simpa [wfStmt] using hs
  cases loc with
  | nil => exact absurd rfl hne
  | cons cell rs =>
    simp only [exec, bind_ok, List.cons_append] at hev
    obtain ⟨v, hv, bs, hbs, hev⟩ := hev
    simp [topCell] at hev
    obtain ⟨rfl, rfl⟩ := hev
    simp only [relStmt, Post, if_true] at hAt hoof ⊢
    have := sim_assign ihE (X := X) (G := G) (A := A) hv hbs hse.2 hse.1 hA hAt hoof hpc hrel
    simpa [Nat.add_assoc] using this

theorem sim_cond {n} (ihE : SegExpr n) {X : SC} {G : Ghost} {σ : State} {loc : List Nat} {A : List String} {c : Expr} {cv : Val}
    (hcv : evalExpr n X.K.ctx σ.heap (loc ++ X.env) c = .ok cv) (hs : wfExpr X.K.M X.P A c = true)
    (hA : ABound σ.heap loc A) (hne : loc ≠ []) {base tgt : Nat} {a : Aux} {s : VmState}
    (hAt : At X.K.C base ((relExpr c base a).1 ++ [.jumpIfFalse tgt])) (hoof : (relExpr c base a).2.oof = false)
    (hpc : s.pc = base) (hrel : Rel X.K G X.P X.clo σ loc X.env s) :
    Done X loc σ s s.stack (if truthy cv = true then base + (relExpr c base a).1.length + 1 else tgt) := by
  have r1 := ihE.run (X.ectx G σ.heap loc A) c cv hcv hs base a s hAt.left hoof hpc (hrel.eok hA hne)
  exact Done.of_pushed hrel (r1.step (i := .jumpIfFalse tgt) hAt.right.head fun _ => Goes.jumpIfFalse _ _ _ _)

theorem sim_if {n} (ihE : SegExpr n) (ihB : SimBlock n) (X : SC) (c : Expr) (t f : List Stmt) :
    StmtGoal (n + 1) X (.ifS c t f) := by
  intro G σ loc σ' fl hev A lc hs hA hne base a s hAt hoof hpc hrel hcap
  simp only [exec, bind_ok] at hev
  obtain ⟨cv, hcv, hev⟩ := hev
  cases f with
  | nil =>
    have hs' : wfExpr X.K.M X.P A c = true ∧ wfBlock X.K.M X.P A lc.isSome t = true := by simpa [wfStmt, wfBlock] using hs
    simp only [relStmt] at hAt hoof ⊢
    have hc := sim_cond ihE hcv hs'.1 hA hne hAt.left (oof_false_of_relBlock hoof) hpc hrel
    by_cases ht : truthy cv = true
    · rw [if_pos ht] at hev hc
      exact (hc.andThen fun s1 G1 hpc1 _ hrel1 hout1 =>
        ihB X t G1 σ loc σ' fl hev A lc hs'.2 hA hne _ (relExpr c base a).2 s1 (At.cast hAt.right (by simp [Nat.add_assoc]))
          hoof hpc1 hrel1 (cap_of_tail hcap hrel1 hrel hout1)).cast
        (by simp only [List.length_append, List.length_cons, List.length_nil]; omega)
    · rw [if_neg ht] at hev hc
      obtain ⟨rfl, rfl⟩ := execBlock_nil hev
      exact Post.normal.2 (hc.cast (by simp only [List.length_append, List.length_cons, List.length_nil]; omega))
  | cons f0 fs =>
    have hs' : (wfExpr X.K.M X.P A c = true ∧ wfBlock X.K.M X.P A lc.isSome t = true) ∧ wfBlock X.K.M X.P A lc.isSome (f0 :: fs) = true := by
      simpa [wfStmt] using hs
    simp only [relStmt] at hAt hoof ⊢
    have ho2 := oof_false_of_relBlock hoof
    have hc := sim_cond ihE hcv hs'.1.1 hA hne hAt.left.left.left (oof_false_of_relBlock ho2) hpc hrel
    by_cases ht : truthy cv = true
    · rw [if_pos ht] at hev hc
      have hj2 := hAt.left.right.head
      simp only [List.length_append, List.length_cons, List.length_nil, ← Nat.add_assoc] at hj2
      exact ((hc.andThen fun s1 G1 hpc1 _ hrel1 hout1 =>
        ihB X t G1 σ loc σ' fl hev A lc hs'.1.2 hA hne _ (relExpr c base a).2 s1 (At.cast hAt.left.left.right (by simp [Nat.add_assoc]))
          ho2 hpc1 hrel1 (cap_of_tail hcap hrel1 hrel hout1)).jump hj2).cast
        (by simp only [List.length_append, List.length_cons, List.length_nil]; omega)
    · rw [if_neg ht] at hev hc
      exact (hc.andThen fun s1 G1 hpc1 _ hrel1 hout1 =>
        ihB X (f0 :: fs) G1 σ loc σ' fl hev A lc hs'.2 hA hne _ _ s1 (At.cast hAt.right (by simp [Nat.add_assoc]; try omega))
          hoof hpc1 hrel1 (cap_of_tail hcap hrel1 hrel hout1)).cast
        (by simp only [List.length_append, List.length_cons, List.length_nil]; omega)

/-- the code of `break` / `continue`: leave the scopes opened inside the loop body, jump -/
theorem leave_unw {X : SC} {G P clo σ loc} {s : VmState} {sc : List ScopeKind} {tgt : Nat}
    (hrel : Rel X.K G P clo σ loc X.env s) (hAt : At X.K.C s.pc (leaveCode sc ++ [.jump tgt]))
    (hcap : nCap sc < s.outs.length) : Unw X σ s tgt sc := by
  refine ⟨{ s with pc := tgt, frames := s.frames.drop (nWith sc), outs := s.outs.drop (nCap sc) },
    (leave_reach X.K.ctx X.K.C sc s hAt.left hcap).trans (Reach.one' (i := .jump tgt) _ hAt.right.head rfl rfl),
    rfl, rfl, rfl, rfl, ?_, Nat.le_refl _, fun _ _ _ => rfl⟩
  obtain ⟨rest, hr⟩ := hrel.2
  simp [hr]

theorem sim_break {n} (X : SC) : StmtGoal (n + 1) X .breakS := by
  intro G σ loc σ' fl hev A lc hs hA hne base a s hAt hoof hpc hrel hcap
  simp [exec] at hev
  obtain ⟨rfl, rfl⟩ := hev
  cases lc with
  | none => simp [wfStmt] at hs
  | some l => exact ⟨l, rfl, leave_unw hrel (hpc ▸ hAt) (hcap l rfl)⟩

theorem sim_continue {n} (X : SC) : StmtGoal (n + 1) X .continueS := by
  intro G σ loc σ' fl hev A lc hs hA hne base a s hAt hoof hpc hrel hcap
  simp [exec] at hev
  obtain ⟨rfl, rfl⟩ := hev
  cases lc with
  | none => simp [wfStmt] at hs
  | some l => exact ⟨l, rfl, leave_unw hrel (hpc ▸ hAt) (hcap l rfl)⟩

theorem pushScope_eq_some {k : ScopeKind} {lc : Option LoopCtx} {l' : LoopCtx} (h : pushScope k lc = some l') :
    ∃ l, lc = some l ∧ l' = { l with scopes := k :: l.scopes } := by
  cases lc with
  | none => cases h
  | some l => cases h; exact ⟨l, rfl, rfl⟩

theorem sim_with {n} (ihB : SimBlock n) (ihW : SimBinds n) (X : SC) (binds : List (Target × Expr)) (body : List Stmt) :
    StmtGoal (n + 1) X (.withS binds body) := by
  intro G σ loc σ' fl hev A lc hs hA hne base a s hAt hoof hpc hrel hcap
  have hs' : wfBinds X.K.M X.P A binds = true ∧ wfBlock X.K.M X.P (A ++ bindsNames binds) (pushScope .with_ lc).isSome body = true := by
    simpa [wfStmt] using hs
  simp only [exec, bind_ok] at hev
  obtain ⟨heap1, hw, r, hr, hev⟩ := hev
  obtain ⟨σ2, fl2⟩ := r
  simp at hev
  obtain ⟨rfl, rfl⟩ := hev
  simp only [relStmt] at hAt hoof ⊢
  have ho1 := oof_false_of_relBlock hoof
  let s1 : VmState := { s with pc := base + 1, frames := {} :: s.frames }
  have hreach1 : Reach X.K.ctx X.K.C s s1 :=
    Reach.one (i := .pushWith) (by rw [hpc]; exact hAt.left.left.head) (by rw [step_pushWith, hpc])
  have hrel1 : Rel X.K G X.P X.clo { heap := σ.heap ++ [[]], out := σ.out } (σ.heap.length :: loc) X.env s1 :=
    hrel.push hne [] {} rfl rfl (by intro x; simp only [assocGet, frameLocal]; exact OptAgree.none _ _ _ _ _)
      (by intro z v _ hz; simp [assocGet] at hz) s1 rfl rfl rfl
  have hA1 : ABound (σ.heap ++ [[]]) (σ.heap.length :: loc) A :=
    hA.push _ (fun id hid => hrel.1.bound id (by simp [hid]))
  have hT1 : σ.heap.length < (σ.heap ++ [[]]).length := by simp
  have hA2 : ABound heap1 (σ.heap.length :: loc) (A ++ bindsNames binds) :=
    (hA1.mono (bindWith_keys _ _ _ _ _ _ hw)).append
      (ABound.of_cell (bindWith_bound _ _ _ _ _ _ _ hw hT1))
  have hcap1 : ∀ l', pushScope .with_ lc = some l' → nCap l'.scopes < s1.outs.length := by
    intro l' hl'
    obtain ⟨l, rfl, rfl⟩ := pushScope_eq_some hl'
    simpa [nCap, s1] using hcap l rfl
  have p3 := (ihW X binds G _ (σ.heap.length :: loc) heap1 σ.out hw A hs'.1 hA1 (by simp) (base + 1) a s1
      (At.cast hAt.left.left.right (by simp only [List.length_cons, List.length_nil])) ho1 rfl hrel1).andThen
    fun s2 G2 hpc2 _ hrel2 hout2 =>
      ihB X body G2 { heap := heap1, out := σ.out } (σ.heap.length :: loc) σ2 fl2 hr (A ++ bindsNames binds)
        (pushScope .with_ lc) hs'.2 hA2 (by simp) (base + 1 + (relBinds binds (base + 1) a).1.length)
        (relBinds binds (base + 1) a).2 s2
        (At.cast hAt.left.right (by simp only [List.length_append, List.length_cons, List.length_nil]; omega)) hoof hpc2 hrel2
        (cap_of_tail hcap1 hrel2 hrel1 hout2)
  by_cases hfl : fl2 = .normal
  · subst hfl
    obtain ⟨s3, G3, r3, hpc3, hst3, hrel3, hout3, hk3⟩ := Post.normal.1 p3
    have htake : σ2.heap.take σ.heap.length = σ.heap :=
      take_of_frame σ.heap [] (loc ++ X.env) σ2.heap ((bindWith_frame _ _ _ _ _ _ hw).trans (execBlock_frame hr))
    have hfr3 : s3.frames.tail = s.frames := hk3.tail
    obtain ⟨r3out, hr3⟩ := hrel3.2
    let s4 : VmState := { s3 with pc := s3.pc + 1, frames := s3.frames.tail }
    have hreach4 : Reach X.K.ctx X.K.C s3 s4 :=
      Reach.one' (i := .popFrame) _ hAt.right.head
        (by simp only [hpc3, List.length_append, List.length_cons, List.length_nil]; omega) step_popFrame
    have hx13 : Ext s.closures s3.closures := hk3.clos.ext_of_none (s := s1) rfl
    have hrel4 : Rel X.K G X.P X.clo { heap := σ2.heap.take σ.heap.length, out := σ2.out } loc X.env s4 := by
      rw [htake]
      obtain ⟨e13, he13⟩ := hx13
      exact ⟨hrel.1.ext s4 (by simp [s4, hfr3]) e13 (by simp [s4, he13]), ⟨r3out, by simp [s4, hr3]⟩⟩
    exact Post.normal.2 ((Done.of_pure (s' := s4) (hreach1.trans (r3.trans hreach4)) (by simp [s4, hst3, s1]) hrel4
      (by simp [s4, hout3, s1]) (by simp [s4, hfr3]) (by simpa [s4] using hx13)).cast
      (by simp only [s4, hpc3, List.length_append, List.length_cons, List.length_nil]; omega))
  · obtain ⟨l', hl', s3, r3, hpc3, hst3, htl3, hhd3, hout3, hlen3, hun3⟩ := (Post.not_normal hfl).1 p3
    obtain ⟨l, rfl, rfl⟩ := pushScope_eq_some hl'
    refine (Post.not_normal hfl).2 ⟨l, rfl, s3, hreach1.trans r3, by rw [hpc3]; cases fl2 <;> rfl, hst3, by simpa [nWith, s1] using htl3,
      by simpa [nWith, s1] using hhd3, by simpa [nCap, s1] using hout3, hlen3, fun c hc hu => hun3 c hc ?_⟩
    intro f hf
    simp only [nWith, s1, List.take_succ_cons, List.mem_cons] at hf
    rcases hf with rfl | hf
    · simp
    · exact hu f hf

/-- the common part of set-blocks and filter-blocks: capture the body, apply the filter chain; the
result is on the operand stack, the capture buffer is gone -/
theorem sim_capture {n} (ihB : SimBlock n) (ihF : SimFilters n) (X : SC) (filters : List FilterApp) (body : List Stmt)
    {G σ loc σ1 fl1 A lc base a s} (hr : execBlock n X.K.ctx (loc ++ X.env) { σ with out := "" } body = .ok (σ1, fl1))
    (hsf : wfFilters X.K.M X.P A filters = true) (hsb : wfBlock X.K.M X.P A (pushScope .capture lc).isSome body = true)
    (hA : ABound σ.heap loc A) (hne : loc ≠ [])
    (hAt : At X.K.C base ([Instr.beginCapture] ++ (relBlock body (base + 1) a (pushScope .capture lc)).1.1 ++ [Instr.endCapture] ++
      (relFilters filters (base + 1 + (relBlock body (base + 1) a (pushScope .capture lc)).1.1.length + 1)
        (relBlock body (base + 1) a (pushScope .capture lc)).1.2).1))
    (hoof : (relFilters filters (base + 1 + (relBlock body (base + 1) a (pushScope .capture lc)).1.1.length + 1)
        (relBlock body (base + 1) a (pushScope .capture lc)).1.2).2.oof = false)
    (hpc : s.pc = base) (hrel : Rel X.K G X.P X.clo σ loc X.env s)
    (hcap : ∀ l, lc = some l → nCap l.scopes < s.outs.length) :
    (fl1 = .normal → ∀ v, applyFilters n X.K.ctx σ1.heap (loc ++ X.env) (.str σ1.out) filters = .ok v →
      Done X loc { heap := σ1.heap, out := σ.out } s (v :: s.stack)
        (base + 1 + (relBlock body (base + 1) a (pushScope .capture lc)).1.1.length + 1 +
          (relFilters filters (base + 1 + (relBlock body (base + 1) a (pushScope .capture lc)).1.1.length + 1)
            (relBlock body (base + 1) a (pushScope .capture lc)).1.2).1.length)) ∧
    (fl1 ≠ .normal → ∃ l, lc = some l ∧ Unw X { heap := σ1.heap, out := σ.out } s (jumpTarget fl1 l) l.scopes) := by
  have hoB := oof_false_of_relFilters hoof
  let s1 : VmState := { s with pc := base + 1, outs := "" :: s.outs }
  have hreach1 : Reach X.K.ctx X.K.C s s1 :=
    Reach.one (i := .beginCapture) (by rw [hpc]; exact hAt.left.left.left.head) (by rw [step_beginCapture, hpc])
  have hrel1 : Rel X.K G X.P X.clo { σ with out := "" } loc X.env s1 := ⟨hrel.1.same s1 rfl rfl, ⟨s.outs, rfl⟩⟩
  have p2 := ihB X body G _ loc σ1 fl1 hr A (pushScope .capture lc) hsb hA hne (base + 1) a s1
      (At.cast hAt.left.left.right (by simp)) hoB rfl hrel1
      (by intro l' hl'
          obtain ⟨l, rfl, rfl⟩ := pushScope_eq_some hl'
          have := hcap l rfl
          simp only [nCap, s1, List.length_cons]; omega)
  constructor
  · intro hfl1 v hv
    subst hfl1
    obtain ⟨s2, G2, r2, hpc2, hst2, hrel2, hout2, hk2⟩ := Post.normal.1 p2
    obtain ⟨r2out, hr2⟩ := hrel2.2
    have hr2' : r2out = s.outs := by have := hout2; rw [hr2] at this; simpa [s1] using this
    subst hr2'
    let pB : Nat := base + 1 + (relBlock body (base + 1) a (pushScope .capture lc)).1.1.length + 1
    let s3 : VmState := { s2 with pc := pB, stack := .str σ1.out :: s.stack, outs := s.outs }
    have hreach3 : Reach X.K.ctx X.K.C s2 s3 :=
      Reach.one' (i := .endCapture) _ hAt.left.right.head
        (by simp only [hpc2, List.length_append, List.length_cons, List.length_nil]; omega)
        (by obtain ⟨rest0, hr0⟩ := hrel.2
            rw [step_endCapture (hr0 ▸ hr2)]
            simp [hr0, s3, pB, hpc2, hst2, s1])
    have hrel3 : Rel X.K G2 X.P X.clo { heap := σ1.heap, out := σ.out } loc X.env s3 :=
      ⟨hrel2.1.same s3 rfl rfl, hrel.2⟩
    have hA3 : ABound σ1.heap loc A := by
      have := execBlock_keys hr
      exact hA.mono this
    obtain ⟨s4, G4, r4, hpc4, hst4, hrel4, hout4, hk4⟩ := Done.of_pushed hrel3 ((ihF (X.ectx G2 σ1.heap loc A) filters (.str σ1.out) v hv hsf
      (hrel3.eok hA3 hne) pB (relBlock body (base + 1) a (pushScope .capture lc)).1.2 s.stack hoof).run
      (At.cast hAt.right (by simp only [pB, List.length_append, List.length_cons, List.length_nil]; omega)) rfl rfl)
    have k1 : Keeps s s1 := Keeps.of_ext rfl (Ext.refl _)
    have k3 : Keeps s2 s3 := Keeps.of_ext rfl (Ext.refl _)
    exact ⟨s4, G4, hreach1.trans (r2.trans (hreach3.trans r4)), hpc4, hst4, hrel4, by rw [hout4],
      (k1.trans hk2).trans (k3.trans hk4)⟩
  · intro hfl1
    obtain ⟨l', hl', s3, r3, hpc3, hst3, htl3, hhd3, hout3, hlen3, hun3⟩ := (Post.not_normal hfl1).1 p2
    obtain ⟨l, rfl, rfl⟩ := pushScope_eq_some hl'
    refine ⟨l, rfl, s3, hreach1.trans r3, ?_, ?_, ?_, ?_, ?_, hlen3, ?_⟩
    · rw [hpc3]; cases fl1 <;> rfl
    · rw [hst3]
    · simpa [nWith, s1] using htl3
    · simpa [nWith, s1] using hhd3
    · obtain ⟨rest, hrr⟩ := hrel.2
      rw [hout3]; simp [nCap, s1, hrr]
    · intro c hc hu
      exact hun3 c hc (by simpa [nWith, s1] using hu)

theorem sim_setBlock {n} (ihB : SimBlock n) (ihF : SimFilters n) (X : SC) (x : String) (filters : List FilterApp) (body : List Stmt) :
    StmtGoal (n + 1) X (.setBlock x filters body) := by
  intro G σ loc σ' fl hev A lc hs hA hne base a s hAt hoof hpc hrel hcap
  have hs' : (¬ x ∈ X.K.M ∧ wfFilters X.K.M X.P A filters = true) ∧ wfBlock X.K.M X.P A (pushScope .capture lc).isSome body = true := by
    simpa [wfStmt] using hs
  simp only [exec, bind, Except.bind] at hev
  split at hev
  · simp at hev
  · rename_i r hr
    obtain ⟨σ1, fl1⟩ := r
    simp only [relStmt] at hAt hoof ⊢
    obtain ⟨hnorm, hjump⟩ := sim_capture ihB ihF X filters body hr hs'.1.2 hs'.2 hA hne hAt.left hoof hpc hrel hcap
    by_cases hfl1 : fl1 = .normal
    · subst hfl1
      simp only at hev
      split at hev
      · simp at hev
      · rename_i v hv
        cases loc with
        | nil => exact absurd rfl hne
        | cons cell rs =>
          simp [topCell] at hev
          obtain ⟨rfl, rfl⟩ := hev
          have hi := hAt.right.head
          simp only [List.length_append, List.length_cons, List.length_nil, ← Nat.add_assoc] at hi
          exact Post.normal.2 (((hnorm rfl v hv).trans fun s4 G4 hpc4 hst4 hrel4 _ =>
            Done.store hrel4 hpc4 hi hst4 (w := v) (by simp [ValAgree, hs'.1.1])
              (fun _ => applyFilters_plain hrel4.1.plain n _ filters v rfl hs'.1.2 hv)).cast
            (by simp only [List.length_append, List.length_cons, List.length_nil]; omega))
    · -- `break` / `continue` inside the block: the capture buffer was dropped on the way out
      have hev' : σ' = { heap := σ1.heap, out := σ.out } ∧ fl = fl1 := by
        cases fl1
        · exact absurd rfl hfl1
        · simp at hev; exact ⟨hev.1.symm, hev.2.symm⟩
        · simp at hev; exact ⟨hev.1.symm, hev.2.symm⟩
      obtain ⟨rfl, rfl⟩ := hev'
      exact (Post.not_normal hfl1).2 (hjump hfl1)

theorem sim_filterBlock {n} (ihB : SimBlock n) (ihF : SimFilters n) (X : SC) (filters : List FilterApp) (body : List Stmt) :
    StmtGoal (n + 1) X (.filterBlock filters body) := by
  intro G σ loc σ' fl hev A lc hs hA hne base a s hAt hoof hpc hrel hcap
  have hs' : wfFilters X.K.M X.P A filters = true ∧ wfBlock X.K.M X.P A (pushScope .capture lc).isSome body = true := by
    simpa [wfStmt] using hs
  simp only [exec, bind, Except.bind] at hev
  split at hev
  · simp at hev
  · rename_i r hr
    obtain ⟨σ1, fl1⟩ := r
    simp only [relStmt] at hAt hoof ⊢
    obtain ⟨hnorm, hjump⟩ := sim_capture ihB ihF X filters body hr hs'.1 hs'.2 hA hne hAt.left hoof hpc hrel hcap
    by_cases hfl1 : fl1 = .normal
    · subst hfl1
      simp only at hev
      split at hev
      · simp at hev
      · rename_i v hv
        simp at hev
        obtain ⟨rfl, rfl⟩ := hev
        have hi := hAt.right.head
        simp only [List.length_append, List.length_cons, List.length_nil, ← Nat.add_assoc] at hi
        exact Post.normal.2 (((hnorm rfl v hv).trans fun s4 G4 hpc4 hst4 hrel4 _ => Done.emit hrel4 hpc4 hi hst4).cast
          (by simp only [List.length_append, List.length_cons, List.length_nil]; omega))
    · have hev' : σ' = { heap := σ1.heap, out := σ.out } ∧ fl = fl1 := by
        cases fl1
        · exact absurd rfl hfl1
        · simp at hev; exact ⟨hev.1.symm, hev.2.symm⟩
        · simp at hev; exact ⟨hev.1.symm, hev.2.symm⟩
      obtain ⟨rfl, rfl⟩ := hev'
      exact (Post.not_normal hfl1).2 (hjump hfl1)

theorem sim_stmt_step {n} (ihEs : SimExprs n) (ihC : SimCall n) (hE : ∀ m, m ≤ n → SegExpr m) (ihB : SimBlock n) (ihW : SimBinds n)
    (ihI : SimIters n) (ihF : SimFilters n) : SimStmt (n + 1) := by
  intro X st
  cases st with
  | text t => exact sim_text X t
  | emit e => exact sim_emit ihEs.1 X e
  | set t e => exact sim_set ihEs.1 X t e
  | ifS c t f => exact sim_if ihEs.1 ihB X c t f
  | withS binds body => exact sim_with ihB ihW X binds body
  | forS t iter flt body els => exact sim_for hE ihB ihI X t iter flt body els
  | setBlock x fs body => exact sim_setBlock ihB ihF X x fs body
  | filterBlock fs body => exact sim_filterBlock ihB ihF X fs body
  | macroS name params defaults body uc => exact sim_macro X name params defaults body uc
  | callBlock callee args params defaults body uc =>
    cases callee with
    | var x => exact sim_callBlock ihEs.2.2.2.2.2.1 ihEs.2.2.2.2.2.2 ihC X x args params defaults body uc
    | _ =>
      intro G σ loc σ' fl hev A lc hs
      simp [wfStmt] at hs
  | breakS => exact sim_break X
  | continueS => exact sim_continue X

def AllSim (n : Nat) : Prop :=
  SimExprs n ∧ SimCall n ∧ SimStmt n ∧ SimBlock n ∧ SimBinds n ∧ SimIters n ∧ SimFilters n

theorem all_sim_zero : AllSim 0 := by
  refine ⟨sim_exprs_zero, ?_, ?_, ?_, ?_, ?_, ?_⟩
  · intro K G heap cls w u as args v h; simp [callValue] at h
  · intro X st G σ loc σ' fl h; simp [exec] at h
  · intro X ss G σ loc σ' fl h; simp [execBlock] at h
  · intro X binds G heap loc heap' out h; simp [bindWith] at h
  · intro X G σ loc σ' t body xs len idx prev h; simp [execIters] at h
  · intro E fs v v' h; simp [applyFilters] at h

theorem all_sim : ∀ n, ∀ m, m ≤ n → AllSim m := by
  intro n
  induction n with
  | zero => intro m hm; have : m = 0 := by omega
            subst this; exact all_sim_zero
  | succ n ih =>
    intro m hm
    by_cases hle : m ≤ n
    · exact ih m hle
    · have : m = n + 1 := by omega
      subst this
      obtain ⟨hEs, hC, hS, hB, hW, hI, hF⟩ := ih n (Nat.le_refl n)
      exact ⟨sim_exprs_step hEs hC, sim_call_step (fun k hk => (ih k (by omega)).1.1) hB,
        sim_stmt_step hEs hC (fun k hk => (ih k hk).1.1) hB hW hI hF, sim_block_step hS hB,
        sim_binds_step hEs.1 hW, sim_iters_step hB hI, sim_filters_step hEs.2.2.1 hF⟩

theorem sim_block_top (fuel : Nat) (X : SC) {ss : List Stmt} {G : Ghost} {σ σ' : State} {loc : List Nat} {fl : Flow}
    (hev : execBlock fuel X.K.ctx (loc ++ X.env) σ ss = .ok (σ', fl)) {A : List String}
    (hwf : wfBlock X.K.M X.P A false ss = true) (hA : ABound σ.heap loc A) (hne : loc ≠ []) {base : Nat} {a : Aux} {s : VmState}
    (hAt : At X.K.C base (relBlock ss base a none).1.1) (hoof : (relBlock ss base a none).1.2.oof = false) (hpc : s.pc = base)
    (hrel : Rel X.K G X.P X.clo σ loc X.env s) :
    fl = .normal ∧ Done X loc σ' s s.stack (base + (relBlock ss base a none).1.1.length) := by
  have p := (all_sim fuel fuel (Nat.le_refl _)).2.2.2.1 X ss G σ loc σ' fl hev A none hwf hA hne base a s hAt hoof hpc hrel
    (by intro l hl; cases hl)
  cases fl with
  | normal => exact ⟨rfl, Post.normal.1 p⟩
  | brk => simp [Post] at p
  | cont => simp [Post] at p

/-- the render context holds plain data: `undefined`, `none`, booleans, integers, strings, lists and maps
of these (no macro or other engine object: they cannot come from a template) -/
def CtxPlain (ctx : Scope) : Prop := ∀ x v, assocGet x ctx = some v → plain v = true

theorem plain_not_macro {v : Val} (h : plain v = true) : ∀ n p d b u e, v ≠ .macro n p d b u e := by
  intro n p d b u e hv; subst hv; simp [plain] at h

/-- the relation at the start of a render: the empty context over the render context, entered with an empty cell -/
theorem rel_init (K : Cfg) (hctx : CtxPlain K.ctx) :
    Rel K (fun _ => none) none none { heap := [[]], out := "" } [0] [] ({} : VmState) := by
  have h0 : HRel K (fun _ => none) none none [] [] [] { frames := [] } := by
    refine ⟨⟨[], [], rfl, trivial, by simp, by simp, fun c env' h => (by cases h)⟩, fun x _ => ?_, fun c env' h => (by cases h),
      fun c env' h => (by cases h), by simp, by simp, by simp, by simp, ⟨hctx, fun id cell x v hc => by simp at hc⟩⟩
    -- below the context both sides read the render context, which holds no macro
    have e1 : tailLookup K.ctx ([] : List Scope) none x = (assocGet x K.ctx).getD .undef := rfl
    have e2 : MJ.Eval.lookup K.ctx [] [] x = assocGet x K.ctx := by simp [MJ.Eval.lookup, lookupIn]
    show ValAgree K _ _ _ x ((MJ.Eval.lookup K.ctx [] [] x).getD .undef) (tailLookup K.ctx ([] : List Scope) none x)
    rw [e1, e2]
    unfold ValAgree
    split
    · cases hw : assocGet x K.ctx with
      | none => exact MacroRel_of_data (by intro n p d b u e h; cases h)
      | some w => exact MacroRel_of_data (plain_not_macro (hctx x w hw))
    · rfl
  exact ⟨h0.enter [] {} rfl rfl (fun x => by simp only [assocGet, frameLocal]; exact OptAgree.none _ _ _ _ _)
    (fun x v _ h => by simp [assocGet] at h) {} rfl rfl, ⟨[], rfl⟩⟩

/-- a block at template level whose code ends the program, from a related state that has no capture open: the VM
runs to the end (for every sufficiently large step budget), into a related state -/
theorem run_block_top {K : Cfg} {fuel : Nat} {ss : List Stmt} {G : Ghost} {σ σ' : State} {fl : Flow} {base : Nat} {a : Aux}
    {s : VmState} (hev : execBlock fuel K.ctx [0] σ ss = .ok (σ', fl)) (hwf : wfBlock K.M none [] false ss = true)
    (hAt : At K.C base (relBlock ss base a none).1.1) (hoof : (relBlock ss base a none).1.2.oof = false)
    (hend : K.C.length = base + (relBlock ss base a none).1.1.length) (hpc : s.pc = base)
    (hrel : Rel K G none none σ [0] [] s) (ho : s.outs.tail = []) :
    ∃ s' G' k, (∀ j, run K.ctx K.C (k + j) s = .ok s') ∧ Rel K G' none none σ' [0] [] s' ∧ s'.outs = [σ'.out] := by
  obtain ⟨_, s', G', hreach, hpc', _, hrel', hout, _⟩ := sim_block_top fuel ⟨K, none, none, []⟩ (loc := [0]) hev (A := []) hwf
    (by intro x hx; simp at hx) (by simp) hAt hoof hpc hrel
  obtain ⟨k, hk⟩ := hreach.toRun (.inl (by rw [hpc', ← hend]; simp))
  obtain ⟨rest, hr⟩ := hrel'.2
  refine ⟨s', G', k, hk, hrel', ?_⟩
  rw [hr, ho] at hout
  rw [hr]; simpa using hout

/-- **`vm_refines_eval`**: for every template of the core fragment (`CoreFragment`: expressions, `if`,
`for` with filter / else / unpacking / `loop`, `set`, set-blocks, `with`, filter-blocks, `break` /
`continue`, macro declarations with closures and parameter defaults, macro calls with positional and
keyword arguments, call blocks and `caller`) and every render context of plain data, if the reference
semantics renders it to `out`, then the model VM, run on the code the model code generator emits for it,
renders `out` as well (for every sufficiently large step budget). -/
theorem vm_refines_eval (prog : List Stmt) (hfrag : CoreFragment prog) (ctx : Scope) (hctx : CtxPlain ctx)
    (code : List Instr) (hcode : compileTemplate prog = some code) (fuel : Nat) (out : String)
    (hev : renderTemplate fuel ctx prog = .ok out) :
    ∃ k, ∀ j, renderCode (k + j) ctx code = .ok out := by
  rw [compileTemplate_top _ (wf_coreBlock _ _ _ _ _ hfrag)] at hcode
  split at hcode
  · simp at hcode
  · rename_i hoof
    have hoof : (relBlock prog 0 {} none).1.2.oof = false := by simpa using hoof
    have hc : code = (relBlock prog 0 {} none).1.1 := by simpa using hcode.symm
    simp only [renderTemplate] at hev
    split at hev
    · rename_i σ fl hexec
      simp at hev; subst hev
      obtain ⟨s', _, k, hk, _, ho⟩ := run_block_top (K := { ctx := ctx, M := macroNames prog, C := code }) hexec hfrag
        (by rw [hc]; intro k _; simp) hoof (by rw [hc]; simp) rfl (rel_init _ hctx) rfl
      exact ⟨k, fun j => by simp [renderCode, show run ctx code (k + j) {} = .ok s' from hk j, ho]⟩
    · simp at hev

/-- expressions, for the back-patching generator `cExpr` of `MJ.Compile`: the code it appends for `e`
makes the VM push the value of `e` (constant folding, short-circuit `and` / `or`, `if` expressions,
filters, tests, macro calls with positional and keyword arguments, …) -/
theorem compileExpr_correct {n e v} (E : ECtx) (hev : evalExpr n E.K.ctx E.heap (E.loc ++ E.env) e = .ok v)
    (hwf : wfExpr E.K.M E.P E.A e = true) (g : CG) (post : List Instr) (hC : E.K.C = (cExpr e g).code ++ post)
    (hoof : (cExpr e g).oof = false) {s : VmState} (hpc : s.pc = g.next) (hok : E.ok s) :
    Pushed E s (cExpr e g).next (v :: s.stack) := by
  have hcore := wf_core _ _ _ e hwf
  rw [cExpr_eq_core e g hcore] at hoof hC ⊢
  have hAt : At E.K.C g.next (relExpr e g.next g.aux).1 := by
    rw [hC]
    exact At.of_append g.code _ post
  have := (all_sim n n (Nat.le_refl _)).1.1.run E e v hev hwf g.next g.aux s hAt (by simpa [CG.oof, CG.extend] using hoof) hpc hok
  simpa [CG.extend, CG.next] using this

end MJ.Vm
