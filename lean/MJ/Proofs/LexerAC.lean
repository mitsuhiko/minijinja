import MJ.Proofs.LexerFind
/-! The Aho-Corasick path of `find_start_marker` as `syntax.rs` builds it (validated start
delimiters, pattern → marker mapping, overlapping matches ordered by their end, the
`max_pattern_len` loop) is the leftmost-longest search `findLL`, over any report of the automaton
that meets `AcSpec` (`findStartWith_eq_findLL`); the model's own `findStart` is the instance at the
reference report `acMatches`. -/
namespace MJ.Lexer

/-- what the loop of `validated_start_delims` keeps: the non-empty delimiters, in order -/
def keptDelims (items : List (List Char × Bool)) : List (List Char) :=
  (items.filter (fun x => !x.1.isEmpty)).map (·.1)

theorem keptDelims_cons_nil (req : Bool) (items : List (List Char × Bool)) {p : List Char} (h : p.isEmpty = true) :
    keptDelims ((p, req) :: items) = keptDelims items := by
  simp [keptDelims, h]

theorem keptDelims_cons (req : Bool) (items : List (List Char × Bool)) {p : List Char} (h : ¬ p.isEmpty = true) :
    keptDelims ((p, req) :: items) = p :: keptDelims items := by
  simp [keptDelims, h]

theorem validatedGo_iff (items : List (List Char × Bool)) (acc out : List (List Char)) (hnd : acc.Nodup) :
      (validatedGo items acc = some out ↔
        out = acc ++ keptDelims items ∧ (∀ x ∈ items, x.2 = true → x.1 ≠ []) ∧ out.Nodup) := by
  fun_induction validatedGo items acc with
  | case1 acc =>
    rw [keptDelims, List.filter_nil, List.map_nil, List.append_nil, Option.some.injEq]
    exact ⟨fun h => h ▸ ⟨rfl, nofun, hnd⟩, fun h => h.1.symm⟩
  | case2 p r acc hp =>
    refine ⟨nofun, fun h => absurd (List.isEmpty_iff.1 hp) (h.2.1 (p, true) (.head _) rfl)⟩
  | case3 p req r acc hp hreq ih =>
    rw [ih hnd, keptDelims_cons_nil req r hp, List.forall_mem_cons]
    simp [hreq]
  | case4 p req r acc hp hc =>
    refine ⟨nofun, fun h => ?_⟩
    obtain ⟨rfl, _, hn⟩ := h
    rw [keptDelims_cons req r hp, List.nodup_append] at hn
    exact absurd rfl (hn.2.2 p (List.contains_iff_mem.1 hc) p (.head _))
  | case5 p req r acc hp hc ih =>
    have hnm : p ∉ acc := fun hm => hc (List.contains_iff_mem.2 hm)
    rw [ih (List.nodup_append.2 ⟨hnd, by simp, fun a ha b hb => by
        rw [List.mem_singleton.1 hb]; rintro rfl; exact hnm ha⟩),
      keptDelims_cons req r hp, List.forall_mem_cons, List.append_assoc]
    have : p ≠ [] := fun h => hp (List.isEmpty_iff.2 h)
    simp [this]

theorem ne_nil_of_mem_keptDelims {items : List (List Char × Bool)} {p : List Char} (h : p ∈ keptDelims items) :
    p ≠ [] := by
  simp only [keptDelims, List.mem_map, List.mem_filter] at h
  obtain ⟨x, ⟨_, hx⟩, rfl⟩ := h
  intro h0; simp [h0] at hx

/-- the delimiters handed to `validated_start_delims`, with their `required` flags -/
def delimItems (d : Delims) : List (List Char × Bool) :=
  [(d.vs, true), (d.bs, true), (d.cs, true), (d.ls, false), (d.lc, false)]

theorem keptDelims_delimItems {d : Delims} (hv : d.vs ≠ []) (hb : d.bs ≠ []) (hc : d.cs ≠ []) :
    keptDelims (delimItems d) = (startPats d).map (·.2) := by
  have h1 : d.vs.isEmpty = false := by simpa using hv
  have h2 : d.bs.isEmpty = false := by simpa using hb
  have h3 : d.cs.isEmpty = false := by simpa using hc
  cases hl : d.ls.isEmpty <;> cases hk : d.lc.isEmpty <;>
    simp [keptDelims, delimItems, startPats, h1, h2, h3, hl, hk]

/-- index ↦ marker as `pattern_to_marker` says -/
theorem startPats_zipIdx (d : Delims) :
    (((startPats d).map (·.2)).zipIdx.map fun pi => (patternToMarker d pi.2, pi.1)) = startPats d := by
  cases hl : d.ls.isEmpty <;> cases hk : d.lc.isEmpty <;> simp [startPats, hl, hk, patternToMarker, List.zipIdx_cons]

/-- What `SyntaxConfigBuilder::build` accepts: non-empty variable, block and comment start
    delimiters and pairwise distinct start patterns; the automaton is then built from the spec-side
    pattern list in its order. -/
theorem validated_iff {d : Delims} {pats : List (List Char)} :
    validatedStartDelims d = some pats ↔
      pats = (startPats d).map (·.2) ∧ d.vs ≠ [] ∧ d.bs ≠ [] ∧ d.cs ≠ [] ∧ pats.Nodup := by
  have hreq : (∀ x ∈ delimItems d, x.2 = true → x.1 ≠ []) ↔ (d.vs ≠ [] ∧ d.bs ≠ [] ∧ d.cs ≠ []) := by
    simp [delimItems]
  rw [validatedStartDelims, ← delimItems, validatedGo_iff _ [] pats List.nodup_nil, hreq, List.nil_append]
  constructor
  · rintro ⟨rfl, ⟨hv, hb, hc⟩, hn⟩
    exact ⟨keptDelims_delimItems hv hb hc, hv, hb, hc, hn⟩
  · rintro ⟨rfl, hv, hb, hc, hn⟩
    exact ⟨(keptDelims_delimItems hv hb hc).symm, ⟨hv, hb, hc⟩, hn⟩

/-- what the automaton is built from: the spec-side pattern list, index ↦ marker as
    `pattern_to_marker` says, patterns non-empty and pairwise distinct -/
theorem validated_spec {d : Delims} {pats : List (List Char)} (h : validatedStartDelims d = some pats) :
    (pats.zipIdx.map fun pi => (patternToMarker d pi.2, pi.1)) = startPats d ∧ pats.Nodup ∧
      ∀ p ∈ pats, p ≠ [] := by
  obtain ⟨rfl, hv, hb, hc, hn⟩ := validated_iff.1 h
  refine ⟨startPats_zipIdx d, hn, fun p hp => ?_⟩
  rw [← keptDelims_delimItems hv hb hc] at hp
  exact ne_nil_of_mem_keptDelims hp

theorem mem_matchesEndingAt {pats : List (List Char)} {rest : List Char} {e : Nat} {m : AcMatch} :
    m ∈ matchesEndingAt pats rest e ↔
      ∃ p, pats[m.idx]? = some p ∧ m.len = p.length ∧ m.start + m.len = e ∧
        startsWith p (rest.drop m.start) = true := by
  unfold matchesEndingAt
  rw [List.mem_filterMap]
  constructor
  · rintro ⟨⟨p, i⟩, hmem, hf⟩
    have hidx := List.mem_zipIdx_iff_getElem?.1 hmem
    simp only [] at hf hidx
    split at hf
    · rename_i hc
      simp only [Bool.and_eq_true, decide_eq_true_eq] at hc
      cases hf
      exact ⟨p, hidx, rfl, by simp only []; omega, hc.2⟩
    · cases hf
  · rintro ⟨p, hidx, hlen, he, hsw⟩
    refine ⟨(p, m.idx), List.mem_zipIdx_iff_getElem?.2 hidx, ?_⟩
    have h1 : p.length ≤ e := by omega
    have h2 : e - p.length = m.start := by omega
    simp only [h1, decide_true, h2, hsw, Bool.and_self, if_true]
    cases m; simp_all

theorem startsWith_length_le {p s : List Char} (h : startsWith p s = true) : p.length ≤ s.length := by
  obtain ⟨r, rfl⟩ := (startsWith_iff p s).1 h
  simp

theorem mem_acMatches {pats : List (List Char)} {rest : List Char} {m : AcMatch} :
    m ∈ acMatches pats rest ↔
      ∃ p, pats[m.idx]? = some p ∧ m.len = p.length ∧ startsWith p (rest.drop m.start) = true ∧
        m.start + m.len ≤ rest.length := by
  unfold acMatches
  rw [List.mem_flatMap]
  constructor
  · rintro ⟨e, he, hm⟩
    obtain ⟨p, h1, h2, h3, h4⟩ := mem_matchesEndingAt.1 hm
    exact ⟨p, h1, h2, h4, by have := List.mem_range.1 he; omega⟩
  · rintro ⟨p, h1, h2, h3, h4⟩
    exact ⟨m.start + m.len, List.mem_range.2 (by omega), mem_matchesEndingAt.2 ⟨p, h1, h2, rfl, h3⟩⟩

theorem acMatches_sorted (pats : List (List Char)) (rest : List Char) :
    (acMatches pats rest).Pairwise (fun a b => a.stop ≤ b.stop) := by
  unfold acMatches
  rw [List.pairwise_flatMap]
  constructor
  · intro e _
    have : ∀ m ∈ matchesEndingAt pats rest e, m.stop = e := by
      intro m hm
      obtain ⟨p, _, _, h3, _⟩ := mem_matchesEndingAt.1 hm
      exact h3
    generalize matchesEndingAt pats rest e = l at this
    induction l with
    | nil => exact List.Pairwise.nil
    | cons a l ih =>
      refine List.Pairwise.cons ?_ (ih (fun m hm => this m (by simp [hm])))
      intro b hb
      rw [this a (by simp), this b (by simp [hb])]
      exact Nat.le_refl _
  · refine List.Pairwise.imp ?_ (List.pairwise_lt_range (n := rest.length + 1))
    intro e1 e2 hlt x hx y hy
    obtain ⟨_, _, _, h3, _⟩ := mem_matchesEndingAt.1 hx
    obtain ⟨_, _, _, h3', _⟩ := mem_matchesEndingAt.1 hy
    unfold AcMatch.stop
    omega

/-- the line statement prefix does not count here -/
def acSkip (d : Delims) (pre rest : List Char) (m : AcMatch) : Bool :=
  decide (patternToMarker d m.idx = .lineStmt) && !lineStartP ((rest.take m.start).reverse ++ pre)

def bestOf (d : Delims) (m : AcMatch) : Found := some (m.start, patternToMarker d m.idx, m.len)

theorem acPick_eq (d : Delims) (pre rest : List Char) (best : Found) (m : AcMatch) :
    acPick d pre rest best m = if acSkip d pre rest m then best else bestOf d m := by
  simp only [acPick, acSkip, bestOf]
  rfl

theorem acLoop_cons_none (d : Delims) (maxLen : Nat) (pre rest : List Char) (m : AcMatch) (ms : List AcMatch) :
    acLoop d maxLen pre rest none (m :: ms) =
      if acSkip d pre rest m then acLoop d maxLen pre rest none ms
      else acLoop d maxLen pre rest (bestOf d m) ms := by
  rw [acLoop, acPick_eq]
  cases acSkip d pre rest m <;> simp

theorem acLoop_cons_some (d : Delims) (maxLen : Nat) (pre rest : List Char) (x m : AcMatch) (ms : List AcMatch) :
    acLoop d maxLen pre rest (bestOf d x) (m :: ms) =
      if m.stop > x.start + maxLen then bestOf d x
      else if m.start > x.start then acLoop d maxLen pre rest (bestOf d x) ms
      else if acSkip d pre rest m then acLoop d maxLen pre rest (bestOf d x) ms
      else acLoop d maxLen pre rest (bestOf d m) ms := by
  simp only [bestOf]
  rw [acLoop, acPick_eq]
  simp only [bestOf]
  cases acSkip d pre rest m <;> simp

/-- facts about the target `T` (the leftmost, then longest, match that counts) relative to the
    matches that count (`acSkip = false`) among the occurrences `Occ` -/
structure Target (d : Delims) (maxLen : Nat) (pre rest : List Char) (Occ : AcMatch → Prop) (T : AcMatch) : Prop where
  counts : acSkip d pre rest T = false
  lenT : T.len ≤ maxLen
  leftmost : ∀ m, Occ m → acSkip d pre rest m = false → T.start ≤ m.start
  longest : ∀ m, Occ m → acSkip d pre rest m = false → m.start = T.start → m.len ≤ T.len
  same : ∀ m, Occ m → m.start = T.start → m.len = T.len → m.idx = T.idx

theorem acLoop_after {d : Delims} {maxLen : Nat} {pre rest : List Char} {Occ : AcMatch → Prop} {T : AcMatch}
    (hT : Target d maxLen pre rest Occ T) (ms : List AcMatch)
    (hms : ∀ m ∈ ms, Occ m ∧ T.stop ≤ m.stop) :
    acLoop d maxLen pre rest (bestOf d T) ms = bestOf d T := by
  induction ms with
  | nil => rfl
  | cons m ms ih =>
    have ih' := ih (fun x hx => hms x (by simp [hx]))
    obtain ⟨hocc, hstop⟩ := hms m (by simp)
    rw [acLoop_cons_some]
    split
    · rfl
    · split
      · exact ih'
      · split
        · exact ih'
        · rename_i h1 h2 h3
          have hc : acSkip d pre rest m = false := by simpa using h3
          have hs : m.start = T.start := by
            have := hT.leftmost m hocc hc; omega
          have hl : m.len = T.len := by
            have := hT.longest m hocc hc hs
            unfold AcMatch.stop at hstop; omega
          have hi := hT.same m hocc hs hl
          have : bestOf d m = bestOf d T := by simp [bestOf, hs, hl, hi]
          rw [this]; exact ih'

theorem acLoop_before {d : Delims} {maxLen : Nat} {pre rest : List Char} {Occ : AcMatch → Prop} {T : AcMatch}
    (hT : Target d maxLen pre rest Occ T) (ms2 : List AcMatch) (ms1 : List AcMatch) :
    ∀ (best : Found), (best = none ∨ ∃ x, Occ x ∧ acSkip d pre rest x = false ∧ best = bestOf d x) →
      (∀ m ∈ ms1, Occ m ∧ m.stop ≤ T.stop) →
      acLoop d maxLen pre rest best (ms1 ++ T :: ms2) = acLoop d maxLen pre rest (bestOf d T) ms2 := by
  induction ms1 with
  | nil =>
    intro best hbest _
    simp only [List.nil_append]
    rcases hbest with rfl | ⟨x, hox, hcx, rfl⟩
    · rw [acLoop_cons_none, hT.counts]; rfl
    · rw [acLoop_cons_some]
      have h1 := hT.leftmost x hox hcx
      have h2 := hT.lenT
      rw [if_neg (by unfold AcMatch.stop; omega), if_neg (by omega), hT.counts]; rfl
  | cons m ms1 ih =>
    intro best hbest hms
    obtain ⟨hocc, hstop⟩ := hms m (by simp)
    have hms' : ∀ y ∈ ms1, Occ y ∧ y.stop ≤ T.stop := fun y hy => hms y (by simp [hy])
    simp only [List.cons_append]
    rcases hbest with rfl | ⟨x, hox, hcx, rfl⟩
    · rw [acLoop_cons_none]
      split
      · exact ih none (Or.inl rfl) hms'
      · rename_i h
        exact ih _ (Or.inr ⟨m, hocc, by simpa using h, rfl⟩) hms'
    · rw [acLoop_cons_some]
      have h1 := hT.leftmost x hox hcx
      have h2 := hT.lenT
      rw [if_neg (by unfold AcMatch.stop at *; omega)]
      split
      · exact ih _ (Or.inr ⟨x, hox, hcx, rfl⟩) hms'
      · split
        · exact ih _ (Or.inr ⟨x, hox, hcx, rfl⟩) hms'
        · rename_i h
          exact ih _ (Or.inr ⟨m, hocc, by simpa using h, rfl⟩) hms'

theorem acLoop_none {d : Delims} {maxLen : Nat} {pre rest : List Char} (ms : List AcMatch)
    (h : ∀ m ∈ ms, acSkip d pre rest m = true) : acLoop d maxLen pre rest none ms = none := by
  induction ms with
  | nil => rfl
  | cons m ms ih =>
    rw [acLoop_cons_none, h m (by simp), if_pos rfl]
    exact ih (fun x hx => h x (by simp [hx]))

theorem le_foldl_max (l : List (List Char)) (a : Nat) :
    a ≤ l.foldl (fun a p => max a p.length) a ∧ ∀ p ∈ l, p.length ≤ l.foldl (fun a p => max a p.length) a := by
  induction l generalizing a with
  | nil => simp
  | cons x l ih =>
    simp only [List.foldl_cons]
    obtain ⟨h1, h2⟩ := ih (max a x.length)
    refine ⟨by omega, ?_⟩
    intro p hp
    rcases List.mem_cons.1 hp with rfl | hp
    · omega
    · exact h2 p hp

theorem length_le_maxPatternLen {pats : List (List Char)} {p : List Char} (h : p ∈ pats) :
    p.length ≤ maxPatternLen pats := (le_foldl_max pats 0).2 p h

/-- index ↦ (marker, pattern) and back -/
theorem startPats_iff {d : Delims} {pats : List (List Char)} (hv : validatedStartDelims d = some pats)
    (mk : Marker) (p : List Char) :
    (mk, p) ∈ startPats d ↔ ∃ i, pats[i]? = some p ∧ patternToMarker d i = mk := by
  rw [← (validated_spec hv).1, List.mem_map]
  constructor
  · rintro ⟨⟨p', i⟩, hmem, heq⟩
    simp only [Prod.mk.injEq] at heq
    obtain ⟨rfl, rfl⟩ := heq
    exact ⟨i, List.mem_zipIdx_iff_getElem?.1 hmem, rfl⟩
  · rintro ⟨i, hi, rfl⟩
    exact ⟨(p, i), List.mem_zipIdx_iff_getElem?.2 hi, rfl⟩

/-- a match that counts is a candidate of the specification at its start offset -/
theorem candidate_of_match {d : Delims} {pats : List (List Char)} (hv : validatedStartDelims d = some pats)
    (pre rest : List Char) (m : AcMatch) (hm : m ∈ acMatches pats rest) (hc : acSkip d pre rest m = false) :
    (patternToMarker d m.idx, m.len) ∈ candidates d (preAt pre rest m.start) (rest.drop m.start) := by
  obtain ⟨p, h1, h2, h3, _⟩ := mem_acMatches.1 hm
  rw [mem_candidates]
  refine ⟨p, (startPats_iff hv _ p).2 ⟨m.idx, h1, rfl⟩, ?_, h2⟩
  simp only [patOk, h3, Bool.true_and, Bool.or_eq_true, bne_iff_ne, ne_eq]
  simp only [acSkip, Bool.and_eq_false_iff, decide_eq_false_iff_not, Bool.not_eq_false'] at hc
  exact hc

/-- What the proof uses about `aho_corasick::find_overlapping` (validated against the real automaton
    by the `kac` stream, hook `start_marker_matches`): the reported matches are exactly the
    occurrences of the patterns in the haystack (as a set: nothing missed, nothing invented; the
    multiplicity and the order among matches that end at the same offset are free) and they come in
    the order of their end offsets. -/
structure AcSpec (pats : List (List Char)) (rest : List Char) (ms : List AcMatch) : Prop where
  complete : ∀ m, m ∈ ms ↔ m ∈ acMatches pats rest
  byEnd : ms.Pairwise (fun a b => a.stop ≤ b.stop)

theorem acSpec_acMatches (pats : List (List Char)) (rest : List Char) : AcSpec pats rest (acMatches pats rest) :=
  ⟨fun _ => Iff.rfl, acMatches_sorted pats rest⟩

theorem byEndB_iff (ms : List AcMatch) : byEndB ms = true ↔ ms.Pairwise (fun a b => a.stop ≤ b.stop) := by
  induction ms with
  | nil => simp [byEndB]
  | cons a r ih => simp [byEndB, List.pairwise_cons, ih, List.all_eq_true]

theorem acSpecB_iff (pats : List (List Char)) (rest : List Char) (ms : List AcMatch) :
    acSpecB pats rest ms = true ↔ AcSpec pats rest ms := by
  simp only [acSpecB, Bool.and_eq_true, List.all_eq_true, List.contains_iff_mem, byEndB_iff]
  constructor
  · rintro ⟨⟨h1, h2⟩, h3⟩
    exact ⟨fun m => ⟨h1 m, h2 m⟩, h3⟩
  · rintro ⟨h1, h2⟩
    exact ⟨⟨fun m hm => (h1 m).1 hm, fun m hm => (h1 m).2 hm⟩, h2⟩

/-- the loop of `find_start_marker` over ANY match list that meets `AcSpec` is the leftmost-longest
    search -/
theorem acLoop_eq_findLL_of_spec {d : Delims} {pats : List (List Char)} (hv : validatedStartDelims d = some pats)
    (pre rest : List Char) (ms : List AcMatch) (hspec : AcSpec pats rest ms) :
    acLoop d (maxPatternLen pats) pre rest none ms = findLL d pre rest := by
  have hsub : ∀ m, m ∈ ms → m ∈ acMatches pats rest := fun m h => (hspec.complete m).1 h
  have hll := findLL_leftmostLongest d pre rest
  obtain ⟨_, hnd, hne⟩ := validated_spec hv
  cases hf : findLL d pre rest with
  | none =>
    rw [hf] at hll
    apply acLoop_none
    intro m hm'
    have hm := hsub m hm'
    cases hc : acSkip d pre rest m with
    | true => rfl
    | false =>
      have hcand := candidate_of_match hv pre rest m hm hc
      obtain ⟨p, h1, h2, h3, h4⟩ := mem_acMatches.1 hm
      have hp : p ≠ [] := hne p (List.mem_of_getElem? h1)
      have hlt : m.start < rest.length := by
        have : 0 < p.length := List.length_pos_iff.2 hp
        omega
      rw [matchAt_none_iff.1 (hll m.start hlt)] at hcand
      cases hcand
  | some x =>
    obtain ⟨s, mk, n⟩ := x
    rw [hf] at hll
    obtain ⟨hs, hmatch, hleft⟩ := hll
    unfold matchAt at hmatch
    obtain ⟨hmem, hmax⟩ := longest_mem hmatch
    obtain ⟨p, hp1, hp2, rfl⟩ := mem_candidates.1 hmem
    obtain ⟨i, hi, hmk⟩ := (startPats_iff hv mk p).1 hp1
    simp only [patOk, Bool.and_eq_true, Bool.or_eq_true, bne_iff_ne, ne_eq] at hp2
    let T : AcMatch := ⟨s, i, p.length⟩
    have hTacc : T ∈ acMatches pats rest := by
      refine mem_acMatches.2 ⟨p, hi, rfl, hp2.1, ?_⟩
      have := startsWith_length_le hp2.1
      simp only [List.length_drop] at this
      show s + p.length ≤ rest.length
      omega
    have hTmem : T ∈ ms := (hspec.complete T).2 hTacc
    have hT : Target d (maxPatternLen pats) pre rest (· ∈ acMatches pats rest) T := by
      refine ⟨?_, length_le_maxPatternLen (List.mem_of_getElem? hi), ?_, ?_, ?_⟩
      · simp only [acSkip, Bool.and_eq_false_iff, decide_eq_false_iff_not, Bool.not_eq_false']
        rw [hmk]; exact hp2.2
      · intro m hm hc
        have hcand := candidate_of_match hv pre rest m hm hc
        rcases Nat.lt_or_ge m.start s with hlt | hge
        · rw [matchAt_none_iff.1 (hleft m.start hlt)] at hcand
          cases hcand
        · exact hge
      · intro m hm hc hst
        have hcand := candidate_of_match hv pre rest m hm hc
        rw [hst] at hcand
        exact hmax _ hcand
      · intro m hm hst hlen
        obtain ⟨p', h1, h2, h3, _⟩ := mem_acMatches.1 hm
        have hpp : p' = p := by
          apply startsWith_eq_of_length_eq h3 (by rw [hst]; exact hp2.1)
          rw [← h2, hlen]
        subst hpp
        have hlt : m.idx < pats.length := by
          rcases List.getElem?_eq_some_iff.1 h1 with ⟨h, _⟩; exact h
        exact (List.getElem?_inj hlt hnd).1 (by rw [h1, hi])
    obtain ⟨ms1, ms2, hsplit⟩ := List.append_of_mem hTmem
    have hsorted := hspec.byEnd
    rw [hsplit, List.pairwise_append, List.pairwise_cons] at hsorted
    obtain ⟨_, ⟨hafter, _⟩, hbefore⟩ := hsorted
    have hin1 : ∀ m ∈ ms1, m ∈ acMatches pats rest := fun m hm => hsub m (by rw [hsplit]; simp [hm])
    have hin2 : ∀ m ∈ ms2, m ∈ acMatches pats rest := fun m hm => hsub m (by rw [hsplit]; simp [hm])
    rw [hsplit, acLoop_before hT ms2 ms1 none (Or.inl rfl)
      (fun m hm => ⟨hin1 m hm, hbefore m hm T (by simp)⟩),
      acLoop_after hT ms2 (fun m hm => ⟨hin2 m hm, hafter m hm⟩)]
    simp [bestOf, T, hmk]

/-- `build` accepts every delimiter set that the general theorems cover -/
theorem validated_of_good {d : Delims} (g : Good d) :
    validatedStartDelims d = some ((startPats d).map (·.2)) :=
  validated_iff.2 ⟨rfl, startOk_ne_nil g.vs, startOk_ne_nil g.bs, startOk_ne_nil g.cs, g.nodup⟩

end MJ.Lexer

namespace MJ.C10
open MJ.Lexer

/-- the start marker search of the tokenizer with the automaton's report as a parameter
    (`report pats rest` = what `find_overlapping` yields for the patterns `pats` on `rest`) -/
def findStartWith (report : List (List Char) → List Char → List AcMatch) (d : Delims) : FindStart :=
  if d = defaultDelims then fun _ rest => findStartDefault rest
  else fun pre rest =>
    match validatedStartDelims d with
    | none => none
    | some pats => acLoop d (maxPatternLen pats) pre rest none (report pats rest)

/-- the model's own `findStart` is the instance with the reference report `acMatches` -/
theorem findStartWith_acMatches (d : Delims) : findStartWith acMatches d = findStart d := by
  unfold findStartWith findStart acFind; rfl

/-- over any report that meets `AcSpec`, and for every delimiter set that `SyntaxConfigBuilder::build`
    accepts, the search is the leftmost-longest search -/
theorem findStartWith_eq_findLL {report : List (List Char) → List Char → List AcMatch}
    (hAc : ∀ pats rest, AcSpec pats rest (report pats rest)) {d : Delims} {pats : List (List Char)}
    (hv : validatedStartDelims d = some pats) : findStartWith report d = findLL d := by
  by_cases h : d = defaultDelims
  · subst h; rw [findStartWith, if_pos rfl]; exact findStartDefault_eq
  · funext pre rest
    simp only [findStartWith, h, if_false, hv]
    exact acLoop_eq_findLL_of_spec hv pre rest _ (hAc pats rest)

end MJ.C10

/-- … in particular the search the tokenizer uses -/
theorem MJ.Lexer.findStart_eq_findLL_of_validated {d : Delims} {pats : List (List Char)}
    (hv : validatedStartDelims d = some pats) : findStart d = findLL d :=
  MJ.C10.findStartWith_acMatches d ▸ MJ.C10.findStartWith_eq_findLL acSpec_acMatches hv
