import MJ.Proofs.SafeInv
/-! C02: the complete table of registered callables (`Gen.c02Callables`, regenerated from the sources
with the signature and body facts of each).  One lemma `<name>_preserves_inv` per callable that can
construct a `Safe` string, and the decidable row checks behind the table theorems of `MJ.C02`
(`all_safe_producers_modelled`, `non_producers_classified`, `producer_sites_attributed`,
`all_registered_names_classified`). -/
namespace MJ.Safe

theorem escape_preserves_inv : InvPreserving (escapeF .html) := escapeF_inv (by decide)
theorem upper_preserves_inv : InvPreserving (preserveF (mapChars upperC)) := preserveF_inv (reflects_mapChars upperC_reflecting)
theorem lower_preserves_inv : InvPreserving (preserveF (mapChars lowerC)) := preserveF_inv (reflects_mapChars lowerC_reflecting)
theorem capitalize_preserves_inv : InvPreserving (preserveF capitalizeStr) := preserveF_inv reflects_capitalize
theorem trim_preserves_inv : InvPreserving trimF := trimF_inv
theorem indent_preserves_inv (w : Nat) (first blank : Bool) : InvPreserving (preserveF (fun s => indentStr s w first blank)) :=
  preserveF_inv (reflects_indent _ _ _)
theorem replace_preserves_inv : InvPreserving (replaceF .html) := replaceF_inv (by decide)
theorem reverse_preserves_inv : InvPreserving reverseF := reverseF_inv
theorem join_preserves_inv : InvPreserving (joinF .html) := joinF_inv (by decide)
theorem split_preserves_inv (left : Nat) : InvPreserving (splitF left) := splitF_inv left
theorem lines_preserves_inv : InvPreserving (piecesF linesOf) := piecesF_inv subPieces_lines
theorem last_preserves_inv : InvPreserving lastF := lastF_inv
theorem format_preserves_inv : InvPreserving (formatF .html) := formatF_inv (by decide)
theorem truncate_preserves_inv (length leeway : Nat) (kw : Bool) : InvPreserving (truncateF .html length leeway kw) :=
  truncateF_inv (by decide) _ _ _
theorem random_preserves_inv (k : Nat) : InvPreserving (randomF k) := randomF_inv k
theorem lipsum_preserves_inv (html : Bool) (cps : List Nat) : InvPreserving (lipsumF html cps) := lipsumF_inv html cps
theorem str_capitalize_preserves_inv : InvPreserving (preserveF capitalizeStr) := capitalize_preserves_inv
theorem str_split_preserves_inv (left : Nat) : InvPreserving (splitF left) := splitF_inv left

/-- the model named `ln` exists, and it is part of the fragment unless the callable is classed `markup` -/
def modelRowOk (cname ln : String) : Bool :=
  match lookupBase ln .html [] with
  | some (_, ok) => ok || classOf cname == some .markup
  | Option.none => false

/-- a callable that can construct a `Safe` string has an exact model -/
def producerRowOk (c : Gen.C02Callable) : Bool :=
  !canProduceSafe c ||
    match producerModel c.kind c.name with
    | some ln => modelRowOk c.name ln
    | Option.none => false

def nonProducerClasses : List Class := [.normal, .forward, .select, .mapped, .modelled]

/-- a callable that cannot construct a `Safe` string: tests return booleans; a scalar return type
    forces class normal (or an exact model); a `Value` return type allows the forwarding classes; a
    callable that dispatches dynamically (`apply_filter`, `perform_test`, `call`) is not `normal` unless
    its return type is scalar -/
def nonProducerRowOk (c : Gen.C02Callable) : Bool :=
  canProduceSafe c ||
    (if c.kind == "test" then retScalar c.ret
     else
       (retScalar c.ret || retValue c.ret) &&
       (match classOf c.name with
        | some cl => nonProducerClasses.contains cl && (!retScalar c.ret || cl == .normal || cl == .modelled)
            && (!(c.dyn && retValue c.ret) || cl != .normal)
        | Option.none => false))

/-- every program point that marks a string lies in a primitive or in the body of a registered callable -/
def siteRowOk (s : String × String × String × Nat) : Bool :=
  corePrimitiveSites.contains (s.1, s.2.1) ||
    Gen.c02Callables.any fun c => c.file == s.1 && (c.fn == s.2.1 || c.nested.contains s.2.1)

theorem producerRows_ok : Gen.c02Callables.all producerRowOk = true := by decide +kernel

/-- The sweeps that walk the patterns of `classOf` and the names and files of the callables, evaluated in one
    run of the kernel: they meet the same strings, and the kernel computes the UTF-8 encoding of a string every
    time a run meets it first. -/
theorem tables_ok :
    (∀ n ∈ Gen.builtinFilterNames ++ Gen.contribFilterNames ++ Gen.globalFunctionNames ++ Gen.pycompatMethodNames,
      (classOf n).isSome = true) ∧
    Gen.c02Callables.all nonProducerRowOk = true ∧
    Gen.c02ProducerSiteRows.all siteRowOk = true := by decide +kernel

end MJ.Safe
