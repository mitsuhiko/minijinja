import MJ.Model.NumF
import MJ.Proofs.CmpF64Round
/-!
# `encodeRat` is IEEE-754 round-to-nearest, ties-to-even

`encodeRat p q` is the bit pattern of the double nearest to the non-negative rational `p / q` (in
units of `2^-1074`).  The doubles from `c·2^k` with `2^52 ≤ c` on are the multiples of `2^k`, below
`2^53` they are the integers; so everything rests on one function, `rne p d`
(`MJ/Proofs/CmpF64Round.lean`, shared with C07's `<int> as f64`): the integer nearest to `p / d`, the
even one of two.  `encodeRat p q` is `rne p (q·2^k)` packed with the exponent `k` that
`p / q` calls for (`encodeRat_lo`, `encodeRat_hi`), and from what `rne` guarantees follow: no double
is closer to `p / q` and a tie is resolved to the even significand (`encodeRat_nearest`), a double
is returned unchanged (`encodeRat_exact`).  The result is infinity exactly from `ovfThreshold`
(`f64::MAX + ulp/2`) on: the exponent field is full, or it is the last one and the significand carries
(`carry_iff`, `encodeRat_overflow_iff`).
-/
namespace MJ.NumF
open MJ.F64

theorem P53_eq : P53 = 2 * P52 := by decide

theorem P53_eq_pow : P53 = 2 ^ 53 := by decide

theorem scaledOfMag_small {m : Nat} (h : m ≤ P53) : scaledOfMag m = m := by
  by_cases hlt : m < P52
  · unfold scaledOfMag
    rw [Nat.div_eq_of_lt hlt, if_pos rfl, Nat.mod_eq_of_lt hlt]
  · have := scaledOfMag_em 1 (m - P52) (Nat.le_refl 1) (by rw [P53_eq] at h; omega)
    rwa [Nat.one_mul, Nat.sub_self, Nat.pow_zero, Nat.mul_one,
      show P52 + (m - P52) = m by omega] at this

/-- `|a - b|` on naturals -/
def dist (a b : Nat) : Nat := (a - b) + (b - a)

theorem rne_mul (c : Nat) {d : Nat} (hd : 0 < d) : rne (c * d) d = c := by
  unfold rne
  rw [Nat.mul_mod_left, Nat.mul_div_cancel _ hd, if_neg (by omega)]

theorem rne_spec (p : Nat) {d : Nat} (hd : 0 < d) :
    2 * dist p (rne p d * d) ≤ d ∧ (2 * dist p (rne p d * d) = d → rne p d % 2 = 0) := by
  have hp : p / d * d + p % d = p := by rw [Nat.mul_comm]; exact Nat.div_add_mod p d
  have hrem : p % d < d := Nat.mod_lt _ hd
  unfold rne dist
  generalize p / d = s at *
  generalize p % d = r at *
  split
  · rw [Nat.add_mul, Nat.one_mul]
    generalize s * d = A at *
    omega
  · generalize s * d = A at *
    omega

theorem rne_nearest (p : Nat) {d : Nat} (hd : 0 < d) (j : Nat) :
    dist p (rne p d * d) ≤ dist p (j * d) ∧
    (dist p (rne p d * d) = dist p (j * d) → j ≠ rne p d → rne p d % 2 = 0) := by
  obtain ⟨h2, htie⟩ := rne_spec p hd
  generalize rne p d = c at *
  by_cases hjc : j = c
  · subst hjc
    exact ⟨Nat.le_refl _, fun _ h => absurd rfl h⟩
  · have hne : j * d + d ≤ c * d ∨ c * d + d ≤ j * d := by
      rcases Nat.lt_or_gt_of_ne hjc with h | h
      · exact Or.inl (by rw [← Nat.succ_mul]; exact Nat.mul_le_mul_right _ h)
      · exact Or.inr (by rw [← Nat.succ_mul]; exact Nat.mul_le_mul_right _ h)
    have : dist p (c * d) ≤ dist p (j * d) ∧ (dist p (c * d) = dist p (j * d) → 2 * dist p (c * d) = d) := by
      unfold dist at *
      generalize c * d = C at *
      generalize j * d = J at *
      omega
    exact ⟨this.1, fun he _ => htie (this.2 he)⟩

theorem rne_tie {p d : Nat} (h : 2 * (p % d) = d) : rne p d % 2 = 0 := by
  unfold rne; split <;> omega

/-- where `rne` passes an odd integer `c`: at the half-way point `(c + 1/2)·d` itself, since the tie
    goes to the even side -/
theorem succ_le_rne_iff {p d c : Nat} (hd : 0 < d) (hc : c % 2 = 1) :
    c + 1 ≤ rne p d ↔ (2 * c + 1) * d ≤ 2 * p := by
  have hp : p / d * d + p % d = p := by rw [Nat.mul_comm]; exact Nat.div_add_mod p d
  have hrem : p % d < d := Nat.mod_lt _ hd
  rw [Nat.add_mul, Nat.mul_assoc, Nat.one_mul]
  unfold rne
  rcases Nat.lt_trichotomy (p / d) c with h | h | h
  · have := Nat.mul_le_mul_right d (Nat.succ_le_of_lt h)
    rw [Nat.succ_mul] at this
    generalize p / d * d = A at *
    generalize c * d = C at *
    split <;> omega
  · subst h
    generalize p / d * d = A at *
    split <;> omega
  · have := Nat.mul_le_mul_right d (Nat.succ_le_of_lt h)
    rw [Nat.succ_mul] at this
    generalize p / d * d = A at *
    generalize c * d = C at *
    split <;> omega

/-- bits of the double with significand `c` (53 bits, `2^52 ≤ c ≤ 2^53`) at grid step `2^k`
    (`k ≥ 1`), saturating to infinity -/
def pack (k c : Nat) : Nat :=
  if infMag ≤ (k + 1) * P52 + (c - P52) then infMag else (k + 1) * P52 + (c - P52)

theorem pack_le (k c : Nat) : pack k c ≤ infMag := by
  unfold pack; split <;> omega

theorem pack_of_lt {k c : Nat} (h : pack k c < infMag) : pack k c = (k + 1) * P52 + (c - P52) := by
  unfold pack at *
  split at h
  · exact absurd h (Nat.lt_irrefl _)
  · rename_i hn; rw [if_neg hn]

theorem scaledOfMag_pack {k c : Nat} (h : pack k c < infMag) (h1 : P52 ≤ c) (h2 : c ≤ 2 * P52) :
    scaledOfMag (pack k c) = c * 2 ^ k := by
  rw [pack_of_lt h, scaledOfMag_em (k + 1) (c - P52) (by omega) (by omega), Nat.add_sub_cancel,
    show P52 + (c - P52) = c by omega]

theorem pack_parity {k c : Nat} (h : pack k c < infMag) (h1 : P52 ≤ c) : pack k c % 2 = c % 2 := by
  rw [pack_of_lt h]
  unfold P52 at *
  omega

theorem encodeRat_lo {p q : Nat} (hs : p / q < P53) : encodeRat p q = rne p q := by
  unfold encodeRat rne
  simp only [hs, if_true]

/-- the two ways of saying "the part of `p / (q·2^k)` cut off is more than a half, or exactly a half
    and the quotient is odd": on `p / q` and `p % q` (as `encodeRat` computes it), and on `p` itself -/
theorem roundUp_iff {q rem r2 half qq : Nat} (hrem : rem < q) :
    (half < r2 ∨ (r2 = half ∧ (rem ≠ 0 ∨ qq % 2 = 1))) ↔
      (q * (2 * half) < 2 * (rem + q * r2) ∨ (2 * (rem + q * r2) = q * (2 * half) ∧ qq % 2 = 1)) := by
  rw [Nat.mul_left_comm]
  rcases Nat.lt_trichotomy r2 half with h | h | h
  · have := Nat.mul_le_mul_left q (Nat.succ_le_of_lt h)
    rw [Nat.mul_succ] at this
    generalize q * half = A at *
    generalize q * r2 = B at *
    omega
  · subst h
    generalize q * r2 = B at *
    omega
  · have := Nat.mul_le_mul_left q (Nat.succ_le_of_lt h)
    rw [Nat.mul_succ] at this
    generalize q * half = A at *
    generalize q * r2 = B at *
    omega

/-- from `2^53` on the grid step is `2^k`, `k = ⌊log2 (p / q)⌋ - 52 ≥ 1`: the significand is
    `p / (q·2^k)` rounded -/
theorem encodeRat_hi {p q : Nat} (hq : 0 < q) (hs : ¬ p / q < P53) :
    encodeRat p q = pack ((p / q).log2 - 52) (rne p (q * 2 ^ ((p / q).log2 - 52))) ∧
    1 ≤ (p / q).log2 - 52 := by
  have hs0 : p / q ≠ 0 := by unfold P53 at hs; omega
  have hl : 53 ≤ (p / q).log2 := (Nat.le_log2 hs0).2 (by rw [← P53_eq_pow]; omega)
  refine ⟨?_, by omega⟩
  have hpow : 2 ^ ((p / q).log2 - 52) = 2 * 2 ^ ((p / q).log2 - 52 - 1) := by
    rw [← Nat.pow_succ']; congr 1; omega
  unfold encodeRat pack rne
  simp only [hs, if_false]
  rw [← Nat.div_div_eq_div_mul, Nat.mod_mul, hpow]
  simp only [roundUp_iff (Nat.mod_lt p hq)]

theorem sig_bounds {p q : Nat} (hs : ¬ p / q < P53) :
    P52 ≤ p / (q * 2 ^ ((p / q).log2 - 52)) ∧
    P52 ≤ rne p (q * 2 ^ ((p / q).log2 - 52)) ∧ rne p (q * 2 ^ ((p / q).log2 - 52)) ≤ 2 * P52 := by
  have hs0 : p / q ≠ 0 := by unfold P53 at hs; omega
  have hl : 53 ≤ (p / q).log2 := (Nat.le_log2 hs0).2 (by rw [← P53_eq_pow]; omega)
  obtain ⟨hq1, hq2⟩ := q_bounds (by omega) (Nat.log2_self_le hs0) Nat.lt_log2_self
  rw [Nat.div_div_eq_div_mul] at hq1 hq2
  exact ⟨hq1, Nat.le_trans hq1 (le_rne _ _), Nat.le_trans (rne_le_succ _ _) hq2⟩

/-- what `encodeRat` returns, when finite: the double `c · 2^k` where `c` is `p / (q·2^k)` rounded;
    `k = 0` on the integer grid, otherwise `c ≥ 2^52`, so the value is in the range where every
    double is a multiple of `2^k` -/
theorem encodeRat_spec (p q : Nat) (hq : 0 < q) (hfin : encodeRat p q < infMag) :
    ∃ k, scaledOfMag (encodeRat p q) = rne p (q * 2 ^ k) * 2 ^ k ∧
      encodeRat p q % 2 = rne p (q * 2 ^ k) % 2 ∧
      (k = 0 ∨ (P52 ≤ rne p (q * 2 ^ k) ∧ P52 * (q * 2 ^ k) ≤ p)) := by
  by_cases hs : p / q < P53
  · refine ⟨0, ?_, ?_, Or.inl rfl⟩ <;> rw [Nat.pow_zero, Nat.mul_one, encodeRat_lo hs]
    rw [Nat.mul_one]
    exact scaledOfMag_small (Nat.le_trans (rne_le_succ p q) hs)
  · obtain ⟨hq1, hc1, hc2⟩ := sig_bounds hs
    rw [(encodeRat_hi hq hs).1] at hfin ⊢
    generalize (p / q).log2 - 52 = k at *
    exact ⟨k, scaledOfMag_pack hfin hc1 hc2, pack_parity hfin hc1, Or.inr ⟨hc1,
      (Nat.le_div_iff_mul_le (Nat.mul_pos hq (Nat.pow_pos (by omega)))).1 hq1⟩⟩

/-- **round to nearest**: no double (no bit pattern at all, the continuation through the
    infinities included) is closer to `p / q` than the one `encodeRat` returns; and a double at the
    same distance means a tie, which is resolved to the even significand -/
theorem encodeRat_nearest (p q : Nat) (hq : 0 < q) (hfin : encodeRat p q < infMag) (m : Nat) :
    dist p (scaledOfMag (encodeRat p q) * q) ≤ dist p (scaledOfMag m * q) ∧
    (dist p (scaledOfMag (encodeRat p q) * q) = dist p (scaledOfMag m * q) →
      scaledOfMag m ≠ scaledOfMag (encodeRat p q) → encodeRat p q % 2 = 0) := by
  obtain ⟨k, hS, hpar, hlow⟩ := encodeRat_spec p q hq hfin
  have hD : 0 < q * 2 ^ k := Nat.mul_pos hq (Nat.pow_pos (by omega))
  have hgrid : ∀ j : Nat, j * 2 ^ k * q = j * (q * 2 ^ k) := fun j => by
    rw [Nat.mul_assoc, Nat.mul_comm (2 ^ k)]
  rw [hS, hpar, hgrid]
  -- a competitor on the grid of step `2^k`: `rne` is nearest among the multiples of `q·2^k`
  have ongrid : ∀ j : Nat, scaledOfMag m = j * 2 ^ k →
      dist p (rne p (q * 2 ^ k) * (q * 2 ^ k)) ≤ dist p (scaledOfMag m * q) ∧
      (dist p (rne p (q * 2 ^ k) * (q * 2 ^ k)) = dist p (scaledOfMag m * q) →
        scaledOfMag m ≠ rne p (q * 2 ^ k) * 2 ^ k → rne p (q * 2 ^ k) % 2 = 0) := by
    intro j hj
    rw [hj, hgrid]
    obtain ⟨l1, l2⟩ := rne_nearest p hD j
    exact ⟨l1, fun he hne => l2 he (fun h => hne (by rw [h]))⟩
  rcases hlow with hk0 | ⟨hc52, hLp⟩
  · subst hk0
    exact ongrid (scaledOfMag m) (by rw [Nat.pow_zero, Nat.mul_one])
  · by_cases hbig : 2 ^ (k + 52) ≤ scaledOfMag m
    · obtain ⟨j, hj⟩ := scaledOfMag_multiple (k + 52) m (by omega) hbig
      rw [Nat.add_sub_cancel] at hj
      exact ongrid j hj
    · -- a competitor below `2^(52+k)` is farther from `p / q` than the grid point `2^52 · 2^k`,
      -- which lies between the two
      have hU : scaledOfMag m * q < P52 * (q * 2 ^ k) := by
        rw [← hgrid]
        refine Nat.mul_lt_mul_of_pos_right ?_ hq
        rw [P52_eq, ← Nat.pow_add, Nat.add_comm]; omega
      have hstrict : dist p (rne p (q * 2 ^ k) * (q * 2 ^ k)) < dist p (scaledOfMag m * q) := by
        refine Nat.lt_of_le_of_lt (rne_nearest p hD P52).1 ?_
        unfold dist
        omega
      exact ⟨Nat.le_of_lt hstrict, fun he => absurd he (Nat.ne_of_lt hstrict)⟩

theorem encodeRat_le_infMag (p q : Nat) : encodeRat p q ≤ infMag := by
  by_cases hs : p / q < P53
  · rw [encodeRat_lo hs]
    have := rne_le_succ p q
    have : P53 < infMag := by decide
    omega
  · by_cases hq : 0 < q
    · rw [(encodeRat_hi hq hs).1]; exact pack_le _ _
    · exfalso
      have : q = 0 := by omega
      subst this
      rw [Nat.div_zero] at hs
      exact hs (by decide)

theorem encodeRat_exact (m : Nat) (hm : m < infMag) : encodeRat (scaledOfMag m) 1 = m := by
  by_cases hlo : m < P53
  · rw [scaledOfMag_small (Nat.le_of_lt hlo), encodeRat_lo (by rwa [Nat.div_one]), rne, Nat.mod_one,
      Nat.div_one, if_neg (by omega)]
  · -- `m = e·2^52 + f` with `e ≥ 2` decodes to `(2^52 + f)·2^(e-1)`, whose exponent is `51 + e`
    have hf : m % P52 < P52 := Nat.mod_lt _ P52_pos
    have hsplit : m = m / P52 * P52 + m % P52 := by rw [Nat.mul_comm]; exact (Nat.div_add_mod m P52).symm
    have he : 2 ≤ m / P52 := by
      rw [Nat.le_div_iff_mul_le P52_pos, ← P53_eq]; omega
    generalize m / P52 = e at *
    generalize m % P52 = f at *
    subst hsplit
    have hpos : 0 < 2 ^ (e - 1) := Nat.pow_pos (by omega)
    have hS := scaledOfMag_em e f (by omega) (Nat.le_of_lt hf)
    have hlog : ((P52 + f) * 2 ^ (e - 1)).log2 = 51 + e := by
      rw [Nat.log2_eq_iff (Nat.ne_of_gt (Nat.mul_pos (by omega) hpos))]
      constructor
      · rw [show 51 + e = 52 + (e - 1) by omega, Nat.pow_add, ← P52_eq]
        exact Nat.mul_le_mul_right _ (by omega)
      · rw [show 51 + e + 1 = 53 + (e - 1) by omega, Nat.pow_add, ← P53_eq_pow, P53_eq]
        exact Nat.mul_lt_mul_of_pos_right (by omega) hpos
    have hhi : ¬ (P52 + f) * 2 ^ (e - 1) / 1 < P53 := by
      rw [Nat.div_one, P53_eq_pow, ← Nat.log2_lt (Nat.ne_of_gt (Nat.mul_pos (by omega) hpos)), hlog]
      omega
    rw [hS, (encodeRat_hi Nat.one_pos hhi).1, Nat.div_one, hlog, Nat.one_mul,
      show 51 + e - 52 = e - 1 by omega, rne_mul _ hpos]
    unfold pack
    rw [show (e - 1 + 1) * P52 + (P52 + f - P52) = e * P52 + f by
      rw [show e - 1 + 1 = e by omega]; omega, if_neg (by omega)]

theorem encodeRat_mul (x q : Nat) (hq : 0 < q) : encodeRat (x * q) q = encodeRat x 1 := by
  unfold encodeRat
  simp only [Nat.mul_div_cancel _ hq, Nat.mul_mod_left, Nat.div_one, Nat.mod_one, Nat.mul_zero]
  have e1 : (q < 0 ∨ 0 = q ∧ x % 2 = 1) ↔ (1 < 0 ∨ 0 = 1 ∧ x % 2 = 1) := by omega
  simp only [e1]

/-- the overflow threshold of binary64 in units of `2^-1074`: `f64::MAX` plus half an ulp,
    `(2^54 - 1) · 2^2044 = 2^1024 - 2^970` scaled; a tie there goes to the even side, infinity -/
def ovfThreshold : Nat := (2 ^ 54 - 1) * 2 ^ 2044

theorem ovfThreshold_pos : 0 < ovfThreshold := by
  have h := Nat.two_pow_pos 2044
  unfold ovfThreshold
  generalize 2 ^ 2044 = H at *
  exact Nat.mul_pos (by decide) h

/-- for `p / q ≥ 1`: the exponent of `p / q` is at least `54 + n`, or it is `53 + n` and the rounded
    significand carries into the next exponent, exactly from `(2^54 - 1)·2^n` on, the half-way
    point below `2^(54+n)`: `2^53 - 1` is odd, so that tie goes up -/
theorem carry_iff (n : Nat) {p q : Nat} (hq : 0 < q) (hs0 : p / q ≠ 0) :
    (54 + n ≤ (p / q).log2 ∨
      ((p / q).log2 = 53 + n ∧ 2 * P52 ≤ rne p (q * 2 ^ ((p / q).log2 - 52)))) ↔
      (4 * P52 - 1) * 2 ^ n ≤ p / q := by
  have hcarry : 2 * P52 ≤ rne p (q * 2 ^ (n + 1)) ↔ (4 * P52 - 1) * 2 ^ n ≤ p / q := by
    rw [show 2 * P52 = (2 * P52 - 1) + 1 by decide,
      succ_le_rne_iff (Nat.mul_pos hq (Nat.pow_pos (by omega))) (by decide),
      Nat.le_div_iff_mul_le hq, Nat.pow_succ', Nat.mul_left_comm q, Nat.mul_assoc _ _ q, Nat.mul_comm _ q]
    generalize q * 2 ^ n = W
    unfold P52
    omega
  have hl54 := Nat.le_log2 (k := 54 + n) hs0
  have hl53 := Nat.le_log2 (k := 53 + n) hs0
  rw [Nat.pow_add, show (2 : Nat) ^ 54 = 4 * P52 by decide] at hl54
  rw [Nat.pow_add, show (2 : Nat) ^ 53 = 2 * P52 by decide] at hl53
  have : (4 * P52 - 1) * 2 ^ n ≤ 4 * P52 * 2 ^ n := Nat.mul_le_mul_right _ (by omega)
  have : 2 * P52 * 2 ^ n ≤ (4 * P52 - 1) * 2 ^ n := Nat.mul_le_mul_right _ (by decide)
  by_cases h : (p / q).log2 = 53 + n
  · rw [h, show 53 + n - 52 = n + 1 by omega, hcarry]; omega
  · omega

/-- **overflow, both ways**: the rounding saturates to infinity exactly when the value is at least
    `f64::MAX` plus half an ulp (where the tie goes to the even neighbour, `2^1024`) -/
theorem encodeRat_overflow_iff (p q : Nat) (hq : 0 < q) :
    encodeRat p q = infMag ↔ ovfThreshold * q ≤ p := by
  have hT : ovfThreshold = (4 * P52 - 1) * 2 ^ 2044 := by
    unfold ovfThreshold; rw [show (2 : Nat) ^ 54 - 1 = 4 * P52 - 1 by decide]
  rw [hT, ← Nat.le_div_iff_mul_le hq]
  by_cases hs : p / q < P53
  · rw [encodeRat_lo hs]
    have := rne_le_succ p q
    have : P53 < infMag := by decide
    have := two_pow_le (show 53 ≤ 2044 by decide)
    rw [← P53_eq_pow] at this
    generalize 2 ^ 2044 = H at *
    have : 1 * H ≤ (4 * P52 - 1) * H := Nat.mul_le_mul_right _ (by decide)
    omega
  · obtain ⟨he, hk⟩ := encodeRat_hi hq hs
    have hs0 : p / q ≠ 0 := by unfold P53 at hs; omega
    obtain ⟨_, hc1, hc2⟩ := sig_bounds hs
    -- saturation: the exponent field is full, or it is the last one and the significand carries
    rw [← carry_iff 2044 hq hs0, he]
    unfold pack infMag
    unfold P52 at *
    split <;> omega

theorem encodeRat_finite_iff (p q : Nat) (hq : 0 < q) : encodeRat p q < infMag ↔ p < ovfThreshold * q := by
  have h1 := encodeRat_overflow_iff p q hq
  have h2 := encodeRat_le_infMag p q
  omega

end MJ.NumF
