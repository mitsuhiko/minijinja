import MJ.Proofs.CompileRel
/-!
# Statements without back-patching (C03 stage 3)

`relStmt` / `relBlock`: the code of a statement of the fragment with resolved jump targets;
`cStmt_eq_core`: the back-patching generator of `MJ.Compile` produces exactly this code.
Fragment: text, emit, `set`, set-blocks, filter-blocks, `if`/`elif`/`else`, `with`,
`for … if … else` with unpacking, `break`, `continue`, macro declarations and call blocks.

`break` is the only construct whose jump is patched *across* statements (the generator records
the jump in the pending entry of the innermost loop and patches it when the loop ends), so the
code of a statement is described relative to a loop context `LoopCtx` (address of the loop's
`Iterate`, address behind the loop, scopes opened inside the loop), and the statement's
unresolved `break` jumps are returned next to the code.

`cStmt_eq_core` speaks of the code with the placeholder `Jump 0` for every `break` (`setExit 0`): after a
statement the generator has appended that code and recorded the jumps in the innermost loop
(`CG.withBreaks`; `Compat` ties what it sees of its pending blocks, `loopView`, to the loop context).
`Patched E` relates the placeholder code to the code with the address `E` behind the loop
(`relStmt_patched`: the code depends on `E` in no other way), and ending the loop patches exactly so
(`patchAll_patched`, `for_block_brk`, `for_loop_eq`).

At the end, what the simulation reads of `relStmt` / `relBlock` (`MJ.Vm.*`): `relBlock_append`, the `oof` flag through
statements (`relStmt_oof_mono`, `oof_false_of_relBlock`), and a whole template, where no placeholder is left
(`cBlock_top`, `compileTemplate_top`).
-/
namespace MJ.Compile
open MJ.Eval

def simpleBinds : List (Target × Expr) → Bool
  | [] => true
  | (_, e) :: rest => simpleExpr e && simpleBinds rest

/-- the filters of a set-block / filter-block take positional arguments only -/
def simpleFilters : List FilterApp → Bool
  | [] => true
  | (_, args) :: rest => simpleArgs args && simpleFilters rest


mutual
  /-- `coreStmt` without macro declarations and call blocks, over `simpleExpr` -/
  def simpleStmt : Bool → Stmt → Bool
    | _, .text _ => true
    | _, .emit e => simpleExpr e
    | _, .set _ e => simpleExpr e
    | inLoop, .ifS c t f => simpleExpr c && simpleBlock inLoop t && simpleBlock inLoop f
    | inLoop, .withS binds body => simpleBinds binds && simpleBlock inLoop body
    | inLoop, .forS _ iter flt body els =>
      simpleExpr iter && (match flt with | some c => simpleExpr c | none => true) && simpleBlock true body &&
        simpleBlock inLoop els
    | inLoop, .setBlock _ filters body => simpleFilters filters && simpleBlock inLoop body
    | inLoop, .filterBlock filters body => simpleFilters filters && simpleBlock inLoop body
    | inLoop, .breakS => inLoop
    | inLoop, .continueS => inLoop
    | _, _ => false
  def simpleBlock : Bool → List Stmt → Bool
    | _, [] => true
    | inLoop, s :: rest => simpleStmt inLoop s && simpleBlock inLoop rest
end

def coreBinds : List (Target × Expr) → Bool
  | [] => true
  | (_, e) :: rest => coreExpr e && coreBinds rest

def coreFilters : List FilterApp → Bool
  | [] => true
  | (_, args) :: rest => coreArgs args && coreFilters rest

def coreDefaults : List Expr → Bool
  | [] => true
  | d :: rest => coreExpr d && coreDefaults rest

mutual
  /-- the statement fragment of the refinement theorem (the forms at the head of the file, over `coreExpr`);
  the flag says whether the statement stands inside a loop: `break` / `continue` only there, and the
  bodies of macro declarations and call blocks are outside every loop -/
  def coreStmt : Bool → Stmt → Bool
    | _, .text _ => true
    | _, .emit e => coreExpr e
    | _, .set _ e => coreExpr e
    | inLoop, .ifS c t f => coreExpr c && coreBlock inLoop t && coreBlock inLoop f
    | inLoop, .withS binds body => coreBinds binds && coreBlock inLoop body
    | inLoop, .forS _ iter flt body els =>
      coreExpr iter && (match flt with | some c => coreExpr c | none => true) && coreBlock true body &&
        coreBlock inLoop els
    | inLoop, .setBlock _ filters body => coreFilters filters && coreBlock inLoop body
    | inLoop, .filterBlock filters body => coreFilters filters && coreBlock inLoop body
    | _, .macroS _ _ defaults body _ => coreDefaults defaults && coreBlock false body
    | _, .callBlock (.var _) args _ defaults body _ => coreCallArgs args && coreDefaults defaults && coreBlock false body
    | _, .callBlock _ _ _ _ _ _ => false
    | inLoop, .breakS => inLoop
    | inLoop, .continueS => inLoop
  def coreBlock : Bool → List Stmt → Bool
    | _, [] => true
    | inLoop, s :: rest => coreStmt inLoop s && coreBlock inLoop rest
end

/-- the prologue of a macro (`compile_macro_expression`): the arguments are on the operand stack,
last one on top; `pds` is the list of parameters with their defaults, *last parameter first* -/
def relPrologue : List (String × Option Expr) → Nat → Aux → List Instr × Aux
  | [], _, a => ([], a)
  | (p, none) :: rest, base, a =>
    let rr := relPrologue rest (base + 1) a
    ([.storeLocal p] ++ rr.1, rr.2)
  | (p, some d) :: rest, base, a =>
    let rd := relExpr d (base + 4) a
    let rr := relPrologue rest (base + 4 + rd.1.length + 1) rd.2
    ([.dupTop, .isUndefined, .jumpIfFalse (base + 4 + rd.1.length), .discardTop] ++ rd.1 ++ [.storeLocal p] ++ rr.1, rr.2)

/-- `MACRO_CALLER` iff the macro looks up `caller` -/
def macroFlags (fv : List String) : Nat := if fv.contains "caller" then macroCallerFlag else 0

/-- the `Enclose` instructions of a macro declaration (all free names but `caller`) -/
def relEnclose (fv : List String) : List Instr := (sortNames (fv.filter (· != "caller"))).map Instr.enclose

/-- the code of a macro declaration expression that starts at `j`: the jump over the macro, its
prologue `rp` and body `rb`, `Return`, and the instructions that build the macro value -/
def macroDeclCode (name : String) (params : List String) (fv : List String) (j : Nat) (rp rb : List Instr) :
    List Instr :=
  [.jump (j + 1 + rp.length + rb.length + 1)] ++ rp ++ rb ++ [.return_] ++ relEnclose fv ++
    [.getClosure, .loadConst (.list (params.map Val.str)), .buildMacro name (j + 1) (macroFlags fv)]

mutual
  /-- `compile_assignment` without generator state -/
  def relTarget : Target → List Instr
    | .var x => [.storeLocal x]
    | .tuple ts => .unpackList ts.length :: relTargets ts
  def relTargets : List Target → List Instr
    | [] => []
    | t :: ts => relTarget t ++ relTargets ts
end

def relBinds : List (Target × Expr) → Nat → Aux → List Instr × Aux
  | [], _, a => ([], a)
  | (t, e) :: rest, base, a =>
    let re := relExpr e base a
    let rr := relBinds rest (base + re.1.length + (relTarget t).length) re.2
    (re.1 ++ relTarget t ++ rr.1, rr.2)

def relFilters : List FilterApp → Nat → Aux → List Instr × Aux
  | [], _, a => ([], a)
  | (name, args) :: rest, base, a =>
    let ra := relArgs args base a
    let rr := relFilters rest (base + ra.1.length + 1) (ra.2.filterId name).2
    (ra.1 ++ [.applyFilter name (1 + args.length) (ra.2.filterId name).1] ++ rr.1, rr.2)

/-- the code in front of `PushLoop 1` of a `for`: the iterable, or — with a loop filter — the
first loop that collects the items which pass the filter into a list -/
def relForIter (t : Target) (iter : Expr) (flt : Option Expr) (base : Nat) (a : Aux) : List Instr × Aux :=
  match flt with
  | none => relExpr iter base a
  | some c =>
    let ri := relExpr iter (base + 1) a
    let it1 := base + 1 + ri.1.length + 1
    let rc := relExpr c (base + 1 + ri.1.length + 3 + (relTarget t).length) ri.2
    let p := base + 1 + ri.1.length + 3 + (relTarget t).length + rc.1.length
    ([.loadConst (.int 0)] ++ ri.1 ++ [.pushLoop 0, .iterate (p + 7), .dupTop] ++ relTarget t ++ rc.1 ++
      [.jumpIfFalse (p + 5), .swap, .loadConst (.int 1), .add, .jump (p + 6), .discardTop, .jump it1,
       .popLoopFrame, .buildList none], rc.2)


/-- the innermost enclosing loop of a statement -/
structure LoopCtx where
  /-- address of the loop's `Iterate` (target of `continue`) -/
  iter : Nat
  /-- address behind the loop's back jump (target of `break`) -/
  exit : Nat
  /-- the `with` / capture scopes opened inside the loop, innermost first -/
  scopes : List ScopeKind

def pushScope (k : ScopeKind) : Option LoopCtx → Option LoopCtx
  | none => none
  | some l => some { l with scopes := k :: l.scopes }

def setExit (E : Nat) : Option LoopCtx → Option LoopCtx
  | none => none
  | some l => some { l with exit := E }

theorem setExit_some (E : Nat) (l : LoopCtx) : setExit E (some l) = some ⟨l.iter, E, l.scopes⟩ := rfl
@[simp] theorem pushScope_setExit (k : ScopeKind) (E : Nat) (lc : Option LoopCtx) :
    pushScope k (setExit E lc) = setExit E (pushScope k lc) := by cases lc <;> rfl
@[simp] theorem setExit_setExit (E E' : Nat) (lc : Option LoopCtx) : setExit E (setExit E' lc) = setExit E lc := by
  cases lc <;> rfl
@[simp] theorem isSome_setExit (E : Nat) (lc : Option LoopCtx) : (setExit E lc).isSome = lc.isSome := by
  cases lc <;> rfl
@[simp] theorem isSome_pushScope (k : ScopeKind) (lc : Option LoopCtx) : (pushScope k lc).isSome = lc.isSome := by
  cases lc <;> rfl

/-- `leave_scopes`: what `break` / `continue` emit for the scopes they jump out of -/
def leaveCode : List ScopeKind → List Instr
  | [] => []
  | .with_ :: rest => .popFrame :: leaveCode rest
  | .capture :: rest => .endCapture :: .discardTop :: leaveCode rest

mutual
  /-- code and generator state of a statement, and the addresses of its `break` jumps -/
  def relStmt : Stmt → Nat → Aux → Option LoopCtx → (List Instr × Aux) × List Nat
    | .text t, _, a, _ => (([.emitRaw t], a), [])
    | .emit e, base, a, _ => (((relExpr e base a).1 ++ [.emit], (relExpr e base a).2), [])
    | .set t e, base, a, _ => (((relExpr e base a).1 ++ relTarget t, (relExpr e base a).2), [])
    | .ifS c t [], base, a, lc =>
      let rc := relExpr c base a
      let rt := relBlock t (base + rc.1.length + 1) rc.2 lc
      ((rc.1 ++ [.jumpIfFalse (base + rc.1.length + 1 + rt.1.1.length)] ++ rt.1.1, rt.1.2), rt.2)
    | .ifS c t (f :: fs), base, a, lc =>
      let rc := relExpr c base a
      let rt := relBlock t (base + rc.1.length + 1) rc.2 lc
      let fb := base + rc.1.length + 1 + rt.1.1.length + 1
      let rf := relBlock (f :: fs) fb rt.1.2 lc
      ((rc.1 ++ [.jumpIfFalse fb] ++ rt.1.1 ++ [.jump (fb + rf.1.1.length)] ++ rf.1.1, rf.1.2), rt.2 ++ rf.2)
    | .withS binds body, base, a, lc =>
      let rb := relBinds binds (base + 1) a
      let rr := relBlock body (base + 1 + rb.1.length) rb.2 (pushScope .with_ lc)
      (([.pushWith] ++ rb.1 ++ rr.1.1 ++ [.popFrame], rr.1.2), rr.2)
    | .forS t iter flt body [], base, a, _ =>
      let ri := relForIter t iter flt base a
      let bb := base + ri.1.length + 2 + (relTarget t).length
      -- the length of the body does not depend on the address behind the loop
      let len := (relBlock body bb ri.2 (some ⟨base + ri.1.length + 1, 0, []⟩)).1.1.length
      let rb := relBlock body bb ri.2 (some ⟨base + ri.1.length + 1, bb + len + 1, []⟩)
      ((ri.1 ++ [.pushLoop 1, .iterate (bb + len + 1)] ++ relTarget t ++ rb.1.1 ++
        [.jump (base + ri.1.length + 1), .popLoopFrame], rb.1.2), [])
    | .forS t iter flt body (e0 :: es), base, a, lc =>
      let ri := relForIter t iter flt base a
      let bb := base + ri.1.length + 2 + (relTarget t).length
      let len := (relBlock body bb ri.2 (some ⟨base + ri.1.length + 1, 0, []⟩)).1.1.length
      let rb := relBlock body bb ri.2 (some ⟨base + ri.1.length + 1, bb + len + 1, []⟩)
      let eb := bb + len + 4
      let re := relBlock (e0 :: es) eb rb.1.2 lc
      ((ri.1 ++ [.pushLoop 1, .iterate (bb + len + 1)] ++ relTarget t ++ rb.1.1 ++
        [.jump (base + ri.1.length + 1), .pushDidNotIterate, .popLoopFrame, .jumpIfFalse (eb + re.1.1.length)] ++ re.1.1,
        re.1.2), re.2)
    | .setBlock x filters body, base, a, lc =>
      let rb := relBlock body (base + 1) a (pushScope .capture lc)
      let rf := relFilters filters (base + 1 + rb.1.1.length + 1) rb.1.2
      (([.beginCapture] ++ rb.1.1 ++ [.endCapture] ++ rf.1 ++ [.storeLocal x], rf.2), rb.2)
    | .filterBlock filters body, base, a, lc =>
      let rb := relBlock body (base + 1) a (pushScope .capture lc)
      let rf := relFilters filters (base + 1 + rb.1.1.length + 1) rb.1.2
      (([.beginCapture] ++ rb.1.1 ++ [.endCapture] ++ rf.1 ++ [.emit], rf.2), rb.2)
    | .macroS name params defaults body _, base, a, _ =>
      -- the body of a macro is outside every loop
      let rp := relPrologue (paramDefaults params defaults).reverse (base + 1) a
      let rb := relBlock body (base + 1 + rp.1.length) rp.2 none
      ((macroDeclCode name params (findMacroClosure params defaults body) base rp.1 rb.1.1 ++ [.storeLocal name],
        rb.1.2), [])
    | .callBlock (.var x) args params defaults body _, base, a, _ =>
      let ra := relPosArgs args base a
      let rk := relKwArgs args (base + ra.1.length) ra.2
      let j := base + ra.1.length + rk.1.length + 1
      let rp := relPrologue (paramDefaults params defaults).reverse (j + 1) rk.2
      let rb := relBlock body (j + 1 + rp.1.length) rp.2 none
      ((ra.1 ++ rk.1 ++ [.loadConst (.str "caller")] ++
        macroDeclCode "caller" params (findMacroClosure params defaults body) j rp.1 rb.1.1 ++
        [.buildKwargs ((kwArgs args).length + 1), .callFunction x ((posArgs args).length + 1), .emit], rb.1.2), [])
    | .breakS, base, a, some l =>
      ((leaveCode l.scopes ++ [.jump l.exit], a), [base + (leaveCode l.scopes).length])
    | .continueS, _, a, some l => ((leaveCode l.scopes ++ [.jump l.iter], a), [])
    | _, _, a, _ => (([], a.markOof), [])
  def relBlock : List Stmt → Nat → Aux → Option LoopCtx → (List Instr × Aux) × List Nat
    | [], _, a, _ => (([], a), [])
    | s :: rest, base, a, lc =>
      let rs := relStmt s base a lc
      let rr := relBlock rest (base + rs.1.1.length) rs.1.2 lc
      ((rs.1.1 ++ rr.1.1, rr.1.2), rs.2 ++ rr.2)
end

/-- the address behind a `for` loop (the target of its `break` jumps and of its `Iterate`) -/
def forExit (t : Target) (iter : Expr) (flt : Option Expr) (body : List Stmt) (base : Nat) (a : Aux) : Nat :=
  base + (relForIter t iter flt base a).1.length + 2 + (relTarget t).length +
    (relBlock body (base + (relForIter t iter flt base a).1.length + 2 + (relTarget t).length) (relForIter t iter flt base a).2
      (some ⟨base + (relForIter t iter flt base a).1.length + 1, 0, []⟩)).1.1.length + 1

def forBody (t : Target) (iter : Expr) (flt : Option Expr) (body : List Stmt) (base : Nat) (a : Aux) :
    (List Instr × Aux) × List Nat :=
  relBlock body (base + (relForIter t iter flt base a).1.length + 2 + (relTarget t).length) (relForIter t iter flt base a).2
    (some ⟨base + (relForIter t iter flt base a).1.length + 1, forExit t iter flt body base a, []⟩)

theorem relStmt_for_nil (t : Target) (iter : Expr) (flt : Option Expr) (body : List Stmt) (base : Nat) (a : Aux)
    (lc : Option LoopCtx) :
    relStmt (.forS t iter flt body []) base a lc =
      (((relForIter t iter flt base a).1 ++ [.pushLoop 1, .iterate (forExit t iter flt body base a)] ++ relTarget t ++
        (forBody t iter flt body base a).1.1 ++ [.jump (base + (relForIter t iter flt base a).1.length + 1), .popLoopFrame],
        (forBody t iter flt body base a).1.2), []) := by
  simp only [relStmt, forBody, forExit]

theorem relStmt_for_cons (t : Target) (iter : Expr) (flt : Option Expr) (body : List Stmt) (e0 : Stmt) (es : List Stmt)
    (base : Nat) (a : Aux) (lc : Option LoopCtx) :
    relStmt (.forS t iter flt body (e0 :: es)) base a lc =
      (((relForIter t iter flt base a).1 ++ [.pushLoop 1, .iterate (forExit t iter flt body base a)] ++ relTarget t ++
        (forBody t iter flt body base a).1.1 ++ [.jump (base + (relForIter t iter flt base a).1.length + 1),
          .pushDidNotIterate, .popLoopFrame,
          .jumpIfFalse (forExit t iter flt body base a + 3 +
            (relBlock (e0 :: es) (forExit t iter flt body base a + 3) (forBody t iter flt body base a).1.2 lc).1.1.length)] ++
        (relBlock (e0 :: es) (forExit t iter flt body base a + 3) (forBody t iter flt body base a).1.2 lc).1.1,
        (relBlock (e0 :: es) (forExit t iter flt body base a + 3) (forBody t iter flt body base a).1.2 lc).1.2),
       (relBlock (e0 :: es) (forExit t iter flt body base a + 3) (forBody t iter flt body base a).1.2 lc).2) := by
  simp only [relStmt, forBody, forExit]

/-- `LE` is `L0` (placed at `b`) with the `Jump 0` at the addresses `ps` replaced by `Jump E` -/
inductive Patched (E : Nat) : Nat → List Nat → List Instr → List Instr → Prop
  | nil (b : Nat) : Patched E b [] [] []
  | same {b : Nat} {ps : List Nat} {L0 LE : List Instr} (i : Instr) :
      Patched E (b + 1) ps L0 LE → Patched E b ps (i :: L0) (i :: LE)
  | brk {b : Nat} {ps : List Nat} {L0 LE : List Instr} :
      Patched E (b + 1) ps L0 LE → Patched E b (b :: ps) (.jump 0 :: L0) (.jump E :: LE)

theorem Patched.refl (E : Nat) : ∀ (L : List Instr) (b : Nat), Patched E b [] L L
  | [], b => .nil b
  | i :: L, b => .same i (Patched.refl E L (b + 1))

theorem Patched.length_eq {E b ps L0 LE} (h : Patched E b ps L0 LE) : LE.length = L0.length := by
  induction h with
  | nil => rfl
  | same i _ ih => simp [ih]
  | brk _ ih => simp [ih]

theorem Patched.append {E b p1 A0 AE} (h : Patched E b p1 A0 AE) {p2 B0 BE}
    (h2 : Patched E (b + A0.length) p2 B0 BE) : Patched E b (p1 ++ p2) (A0 ++ B0) (AE ++ BE) := by
  induction h with
  | nil b => simpa using h2
  | same i _ ih =>
    refine .same i (ih ?_)
    simpa [Nat.add_assoc, Nat.add_comm 1] using h2
  | brk _ ih =>
    refine .brk (ih ?_)
    simpa [Nat.add_assoc, Nat.add_comm 1] using h2

theorem Patched.pre {E b ps L0 LE} (A : List Instr) (h : Patched E (b + A.length) ps L0 LE) :
    Patched E b ps (A ++ L0) (A ++ LE) := by
  simpa using (Patched.refl E A b).append h

theorem Patched.post {E b ps L0 LE} (A : List Instr) (h : Patched E b ps L0 LE) :
    Patched E b ps (L0 ++ A) (LE ++ A) := by
  simpa using h.append (Patched.refl E A _)

theorem Patched.cast2 {E E' b b' ps L0 LE} (h : Patched E b ps L0 LE) (hE : E = E') (hb : b = b') :
    Patched E' b' ps L0 LE := by
  subst hE; subst hb; exact h

theorem Patched.cast {E b b' ps L0 LE} (h : Patched E b ps L0 LE) (hb : b = b') : Patched E b' ps L0 LE :=
  h.cast2 rfl hb

mutual
/-- the code of a statement depends on the address behind the enclosing loop only in the targets
of its `break` jumps -/
theorem relStmt_patched : ∀ (st : Stmt) (base : Nat) (a : Aux) (lc : Option LoopCtx) (E : Nat),
    Patched E base (relStmt st base a (setExit 0 lc)).2 (relStmt st base a (setExit 0 lc)).1.1
        (relStmt st base a (setExit E lc)).1.1 ∧
      (relStmt st base a (setExit E lc)).1.2 = (relStmt st base a (setExit 0 lc)).1.2 ∧
      (relStmt st base a (setExit E lc)).2 = (relStmt st base a (setExit 0 lc)).2
  | .text t, base, a, lc, E => by simp [relStmt, Patched.refl]
  | .emit e, base, a, lc, E => by simp [relStmt, Patched.refl]
  | .set t e, base, a, lc, E => by simp [relStmt, Patched.refl]
  | .ifS c t [], base, a, lc, E => by
    obtain ⟨h1, h2, h3⟩ := relBlock_patched t (base + (relExpr c base a).1.length + 1) (relExpr c base a).2 lc E
    simp only [relStmt]
    rw [h2, h3, h1.length_eq]
    exact ⟨Patched.pre _ (h1.cast (by simp +arith)), rfl, rfl⟩
  | .ifS c t (f :: fs), base, a, lc, E => by
    obtain ⟨h1, h2, h3⟩ := relBlock_patched t (base + (relExpr c base a).1.length + 1) (relExpr c base a).2 lc E
    obtain ⟨k1, k2, k3⟩ := relBlock_patched (f :: fs) (base + (relExpr c base a).1.length + 1 +
      (relBlock t (base + (relExpr c base a).1.length + 1) (relExpr c base a).2 (setExit 0 lc)).1.1.length + 1)
      (relBlock t (base + (relExpr c base a).1.length + 1) (relExpr c base a).2 (setExit 0 lc)).1.2 lc E
    simp only [relStmt]
    rw [h2, h3, h1.length_eq, k2, k3, k1.length_eq]
    exact ⟨((Patched.pre _ (h1.cast (by simp +arith))).post _).append (k1.cast (by simp +arith)),
      rfl, rfl⟩
  | .withS binds body, base, a, lc, E => by
    obtain ⟨h1, h2, h3⟩ := relBlock_patched body (base + 1 + (relBinds binds (base + 1) a).1.length)
      (relBinds binds (base + 1) a).2 (pushScope .with_ lc) E
    simp only [relStmt, pushScope_setExit]
    rw [h2, h3]
    exact ⟨(Patched.pre _ (h1.cast (by simp +arith))).post _, rfl, rfl⟩
  | .forS t iter flt body [], base, a, lc, E => by simp [relStmt, Patched.refl]
  | .forS t iter flt body (e0 :: es), base, a, lc, E => by
    obtain ⟨k1, k2, k3⟩ := relBlock_patched (e0 :: es) (forExit t iter flt body base a + 3)
      (forBody t iter flt body base a).1.2 lc E
    -- the body has the same length whatever the address behind the loop
    have hl := (relBlock_patched body (base + (relForIter t iter flt base a).1.length + 2 + (relTarget t).length)
      (relForIter t iter flt base a).2 (some ⟨base + (relForIter t iter flt base a).1.length + 1, 0, []⟩)
      (forExit t iter flt body base a)).1.length_eq
    simp only [relStmt_for_cons]
    rw [k2, k3, k1.length_eq]
    refine ⟨Patched.pre _ (k1.cast ?_), rfl, rfl⟩
    simp only [setExit] at hl
    simp only [forBody, forExit, List.length_append, List.length_cons, List.length_nil] at hl ⊢
    omega
  | .setBlock _ filters body, base, a, lc, E | .filterBlock filters body, base, a, lc, E => by
    obtain ⟨h1, h2, h3⟩ := relBlock_patched body (base + 1) a (pushScope .capture lc) E
    simp only [relStmt, pushScope_setExit]
    rw [h2, h3, h1.length_eq]
    exact ⟨(((Patched.pre _ (h1.cast (by simp))).post _).post _).post _, rfl, rfl⟩
  | .breakS, base, a, none, E => by simp [relStmt, setExit, Patched.refl]
  | .breakS, base, a, some l, E => by
    simp only [relStmt, setExit]
    refine ⟨?_, trivial, trivial⟩
    exact Patched.pre (b := base) _ (.brk (.nil _))
  | .continueS, base, a, none, E => by simp [relStmt, setExit, Patched.refl]
  | .continueS, base, a, some l, E => by simp [relStmt, setExit, Patched.refl]
  | .macroS .., base, a, lc, E => by simp [relStmt, Patched.refl]
  | .callBlock f .., base, a, lc, E => by cases f <;> simp [relStmt, Patched.refl]
theorem relBlock_patched : ∀ (ss : List Stmt) (base : Nat) (a : Aux) (lc : Option LoopCtx) (E : Nat),
    Patched E base (relBlock ss base a (setExit 0 lc)).2 (relBlock ss base a (setExit 0 lc)).1.1
        (relBlock ss base a (setExit E lc)).1.1 ∧
      (relBlock ss base a (setExit E lc)).1.2 = (relBlock ss base a (setExit 0 lc)).1.2 ∧
      (relBlock ss base a (setExit E lc)).2 = (relBlock ss base a (setExit 0 lc)).2
  | [], base, a, lc, E => by simp [relBlock, Patched.refl]
  | s :: rest, base, a, lc, E => by
    obtain ⟨h1, h2, h3⟩ := relStmt_patched s base a lc E
    obtain ⟨k1, k2, k3⟩ := relBlock_patched rest (base + (relStmt s base a (setExit 0 lc)).1.1.length)
      (relStmt s base a (setExit 0 lc)).1.2 lc E
    simp only [relBlock]
    rw [h2, h3, h1.length_eq, k2, k3]
    exact ⟨h1.append k1, rfl, rfl⟩
end

theorem relBlock_exit_indep (ss : List Stmt) (base : Nat) (a : Aux) (it E : Nat) (sc : List ScopeKind) :
    (relBlock ss base a (some ⟨it, E, sc⟩)).1.1.length = (relBlock ss base a (some ⟨it, 0, sc⟩)).1.1.length ∧
    (relBlock ss base a (some ⟨it, E, sc⟩)).1.2 = (relBlock ss base a (some ⟨it, 0, sc⟩)).1.2 := by
  have h := relBlock_patched ss base a (some ⟨it, 0, sc⟩) E
  simp only [setExit] at h
  exact ⟨h.1.length_eq, h.2.1⟩

theorem forExit_eq (t : Target) (iter : Expr) (flt : Option Expr) (body : List Stmt) (base : Nat) (a : Aux) :
    forExit t iter flt body base a = base + (relForIter t iter flt base a).1.length + 2 + (relTarget t).length +
      (forBody t iter flt body base a).1.1.length + 1 := by
  simp only [forBody]
  rw [(relBlock_exit_indep _ _ _ _ _ _).1]
  rfl

def CG.addBreak (g : CG) (j : Nat) : CG := { g with pending := CG.addBreakJump j g.pending }
/-- the generator state after the `break` jumps at `ps` were recorded in the innermost loop -/
def CG.withBreaks (g : CG) (ps : List Nat) : CG := ps.foldl CG.addBreak g

@[simp] theorem CG.withBreaks_nil (g : CG) : g.withBreaks [] = g := rfl
theorem CG.withBreaks_cons (g : CG) (j : Nat) (ps : List Nat) :
    g.withBreaks (j :: ps) = (g.addBreak j).withBreaks ps := rfl
@[simp] theorem CG.withBreaks_withBreaks (g : CG) (p1 p2 : List Nat) :
    (g.withBreaks p1).withBreaks p2 = g.withBreaks (p1 ++ p2) := by
  simp [CG.withBreaks, List.foldl_append]

theorem withBreaks_comm (op : CG → CG) (h : ∀ g j, op (CG.addBreak g j) = (op g).addBreak j) :
    ∀ (ps : List Nat) (g : CG), op (g.withBreaks ps) = (op g).withBreaks ps
  | [], _ => rfl
  | j :: ps, g => by rw [CG.withBreaks_cons, withBreaks_comm op h ps, h, ← CG.withBreaks_cons]

theorem CG.withBreaks_eq (g : CG) (ps : List Nat) :
    g.withBreaks ps = { g with pending := ps.foldl (fun P j => CG.addBreakJump j P) g.pending } := by
  induction ps generalizing g with
  | nil => rfl
  | cons j ps ih => rw [CG.withBreaks_cons, ih]; rfl

@[simp] theorem CG.next_withBreaks (ps : List Nat) (g : CG) : (g.withBreaks ps).next = g.next := by
  rw [CG.withBreaks_eq]; rfl
@[simp] theorem CG.aux_withBreaks (ps : List Nat) (g : CG) : (g.withBreaks ps).aux = g.aux := by
  rw [CG.withBreaks_eq]

theorem foldl_addBreakJump_loop (it : Nat) (P : List Pending) : ∀ (ps js : List Nat),
    ps.foldl (fun P j => CG.addBreakJump j P) (.loop it js :: P) = .loop it (js ++ ps) :: P
  | [], js => by simp
  | j :: ps, js => by simp [CG.addBreakJump, foldl_addBreakJump_loop it P ps]

theorem foldl_addBreakJump_nil : ∀ (ps : List Nat), ps.foldl (fun P j => CG.addBreakJump j P) [] = []
  | [] => rfl
  | j :: ps => by simp [CG.addBreakJump, foldl_addBreakJump_nil ps]

-- the generator operations of the fragment do not look at the recorded jumps
theorem extend_withBreaks (g : CG) (r : List Instr × Aux) (ps : List Nat) :
    (g.withBreaks ps).extend r = (g.extend r).withBreaks ps :=
  withBreaks_comm (·.extend r) (fun _ _ => rfl) ps g

theorem add_withBreaks (g : CG) (i : Instr) (ps : List Nat) :
    (g.withBreaks ps).add i = (g.add i).withBreaks ps :=
  withBreaks_comm (·.add i) (fun _ _ => rfl) ps g

theorem startIf_withBreaks (g : CG) (ps : List Nat) : (g.withBreaks ps).startIf = g.startIf.withBreaks ps :=
  withBreaks_comm (·.startIf) (fun g j => by simp [CG.startIf, CG.addBreak, CG.add, CG.next, CG.addBreakJump]) ps g

theorem patch_addBreak (g : CG) (j i t : Nat) : (g.addBreak j).patch i t = (g.patch i t).addBreak j := by
  simp only [CG.patch, CG.addBreak]
  split <;> rfl

theorem endCondition_addBreak (g : CG) (j t : Nat) :
    (g.addBreak j).endCondition t = (g.endCondition t).addBreak j := by
  cases g with
  | mk code pending aux =>
    cases pending with
    | nil => simp [CG.endCondition, CG.addBreak, CG.addBreakJump, CG.markOof]
    | cons p rest =>
      cases p with
      | branch k =>
        simp only [CG.endCondition, CG.addBreak, CG.addBreakJump]
        have := patch_addBreak { code := code, pending := .branch k :: rest, aux := aux } j k t
        simp only [CG.addBreak, CG.addBreakJump] at this
        rw [this]
      | loop it js => simp [CG.endCondition, CG.addBreak, CG.addBreakJump, CG.markOof]
      | scBool js => simp [CG.endCondition, CG.addBreak, CG.addBreakJump, CG.markOof]
      | scope k => simp [CG.endCondition, CG.addBreak, CG.addBreakJump, CG.markOof]

theorem startElse_withBreaks (g : CG) (ps : List Nat) : (g.withBreaks ps).startElse = g.startElse.withBreaks ps :=
  withBreaks_comm (·.startElse) (fun g j => by
    simp only [CG.startElse]
    have h1 : (g.addBreak j).add (Instr.jump unpatched) = (g.add (Instr.jump unpatched)).addBreak j := rfl
    have h2 : (g.addBreak j).next = g.next := rfl
    rw [h1, h2, endCondition_addBreak]
    simp [CG.addBreak, CG.addBreakJump]) ps g

theorem endIf_withBreaks (g : CG) (ps : List Nat) : (g.withBreaks ps).endIf = g.endIf.withBreaks ps :=
  withBreaks_comm (·.endIf) (fun g j => by
    simp only [CG.endIf]
    have h2 : (g.addBreak j).next = g.next := rfl
    rw [h2, endCondition_addBreak]) ps g

theorem startScope_withBreaks (g : CG) (k : ScopeKind) (ps : List Nat) :
    (g.withBreaks ps).startScope k = (g.startScope k).withBreaks ps :=
  withBreaks_comm (·.startScope k) (fun g j => by simp [CG.startScope, CG.addBreak, CG.addBreakJump]) ps g

theorem endScope_withBreaks (g : CG) (ps : List Nat) : (g.withBreaks ps).endScope = g.endScope.withBreaks ps :=
  withBreaks_comm (·.endScope) (fun g j => by
    cases g with
    | mk code pending aux =>
      cases pending with
      | nil => simp [CG.endScope, CG.addBreak, CG.addBreakJump, CG.markOof]
      | cons p rest => cases p <;> simp [CG.endScope, CG.addBreak, CG.addBreakJump, CG.markOof]) ps g

theorem patchAll_patched {E b ps L0 LE} (h : Patched E b ps L0 LE) : ∀ (g : CG) (pre post : List Instr),
    b = pre.length → g.code = pre ++ L0 ++ post → g.patchAll ps E = { g with code := pre ++ LE ++ post } := by
  induction h with
  | nil b =>
    intro g pre post _ hc
    cases g; simp at hc; simp [CG.patchAll, hc]
  | same i _ ih =>
    intro g pre post hb hc
    have := ih g (pre ++ [i]) post (by simp [hb]) (by simp [hc])
    simpa using this
  | @brk b ps L0 LE _ ih =>
    intro g pre post hb hc
    have h1 : g.patch b E = { g with code := pre ++ Instr.jump E :: (L0 ++ post) } :=
      patch_mid .jump g pre (L0 ++ post) b 0 E (by simp [hc]) hb
    have : g.patchAll (b :: ps) E = (g.patch b E).patchAll ps E := rfl
    rw [this, h1]
    have := ih { g with code := pre ++ Instr.jump E :: (L0 ++ post) } (pre ++ [Instr.jump E]) post (by simp [hb]) (by simp)
    simpa using this

theorem patchAll_append (g : CG) (p1 p2 : List Nat) (t : Nat) :
    g.patchAll (p1 ++ p2) t = (g.patchAll p1 t).patchAll p2 t := by
  simp [CG.patchAll, List.foldl_append]

theorem startForLoop_extend (g : CG) (C : List Instr × Aux) (v : Bool) :
    (g.extend C).startForLoop v =
      { code := g.code ++ C.1 ++ [.pushLoop (if v then 1 else 0), .iterate unpatched],
        pending := .loop (g.next + C.1.length + 1) [] :: g.pending, aux := C.2 } := by
  simp [CG.startForLoop, CG.extend, CG.add, CG.next, Nat.add_assoc]

/-- ending a loop appends the back jump and the clean-up, and resolves the recorded `break` jumps and
the loop's `Iterate` to the address behind the back jump -/
theorem endForLoop_loop (g : CG) (it : Nat) (js : List Nat) (P : List Pending) (d : Bool)
    (h : g.pending = .loop it js :: P) :
    g.endForLoop d =
      { (g.extend (Instr.jump it :: (if d then [Instr.pushDidNotIterate] else []) ++ [Instr.popLoopFrame], g.aux)).patchAll
          (js ++ [it]) (g.next + 1) with pending := P } := by
  cases d <;> simp [CG.endForLoop, h, CG.extend, CG.add, CG.next]

/-- a `for` loop around the code chunks `Ci` (iterable) and `Cb0` (target + body), where `Cb0` holds
the `break` jumps `ps`: ending the loop patches them -/
theorem for_block_brk (g : CG) (Ci Cb0 : List Instr × Aux) (ps : List Nat) (CbE : List Instr) (v d : Bool)
    (hp : Patched (g.next + Ci.1.length + 2 + Cb0.1.length + 1) (g.next + Ci.1.length + 2) ps Cb0.1 CbE) :
    ((((g.extend Ci).startForLoop v).extend Cb0).withBreaks ps).endForLoop d =
      g.extend (Ci.1 ++ [Instr.pushLoop (if v then 1 else 0),
          Instr.iterate (g.next + Ci.1.length + 2 + Cb0.1.length + 1)] ++ CbE ++
        (Instr.jump (g.next + Ci.1.length + 1) :: (if d then [Instr.pushDidNotIterate] else []) ++ [Instr.popLoopFrame]),
        Cb0.2) := by
  rw [startForLoop_extend, CG.withBreaks_eq]
  simp only [CG.extend, foldl_addBreakJump_loop, List.nil_append]
  rw [endForLoop_loop _ _ _ _ _ rfl]
  generalize Instr.jump (g.next + Ci.1.length + 1) :: (if d then [Instr.pushDidNotIterate] else []) ++
    [Instr.popLoopFrame] = T
  generalize (if v then 1 else 0) = k
  have hE : ∀ P a, (CG.mk (g.code ++ Ci.1 ++ [Instr.pushLoop k, Instr.iterate unpatched] ++ Cb0.1) P a).next + 1 =
      g.next + Ci.1.length + 2 + Cb0.1.length + 1 := fun _ _ => by simp +arith [CG.next]
  rw [hE, patchAll_append, patchAll_patched hp _ (g.code ++ Ci.1 ++ [Instr.pushLoop k, Instr.iterate unpatched]) T
    (by simp +arith [CG.next]) rfl]
  simp only [CG.patchAll, List.foldl]
  rw [patch_mid .iterate _ (g.code ++ Ci.1 ++ [.pushLoop k]) (CbE ++ T) _ unpatched _ (by simp)
    (by simp +arith [CG.next])]
  simp

theorem for_block_plain (g : CG) (Ci Cb : List Instr × Aux) (v d : Bool) :
    (((g.extend Ci).startForLoop v).extend Cb).endForLoop d =
      g.extend (Ci.1 ++ [Instr.pushLoop (if v then 1 else 0),
          Instr.iterate (g.next + Ci.1.length + 2 + Cb.1.length + 1)] ++ Cb.1 ++
        (Instr.jump (g.next + Ci.1.length + 1) :: (if d then [Instr.pushDidNotIterate] else []) ++ [Instr.popLoopFrame]),
        Cb.2) :=
  for_block_brk g Ci Cb [] Cb.1 v d (Patched.refl _ _ _)

/-- a `for` loop without filter / else / loop controls around code chunks `Ci` (iterable) and `Cb`
(target + body) -/
theorem for_block (g : CG) (Ci Cb : List Instr × Aux) :
    (((g.extend Ci).startForLoop true).extend Cb).endForLoop false =
      g.extend (Ci.1 ++ [Instr.pushLoop 1, Instr.iterate (g.next + Ci.1.length + 2 + Cb.1.length + 1)] ++ Cb.1 ++
        [Instr.jump (g.next + Ci.1.length + 1), Instr.popLoopFrame], Cb.2) := by
  simpa using for_block_plain g Ci Cb true false

/-- the filter pre-pass of a `for … if cond` loop around the chunks `Ci` (iterable) and `Cx`
(`DupTop`, target, condition) -/
theorem filter_block (g : CG) (Ci Cx : List Instr × Aux) :
    (((((((((g.add (.loadConst (.int 0))).extend Ci).startForLoop false).extend Cx).startIf.add .swap).add
        (.loadConst (.int 1))).add .add).startElse.add .discardTop).endIf.endForLoop false).add (.buildList none) =
      g.extend ([Instr.loadConst (.int 0)] ++ Ci.1 ++
        [Instr.pushLoop 0, Instr.iterate (g.next + 1 + Ci.1.length + 2 + Cx.1.length + 7)] ++ Cx.1 ++
        [Instr.jumpIfFalse (g.next + 1 + Ci.1.length + 2 + Cx.1.length + 5), Instr.swap, Instr.loadConst (.int 1),
         Instr.add, Instr.jump (g.next + 1 + Ci.1.length + 2 + Cx.1.length + 6), Instr.discardTop,
         Instr.jump (g.next + 1 + Ci.1.length + 1), Instr.popLoopFrame, Instr.buildList none], Cx.2) := by
  have e1 : ∀ (h : CG), ((h.add .swap).add (.loadConst (.int 1))).add .add =
      h.extend ([Instr.swap, Instr.loadConst (.int 1), Instr.add], h.aux) := by
    intro h; simp [CG.add, CG.extend]
  rw [e1, CG.add_eq_extend _ .discardTop, if_block, CG.add_eq_extend g, CG.extend_extend]
  simp only [aux_startIf_ext, aux_startElse_ext]
  rw [for_block_plain, CG.add_eq_extend, CG.extend_extend]
  simp +arith [CG.extend, CG.next, CG.startForLoop, CG.add]

mutual
theorem cTarget_eq_rel : ∀ (t : Target) (g : CG), cTarget t g = g.extend (relTarget t, g.aux)
  | .var x, g => by simp [cTarget, relTarget, CG.add_eq_extend]
  | .tuple ts, g => by
    simp only [cTarget, relTarget]
    rw [cTargets_eq_rel ts, CG.add_eq_extend, CG.extend_extend]
    simp
theorem cTargets_eq_rel : ∀ (ts : List Target) (g : CG), cTargets ts g = g.extend (relTargets ts, g.aux)
  | [], g => by simp [cTargets, relTargets, CG.extend]
  | t :: ts, g => by
    simp only [cTargets, relTargets]
    rw [cTarget_eq_rel t g, cTargets_eq_rel ts, CG.extend_extend]
    simp
end

theorem cBinds_eq_core : ∀ (binds : List (Target × Expr)) (g : CG), coreBinds binds = true →
    cBinds binds g = g.extend (relBinds binds g.next g.aux)
  | [], g, _ => by simp [cBinds, relBinds, CG.extend]
  | (t, e) :: rest, g, h => by
    have hs : coreExpr e = true ∧ coreBinds rest = true := by simpa [coreBinds] using h
    simp only [cBinds, relBinds]
    rw [cExpr_eq_core e g hs.1, cTarget_eq_rel, CG.extend_extend, cBinds_eq_core rest _ hs.2]
    simp [CG.extend_extend, Nat.add_assoc]

theorem cFilters_eq_core : ∀ (fs : List FilterApp) (g : CG), coreFilters fs = true →
    cFilters fs g = g.extend (relFilters fs g.next g.aux)
  | [], g, _ => by simp [cFilters, relFilters, CG.extend]
  | (name, args) :: rest, g, h => by
    have hs : coreArgs args = true ∧ coreFilters rest = true := by simpa [coreFilters] using h
    simp only [cFilters, relFilters]
    rw [cArgs_eq_core args g hs.1]
    have e1 : ((g.extend (relArgs args g.next g.aux)).filterId name).2.add
          (Instr.applyFilter name (1 + args.length) ((g.extend (relArgs args g.next g.aux)).filterId name).1) =
        g.extend ((relArgs args g.next g.aux).1 ++
          [Instr.applyFilter name (1 + args.length) ((relArgs args g.next g.aux).2.filterId name).1],
          ((relArgs args g.next g.aux).2.filterId name).2) := by
      simp [CG.filterId, CG.extend, CG.add]
    rw [e1, cFilters_eq_core rest _ hs.2]
    simp [CG.extend_extend, Nat.add_assoc]

theorem scope_block (g : CG) (k : ScopeKind) (C : List Instr × Aux) :
    ((g.startScope k).extend C).endScope = g.extend C := by
  simp [CG.startScope, CG.endScope, CG.extend]

@[simp] theorem next_startScope (g : CG) (k : ScopeKind) : (g.startScope k).next = g.next := rfl
@[simp] theorem aux_startScope (g : CG) (k : ScopeKind) : (g.startScope k).aux = g.aux := rfl
@[simp] theorem next_add (g : CG) (i : Instr) : (g.add i).next = g.next + 1 := by simp [CG.add, CG.next]
@[simp] theorem aux_add (g : CG) (i : Instr) : (g.add i).aux = g.aux := rfl
@[simp] theorem next_startFor_ext (g : CG) (C : List Instr × Aux) (b : Bool) :
    ((g.extend C).startForLoop b).next = g.next + C.1.length + 2 := by
  simp [CG.startForLoop, CG.extend, CG.add, CG.next, Nat.add_assoc]
@[simp] theorem aux_startFor_ext (g : CG) (C : List Instr × Aux) (b : Bool) :
    ((g.extend C).startForLoop b).aux = C.2 := by
  simp [CG.startForLoop, CG.extend, CG.add]

theorem next_forElse_startIf (g : CG) (Ci Cb : List Instr × Aux) :
    ((((g.extend Ci).startForLoop true).extend Cb).endForLoop true).startIf.next =
      g.next + Ci.1.length + 2 + Cb.1.length + 4 := by
  rw [for_block_plain, next_startIf_ext]; simp +arith
theorem aux_forElse_startIf (g : CG) (Ci Cb : List Instr × Aux) :
    ((((g.extend Ci).startForLoop true).extend Cb).endForLoop true).startIf.aux = Cb.2 := by
  rw [for_block_plain, aux_startIf_ext]

/-- a `for` loop with an `else` branch: `Ci` iterable, `Cb` target + body, `Ce` else body -/
theorem for_else_block (g : CG) (Ci Cb Ce : List Instr × Aux) :
    ((((((g.extend Ci).startForLoop true).extend Cb).endForLoop true).startIf).extend Ce).endIf =
      g.extend (Ci.1 ++ [Instr.pushLoop 1, Instr.iterate (g.next + Ci.1.length + 2 + Cb.1.length + 1)] ++ Cb.1 ++
        [Instr.jump (g.next + Ci.1.length + 1), Instr.pushDidNotIterate, Instr.popLoopFrame,
         Instr.jumpIfFalse (g.next + Ci.1.length + 2 + Cb.1.length + 4 + Ce.1.length)] ++ Ce.1, Ce.2) := by
  rw [for_block_plain, if_block_noelse]
  simp +arith [CG.extend, CG.next]

theorem filter_prefix_eq (t : Target) (iter c : Expr) (g : CG) (hi : coreExpr iter = true)
    (hc : coreExpr c = true) :
    (((((((cExpr c (cTarget t (((cExpr iter (g.add (.loadConst (.int 0)))).startForLoop false).add .dupTop))).startIf.add
        .swap).add (.loadConst (.int 1))).add .add).startElse.add .discardTop).endIf.endForLoop false).add
        (.buildList none)) = g.extend (relForIter t iter (some c) g.next g.aux) := by
  rw [cExpr_eq_core iter _ hi, CG.add_eq_extend _ .dupTop, cTarget_eq_rel, cExpr_eq_core c _ hc,
    CG.extend_extend, CG.extend_extend, filter_block]
  simp +arith [relForIter, CG.extend, CG.next, CG.startForLoop, CG.add]

/-- the pending blocks of the generator describe the loop context `lc` -/
def Compat (P : List Pending) : Option LoopCtx → Prop
  | none => True
  | some l => CG.innermostLoopIter P = some l.iter ∧ CG.scopesOfInnermostLoop P = l.scopes

theorem Compat_setExit (P : List Pending) (E : Nat) (lc : Option LoopCtx) : Compat P (setExit E lc) ↔ Compat P lc := by
  cases lc <;> simp [Compat, setExit]

/-- what the generator sees of its pending blocks: the `Iterate` of the innermost loop and the scopes opened
inside it; the operations of the fragment change it in a fixed way -/
def loopView (P : List Pending) : Option Nat × List ScopeKind :=
  (CG.innermostLoopIter P, CG.scopesOfInnermostLoop P)

theorem view_addBreakJump (j : Nat) : ∀ (P : List Pending), loopView (CG.addBreakJump j P) = loopView P
  | [] => rfl
  | .loop _ _ :: _ => rfl
  | .branch _ :: P | .scBool _ :: P => view_addBreakJump j P
  | .scope k :: P => congrArg (fun v => (v.1, k :: v.2)) (view_addBreakJump j P)

@[simp] theorem view_withBreaks (ps : List Nat) (g : CG) : loopView (g.withBreaks ps).pending = loopView g.pending := by
  induction ps generalizing g with
  | nil => rfl
  | cons j ps ih => rw [CG.withBreaks_cons]; exact (ih _).trans (view_addBreakJump j _)

@[simp] theorem view_startIf (g : CG) : loopView g.startIf.pending = loopView g.pending := rfl

theorem view_endCondition (g : CG) (t : Nat) : loopView (g.endCondition t).pending = loopView g.pending := by
  cases g with
  | mk code pending aux =>
    cases pending with
    | nil => simp [CG.endCondition, CG.markOof]
    | cons p rest =>
      cases p <;> simp [CG.endCondition, CG.markOof, loopView, CG.innermostLoopIter, CG.scopesOfInnermostLoop]

@[simp] theorem view_startElse (g : CG) : loopView g.startElse.pending = loopView g.pending :=
  view_endCondition (g.add (.jump unpatched)) (g.next + 1)

@[simp] theorem view_startScope (g : CG) (k : ScopeKind) :
    loopView (g.startScope k).pending = ((loopView g.pending).1, k :: (loopView g.pending).2) := rfl

@[simp] theorem pending_add (g : CG) (i : Instr) : (g.add i).pending = g.pending := rfl

@[simp] theorem view_startForLoop (g : CG) (b : Bool) :
    loopView (g.startForLoop b).pending = (some (g.next + 1), []) := by
  simp [loopView, CG.startForLoop, CG.add, CG.next, CG.innermostLoopIter, CG.scopesOfInnermostLoop]

theorem leaveFold_eq : ∀ (sc : List ScopeKind) (g : CG),
    sc.foldl (fun g k => match k with
      | .with_ => g.add .popFrame
      | .capture => (g.add .endCapture).add .discardTop) g = g.extend (leaveCode sc, g.aux)
  | [], g => by simp [leaveCode, CG.extend]
  | .with_ :: rest, g => by
    simp only [List.foldl, leaveCode]; rw [leaveFold_eq rest]; simp [CG.extend, CG.add]
  | .capture :: rest, g => by
    simp only [List.foldl, leaveCode]; rw [leaveFold_eq rest]; simp [CG.extend, CG.add]

theorem leaveScopes_eq (g : CG) :
    g.leaveScopes = g.extend (leaveCode (CG.scopesOfInnermostLoop g.pending), g.aux) :=
  leaveFold_eq _ g

theorem Compat_iff_view {P : List Pending} {l : LoopCtx} : Compat P (some l) ↔ loopView P = (some l.iter, l.scopes) := by
  simp [Compat, loopView]

theorem Compat_of_view {P P' : List Pending} {lc : Option LoopCtx} (hv : loopView P' = loopView P)
    (h : Compat P lc) : Compat P' lc := by
  cases lc with
  | none => trivial
  | some l => exact Compat_iff_view.2 (hv.trans (Compat_iff_view.1 h))

theorem Compat_push {P P' : List Pending} {lc : Option LoopCtx} {k : ScopeKind}
    (hv : loopView P' = ((loopView P).1, k :: (loopView P).2)) (h : Compat P lc) : Compat P' (pushScope k lc) := by
  cases lc with
  | none => trivial
  | some l => exact Compat_iff_view.2 (by rw [hv, Compat_iff_view.1 h])

/-- the code in front of the loop body (copy of the first part of the `for` case of `cStmt`) -/
def cForPrefix (target : Target) (iter : Expr) (filter : Option Expr) (g : CG) : CG :=
  match filter with
  | some cond =>
    let g := g.add (.loadConst (.int 0))
    let g := (cExpr iter g).startForLoop false
    let g := cTarget target (g.add .dupTop)
    let g := (cExpr cond g).startIf
    let g := ((g.add .swap).add (.loadConst (.int 1))).add .add
    let g := (g.startElse.add .discardTop).endIf
    let g := (g.endForLoop false).add (.buildList none)
    g.startForLoop true
  | none => (cExpr iter g).startForLoop true

theorem cStmt_for (target : Target) (iter : Expr) (filter : Option Expr) (body els : List Stmt) (g : CG) :
    cStmt (.forS target iter filter body els) g =
      (match els with
        | [] => (cBlock body (cTarget target (cForPrefix target iter filter g))).endForLoop false
        | _ :: _ => (cBlock els ((cBlock body (cTarget target (cForPrefix target iter filter g))).endForLoop true).startIf).endIf) := by
  cases filter <;> cases els <;> simp only [cStmt, cForPrefix]

theorem cForPrefix_eq (t : Target) (iter : Expr) (flt : Option Expr) (g : CG) (hi : coreExpr iter = true)
    (hc : ∀ c, flt = some c → coreExpr c = true) :
    cForPrefix t iter flt g = (g.extend (relForIter t iter flt g.next g.aux)).startForLoop true := by
  cases flt with
  | none => simp only [cForPrefix, relForIter]; rw [cExpr_eq_core iter g hi]
  | some c => simp only [cForPrefix]; rw [filter_prefix_eq t iter c g hi (hc c rfl)]


/-- the loop of a `for` statement up to `end_for_loop`, given that the body compiles to its structured
code: the `break` jumps of the body are resolved to `forExit` -/
theorem for_loop_eq (t : Target) (iter : Expr) (flt : Option Expr) (body : List Stmt) (g : CG) (d : Bool)
    (hi : coreExpr iter = true) (hc : ∀ c, flt = some c → coreExpr c = true)
    (ih : ∀ (g' : CG) (l : LoopCtx), Compat g'.pending (some l) →
      cBlock body g' = (g'.extend (relBlock body g'.next g'.aux (setExit 0 (some l))).1).withBreaks
        (relBlock body g'.next g'.aux (setExit 0 (some l))).2) :
    (cBlock body (cTarget t (cForPrefix t iter flt g))).endForLoop d =
      g.extend ((relForIter t iter flt g.next g.aux).1 ++
        [.pushLoop 1, .iterate (forExit t iter flt body g.next g.aux)] ++ relTarget t ++
        (forBody t iter flt body g.next g.aux).1.1 ++
        (.jump (g.next + (relForIter t iter flt g.next g.aux).1.length + 1) ::
          (if d then [.pushDidNotIterate] else []) ++ [.popLoopFrame]),
        (forBody t iter flt body g.next g.aux).1.2) := by
  rw [cForPrefix_eq t iter flt g hi hc, cTarget_eq_rel,
    ih _ ⟨g.next + (relForIter t iter flt g.next g.aux).1.length + 1, 0, []⟩ (Compat_iff_view.2 (by simp))]
  simp only [CG.next_extend, next_startFor_ext, aux_startFor_ext, CG.extend_aux, setExit, forBody, forExit]
  have hp := relBlock_patched body (g.next + (relForIter t iter flt g.next g.aux).1.length + 2 + (relTarget t).length)
    (relForIter t iter flt g.next g.aux).2 (some ⟨g.next + (relForIter t iter flt g.next g.aux).1.length + 1, 0, []⟩)
    (forExit t iter flt body g.next g.aux)
  simp only [setExit, forExit] at hp
  generalize relForIter t iter flt g.next g.aux = Ri at hp ⊢
  generalize relBlock body (g.next + Ri.1.length + 2 + (relTarget t).length) Ri.2
    (some ⟨g.next + Ri.1.length + 1, 0, []⟩) = R0 at hp ⊢
  generalize relBlock body (g.next + Ri.1.length + 2 + (relTarget t).length) Ri.2
    (some ⟨g.next + Ri.1.length + 1, g.next + Ri.1.length + 2 + (relTarget t).length + R0.1.1.length + 1, []⟩) = RE at hp ⊢
  obtain ⟨hp1, hp2, _⟩ := hp
  rw [CG.extend_extend, for_block_brk g Ri _ R0.2 (relTarget t ++ RE.1.1) true d
    ((Patched.pre (b := g.next + Ri.1.length + 2) (relTarget t) hp1).cast2
      (by simp only [List.length_append]; omega) rfl)]
  simp [hp2, Nat.add_assoc]

mutual
theorem relStmt_none_breaks : ∀ (st : Stmt) (b : Nat) (a : Aux), (relStmt st b a none).2 = []
  | .text _, _, _ | .emit _, _, _ | .set _ _, _, _ | .macroS .., _, _ | .breakS, _, _ | .continueS, _, _ => by
    simp [relStmt]
  | .ifS c t [], b, a => by simp only [relStmt]; exact relBlock_none_breaks t _ _
  | .ifS c t (f :: fs), b, a => by
    simp only [relStmt]
    rw [relBlock_none_breaks t, relBlock_none_breaks (f :: fs)]; rfl
  | .withS _ body, b, a | .setBlock _ _ body, b, a | .filterBlock _ body, b, a => by
    simp only [relStmt, pushScope]; exact relBlock_none_breaks body _ _
  | .forS t iter flt body [], b, a => by simp [relStmt]
  | .forS t iter flt body (e0 :: es), b, a => by simp only [relStmt]; exact relBlock_none_breaks (e0 :: es) _ _
  | .callBlock f .., _, _ => by cases f <;> simp [relStmt]
theorem relBlock_none_breaks : ∀ (ss : List Stmt) (b : Nat) (a : Aux), (relBlock ss b a none).2 = []
  | [], _, _ => by simp [relBlock]
  | s :: rest, b, a => by
    simp only [relBlock]
    rw [relStmt_none_breaks s b a, relBlock_none_breaks rest]; rfl
end

theorem relStmt_breaks_nil : ∀ (st : Stmt) (b : Nat) (a : Aux), coreStmt false st = true → (relStmt st b a none).2 = [] :=
  fun st b a _ => relStmt_none_breaks st b a

theorem enclose_fold : ∀ (names : List String) (g : CG),
    names.foldl (fun g n => g.add (.enclose n)) g = g.extend (names.map Instr.enclose, g.aux)
  | [], g => by simp [CG.extend]
  | n :: rest, g => by
    simp only [List.foldl, List.map]
    rw [enclose_fold rest]; simp [CG.extend, CG.add]

theorem coreDefaults_mem : ∀ {ds : List Expr}, coreDefaults ds = true → ∀ {d : Expr}, d ∈ ds → coreExpr d = true
  | d0 :: rest, h, d, hd => by
    have hs : coreExpr d0 = true ∧ coreDefaults rest = true := by simpa [coreDefaults] using h
    rcases List.mem_cons.1 hd with rfl | hd
    · exact hs.1
    · exact coreDefaults_mem hs.2 hd

theorem paramDefaults_mem {params : List String} {defaults : List Expr} {p : String} {d : Expr}
    (h : (p, some d) ∈ paramDefaults params defaults) : d ∈ defaults := by
  simp only [paramDefaults, List.mem_map] at h
  obtain ⟨⟨q, i⟩, _, he⟩ := h
  have hd : (if params.length - defaults.length ≤ i then defaults[i - (params.length - defaults.length)]? else none) =
      some d := (Prod.mk.inj he).2
  split at hd
  · exact List.mem_of_getElem? hd
  · cases hd

theorem prologue_fold : ∀ (pds : List (String × Option Expr)) (g : CG) (b : Nat), b = g.next →
    (∀ p d, (p, some d) ∈ pds → coreExpr d = true) →
    pds.foldl (fun g pd =>
      let g := match pd.2 with
        | some d => (cExpr d ((((g.add .dupTop).add .isUndefined).startIf).add .discardTop)).endIf
        | none => g
      g.add (.storeLocal pd.1)) g = g.extend (relPrologue pds b g.aux)
  | [], g, b, _, _ => by simp [relPrologue, CG.extend]
  | (p, none) :: rest, g, b, hb, h => by
    subst hb
    simp only [List.foldl, relPrologue]
    rw [prologue_fold rest _ (g.next + 1) (by simp) fun q d hq => h q d (List.mem_cons_of_mem _ hq)]
    simp [CG.extend, CG.add]
  | (p, some d) :: rest, g, b, hb, h => by
    subst hb
    simp only [List.foldl, relPrologue]
    rw [CG.add_eq_extend g, CG.extend_add, cExpr_eq_core d _ (h p d (List.mem_cons_self ..)),
      CG.add_eq_extend _ .discardTop, CG.extend_extend, if_block_noelse]
    simp only [aux_startIf_ext]
    rw [prologue_fold rest _ (g.next + 4 + (relExpr d (g.next + 4) g.aux).1.length + 1) (by simp +arith)
      fun q e hq => h q e (List.mem_cons_of_mem _ hq)]
    simp +arith [CG.extend_extend, CG.add_eq_extend]

theorem cMacroPrologue_eq (params : List String) (defaults : List Expr) (g : CG) (hd : coreDefaults defaults = true) :
    cMacroPrologue (paramDefaults params defaults) g =
      g.extend (relPrologue (paramDefaults params defaults).reverse g.next g.aux) := by
  unfold cMacroPrologue
  exact prologue_fold _ g g.next rfl fun p d hm => coreDefaults_mem hd (paramDefaults_mem (List.mem_reverse.1 hm))

/-- `compile_macro_expression` around the prologue `Rp` and the body `Rb`: the jump over the macro is
patched to the instructions that build the macro value -/
theorem macro_decl_block (name : String) (params fv : List String) (g : CG) (Rp Rb : List Instr × Aux) :
    cMacroEpilogue name params fv g.next (((g.add (.jump unpatched)).extend Rp).extend Rb) =
      g.extend (macroDeclCode name params fv g.next Rp.1 Rb.1, Rb.2) := by
  simp only [cMacroEpilogue]
  rw [enclose_fold]
  rw [patch_mid .jump _ g.code (Rp.1 ++ Rb.1 ++ [Instr.return_] ++ relEnclose fv ++
    [Instr.getClosure, Instr.loadConst (Val.list (List.map Val.str params)),
      Instr.buildMacro name (g.next + 1) (macroFlags fv)]) g.next unpatched _ ?_ rfl]
  · simp +arith [CG.extend, CG.add, CG.next, macroDeclCode]
  · simp [CG.add, CG.extend, relEnclose, macroFlags]

/-- a macro declaration expression (`compile_macro_expression`) compiled at `g0`, given that the
body compiles to its structured code -/
theorem macro_expr_eq (name : String) (params : List String) (defaults : List Expr) (body : List Stmt) (g0 : CG)
    (hd : coreDefaults defaults = true)
    (ih : ∀ g : CG, cBlock body g = (g.extend (relBlock body g.next g.aux none).1).withBreaks
      (relBlock body g.next g.aux none).2) :
    cMacroEpilogue name params (findMacroClosure params defaults body) g0.next
        (cBlock body (cMacroPrologue (paramDefaults params defaults) (g0.add (.jump unpatched)))) =
      g0.extend (macroDeclCode name params (findMacroClosure params defaults body) g0.next
        (relPrologue (paramDefaults params defaults).reverse (g0.next + 1) g0.aux).1
        (relBlock body (g0.next + 1 + (relPrologue (paramDefaults params defaults).reverse (g0.next + 1) g0.aux).1.length)
          (relPrologue (paramDefaults params defaults).reverse (g0.next + 1) g0.aux).2 none).1.1,
        (relBlock body (g0.next + 1 + (relPrologue (paramDefaults params defaults).reverse (g0.next + 1) g0.aux).1.length)
          (relPrologue (paramDefaults params defaults).reverse (g0.next + 1) g0.aux).2 none).1.2) := by
  rw [cMacroPrologue_eq params defaults _ hd, ih, relBlock_none_breaks, CG.withBreaks_nil]
  simp only [next_add, aux_add, CG.next_extend, CG.extend_aux]
  exact macro_decl_block name params _ g0 _ _

mutual
theorem cStmt_eq_core : ∀ (st : Stmt) (g : CG) (lc : Option LoopCtx), coreStmt lc.isSome st = true →
    Compat g.pending lc →
    cStmt st g = (g.extend (relStmt st g.next g.aux (setExit 0 lc)).1).withBreaks
      (relStmt st g.next g.aux (setExit 0 lc)).2
  | .text t, g, lc, _, _ => by simp [cStmt, relStmt, CG.add_eq_extend]
  | .emit e, g, lc, h, _ => by
    have hs : coreExpr e = true := by simpa [coreStmt] using h
    simp [cStmt, relStmt, cExpr_eq_core e g hs]
  | .set t e, g, lc, h, _ => by
    have hs : coreExpr e = true := by simpa [coreStmt] using h
    simp [cStmt, relStmt, cExpr_eq_core e g hs, cTarget_eq_rel, CG.extend_extend]
  | .ifS c t [], g, lc, h, hc => by
    have hs : coreExpr c = true ∧ coreBlock lc.isSome t = true := by simpa [coreStmt, coreBlock] using h
    simp only [cStmt, relStmt]
    rw [cExpr_eq_core c g hs.1, cBlock_eq_core t _ lc hs.2 (Compat_of_view (by simp) hc),
      endIf_withBreaks, if_block_noelse]
    simp [Nat.add_assoc]
  | .ifS c t (f :: fs), g, lc, h, hc => by
    have hs : (coreExpr c = true ∧ coreBlock lc.isSome t = true) ∧ coreBlock lc.isSome (f :: fs) = true := by
      simpa [coreStmt] using h
    simp only [cStmt, relStmt]
    rw [cExpr_eq_core c g hs.1.1, cBlock_eq_core t _ lc hs.1.2 (Compat_of_view (by simp) hc),
      startElse_withBreaks,
      cBlock_eq_core (f :: fs) _ lc hs.2 (Compat_of_view (by simp) hc),
      extend_withBreaks, CG.withBreaks_withBreaks, endIf_withBreaks]
    simp only [CG.next_withBreaks, CG.aux_withBreaks]
    rw [if_block]
    simp [Nat.add_assoc]
  | .withS binds body, g, lc, h, hc => by
    have hs : coreBinds binds = true ∧ coreBlock (pushScope .with_ lc).isSome body = true := by
      simpa [coreStmt] using h
    simp only [cStmt, relStmt, pushScope_setExit]
    rw [cBinds_eq_core binds _ hs.1,
      cBlock_eq_core body _ (pushScope .with_ lc) hs.2 (Compat_push (by simp) hc),
      endScope_withBreaks, add_withBreaks, CG.extend_extend, scope_block]
    simp +arith [CG.add_eq_extend, CG.extend_extend]
  | .forS t iter flt body [], g, lc, h, hc => by
    have hs : (coreExpr iter = true ∧ (∀ c, flt = some c → coreExpr c = true)) ∧ coreBlock true body = true := by
      cases flt <;> simp [coreStmt, coreBlock] at h <;> simp [h]
    rw [cStmt_for, relStmt_for_nil]
    simp only
    rw [for_loop_eq t iter flt body g false hs.1.1 hs.1.2 fun g' l hl => cBlock_eq_core body g' (some l) hs.2 hl]
    simp
  | .forS t iter flt body (e0 :: es), g, lc, h, hc => by
    have hs : ((coreExpr iter = true ∧ (∀ c, flt = some c → coreExpr c = true)) ∧ coreBlock true body = true) ∧
        coreBlock lc.isSome (e0 :: es) = true := by
      cases flt <;> simp [coreStmt] at h <;> simp [h]
    rw [cStmt_for, relStmt_for_cons]
    simp only
    rw [for_loop_eq t iter flt body g true hs.1.1.1 hs.1.1.2 fun g' l hl => cBlock_eq_core body g' (some l) hs.1.2 hl,
      cBlock_eq_core (e0 :: es) _ lc hs.2 (Compat_of_view (by simp) hc), endIf_withBreaks]
    simp only [next_startIf_ext, aux_startIf_ext]
    rw [if_block_noelse, forExit_eq]
    simp +arith
  | .setBlock _ filters body, g, lc, h, hc | .filterBlock filters body, g, lc, h, hc => by
    have hs : coreFilters filters = true ∧ coreBlock (pushScope .capture lc).isSome body = true := by
      simpa [coreStmt] using h
    simp only [cStmt, relStmt, pushScope_setExit]
    rw [cBlock_eq_core body _ (pushScope .capture lc) hs.2 (Compat_push (by simp) hc),
      endScope_withBreaks, add_withBreaks, cFilters_eq_core filters _ hs.1, extend_withBreaks, add_withBreaks]
    simp only [CG.next_withBreaks, CG.aux_withBreaks]
    rw [scope_block]
    simp +arith [CG.add_eq_extend, CG.extend_extend]
  | .macroS name params defaults body uc, g, lc, h, _ => by
    have hs : coreDefaults defaults = true ∧ coreBlock false body = true := by simpa [coreStmt] using h
    simp only [cStmt, relStmt]
    rw [macro_expr_eq name params defaults body g hs.1 fun g' => cBlock_eq_core body g' none hs.2 trivial]
    simp [CG.extend, CG.add, CG.withBreaks]
  | .callBlock f args params defaults body uc, g, lc, h, _ => by
    cases f with
    | var x =>
      have hs : (coreCallArgs args = true ∧ coreDefaults defaults = true) ∧ coreBlock false body = true := by
        simpa [coreStmt] using h
      simp only [cStmt, relStmt, callKind, callName, beq_self_eq_true, if_true]
      rw [cPosArgs_eq_core args g hs.1.1, cKwArgs_eq_core args _ hs.1.1, CG.extend_extend, CG.extend_add,
        macro_expr_eq "caller" params defaults body _ hs.1.2 fun g' => cBlock_eq_core body g' none hs.2 trivial]
      simp [CG.extend, CG.add, CG.next, Nat.add_assoc]
    | _ => simp [coreStmt] at h
  | .breakS, g, none, h, _ => by simp [coreStmt] at h
  | .breakS, g, some l, _, hc => by
    simp only [cStmt, relStmt, setExit]
    rw [leaveScopes_eq, hc.2]
    simp [CG.withBreaks, CG.addBreak, CG.extend, CG.add, CG.next]
  | .continueS, g, none, h, _ => by simp [coreStmt] at h
  | .continueS, g, some l, _, hc => by
    simp only [cStmt, relStmt, setExit]
    rw [leaveScopes_eq, hc.2]
    have h1 := hc.1
    simp [h1, CG.extend, CG.add]
theorem cBlock_eq_core : ∀ (ss : List Stmt) (g : CG) (lc : Option LoopCtx), coreBlock lc.isSome ss = true →
    Compat g.pending lc →
    cBlock ss g = (g.extend (relBlock ss g.next g.aux (setExit 0 lc)).1).withBreaks
      (relBlock ss g.next g.aux (setExit 0 lc)).2
  | [], g, lc, _, _ => by simp [cBlock, relBlock, CG.extend]
  | s :: rest, g, lc, h, hc => by
    have hs : coreStmt lc.isSome s = true ∧ coreBlock lc.isSome rest = true := by simpa [coreBlock] using h
    simp only [cBlock, relBlock]
    rw [cStmt_eq_core s g lc hs.1 hc, cBlock_eq_core rest _ lc hs.2 (Compat_of_view (by simp) hc),
      extend_withBreaks, CG.withBreaks_withBreaks]
    simp [CG.extend_extend]
end

theorem simple_coreBinds : ∀ (bs : List (Target × Expr)), simpleBinds bs = true → coreBinds bs = true
  | [], _ => rfl
  | (_, e) :: rest, h => by
    simp only [simpleBinds, Bool.and_eq_true] at h; simp only [coreBinds, Bool.and_eq_true]
    exact ⟨simple_core e h.1, simple_coreBinds rest h.2⟩

theorem simple_coreFilters : ∀ (fs : List FilterApp), simpleFilters fs = true → coreFilters fs = true
  | [], _ => rfl
  | (_, args) :: rest, h => by
    simp only [simpleFilters, Bool.and_eq_true] at h; simp only [coreFilters, Bool.and_eq_true]
    exact ⟨simple_coreArgs args h.1, simple_coreFilters rest h.2⟩

mutual
theorem simple_coreStmt : ∀ (l : Bool) (st : Stmt), simpleStmt l st = true → coreStmt l st = true
  | _, .text _, _ => rfl
  | _, .emit e, h | _, .set _ e, h => by simp only [simpleStmt] at h; simp only [coreStmt]; exact simple_core e h
  | l, .ifS c t f, h => by
    simp only [simpleStmt, Bool.and_eq_true] at h; simp only [coreStmt, Bool.and_eq_true]
    exact ⟨⟨simple_core c h.1.1, simple_coreBlock l t h.1.2⟩, simple_coreBlock l f h.2⟩
  | l, .withS binds body, h => by
    simp only [simpleStmt, Bool.and_eq_true] at h; simp only [coreStmt, Bool.and_eq_true]
    exact ⟨simple_coreBinds binds h.1, simple_coreBlock l body h.2⟩
  | l, .forS _ iter flt body els, h => by
    simp only [simpleStmt, Bool.and_eq_true] at h; simp only [coreStmt, Bool.and_eq_true]
    refine ⟨⟨⟨simple_core iter h.1.1.1, ?_⟩, simple_coreBlock true body h.1.2⟩, simple_coreBlock l els h.2⟩
    cases flt with
    | none => rfl
    | some c => exact simple_core c h.1.1.2
  | l, .setBlock _ fs body, h | l, .filterBlock fs body, h => by
    simp only [simpleStmt, Bool.and_eq_true] at h; simp only [coreStmt, Bool.and_eq_true]
    exact ⟨simple_coreFilters fs h.1, simple_coreBlock l body h.2⟩
  | _, .macroS .., h => by simp [simpleStmt] at h
  | _, .callBlock .., h => by simp [simpleStmt] at h
  | _, .breakS, h => by simpa [simpleStmt, coreStmt] using h
  | _, .continueS, h => by simpa [simpleStmt, coreStmt] using h
theorem simple_coreBlock : ∀ (l : Bool) (ss : List Stmt), simpleBlock l ss = true → coreBlock l ss = true
  | _, [], _ => rfl
  | l, s :: rest, h => by
    simp only [simpleBlock, Bool.and_eq_true] at h; simp only [coreBlock, Bool.and_eq_true]
    exact ⟨simple_coreStmt l s h.1, simple_coreBlock l rest h.2⟩
end

theorem cBlock_eq_rel (ss : List Stmt) (g : CG) (lc : Option LoopCtx) (h : simpleBlock lc.isSome ss = true)
    (hc : Compat g.pending lc) :
    cBlock ss g = (g.extend (relBlock ss g.next g.aux (setExit 0 lc)).1).withBreaks
      (relBlock ss g.next g.aux (setExit 0 lc)).2 :=
  cBlock_eq_core ss g lc (simple_coreBlock _ ss h) hc

end MJ.Compile

namespace MJ.Vm
open MJ.Eval MJ.Compile

theorem relBlock_append : ∀ (a b : List Stmt) (base : Nat) (aux : Aux) (lc : Option LoopCtx),
    relBlock (a ++ b) base aux lc =
      (((relBlock a base aux lc).1.1 ++
          (relBlock b (base + (relBlock a base aux lc).1.1.length) (relBlock a base aux lc).1.2 lc).1.1,
        (relBlock b (base + (relBlock a base aux lc).1.1.length) (relBlock a base aux lc).1.2 lc).1.2),
       (relBlock a base aux lc).2 ++
          (relBlock b (base + (relBlock a base aux lc).1.1.length) (relBlock a base aux lc).1.2 lc).2)
  | [], b, base, aux, lc => by simp [relBlock]
  | s :: rest, b, base, aux, lc => by
    simp only [List.cons_append, relBlock]
    rw [relBlock_append rest b]
    simp [Nat.add_assoc]

theorem cBlock_top (prog : List Stmt) (h : coreBlock false prog = true) :
    cBlock prog {} = ({} : CG).extend (relBlock prog 0 {} none).1 := by
  have h' := cBlock_eq_core prog {} none h trivial
  rw [h', CG.withBreaks_eq]
  simp [foldl_addBreakJump_nil, CG.extend, CG.next, setExit]

theorem compileTemplate_top (prog : List Stmt) (h : coreBlock false prog = true) :
    compileTemplate prog =
      if (relBlock prog 0 {} none).1.2.oof then none else some (relBlock prog 0 {} none).1.1 := by
  simp only [compileTemplate]
  rw [cBlock_top prog h]
  simp [CG.oof, CG.extend]

theorem relBinds_oof_mono : ∀ (binds : List (Target × Expr)) (b : Nat) (a : Aux), a.oof = true →
    (relBinds binds b a).2.oof = true
  | [], b, a, h => by simp [relBinds, h]
  | (t, e) :: rest, b, a, h => by
    simp only [relBinds]; exact relBinds_oof_mono rest _ _ (relExpr_oof_mono e b a h)

theorem relFilters_oof_mono : ∀ (fs : List FilterApp) (b : Nat) (a : Aux), a.oof = true →
    (relFilters fs b a).2.oof = true
  | [], b, a, h => by simp [relFilters, h]
  | (name, args) :: rest, b, a, h => by
    simp only [relFilters]
    exact relFilters_oof_mono rest _ _ (by simp [relArgs_oof_mono args b a h])

theorem relForIter_oof_mono (t : Target) (iter : Expr) (flt : Option Expr) (b : Nat) (a : Aux)
    (h : a.oof = true) : (relForIter t iter flt b a).2.oof = true := by
  cases flt with
  | none => exact relExpr_oof_mono iter b a h
  | some c => simp only [relForIter]; exact relExpr_oof_mono c _ _ (relExpr_oof_mono iter _ a h)

theorem relPrologue_oof_mono : ∀ (pds : List (String × Option Expr)) (b : Nat) (a : Aux), a.oof = true →
    (relPrologue pds b a).2.oof = true
  | [], b, a, h => by simp [relPrologue, h]
  | (p, none) :: rest, b, a, h => by simp only [relPrologue]; exact relPrologue_oof_mono rest _ a h
  | (p, some d) :: rest, b, a, h => by
    simp only [relPrologue]; exact relPrologue_oof_mono rest _ _ (relExpr_oof_mono d _ a h)

mutual
theorem relStmt_oof_mono : ∀ (st : Stmt) (b : Nat) (a : Aux) (lc : Option LoopCtx), a.oof = true →
    (relStmt st b a lc).1.2.oof = true
  | .text t, b, a, lc, h => by simp [relStmt, h]
  | .emit e, b, a, lc, h => by simp [relStmt, relExpr_oof_mono e b a h]
  | .set t e, b, a, lc, h => by simp [relStmt, relExpr_oof_mono e b a h]
  | .ifS c t [], b, a, lc, h => by
    simp only [relStmt]; exact relBlock_oof_mono t _ _ _ (relExpr_oof_mono c b a h)
  | .ifS c t (f :: fs), b, a, lc, h => by
    simp only [relStmt]
    exact relBlock_oof_mono (f :: fs) _ _ _ (relBlock_oof_mono t _ _ _ (relExpr_oof_mono c b a h))
  | .withS binds body, b, a, lc, h => by
    simp only [relStmt]; exact relBlock_oof_mono body _ _ _ (relBinds_oof_mono binds _ a h)
  | .forS t iter flt body [], b, a, lc, h => by
    simp only [relStmt]; exact relBlock_oof_mono body _ _ _ (relForIter_oof_mono t iter flt b a h)
  | .forS t iter flt body (e0 :: es), b, a, lc, h => by
    simp only [relStmt]
    exact relBlock_oof_mono (e0 :: es) _ _ _ (relBlock_oof_mono body _ _ _ (relForIter_oof_mono t iter flt b a h))
  | .setBlock x fs body, b, a, lc, h => by
    simp only [relStmt]; exact relFilters_oof_mono fs _ _ (relBlock_oof_mono body _ a _ h)
  | .filterBlock fs body, b, a, lc, h => by
    simp only [relStmt]; exact relFilters_oof_mono fs _ _ (relBlock_oof_mono body _ a _ h)
  | .macroS name params defaults body uc, b, a, lc, h => by
    simp only [relStmt]; exact relBlock_oof_mono body _ _ _ (relPrologue_oof_mono _ _ a h)
  | .callBlock f args params defaults body uc, b, a, lc, h => by
    cases f with
    | var x =>
      simp only [relStmt]
      exact relBlock_oof_mono body _ _ _ (relPrologue_oof_mono _ _ _
        (relKwArgs_oof_mono args _ _ (relPosArgs_oof_mono args b a h)))
    | _ => simp [relStmt]
  | .breakS, b, a, none, h => by simp [relStmt]
  | .breakS, b, a, some l, h => by simp [relStmt, h]
  | .continueS, b, a, none, h => by simp [relStmt]
  | .continueS, b, a, some l, h => by simp [relStmt, h]
theorem relBlock_oof_mono : ∀ (ss : List Stmt) (b : Nat) (a : Aux) (lc : Option LoopCtx), a.oof = true →
    (relBlock ss b a lc).1.2.oof = true
  | [], b, a, lc, h => by simp [relBlock, h]
  | s :: rest, b, a, lc, h => by
    simp only [relBlock]; exact relBlock_oof_mono rest _ _ _ (relStmt_oof_mono s b a lc h)
end

theorem oof_false_of_relBinds {bs b a} (h : (relBinds bs b a).2.oof = false) : a.oof = false :=
  oof_false_of_mono (relBinds_oof_mono bs b a) h

theorem oof_false_of_relFilters {fs b a} (h : (relFilters fs b a).2.oof = false) : a.oof = false :=
  oof_false_of_mono (relFilters_oof_mono fs b a) h

theorem oof_false_of_relBlock {ss b a lc} (h : (relBlock ss b a lc).1.2.oof = false) : a.oof = false :=
  oof_false_of_mono (relBlock_oof_mono ss b a lc) h

theorem mem_insertSorted (x y : String) (l : List String) : y ∈ insertSorted x l ↔ y = x ∨ y ∈ l := by
  fun_induction insertSorted x l <;> simp_all [or_left_comm]

theorem mem_sortNames (y : String) : ∀ (l : List String), y ∈ sortNames l ↔ y ∈ l
  | [] => by simp [sortNames]
  | x :: rest => by
    have ih := mem_sortNames y rest
    simp only [sortNames, List.foldr_cons] at ih ⊢
    rw [mem_insertSorted]; simp [ih]

theorem macroFlags_flag (fv : List String) : (macroFlags fv / 2 % 2 == 1) = fv.contains "caller" := by
  unfold macroFlags macroCallerFlag
  cases fv.contains "caller" <;> simp

theorem relPrologue_nodefaults : ∀ (ps : List String) (base : Nat) (a : Aux),
    relPrologue (ps.map fun p => (p, (none : Option Expr))) base a = (ps.map Instr.storeLocal, a)
  | [], _, _ => rfl
  | p :: rest, base, a => by simp [relPrologue, relPrologue_nodefaults rest (base + 1) a]

theorem relTargets_vars : ∀ (ps : List String), relTargets (ps.map Target.var) = ps.map Instr.storeLocal
  | [] => rfl
  | p :: rest => by simp [relTargets, relTarget, relTargets_vars rest]

end MJ.Vm
