import MJ.Model.KStack
/-!
# Soundness of the kinded stack check (C01)

`exec_sound`, by induction on `Exec`: the stack is `s ++ rest`, `s` the part `chk` tracks; a callee is checked
on its `pre` kinds alone and runs with everything beneath them as its `rest`.  `fn_exec` is the case of a
function of the table on `pre ++ rest`.  One inversion per constructor (`chk_pop`, `chk_call` …) says what a
successful `chk` had to find.
-/
namespace MJ.KStack
open MJ.Gen (KProg)

theorem stripPrefix_some {p s r : List Nat} (h : stripPrefix p s = some r) : s = p ++ r := by
  revert h
  fun_induction stripPrefix p s <;> intro h
  · cases h; rfl
  · cases h
  · next ih => rw [ih h]; rfl
  · cases h

theorem tableOk_get {funs : List Fn} (hok : tableOk funs = true) {f : Nat} {fn : Fn} (h : funs[f]? = some fn) :
    chk funs fn.entry fn.body fn.pre = some fn.post ∧ (fn.entry = true → fn.pre = [] ∧ fn.post = []) := by
  have hm : fn ∈ funs := List.mem_of_getElem? h
  have := (List.all_eq_true.mp hok) fn hm
  simp only [fnOk, Bool.and_eq_true, beq_iff_eq, Bool.or_eq_true, Bool.not_eq_true', List.isEmpty_iff] at this
  refine ⟨this.1, fun he => ?_⟩
  rcases this.2 with h1 | h1
  · simp [he] at h1
  · exact h1

theorem chk_branch {funs : List Fn} {base : Bool} {a b k : KProg} {s e : List Nat}
    (h : chk funs base (.branch a b k) s = some e) :
    ∃ x, chk funs base a s = some x ∧ chk funs base b s = some x ∧ chk funs base k x = some e := by
  unfold chk at h
  split at h
  · rename_i x y ha hb
    by_cases hxy : x = y
    · subst hxy; simp at h; exact ⟨x, ha, hb, h⟩
    · simp [hxy] at h
  · simp at h

theorem chk_loop {funs : List Fn} {base : Bool} {body k : KProg} {s e : List Nat}
    (h : chk funs base (.loop body k) s = some e) :
    chk funs base body s = some s ∧ chk funs base k s = some e := by
  unfold chk at h
  by_cases hb : chk funs base body s = some s
  · simp [hb] at h; exact ⟨hb, h⟩
  · simp [hb] at h

theorem chk_pop {funs : List Fn} {base : Bool} {kd : Nat} {k : KProg} {s e : List Nat}
    (h : chk funs base (.pop kd k) s = some e) : ∃ s', s = kd :: s' ∧ chk funs base k s' = some e := by
  unfold chk at h
  split at h
  · split at h
    · next hx => exact ⟨_, by rw [hx], h⟩
    · cases h
  · cases h

theorem chk_top {funs : List Fn} {base : Bool} {kd : Nat} {k : KProg} {s e : List Nat}
    (h : chk funs base (.top kd k) s = some e) : (∃ s', s = kd :: s') ∧ chk funs base k s = some e := by
  unfold chk at h
  split at h
  · split at h
    · next hx => exact ⟨⟨_, by rw [hx]⟩, h⟩
    · cases h
  · cases h

theorem chk_empty {funs : List Fn} {base : Bool} {k : KProg} {s e : List Nat}
    (h : chk funs base (.empty k) s = some e) : base = true ∧ s = [] ∧ chk funs base k s = some e := by
  unfold chk at h
  split at h
  · next hbs =>
    simp only [Bool.and_eq_true, List.isEmpty_iff] at hbs
    exact ⟨hbs.1, hbs.2, h⟩
  · cases h

theorem chk_call {funs : List Fn} {base : Bool} {f : Nat} {fn : Fn} {k : KProg} {s e : List Nat}
    (hf : funs[f]? = some fn) (h : chk funs base (.call f k) s = some e) :
    (fn.entry = true → base = true ∧ s = []) ∧
      ∃ rest, s = fn.pre ++ rest ∧ chk funs base k (fn.post ++ rest) = some e := by
  simp only [chk, hf] at h
  split at h
  · cases h
  · next hent =>
    split at h
    · next rest hsp =>
      refine ⟨fun he => ?_, rest, stripPrefix_some hsp, h⟩
      simpa [he] using hent
    · cases h

/-- the invariant: the real stack is `s ++ rest` where `s` is what the check tracks (`base` = `rest` is
empty); a checked segment cannot hit `unreachable!()` / the assertion and ends with `e ++ rest` -/
theorem exec_sound {funs : List Fn} (hok : tableOk funs = true) {p : KProg} {stk : List Nat} {r : Option (List Nat)}
    (hx : Exec funs p stk r) :
    ∀ (base : Bool) (s rest e : List Nat), stk = s ++ rest → (base = true → rest = []) →
      chk funs base p s = some e → r = some (e ++ rest) := by
  -- a callee runs on its `pre` kinds with everything else as the rest, and leaves its `post` kinds
  have callee : ∀ {f : Nat} {fn : Fn} {base : Bool} {s rest' rest : List Nat}, funs[f]? = some fn → (base = true → rest = []) →
      (fn.entry = true → base = true ∧ s = []) → s = fn.pre ++ rest' →
      chk funs fn.entry fn.body fn.pre = some fn.post ∧ (fn.entry = true → rest' ++ rest = []) := by
    intro f fn base s rest' rest hf hb hent hs
    have hfn := tableOk_get hok hf
    refine ⟨hfn.1, fun he => ?_⟩
    obtain ⟨hbase, rfl⟩ := hent he
    simp [hb hbase, List.append_eq_nil_iff.mp hs.symm]
  intro base s rest e hs hb hc
  induction hx generalizing base s rest e with
  | done =>
    cases hc
    rw [hs]
  | push _ ih =>
    exact ih base _ rest e (by simp [hs]) hb hc
  | popOk _ ih =>
    obtain ⟨s', rfl, hk⟩ := chk_pop hc
    exact ih base s' rest e (List.cons.inj hs).2 hb hk
  | popWrong hne =>
    obtain ⟨s', rfl, _⟩ := chk_pop hc
    exact absurd (List.cons.inj hs).1 hne
  | popEmpty =>
    obtain ⟨s', rfl, _⟩ := chk_pop hc
    cases hs
  | topOk _ ih =>
    exact ih base s rest e hs hb (chk_top hc).2
  | topWrong hne =>
    obtain ⟨⟨s', rfl⟩, _⟩ := chk_top hc
    exact absurd (List.cons.inj hs).1 hne
  | topEmpty =>
    obtain ⟨⟨s', rfl⟩, _⟩ := chk_top hc
    cases hs
  | emptyOk _ ih =>
    exact ih base s rest e hs hb (chk_empty hc).2.2
  | emptyFail =>
    obtain ⟨hbase, rfl, _⟩ := chk_empty hc
    rw [hb hbase] at hs
    cases hs
  | @callPanic _ _ _ fn hf _ ih =>
    obtain ⟨hent, rest', rfl, _⟩ := chk_call hf hc
    obtain ⟨hbody, hbase⟩ := callee hf hb hent rfl
    cases ih fn.entry fn.pre (rest' ++ rest) fn.post (by simp [hs]) hbase hbody
  | @callOk _ _ _ _ _ fn hf _ _ ihb ihk =>
    obtain ⟨hent, rest', rfl, hk⟩ := chk_call hf hc
    obtain ⟨hbody, hbase⟩ := callee hf hb hent rfl
    cases ihb fn.entry fn.pre (rest' ++ rest) fn.post (by simp [hs]) hbase hbody
    exact ihk base (fn.post ++ rest') rest e (by simp) hb hk
  | @callExt f k s0 r hf _ ih =>
    simp only [chk, hf] at hc
    exact ih base s rest e hs hb hc
  | branchLPanic _ ih =>
    obtain ⟨x, ha, _, _⟩ := chk_branch hc
    cases ih base s rest x hs hb ha
  | branchL _ _ iha ihk =>
    obtain ⟨x, ha, _, hk⟩ := chk_branch hc
    exact ihk base x rest e (Option.some.inj (iha base s rest x hs hb ha)) hb hk
  | branchRPanic _ ih =>
    obtain ⟨x, _, hb', _⟩ := chk_branch hc
    cases ih base s rest x hs hb hb'
  | branchR _ _ ihb ihk =>
    obtain ⟨x, _, hb', hk⟩ := chk_branch hc
    exact ihk base x rest e (Option.some.inj (ihb base s rest x hs hb hb')) hb hk
  | loopExit _ ih =>
    exact ih base s rest e hs hb (chk_loop hc).2
  | loopPanic _ ih =>
    cases ih base s rest s hs hb (chk_loop hc).1
  | loopIter _ _ ihb ihl =>
    exact ihl base s rest e (Option.some.inj (ihb base s rest s hs hb (chk_loop hc).1)) hb hc

/-- a function of a checked table, called on any stack that starts with the kinds it expects (an entry point:
on the empty stack), never reaches `unreachable!()` / a failing assertion and leaves `post ++ rest` -/
theorem fn_exec {funs : List Fn} (hok : tableOk funs = true) {f : Nat} {fn : Fn} (hf : funs[f]? = some fn)
    (rest : List Nat) (hrest : fn.entry = true → rest = []) {r : Option (List Nat)}
    (hx : Exec funs fn.body (fn.pre ++ rest) r) : r = some (fn.post ++ rest) :=
  exec_sound hok hx fn.entry fn.pre rest fn.post rfl hrest (tableOk_get hok hf).1

end MJ.KStack
