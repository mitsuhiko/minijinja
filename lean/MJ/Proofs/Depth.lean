import MJ.Model.Depth
/-!
# The depth accounting: equations of the checked operations and the invariant of a run (C11)

`enter_eq` says all there is to say about a re-entry: it succeeds iff `depth + cost` fits under the
limit, and the nested interpreter then starts on the context `entered k cur`.  The invariant `Inv r`
relates the current context and the contexts saved by the activations through `entered`; `r` is the
number of frames the root context starts with (1 for a render, 0 for `Template::new_state`).  The
constants `macroRecursionCost` and `includeRecursionCost` stay symbolic here; only `cost_pos` looks at
one of them (`1 ≤ includeRecursionCost`).
-/
namespace MJ.Depth
open MJ.Gen

theorem pushFrame_of_le {L : Nat} {c : Ctx} (h : c.depth + 1 ≤ L) :
    c.pushFrame L = some { c with frames := c.frames + 1 } :=
  if_neg (by simp only [Ctx.exceeds, Ctx.depth] at h ⊢; omega)

theorem pushFrame_of_lt {L : Nat} {c : Ctx} (h : L < c.depth + 1) : c.pushFrame L = none :=
  if_pos (by simp only [Ctx.exceeds, Ctx.depth] at h ⊢; omega)

theorem incrDepth_of_le {L d : Nat} {c : Ctx} (h : c.depth + d ≤ L) :
    c.incrDepth L d = some { c with outer := c.outer + d } :=
  if_neg (by simp only [Ctx.exceeds, Ctx.depth] at h ⊢; omega)

theorem incrDepth_of_lt {L d : Nat} {c : Ctx} (h : L < c.depth + d) : c.incrDepth L d = none :=
  if_pos (by simp only [Ctx.exceeds, Ctx.depth] at h ⊢; omega)

theorem pushFrame_isSome_iff (L : Nat) (c : Ctx) : (c.pushFrame L).isSome ↔ c.depth + 1 ≤ L := by
  by_cases h : c.depth + 1 ≤ L
  · simp only [pushFrame_of_le h, Option.isSome_some, h]
  · simp only [pushFrame_of_lt (Nat.lt_of_not_le h), Option.isSome_none, h, Bool.false_eq_true]

theorem incrDepth_isSome_iff (L d : Nat) (c : Ctx) :
    (c.incrDepth L d).isSome ↔ c.depth + d ≤ L := by
  by_cases h : c.depth + d ≤ L
  · simp only [incrDepth_of_le h, Option.isSome_some, h]
  · simp only [incrDepth_of_lt (Nat.lt_of_not_le h), Option.isSome_none, h, Bool.false_eq_true]

theorem cost_pos (k : Kind) : 1 ≤ cost k := by
  cases k <;> simp only [cost] <;> first | omega | decide

def entered (k : Kind) (c : Ctx) : Ctx :=
  match k with
  | .macroCall | .callerCall => ⟨c.depth + macroRecursionCost, 2⟩
  | .includeTpl => ⟨c.outer + includeRecursionCost, c.frames⟩
  | .blockCall | .superCall => ⟨c.outer, c.frames + 1⟩

theorem entered_depth (k : Kind) (c : Ctx) : (entered k c).depth = c.depth + cost k := by
  cases k <;> simp only [entered, cost, Ctx.depth] <;> omega

/-- `eval_macro`: the check of the closure frame on the fresh context is implied by the check of
    the inherited depth, so one comparison decides -/
theorem enterMacro_eq (s : St) (k : Kind) :
    enterMacro s k = if s.cur.depth + (macroRecursionCost + 2) ≤ s.limit
      then .ok { s with cur := ⟨s.cur.depth + macroRecursionCost, 2⟩, acts := ⟨k, s.cur, 2⟩ :: s.acts }
      else .recursionError := by
  unfold enterMacro
  by_cases h : s.cur.depth + (macroRecursionCost + 2) ≤ s.limit
  · have h1 : (⟨0, 1⟩ : Ctx).depth + 1 ≤ s.limit := by show 2 ≤ s.limit; omega
    have h2 : (⟨0, 2⟩ : Ctx).depth + (s.cur.depth + macroRecursionCost) ≤ s.limit := by
      show 2 + _ ≤ s.limit; omega
    simp only [if_pos h, pushFrame_of_le h1, incrDepth_of_le h2, Nat.zero_add]
  · rw [if_neg h]
    by_cases h1 : (⟨0, 1⟩ : Ctx).depth + 1 ≤ s.limit
    · have h2 : s.limit < (⟨0, 2⟩ : Ctx).depth + (s.cur.depth + macroRecursionCost) := by
        show s.limit < 2 + _; omega
      simp only [pushFrame_of_le h1, incrDepth_of_lt h2]
    · simp only [pushFrame_of_lt (Nat.lt_of_not_le h1)]

theorem enter_eq (s : St) (k : Kind) :
    enter s k = if s.cur.depth + cost k ≤ s.limit
      then .ok { s with cur := entered k s.cur, acts := ⟨k, s.cur, (entered k s.cur).frames⟩ :: s.acts }
      else .recursionError := by
  cases k with
  | macroCall => exact enterMacro_eq s _
  | callerCall => exact enterMacro_eq s _
  | includeTpl =>
    by_cases h : s.cur.depth + cost .includeTpl ≤ s.limit
    · rw [if_pos h, enter, incrDepth_of_le (d := includeRecursionCost) h]; rfl
    · rw [if_neg h, enter, incrDepth_of_lt (d := includeRecursionCost) (Nat.lt_of_not_le h)]
  | blockCall | superCall =>
    show enter s _ = if s.cur.depth + 1 ≤ s.limit then _ else _
    by_cases h : s.cur.depth + 1 ≤ s.limit
    · rw [if_pos h, enter, pushFrame_of_le h]; rfl
    · rw [if_neg h, enter, pushFrame_of_lt (Nat.lt_of_not_le h)]

theorem enter_of_le {s : St} {k : Kind} (h : s.cur.depth + cost k ≤ s.limit) :
    step s (.enter k) =
      .ok { s with cur := entered k s.cur, acts := ⟨k, s.cur, (entered k s.cur).frames⟩ :: s.acts } :=
  (enter_eq s k).trans (if_pos h)

theorem enter_ok {s s' : St} {k : Kind} (h : step s (.enter k) = .ok s') :
    s.cur.depth + cost k ≤ s.limit ∧
    s' = { s with cur := entered k s.cur, acts := ⟨k, s.cur, (entered k s.cur).frames⟩ :: s.acts } := by
  rw [show step s (.enter k) = enter s k from rfl, enter_eq] at h
  split at h
  · exact ⟨‹_›, (Out.ok.inj h).symm⟩
  · cases h

theorem run_cons (s : St) (e : Ev) (es : List Ev) :
    run s (e :: es) = match step s e with | .ok s' => run s' es | o => o := rfl

theorem run_cons_ok {s s' : St} {e : Ev} {es : List Ev} :
    run s (e :: es) = .ok s' ↔ ∃ s1, step s e = .ok s1 ∧ run s1 es = .ok s' := by
  rw [run_cons]
  cases step s e <;> simp

theorem run_append (s : St) (pre post : List Ev) :
    run s (pre ++ post) = match run s pre with | .ok s1 => run s1 post | o => o := by
  induction pre generalizing s with
  | nil => rfl
  | cons e es ih =>
    rw [List.cons_append, run_cons, run_cons]
    cases step s e <;> simp only [ih]

theorem run_preserves {P : St → Prop} (hstep : ∀ {s s' : St} {e : Ev}, P s → step s e = .ok s' → P s') :
    ∀ {evs : List Ev} {s s' : St}, P s → run s evs = .ok s' → P s' := by
  intro evs
  induction evs with
  | nil => intro s s' hs h; cases h; exact hs
  | cons e es ih =>
    intro s s' hs h
    obtain ⟨s1, h1, h2⟩ := run_cons_ok.1 h
    exact ih (hstep hs h1) h2

def Grown (c0 c : Ctx) : Prop := c.outer = c0.outer ∧ c0.frames ≤ c.frames

theorem Grown.depth_le {c0 c : Ctx} (h : Grown c0 c) : c0.depth ≤ c.depth := by
  have := h.1; have := h.2; simp only [Ctx.depth]; omega

/-- the context the current activation started on; `r` frames for the root -/
def actStart (r : Nat) : List Act → Ctx
  | [] => ⟨0, r⟩
  | a :: _ => entered a.kind a.old

def Chain (r : Nat) : List Act → Prop
  | [] => True
  | a :: rest => Chain r rest ∧ Grown (actStart r rest) a.old ∧ a.base = (entered a.kind a.old).frames

/-- `max s.limit r`: the root's own `r` frames are pushed unchecked; `r ≤ 1` because a `pop` in the
    root activation goes down to `baseOf [] = 1` frame -/
def Inv (r : Nat) (s : St) : Prop :=
  Chain r s.acts ∧ Grown (actStart r s.acts) s.cur ∧ s.cur.depth ≤ max s.limit r ∧ r ≤ 1

theorem inv_init (L : Nat) : Inv 1 (init L) :=
  ⟨trivial, ⟨rfl, Nat.le_refl 1⟩, Nat.le_max_right L 1, Nat.le_refl 1⟩

theorem actStart_frames_le_baseOf {r : Nat} (hr : r ≤ 1) {acts : List Act} (h : Chain r acts) :
    (actStart r acts).frames ≤ baseOf acts := by
  cases acts with
  | nil => exact hr
  | cons a rest => exact Nat.le_of_eq h.2.2.symm

/-- the sum of the edge costs on the native stack is accounted for in `Context::depth()`:
    every activation started `cost` above the context it saved, which had only grown since -/
theorem wsum_add_le_actStart {r : Nat} : ∀ {acts : List Act}, Chain r acts → wsum acts + r ≤ (actStart r acts).depth
  | [], _ => Nat.le_refl _
  | a :: rest, h => by
    have h1 := wsum_add_le_actStart h.1
    have h2 := h.2.1.depth_le
    simp only [wsum, actStart, entered_depth]
    omega

theorem wsum_add_le_depth {r : Nat} {s : St} (h : Inv r s) : wsum s.acts + r ≤ s.cur.depth :=
  Nat.le_trans (wsum_add_le_actStart h.1) h.2.1.depth_le

theorem wsum_add_le_limit {r : Nat} {s : St} (h : Inv r s) : wsum s.acts + r ≤ max s.limit r :=
  Nat.le_trans (wsum_add_le_depth h) h.2.2.1

theorem leave_restores {r : Nat} {s : St} {a : Act} {rest : List Act} (hi : Inv r s)
    (ha : s.acts = a :: rest) : leave s = .ok { s with cur := a.old, acts := rest } := by
  obtain ⟨_, ⟨ho, hf⟩, _⟩ := hi
  rw [ha] at ho hf
  unfold leave
  rw [ha]
  obtain ⟨kind, old, base⟩ := a
  cases kind <;> simp only [actStart, entered] at ho hf ⊢
  · simp only [restoreStackDepth, if_neg (Nat.not_lt.2 hf), ho]
    rw [if_neg (Nat.not_lt.2 (Nat.le_add_left _ _)), Nat.add_sub_cancel]
  · simp only [restoreStackDepth, if_neg (Nat.not_lt.2 (Nat.le_of_succ_le hf)), ho]
  · simp only [restoreStackDepth, if_neg (Nat.not_lt.2 hf), ho]
    rw [if_neg (Nat.succ_ne_zero _), Nat.add_sub_cancel]

theorem leave_ok {r : Nat} {s s' : St} (hi : Inv r s) (h : leave s = .ok s') :
    ∃ a rest, s.acts = a :: rest ∧ s' = { s with cur := a.old, acts := rest } := by
  cases hacts : s.acts with
  | nil => simp only [leave, hacts] at h; cases h
  | cons a rest => exact ⟨a, rest, rfl, Out.ok.inj ((leave_restores hi hacts).symm.trans h).symm⟩

theorem inv_step {r : Nat} {s s' : St} {e : Ev} (hi : Inv r s) (h : step s e = .ok s') :
    Inv r s' ∧ s'.limit = s.limit := by
  obtain ⟨hc, hg, hd, hr⟩ := hi
  cases e with
  | enter k =>
    obtain ⟨hle, rfl⟩ := enter_ok h
    refine ⟨⟨⟨hc, hg, rfl⟩, ⟨rfl, Nat.le_refl _⟩, ?_, hr⟩, rfl⟩
    rw [entered_depth]
    exact Nat.le_trans hle (Nat.le_max_left _ _)
  | leave =>
    obtain ⟨a, rest, hacts, rfl⟩ := leave_ok ⟨hc, hg, hd, hr⟩ h
    rw [hacts] at hc hg
    -- the saved context is below the one the activation started on, which is below the current one
    have : a.old.depth ≤ s.cur.depth :=
      Nat.le_trans (by rw [actStart, entered_depth]; exact Nat.le_add_right _ _) hg.depth_le
    exact ⟨⟨hc.1, hc.2.1, Nat.le_trans this hd, hr⟩, rfl⟩
  | push =>
    by_cases hle : s.cur.depth + 1 ≤ s.limit
    · simp only [step, pushFrame_of_le hle] at h
      cases h
      exact ⟨⟨hc, ⟨hg.1, Nat.le_succ_of_le hg.2⟩, Nat.le_trans hle (Nat.le_max_left _ _), hr⟩, rfl⟩
    · simp only [step, pushFrame_of_lt (Nat.lt_of_not_le hle)] at h
      cases h
  | pop =>
    simp only [step] at h
    split at h
    · rename_i hb
      cases h
      have := actStart_frames_le_baseOf hr hc
      refine ⟨⟨hc, ⟨hg.1, ?_⟩, ?_, hr⟩, rfl⟩
      · show (actStart r s.acts).frames ≤ s.cur.frames - 1
        unfold base at hb
        omega
      · simp only [Ctx.depth] at hd ⊢; omega
    · cases h
  | missingInclude => cases h; exact ⟨⟨hc, hg, hd, hr⟩, rfl⟩

theorem inv_limit_step {r L : Nat} {s s' : St} {e : Ev} (hi : Inv r s ∧ s.limit = L) (h : step s e = .ok s') :
    Inv r s' ∧ s'.limit = L :=
  ⟨(inv_step hi.1 h).1, (inv_step hi.1 h).2.trans hi.2⟩

/-- only a `leave` could panic, and under the invariant it does not -/
theorem step_ne_panic {r : Nat} {s : St} (hi : Inv r s) (e : Ev) : step s e ≠ .panic := by
  cases e with
  | enter k => simp only [step, enter_eq]; split <;> nofun
  | leave =>
    cases hacts : s.acts with
    | nil => simp only [step, leave, hacts]; nofun
    | cons a rest => rw [show step s .leave = leave s from rfl, leave_restores hi hacts]; nofun
  | push => simp only [step]; split <;> nofun
  | pop => simp only [step]; split <;> nofun
  | missingInclude => nofun

theorem run_ne_panic {r : Nat} : ∀ (evs : List Ev) {s : St}, Inv r s → run s evs ≠ .panic
  | [], _, _ => nofun
  | e :: es, s, hi => by
    rw [run_cons]
    cases hs : step s e with
    | ok s1 => exact run_ne_panic es (inv_step hi hs).1
    | panic => exact absurd hs (step_ne_panic hi e)
    | _ => nofun

theorem step_acts_length {r : Nat} {s s' : St} {e : Ev} (hi : Inv r s) (h : step s e = .ok s') :
    s'.acts.length = pending [e] s.acts.length := by
  cases e with
  | enter k => obtain ⟨_, rfl⟩ := enter_ok h; rfl
  | leave => obtain ⟨a, rest, hacts, rfl⟩ := leave_ok hi h; rw [hacts]; rfl
  | push => simp only [step] at h; split at h <;> cases h; rfl
  | pop => simp only [step] at h; split at h <;> cases h; rfl
  | missingInclude => cases h; rfl

theorem pending_cons (e : Ev) (es : List Ev) (n : Nat) :
    pending (e :: es) n = pending es (pending [e] n) := by
  cases e <;> rfl

theorem run_acts_length {r : Nat} : ∀ {evs : List Ev} {s s' : St}, Inv r s →
    run s evs = .ok s' → s'.acts.length = pending evs s.acts.length
  | [], _, _, _, h => by cases h; rfl
  | e :: es, s, s', hi, h => by
    obtain ⟨s1, h1, h2⟩ := run_cons_ok.1 h
    rw [pending_cons, ← step_acts_length hi h1]
    exact run_acts_length (inv_step hi h1).1 h2

/-- `pre.length + 1` leaves in a row: the way an error propagates out of nested constructs, or the
    way they return -/
theorem unwind_restores {r : Nat} : ∀ (pre : List Act) {s : St} {a : Act} {rest : List Act},
    Inv r s → s.acts = pre ++ a :: rest →
    run s (List.replicate (pre.length + 1) .leave) = .ok { s with cur := a.old, acts := rest }
  | [], s, a, rest, hi, ha => by
    simp only [List.length_nil, List.replicate, run, step, leave_restores hi ha]
  | p :: ps, s, a, rest, hi, ha => by
    have hs : step s .leave = .ok { s with cur := p.old, acts := ps ++ a :: rest } := leave_restores hi ha
    rw [List.length_cons, List.replicate_succ, run_cons, hs]
    exact unwind_restores ps (inv_step hi hs).1 rfl

theorem mul_length_le_wsum (c : Nat) : ∀ acts : List Act, (∀ a ∈ acts, c ≤ cost a.kind) →
    c * acts.length ≤ wsum acts
  | [], _ => Nat.le_refl 0
  | a :: rest, h => by
    have h1 := h a List.mem_cons_self
    have h2 := mul_length_le_wsum c rest (fun x hx => h x (List.mem_cons_of_mem _ hx))
    simp only [wsum, List.length_cons, Nat.mul_succ]
    omega

theorem length_le_wsum (acts : List Act) : acts.length ≤ wsum acts := by
  have := mul_length_le_wsum 1 acts (fun a _ => cost_pos a.kind)
  omega

/-- `max s.limit r`: a limit of 0 still admits the root's own frames; a non-empty nesting weighs at least 1,
    so the limit is not 0 then and `max s.limit r` is the limit -/
theorem wsum_le_limit {r : Nat} {s : St} (h : Inv r s) :
    wsum s.acts ≤ s.limit ∧ s.acts.length + r ≤ max s.limit r ∧ (s.acts ≠ [] → wsum s.acts + r ≤ s.limit) := by
  have := wsum_add_le_limit h
  have := length_le_wsum s.acts
  refine ⟨by omega, by omega, fun hne => ?_⟩
  have := List.length_pos_iff.2 hne
  omega

theorem stackBytes_le_mul_wsum (bytes : Kind → Nat) (ρ : Nat) : ∀ acts : List Act,
    (∀ a ∈ acts, bytes a.kind ≤ ρ * cost a.kind) → stackBytes bytes acts ≤ ρ * wsum acts
  | [], _ => Nat.zero_le _
  | a :: rest, h => by
    have h1 := h a List.mem_cons_self
    have h2 := stackBytes_le_mul_wsum bytes ρ rest (fun x hx => h x (List.mem_cons_of_mem _ hx))
    simp only [stackBytes, wsum, Nat.mul_add]
    omega

end MJ.Depth
