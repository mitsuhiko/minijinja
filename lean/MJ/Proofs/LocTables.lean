import MJ.Model.Loc
/-!
C14: the run-length side tables of `Instructions`.

On a strictly sorted table the binary search of `get_line` / `get_span` finds `runOf`, the last run that starts at or
before the probe (`lookupRun_eq`); everything after that is about `List.filter` and `getLast?`.  The invariant `Inv`
says that the runs so decoded are `lineSpec` / `spanSpec`; each of the three table writes either leaves a table alone
or appends a run that starts at the new instruction (`runOf_step`).
-/
namespace MJ.Loc
open MJ

def lineStep (acc : Option Nat) : Add → Option Nat
  | .plain => acc
  | .withLine l => some l
  | .withSpan s => some s.startLine

def spanStep (acc : Option Span) : Add → Option Span
  | .plain => acc
  | .withLine _ => none
  | .withSpan s => s.nonDefault

/-- line recorded by the last `add_with_line` / `add_with_span` of the sequence -/
def lastLine (ops : List Add) : Option Nat := ops.foldl lineStep none
/-- span recorded by the last located add (`add_with_line` and `Span::default()` record "no span") -/
def lastSpan (ops : List Add) : Option Span := ops.foldl spanStep none

/-- what `get_line(i)` has to return: the line recorded at or before instruction `i` -/
def lineSpec (ops : List Add) (i : Nat) : Option Nat := lastLine (ops.take (i + 1))
def spanSpec (ops : List Add) (i : Nat) : Option Span := lastSpan (ops.take (i + 1))

theorem lastLine_snoc (ops : List Add) (op : Add) : lastLine (ops ++ [op]) = lineStep (lastLine ops) op := by
  simp [lastLine, List.foldl_append]
theorem lastSpan_snoc (ops : List Add) (op : Add) : lastSpan (ops ++ [op]) = spanStep (lastSpan ops) op := by
  simp [lastSpan, List.foldl_append]

/-- `lineSpec` and `spanSpec` of a sequence with one more add, for any step function `f` -/
theorem foldl_take_snoc {σ : Type} (f : σ → Add → σ) (a : σ) (ops : List Add) (op : Add) (i : Nat) :
    ((ops ++ [op]).take (i + 1)).foldl f a =
      if i < ops.length then (ops.take (i + 1)).foldl f a else f (ops.foldl f a) op := by
  split
  · rw [List.take_append_of_le_length (by omega)]
  · rw [List.take_of_length_le (by simp; omega), List.foldl_append]; rfl

theorem lineSpec_ge (ops : List Add) (i : Nat) (h : ops.length ≤ i + 1) : lineSpec ops i = lastLine ops := by
  simp [lineSpec, List.take_of_length_le h]
theorem spanSpec_ge (ops : List Add) (i : Nat) (h : ops.length ≤ i + 1) : spanSpec ops i = lastSpan ops := by
  simp [spanSpec, List.take_of_length_le h]

theorem lineSpec_at_end (A B : List Add) (op : Add) :
    lineSpec (A ++ op :: B) A.length = lineStep (lastLine A) op := by
  have h : (A ++ op :: B).take (A.length + 1) = A ++ [op] := by
    have : A ++ op :: B = (A ++ [op]) ++ B := by simp
    rw [this]
    exact List.take_left' (by simp)
  rw [lineSpec, h, lastLine_snoc]

/-- a span is only ever reported together with its own start line -/
theorem fold_span_line : ∀ (A : List Add) (aL : Option Nat) (aS : Option Span),
    (∀ sp, aS = some sp → aL = some sp.startLine) →
    ∀ sp, A.foldl spanStep aS = some sp → A.foldl lineStep aL = some sp.startLine := by
  intro A
  induction A with
  | nil => intro aL aS h sp hs; exact h sp hs
  | cons op A ih =>
    intro aL aS h sp hs
    simp only [List.foldl_cons] at hs ⊢
    refine ih _ _ ?_ sp hs
    intro sp' h'
    cases op with
    | plain => exact h sp' h'
    | withLine l => simp [spanStep] at h'
    | withSpan s =>
      simp only [spanStep, Span.nonDefault] at h'
      split at h'
      · cases h'; rfl
      · cases h'

theorem spanSpec_line (A : List Add) (i : Nat) (sp : Span) (h : spanSpec A i = some sp) :
    lineSpec A i = some sp.startLine :=
  fold_span_line (A.take (i + 1)) none none (fun _ h => nomatch h) sp h

/-- the run that contains instruction `i`: the last one that starts at or before `i` -/
def runOf {α : Type} (first : α → Nat) (tbl : List α) (i : Nat) : Option α :=
  (tbl.filter (first · ≤ i)).getLast?

theorem binarySearch_cons (k : Nat) (ks : List Nat) (i : Nat) :
    binarySearch (k :: ks) i =
      if k < i then
        match binarySearch ks i with
        | .ok j => .ok (j + 1)
        | .error j => .error (j + 1)
      else if k = i then .ok 0 else .error 0 := by
  unfold binarySearch
  by_cases h : k < i
  · simp only [List.takeWhile_cons, h, decide_true, if_true, List.length_cons, List.getElem?_cons_succ]
    split <;> rfl
  · simp [h]

theorem lookupRun_cons {α : Type} (first : α → Nat) (x : α) (tbl : List α) (i : Nat) :
    lookupRun first (x :: tbl) i =
      if first x < i then
        match lookupRun first tbl i with
        | .ok r => .ok (r.or (some x))
        | .panic => .panic
      else .ok (if first x = i then some x else none) := by
  unfold lookupRun
  rw [List.map_cons, binarySearch_cons]
  by_cases h : first x < i
  · rw [if_pos h, if_pos h]
    have hidx : ∀ j, Chk.index (x :: tbl) (j + 1) = Chk.index tbl j := fun _ => rfl
    cases binarySearch (tbl.map first) i with
    | ok j => dsimp only; rw [hidx]; cases Chk.index tbl j <;> rfl
    | error j =>
      cases j with
      | zero => rfl
      | succ j => dsimp only; rw [hidx]; cases Chk.index tbl j <;> rfl
  · rw [if_neg h, if_neg h]
    by_cases he : first x = i
    · rw [if_pos he, if_pos he]; rfl
    · rw [if_neg he, if_neg he]

theorem lookupRun_eq {α : Type} (first : α → Nat) (tbl : List α) (i : Nat)
    (h : (tbl.map first).Pairwise (· < ·)) : lookupRun first tbl i = .ok (runOf first tbl i) := by
  induction tbl with
  | nil => rfl
  | cons x tbl ih =>
    rw [List.map_cons, List.pairwise_cons] at h
    rw [lookupRun_cons, ih h.2]
    -- sorted: no run after `x` starts at or before `first x`
    have hgt : ∀ j, j ≤ first x → tbl.filter (first · ≤ j) = [] := fun j hj =>
      List.filter_eq_nil_iff.mpr fun y hy => by
        have := h.1 _ (List.mem_map_of_mem hy); simp; omega
    unfold runOf
    by_cases hlt : first x < i
    · rw [if_pos hlt, List.filter_cons_of_pos (by simp; omega), List.getLast?_cons]
      cases (tbl.filter (first · ≤ i)).getLast? <;> rfl
    · rw [if_neg hlt]
      by_cases he : first x = i
      · rw [if_pos he, List.filter_cons_of_pos (by simp; omega), hgt i (by omega)]; rfl
      · rw [if_neg he, List.filter_cons_of_neg (by simp; omega), hgt i (by omega)]; rfl

theorem runOf_beyond {α : Type} (first : α → Nat) {tbl : List α} {n i : Nat} (hs : ∀ k ∈ tbl.map first, k < n)
    (hi : n ≤ i) : runOf first tbl i = tbl.getLast? := by
  unfold runOf
  rw [List.filter_eq_self.mpr fun y hy => by have := hs _ (List.mem_map_of_mem hy); simp; omega]

def SortedBelow (keys : List Nat) (n : Nat) : Prop := keys.Pairwise (· < ·) ∧ ∀ k ∈ keys, k < n

theorem SortedBelow.nil (n : Nat) : SortedBelow [] n := ⟨List.Pairwise.nil, by simp⟩

theorem SortedBelow.mono {keys : List Nat} {n m : Nat} (h : SortedBelow keys n) (hm : n ≤ m) :
    SortedBelow keys m := ⟨h.1, fun k hk => Nat.lt_of_lt_of_le (h.2 k hk) hm⟩

theorem SortedBelow.snoc {keys : List Nat} {n : Nat} (h : SortedBelow keys n) :
    SortedBelow (keys ++ [n]) (n + 1) := by
  refine ⟨List.pairwise_append.mpr ⟨h.1, List.pairwise_singleton _ _, ?_⟩, ?_⟩
  · intro a ha b hb
    simp at hb; subst hb; exact h.2 a ha
  · intro k hk
    simp at hk
    rcases hk with hk | hk
    · have := h.2 k hk; omega
    · omega

/-- one "maybe push an entry for instruction `n`" step on a table whose keys are sorted below `n`: the keys stay sorted,
    the runs below `n` stay, from `n` on the last run answers -/
theorem runOf_step {α : Type} (first : α → Nat) {tbl tbl' : List α} {n : Nat} {x : α}
    (hs : SortedBelow (tbl.map first) n) (hx : first x = n) (hcase : tbl' = tbl ∨ tbl' = tbl ++ [x]) :
    SortedBelow (tbl'.map first) (n + 1) ∧
      ∀ i, runOf first tbl' i = if i < n then runOf first tbl i else tbl'.getLast? := by
  rcases hcase with rfl | rfl
  · refine ⟨hs.mono (Nat.le_succ n), fun i => ?_⟩
    split
    · rfl
    · exact runOf_beyond first hs.2 (by omega)
  · refine ⟨by rw [List.map_append, List.map_singleton, hx]; exact hs.snoc, fun i => ?_⟩
    unfold runOf
    rw [List.filter_append]
    split
    · rw [List.filter_cons_of_neg (by simp; omega)]; simp
    · rw [List.filter_cons_of_pos (by simp; omega)]; simp

/-- the span the last run of the table stands for (a run of `Span::default()` stands for none) -/
def normLast (tbl : List SpanInfo) : Option Span := tbl.getLast?.bind fun x => x.span.nonDefault

structure Inv (ops : List Add) (s : Instrs) : Prop where
  len : s.len = ops.length
  lsorted : SortedBelow (s.lineInfos.map LineInfo.first) s.len
  ssorted : SortedBelow (s.spanInfos.map SpanInfo.first) s.len
  lget : ∀ i, (runOf LineInfo.first s.lineInfos i).map LineInfo.line = lineSpec ops i
  sget : ∀ i, ((runOf SpanInfo.first s.spanInfos i).bind fun x => x.span.nonDefault) = spanSpec ops i

theorem Inv.getLine {ops : List Add} {s : Instrs} (h : Inv ops s) (i : Nat) : s.getLine i = .ok (lineSpec ops i) := by
  unfold Instrs.getLine
  rw [lookupRun_eq _ _ _ h.lsorted.1, ← h.lget]
  cases runOf LineInfo.first s.lineInfos i <;> rfl

theorem Inv.getSpan {ops : List Add} {s : Instrs} (h : Inv ops s) (i : Nat) : s.getSpan i = .ok (spanSpec ops i) := by
  unfold Instrs.getSpan
  rw [lookupRun_eq _ _ _ h.ssorted.1, ← h.sget]
  cases runOf SpanInfo.first s.spanInfos i <;> rfl

theorem Inv.empty : Inv [] Instrs.empty :=
  ⟨rfl, SortedBelow.nil _, SortedBelow.nil _, fun _ => rfl, fun _ => rfl⟩

theorem Inv.llast {ops : List Add} {s : Instrs} (h : Inv ops s) : (s.lineInfos.getLast?).map LineInfo.line = lastLine ops := by
  rw [← runOf_beyond _ h.lsorted.2 (Nat.le_refl _), h.lget, lineSpec_ge _ _ (by rw [h.len]; omega)]

theorem Inv.slast {ops : List Add} {s : Instrs} (h : Inv ops s) : normLast s.spanInfos = lastSpan ops := by
  rw [normLast, ← runOf_beyond _ h.ssorted.2 (Nat.le_refl _), h.sget, spanSpec_ge _ _ (by rw [h.len]; omega)]

theorem lineRecord_facts (s s1 : Instrs) (l : Nat) (hs1 : s1.lineInfos = s.lineInfos) :
    ((s1.addLineRecord s.len l).lineInfos = s.lineInfos ∨
      (s1.addLineRecord s.len l).lineInfos = s.lineInfos ++ [⟨s.len, l⟩]) ∧
    ((s1.addLineRecord s.len l).lineInfos.getLast?).map LineInfo.line = some l ∧
    (s1.addLineRecord s.len l).len = s1.len ∧ (s1.addLineRecord s.len l).spanInfos = s1.spanInfos := by
  unfold Instrs.addLineRecord
  rw [hs1]
  cases hlast : s.lineInfos.getLast? with
  | none => simp
  | some y =>
    simp only []
    by_cases hy : y.line = l
    · simp [hy, hs1, hlast]
    · simp [hy]

/-- the span-table part of `add_with_line` -/
def clearSpan (sb : Instrs) (rv : Nat) : Instrs :=
  if (match sb.spanInfos.getLast? with
      | some x => x.span != Span.default
      | none => false) then { sb with spanInfos := sb.spanInfos ++ [⟨rv, Span.default⟩] } else sb

/-- the span-table part of `add_with_span` -/
def recordSpan (sa : Instrs) (rv : Nat) (sp : Span) : Instrs :=
  if (match sa.spanInfos.getLast? with
      | some x => x.span == sp
      | none => false) then sa else { sa with spanInfos := sa.spanInfos ++ [⟨rv, sp⟩] }

theorem addWithLine_eq (s : Instrs) (l : Nat) :
    (s.addWithLine l).1 = clearSpan ((s.add.1).addLineRecord (asU32 s.len) l) (asU32 s.len) := rfl

theorem addWithSpan_eq (s : Instrs) (sp : Span) :
    (s.addWithSpan sp).1 = (recordSpan s.add.1 (asU32 s.len) sp).addLineRecord (asU32 s.len) sp.startLine := rfl

theorem nonDefault_default : Span.default.nonDefault = none := by decide

theorem clearSpan_facts (s sb : Instrs) (hsb : sb.spanInfos = s.spanInfos) :
    ((clearSpan sb s.len).spanInfos = s.spanInfos ∨
      (clearSpan sb s.len).spanInfos = s.spanInfos ++ [⟨s.len, Span.default⟩]) ∧
    normLast (clearSpan sb s.len).spanInfos = none ∧
    (clearSpan sb s.len).len = sb.len ∧ (clearSpan sb s.len).lineInfos = sb.lineInfos := by
  unfold clearSpan
  rw [hsb]
  cases hlast : s.spanInfos.getLast? with
  | none => simp [hsb, normLast, hlast]
  | some y =>
    simp only []
    by_cases hy : y.span = Span.default
    · simp [hy, hsb, normLast, hlast, nonDefault_default]
    · simp [hy, normLast, nonDefault_default]

theorem recordSpan_facts (s sa : Instrs) (sp : Span) (hsa : sa.spanInfos = s.spanInfos) :
    ((recordSpan sa s.len sp).spanInfos = s.spanInfos ∨
      (recordSpan sa s.len sp).spanInfos = s.spanInfos ++ [⟨s.len, sp⟩]) ∧
    normLast (recordSpan sa s.len sp).spanInfos = sp.nonDefault ∧
    (recordSpan sa s.len sp).len = sa.len ∧ (recordSpan sa s.len sp).lineInfos = sa.lineInfos := by
  unfold recordSpan
  rw [hsa]
  cases hlast : s.spanInfos.getLast? with
  | none => simp [normLast]
  | some y =>
    simp only []
    by_cases hy : y.span = sp
    · simp [hy, hsa, normLast, hlast]
    · simp [hy, normLast]

theorem Inv.step {ops : List Add} {s s' : Instrs} {op : Add} (h : Inv ops s) (hlen : s'.len = s.len + 1)
    {xl : LineInfo} (hxl : xl.first = s.len) (hlc : s'.lineInfos = s.lineInfos ∨ s'.lineInfos = s.lineInfos ++ [xl])
    (hll : (s'.lineInfos.getLast?).map LineInfo.line = lineStep (lastLine ops) op)
    {xs : SpanInfo} (hxs : xs.first = s.len) (hsc : s'.spanInfos = s.spanInfos ∨ s'.spanInfos = s.spanInfos ++ [xs])
    (hsl : normLast s'.spanInfos = spanStep (lastSpan ops) op) : Inv (ops ++ [op]) s' := by
  obtain ⟨ls, lr⟩ := runOf_step _ h.lsorted hxl hlc
  obtain ⟨ss, sr⟩ := runOf_step _ h.ssorted hxs hsc
  refine ⟨by rw [hlen, h.len, List.length_append]; rfl, hlen ▸ ls, hlen ▸ ss, fun i => ?_, fun i => ?_⟩
  · rw [lr, lineSpec, lastLine, foldl_take_snoc, ← h.len]
    split
    · exact h.lget i
    · exact hll
  · rw [sr, spanSpec, lastSpan, foldl_take_snoc, ← h.len]
    split
    · exact h.sget i
    · exact hsl

theorem inv_step (ops : List Add) (s : Instrs) (op : Add) (h : Inv ops s) (hlen : ops.length < 4294967296) :
    Inv (ops ++ [op]) (s.apply op) := by
  have hrv : asU32 s.len = s.len := Nat.mod_eq_of_lt (by rw [h.len]; exact hlen)
  cases op with
  | plain =>
    exact h.step rfl (xl := ⟨s.len, 0⟩) rfl (Or.inl rfl) h.llast (xs := ⟨s.len, Span.default⟩) rfl (Or.inl rfl) h.slast
  | withLine l =>
    obtain ⟨hcase, hlast, hlen', hspan'⟩ := lineRecord_facts s (s.add.1) l rfl
    obtain ⟨scase, slast, slen', sline'⟩ := clearSpan_facts s ((s.add.1).addLineRecord s.len l) hspan'
    have hs' : s.apply (.withLine l) = clearSpan ((s.add.1).addLineRecord s.len l) s.len := by
      simp only [Instrs.apply, addWithLine_eq, hrv]
    rw [hs']
    exact h.step (by rw [slen', hlen']; rfl) rfl (by rw [sline']; exact hcase) (by rw [sline']; exact hlast) rfl scase slast
  | withSpan sp =>
    obtain ⟨scase, slast, slen', sline'⟩ := recordSpan_facts s (s.add.1) sp rfl
    obtain ⟨hcase, hlast, hlen', hspan'⟩ := lineRecord_facts s (recordSpan s.add.1 s.len sp) sp.startLine sline'
    have hs' : s.apply (.withSpan sp) = (recordSpan s.add.1 s.len sp).addLineRecord s.len sp.startLine := by
      simp only [Instrs.apply, addWithSpan_eq, hrv]
    rw [hs']
    exact h.step (by rw [hlen', slen']; rfl) rfl hcase hlast rfl (by rw [hspan']; exact scase) (by rw [hspan']; exact slast)

theorem addAll_snoc (A : List Add) (op : Add) : addAll (A ++ [op]) = (addAll A).apply op := by
  simp [addAll, List.foldl_append]

theorem inv_foldl (more : List Add) :
    ∀ (ops : List Add) (s : Instrs), Inv ops s → (ops ++ more).length < 4294967296 →
      Inv (ops ++ more) (more.foldl Instrs.apply s) := by
  induction more with
  | nil => intro ops s h _; simpa using h
  | cons op more ih =>
    intro ops s h hlen
    have h1 := inv_step ops s op h (by simp at hlen; omega)
    have := ih (ops ++ [op]) (s.apply op) h1 (by simpa using hlen)
    simpa using this

theorem inv_addAll (ops : List Add) (hlen : ops.length < 4294967296) : Inv ops (addAll ops) := by
  have := inv_foldl ops [] Instrs.empty Inv.empty (by simpa using hlen)
  simpa [addAll] using this

end MJ.Loc
