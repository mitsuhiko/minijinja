import MJ.Model.Blocks
/-!
# The frame stack: what `push`, `take`, `store`, `enclose` and `setTopClosure` do to its parts
-/
namespace MJ.Blocks

/-- every frame has its closure slot -/
def Vars.WF (v : Vars) : Prop := v.cls.length = v.stack.length

theorem push_WF (a : Vars) (fr : Frame) (h : a.WF) : (a.push [fr]).WF := by
  simp [Vars.WF, Vars.push] at *; exact h

@[simp] theorem push_length (fs : Vars) (l : List Frame) : (fs.push l).length = fs.length + l.length := by
  simp [Vars.push, Vars.length]

@[simp] theorem store_length (fs : Vars) (v : Nat) (x : Val) : (store fs v x).length = fs.length := by
  unfold store
  cases h : fs.stack.reverse with
  | nil => rfl
  | cons top below =>
    have : fs.stack.length = below.length + 1 := by
      have := congrArg List.length h; simpa using this
    simp [Vars.length, this]

@[simp] theorem setTopClosure_length (fs : Vars) (c : Option Nat) : (fs.setTopClosure c).length = fs.length := by
  unfold Vars.setTopClosure
  cases fs.cls.reverse <;> rfl

@[simp] theorem openClosure_length (fs : Vars) : fs.openClosure.length = fs.length := by
  unfold Vars.openClosure
  cases fs.topClosure with
  | some c => rfl
  | none => exact setTopClosure_length fs _

@[simp] theorem enclose_length (ctx : Frame) (fs : Vars) (w : Nat) : (enclose ctx fs w).length = fs.length := by
  unfold enclose
  simp only []
  split
  · exact openClosure_length fs
  · split <;> exact openClosure_length fs

@[simp] theorem Vars.length_take (fs : Vars) (n : Nat) : (fs.take n).length = min n fs.length := by
  simp [Vars.take, Vars.length, List.length_take]

theorem take_length_le (fs : Vars) (n : Nat) (h : n ≤ fs.length) : (fs.take n).length = n := by
  simp only [Vars.take, Vars.length, List.length_take] at *
  omega

@[simp] theorem macroCtx_length (fs : Vars) (a : Nat) (x : Val) : (fs.macroCtx a x).length = 2 := rfl

/-- `push_frame` passes `check_depth` -/
theorem pushFails_false_iff (outer : Nat) (fs : Vars) :
    pushFails outer fs = false ↔ outer + (fs.length + 1) ≤ LIMIT := by
  simp only [pushFails, decide_eq_false_iff_not]; omega

theorem store_push (base : Vars) (fr : Frame) (v : Nat) (x : Val) :
    store (base.push [fr]) v x = base.push [(v, x) :: fr] := by
  cases base
  simp [store, closureWrite, Vars.push, Vars.topClosure]

theorem topFrame_push (base : Vars) (fr : Frame) : topFrame (base.push [fr]) = fr := by
  simp [topFrame, Vars.push]

theorem setTopClosure_push (base : Vars) (fr : Frame) :
    (base.push [fr]).setTopClosure none = base.push [fr] := by
  cases base
  simp [Vars.setTopClosure, Vars.push]

theorem topClosure_push (base : Vars) (fr : Frame) : (base.push [fr]).topClosure = none := by
  simp [Vars.topClosure, Vars.push]

theorem take_push_self (base : Vars) (fr : Frame) (h : base.WF) :
    (base.push [fr]).take (base.length + 1) = base.push [fr] := by
  cases base
  simp only [Vars.WF] at h
  simp only [Vars.take, Vars.push, Vars.length, List.map_cons, List.map_nil]
  congr 1
  · apply List.take_of_length_le; simp
  · apply List.take_of_length_le; simp [h]

theorem take_push (base : Vars) (fr : Frame) (h : base.WF) :
    (base.push [fr]).take base.length = base := by
  cases base
  simp only [Vars.WF] at h
  simp [Vars.take, Vars.push, Vars.length, ← h]

theorem take_self (b : Vars) (n : Nat) (h1 : b.stack.length = n) (h2 : b.cls.length = n) :
    b.take n = b := by
  cases b with
  | mk s c hp =>
    simp only [Vars.take]
    simp at h1 h2
    rw [List.take_of_length_le (by omega), List.take_of_length_le (by omega)]

theorem setTopClosure_stack (a : Vars) (c : Option Nat) : (a.setTopClosure c).stack = a.stack := by
  unfold Vars.setTopClosure; cases a.cls.reverse <;> rfl

theorem setTopClosure_heap (a : Vars) (c : Option Nat) : (a.setTopClosure c).heap = a.heap := by
  unfold Vars.setTopClosure; cases a.cls.reverse <;> rfl

theorem topClosure_setTopClosure (a : Vars) (c : Option Nat) (h : a.cls ≠ []) :
    (a.setTopClosure c).topClosure = c := by
  unfold Vars.setTopClosure Vars.topClosure
  cases hr : a.cls.reverse with
  | nil => simp at hr; exact absurd hr h
  | cons x xs => simp

theorem topClosure_setTopClosure_nil (a : Vars) (c : Option Nat) (h : a.cls = []) :
    (a.setTopClosure c).topClosure = none := by
  unfold Vars.setTopClosure Vars.topClosure
  simp [h]

theorem load_setTopClosure (ctx : Frame) (fs : Vars) (c : Option Nat) (v : Nat) :
    load ctx (fs.setTopClosure c) v = load ctx fs v := by
  unfold load
  rw [setTopClosure_stack]

theorem setTopClosure_roundtrip (a : Vars) (h : a.WF) :
    ((a.setTopClosure none).take a.length).setTopClosure a.topClosure = a := by
  obtain ⟨stack, cls, heap⟩ := a
  simp only [Vars.WF] at h
  rcases List.eq_nil_or_concat cls with rfl | ⟨xs, x, rfl⟩
  · have : stack = [] := List.eq_nil_of_length_eq_zero (by simpa using h.symm)
    subst this
    rfl
  · have h' : stack.length = xs.length + 1 := by simpa using h.symm
    have t1 : List.take (xs.length + 1) (xs ++ [none]) = xs ++ [(none : Option Nat)] :=
      List.take_of_length_le (by simp)
    have t2 : List.take (xs.length + 1) stack = stack := List.take_of_length_le (by omega)
    simp [Vars.setTopClosure, Vars.take, Vars.topClosure, Vars.length, h', t1, t2]

theorem modAt_length (l : List Frame) (i : Nat) (f : Frame → Frame) : (modAt l i f).length = l.length := by
  induction l generalizing i with
  | nil => rfl
  | cons x rest ih => cases i <;> simp [modAt, ih]

theorem modAt_get_ne (l : List Frame) (i j : Nat) (f : Frame → Frame) (h : j ≠ i) :
    (modAt l i f)[j]? = l[j]? := by
  induction l generalizing i j with
  | nil => rfl
  | cons x rest ih =>
    cases i with
    | zero => cases j with
      | zero => exact absurd rfl h
      | succ j => simp [modAt]
    | succ i => cases j with
      | zero => simp [modAt]
      | succ j => simp [modAt]; exact ih i j (by omega)

/-- `Context::store` writes through to the closure of the frame on top, and to no other -/
theorem closureWrite_other (a : Vars) (v : Nat) (x : Val) (i : Nat)
    (hi : ∀ c, a.topClosure = some c → i ≠ c) : (closureWrite a v x)[i]? = a.heap[i]? := by
  unfold closureWrite
  cases hc : a.topClosure with
  | none => rfl
  | some c => exact modAt_get_ne _ _ _ _ (hi c hc)

theorem closureWrite_length (a : Vars) (v : Nat) (x : Val) : (closureWrite a v x).length = a.heap.length := by
  unfold closureWrite
  cases a.topClosure <;> simp [modAt_length]

end MJ.Blocks
