import MJ.Model.FuelProg
import MJ.Proofs.Fuel
/-! `costOf n ≤ 1` follows from a check of the table's rows, which stays a hypothesis here
    (`costOf_le_one`); a call tree whose activations all share runs like its erasure (`runTreeP_share`);
    `cost` computes the total of the trace `exec` builds (`cost_eq`), because `chainN` is `chain` on
    totals (`chain_total`). -/
namespace MJ.Fuel
open Tracker

theorem lookup_le_one (l : List (String × Nat)) (h : l.all (fun r => r.2 ≤ 1) = true) (n : String) (c : Nat)
    (hl : l.lookup n = some c) : c ≤ 1 := by
  obtain ⟨l₁, l₂, rfl, _⟩ := List.lookup_eq_some_iff.mp hl
  simpa using List.all_eq_true.mp h (n, c) (List.mem_append_right _ List.mem_cons_self)

theorem costOf_le_one (hT : MJ.Gen.fuelCosts.all (fun r => r.2 ≤ 1) = true) (hD : MJ.Gen.fuelCostDefault ≤ 1) (n : String) :
    costOf n ≤ 1 := by
  unfold costOf
  split
  · next c hc => exact lookup_le_one _ hT n c hc
  · exact hD

theorem total_le_length (hc : ∀ n, costOf n ≤ 1) (trace : List String) : total trace ≤ trace.length := by
  induction trace with
  | nil => simp [total]
  | cons i rest ih =>
    have := hc i
    simp only [total, List.length_cons]
    omega

theorem runTreeP_share (t : Tracker) (e : PEvs) (h : e.allShare = true) : runTreeP t e = runTree t e.erase := by
  induction e generalizing t with
  | nil => rfl
  | instr n r ih =>
    simp only [PEvs.allShare] at h
    simp only [runTreeP, PEvs.erase, runTree]
    cases t.track (costOf n) with
    | outOfFuel t' => rfl
    | ok t' => simp only [ih t' h]
  | call n pol sub r ihs ihr =>
    simp only [PEvs.allShare, Bool.and_eq_true, beq_iff_eq] at h
    obtain ⟨⟨hp, hs⟩, hr⟩ := h
    subst hp
    simp only [runTreeP, PEvs.erase, runTree]
    cases t.track (costOf n) with
    | outOfFuel t' => rfl
    | ok t' =>
      simp only [ihs t' hs]
      cases (runTree t' sub.erase).status with
      | outOfFuel => rfl
      | done => simp only [ihr _ hr]

theorem chain_total (l : List (List String × Bool)) :
    chainN (l.map fun x => (total x.1, x.2)) = (total (chain l).1, (chain l).2) := by
  induction l with
  | nil => simp [chain, chainN, total]
  | cons x rest ih =>
    obtain ⟨t, b⟩ := x
    cases b with
    | false => simp [chain, chainN]
    | true =>
      simp only [List.map_cons, chainN, chain, ih, total_append]

theorem cost_eq (c : Ctx) (path : List Nat) (p : P) :
    cost c path p = (total (exec c path p).1, (exec c path p).2) := by
  induction p generalizing path with
  | skip => simp [cost, exec, total]
  | instr n => simp [cost, exec, total]
  | mayFail n id => simp [cost, exec, total]
  | seq a b iha ihb =>
    simp only [cost, exec]
    rw [← chain_total]
    simp only [List.map_cons, List.map_nil, iha, ihb]
  | loop id head iter body back exit ih =>
    simp only [cost, exec]
    rw [← chain_total]
    simp only [List.map_cons, List.map_append, List.map_map, List.map_nil]
    congr 2
    congr 1
    apply List.map_congr_left
    intro i _
    simp only [Function.comp]
    rw [← chain_total]
    simp only [List.map_cons, List.map_nil, ih]
  | branch id a b iha ihb =>
    simp only [cost, exec]
    split
    · exact iha path
    · exact ihb path

theorem afterP_cost (c : Ctx) (path : List Nat) (l : List String) : cost c path (afterP l) = (total l, true) := by
  induction l with
  | nil => simp [afterP, cost, total]
  | cons i rest ih => simp [afterP, cost, chainN, ih, total]

theorem chainN_map_uniform {α : Type} (l : List α) (f : α → Nat × Bool) (k : Nat) (h : ∀ a ∈ l, f a = (k, true))
    (rest : List (Nat × Bool)) :
    chainN (l.map f ++ rest) = (l.length * k + (chainN rest).1, (chainN rest).2) := by
  induction l with
  | nil => simp
  | cons x xs ih =>
    simp only [List.map_cons, List.cons_append, h x List.mem_cons_self, chainN,
      ih fun a ha => h a (List.mem_cons_of_mem _ ha), List.length_cons, Nat.succ_mul]
    congr 1
    omega

end MJ.Fuel
