import MJ.Proofs.StmtDone
/-!
# `for` loops compile correctly (C03)

`sim_iters_step`: the iterations of the main loop (`SimIters`), one item by `sim_loop_item`; `sim_for_iter`: the code in
front of the main loop leaves a value that iterates to the items the reference semantics walks — with a loop filter this
is the collecting loop `sim_filter_iters`, whose tail is the `Seg` term `seg_filter_count`; `sim_for` puts them together
with the `else` branch.
-/
namespace MJ.Vm
open MJ.Eval MJ.Compile MJ.C03

theorem loopVal_not_macro (info : LoopInfo) : ∀ n p d b u env, loopVal info ≠ .macro n p d b u env := by
  intro n p d b u env h; simp [loopVal] at h

/-- the cell of a fresh iteration against the loop frame after `Iterate` -/
theorem loop_cell0_agrees (K : Cfg) (G : Ghost) (cls : List Scope) (hb : Nat) (f : Frame) (l' : LoopSt) (info : LoopInfo)
    (hloc : f.locals = []) (hl : f.loop = some l') (hw : l'.withLoopVar = true) (hi : l'.info = info) :
    ∀ z, OptAgree K G cls hb z (assocGet z [("loop", loopVal info)]) (frameLocal f z) := by
  intro z
  have : frameLocal f z = assocGet z [("loop", loopVal info)] := by
    by_cases hz : z = "loop"
    · subst hz; simp [assocGet, frameLocal, hloc, hl, hw, hi]
    · have h1 : ¬ ("loop" = z) := fun h => hz h.symm
      simp [assocGet, frameLocal, hloc, hl, h1, hw, hz]
  rw [this]
  refine OptAgree_same (fun w hw' => ?_)
  by_cases hz : "loop" = z
  · simp [assocGet, hz] at hw'; subst hw'; exact loopVal_not_macro info
  · simp [assocGet, hz] at hw'

theorem frames_of_sig {fs2 fs : List Frame} {l : Option LoopSt} {cc : Option Nat} (ht : fs2.tail = fs)
    (hh : fs2.head?.map Frame.sig = some (l, cc)) : ∃ f, fs2 = f :: fs ∧ f.loop = l ∧ f.closureCtx = cc := by
  cases fs2 with
  | nil => simp at hh
  | cons f rest =>
    simp [Frame.sig] at ht hh
    exact ⟨f, by rw [ht], hh.1, hh.2⟩

/-- one item of a loop, once `Iterate` has pushed it and emptied the loop frame `f1` (on top of the frames of
`s0`): it is assigned to the target in a fresh cell `cell0` that agrees with `f1`.  The loop frame owns no
closure at this point, so the closures that exist are only extended. -/
theorem sim_loop_item (X : SC) {G : Ghost} {σ : State} {loc : List Nat} {t : Target} {y : Val} {bs : List (String × Val)}
    {cell0 : Scope} {f1 : Frame} {s0 s1 : VmState} {st : List Val} {tp : Nat}
    (hbs : bindTarget t y = .ok bs) (hto : targetOk X.K.M t = true) (hpy : plain y = true) (hne : loc ≠ [])
    (hrel : Rel X.K G X.P X.clo σ loc X.env s0)
    (hfr : s1.frames = f1 :: s0.frames) (hc : s1.closures = s0.closures) (ho : s1.outs = s0.outs)
    (hcl : f1.closure = none) (hcc : f1.closureCtx = none)
    (hag : ∀ x, OptAgree X.K G s0.closures (σ.heap.length + 1) x (assocGet x cell0) (frameLocal f1 x))
    (hpl : ∀ x v, x ∉ X.K.M → assocGet x cell0 = some v → plain v = true)
    (hTg : At X.K.C tp (relTarget t)) (hpc : s1.pc = tp) (hst : s1.stack = y :: st) :
    ∃ s2 G2 f2, Reach X.K.ctx X.K.C s1 s2 ∧ s2.pc = tp + (relTarget t).length ∧ s2.stack = st ∧
      Rel X.K G2 X.P X.clo { σ with heap := σ.heap ++ [setAll cell0 bs] } (σ.heap.length :: loc) X.env s2 ∧
      s2.outs = s1.outs ∧ s2.frames = f2 :: s0.frames ∧ f2.loop = f1.loop ∧ f2.closureCtx = none ∧
      Ext s1.closures s2.closures ∧
      (topClosure s2.frames = none ∨ ∃ c, topClosure s2.frames = some c ∧ s1.closures.length ≤ c) ∧
      ∀ A, ABound σ.heap loc A → ABound (σ.heap ++ [setAll cell0 bs]) (σ.heap.length :: loc) (A ++ targetNames t) := by
  have htop1 : topClosure s1.frames = none := by rw [hfr]; exact hcl
  have hrel1 := hrel.push hne cell0 f1 hcl hcc hag hpl s1 hfr hc ho
  obtain ⟨s2, G2, r2, hpc2, hst2, hrel2, hout2, htl2, hhd2, hcp2, hhc2⟩ :=
    (sim_target X t y bs hbs hto hpy G tp s1 st _ σ.heap.length loc hTg hpc hst hrel1).stored hrel1 rfl
  simp only [heapSetAll_last] at hrel2
  obtain ⟨f2, hf2, hl2, hcc2⟩ := frames_of_sig (fs2 := s2.frames) (l := f1.loop) (cc := none) (by rw [htl2, hfr])
    (hhd2.trans (by rw [hfr]; simp [Frame.sig, hcc]))
  refine ⟨s2, G2, f2, r2, hpc2, hst2, hrel2, hout2, hf2, hl2, hcc2, hcp2.ext_of_none htop1, ?_, fun A hA => ?_⟩
  · rcases hhc2 with h | ⟨_, c, hc', hle⟩
    · exact Or.inl (h.trans htop1)
    · exact Or.inr ⟨c, hc', hle⟩
  · refine (hA.push _ (fun id hid => hrel.1.bound id (by simp [hid]))).append
      (ABound.of_cell fun x hx => ⟨setAll cell0 bs, by simp, setAll_bound bs _ x (Or.inr ?_)⟩)
    rw [bindTarget_names t y bs hbs]; exact hx

theorem sim_iters_step {n} (ihB : SimBlock n) (ihI : SimIters n) : SimIters (n + 1) := by
  intro X G σ loc σ' t body xs len idx prev hev A hsb hto hA hne hpx hpp iterPc endPc a s l f0 fs hIt hTg hAt hoof hJ
    hpc hfr hl0 hcc0 hwl hlen hcalls hcur hrest hrel
  cases xs with
  | nil =>
    simp [loopInfosFrom, execIters] at hev; subst hev
    exact ⟨{ s with pc := endPc }, Reach.one (i := .iterate endPc) (by rw [hpc]; exact hIt) (step_iterate_top_done hfr hl0 hrest), rfl, rfl,
      by simp [hfr], hrel.2, rfl, ⟨l, f0, by simp [hfr], hl0, by simp⟩, Ext.refl _⟩
  | cons y ys =>
    simp only [loopInfosFrom, List.zip_cons_cons] at hev
    obtain ⟨bs, σ2, fl, hbs, hbody, hev⟩ := execIters_cons_ok hev
    let l' : LoopSt := { l with calls := l.calls + 1, iterated := true, prev := l.cur, cur := some y, rest := ys }
    let info : LoopInfo := { index0 := idx, length := len, prev := prev, next := ys.head? }
    let f1 : Frame := { f0 with locals := [], loop := some l', closure := none }
    -- Iterate: the item is pushed, the frame's locals are cleared, its closure is dropped
    let s1 : VmState := { s with pc := iterPc + 1, stack := y :: s.stack, frames := f1 :: fs }
    have hreach1 : Reach X.K.ctx X.K.C s s1 :=
      Reach.one (i := .iterate endPc) (by rw [hpc]; exact hIt) (by rw [step_iterate_top_next hfr hl0 hrest, hpc])
    have hinfo : l'.info = info := by simp [LoopSt.info, l', info, hcalls, hlen, hcur]
    obtain ⟨s2, G2, f2, r2, hpc2, hst2, hrel2, hout2, hf2, hl2, hcc2, hx12, htop2, hAb⟩ :=
      sim_loop_item X (cell0 := [("loop", loopVal info)]) (f1 := f1) (s1 := s1) (st := s.stack) hbs hto (hpx y (by simp)) hne hrel
        rfl rfl rfl rfl hcc0 (loop_cell0_agrees X.K G _ _ f1 l' info rfl rfl hwl hinfo)
        (by intro z v _ hz
            simp only [assocGet] at hz
            split at hz
            · cases hz
              exact loopVal_plain info hpp (fun v hv => hpx v (List.mem_cons_of_mem _ (List.mem_of_mem_head? hv)))
            · cases hz) hTg rfl rfl
    have hx12 : Ext s.closures s2.closures := hx12
    have htop2 : topClosure s2.frames = none ∨ ∃ c, topClosure s2.frames = some c ∧ s.closures.length ≤ c := htop2
    have hA2 : ABound (σ.heap ++ [setAll [("loop", loopVal info)] bs]) (σ.heap.length :: loc) (A ++ targetNames t ++ ["loop"]) := by
      refine (hAb A hA).append
        (ABound.of_cell (fun x hx => ⟨setAll [("loop", loopVal info)] bs, by simp, setAll_bound bs _ x (Or.inl ?_)⟩))
      simp at hx; subst hx; simp [assocGet]
    have hcap2 : ∀ l0, (some ⟨iterPc, endPc, []⟩ : Option LoopCtx) = some l0 → nCap l0.scopes < s2.outs.length := by
      intro l0 hl0'
      cases hl0'
      obtain ⟨r, hr⟩ := hrel2.2
      simp [nCap, hr]
    have pb := ihB X body G2 _ (σ.heap.length :: loc) σ2 fl hbody (A ++ targetNames t ++ ["loop"])
      (some ⟨iterPc, endPc, []⟩) hsb hA2 (by simp) (iterPc + 1 + (relTarget t).length) a s2 hAt hoof hpc2 hrel2 hcap2
    have htake : σ2.heap.take σ.heap.length = σ.heap := take_of_frame _ _ _ _ (execBlock_frame hbody)
    -- the state of the VM after the body: at the `Iterate` again, or behind the loop
    have hafter : ∃ s3, Reach X.K.ctx X.K.C s2 s3 ∧ s3.pc = (if fl = .brk then endPc else iterPc) ∧ s3.stack = s2.stack ∧
        s3.frames.tail = s2.frames.tail ∧ s3.frames.head?.map Frame.sig = s2.frames.head?.map Frame.sig ∧
        s3.outs = σ2.out :: s2.outs.tail ∧
        (∀ c, c < s2.closures.length → topClosure s2.frames ≠ some c → s3.closures[c]? = s2.closures[c]?) := by
      by_cases hfl : fl = .normal
      · subst hfl
        obtain ⟨s3, G3, r3, hpc3, hst3, hrel3, hout3, htl3, hhd3, hcp3, hhc3⟩ := Post.normal.1 pb
        obtain ⟨r3out, hr3⟩ := hrel3.2
        refine ⟨{ s3 with pc := iterPc }, r3.trans (Reach.one' (i := .jump iterPc) _ hJ hpc3 rfl),
          by simp, hst3, htl3, hhd3, ?_, hcp3.2.2⟩
        simp only [← hout3, hr3]; rfl
      · obtain ⟨l0, hl0', s3, r3, hpc3, hst3, htl3, hhd3, hout3, hlen3, hun3⟩ := (Post.not_normal hfl).1 pb
        cases hl0'
        refine ⟨s3, r3, ?_, hst3, by simpa [nWith] using htl3, by simpa [nWith] using hhd3, by simpa [nCap] using hout3,
          fun c hc hne' => hun3 c hc ?_⟩
        · rw [hpc3]
          cases fl <;> simp [jumpTarget] at hfl ⊢
        · intro f hf
          simp only [nWith, Nat.zero_add] at hf
          cases hs2 : s2.frames with
          | nil => rw [hs2] at hf; simp at hf
          | cons g rest =>
            rw [hs2] at hf hne'
            simp at hf; subst hf
            simpa [topClosure] using hne'
    obtain ⟨s3, r3, hpc3, hst3, htl3, hhd3, hout3, hun3⟩ := hafter
    -- the old closures are untouched: the loop frame owned none when the iteration started
    have hx13 : Ext s.closures s3.closures := by
      obtain ⟨e12, he12⟩ := hx12
      have hl12 : s.closures.length ≤ s2.closures.length := by rw [he12]; simp
      refine Ext.of_getElem? fun i hi => ?_
      have hne2 : topClosure s2.frames ≠ some i := by
        rcases htop2 with h | ⟨c, hc, hle⟩
        · rw [h]; simp
        · rw [hc]; intro e; cases e; omega
      rw [hun3 i (Nat.lt_of_lt_of_le hi hl12) hne2, he12, List.getElem?_append_left hi]
    obtain ⟨f3, hf3, hl3, hcc3⟩ := frames_of_sig (fs2 := s3.frames) (l := some l') (cc := none) (by rw [htl3, hf2])
      (hhd3.trans (by rw [hf2]; simp [Frame.sig, hl2, hcc2, f1]))
    by_cases hbrk : fl = .brk
    · -- `break`: the walk ends here
      subst hbrk
      rw [if_pos rfl] at hev
      subst hev
      simp only [if_true] at hpc3
      refine ⟨s3, hreach1.trans (r2.trans r3), hpc3, ?_, by rw [hf3]; rfl, ⟨_, hout3⟩, ?_,
        ⟨l', f3, by rw [hf3]; rfl, hl3, by simp [l']⟩, hx13⟩
      · rw [hst3, hst2]
      · rw [hout3]; simp only [List.tail_cons]; rw [hout2]
    · have hev' : execIters n X.K.ctx (loc ++ X.env) { heap := σ.heap, out := σ2.out } t body
          (ys.zip (loopInfosFrom len (idx + 1) (some y) ys)) = .ok σ' := by
        rw [← htake]
        rw [if_neg hbrk] at hev
        exact hev
      simp only [hbrk, if_false] at hpc3
      have hrel3 : Rel X.K G X.P X.clo { heap := σ.heap, out := σ2.out } loc X.env { s3 with frames := fs } :=
        ⟨(hrel.1.ext { s3 with frames := fs } rfl _ hx13.choose_spec), ⟨_, hout3⟩⟩
      obtain ⟨s', r5, hpc5, hst5, htl5, hout5, houtt5, ⟨lf, f', hlf, hlf', hit⟩, hx5⟩ :=
        ihI X G { heap := σ.heap, out := σ2.out } loc σ' t body ys len (idx + 1) (some y) hev' A hsb hto hA hne
          (fun x hx => hpx x (by simp [hx])) (fun v hv => by cases hv; exact hpx _ (by simp))
          iterPc endPc a s3 l' f3 fs hIt hTg hAt hoof hJ hpc3 hf3 hl3 hcc3 hwl (by simp [l', hlen]) (by simp [l', hcalls])
          (by simp [l']) (by simp [l']) hrel3
      refine ⟨s', hreach1.trans (r2.trans (r3.trans r5)), hpc5, ?_, htl5, hout5, ?_, ⟨lf, f', hlf, hlf', ?_⟩, hx13.trans hx5⟩
      · rw [hst5, hst3, hst2]
      · rw [houtt5, hout3]; simp only [List.tail_cons]; rw [hout2]
      · simp [hit, l']

theorem i128Min_nonpos : i128Min ≤ 0 := by decide

theorem chkInt_succ (k : Nat) (h : (k : Int) + 1 ≤ i128Max) : chkInt ((k : Int) + 1) = .ok (.int ((k : Int) + 1)) := by
  have h1 : i128Min ≤ (k : Int) + 1 := by
    have : (0 : Int) ≤ (k : Int) := Int.natCast_nonneg _
    have := i128Min_nonpos
    omega
  simp [chkInt, h1, h]

theorem Goes.add_one {ctx p st} {k : Nat} (h : (k : Int) + 1 ≤ i128Max) :
    Goes ctx .add p (.int 1 :: .int k :: st) (p + 1) (.int ((k : Int) + 1) :: st) :=
  Goes.binInstr (op := .add) (by decide) (by decide) (by simp only [binVal, arith, intOp, asInt?]; exact chkInt_succ k h)

/-- the tail of the collecting loop of `for … if c`: count and keep the item if `c` held, else drop it -/
theorem seg_filter_count {E : ECtx} {s : VmState} {p : Nat} {cv x : Val} {acc st : List Val}
    (hle : truthy cv = true → (acc.length : Int) + 1 ≤ i128Max) :
    Seg E s p [.jumpIfFalse (p + 5), .swap, .loadConst (.int 1), .add, .jump (p + 6), .discardTop]
      (cv :: x :: .int acc.length :: (acc.reverse ++ st))
      (if truthy cv = true then .int (acc ++ [x]).length :: ((acc ++ [x]).reverse ++ st) else .int acc.length :: (acc.reverse ++ st)) := by
  by_cases htr : truthy cv = true
  · rw [if_pos htr]
    exact (Seg.cons (.jumpIfFalse_go _ htr) (.cons .swap (.cons (.loadConst _) (.cons (.add_one (hle htr))
      (.over (.jump _) rfl))))).to (by simp)
  · rw [if_neg htr]
    exact .goto (L1 := [.swap, .loadConst (.int 1), .add, .jump (p + 6)]) (L2 := [.discardTop]) (.jumpIfFalse_jump _ htr) rfl
      (.one .discardTop)

theorem filterItems_sub : ∀ (n : Nat) (ctx : Scope) (heap : Heap) (st : List Nat) (t : Target) (c : Expr) (xs kept : List Val),
    filterItems n ctx heap st t c xs = .ok kept → ∀ x, x ∈ kept → x ∈ xs
  | 0, _, _, _, _, _, _, _, h => by simp [filterItems] at h
  | _ + 1, _, _, _, _, _, [], kept, h => by simp [filterItems] at h; subst h; simp
  | n + 1, ctx, heap, st, t, c, y :: ys, kept, h => by
    simp only [filterItems] at h
    split at h
    · cases h
    · split at h
      · cases h
      · split at h
        · cases h
        · rename_i rest hrest
          cases h
          intro x hx
          have ih := filterItems_sub n ctx heap st t c ys rest hrest
          split at hx
          · rcases List.mem_cons.1 hx with rfl | hx
            · simp
            · exact List.mem_cons_of_mem _ (ih x hx)
          · exact List.mem_cons_of_mem _ (ih x hx)

/-- the filter pre-pass of `for … if cond`: the VM is at the `Iterate` of the first loop, the
operand stack holds the number of the items kept so far on top of these items -/
theorem sim_filter_iters (X : SC) : ∀ (xs : List Val) (n : Nat), (∀ m, m < n → SegExpr m) →
    ∀ (G : Ghost) (σ : State) (loc : List Nat) (t : Target) (c : Expr) (kept : List Val) (A : List String),
    filterItems n X.K.ctx σ.heap (loc ++ X.env) t c xs = .ok kept → wfExpr X.K.M X.P (A ++ targetNames t) c = true →
    targetOk X.K.M t = true → ABound σ.heap loc A → loc ≠ [] → (∀ x, x ∈ xs → plain x = true) →
    ∀ (iterPc cb p : Nat) (a : Aux) (s : VmState) (l : LoopSt) (f0 : Frame) (fs : List Frame)
      (acc st : List Val),
      cb = iterPc + 2 + (relTarget t).length → p = cb + (relExpr c cb a).1.length →
      X.K.C[iterPc]? = some (.iterate (p + 7)) → X.K.C[iterPc + 1]? = some .dupTop → At X.K.C (iterPc + 2) (relTarget t) →
      At X.K.C cb (relExpr c cb a).1 → (relExpr c cb a).2.oof = false →
      At X.K.C p [.jumpIfFalse (p + 5), .swap, .loadConst (.int 1), .add, .jump (p + 6), .discardTop, .jump iterPc] →
      s.pc = iterPc → s.frames = f0 :: fs → f0.loop = some l → f0.closureCtx = none →
      l.withLoopVar = false → l.rest = xs →
      s.stack = .int acc.length :: (acc.reverse ++ st) → ((acc ++ kept).length : Int) ≤ i128Max →
      Rel X.K G X.P X.clo σ loc X.env { s with frames := fs } →
      ∃ s', Reach X.K.ctx X.K.C s s' ∧ s'.pc = p + 7 ∧
        s'.stack = .int (acc ++ kept).length :: ((acc ++ kept).reverse ++ st) ∧ s'.frames.tail = fs ∧
        s'.outs = s.outs ∧ Ext s.closures s'.closures
  | [], n, hE, G, σ, loc, t, c, kept, A, hev, hsc, hto, hA, hne, _, iterPc, cb, p, a, s, l, f0, fs, acc, st, hcb, hp, hIt, hDup, hTg, hAtc,
      hoofc, hAtP, hpc, hfr, hl0, hcc0, hwl, hrest, hstk, h128, hrel => by
    cases n with
    | zero => simp [filterItems] at hev
    | succ m =>
      simp [filterItems] at hev; subst hev
      exact ⟨{ s with pc := p + 7 }, Reach.one (i := .iterate (p + 7)) (by rw [hpc]; exact hIt) (step_iterate_top_done hfr hl0 hrest), rfl,
        by simpa using hstk, by simp [hfr], rfl, Ext.refl _⟩
  | x :: xs, n, hE, G, σ, loc, t, c, kept, A, hev, hsc, hto, hA, hne, hpx, iterPc, cb, p, a, s, l, f0, fs, acc, st, hcb, hp, hIt, hDup, hTg, hAtc,
      hoofc, hAtP, hpc, hfr, hl0, hcc0, hwl, hrest, hstk, h128, hrel => by
    cases n with
    | zero => simp [filterItems] at hev
    | succ m =>
      simp only [filterItems] at hev
      split at hev
      · simp at hev
      · rename_i bs hbs
        split at hev
        · simp at hev
        · rename_i cv hcv
          split at hev
          · simp at hev
          · rename_i rest hrec
            simp at hev
            let l' : LoopSt := { l with calls := l.calls + 1, iterated := true, prev := l.cur, cur := some x, rest := xs }
            let f1 : Frame := { f0 with locals := [], loop := some l', closure := none }
            let s1 : VmState := { s with pc := iterPc + 1, stack := x :: s.stack, frames := f1 :: fs }
            have hreach1 : Reach X.K.ctx X.K.C s s1 :=
              Reach.one (i := .iterate (p + 7)) (by rw [hpc]; exact hIt) (by rw [step_iterate_top_next hfr hl0 hrest, hpc])
            let s1' : VmState := { s1 with pc := iterPc + 2, stack := x :: x :: s.stack }
            have hreach1' : Reach X.K.ctx X.K.C s1 s1' :=
              Reach.one' (i := .dupTop) _ hDup rfl (Goes.dupTop.step_eq rfl rfl)
            obtain ⟨s2, G2, f2, r2, hpc2, hst2, hrel2, hout2, hf2, hl2, hcc2, hx12, _, hAb⟩ :=
              sim_loop_item X (cell0 := []) (f1 := f1) (s1 := s1') (st := x :: s.stack) hbs hto (hpx x (by simp)) hne hrel
                rfl rfl rfl rfl hcc0
                (by intro z
                    have : frameLocal f1 z = none := by simp [frameLocal, f1, l', hwl, assocGet]
                    rw [this]; simp only [assocGet]; exact OptAgree.none _ _ _ _ _)
                (by intro z v _ hz; simp [assocGet] at hz) hTg rfl rfl
            have hx12 : Ext s.closures s2.closures := hx12
            have hpc2' : s2.pc = cb := by rw [hpc2, hcb]
            have hok2 : (X.ectx G2 (σ.heap ++ [setAll [] bs]) (σ.heap.length :: loc) (A ++ targetNames t)).ok s2 :=
              hrel2.eok (hAb A hA) (by simp)
            have hs2st : s2.stack = x :: .int acc.length :: (acc.reverse ++ st) := by rw [hst2, hstk]
            let acc' : List Val := if truthy cv = true then acc ++ [x] else acc
            have hkept : acc ++ kept = acc' ++ rest := by
              rw [← hev]; by_cases htr : truthy cv = true <;> simp [acc', htr]
            have p3 := ((hE m (Nat.lt_succ_self m)).run (X.ectx G2 (σ.heap ++ [setAll [] bs]) (σ.heap.length :: loc) (A ++ targetNames t))
              c cv hcv hsc cb a s2 hAtc hoofc hpc2' hok2).cast hp.symm rfl
            have p9 : Pushed (X.ectx G2 (σ.heap ++ [setAll [] bs]) (σ.heap.length :: loc) (A ++ targetNames t)) s2 iterPc
                (.int acc'.length :: (acc'.reverse ++ st)) := by
              have hle : truthy cv = true → (acc.length : Int) + 1 ≤ i128Max := fun htr => by
                have : ((acc.length : Int) + 1) ≤ ((acc ++ kept).length : Int) := by
                  rw [hkept]; simp [acc', htr]; omega
                exact Int.le_trans this h128
              have hAt6 : At X.K.C p ([.jumpIfFalse (p + 5), .swap, .loadConst (.int 1), .add, .jump (p + 6), .discardTop] ++
                  [.jump iterPc]) := hAtP
              refine ((seg_filter_count (x := x) (acc := acc) (st := st) hle hAt6.left (hs2st ▸ p3)).step (i := .jump iterPc)
                hAt6.right.head (fun _ => Goes.jump _ _ _ _)).cast rfl ?_
              by_cases htr : truthy cv = true <;> simp [acc', htr]
            obtain ⟨c9, x9, r9⟩ := p9
            have hx19 : Ext s.closures c9 := hx12.trans x9
            obtain ⟨s', r10, hpc10, hst10, htl10, hout10, hx10⟩ :=
              sim_filter_iters X xs m (fun k hk => hE k (Nat.lt_succ_of_lt hk)) G σ loc t c rest A hrec hsc hto hA hne
                (fun z hz => hpx z (by simp [hz])) iterPc cb p a
                { s2 with pc := iterPc, stack := .int acc'.length :: (acc'.reverse ++ st), closures := c9 } l' f2 fs acc' st hcb hp
                hIt hDup hTg hAtc hoofc hAtP rfl hf2 hl2 hcc2 hwl rfl rfl (by rw [← hkept]; exact h128)
                (hrel.ext _ rfl hx19 rfl (by simp [hout2, s1', s1]))
            exact ⟨s', hreach1.trans (hreach1'.trans (r2.trans (r9.trans r10))), hpc10, by rw [hst10, hkept], htl10,
              by rw [hout10]; simp [hout2, s1', s1], hx19.trans hx10⟩

/-- the code in front of the main loop of a `for` leaves a value on the operand stack that iterates
to the items the reference semantics walks: the iterable, or the list of the items that pass the filter -/
theorem sim_for_iter {n : Nat} (hE : ∀ m, m ≤ n → SegExpr m) {X : SC} {G : Ghost} {loc : List Nat} {σ : State} {target : Target}
    {iter : Expr} {flt : Option Expr} {v : Val} {xs0 xs : List Val} {A : List String}
    (hv : evalExpr n X.K.ctx σ.heap (loc ++ X.env) iter = .ok v) (hxs : iterate v = .ok xs0)
    (hk : keptItems n X.K.ctx σ.heap (loc ++ X.env) target flt xs0 = .ok xs)
    (hsi : wfExpr X.K.M X.P A iter = true) (hsc : ∀ c, flt = some c → wfExpr X.K.M X.P (A ++ targetNames target) c = true)
    (hto : targetOk X.K.M target = true) (hA : ABound σ.heap loc A) (hne : loc ≠ [])
    {base : Nat} {a : Aux} {s : VmState}
    (hAt : At X.K.C base (relForIter target iter flt base a).1) (hoof : (relForIter target iter flt base a).2.oof = false)
    (hpc : s.pc = base) (hrel : Rel X.K G X.P X.clo σ loc X.env s) :
    ∃ w cls', Ext s.closures cls' ∧
      Reach X.K.ctx X.K.C s { s with pc := base + (relForIter target iter flt base a).1.length, stack := w :: s.stack, closures := cls' } ∧
      iterate w = .ok xs ∧ isSized w = loopSized flt v := by
  rcases keptItems_ok hk with ⟨rfl, rfl⟩ | ⟨c, rfl, hfi, h128⟩
  · obtain ⟨c1, x1, r1⟩ := (hE n (Nat.le_refl n)).run (X.ectx G σ.heap loc A) iter v hv hsi base a s hAt hoof hpc (hrel.eok hA hne)
    exact ⟨v, c1, x1, r1, hxs, rfl⟩
  · have hscc := hsc c rfl
    simp only [relForIter] at hAt hoof ⊢
    have ho1 := oof_false_of_relExpr hoof
    obtain ⟨Pp, hP⟩ : ∃ Pp, Pp = base + 1 + (relExpr iter (base + 1) a).1.length + 3 + (relTarget target).length +
          (relExpr c (base + 1 + (relExpr iter (base + 1) a).1.length + 3 + (relTarget target).length)
            (relExpr iter (base + 1) a).2).1.length := ⟨_, rfl⟩
    rw [← hP] at hAt
    let s0 : VmState := { s with pc := base + 1, stack := .int 0 :: s.stack }
    have r0 : Reach X.K.ctx X.K.C s s0 :=
      Reach.one (i := .loadConst (.int 0)) (by rw [hpc]; exact hAt.left.left.left.left.left.head)
        (by rw [(Goes.loadConst _).step_eq rfl rfl, hpc])
    obtain ⟨c1, x1, r1⟩ := (hE n (Nat.le_refl n)).run (X.ectx G σ.heap loc A) iter v hv hsi (base + 1) a s0
      (At.cast hAt.left.left.left.left.right (by simp)) ho1 rfl ((hrel.same s0 rfl rfl rfl).eok hA hne)
    let l0 : LoopSt := { withLoopVar := false, len := if isSized v then some xs0.length else none,
                         calls := 0, iterated := false, prev := none, cur := none, rest := xs0 }
    let s2 : VmState := { s with pc := base + 1 + (relExpr iter (base + 1) a).1.length + 1, stack := .int 0 :: s.stack,
                                 frames := { locals := [], loop := some l0 } :: s.frames, closures := c1 }
    have hAt3 := hAt.left.left.left.right
    have r2 : Reach X.K.ctx X.K.C { s0 with pc := base + 1 + (relExpr iter (base + 1) a).1.length, stack := v :: s0.stack, closures := c1 } s2 :=
      Reach.one' (i := .pushLoop 0) _ hAt3.head (by simp; omega) (step_pushLoop rfl hxs)
    have hAtP : At X.K.C Pp [.jumpIfFalse (Pp + 5), .swap, .loadConst (.int 1), .add, .jump (Pp + 6), .discardTop,
        .jump (base + 1 + (relExpr iter (base + 1) a).1.length + 1), .popLoopFrame, .buildList none] :=
      At.cast hAt.right (by rw [hP]; simp only [List.length_append, List.length_cons, List.length_nil]; omega)
    have hrel2 : Rel X.K G X.P X.clo σ loc X.env { s2 with frames := s.frames } :=
      hrel.ext _ rfl x1 rfl rfl
    obtain ⟨s', r3, hpc3, hst3, htl3, hout3, hx3⟩ :=
      sim_filter_iters X xs0 n (fun m hm => hE m (Nat.le_of_lt hm)) G σ loc target c xs A hfi hscc hto hA hne
        ((plainL_iff xs0).1 (iterate_plain (evalExpr_plain hrel.1.plain n iter v hsi hv) hxs))
        (base + 1 + (relExpr iter (base + 1) a).1.length + 1)
        (base + 1 + (relExpr iter (base + 1) a).1.length + 3 + (relTarget target).length)
        Pp (relExpr iter (base + 1) a).2 s2 l0 { locals := [], loop := some l0 } s.frames [] s.stack (by omega) hP
        (hAt3.tail.head_at (by simp only [List.length_append, List.length_cons, List.length_nil]; omega))
        (hAt3.tail.tail.head_at (by simp only [List.length_append, List.length_cons, List.length_nil]; omega))
        (At.cast hAt.left.left.right (by simp only [List.length_append, List.length_cons, List.length_nil]; omega))
        (At.cast hAt.left.right (by simp only [List.length_append, List.length_cons, List.length_nil]; omega))
        hoof
        (At.left (L2 := [Instr.popLoopFrame, Instr.buildList none]) (by simpa using hAtP))
        rfl rfl rfl rfl rfl rfl (by simp [s2]) (by simpa using h128) hrel2
    let s4 : VmState := { s' with pc := Pp + 8, frames := s.frames }
    have r4 : Reach X.K.ctx X.K.C s' s4 :=
      Reach.one' (i := .popLoopFrame) _ hAtP.tail.tail.tail.tail.tail.tail.tail.head hpc3
        (by rw [step_popLoopFrame, hpc3, htl3])
    let s5 : VmState := { s with pc := Pp + 9, stack := .list xs :: s.stack, closures := s'.closures }
    have r5 : Reach X.K.ctx X.K.C s4 s5 :=
      Reach.one' (i := .buildList none) _ hAtP.tail.tail.tail.tail.tail.tail.tail.tail.head rfl
        (by
          have hst4 : s4.stack = .int xs.length :: (xs.reverse ++ s.stack) := by simpa [s4] using hst3
          rw [Goes.buildList_counted.step_eq rfl hst4]
          simp [s4, s5, hout3, s2])
    refine ⟨.list xs, s'.closures, x1.trans (by simpa [s2] using hx3),
      Reach.cast (r0.trans (r1.trans (r2.trans (r3.trans (r4.trans r5))))) rfl ?_, by simp [iterate], rfl⟩
    simp only [s5, hP, List.length_append, List.length_cons, List.length_nil]
    congr 1; omega

theorem sim_for {n} (hE : ∀ m, m ≤ n → SegExpr m) (ihB : SimBlock n) (ihI : SimIters n) (X : SC) (target : Target) (iter : Expr)
    (flt : Option Expr) (body els : List Stmt) : StmtGoal (n + 1) X (.forS target iter flt body els) := by
  intro G σ loc σ' fl hev A lc hs hA hne base a s hAt hoof hpc hrel hcap
  obtain ⟨hs', hsc⟩ := wfStmt_for hs
  obtain ⟨v, xs0, xs, hv, hxs, hk, σi, hit, hcase⟩ := exec_forS_ok hev
  obtain ⟨sized, hsz⟩ : ∃ sized, sized = loopSized flt v := ⟨_, rfl⟩
  rw [← hsz] at hit
  obtain ⟨E, hEdef⟩ : ∃ E, E = forExit target iter flt body base a := ⟨_, rfl⟩
  obtain ⟨RB, hRB⟩ : ∃ RB, RB = forBody target iter flt body base a := ⟨_, rfl⟩
  have hend : E = base + (relForIter target iter flt base a).1.length + 2 + (relTarget target).length + RB.1.1.length + 1 := by
    rw [hEdef, hRB]; exact forExit_eq _ _ _ _ _ _
  have hRBeq : RB = relBlock body (base + (relForIter target iter flt base a).1.length + 2 + (relTarget target).length) (relForIter target iter flt base a).2
      (some ⟨base + (relForIter target iter flt base a).1.length + 1, E, []⟩) := by
    rw [hRB, hEdef]; rfl
  have hcode : ∃ (rest : List Instr),
      (relStmt (.forS target iter flt body els) base a lc).1.1 =
        (relForIter target iter flt base a).1 ++ [.pushLoop 1, .iterate E] ++ relTarget target ++ RB.1.1 ++
          [.jump (base + (relForIter target iter flt base a).1.length + 1)] ++ rest ∧ RB.1.2.oof = false := by
    cases els with
    | nil =>
      refine ⟨[.popLoopFrame], ?_, ?_⟩
      · rw [relStmt_for_nil, ← hEdef, ← hRB]; simp
      · have := hoof; rw [relStmt_for_nil, ← hRB] at this; exact this
    | cons e0 es =>
      refine ⟨[.pushDidNotIterate, .popLoopFrame,
          .jumpIfFalse (E + 3 + (relBlock (e0 :: es) (E + 3) RB.1.2 lc).1.1.length)] ++
          (relBlock (e0 :: es) (E + 3) RB.1.2 lc).1.1, ?_, ?_⟩
      · rw [relStmt_for_cons, ← hEdef, ← hRB]; simp
      · have := hoof; rw [relStmt_for_cons, ← hEdef, ← hRB] at this
        exact oof_false_of_relBlock this
  obtain ⟨rest, hcodeEq, hoofb⟩ := hcode
  have hAt' := hAt
  rw [hcodeEq] at hAt'
  have ho1 : (relForIter target iter flt base a).2.oof = false := by
    rw [hRBeq] at hoofb; exact oof_false_of_relBlock hoofb
  have hpxs0 : ∀ x, x ∈ xs0 → plain x = true :=
    (plainL_iff xs0).1 (iterate_plain (evalExpr_plain hrel.1.plain n iter v hs'.1.1.2 hv) hxs)
  have hpxs : ∀ x, x ∈ xs → plain x = true := by
    rcases keptItems_ok hk with ⟨_, rfl⟩ | ⟨c, _, hfi, _⟩
    · exact hpxs0
    · exact fun x hx => hpxs0 x (filterItems_sub _ _ _ _ _ _ _ _ hfi x hx)
  obtain ⟨w, c1, x1, r1, hwit, hwsz⟩ := sim_for_iter hE (X := X) (G := G) (A := A) hv hxs hk hs'.1.1.2 hsc hs'.1.1.1 hA hne
    hAt'.left.left.left.left.left ho1 hpc hrel
  rw [← hsz] at hwsz
  let l0 : LoopSt := { withLoopVar := true, len := if sized then some xs.length else none,
                       calls := 0, iterated := false, prev := none, cur := none, rest := xs }
  let f0 : Frame := { locals := [], loop := some l0 }
  let s2 : VmState := { s with pc := base + (relForIter target iter flt base a).1.length + 1,
                               frames := f0 :: s.frames, closures := c1 }
  have hreach2 : Reach X.K.ctx X.K.C { s with pc := base + (relForIter target iter flt base a).1.length, stack := w :: s.stack, closures := c1 } s2 :=
    Reach.one' (i := .pushLoop 1) _ hAt'.left.left.left.left.right.head rfl (by rw [step_pushLoop rfl hwit, hwsz]; rfl)
  have e1 : base + (relForIter target iter flt base a).1.length + 1 + 1 = base + (relForIter target iter flt base a).1.length + 2 := by omega
  have hrelO : Rel X.K G X.P X.clo σ loc X.env { s2 with frames := s.frames } := hrel.ext _ rfl x1 rfl rfl
  obtain ⟨s5, r5, hpc5, hst5, htl5, hout5, houtt5, ⟨lf, f5, hlf, hlf5, hitd⟩, hx5⟩ :=
    ihI X G σ loc σi target body xs (if sized then some xs.length else none) 0 none
      (by simpa [loopInfos] using hit) A hs'.1.2 hs'.1.1.1 hA hne hpxs (fun v hv => by cases hv)
      (base + (relForIter target iter flt base a).1.length + 1) E (relForIter target iter flt base a).2 s2 l0 f0 s.frames
      (by have := hAt'.left.left.left.left.right.tail.head; simpa [Nat.add_assoc] using this)
      (by rw [e1]; exact At.cast hAt'.left.left.left.right (by simp [Nat.add_assoc]))
      (by rw [e1, ← hRBeq]; exact At.cast hAt'.left.left.right (by simp only [List.length_append, List.length_cons, List.length_nil]; omega))
      (by rw [e1, ← hRBeq]; exact hoofb)
      (by rw [e1, ← hRBeq]; exact hAt'.left.right.head_at (by simp only [List.length_append, List.length_cons, List.length_nil]; omega))
      rfl rfl rfl rfl rfl rfl rfl rfl rfl hrelO
  have hheap : σi.heap = σ.heap := execIters_heap hit
  have hx15 : Ext s.closures s5.closures := x1.trans (by simpa [s2] using hx5)
  have hfr5 : s5.frames = f5 :: s.frames := by
    cases hf : s5.frames with
    | nil => rw [hf] at hlf; simp at hlf
    | cons g5 fs5 => rw [hf] at hlf htl5; simp at hlf htl5; rw [hlf, htl5]
  have hrelA : ∀ (s6 : VmState), s6.frames = s.frames → s6.closures = s5.closures → s6.outs = s5.outs →
      Rel X.K G X.P X.clo σi loc X.env s6 := by
    intro s6 hf6 hc6 ho6
    obtain ⟨e15, he15⟩ := hx15
    refine ⟨?_, by rw [ho6]; exact hout5⟩
    rw [hheap]
    exact hrel.1.ext s6 hf6 e15 (by rw [hc6, he15])
  cases els with
  | nil =>
    have hσ : σ' = σi ∧ fl = .normal := by
      rcases hcase with ⟨_, hσi, hb⟩ | ⟨_, h1, h2⟩
      · obtain ⟨rfl, rfl⟩ := execBlock_nil hb
        exact ⟨hσi.symm, rfl⟩
      · exact ⟨h1, h2⟩
    obtain ⟨rfl, rfl⟩ := hσ
    have hrest : rest = [.popLoopFrame] := by
      have := hcodeEq; rw [relStmt_for_nil, ← hEdef, ← hRB] at this
      simp at this
      exact this.symm
    subst hrest
    let s6 : VmState := { s5 with pc := s5.pc + 1, frames := s5.frames.tail }
    have hreach6 : Reach X.K.ctx X.K.C s5 s6 :=
      Reach.one' (i := .popLoopFrame) _ hAt'.right.head
        (by simp only [hpc5, hend, List.length_append, List.length_cons, List.length_nil]; omega) step_popLoopFrame
    refine Post.normal.2 ((Done.of_pure (s' := s6) (r1.trans (hreach2.trans (r5.trans hreach6))) (by simp [s6, hst5, s2])
      (hrelA s6 (by simp [s6, htl5]) rfl rfl) (by simp [s6, houtt5, s2]) (by simp [s6, htl5]) (by simpa [s6] using hx15)).cast ?_)
    rw [hcodeEq]; simp only [s6, hpc5, hend, List.length_append, List.length_cons, List.length_nil]; omega
  | cons e0 es =>
    have hrest : rest = [.pushDidNotIterate, .popLoopFrame,
          .jumpIfFalse (E + 3 + (relBlock (e0 :: es) (E + 3) RB.1.2 lc).1.1.length)] ++
          (relBlock (e0 :: es) (E + 3) RB.1.2 lc).1.1 := by
      have := hcodeEq; rw [relStmt_for_cons, ← hEdef, ← hRB] at this
      simp at this
      exact this.symm
    have hpre : base + ((relForIter target iter flt base a).1 ++ [Instr.pushLoop 1, Instr.iterate E] ++ relTarget target ++
        RB.1.1 ++ [Instr.jump (base + (relForIter target iter flt base a).1.length + 1)]).length = E := by
      simp only [hend, List.length_append, List.length_cons, List.length_nil]; omega
    have hAtR : At X.K.C E (Instr.pushDidNotIterate :: Instr.popLoopFrame ::
        Instr.jumpIfFalse (E + 3 + (relBlock (e0 :: es) (E + 3) RB.1.2 lc).1.1.length) ::
        (relBlock (e0 :: es) (E + 3) RB.1.2 lc).1.1) := by
      have h := At.cast hAt'.right hpre
      rw [hrest] at h
      exact h
    have hrestLen : rest.length = 3 + (relBlock (e0 :: es) (E + 3) RB.1.2 lc).1.1.length := by
      rw [hrest]; simp; omega
    have hoofE : (relBlock (e0 :: es) (E + 3) RB.1.2 lc).1.2.oof = false := by
      have := hoof; rw [relStmt_for_cons, ← hEdef, ← hRB] at this; exact this
    have hafter : Done X loc σi s s.stack
        (if lf.iterated = true then E + 3 + (relBlock (e0 :: es) (E + 3) RB.1.2 lc).1.1.length else E + 3) := by
      let s6 : VmState := { s5 with pc := E + 1, stack := .bool (!lf.iterated) :: s5.stack }
      have hreach6 : Reach X.K.ctx X.K.C s5 s6 :=
        Reach.one' (i := .pushDidNotIterate) _ hAtR.head hpc5
          (by rw [step_pushDidNotIterate (l := lf) (by simp [currentLoop, hfr5, hlf5]), hpc5])
      let s7 : VmState := { s6 with pc := E + 2, frames := s.frames }
      have hreach7 : Reach X.K.ctx X.K.C s6 s7 :=
        Reach.one' (i := .popLoopFrame) _ hAtR.tail.head (by simp [s6])
          (by rw [step_popLoopFrame]; simp [s7, s6, hfr5])
      let pcE : Nat := if lf.iterated = true then E + 3 + (relBlock (e0 :: es) (E + 3) RB.1.2 lc).1.1.length else E + 3
      let s8 : VmState := { s7 with pc := pcE, stack := s.stack }
      have hreach8 : Reach X.K.ctx X.K.C s7 s8 :=
        Reach.one' (i := .jumpIfFalse _) _ hAtR.tail.tail.head (by simp [s7])
          (by rw [(Goes.jumpIfFalse _).step_eq rfl rfl]; cases hi : lf.iterated <;> simp [s8, pcE, s7, s6, hst5, s2, hi, truthy])
      exact Done.of_pure (s' := s8) (r1.trans (hreach2.trans (r5.trans (hreach6.trans (hreach7.trans hreach8))))) rfl
        (hrelA s8 rfl rfl rfl) (by simp [s8, s7, s6, houtt5, s2]) rfl (by simpa [s8, s7, s6] using hx15)
    rcases hcase with ⟨hx, hσi, hb⟩ | ⟨hx, h1, h2⟩
    · subst hx
      subst hσi
      have hitf : lf.iterated = false := by simpa [l0] using hitd
      simp only [hitf, Bool.false_eq_true, if_false] at hafter
      refine (hafter.andThen fun s8 G8 hpc8 _ hrel8 hout8 =>
        ihB X (e0 :: es) G8 σi loc σ' fl hb A lc hs'.2 hA hne (E + 3) _ s8 (At.cast hAtR.tail.tail.tail (by omega)) hoofE hpc8
          hrel8 (cap_of_tail hcap hrel8 hrel hout8)).cast ?_
      rw [hcodeEq, List.length_append, hrestLen]; omega
    · subst h1; subst h2
      have hitt : lf.iterated = true := by
        cases xs with
        | nil => exact absurd rfl hx
        | cons y ys => simpa [l0] using hitd
      rw [if_pos hitt] at hafter
      refine Post.normal.2 (hafter.cast ?_)
      rw [hcodeEq, List.length_append, hrestLen]; omega

end MJ.Vm
