import MJ.Model.LocParse
/-!
C14: the token stream of the parser.  `Inv` holds of every stream `new` and `next` can reach (`Inv.new`, `Inv.next`);
`nextN_spec` says where `k` calls of `next` leave the stream, which is all that the span theorems of the parser read.
-/
namespace MJ.LocParse
open MJ MJ.Loc

theorem Inv.new (toks : List Span) : Inv (TS.new toks) :=
  ⟨Nat.zero_le _, fun _ => rfl, fun j h => (by cases h)⟩

theorem Inv.next {s : TS} (h : Inv s) : Inv s.next := by
  unfold TS.next
  cases hq : s.toks[s.pos]? with
  | none => simpa [hq] using h
  | some sp =>
    simp only
    have hlt : s.pos < s.toks.length := by
      rcases Nat.lt_or_ge s.pos s.toks.length with h' | h'
      · exact h'
      · rw [List.getElem?_eq_none h'] at hq; cases hq
    refine ⟨hlt, fun h0 => (by simp at h0), ?_⟩
    intro j hj
    simp only at hj
    have : j = s.pos := by omega
    subst this
    exact hq

theorem next_toks (s : TS) : s.next.toks = s.toks := by
  unfold TS.next; split <;> rfl

/-- consuming `k` tokens that exist: position, and `last_span` = the last of them -/
theorem nextN_spec (k : Nat) (s : TS) (hk : s.pos + k ≤ s.toks.length) :
    (nextN k s).toks = s.toks ∧ (nextN k s).pos = s.pos + k ∧
      (k ≥ 1 → s.toks[s.pos + k - 1]? = some (nextN k s).last) := by
  induction k generalizing s with
  | zero => exact ⟨rfl, rfl, fun h => (by omega)⟩
  | succ k ih =>
    have hlt : s.pos < s.toks.length := by omega
    have hq : s.toks[s.pos]? = some s.toks[s.pos] := List.getElem?_eq_getElem hlt
    have hn : s.next = ⟨s.toks, s.pos + 1, s.toks[s.pos]⟩ := by unfold TS.next; rw [hq]
    have := ih s.next (by rw [hn]; simp only; omega)
    simp only [nextN]
    rw [hn] at this ⊢
    simp only at this
    refine ⟨this.1, by rw [this.2.1]; omega, fun _ => ?_⟩
    rcases Nat.eq_zero_or_pos k with rfl | hpos
    · simp [nextN, hq]
    · have h3 := this.2.2 hpos
      rw [show s.pos + (k + 1) - 1 = s.pos + 1 + k - 1 by omega]
      exact h3

end MJ.LocParse
