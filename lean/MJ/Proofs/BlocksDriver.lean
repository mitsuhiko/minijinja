import MJ.Proofs.Blocks
import MJ.Proofs.BlocksVars
/-!
# Facts about the driver alone

What stands behind an executed `extends` tag (`stepItems_post`), what an import exports, which
variables an included template sees: `stepItems` / `evalImpl` run on statements of a simple kind (`isPlain`, `isAssign`, `{{ v }}`),
without the spec and so for every environment.
-/
namespace MJ.Blocks

theorem andThen_nil (st : St) (k : St → Except Err (List String × St × Option (List Item))) :
    Res.andThen (.ok ([], st)) k = k st := by
  simp only [Res.andThen]
  cases k st with
  | error e => rfl
  | ok r => obtain ⟨o, s, a⟩ := r; simp

/-- what `stepItems_post` follows behind an executed `extends`: text and block tags (no effect),
    `extends` tags (no effect unless executed: then the error) -/
def Item.isPost : Item → Bool
  | .text _ | .callBlock _ | .extends _ _ => true
  | _ => false

def Item.isPlain : Item → Bool
  | .text _ | .callBlock _ | .extends false _ => true
  | _ => false

/-- while a parent is pending, text is discarded and block tags are skipped -/
theorem stepItems_plain (rd : Rd) (rec : Rec) (p : List Item) {it : Item} (h : it.isPlain = true)
    (rest : List Item) (st : St) :
    stepItems rd rec (some p) (it :: rest) st = stepItems rd rec (some p) rest st := by
  cases it with
  | text s => simp only [stepItems, varItem, Option.isSome_some, Bool.or_true, if_true]; exact andThen_nil st _
  | callBlock m => simp only [stepItems, Option.isSome_some, Bool.or_true, if_true]; exact andThen_nil st _
  | «extends» exec t =>
    cases exec
    · simp only [stepItems, Bool.not_false, if_true]; exact andThen_nil st _
    · cases h
  | _ => cases h

theorem Item.isPost_cases {it : Item} (h : it.isPost = true) :
    it.isPlain = true ∨ ∃ t, it = .extends true t := by
  cases it with
  | «extends» exec t =>
    cases exec
    · exact Or.inl rfl
    · exact Or.inr ⟨t, rfl⟩
  | _ => exact Or.inl h

/-- behind an executed `extends`: text, block tags and unexecuted `extends` tags do nothing, the
    first executed `extends` is the error -/
theorem stepItems_post (rd : Rd) (rec : Rec) (p mid : List Item) (h : mid.all Item.isPost = true) (st : St) :
    stepItems rd rec (some p) mid st =
      if hasExecExtends mid then .error [.invalidOperation] else .ok ([], st, some p) := by
  induction mid with
  | nil => rfl
  | cons it rest ih =>
    simp only [List.all_cons, Bool.and_eq_true] at h
    rcases Item.isPost_cases h.1 with hpl | ⟨t', rfl⟩
    · have hx : hasExecExtends (it :: rest) = hasExecExtends rest := by
        cases it with
        | text _ | callBlock _ => rfl
        | «extends» exec t => cases exec with
          | false => rfl
          | true => cases hpl
        | _ => cases hpl
      rw [stepItems_plain rd rec p hpl, ih h.2, hx]
    · rfl

def Item.isAssign : Item → Bool
  | .text _ | .setVar _ _ | .defMacro _ _ => true
  | _ => false

/-- the locals a list of such statements leaves in the frame `fr` (newest first) -/
def assigns : List Item → Frame → Frame
  | [], fr => fr
  | .setVar v s :: rest, fr => assigns rest ((v, .str s) :: fr)
  | .defMacro v s :: rest, fr => assigns rest ((v, .mac v s) :: fr)
  | _ :: rest, fr => assigns rest fr

def assignsVar (v : Nat) : Item → Bool
  | .setVar w _ | .defMacro w _ => w == v
  | _ => false

theorem lookup_assigns_other (v : Nat) (items : List Item) (fr : Frame)
    (h : items.all (fun it => !assignsVar v it) = true) :
    lookupVal v (assigns items fr) = lookupVal v fr := by
  induction items generalizing fr with
  | nil => rfl
  | cons it rest ih =>
    simp only [List.all_cons, Bool.and_eq_true] at h
    cases it with
    | setVar w s =>
      have hw : w ≠ v := by simpa [assignsVar] using h.1
      simp only [assigns]; rw [ih _ h.2]; simp [lookupVal, hw]
    | defMacro w s =>
      have hw : w ≠ v := by simpa [assignsVar] using h.1
      simp only [assigns]; rw [ih _ h.2]; simp [lookupVal, hw]
    | _ => simp only [assigns]; exact ih _ h.2

theorem importAs_step (rd : Rd) (rec : Rec) (parent : Option (List Item)) (a : Arg) (v : Nat)
    (rest : List Item) (st stI : St) (o : List String) (hpf : pushFails rd.outer st.frames = false)
    (hinc : performInclude rd.env rec rd.cur false false rd.outer (choices a) false
      { st with frames := st.frames.push [[]] } = .ok (o, stI)) :
    stepItems rd rec parent (.importAs a v :: rest) st =
      stepItems rd rec parent rest
        { stI with frames := store (stI.frames.take st.frames.length) v (.module (dedupKeys (topFrame stI.frames))) } := by
  simp only [stepItems, hpf, Bool.false_eq_true, if_false, hinc, andThen_nil]

theorem fromImport_step (rd : Rd) (rec : Rec) (parent : Option (List Item)) (a : Arg) (n x : Nat)
    (rest : List Item) (st stI : St) (o : List String) (hpf : pushFails rd.outer st.frames = false)
    (hinc : performInclude rd.env rec rd.cur true false rd.outer (choices a) false
      { st with frames := st.frames.push [[]] } = .ok (o, stI)) :
    stepItems rd rec parent (.fromImport a n x :: rest) st =
      stepItems rd rec parent rest
        { stI with frames := store (stI.frames.take st.frames.length) x ((lookupVal n (topFrame stI.frames)).getD .undef) } := by
  simp only [stepItems, hpf, Bool.false_eq_true, if_false, hinc, andThen_nil]

/-- top-level text, `set` and macro definitions only touch the frame on top: they leave
    `assigns` in it, with or without a parent pending -/
theorem assign_steps (rd : Rd) (rec : Rec) (parent : Option (List Item)) (items : List Item)
    (h : items.all Item.isAssign = true) (st : St) (base : Vars) (fr : Frame) (hfr : st.frames = base.push [fr]) :
    ∃ o, stepItems rd rec parent items st =
      .ok (o, { st with frames := base.push [assigns items fr] }, parent) := by
  induction items generalizing st fr with
  | nil => cases st; subst hfr; exact ⟨[], rfl⟩
  | cons it rest ih =>
    simp only [List.all_cons, Bool.and_eq_true] at h
    have step : ∀ (o1 : List String) (fr1 : Frame), it.isVar = true →
        varItem rd.cfg (rd.disc0 || parent.isSome) rd.ae it st.frames = some (.ok (o1, base.push [fr1])) →
        assigns (it :: rest) fr = assigns rest fr1 →
        ∃ o, stepItems rd rec parent (it :: rest) st =
          .ok (o, { st with frames := base.push [assigns (it :: rest) fr] }, parent) := by
      intro o1 fr1 hiv hv has
      obtain ⟨o, ho⟩ := ih h.2 { st with frames := base.push [fr1] } fr1 rfl
      exact ⟨o1 ++ o, by rw [stepItems_var _ _ _ hiv, hv]; simp only [Res.andThen, ho, has]⟩
    cases it with
    | text s => exact step _ fr rfl (by rw [hfr]; rfl) rfl
    | setVar v s => exact step [] ((v, .str s) :: fr) rfl (by rw [hfr]; simp [varItem, store_push]) rfl
    | defMacro v s => exact step [] ((v, .mac v s) :: fr) rfl (by rw [hfr]; simp [varItem, store_push]) rfl
    | _ => cases h.1

theorem evalImpl_succ (env : Env) (ctx : Cfg) (f : Nat) (cur : Option Nat) (disc ext : Bool) (outer : Nat)
    (ae : AE) (items : List Item) (st : St) :
    evalImpl env ctx (f + 1) cur disc ext outer ae items st =
      match stepItems ⟨env, ctx, cur, disc, ext, outer, ae⟩ (evalImpl env ctx f) none items st with
      | .error e => .error e
      | .ok (o, st', none) => .ok (o, st')
      | .ok (o, st', some p) =>
        match evalImpl env ctx f cur disc ext outer ae p st' with
        | .error e => .error e
        | .ok (o', st'') => .ok (o ++ o', st'') := rfl

theorem evalImpl_assigns (env : Env) (ctx : Cfg) (f : Nat) (cur : Option Nat) (disc ext : Bool) (outer : Nat)
    (ae : AE) (items : List Item) (h : items.all Item.isAssign = true) (st : St) (base : Vars) (fr : Frame)
    (hfr : st.frames = base.push [fr]) :
    ∃ o, evalImpl env ctx (f + 1) cur disc ext outer ae items st =
      .ok (o, { st with frames := base.push [assigns items fr] }) := by
  obtain ⟨o, ho⟩ := assign_steps ⟨env, ctx, cur, disc, ext, outer, ae⟩ (evalImpl env ctx f) none items h st base fr hfr
  exact ⟨o, by simp only [evalImpl_succ, ho]⟩

/-- a layout `pre ++ [extends p] ++ post` of such statements whose parent `p` is of the same kind:
    the frame collects the assignments in front of *and behind* the tag, then the parent's -/
theorem evalImpl_assigns_extends (env : Env) (ctx : Cfg) (f : Nat) (cur : Option Nat) (disc ext : Bool)
    (outer : Nat) (ae : AE) (pre post : List Item) (p : Nat) (P : Template)
    (hP : env[p]? = some P) (hLP : P.loadErr = none) (hpre : pre.all Item.isAssign = true)
    (hpost : post.all Item.isAssign = true) (hpl : P.layout.all Item.isAssign = true)
    (st : St) (base : Vars) (fr : Frame) (hfr : st.frames = base.push [fr]) (hld : p ∉ st.loaded) :
    ∃ o st', evalImpl env ctx (f + 2) cur disc ext outer ae (pre ++ .extends true p :: post) st = .ok (o, st') ∧
      st'.frames = base.push [assigns P.layout (assigns post (assigns pre fr))] := by
  obtain ⟨o1, h1⟩ := assign_steps ⟨env, ctx, cur, disc, ext, outer, ae⟩ (evalImpl env ctx (f + 1)) none pre
    hpre st base fr hfr
  obtain ⟨o2, h2⟩ := assign_steps ⟨env, ctx, cur, disc, ext, outer, ae⟩ (evalImpl env ctx (f + 1)) (some P.layout)
    post hpost
    { blocks := appendBlocks st.blocks P.blocks, depth := st.depth, loaded := p :: st.loaded,
      frames := base.push [assigns pre fr] } base (assigns pre fr) rfl
  obtain ⟨o3, h3⟩ := evalImpl_assigns env ctx f cur disc ext outer ae P.layout hpl
    { blocks := appendBlocks st.blocks P.blocks, depth := st.depth, loaded := p :: st.loaded,
      frames := base.push [assigns post (assigns pre fr)] } base _ rfl
  refine ⟨o1 ++ o2 ++ o3,
    { blocks := appendBlocks st.blocks P.blocks, depth := st.depth, loaded := p :: st.loaded,
      frames := base.push [assigns P.layout (assigns post (assigns pre fr))] }, ?_, rfl⟩
  rw [evalImpl_succ, stepItems_append, h1]
  simp only [Res3.bind, stepItems, Bool.not_true, Bool.false_eq_true, if_false, Option.isSome_none, loadBlocks,
    hld, hP, hLP, h2, h3]

theorem includeTemplate_push (rec : Rec) (cur : Option Nat) (disc : Bool) (outer : Nat) (T : Template)
    (st st' : St) (o : List String) (fr : Frame) (hwf : st.frames.WF)
    (hd : outer + INCLUDE_COST + (st.frames.length + 1) ≤ LIMIT)
    (hrun : rec cur disc false (outer + INCLUDE_COST) T.ae T.layout
      { blocks := prepare T.blocks, depth := fun _ => 0, loaded := [], frames := st.frames.push [[]] } = .ok (o, st'))
    (hfr : st'.frames = st.frames.push [fr]) :
    includeTemplate rec cur disc outer T { st with frames := st.frames.push [[]] } =
      .ok (o, { st with frames := st.frames.push [fr] }) := by
  have hd' : ¬ (outer + INCLUDE_COST + (st.frames.length + 1) > LIMIT) := by omega
  simp only [includeTemplate, push_length, List.length_singleton, hd', if_false, setTopClosure_push, hrun, hfr,
    take_push_self _ _ hwf, topClosure_push]

/-- what `{{ v }}` prints for the value a lookup found (`Emit` ⇒ `write_escaped`) -/
def emitVarOut (cfg : Cfg) (quiet : Bool) (ae : AE) : Option Val → Except Err (List String)
  | some (.str s) => .ok (if quiet then [] else [fmtStr ae s])
  | some (.safe s) => .ok (if quiet then [] else [s])
  | some (.mac name _) =>
    match ae with
    | .json => .ok (if quiet then [] else ["{\"name\":\"v" ++ toString name ++ "\",\"arguments\":[],\"caller\":false}"])
    | _ => .ok (if quiet then [] else [fmtStr ae s!"<macro v{name}>"])
  | some .undef | none =>
    if cfg.ub.isStrict then .error [.undefinedError]
    else match ae with
      | .json => .ok (if quiet then [] else ["null"])
      | _ => .ok []
  | some _ => .error [.unsupported]

theorem varItem_emitVar (cfg : Cfg) (quiet : Bool) (ae : AE) (v : Nat) (fs : Vars) :
    varItem cfg quiet ae (.emitVar v) fs =
      some (match emitVarOut cfg quiet ae (load cfg.rootCtx fs v) with
        | .ok o => .ok (o, fs)
        | .error e => .error e) := by
  -- both sides branch on the value the lookup finds, then (macros, undefined) on the mode
  have hundef : some (emitUndef cfg quiet ae fs) =
      some (match emitVarOut cfg quiet ae none with
        | .ok o => .ok (o, fs)
        | .error e => .error e) := by
    simp only [emitUndef, emitVarOut]
    split
    · rfl
    · cases ae <;> rfl
  simp only [varItem]
  cases load cfg.rootCtx fs v with
  | none => exact hundef
  | some x =>
    cases x with
    | mac n b => cases ae <;> rfl
    | undef => exact hundef
    | _ => rfl

end MJ.Blocks
