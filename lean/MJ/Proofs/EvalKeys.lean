import MJ.Proofs.EvalFrame
import MJ.Proofs.Scoping
/-!
# The names bound in a scope cell are never unbound (C03)

`exec` only adds bindings to the cells that stay (`set`, set-blocks, macro declarations write the
innermost cell; the cells pushed for a body are dropped again): a name that is bound in a cell before
a statement is bound in it afterwards.  Used by the simulation to know that the names a macro body
certainly assigned (`assignedBy`) are found in the cells of the call.
-/
namespace MJ.C03
open MJ.Eval

def BoundCell (h : Heap) (id : Nat) (x : String) : Prop := ∃ cell, h[id]? = some cell ∧ (assocGet x cell).isSome = true

def HeapLe (h h' : Heap) : Prop := ∀ id x, BoundCell h id x → BoundCell h' id x

theorem HeapLe.refl (h : Heap) : HeapLe h h := fun _ _ hb => hb
theorem HeapLe.trans {a b c : Heap} (h1 : HeapLe a b) (h2 : HeapLe b c) : HeapLe a c := fun id x hb => h2 id x (h1 id x hb)

theorem HeapLe.heapSet (h : Heap) (cell : Nat) (x : String) (v : Val) : HeapLe h (heapSet h cell x v) := by
  intro id y ⟨c, hc, hy⟩
  by_cases hid : id = cell
  · subst hid
    have hlt : id < h.length := (List.getElem?_eq_some_iff.1 hc).1
    refine ⟨assocSet x v h[id], heapSet_getElem?_same h id x v hlt, ?_⟩
    rw [List.getElem?_eq_getElem hlt] at hc; cases hc
    exact isSome_assocSet x y v _ hy
  · exact ⟨c, by rw [heapSet_getElem?_ne _ _ _ _ _ hid]; exact hc, hy⟩

theorem HeapLe.rel : HeapRel fun _ => HeapLe where
  refl _ := HeapLe.refl
  trans := HeapLe.trans
  set _ h x v := HeapLe.heapSet h _ x v
  pop := by
    intro _ h c h' hle id x ⟨cell, hc, hx⟩
    have hlt : id < h.length := (List.getElem?_eq_some_iff.1 hc).1
    obtain ⟨c', hc', hx'⟩ := hle id x ⟨cell, by rw [List.getElem?_append_left hlt]; exact hc, hx⟩
    exact ⟨c', by rw [List.getElem?_take_of_lt hlt]; exact hc', hx'⟩

theorem HeapLe.heapSetAll (bs : List (String × Val)) (h : Heap) (cell : Nat) : HeapLe h (heapSetAll h cell bs) :=
  HeapLe.rel.setAll (stack := [cell]) rfl bs h

theorem exec_keys {fuel ctx stack σ s σ' fl} (h : exec fuel ctx stack σ s = .ok (σ', fl)) : HeapLe σ.heap σ'.heap :=
  (HeapLe.rel.exec_all fuel).1 _ _ _ _ _ _ h

theorem execBlock_keys {fuel ctx stack σ ss σ' fl} (h : execBlock fuel ctx stack σ ss = .ok (σ', fl)) :
    HeapLe σ.heap σ'.heap := (HeapLe.rel.exec_all fuel).2.1 _ _ _ _ _ _ h

theorem bindWith_keys : ∀ (fuel : Nat) (ctx : Scope) (heap : Heap) (stack : List Nat)
    (binds : List (Target × Expr)) (heap' : Heap),
    bindWith fuel ctx heap stack binds = .ok heap' → HeapLe heap heap' :=
  HeapLe.rel.bindWith

theorem BoundCell.heapSet_same (h : Heap) (cell : Nat) (x : String) (v : Val) (hc : cell < h.length) :
    BoundCell (heapSet h cell x v) cell x :=
  ⟨_, heapSet_getElem?_same h cell x v hc, by simp [assocGet_assocSet_same]⟩

theorem heapSetAll_bound : ∀ (bs : List (String × Val)) (h : Heap) (cell : Nat), cell < h.length →
    ∀ x, x ∈ bs.map (·.1) → BoundCell (heapSetAll h cell bs) cell x
  | [], _, _, _, x, hx => by simp at hx
  | (y, v) :: rest, h, cell, hc, x, hx => by
    simp only [heapSetAll]
    simp only [List.map_cons, List.mem_cons] at hx
    rcases hx with rfl | hx
    · exact HeapLe.heapSetAll rest _ cell cell x (BoundCell.heapSet_same h cell x v hc)
    · exact heapSetAll_bound rest _ cell (by rw [heapSet_length]; exact hc) x hx

mutual
theorem bindTarget_names : ∀ (t : Target) (v : Val) (bs : List (String × Val)), bindTarget t v = .ok bs →
    bs.map (·.1) = MJ.Compile.targetNames t
  | .var x, v, bs, h => by simp [bindTarget] at h; subst h; simp [MJ.Compile.targetNames]
  | .tuple ts, v, bs, h => by
    simp only [MJ.Compile.targetNames]
    cases v <;> simp only [bindTarget] at h <;> first | exact bindTargets_names ts _ bs h | (simp at h)
theorem bindTargets_names : ∀ (ts : List Target) (vs : List Val) (bs : List (String × Val)), bindTargets ts vs = .ok bs →
    bs.map (·.1) = MJ.Compile.targetsNames ts
  | [], [], bs, h => by simp [bindTargets] at h; subst h; rfl
  | [], _ :: _, _, h => by simp [bindTargets] at h
  | _ :: _, [], _, h => by simp [bindTargets] at h
  | t :: ts, v :: vs, bs, h => by
    simp only [bindTargets] at h
    split at h
    · rename_i b1 hb1
      split at h
      · rename_i b2 hb2
        simp at h; subst h
        simp [MJ.Compile.targetsNames, bindTarget_names t v b1 hb1, bindTargets_names ts vs b2 hb2]
      · simp at h
    · simp at h
end

theorem bindWith_bound : ∀ (fuel : Nat) (ctx : Scope) (heap : Heap) (T : Nat) (st : List Nat)
    (binds : List (Target × Expr)) (heap' : Heap),
    bindWith fuel ctx heap (T :: st) binds = .ok heap' → T < heap.length →
    ∀ x, x ∈ MJ.Compile.bindsNames binds → BoundCell heap' T x := by
  intro fuel
  induction fuel with
  | zero => intro ctx heap T st binds heap' h; simp [bindWith] at h
  | succ n ih =>
    intro ctx heap T st binds heap' h hT x hx
    cases binds with
    | nil => simp [MJ.Compile.bindsNames] at hx
    | cons b rest =>
      obtain ⟨t, e⟩ := b
      obtain ⟨_, v, bs, hc, _, hbs, h⟩ := bindWith_cons_ok h
      cases hc
      simp only [MJ.Compile.bindsNames, List.mem_append] at hx
      rcases hx with hx | hx
      · exact bindWith_keys _ _ _ _ _ _ h T x
          (heapSetAll_bound bs heap T hT x (by rw [bindTarget_names t v bs hbs]; exact hx))
      · exact ih _ _ _ _ _ _ h (by rw [heapSetAll_length]; exact hT) x hx

/-- only of a statement that ended normally: a set-block left by `break` / `continue` assigns nothing -/
theorem exec_assigned_bound {n ctx T r σ st σ'} (h : exec n ctx (T :: r) σ st = .ok (σ', .normal))
    (hT : T < σ.heap.length) : ∀ x, x ∈ MJ.Compile.assignedBy st → BoundCell σ'.heap T x := by
  intro x hx
  cases n with
  | zero => simp [exec] at h
  | succ m =>
    cases st with
    | set t e =>
      simp only [MJ.Compile.assignedBy] at hx
      simp only [exec, bind_ok] at h
      obtain ⟨v, _, bs, hbs, cell, hc, h⟩ := h
      cases hc; cases h
      exact heapSetAll_bound bs σ.heap T hT x (by rw [bindTarget_names t _ bs hbs]; exact hx)
    | setBlock y fs body =>
      simp only [MJ.Compile.assignedBy, List.mem_singleton] at hx
      subst hx
      simp only [exec, bind_ok] at h
      obtain ⟨r', hr, h⟩ := h
      split at h
      · simp only [bind_ok] at h
        obtain ⟨v, _, cell, hc, h⟩ := h
        cases hc; cases h
        exact BoundCell.heapSet_same _ T x _ (by rw [(execBlock_frame hr).1]; exact hT)
      · rename_i σ1 fl hne
        simp at h
        exact absurd h.2 (fun e => hne (by rw [e]))
    | macroS name params defaults body uc =>
      simp only [MJ.Compile.assignedBy, List.mem_singleton] at hx
      subst hx
      simp only [exec, bind_ok] at h
      obtain ⟨cell, hc, h⟩ := h
      cases hc; cases h
      exact BoundCell.heapSet_same _ T x _ hT
    | _ => simp [MJ.Compile.assignedBy] at hx

end MJ.C03
