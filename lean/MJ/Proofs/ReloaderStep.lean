import MJ.Model.Reloader
/-!
# The steps of the reloader protocol, case by case

`stepActive_elim` is the definition of `stepActive` read as an elimination rule.  Below it, the record
`Holder` says field by field of `State` what a step of the mutex holder does to it, and
`stepActive_holder` edge by edge which fields are written; the invariants' conjuncts that do not
look at the holder's program counter are carried across a holder step by these alone.  `step_cases`
sorts the steps of `step` into the holder's, the taking of the mutex, and those that leave alone what
the mutex protects (`Outside`).
-/
namespace MJ.Reloader
variable {σ σ' : State} {c : Active}

theorem mem_of_mem_set {α : Type} {l : List α} {i : Nat} {t x : α} (h : x ∈ l.set i t)
    (hne : x ≠ t) : x ∈ l :=
  (List.mem_or_eq_of_mem_set h).resolve_right hne

theorem stepActive_elim {motive : State → Prop} (hs : stepActive σ c = some σ')
    (locked_none : c.pc = .locked → σ.env = none →
      motive { σ with now := σ.now + 1, noneObs := σ.noneObs + 1,
                      cur := some { c with pc := .checked true, checkedAt := σ.now, sawFlag := false } })
    (locked_flag : c.pc = .locked → σ.env ≠ none → σ.flag = true →
      motive { σ with now := σ.now + 1, flagObs := σ.flagObs + 1,
                      cur := some { c with pc := .checked true, checkedAt := σ.now, sawFlag := true } })
    (locked_cb : c.pc = .locked → σ.env ≠ none → σ.flag = false → σ.cbConst.getD c.cfg.cb = true →
      motive { σ with now := σ.now + 1, cbObs := σ.cbObs + 1, onCalls := σ.onCalls + 1,
                      cur := some { c with pc := .checked true, checkedAt := σ.now, sawFlag := false } })
    (locked_no : c.pc = .locked → σ.env ≠ none → σ.flag = false → σ.cbConst.getD c.cfg.cb = false →
      motive { σ with now := σ.now + 1,
                      cur := some { c with pc := .checked false, checkedAt := σ.now, sawFlag := false } })
    (checkedT : c.pc = .checked true →
      motive { σ with now := σ.now + 1, flag := false,
                      watching := if dropWatcher σ.persistent σ.fast then false else σ.watching,
                      lastDrop := if dropWatcher σ.persistent σ.fast && σ.watching
                                  then some (σ.persistent, σ.fast) else σ.lastDrop,
                      cur := some { c with pc := .reset, fastSeen := σ.fast,
                                           droppedW := dropWatcher σ.persistent σ.fast } })
    (reset_create : c.pc = .reset → (σ.env = none ∨ c.fastSeen = false) →
      motive { σ with now := σ.now + 1, cur := some { c with pc := .toCreate } })
    (reset_clear : c.pc = .reset → σ.env ≠ none → c.fastSeen = true →
      motive { σ with now := σ.now + 1, cur := some { c with pc := .toClear } })
    (toCreate : c.pc = .toCreate →
      motive { σ with now := σ.now + 1, creates := σ.creates + 1,
                      cur := some { c with pc := .creating c.cfg.script, buildStart := σ.now } })
    (req : ∀ rest, c.pc = .creating (.req :: rest) →
      motive { σ with now := σ.now + 1, flag := true, sets := σ.now :: σ.sets,
                      risings := if σ.flag then σ.risings else σ.risings + 1,
                      cur := some { c with pc := .innerSet σ.now rest } })
    (innerSet : ∀ s rest, c.pc = .innerSet s rest →
      motive { σ with now := σ.now + 1, reqLog := ⟨s, σ.now, c.tid⟩ :: σ.reqLog,
                      onCalls := σ.onCalls + 1, cur := some { c with pc := .creating rest } })
    (setFast : ∀ b rest, c.pc = .creating (.setFast b :: rest) →
      motive { σ with now := σ.now + 1, fast := b, cur := some { c with pc := .creating rest } })
    (watch : ∀ rest, c.pc = .creating (.watch :: rest) →
      motive { σ with now := σ.now + 1, watching := true, registered := true, lastDrop := none,
                      cur := some { c with pc := .creating rest } })
    (persist : ∀ b rest, c.pc = .creating (.persist b :: rest) →
      motive { σ with now := σ.now + 1, persistent := b, cur := some { c with pc := .creating rest } })
    (panic : c.pc = .creating [] → c.cfg.panics = true →
      motive { σ with now := σ.now + 1, panicked := σ.panicked + 1, poisoned := true,
                      panicAt := some (σ.panicAt.getD σ.now), panicTids := c.tid :: σ.panicTids,
                      cur := none, threads := σ.threads.set c.tid .acqDone })
    (fail : c.pc = .creating [] → c.cfg.panics = false → c.cfg.fails = true →
      motive { σ with now := σ.now + 1, failed := σ.failed + 1, cur := some { c with pc := .failed } })
    (store : c.pc = .creating [] → c.cfg.panics = false → c.cfg.fails = false →
      motive { σ with now := σ.now + 1, env := some ⟨σ.creates, c.buildStart, c.buildStart, 0⟩,
                      cur := some { c with pc := .created, built := true } })
    (clear : ∀ e, c.pc = .toClear → σ.env = some e →
      motive { σ with now := σ.now + 1, clears := σ.clears + 1,
                      clearsAfterDrop := if c.droppedW then σ.clearsAfterDrop + 1 else σ.clearsAfterDrop,
                      env := some { e with freshAt := σ.now, clears := e.clears + 1 },
                      cur := some { c with pc := .cleared } })
    (failed : c.pc = .failed →
      motive { σ with now := σ.now + 1, flag := true, cur := some { c with pc := .remarked } })
    (remarked : c.pc = .remarked →
      motive { σ with now := σ.now + 1, errs := σ.errs + 1, cur := none,
                      threads := σ.threads.set c.tid .acqDone })
    (handout : ∀ e, (c.pc = .checked false ∨ c.pc = .created ∨ c.pc = .cleared) → σ.env = some e →
      motive { σ with now := σ.now + 1,
                      acqLog := ⟨c.tid, c.lockedAt, c.checkedAt, e,
                                 if c.built then some c.buildStart else none⟩ :: σ.acqLog,
                      cur := some { c with pc := .holding } })
    (holding : c.pc = .holding →
      motive { σ with now := σ.now + 1, cur := none, threads := σ.threads.set c.tid .acqDone }) :
    motive σ' := by
  have ne_none {e : Env} (h : σ.env = some e) : σ.env ≠ none := by rw [h]; nofun
  revert hs
  fun_cases stepActive σ c <;> intro hs <;> cases hs
  · exact locked_none ‹_› ‹_›
  · exact locked_flag ‹_› (ne_none ‹_›) ‹_›
  · exact locked_cb ‹_› (ne_none ‹_›) (Bool.eq_false_iff.mpr ‹_›) ‹_›
  · exact locked_no ‹_› (ne_none ‹_›) (Bool.eq_false_iff.mpr ‹_›) (Bool.eq_false_iff.mpr ‹_›)
  · exact checkedT ‹_›
  · rename_i h; exact reset_create ‹_› (by simpa using h)
  · rename_i h; simp at h; exact reset_clear ‹_› h.1 h.2
  · exact toCreate ‹_›
  · exact req _ ‹_›
  · exact innerSet _ _ ‹_›
  · exact setFast _ _ ‹_›
  · exact watch _ ‹_›
  · exact persist _ _ ‹_›
  · exact panic ‹_› ‹_›
  · exact fail ‹_› (Bool.eq_false_iff.mpr ‹_›) ‹_›
  · exact store ‹_› (Bool.eq_false_iff.mpr ‹_›) (Bool.eq_false_iff.mpr ‹_›)
  · exact clear _ ‹_› ‹_›
  · exact failed ‹_›
  · exact remarked ‹_›
  · exact handout _ (.inl ‹_›) ‹_›
  · exact handout _ (.inr (.inl ‹_›)) ‹_›
  · exact handout _ (.inr (.inr ‹_›)) ‹_›
  · exact holding ‹_›

/-- the holder is stuck only on an `unwrap` of an empty cache: at the clear and at the handout -/
theorem stepActive_eq_none (h : stepActive σ c = none) :
    σ.env = none ∧
      (c.pc = .toClear ∨ c.pc = .checked false ∨ c.pc = .created ∨ c.pc = .cleared) := by
  revert h
  fun_cases stepActive σ c <;> intro h <;> cases h <;> simp [*]

/-- all that a step other than the holder's flag reset does to the fs watcher: nothing, or
    `watch_path` -/
def WatcherKept (σ σ' : State) : Prop :=
  (σ'.watching = σ.watching ∧ σ'.registered = σ.registered ∧ σ'.lastDrop = σ.lastDrop) ∨
  (σ'.watching = true ∧ σ'.registered = true ∧ σ'.lastDrop = none)

theorem WatcherKept.watching (h : WatcherKept σ σ') (hw : σ.watching = true) :
    σ'.watching = true := by
  rcases h with ⟨h', -, -⟩ | ⟨h', -, -⟩
  · exact h'.trans hw
  · exact h'

/-- What a step of the mutex holder does to the fields of `State`, for the arguments that do not go
    through its program counters.  The default proof of a field says that the step leaves it alone,
    so that `stepActive_holder` lists, edge by edge, what is written. -/
structure Holder (σ σ' : State) (c : Active) : Prop where
  now : σ'.now = σ.now + 1 := by rfl
  /-- only a `request_reload` from inside the creator enters `sets`, with the current clock; the
      re-arming after a failed creator call raises the flag and is no request -/
  sets : (σ'.sets = σ.sets ∧ σ'.risings = σ.risings) ∨
      (σ'.sets = σ.now :: σ.sets ∧ σ'.risings ≤ σ.risings + 1) := by exact .inl ⟨rfl, rfl⟩
  threads : σ'.threads = σ.threads ∨ σ'.threads = σ.threads.set c.tid .acqDone := by exact .inl rfl
  cur : ∀ c', σ'.cur = some c' → c'.tid = c.tid ∧ c'.cfg = c.cfg ∧ c'.lockedAt = c.lockedAt := by
    exact fun _ h => by cases h <;> exact ⟨rfl, rfl, rfl⟩
  reqLog : σ'.reqLog = σ.reqLog ∨
      ∃ s rest, c.pc = .innerSet s rest ∧ σ'.reqLog = ⟨s, σ.now, c.tid⟩ :: σ.reqLog := by
    exact .inl rfl
  acqLog : σ'.acqLog = σ.acqLog ∨
      ∃ e, σ.env = some e ∧ (c.pc = .checked false ∨ c.pc = .created ∨ c.pc = .cleared) ∧
        σ'.env = σ.env ∧ σ'.sets = σ.sets ∧ σ'.cur = some { c with pc := .holding } ∧
        σ'.acqLog = ⟨c.tid, c.lockedAt, c.checkedAt, e, if c.built then some c.buildStart else none⟩
          :: σ.acqLog := by exact .inl rfl
  /-- the cache is written by the creator's `Ok` return, which stores an environment numbered by
      the creator-call counter, and by the clear, which keeps generation and build time; the counter
      moves when the creator is entered, and then the cache stays -/
  env : (σ'.env = σ.env ∧ σ.creates ≤ σ'.creates) ∨
    (c.pc = .creating [] ∧ σ'.creates = σ.creates ∧
      σ'.env = some ⟨σ.creates, c.buildStart, c.buildStart, 0⟩) ∨
    (∃ e, σ.env = some e ∧ σ'.creates = σ.creates ∧
      σ'.env = some { e with freshAt := σ.now, clears := e.clears + 1 }) := by
    exact .inl ⟨rfl, Nat.le_refl _⟩
  /-- only the creator's panic poisons the mutex; `panicAt` keeps the clock of the first one -/
  poison : (σ'.poisoned = σ.poisoned ∧ σ'.panicAt = σ.panicAt) ∨
    (σ'.poisoned = true ∧ σ'.panicAt = some (σ.panicAt.getD σ.now) ∧ σ'.cur = none ∧
      σ'.acqLog = σ.acqLog) := by exact .inl ⟨rfl, rfl⟩
  norec : σ'.recoverPoison = σ.recoverPoison := by rfl
  /-- only the reload check observes -/
  obs : (σ'.noneObs = σ.noneObs ∧ σ'.flagObs = σ.flagObs ∧ σ'.cbObs = σ.cbObs) ∨ c.pc = .locked := by
    exact .inl ⟨rfl, rfl, rfl⟩
  clearsAfterDrop : σ'.clearsAfterDrop = σ.clearsAfterDrop ∨ (c.pc = .toClear ∧ c.droppedW = true) := by
    exact .inl rfl
  /-- the watcher is thrown away only by the flag reset (`prepare_and_mark_reload`), where
      `dropWatcher` says so, and `lastDrop` records the switches if one was alive -/
  watcher : WatcherKept σ σ' ∨
    (σ'.registered = σ.registered ∧
      σ'.watching = (if dropWatcher σ.persistent σ.fast then false else σ.watching) ∧
      σ'.lastDrop = if dropWatcher σ.persistent σ.fast && σ.watching
                    then some (σ.persistent, σ.fast) else σ.lastDrop) := by
    exact .inl (.inl ⟨rfl, rfl, rfl⟩)

theorem stepActive_holder (hs : stepActive σ c = some σ') : Holder σ σ' c := by
  -- every projection inherits the axioms of this proof (`MJ/Audit/C20.lean` prints them for the
  -- theorems of C20 that read one field): no `omega` or `simp` here
  apply stepActive_elim hs
  case locked_none | locked_flag | locked_cb => intro hpc; intros; exact { obs := .inr hpc }
  case checkedT => exact fun _ => { watcher := .inr ⟨rfl, rfl, rfl⟩ }
  case toCreate => exact fun _ => { env := .inl ⟨rfl, Nat.le_succ _⟩ }
  case req =>
    refine fun _ _ => { sets := .inr ⟨rfl, ?_⟩ }
    cases σ.flag
    · exact Nat.le_refl _
    · exact Nat.le_succ _
  case innerSet => exact fun s rest hpc => { reqLog := .inr ⟨s, rest, hpc, rfl⟩ }
  case watch => exact fun _ _ => { watcher := .inl (.inr ⟨rfl, rfl, rfl⟩) }
  case panic => exact fun _ _ => { threads := .inr rfl, poison := .inr ⟨rfl, rfl, rfl, rfl⟩ }
  case store => exact fun hpc _ _ => { env := .inr (.inl ⟨hpc, rfl, rfl⟩) }
  case clear =>
    refine fun e hpc he => { env := .inr (.inr ⟨e, he, rfl, rfl⟩), clearsAfterDrop := ?_ }
    cases c.droppedW
    · exact .inl rfl
    · exact .inr ⟨hpc, rfl⟩
  case remarked | holding => exact fun _ => { threads := .inr rfl }
  case handout => exact fun e hpc he => { acqLog := .inr ⟨e, he, hpc, rfl, rfl, rfl, rfl⟩ }
  all_goals intros; exact {}

theorem Holder.sets_subset (h : Holder σ σ' c) : ∀ s ∈ σ.sets, s ∈ σ'.sets := by
  intro s hm
  rcases h.sets with ⟨h, _⟩ | ⟨h, _⟩ <;> simp [h, hm]

theorem Holder.mem_sets (h : Holder σ σ' c) : ∀ s ∈ σ'.sets, s ∈ σ.sets ∨ s = σ.now := by
  intro s hm
  rcases h.sets with ⟨h, _⟩ | ⟨h, _⟩ <;> rw [h] at hm
  · exact Or.inl hm
  · exact (List.mem_cons.mp hm).symm

theorem Holder.mem_threads {t : Thread} (h : Holder σ σ' c) (hm : t ∈ σ'.threads)
    (hne : t ≠ .acqDone) : t ∈ σ.threads := by
  rcases h.threads with h' | h' <;> rw [h'] at hm
  · exact hm
  · exact mem_of_mem_set hm hne

/-- the holder is inside the creator -/
def Active.building (c : Active) : Prop :=
  (∃ ops, c.pc = .creating ops) ∨ (∃ s ops, c.pc = .innerSet s ops)

theorem stepActive_building {c' : Active} (hs : stepActive σ c = some σ') (hc' : σ'.cur = some c')
    (hb : c'.building) :
    σ'.env = σ.env ∧
    ((c.pc = .toCreate ∧ c'.buildStart = σ.now ∧ σ'.creates = σ.creates + 1) ∨
     (c.building ∧ c'.buildStart = c.buildStart ∧ σ'.creates = σ.creates)) := by
  unfold Active.building at *
  revert hc'
  apply stepActive_elim hs <;> intros <;> rename_i h <;> cases h <;> simp_all

/-- a step of a thread that is not acquiring, or of an acquire that panics on the poisoned lock: it
    writes nothing that the `cached_env` mutex protects, replaces its own entry of the thread list,
    and the only thing it can do to the watcher is register -/
structure Outside (σ σ' : State) (i : Nat) : Prop where
  now : σ'.now = σ.now + 1
  cur : σ'.cur = σ.cur
  env : σ'.env = σ.env
  acqLog : σ'.acqLog = σ.acqLog
  creates : σ'.creates = σ.creates
  clears : σ'.clears = σ.clears
  obs : σ'.noneObs = σ.noneObs ∧ σ'.flagObs = σ.flagObs ∧ σ'.cbObs = σ.cbObs
  poisoned : σ'.poisoned = σ.poisoned
  clearsAfterDrop : σ'.clearsAfterDrop = σ.clearsAfterDrop
  threads : ∃ t, σ'.threads = σ.threads.set i t ∧ ∀ cfg, t ≠ .acqIdle cfg
  watcher : WatcherKept σ σ'

theorem step_cases {i : Nat} (hs : step σ i = some σ') :
    (∃ c, σ.cur = some c ∧ c.tid = i ∧ stepActive σ c = some σ') ∨
    (∃ cfg, σ.threads[i]? = some (.acqIdle cfg) ∧ σ.cur = none ∧
      (σ.poisoned && !σ.recoverPoison) = false ∧
      σ' = { σ with now := σ.now + 1,
                    cur := some { tid := i, cfg := cfg, pc := .locked, lockedAt := σ.now },
                    threads := σ.threads.set i .acqActive }) ∨
    Outside σ σ' i := by
  revert hs
  fun_cases step σ i <;> intro hs
  · -- `lock().unwrap()` on the poisoned mutex
    cases hs
    exact .inr (.inr ⟨rfl, rfl, rfl, rfl, rfl, rfl, ⟨rfl, rfl, rfl⟩, rfl, rfl, ⟨_, rfl, nofun⟩,
      Or.inl ⟨rfl, rfl, rfl⟩⟩)
  · cases hs
    exact .inr (.inl ⟨_, ‹_›, ‹_›, Bool.eq_false_iff.mpr ‹_›, rfl⟩)
  · cases hs
  · exact .inl ⟨_, ‹_›, ‹_›, hs⟩
  · cases hs
  · cases hs
  rotate_right
  · cases hs    -- a finished thread, or none
  all_goals
    cases hs
    exact .inr (.inr ⟨rfl, rfl, rfl, rfl, rfl, rfl, ⟨rfl, rfl, rfl⟩, rfl, rfl, ⟨_, rfl, nofun⟩,
      by simp [WatcherKept]⟩)

theorem run_preserves {P : State → Prop} (hP : ∀ {σ σ'} i, P σ → step σ i = some σ' → P σ')
    (h : P σ) (sched : List Nat) : P (run σ sched) := by
  induction sched generalizing σ with
  | nil => exact h
  | cons i is ih =>
    simp only [run]
    cases hs : step σ i with
    | none => exact ih h
    | some σ' => exact ih (hP i h hs)

end MJ.Reloader
