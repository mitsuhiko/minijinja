import MJ.Model.SerdeValue
import MJ.Proofs.SerdeLemmas
/-! The buffered read path (serde's `Content`, used by untagged / internally tagged enums and
`flatten`): the deserializer model does not see the difference between a value and its normal form,
so the round trip also holds when serde first copies the value into its buffer (C16). -/
namespace MJ.Serde

theorem normVList_length : ∀ (xs : List V), (normVList xs).length = xs.length
  | [] => rfl
  | _ :: xs => by simp [normVList, normVList_length xs]

theorem variantOfKey_normV (names : List Str) (n : Nat) (k : V) :
    variantOfKey names n (normV k) = variantOfKey names n k := by
  cases k <;> rfl

theorem noneLike_normV (v : V) : noneLike (normV v) = noneLike v := by cases v <;> rfl

theorem deByte_normV (x : V) : deByte (normV x) = deByte x := by cases x <;> rfl

theorem mapMR_normVList {β : Type} (f : V → R β) (hf : ∀ x, f (normV x) = f x) :
    ∀ (xs : List V), mapMR f (normVList xs) = mapMR f xs
  | [] => rfl
  | x :: xs => by simp only [normVList, mapMR, hf x, mapMR_normVList f hf xs]

theorem mapMR_normVPairs {α β : Type} (f : V → R α) (g : V → R β) (hf : ∀ x, f (normV x) = f x) (hg : ∀ x, g (normV x) = g x) :
    ∀ (kvs : List (V × V)), mapMR (fun p => pairR (f p.1) (g p.2)) (normVPairs kvs) = mapMR (fun p => pairR (f p.1) (g p.2)) kvs
  | [] => rfl
  | (k, v) :: rest => by simp only [normVPairs, mapMR, hf k, hg v, mapMR_normVPairs f g hf hg rest]

theorem allStrKeys_normV : ∀ (kvs : List (V × V)), allStrKeys (normVPairs kvs) = allStrKeys kvs
  | [] => rfl
  | (k, v) :: rest => by
    cases k <;> simp [normVPairs, normV, allStrKeys, allStrKeys_normV rest]

theorem lookupStr_normV (n : Str) : ∀ (kvs : List (V × V)), lookupStr n (normVPairs kvs) = (lookupStr n kvs).map normV
  | [] => rfl
  | (k, v) :: rest => by
    cases k <;> simp only [normVPairs, normV, lookupStr, lookupStr_normV n rest]
    split <;> simp

theorem fieldOfKey_normV (names : List Str) (k : V) : fieldOfKey names (normV k) = fieldOfKey names k := by
  cases k <;> rfl

def normSlots (slots : List (Option Nat × V)) : List (Option Nat × V) := slots.map fun p => (p.1, normV p.2)

theorem resolveKeys_normV (names : List Str) (kvs : List (V × V)) :
    resolveKeys names (normVPairs kvs) = mapOk normSlots (resolveKeys names kvs) := by
  fun_induction resolveKeys names kvs <;> simp_all [normVPairs, resolveKeys, fieldOfKey_normV, normSlots]

theorem dupSlots_normSlots (slots : List (Option Nat × V)) : dupSlots (normSlots slots) = dupSlots slots := by
  fun_induction dupSlots slots <;> simp_all [normSlots, dupSlots, List.any_map, Function.comp_def]

theorem findSlot_normSlots (i : Nat) (slots : List (Option Nat × V)) :
    findSlot i (normSlots slots) = (findSlot i slots).map normV := by
  fun_induction findSlot i slots <;> simp_all [normSlots, findSlot]

mutual
theorem ignoreV_normV : ∀ (v : V), ignoreV (normV v) = ignoreV v := fun v => by
    cases v with
    | seq _ xs => simp only [normV, ignoreV, ignoreList_normV xs]
    | map kvs => simp only [normV, ignoreV, ignorePairs_normV kvs]
    | _ => rfl
theorem ignoreList_normV : ∀ (xs : List V), ignoreList (normVList xs) = ignoreList xs
  | [] => rfl
  | x :: xs => by simp only [normVList, ignoreList, ignoreV_normV x, ignoreList_normV xs]
theorem ignorePairs_normV : ∀ (kvs : List (V × V)), ignorePairs (normVPairs kvs) = ignorePairs kvs
  | [] => rfl
  | (k, v) :: rest => by
    simp only [normVPairs, ignorePairs, ignoreV_normV k, ignoreV_normV v, ignorePairs_normV rest]
end

theorem ignoredOK_normV (names : List Str) : ∀ (kvs : List (V × V)), ignoredOK names (normVPairs kvs) = ignoredOK names kvs
  | [] => rfl
  | (k, v) :: rest => by
    cases k <;> simp only [normVPairs, normV, ignoredOK, ignoredOK_normV names rest, ignoreV_normV v]

theorem ignoredSlots_normSlots (slots : List (Option Nat × V)) :
    ignoredSlots (normSlots slots) = ignoredSlots slots := by
  fun_induction ignoredSlots slots <;> simp_all [normSlots, ignoredSlots, ignoreV_normV]

theorem deStructMap_normV (names : List Str) (ss : List Shape) (kvs : List (V × V))
    (hF : deFields names ss (normVPairs kvs) = deFields names ss kvs)
    (hS : ∀ slots, deSlots names ss 0 (normSlots slots) = deSlots names ss 0 slots) :
    deStructMap names ss (normVPairs kvs) = deStructMap names ss kvs := by
  simp only [deStructMap, allStrKeys_normV, hF, resolveKeys_normV, ignoredOK_normV]
  split
  · rfl
  · cases resolveKeys names kvs with
    | error e => rfl
    | ok slots => simp only [mapOk_ok, dupSlots_normSlots, hS, ignoredSlots_normSlots]

mutual
theorem de_normV : ∀ (s : Shape) (v : V), de s (normV v) = de s v
  | .bool, v | .int _ _ _, v | .f32, v | .f64, v | .str, v | .unit, v | .ustruct, v | .value, v => by
    cases v <;> rfl
  | .char, v => by
    cases v with
    | str s _ =>
      cases s with
      | nil => rfl
      | cons _ cs => cases cs <;> rfl
    | _ => rfl
  | .bytes, v => by
    cases v with
    | seq _ xs => exact congrArg (mapOk D.bytes) (mapMR_normVList deByte deByte_normV xs)
    | _ => rfl
  | .opt s, v => by
    rw [de_opt, de_opt, noneLike_normV, de_normV s v]
  | .nstruct s, v => de_normV s v
  | .seq s, v => by
    cases v with
    | seq _ xs => exact congrArg (mapOk D.list) (mapMR_normVList (de s) (de_normV s) xs)
    | _ => rfl
  | .map k w, v => by
    cases v with
    | map kvs => exact congrArg (mapOk D.map) (mapMR_normVPairs (de k) (de w) (de_normV k) (de_normV w) kvs)
    | _ => rfl
  | .tup ss, v | .tstruct ss, v => by
    cases v with
    | seq _ xs => exact congrArg (mapOk D.list) (deList_normV ss xs)
    | _ => rfl
  | .struct names ss, v => by
    cases v with
    | seq _ xs => exact congrArg (mapOk D.list) (deList_normV ss xs)
    | map kvs => exact deStructMap_normV names ss kvs (deFields_normV ss names kvs) (deSlots_normV ss names 0)
    | _ => rfl
  | .enum names vs, v => by
    cases v with
    | map kvs =>
      match kvs with
      | [] => rfl
      | [(k, p)] =>
        show de _ (.map [(normV k, normV p)]) = _
        rw [de_enum_entry, de_enum_entry, variantOfKey_normV]
        cases variantOfKey names vs.length k with
        | none => rfl
        | some i => exact deVariant_normV vs i i (some p)
      | e1 :: e2 :: rest =>
        show de _ (.map ((normV e1.1, normV e1.2) :: (normV e2.1, normV e2.2) :: normVPairs rest)) = _
        rw [de_enum_many, de_enum_many]
    | _ => rfl
theorem deList_normV : ∀ (ss : List Shape) (xs : List V), deList ss (normVList xs) = deList ss xs
  | [], xs => by cases xs <;> simp [deList]
  | s :: ss, [] => rfl
  | s :: ss, x :: xs => by simp only [normVList, deList, de_normV s x, deList_normV ss xs]
theorem deFields_normV : ∀ (ss : List Shape) (names : List Str) (kvs : List (V × V)),
    deFields names ss (normVPairs kvs) = deFields names ss kvs
  | [], names, kvs => by cases names <;> simp [deFields]
  | s :: ss, [], kvs => by simp [deFields]
  | s :: ss, n :: ns, kvs => by
    simp only [deFields, lookupStr_normV]
    cases lookupStr n kvs with
    | none => simp only [Option.map_none, deFields_normV ss ns kvs]
    | some x => simp only [Option.map_some, de_normV s x, deFields_normV ss ns kvs]
theorem deSlots_normV : ∀ (ss : List Shape) (names : List Str) (j : Nat) (slots : List (Option Nat × V)),
    deSlots names ss j (normSlots slots) = deSlots names ss j slots
  | [], names, j, slots => by cases names <;> simp [deSlots]
  | s :: ss, [], j, slots => by simp [deSlots]
  | s :: ss, n :: ns, j, slots => by
    simp only [deSlots, findSlot_normSlots]
    cases findSlot j slots with
    | none => simp only [Option.map_none, deSlots_normV ss ns (j + 1) slots]
    | some x => simp only [Option.map_some, de_normV s x, deSlots_normV ss ns (j + 1) slots]
theorem deVariant_normV : ∀ (vs : List VShape) (i orig : Nat) (p : Option V),
    deVariant vs i orig (p.map normV) = deVariant vs i orig p
  | [], i, orig, p => by simp [deVariant]
  | w :: ws, 0, orig, p => by simp only [deVariant, deV_normV w p]
  | w :: ws, i + 1, orig, p => by simp only [deVariant, deVariant_normV ws i orig p]
theorem deV_normV : ∀ (w : VShape) (p : Option V), deV w (p.map normV) = deV w p
  | w, none => by cases w <;> rfl
  | .unit, some x => by cases x <;> rfl
  | .newtype s, some x => de_normV s x
  | .tuple ss, some x => by
    cases x with
    | seq _ xs =>
      show (if ss.length < (normVList xs).length then _ else mapOk D.list (deList ss (normVList xs))) = _
      rw [normVList_length, deList_normV ss xs]
      rfl
    | _ => rfl
  | .struct names ss, some x => by
    cases x with
    | map kvs => exact deStructMap_normV names ss kvs (deFields_normV ss names kvs) (deSlots_normV ss names 0)
    | _ => rfl
end

end MJ.Serde
