import MJ.Proofs.CmpNum
import MJ.Proofs.CmpEq
import MJ.Proofs.CollD
/-!
# Maps: built by insertion they hold their keys in strictly increasing order; the string-specialised
lookup agrees with the general one; with reported lengths that are exact or absent the length-trusting
`==` is the `==` of the model

`insertB` is the generic ordered insertion `CollD.ins` at `Value::cmp`, which on values within range is
the order of the key type; the laws of `MJ.Proofs.CollD` apply.
-/
namespace MJ.CmpEq
open MJ MJ.Val MJ.Cmp MJ.CmpKey MJ.CmpNum MJ.Coll

/-- keys strictly increasing -/
def KeysSorted (ps : List (V × V)) : Prop := (ps.map (·.1)).Pairwise (fun a b => cmpV a b = .lt)

/-- on values within range `Value::cmp` is the order of the key type, read through `key` -/
theorem pullsBack_cmpV : PullsBack cmpV (AllNum N.WF) cmpK key := cmpV_eq_cmpK numSpec_wf

theorem insertB_eq_ins (k v : V) : ∀ ps : List (V × V), insertB k v ps = CollD.ins cmpV k v ps
  | [] => rfl
  | (k', v') :: ps => by
    unfold insertB CollD.ins
    cases cmpV k k' <;> simp [insertB_eq_ins k v ps]

theorem foldl_insertB_eq_dictCopy (ps : List (V × V)) :
    ps.foldl (fun acc p => insertB p.1 p.2 acc) [] = CollD.dictCopy cmpV ps := by
  simp only [insertB_eq_ins, CollD.dictCopy]

theorem getB_eq_get (k : V) : ∀ ps : List (V × V), getB k ps = CollD.get cmpV k ps
  | [] => rfl
  | (k', v') :: ps => by rw [getB, CollD.get, getB_eq_get k ps]

theorem getB_isSome_iff (x : V) (ps : List (V × V)) :
    (getB x ps).isSome = true ↔ ∃ p ∈ ps, cmpV x p.1 = .eq :=
  getB_eq_get x ps ▸ CollD.get_isSome_iff cmpV x ps

/-- the `IndexMap` lookup is the first entry whose key feeds the hasher the same items (not asked of a
    one-entry map) and is `==` to the probe -/
theorem getI_eq_find (single : Bool) (k : V) (ps : List (V × V)) :
    getI single k ps = (ps.find? fun p => (single || hkey k == hkey p.1) && eqV .index k p.1).map (·.2) := by
  fun_induction getI single k ps <;> simp_all

/-- inserting into a sorted entry list keeps it sorted (keys within range): an `Equal` key is never
    entered twice, the first spelling of the key stays -/
theorem insertB_sorted (k v : V) (hk : AllNum N.WF k) (ps : List (V × V))
    (hr : ∀ p ∈ ps, AllNum N.WF p.1) (hs : KeysSorted ps) : KeysSorted (insertB k v ps) :=
  insertB_eq_ins k v ps ▸ CollD.ins_sorted pullsBack_cmpV k v hk ps hr hs

theorem cmpV_str_eq (s : List Nat) (k : V) : cmpV (.str s) k = .eq ↔ k = .str s := by
  constructor
  · intro h
    have hc := cmpV_eq_cls h
    cases k <;> simp only [cls, reduceCtorEq] at hc
    rename_i t
    rw [cmpV] at h
    simp only [rank_cls, cls, ne_eq, not_true_eq_false, if_false] at h
    rw [(cmpBytes_eq_iff s t).mp h]
  · intro h; subst h
    rw [cmpV]
    simp only [ne_eq, not_true_eq_false, if_false]
    exact (cmpBytes_eq_iff s s).mpr rfl

theorem eqV_str (m : Mode) (s : List Nat) (k : V) : eqV m (.str s) k = true ↔ k = .str s := by
  cases k <;> simp [eqV]
  exact eq_comm

theorem scanStr_cons_self (s : List Nat) (v : V) (ps : List (V × V)) :
    scanStr s ((.str s, v) :: ps) = some v := by
  simp [scanStr]

theorem scanStr_cons_ne (s : List Nat) {k : V} (v : V) (ps : List (V × V)) (h : k ≠ .str s) :
    scanStr s ((k, v) :: ps) = scanStr s ps := by
  cases k <;> simp only [scanStr]
  rename_i t
  rw [if_neg (fun e => h (by rw [e]))]

theorem scanStr_eq_getB (s : List Nat) : ∀ ps : List (V × V), scanStr s ps = getB (.str s) ps
  | [] => rfl
  | (k', v') :: ps => by
    rw [getB]
    by_cases h : k' = .str s
    · subst h
      rw [scanStr_cons_self, if_pos ((cmpV_str_eq s _).mpr rfl)]
    · rw [scanStr_cons_ne s v' ps h, if_neg (mt (cmpV_str_eq s k').mp h), scanStr_eq_getB s ps]

theorem scanStr_eq_getI (single : Bool) (s : List Nat) : ∀ ps : List (V × V), scanStr s ps = getI single (.str s) ps
  | [] => rfl
  | (k', v') :: ps => by
    rw [getI]
    by_cases h : k' = .str s
    · subst h
      simp [scanStr_cons_self, (eqV_str .index s _).mpr rfl]
    · have he : eqV .index (.str s) k' = false := Bool.eq_false_iff.mpr (mt (eqV_str _ s k').mp h)
      rw [scanStr_cons_ne s v' ps h, he, Bool.and_false, if_neg (by decide), scanStr_eq_getI single s ps]

theorem getB_str_isSome (s : List Nat) (ps : List (V × V)) :
    (getB (.str s) ps).isSome = true ↔ ∃ p ∈ ps, eqV .btree p.1 (.str s) = true := by
  rw [getB_isSome_iff]
  constructor <;> rintro ⟨p, hp, h⟩ <;> refine ⟨p, hp, ?_⟩
  · rw [(cmpV_str_eq s p.1).mp h]; exact (eqV_str _ s _).mpr rfl
  · have : p.1 = .str s := by cases hk : p.1 <;> rw [hk] at h <;> simp [eqV] at h; rw [h]
    exact (cmpV_str_eq s p.1).mpr this

/-- with lengths that are exact or absent, the length-trusting map equality of the Rust is the
    map equality of the model (same number of entries and every entry of `a` found in `b`) -/
theorem eqMapWithLen_exact (m : Mode) (la lb : Option Nat) (ps qs : List (V × V))
    (ha : ∀ n, la = some n → n = ps.length) (hb : ∀ n, lb = some n → n = qs.length) :
    eqMapWithLen m la lb ps qs = eqV m (.map ps) (.map qs) := by
  rw [eqV]
  unfold eqMapWithLen
  cases la <;> cases lb
  case some.some a b =>
    cases ha a rfl
    cases hb b rfl
    rfl
  all_goals by_cases hl : ps.length = qs.length <;> simp [hl]

end MJ.CmpEq
