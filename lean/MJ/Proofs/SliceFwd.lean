import MJ.Proofs.SliceLemmas
import MJ.Proofs.PySliceSpec
/-! Forward slicing: `get_offset_and_len` + skip/take/step_by select exactly Python's positions. -/
namespace MJ.Slice
open MJ Chk

/-- start/stop before clamping to the length: what `get_offset_and_len` computes -/
def preClamp (L : Int) (b : Option Int) (d : Int) : Int :=
  match b with
  | none => d
  | some s => if s < 0 then max (s + L) 0 else s

theorem preClamp_nonneg (L : Int) (b : Option Int) (d : Int) (hd : 0 ≤ d) : 0 ≤ preClamp L b d := by
  unfold preClamp
  cases b with
  | none => exact hd
  | some s => simp only; split <;> omega

theorem preClamp_lt (L : Int) (b : Option Int) (d : Int) (hb : OptInI64 b) (hd : d < 9223372036854775808)
    (hL : L < 9223372036854775808) (hL0 : 0 ≤ L) : preClamp L b d < 9223372036854775808 := by
  unfold preClamp
  cases b with
  | none => exact hd
  | some s => simp only [OptInI64, InI64] at hb; simp only; split <;> omega

/-- Python clamps a bound to the length at once; the code leaves that to `skip`/`take` and, without a
    bound relative to the end, may let any `L` stand in for the length (only an omitted stop reads it) -/
theorem clampPos_standin (len L : Nat) (b : Option Int) (d dL : Int) (hd : d = min dL len)
    (h : L = len ∨ isNeg b = false) : PySlice.clampPos len b d = min (preClamp L b dL) len := by
  unfold preClamp PySlice.clampPos
  cases b with
  | none => exact hd
  | some s =>
    simp only
    by_cases hs : s < 0
    · rcases h with rfl | h
      · rw [if_pos hs, if_pos hs]; omega
      · simp [isNeg, hs] at h
    · rw [if_neg hs, if_neg hs]

theorem preClamp_of_not_neg (L : Int) (b : Option Int) (d : Int) (h : isNeg b = false) : preClamp L b d = b.getD d := by
  cases b with
  | none => rfl
  | some s => exact if_neg (by simpa [isNeg] using h)

theorem relEnd_ok (L x : Int) (hx : x < 0) (hx2 : -9223372036854775808 ≤ x) (hL0 : 0 ≤ L)
    (hL : L < 9223372036854775808) : relEnd L x = .ok (max (x + L) 0).toNat := by
  unfold relEnd
  rw [i64_ok (L + x) (by omega) (by omega), ok_bind, asUsize_of_nonneg _ (by omega) (by omega)]
  simp only [pure_eq]
  congr 2; omega

theorem asUsize_bound (L x d : Int) (hx : InI64 x) (h : ¬ x < 0) : asUsize x = (preClamp L (some x) d).toNat := by
  simp only [InI64] at hx
  simp only [preClamp, h, if_false]
  exact asUsize_of_nonneg x (by omega) (by omega)

/-- one bound of `get_offset_and_len`, relative to the end or not (`do` notation hands the rest of
    the computation, `f`, to both branches); `e` is `end as i64`, read only by a bound relative to the end -/
theorem bound_bind {β : Type} (e L x d : Int) (f : Nat → Chk β) (hx : InI64 x)
    (he : x < 0 → e = L ∧ 0 ≤ L ∧ L < 9223372036854775808) :
    (if x < 0 then relEnd e x >>= f else pure (asUsize x) >>= f) = f (preClamp L (some x) d).toNat := by
  by_cases h : x < 0
  · obtain ⟨rfl, hL0, hL⟩ := he h
    rw [if_pos h, relEnd_ok e x h hx.1 hL0 hL, ok_bind]
    simp only [preClamp, h, if_true]
  · rw [if_neg h, asUsize_bound L x d hx h]; rfl

/-- `get_offset_and_len(start, stop, || L)`: with a length below `2^63`, or — no bound relative to the
    end, so that only an omitted stop reads it — with any `L` at all (`usize::MAX` for an iterator
    that does not know its length) -/
theorem offsetLen_ok (start stop : Option Int) (L : Nat) (hs : OptInI64 start) (he : OptInI64 stop)
    (h : L < 9223372036854775808 ∨ (isNeg start || isNeg stop) = false) :
    offsetLen start stop L =
      .ok ((preClamp L start 0).toNat, (preClamp L stop L).toNat - (preClamp L start 0).toNat) := by
  have key : ∀ x, start = some x ∨ stop = some x → x < 0 →
      asI64 L = (L : Int) ∧ (0 : Int) ≤ L ∧ (L : Int) < 9223372036854775808 := by
    intro x hx hneg
    rcases h with h | h
    · exact ⟨asI64_of_lt L h, Int.natCast_nonneg _, by omega⟩
    · rw [Bool.or_eq_false_iff] at h
      rcases hx with rfl | rfl <;> simp [isNeg, hneg] at h
  have hs' : InI64 (start.getD 0) := by
    cases start with
    | none => exact ⟨by decide, by decide⟩
    | some s => exact hs
  have hs0 : start.getD 0 < 0 → asI64 L = (L : Int) ∧ (0 : Int) ≤ L ∧ (L : Int) < 9223372036854775808 := by
    cases start with
    | none => intro h0; exact absurd h0 (by decide)
    | some s => exact key s (Or.inl rfl)
  have hpre : preClamp L (some (start.getD 0)) 0 = preClamp L start 0 := by cases start <;> rfl
  unfold offsetLen
  cases stop with
  | none => simp only [or_true, if_true, bound_bind _ L _ 0 _ hs' hs0, hpre]; rfl
  | some x =>
    by_cases hc : start.getD 0 < 0 ∨ decide (x < 0) = true
    · simp only [hc, if_true, bound_bind _ L _ 0 _ hs' hs0, bound_bind _ L x L _ he (key x (Or.inr rfl)), hpre]; rfl
    · -- neither bound is relative to the end: the same two casts, without the `end` closure
      rw [not_or, decide_eq_true_iff] at hc
      simp only [hc, decide_false, Bool.false_eq_true, or_self, if_false]
      rw [asUsize_bound L _ 0 hs' hc.1, asUsize_bound L x L he hc.2, hpre]; rfl

/-- the code's window `a ≤ i < b`, which `skip`/`take` cut to the list, against Python's `lo ≤ i < hi`,
    which is cut to the list at once -/
theorem window_pick {α : Type} (xs : List α) (A B : Option Int) (k : Nat) (hk : 0 < k) (a b : Nat)
    (ha : PySlice.clampPos xs.length A 0 = min (a : Int) xs.length)
    (hb : PySlice.clampPos xs.length B xs.length = min (b : Int) xs.length) :
    stepBy k ((xs.drop a).take (b - a)) = pick xs (PySlice.indices xs.length A B (k : Int)) := by
  apply List.ext_getElem?
  intro j
  rw [stepBy_getElem? k hk, List.getElem?_take, List.getElem?_drop,
    pick_getElem? xs _ (PySlice.indices_lt xs.length A B k (by omega))]
  unfold PySlice.indices
  rw [PySlice.adjust_pos _ _ _ k hk, ha, hb, List.getElem?_map]
  -- `j` is counted iff `min a L + j*k < min b L`; then the window `a ≤ i < b` of the code holds
  -- position `a + j*k` too, and a position the window holds beyond that lies beyond the list
  have hcount := PySlice.lt_count_iff (min (a : Int) xs.length) (min (b : Int) xs.length) k j hk
  rw [← Int.natCast_mul] at hcount
  generalize (if min (a : Int) xs.length < min (b : Int) xs.length then _ else _ : Nat) = n at hcount ⊢
  by_cases hj : j < n
  · rw [List.getElem?_range hj]
    simp only [Option.map_some, Option.bind_some, ← Int.natCast_mul]
    generalize j * k = p at hcount ⊢
    rw [if_pos (by omega)]
    congr 1; omega
  · rw [show (List.range n)[j]? = none from List.getElem?_eq_none (by simpa using hj)]
    simp only [Option.map_none, Option.bind_none]
    generalize j * k = p at hcount ⊢
    split
    · exact List.getElem?_eq_none (by omega)
    · rfl

/-- **the forward window**: with the real length, or — no bound relative to the end — with any length
    not below it standing in, `get_offset_and_len` succeeds and `skip/take/step_by` select Python's positions -/
theorem window_python {α : Type} (xs : List α) (A B : Option Int) (st : Int) (L : Nat)
    (hA : OptInI64 A) (hB : OptInI64 B) (hst : InI64 st) (hpos : st > 0) (hl : xs.length < 9223372036854775808)
    (hL : L = xs.length ∨ (xs.length ≤ L ∧ (isNeg A || isNeg B) = false)) :
    ∃ off n, offsetLen A B L = .ok (off, n) ∧
      stepBy (asUsize st) ((xs.drop off).take n) = pick xs (PySlice.indices xs.length A B st) := by
  simp only [InI64] at hst
  obtain ⟨k, rfl⟩ : ∃ k : Nat, st = (k : Int) := ⟨st.toNat, by omega⟩
  have hAB : (L = xs.length ∨ isNeg A = false) ∧ (L = xs.length ∨ isNeg B = false) := by
    rcases hL with h | ⟨_, h⟩
    · exact ⟨Or.inl h, Or.inl h⟩
    · rw [Bool.or_eq_false_iff] at h; exact ⟨Or.inr h.1, Or.inr h.2⟩
  have hLl : (min (L : Int) xs.length) = xs.length := by rcases hL with h | ⟨h, _⟩ <;> omega
  refine ⟨_, _, offsetLen_ok A B L hA hB (hL.imp (fun h => by rw [h]; exact hl) And.right), ?_⟩
  rw [asUsize_of_nonneg _ (by omega) (by omega), Int.toNat_natCast]
  refine window_pick xs A B k (by omega) _ _ ?_ ?_
  · rw [Int.toNat_of_nonneg (preClamp_nonneg _ A 0 (Int.le_refl 0))]
    exact clampPos_standin _ L A 0 0 (by omega) hAB.1
  · rw [Int.toNat_of_nonneg (preClamp_nonneg _ B _ (Int.natCast_nonneg L))]
    exact clampPos_standin _ L B _ L hLl.symm hAB.2

end MJ.Slice
