import MJ.Gen.Tables

/-!
# C12: the mode-blind twins of the undefined-behaviour helpers

`UndefinedBehavior::{try_iter, is_true, handle_undefined}` decide what an undefined value does at an iteration /
truth / look-up site *given the mode*.  Each has a twin on `Value` that takes the same decision without the mode
(`Value::try_iter` iterates an undefined as the empty sequence, `Value::is_true` says `false`, `get_attr` /
`get_item(_opt)` / `get_attr_fast` / `get_item_by_index` hand back an undefined, an `is_undefined()` guard is a
hand-rolled decision).  A site of the language that asks the twin instead of the helper is outside the documented
matrix although every helper row is untouched -- seeded C12-6 (the recursion arm of `push_loop` called
`Value::try_iter`) and C12-7 (`as_const` folded look-ups, so the folded `not` / `or` / `~` never reached the VM arm
that asks the helper).

`MJ.Gen.undefBlindTwins` is regenerated from the source on every run: every call `.twin(` in `minijinja/src` and
`minijinja-contrib/src` that does not go through the mode, per (file, fn, twin) with its count.  Below, every row
outside the value layer carries the reason why the twin is legitimate there; the theorem re-checks the two tables
against each other, so a NEW blind call (or one more in a function that had some) stops the build.
-/

namespace MJ.Undef

/-- why a call of a mode-blind twin is legitimate -/
inductive TwinWhy where
  /-- the body of the helper itself (`UndefinedBehavior::try_iter` = `assert_iterable` then `Value::try_iter`) -/
  | helperBody
  /-- the same function asks the mode helper about this operand (the twin only fetches / inspects the value):
      GetAttr / GetItem (`handle_undefined(parent.is_undefined())`), Slice (inline test), filters `attr`, `map`, `sum` -/
  | asksHelper
  /-- implements the row "`is defined`, `is undefined`, `default` never fail" -/
  | matrixNever
  /-- the operand is a boolean the engine just computed (result of `ops::contains`, of a test call) -/
  | engineBool
  /-- the operand is a compile-time constant; no constant is undefined (`as_const` has no look-up arm: it has
      no `get_attr` / `get_item` row in the table) -/
  | constOperand
  /-- `Object::try_iter` on `value.as_object()`: an undefined is not an object -/
  | objectOnly
  /-- the operand is built by the engine (argument spec of a macro, kwargs, the context root and its frames) -/
  | engineValue
  /-- the argument conversion layer (`Option<T>`: undefined and none are a missing argument; `Vec<T>`), modelled
      from the extracted ArgType table (arg_conversion_table) -/
  | conversionLayer
  /-- body of a builtin filter / test / function (or of pycompat / minijinja-contrib) that treats an undefined
      operand the same under every mode: not a row of the matrix, monotone, exercised by the call / sweep / pyx
      streams.  Never allowed inside the VM or the compiler. -/
  | builtinBody
  deriving DecidableEq, Repr

/-- the value layer defines the twins (they take no mode by construction); argtypes.rs is the conversion layer -/
def valueLayer (file : String) : Bool :=
  ["minijinja/src/value/mod.rs", "minijinja/src/value/ops.rs", "minijinja/src/value/object.rs",
   "minijinja/src/value/merge_object.rs", "minijinja/src/value/deserialize.rs", "minijinja/src/value/serialize.rs",
   "minijinja/src/value/tuple.rs", "minijinja/src/value/type_erase.rs", "minijinja/src/value/namespace_object.rs"].contains file

/-- (file, fn, twin, number of calls, why) for every twin call outside the value layer -/
def twinJustification : List (String × String × String × Nat × TwinWhy) := [
  ("minijinja-contrib/src/filters/mod.rs", "pluralize", "is_undefined", 1, .builtinBody),
  ("minijinja-contrib/src/filters/mod.rs", "random", "get_item_by_index", 1, .builtinBody),
  ("minijinja-contrib/src/pycompat.rs", "string_methods", "try_iter", 4, .builtinBody),
  ("minijinja-contrib/src/pycompat.rs", "map_methods", "try_iter", 1, .builtinBody),
  ("minijinja-contrib/src/pycompat.rs", "seq_methods", "try_iter", 1, .builtinBody),
  ("minijinja/src/compiler/ast.rs", "as_const", "is_true", 2, .constOperand),
  ("minijinja/src/compiler/ast.rs", "eval_binop", "is_true", 2, .constOperand),
  ("minijinja/src/compiler/ast.rs", "eval_compare", "is_true", 1, .constOperand),
  ("minijinja/src/filters.rs", "dictsort", "try_iter", 1, .builtinBody),
  ("minijinja/src/filters.rs", "dictsort", "get_item", 1, .builtinBody),
  ("minijinja/src/filters.rs", "join_safe", "try_iter", 1, .builtinBody),
  ("minijinja/src/filters.rs", "default", "is_undefined", 1, .matrixNever),
  ("minijinja/src/filters.rs", "default", "is_true", 1, .matrixNever),
  ("minijinja/src/filters.rs", "sum", "is_undefined", 1, .asksHelper),
  ("minijinja/src/filters.rs", "attr", "get_item_opt", 1, .asksHelper),
  ("minijinja/src/filters.rs", "attr", "is_undefined", 1, .asksHelper),
  ("minijinja/src/filters.rs", "first", "try_iter", 1, .builtinBody),
  ("minijinja/src/filters.rs", "last", "try_iter", 1, .builtinBody),
  ("minijinja/src/filters.rs", "urlencode", "try_iter", 1, .builtinBody),
  ("minijinja/src/filters.rs", "urlencode", "get_item", 1, .builtinBody),
  ("minijinja/src/filters.rs", "urlencode", "is_undefined", 1, .builtinBody),
  ("minijinja/src/filters.rs", "select_or_reject", "is_true", 2, .engineBool),
  ("minijinja/src/filters.rs", "map", "get_item", 1, .asksHelper),
  ("minijinja/src/filters.rs", "map", "is_undefined", 2, .asksHelper),
  ("minijinja/src/filters.rs", "groupby", "try_iter", 1, .builtinBody),
  ("minijinja/src/filters.rs", "zip", "try_iter", 2, .builtinBody),
  ("minijinja/src/formatting.rs", "missing_arg_err", "get_attr", 1, .builtinBody),
  ("minijinja/src/formatting.rs", "missing_arg_err", "is_undefined", 1, .builtinBody),
  ("minijinja/src/formatting.rs", "get_nested_val", "get_attr", 2, .builtinBody),
  ("minijinja/src/formatting.rs", "get_nested_val", "get_item_by_index", 1, .builtinBody),
  ("minijinja/src/formatting.rs", "get_nested_val", "is_undefined", 1, .builtinBody),
  ("minijinja/src/functions.rs", "dict", "is_true", 1, .engineValue),
  ("minijinja/src/tests.rs", "is_undefined", "is_undefined", 1, .matrixNever),
  ("minijinja/src/tests.rs", "is_defined", "is_undefined", 1, .matrixNever),
  ("minijinja/src/tests.rs", "is_iterable", "try_iter", 1, .builtinBody),
  ("minijinja/src/tests.rs", "is_in", "is_true", 1, .engineBool),
  ("minijinja/src/utils.rs", "is_true", "is_true", 1, .helperBody),
  ("minijinja/src/utils.rs", "try_iter", "try_iter", 1, .helperBody),
  ("minijinja/src/value/argtypes.rs", "from_value", "is_undefined", 1, .conversionLayer),
  ("minijinja/src/value/argtypes.rs", "from_value_owned", "is_undefined", 1, .conversionLayer),
  ("minijinja/src/value/argtypes.rs", "convert_vec", "try_iter", 1, .conversionLayer),
  ("minijinja/src/vm/context.rs", "fmt", "is_undefined", 1, .engineValue),
  ("minijinja/src/vm/context.rs", "load", "get_attr_fast", 1, .engineValue),
  ("minijinja/src/vm/context.rs", "known_variables", "try_iter", 1, .engineValue),
  ("minijinja/src/vm/context.rs", "known_variables", "get_item", 1, .engineValue),
  ("minijinja/src/vm/mod.rs", "eval_impl", "get_attr_fast", 1, .asksHelper),
  ("minijinja/src/vm/mod.rs", "eval_impl", "is_undefined", 4, .asksHelper),
  ("minijinja/src/vm/mod.rs", "eval_impl", "get_item_opt", 1, .asksHelper),
  ("minijinja/src/vm/mod.rs", "eval_impl", "is_true", 2, .engineBool),
  ("minijinja/src/vm/mod.rs", "perform_include", "try_iter", 1, .objectOnly),
  ("minijinja/src/vm/mod.rs", "unpack_list", "try_iter", 1, .objectOnly),
  ("minijinja/src/vm/mod.rs", "build_macro", "try_iter", 1, .engineValue),
  ("minijinja/src/vm/state.rs", "perform_test", "is_true", 1, .engineBool)]

/-- where builtin filters / tests / functions live: only there may a twin call be excused as a builtin body
    (never inside the VM, the compiler or utils.rs) -/
def builtinFile (file : String) : Bool :=
  ["minijinja/src/filters.rs", "minijinja/src/tests.rs", "minijinja/src/functions.rs", "minijinja/src/formatting.rs",
   "minijinja-contrib/src/filters/mod.rs", "minijinja-contrib/src/filters/datetime.rs", "minijinja-contrib/src/globals.rs",
   "minijinja-contrib/src/pycompat.rs"].contains file

/-- the functions in which some call of a mode helper was found (regenerated mention table) -/
def asksAHelper (file fn : String) : Bool :=
  MJ.Gen.undefModeMentions.any (fun r => r.1 == file && r.2.1 == fn &&
    ["helper:handle_undefined", "helper:is_true", "helper:try_iter", "helper:assert_iterable",
     "helper:assert_value_not_undefined"].contains r.2.2.1)

/-- every call of a mode-blind twin outside the value layer is justified, with its exact count; a justification
    "the function asks the helper" is backed by a helper call found in that very function; inside the VM, the
    compiler and utils.rs no call is excused as a builtin body; the constant folder has no look-up twin. -/
theorem blind_twin_sites_justified :
    (MJ.Gen.undefBlindTwins.filter (fun r => !valueLayer r.1)) = twinJustification.map (fun j => (j.1, j.2.1, j.2.2.1, j.2.2.2.1)) ∧
    (∀ j ∈ twinJustification, j.2.2.2.2 = TwinWhy.asksHelper → asksAHelper j.1 j.2.1 = true) ∧
    (∀ j ∈ twinJustification, j.2.2.2.2 = TwinWhy.builtinBody → builtinFile j.1 = true) ∧
    (∀ j ∈ twinJustification, j.2.2.2.2 = TwinWhy.helperBody → j.1 = "minijinja/src/utils.rs" ∧ j.2.1 = j.2.2.1) ∧
    (∀ r ∈ MJ.Gen.undefBlindTwins, r.1 = "minijinja/src/compiler/ast.rs" → r.2.2.1 = "is_true") := by decide +kernel

/-- not vacuous: the table has VM rows that are justified by a helper call, and the check rejects what the two
    seeded changes did (a `try_iter` row in push_loop, a `get_item` row in as_const) -/
example : ("minijinja/src/vm/mod.rs", "eval_impl", "get_item_opt", 1, TwinWhy.asksHelper) ∈ twinJustification ∧
    asksAHelper "minijinja/src/vm/mod.rs" "eval_impl" = true ∧ asksAHelper "minijinja/src/vm/mod.rs" "unpack_list" = false ∧
    (("minijinja/src/vm/mod.rs", "push_loop", "try_iter", 1) :: MJ.Gen.undefBlindTwins).filter (fun r => !valueLayer r.1)
      ≠ twinJustification.map (fun j => (j.1, j.2.1, j.2.2.1, j.2.2.2.1)) ∧
    ¬ (∀ r ∈ [("minijinja/src/compiler/ast.rs", "as_const", "get_item", 1)], r.1 = "minijinja/src/compiler/ast.rs" → r.2.2.1 = "is_true") := by
  decide +kernel

end MJ.Undef
