import MJ.Proofs.LocCodegen
import MJ.Proofs.LocAst
/-!
C14: the simple line semantics `execL` (the one `instr_line_in_construct`
is proved about) IS what the real run-length side tables answer.

For every script of location calls of ONE generator (no `{% block %}` sub-generator inside), run
through `execG` (= the model of `CodeGenerator` + `Instructions::{add, add_with_line, add_with_span}`),
`get_line(pc)` of the resulting tables returns the line `execL` computes for instruction `pc`, and
`get_span(pc)`, when it returns a span, returns one that starts on that line.  So what
`process_err` attaches is the line of `execL`.
-/
namespace MJ.LocAst
open MJ MJ.Loc

/-- events of one generator: no sub-generator is opened or closed -/
def flat : Ev → Bool
  | .blockBegin _ => false
  | .blockEnd => false
  | _ => true

/-- the relation between the two semantics after a common prefix: same current line, the tables are those
    of the add sequence `A`, `prev` is the line of the last located add -/
structure Rel (s : LS) (g : GS) (A : List Add) : Prop where
  instrs : g.cur.cg.instrs = addAll A
  cur : s.cur = g.cur.cg.currentLine
  prev : s.prev = lastLine A

/-- one event: both semantics move in step; an instruction-emitting event appends one `Add` whose
    `lineStep` is the line `stepL` reports -/
theorem step_rel (s : LS) (g : GS) (A : List Add) (e : Ev) (hf : flat e = true) (h : Rel s g A) :
    ((stepL s e).2 = [] ∧ Rel (stepL s e).1 (stepG g e) A) ∨
    (∃ op em, (stepL s e).2 = [em] ∧ Rel (stepL s e).1 (stepG g e) (A ++ [op]) ∧
      em.line = lineStep (lastLine A) op) := by
  obtain ⟨hi, hc, hp⟩ := h
  cases e with
  | setLine l => exact Or.inl ⟨rfl, ⟨hi, rfl, hp⟩⟩
  | push sp => exact Or.inl ⟨rfl, ⟨hi, rfl, hp⟩⟩
  | pop => exact Or.inl ⟨rfl, ⟨hi, hc, hp⟩⟩
  | add nm lo hi' =>
    refine Or.inr ⟨addOf g.cur.cg.currentLine g.cur.cg.spanStack, ⟨nm, some s.cur, lo, hi'⟩, rfl, ⟨?_, ?_, ?_⟩, ?_⟩
    · show (g.cur.cg.step .add).instrs = _
      simp only [Cg.step, Cg.add_eq]
      rw [addAll_snoc, ← hi]
    · show s.cur = (g.cur.cg.step .add).currentLine
      simp only [Cg.step, Cg.add_eq]
      exact hc
    · show some s.cur = _
      rw [lastLine_snoc, lineStep_addOf, hc]
    · show some s.cur = _
      rw [lineStep_addOf, hc]
  | addSpan nm sp lo hi' =>
    refine Or.inr ⟨.withSpan sp, ⟨nm, some sp.startLine, lo, hi'⟩, rfl, ⟨?_, ?_, ?_⟩, rfl⟩
    · show (g.cur.cg.step (.addWithSpan sp)).instrs = _
      simp only [Cg.step]
      rw [addAll_snoc, ← hi]; rfl
    · exact hc
    · show some sp.startLine = _
      rw [lastLine_snoc]; rfl
  | raw nm lo hi' =>
    refine Or.inr ⟨.plain, ⟨nm, s.prev, lo, hi'⟩, rfl, ⟨?_, ?_, ?_⟩, ?_⟩
    · show g.cur.cg.instrs.add.1 = _
      rw [addAll_snoc, ← hi]; rfl
    · exact hc
    · show s.prev = _
      rw [lastLine_snoc]; exact hp
    · show s.prev = _
      exact hp
  | blockBegin nm => cases hf
  | blockEnd => cases hf

theorem execG_cons (g : GS) (e : Ev) (es : List Ev) : execG g (e :: es) = execG (stepG g e) es := rfl

/-- whole scripts: the tables are those of `A ++ A'` with one `Add` per emitted instruction, and the
    line `execL` reports for the `i`-th of them is `lineSpec` at its index -/
theorem exec_rel (evs : List Ev) : ∀ (s : LS) (g : GS) (A : List Add), evs.all flat = true → Rel s g A →
    ∃ A', Rel (execL s evs).1 (execG g evs) (A ++ A') ∧ A'.length ≤ evs.length ∧
      ∀ i e, (execL s evs).2[i]? = some e → e.line = lineSpec (A ++ A') (A.length + i) := by
  induction evs with
  | nil =>
    intro s g A _ h
    exact ⟨[], by rw [List.append_nil]; exact h, Nat.le_refl _, fun i e he => nomatch he⟩
  | cons e es ih =>
    intro s g A hf h
    simp only [List.all_cons, Bool.and_eq_true] at hf
    rw [execL_cons, execG_cons]
    rcases step_rel s g A e hf.1 h with ⟨hem, hr⟩ | ⟨op, em, hem, hr, hl⟩
    · obtain ⟨A', hr', hlen, hline⟩ := ih _ _ _ hf.2 hr
      exact ⟨A', hr', Nat.le_succ_of_le hlen, by rw [hem]; exact hline⟩
    · obtain ⟨A', hr', hlen, hline⟩ := ih _ _ _ hf.2 hr
      have e1 : A ++ op :: A' = A ++ [op] ++ A' := List.append_cons ..
      refine ⟨op :: A', by rw [e1]; exact hr', Nat.succ_le_succ hlen, ?_⟩
      rw [hem]
      intro i e' he
      cases i with
      | zero => cases he; exact hl.trans (lineSpec_at_end A A' op).symm
      | succ j => rw [hline j e' he, e1, List.length_append, List.length_singleton, Nat.add_assoc, Nat.add_comm 1 j]

theorem rel_init : Rel LS.init GS.init [] := ⟨rfl, rfl, rfl⟩

/-- the line `process_err` reports: the start line of the span it attaches, else the line -/
def attachedLine : Attached → Option Nat
  | .span sp => some sp.startLine
  | .line l => some l
  | .nothing => none

/-- **`execL` is what the real tables answer.**  One generator, any script of location calls: for every
    instruction `pc` the line that `process_err` attaches (through `get_span` / `get_line` of the
    run-length tables, binary search included) is the line `execL` computes. -/
theorem attachedLine_execL (s0 : LS) (g0 : GS) (h0 : Rel s0 g0 [])
    (evs : List Ev) (hf : evs.all flat = true) (hlen : evs.length < 4294967296)
    (pc : Nat) (e : Em) (he : (execL s0 evs).2[pc]? = some e) :
    ∃ att, processErr (execG g0 evs).cur.cg.instrs pc = .ok att ∧ attachedLine att = e.line := by
  obtain ⟨A', hr, hlenA, hline⟩ := exec_rel evs s0 g0 [] hf h0
  simp only [List.nil_append, List.length_nil, Nat.zero_add] at hr hline
  have hel : e.line = lineSpec A' pc := hline pc e he
  have hA : A'.length < 4294967296 := Nat.lt_of_le_of_lt hlenA hlen
  rw [hr.instrs]
  unfold processErr
  rw [(inv_addAll A' hA).getSpan pc, (inv_addAll A' hA).getLine pc]
  cases hs : spanSpec A' pc with
  | some sp => exact ⟨.span sp, rfl, by rw [hel, spanSpec_line A' pc sp hs]; rfl⟩
  | none =>
    cases hl : lineSpec A' pc with
    | some l => exact ⟨.line l, rfl, by rw [hel, hl]; rfl⟩
    | none => exact ⟨.nothing, rfl, by rw [hel, hl]; rfl⟩

theorem tables_answer_execL_from (s0 : LS) (g0 : GS) (h0 : Rel s0 g0 [])
    (evs : List Ev) (hf : evs.all flat = true) (hlen : evs.length < 4294967296)
    (pc : Nat) (e : Em) (he : (execL s0 evs).2[pc]? = some e) :
    ∃ att, processErr (execG g0 evs).cur.cg.instrs pc = .ok att ∧ (e.line = none ∨ attachedLine att = e.line) := by
  obtain ⟨att, hatt, hline⟩ := attachedLine_execL s0 g0 h0 evs hf hlen pc e he
  exact ⟨att, hatt, Or.inr hline⟩

/-- the root generator -/
theorem tables_answer_execL (evs : List Ev) (hf : evs.all flat = true) (hlen : evs.length < 4294967296)
    (pc : Nat) (e : Em) (he : (execL LS.init evs).2[pc]? = some e) :
    ∃ att, processErr (execG GS.init evs).cur.cg.instrs pc = .ok att ∧ (e.line = none ∨ attachedLine att = e.line) :=
  tables_answer_execL_from LS.init GS.init rel_init evs hf hlen pc e he

/-- a sub-generator as `new_subgenerator` creates it for the body of a `{% block %}`: the current line and the
    innermost span carried over, no instruction yet, whatever generators are suspended below it -/
theorem rel_sub (line : Nat) (stack : List Span) (saved : List (Option Nat)) (susp : List (Gen × String))
    (done : List (String × Gen)) :
    Rel ⟨line, none, saved⟩ ⟨⟨⟨line, stack, Instrs.empty⟩, []⟩, susp, done⟩ [] := ⟨rfl, rfl, rfl⟩

end MJ.LocAst
