import MJ.Proofs.CmpKey
import MJ.Proofs.CmpF64Cast
/-!
# The numeric comparison of `Value::cmp` is exact (integers of all widths, floats, and the two mixed)

`cmpN x y = compare (numKey x) (numKey y)`: integers of all four widths and floats are ordered by
their exact values (`numKey` = value · 2^1074; ±0 identified; infinities and NaNs continued in
`total_cmp` order).
-/
namespace MJ.CmpNum
open MJ MJ.Val MJ.Cmp MJ.F64 MJ.CmpKey

theorem compare_nat_int (a b : Nat) : compare a b = compare (a : Int) (b : Int) := by
  simp only [Int.compare_eq_ite_lt, Nat.compare_eq_ite_lt, Int.ofNat_lt]

theorem compare_mul_scale (a b : Int) :
    compare (a * (scale : Int)) (b * (scale : Int)) = compare a b :=
  compare_congr_int mul_scale_lt mul_scale_lt

theorem toI128_int (x : N) (hx : x.isFloat = false) :
    x.toI128 = if i128Min ≤ x.int ∧ x.int ≤ i128Max then some x.int else none := by
  cases x <;> simp only [N.isFloat, reduceCtorEq] at hx <;> rfl

theorem cmpI128U128_eq (l : Int) (r : Nat) : cmpI128U128 l r = compare l (r : Int) := by
  unfold cmpI128U128
  by_cases h : l < 0
  · rw [if_pos h]
    exact (Int.compare_eq_lt.mpr (by omega)).symm
  · rw [if_neg h, compare_nat_int]
    have : ((l.toNat : Nat) : Int) = l := by omega
    rw [this]

theorem cmpUncoercible_int (x y : N) (hx : x.isFloat = false) (hy : y.isFloat = false) :
    cmpUncoercible x y = compare x.int y.int := by
  cases x <;> simp only [N.isFloat, reduceCtorEq] at hx <;>
  cases y <;> simp only [N.isFloat, reduceCtorEq] at hy <;>
    simp only [cmpUncoercible, number, N.int, cmpI128U128_eq, compare_nat_int, Int.compare_swap]

theorem numKey_int {x : N} (hx : x.isFloat = false) : numKey x = x.int * (scale : Int) := by
  cases x <;> first | rfl | cases hx

theorem u128_of_gt_i128Max (x : N) (hf : x.isFloat = false) (hw : x.WF) (h : i128Max < x.int) : ∃ n, x = .u128 n := by
  cases x <;> simp only [N.isFloat, reduceCtorEq] at hf <;>
    first | exact ⟨_, rfl⟩ | (simp only [N.WF, N.int, i128Max, u64Max, i64Max] at *; omega)

theorem int_ge_i128Min (x : N) (hf : x.isFloat = false) (hw : x.WF) : i128Min ≤ x.int := by
  cases x <;> simp only [N.isFloat, reduceCtorEq] at hf <;>
    simp only [N.WF, N.int, i128Min, i128Max, u64Max, u128Max, i64Min, i64Max] at * <;> omega

/-- `coerce(a, b, false)` on two integers: both are handed on exactly when both are `i128`s; the arms for equal
    representations agree with the general one (`i128::try_from` of both) on well-formed operands -/
theorem coerceN_int_eq (x y : N) (fx : x.isFloat = false) (fy : y.isFloat = false) (hx : x.WF) (hy : y.WF) :
    coerceN x y = if (i128Min ≤ x.int ∧ x.int ≤ i128Max) ∧ (i128Min ≤ y.int ∧ y.int ≤ i128Max)
      then some (.i x.int y.int) else none := by
  have lo := int_ge_i128Min x fx hx
  have lo' := int_ge_i128Min y fy hy
  fun_cases coerceN x y
  case case1 a b => exact (if_pos (by simp only [N.WF, N.int, u64Max, i128Max] at hx hy lo lo' ⊢; omega)).symm
  -- two `u128`: the arm asks for the upper bounds only
  case case2 a b h => exact (if_pos ⟨⟨lo, h.1⟩, lo', h.2⟩).symm
  case case3 a b h => exact (if_neg fun c => h ⟨c.1.2, c.2.2⟩).symm
  case case4 a b => exact (if_pos (by simp only [N.WF, N.int, i64Max, i128Max] at hx hy lo lo' ⊢; omega)).symm
  case case5 a b => exact (if_pos ⟨hx, hy⟩).symm
  case case6 | case7 | case8 => cases fx
  case case9 | case10 => cases fy
  case case11 a b _ ha _ hb _ _ _ _ _ =>
    -- different widths, both fit
    rw [toI128_int x fx] at ha
    rw [toI128_int y fy] at hb
    split at ha <;> split at hb <;> cases ha <;> cases hb
    exact (if_pos ⟨‹_›, ‹_›⟩).symm
  case case12 h =>
    exact (if_neg fun c => h x.int y.int (by rw [toI128_int x fx, if_pos c.1])
      (by rw [toI128_int y fy, if_pos c.2])).symm

end MJ.CmpNum

-- `MJ.CmpKey` is not open from here on: `key` is `F64.key`
namespace MJ.CmpNum
open MJ MJ.Val MJ.Cmp MJ.F64

theorem key_natAbs (b : Nat) : (key b).natAbs = scaled b := MJ.NumF.sm_natAbs ..

theorem mag_eq_of_key_eq {a b : Nat} (h : key a = key b) : mag a = mag b := by
  have : scaled a = scaled b := by rw [← key_natAbs, ← key_natAbs, h]
  exact scaledOfMag_inj this

theorem nan_fin_of_key_eq {a b : Nat} (h : key a = key b) :
    isNaN a = isNaN b ∧ isFinite a = isFinite b := by
  unfold isNaN isFinite; rw [mag_eq_of_key_eq h]; exact ⟨rfl, rfl⟩

/-- comparing a float with the rounded integer first, and looking closer only when that says `Equal`,
    compares with the integer itself: no float lies strictly between an integer and its rounding -/
theorem cmp_via_rounded (l : Nat) (r : Int) (X : Ordering)
    (hX : key l = rndI r * (scale : Int) → X = compare (key l) (r * (scale : Int))) :
    (match compare (key l) (rndI r * (scale : Int)) with
      | .eq => X
      | rv => rv) = compare (key l) (r * (scale : Int)) := by
  cases hc : compare (key l) (rndI r * (scale : Int)) <;> simp only
  · have h1 := Int.compare_eq_lt.mp hc
    refine (Int.compare_eq_lt.mpr (Int.not_le.mp fun h2 => ?_)).symm
    have := rndI_above r l h2; omega
  · exact hX (Int.compare_eq_eq.mp hc)
  · have h1 := Int.compare_eq_gt.mp hc
    refine (Int.compare_eq_gt.mpr (Int.not_le.mp fun h2 => ?_)).symm
    have := rndI_below r l h2; omega

/-- the four integer types: range, and what `x as f64` needs -/
structure IntTy (lo hi : Int) : Prop where
  hiLog : hi.natAbs.log2 < 1000
  loR : rndI lo = lo
  hiMax : rndI hi = hi + 1
  lo128 : (-170141183460469231731687303715884105728 : Int) ≤ lo
  hi128 : hi ≤ 340282366920938463463374607431768211455

theorem ty_u64 : IntTy 0 u64Max := ⟨by decide, by decide, by decide, by decide, by decide⟩
theorem ty_i64 : IntTy i64Min i64Max := ⟨by decide, by decide, by decide, by decide, by decide⟩
theorem ty_u128 : IntTy 0 u128Max := ⟨by decide, by decide, by decide, by decide, by decide⟩
theorem ty_i128 : IntTy i128Min i128Max := ⟨by decide, by decide, by decide, by decide, by decide⟩

theorem IntTy.xlog {lo hi : Int} (t : IntTy lo hi) {x : Int} (h : lo ≤ x ∧ x ≤ hi) : x.natAbs.log2 < 1000 := by
  apply log2_small
  have := t.lo128; have := t.hi128
  omega

/-- a float `l` that is the rounding of an integer `v` of the type `lo..=hi` (what `l == v as f64` says): it is
    finite, it is below `MAX as f64` exactly when its value is within the type, and then the saturating cast returns
    that value -/
theorem cast_of_rounded {lo hi : Int} (t : IntTy lo hi) (l : Nat) (v : Int) (hv : lo ≤ v ∧ v ≤ hi)
    (he : key l = rndI v * (scale : Int)) :
    isNaN l = false ∧ isFinite l = true ∧ feq (ofInt v) l = true ∧
      flt l (ofInt hi) = decide (rndI v ≤ hi) ∧ (rndI v ≤ hi → castInt lo hi l = rndI v) := by
  obtain ⟨n1, f1, k1⟩ := ofInt_spec v (t.xlog hv)
  obtain ⟨e1, e2⟩ := nan_fin_of_key_eq (he.trans k1.symm)
  have hlow : lo ≤ rndI v := le_rndI (t.xlog ⟨Int.le_refl _, Int.le_trans hv.1 hv.2⟩) t.loR hv.1
  refine ⟨e1.trans n1, e2.trans f1, ?_, ?_, fun h => ?_⟩
  · unfold feq; rw [n1, e1, n1, k1, he]; simp
  · rw [(fge_flt_ofInt l (rndI v) hi (e1.trans n1) he t.hiLog).2, t.hiMax]
    exact decide_eq_decide.mpr (by omega)
  · rw [castInt_of_int_valued lo hi l (rndI v) (e1.trans n1) (e2.trans f1) he, if_neg (by omega), if_neg (by omega)]

/-- what `cmp_f64_i128` and `cmp_f64_u128` do once the float is known to be the rounding of the integer: at or
    beyond `MAX as f64` the float is greater, below it the saturating cast returns the float's own value -/
theorem cmp_cast {lo hi : Int} (t : IntTy lo hi) (l : Nat) (r : Int)
    (hr : lo ≤ r ∧ r ≤ hi) (he : key l = rndI r * (scale : Int)) :
    isFinite l = true ∧ flt l 0 = decide (rndI r < 0) ∧
    (if fge l (ofInt hi) then Ordering.gt else compare (castInt lo hi l) r) = compare (rndI r) r := by
  obtain ⟨hn, hf, _, _, hc⟩ := cast_of_rounded t l r hr he
  refine ⟨hf, (fge_flt_ofInt l (rndI r) 0 hn he (by decide)).2, ?_⟩
  rw [(fge_flt_ofInt l (rndI r) hi hn he t.hiLog).1, t.hiMax]
  by_cases hbig : hi + 1 ≤ rndI r
  · simp only [hbig, decide_true, if_true]
    exact (Int.compare_eq_gt.mpr (by omega)).symm
  · simp only [hbig, decide_false, Bool.false_eq_true, if_false]
    rw [hc (by omega)]

/-- `cmp_f64_i128` compares exactly -/
theorem cmpF64I128_eq (l : Nat) (r : Int) (hr : i128Min ≤ r ∧ r ≤ i128Max) :
    cmpF64I128 l r = compare (key l) (r * (scale : Int)) := by
  obtain ⟨_, _, k1⟩ := ofInt_spec r (ty_i128.xlog hr)
  unfold cmpF64I128
  rw [cmpF64_eq, k1]
  refine cmp_via_rounded l r _ fun he => ?_
  obtain ⟨hf, _, hc⟩ := cmp_cast ty_i128 l r hr he
  rw [hf, if_pos rfl]
  -- the float is an integer, so the comparison with its own truncation adds nothing
  unfold cmpWithTrunc
  rw [truncInt_of_int_valued l (rndI r) he, he, Int.compare_eq_eq.mpr rfl, compare_mul_scale, ← hc]
  split
  · rfl
  · cases compare (castInt i128Min i128Max l) r <;> rfl

/-- `cmp_f64_u128` compares exactly -/
theorem cmpF64U128_eq (l : Nat) (r : Nat) (hr : (r : Int) ≤ u128Max) :
    cmpF64U128 l r = compare (key l) ((r : Int) * (scale : Int)) := by
  have hr' : (0 : Int) ≤ r ∧ (r : Int) ≤ u128Max := ⟨Int.natCast_nonneg _, hr⟩
  obtain ⟨_, _, k1⟩ := ofInt_spec r (ty_u128.xlog hr')
  unfold cmpF64U128
  rw [cmpF64_eq, k1]
  refine cmp_via_rounded l r _ fun he => ?_
  obtain ⟨hf, h0, hc⟩ := cmp_cast ty_u128 l r hr' he
  have rnn : ¬ rndI r < 0 := by unfold rndI; rw [if_neg (by omega)]; omega
  rw [hf, if_pos rfl, h0, decide_eq_false rnn, hc, he, compare_mul_scale]
  rfl

theorem N.eq_f64 {x : N} (h : ¬ x.isFloat = false) : ∃ b, x = .f64 b := by
  cases x <;> first | exact ⟨_, rfl⟩ | exact absurd rfl h

/-- the `checked!` round trip of `as_f64` on an integer of the type: it succeeds exactly when the integer is its own
    rounding, i.e. a double -/
theorem checkedF64_eq {lo hi : Int} (t : IntTy lo hi) (x : Int) (hx : lo ≤ x ∧ x ≤ hi) :
    checkedF64 x lo hi false = if rndI x = x then some (ofInt x) else Option.none := by
  have hlow : lo ≤ rndI x := le_rndI (t.xlog ⟨Int.le_refl _, Int.le_trans hx.1 hx.2⟩) t.loR hx.1
  rw [checkedF64_cast x lo hi (t.xlog hx) t.hiLog, t.hiMax]
  by_cases hr : rndI x = x
  · rw [if_pos hr, if_pos ⟨by omega, by rw [if_neg (by omega), if_neg (by omega)]; exact hr⟩]
  · rw [if_neg hr, if_neg]
    rintro ⟨h1, h2⟩
    rw [if_neg (by omega), if_neg (by omega)] at h2
    exact hr h2

theorem asF64_int (x : N) (hf : x.isFloat = false) (hw : x.WF) :
    (∃ y, x.asF64 false = some y ∧ isNaN y = false ∧ F64.key y = x.int * (scale : Int)) ∨
    (x.asF64 false = Option.none ∧ ∀ f, F64.key f ≠ x.int * (scale : Int)) := by
  have gen : ∀ (v lo hi : Int), IntTy lo hi → lo ≤ v ∧ v ≤ hi →
      (∃ y, checkedF64 v lo hi false = some y ∧ isNaN y = false ∧ F64.key y = v * (scale : Int)) ∨
      (checkedF64 v lo hi false = Option.none ∧ ∀ f, F64.key f ≠ v * (scale : Int)) := by
    intro v lo hi t hv
    obtain ⟨n1, _, k1⟩ := ofInt_spec v (t.xlog hv)
    rw [checkedF64_eq t v hv]
    by_cases hr : rndI v = v
    · exact .inl ⟨_, if_pos hr, n1, by rw [k1, hr]⟩
    · exact .inr ⟨if_neg hr, fun f hk => hr (rndI_of_exact hk)⟩
  cases x
  case f64 => cases hf
  · exact gen _ 0 u64Max ty_u64 ⟨Int.natCast_nonneg _, hw⟩
  · exact gen _ i64Min i64Max ty_i64 hw
  · exact gen _ 0 u128Max ty_u128 ⟨Int.natCast_nonneg _, hw⟩
  · exact gen _ i128Min i128Max ty_i128 hw

theorem cmpUncoercible_float_int (a : Nat) (y : N) (fy : y.isFloat = false) (hy : y.WF) :
    cmpUncoercible (.f64 a) y = compare (F64.key a) (y.int * (scale : Int)) := by
  cases y
  case f64 => cases fy
  · exact cmpF64U128_eq a _ (by simp only [N.WF, u64Max, u128Max] at *; omega)
  · exact cmpF64I128_eq a _ (by simp only [N.WF, i64Min, i64Max, i128Min, i128Max] at *; omega)
  · exact cmpF64U128_eq a _ hy
  · exact cmpF64I128_eq a _ hy

theorem cmpUncoercible_int_float (x : N) (b : Nat) (fx : x.isFloat = false) (hx : x.WF) :
    cmpUncoercible x (.f64 b) = compare (x.int * (scale : Int)) (F64.key b) := by
  rw [← Int.compare_swap, ← cmpUncoercible_float_int b x fx hx]
  cases x
  case f64 => cases fx
  all_goals rfl

theorem cmpUncoercible_eq (x y : N) (hx : x.WF) (hy : y.WF) :
    cmpUncoercible x y = compare (CmpKey.numKey x) (CmpKey.numKey y) := by
  by_cases fx : x.isFloat = false <;> by_cases fy : y.isFloat = false
  · rw [cmpUncoercible_int x y fx fy, numKey_int fx, numKey_int fy, compare_mul_scale]
  · obtain ⟨b, rfl⟩ := N.eq_f64 fy
    rw [numKey_int fx]; exact cmpUncoercible_int_float x b fx hx
  · obtain ⟨a, rfl⟩ := N.eq_f64 fx
    rw [numKey_int fy]; exact cmpUncoercible_float_int a y fy hy
  · obtain ⟨a, rfl⟩ := N.eq_f64 fx
    obtain ⟨b, rfl⟩ := N.eq_f64 fy
    exact cmpF64_eq a b

def nanN : N → Bool
  | .f64 b => isNaN b
  | _ => false

theorem nanN_int {x : N} (fx : x.isFloat = false) : nanN x = false := by
  cases x <;> first | rfl | cases fx

theorem coerceN_int_float (x : N) (b : Nat) (fx : x.isFloat = false) :
    coerceN x (.f64 b) = (x.asF64 false).map (Co.f · b) := by
  cases x
  case f64 => cases fx
  all_goals
    simp only [coerceN]
    cases N.asF64 false _ <;> rfl

theorem coerceN_float_int (a : Nat) (y : N) (fy : y.isFloat = false) :
    coerceN (.f64 a) y = (y.asF64 false).map (Co.f a ·) := by
  cases y
  case f64 => cases fy
  all_goals
    simp only [coerceN]
    cases N.asF64 false _ <;> rfl

/-- what `coerce` hands to `cmp` and `==`: the two exact values in one representation.  It gives up only on two
    different values — or on two `u128`, which both callers settle before they ask -/
theorem coerceN_spec (x y : N) (hx : x.WF) (hy : y.WF) :
    match coerceN x y with
    | some (.i a b) => CmpKey.numKey x = a * (scale : Int) ∧ CmpKey.numKey y = b * (scale : Int)
    | some (.f a b) =>
      F64.key a = CmpKey.numKey x ∧ F64.key b = CmpKey.numKey y ∧ isNaN a = nanN x ∧ isNaN b = nanN y
    | Option.none => CmpKey.numKey x ≠ CmpKey.numKey y ∨ ∃ a b, x = .u128 a ∧ y = .u128 b := by
  by_cases fx : x.isFloat = false <;> by_cases fy : y.isFloat = false
  · rw [coerceN_int_eq x y fx fy hx hy]
    by_cases hr : (i128Min ≤ x.int ∧ x.int ≤ i128Max) ∧ (i128Min ≤ y.int ∧ y.int ≤ i128Max)
    · rw [if_pos hr]
      exact ⟨numKey_int fx, numKey_int fy⟩
    · -- one of them is beyond `i128::MAX`, hence a `u128`; with the same value so is the other
      rw [if_neg hr]
      by_cases he : CmpKey.numKey x = CmpKey.numKey y
      · rw [numKey_int fx, numKey_int fy] at he
        have he := mul_scale_inj he
        have hbig : i128Max < x.int := by
          have := int_ge_i128Min x fx hx
          have := int_ge_i128Min y fy hy
          omega
        obtain ⟨a, rfl⟩ := u128_of_gt_i128Max x fx hx hbig
        obtain ⟨b, rfl⟩ := u128_of_gt_i128Max y fy hy (he ▸ hbig)
        exact .inr ⟨a, b, rfl, rfl⟩
      · exact .inl he
  · obtain ⟨b, rfl⟩ := N.eq_f64 fy
    rw [coerceN_int_float x b fx, numKey_int fx]
    rcases asF64_int x fx hx with ⟨p, e, np, k⟩ | ⟨e, hno⟩ <;> rw [e]
    · exact ⟨k, rfl, np.trans (nanN_int fx).symm, rfl⟩
    · exact .inl fun h => hno b h.symm
  · obtain ⟨a, rfl⟩ := N.eq_f64 fx
    rw [coerceN_float_int a y fy, numKey_int fy]
    rcases asF64_int y fy hy with ⟨q, e, nq, k⟩ | ⟨e, hno⟩ <;> rw [e]
    · exact ⟨rfl, k, rfl, nq.trans (nanN_int fy).symm⟩
    · exact .inl fun h => hno a h
  · obtain ⟨a, rfl⟩ := N.eq_f64 fx
    obtain ⟨b, rfl⟩ := N.eq_f64 fy
    exact ⟨rfl, rfl, rfl, rfl⟩

/-- numbers of all five representations are ordered by their exact values -/
theorem numSpec_wf : CmpKey.NumSpec N.WF := by
  intro x y hx hy
  have h := coerceN_spec x y hx hy
  unfold cmpN
  split
  · exact (compare_nat_int _ _).trans (compare_mul_scale _ _).symm
  · revert h
    cases coerceN x y with
    | none => exact fun _ => cmpUncoercible_eq x y hx hy
    | some c =>
      cases c <;> simp only <;> intro h
      · rw [h.1, h.2, compare_mul_scale]
      · rw [cmpF64_eq, h.1, h.2.1]

end MJ.CmpNum
