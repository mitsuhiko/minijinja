import MJ.Proofs.ReloaderOutline
/-!
# The inductive invariant of the reloader protocol (`Inv`)

`Inv σ` holds in every reachable state (`inv_of_reachable`); the property theorems of C20 are read
off it in `MJ/Props/C20.lean`.  Its conjuncts about the holder of the mutex are carried across the
holder's steps by the proof outline of `ReloaderOutline`.
-/
namespace MJ.Reloader

/-- a flag set at clock `s` is still pending (flag up), or is being served by the rebuild in
    progress, or has been served by the environment in the cache -/
def Served (σ : State) (s : Nat) : Prop :=
  σ.flag = true ∨
  match σ.cur with
  | none => EnvFresh σ s
  | some c =>
    match c.pc with
    | .locked | .checked false | .holding | .created | .cleared => EnvFresh σ s
    | .checked true | .reset | .toCreate | .toClear | .failed => True
    | .creating _ | .innerSet _ _ => s < c.buildStart
    | .remarked => False

def TimeOk (σ : State) : Prop :=
  match σ.cur with
  | none => True
  | some c =>
    c.lockedAt < σ.now ∧
    match c.pc with
    | .locked => True
    | .creating _ | .innerSet _ _ =>
      c.lockedAt < c.checkedAt ∧ c.checkedAt < c.buildStart ∧ c.buildStart < σ.now
    | _ => c.lockedAt < c.checkedAt ∧ c.checkedAt < σ.now

/-- what the holder is about to hand out serves every set that preceded its check -/
def HandOk (σ : State) : Prop :=
  match σ.cur with
  | none => True
  | some c =>
    match c.pc with
    | .checked false | .holding | .created | .cleared =>
      ∀ s ∈ σ.sets, s < c.checkedAt → EnvFresh σ s
    | _ => True

def BuiltOk (σ : State) : Prop :=
  match σ.cur with
  | none => True
  | some c =>
    match c.pc with
    | .created =>
      c.built = true ∧ ∃ e, σ.env = some e ∧ e.builtAt = c.buildStart ∧ e.freshAt = c.buildStart
        ∧ c.checkedAt < c.buildStart
    | .holding =>
      c.built = true → ∃ e, σ.env = some e ∧ e.builtAt = c.buildStart ∧ e.freshAt = c.buildStart
        ∧ c.checkedAt < c.buildStart
    | _ => c.built = false

/-- the unwraps of `acquire_env` / `EnvironmentGuard::deref` find an environment -/
def EnvSome (σ : State) : Prop :=
  match σ.cur with
  | none => True
  | some c =>
    match c.pc with
    | .checked false | .created | .cleared | .toClear | .holding => σ.env ≠ none
    | _ => True

def InnerOk (σ : State) : Prop :=
  match σ.cur with
  | some c => match c.pc with
    | .innerSet s _ => s ∈ σ.sets
    | _ => True
  | none => True

def AcqRecOk (σ : State) (a : AcqRec) : Prop :=
  a.lockedAt < a.checkedAt ∧ a.checkedAt < σ.now ∧
  (∀ s ∈ σ.sets, s < a.checkedAt → s < a.env.freshAt) ∧
  (∀ b, a.built = some b → a.env.builtAt = b ∧ a.env.freshAt = b ∧ a.checkedAt < b)

def HoldLink (σ : State) : Prop :=
  match σ.cur with
  | some c => match c.pc with
    | .holding => ∃ a ∈ σ.acqLog, a.tid = c.tid ∧ a.lockedAt = c.lockedAt ∧ a.checkedAt = c.checkedAt
                    ∧ σ.env = some a.env
    | _ => True
  | none => True

/-- 1 while a reload decided by the check has not yet reached the creator call / the clear -/
def pendingRebuild (σ : State) : Nat :=
  match σ.cur with
  | some c => match c.pc with
    | .checked true | .reset | .toCreate | .toClear => 1
    | _ => 0
  | none => 0

/-- 1 while a creator call decided on an empty cache has not yet ended -/
def pendingFirst (σ : State) : Nat :=
  match σ.cur with
  | some c => match c.pc with
    | .checked true | .reset | .toCreate | .creating _ | .innerSet _ _ => 1
    | _ => 0
  | none => 0

/-- 1 while the flag is up and that has not been observed by the current check -/
def flagUnseen (σ : State) : Nat :=
  if σ.flag then
    match σ.cur with
    | some c => match c.pc with
      | .checked true => if c.sawFlag then 0 else 1
      | _ => 1
    | none => 1
  else 0

def failPending (σ : State) : Nat :=
  match σ.cur with
  | some c => match c.pc with
    | .failed => 1
    | _ => 0
  | none => 0

structure Inv (σ : State) : Prop where
  setsLt : ∀ s ∈ σ.sets, s < σ.now
  served : σ.poisoned = false → ∀ s ∈ σ.sets, Served σ s
  time : TimeOk σ
  hand : HandOk σ
  built : BuiltOk σ
  envSome : EnvSome σ
  inner : InnerOk σ
  thr : ∀ s, Thread.reqSet s ∈ σ.threads → s ∈ σ.sets
  reqLog : ∀ r ∈ σ.reqLog, r.setAt ∈ σ.sets ∧ r.setAt < r.retAt ∧ r.retAt < σ.now
  acqLog : ∀ a ∈ σ.acqLog, AcqRecOk σ a
  hold : HoldLink σ
  cntRebuild : σ.creates + σ.clears + pendingRebuild σ = σ.noneObs + σ.flagObs + σ.cbObs
  cntNone : (σ.env = none → σ.noneObs = σ.failed + σ.panicked + pendingFirst σ) ∧
            (σ.env ≠ none → σ.noneObs ≤ σ.failed + σ.panicked + 1)
  cntFlag : σ.flagObs + flagUnseen σ + failPending σ ≤ σ.risings + σ.failed
  risLe : σ.risings ≤ σ.sets.length
  norec : σ.recoverPoison = false
  pois : ∀ p, σ.panicAt = some p →
    σ.poisoned = true ∧ σ.cur = none ∧ p < σ.now ∧ ∀ a ∈ σ.acqLog, a.checkedAt < p
  pois2 : σ.poisoned = true → σ.panicAt ≠ none

theorem inv_init (ths : List Thread) (h : ∀ t ∈ ths, t.initial = true) : Inv (init ths) := by
  constructor <;> simp [init, Served, EnvFresh, TimeOk, HandOk, BuiltOk, EnvSome, InnerOk, HoldLink,
    pendingRebuild, pendingFirst, flagUnseen, failPending]
  intro s hs
  have := h _ hs
  simp [Thread.initial] at this

theorem TimeOk.holder {σ : State} {c : Active} (h : TimeOk σ) (hc : σ.cur = some c) :
    c.lockedAt < σ.now ∧ (c.pc ≠ .locked → c.lockedAt < c.checkedAt ∧ c.checkedAt < σ.now) := by
  simp only [TimeOk, hc] at h
  refine ⟨h.1, fun hpc => ?_⟩
  have h2 := h.2
  split at h2 <;> first | contradiction | omega

/-! ## the invariant and the proof outline

`PcInv` collects the conjuncts of `Inv` that look at the holder's program counter.  With a holder
inside they say, property by property, what `Outline` says program counter by program counter
(`PcInv.outline`, `Outline.pcInv`); with nobody inside they say `Idle`.  In both directions the
proof only regroups; a conjunct that asks nothing at a program counter is `trivial` there. -/

section
variable {σ : State} {c : Active}

theorem cur_not_poisoned (h : Inv σ) (hc : σ.cur = some c) :
    σ.poisoned = false ∧ σ.panicAt = none := by
  have hpan : σ.panicAt = none := by
    cases hpa : σ.panicAt with
    | none => rfl
    | some p => have := (h.pois p hpa).2.1; rw [hc] at this; cases this
  refine ⟨?_, hpan⟩
  cases hq : σ.poisoned with
  | false => rfl
  | true => exact absurd hpan (h.pois2 hq)

structure PcInv (σ : State) : Prop where
  served : σ.poisoned = false → ∀ s ∈ σ.sets, Served σ s
  time : TimeOk σ
  hand : HandOk σ
  built : BuiltOk σ
  envSome : EnvSome σ
  inner : InnerOk σ
  hold : HoldLink σ
  cntRebuild : σ.creates + σ.clears + pendingRebuild σ = σ.noneObs + σ.flagObs + σ.cbObs
  cntNone : (σ.env = none → σ.noneObs = σ.failed + σ.panicked + pendingFirst σ) ∧
            (σ.env ≠ none → σ.noneObs ≤ σ.failed + σ.panicked + 1)
  cntFlag : σ.flagObs + flagUnseen σ + failPending σ ≤ σ.risings + σ.failed

theorem Inv.pcInv (h : Inv σ) : PcInv σ :=
  ⟨h.served, h.time, h.hand, h.built, h.envSome, h.inner, h.hold, h.cntRebuild, h.cntNone, h.cntFlag⟩

theorem PcInv.outline (hc : σ.cur = some c) (hp : σ.poisoned = false) (h : PcInv σ) :
    Outline σ c := by
  obtain ⟨h1, h2, h3, h4, h5, h6, h7, h8, h9, h10⟩ := h
  simp only [Served, TimeOk, HandOk, BuiltOk, EnvSome, InnerOk, HoldLink, pendingRebuild, pendingFirst,
    flagUnseen, failPending, hc] at h1 h2 h3 h4 h5 h6 h7 h8 h9 h10
  replace h1 := h1 hp
  unfold Outline
  generalize c.pc = pc at *
  have cnt {a b : Nat} (h8 : σ.creates + σ.clears + a = σ.noneObs + σ.flagObs + σ.cbObs)
      (h9 : (σ.env = none → σ.noneObs = σ.failed + σ.panicked + b) ∧
        (σ.env ≠ none → σ.noneObs ≤ σ.failed + σ.panicked + 1)) {u f : Nat}
      (h10 : σ.flagObs + u + f ≤ σ.risings + σ.failed) : Counts σ a b u f := ⟨h8, h9, h10⟩
  cases pc with
  | locked => exact ⟨h2.1, h4, h1, cnt h8 h9 h10⟩
  | checked b => cases b with
    | true => exact ⟨h2.1, h2.2, h4, cnt h8 h9 h10⟩
    | false => exact ⟨h2.1, h2.2, h4, h5, h1, h3, cnt h8 h9 h10⟩
  | reset | toCreate | failed => exact ⟨h2.1, h2.2, h4, cnt h8 h9 h10⟩
  | toClear => exact ⟨h2.1, h2.2, h4, h5, cnt h8 h9 h10⟩
  | creating _ => exact ⟨h2.1, h2.2, h4, h1, cnt h8 h9 h10⟩
  | innerSet _ _ => exact ⟨h2.1, ⟨h2.2, h4, h1, cnt h8 h9 h10⟩, h6⟩
  | created => exact ⟨h2.1, h2.2, h4.1, h4.2, h1, h3, cnt h8 h9 h10⟩
  | cleared => exact ⟨h2.1, h2.2, h4, h5, h1, h3, cnt h8 h9 h10⟩
  | remarked => exact ⟨h2.1, h2.2, h4, fun s hs => (h1 s hs).resolve_right id, cnt h8 h9 h10⟩
  | holding => exact ⟨h2.1, h2.2, h4, h5, h1, h3, cnt h8 h9 h10, h7⟩

theorem Outline.pcInv (hc : σ.cur = some c) (ho : Outline σ c) : PcInv σ := by
  unfold Outline at ho
  cases σ; cases hc
  obtain ⟨tid, cfg, pc, lockedAt, checkedAt, sawFlag, buildStart, built, fastSeen, droppedW⟩ := c
  cases pc with
  | locked =>
    obtain ⟨h0, hb, hfr, hr, hn, hf⟩ := ho
    exact ⟨fun _ => hfr, And.intro h0 trivial, trivial, hb, trivial, trivial, trivial, hr, hn, hf⟩
  | checked b => cases b with
    | true =>
      obtain ⟨h0, hk, hb, hr, hn, hf⟩ := ho
      exact ⟨fun _ _ _ => .inr trivial, And.intro h0 hk, trivial, hb, trivial, trivial, trivial, hr, hn, hf⟩
    | false =>
      obtain ⟨h0, hk, hb, he, hfr, hh, hr, hn, hf⟩ := ho
      exact ⟨fun _ => hfr, And.intro h0 hk, hh, hb, he, trivial, trivial, hr, hn, hf⟩
  | reset | toCreate | failed =>
    obtain ⟨h0, hk, hb, hr, hn, hf⟩ := ho
    exact ⟨fun _ _ _ => .inr trivial, And.intro h0 hk, trivial, hb, trivial, trivial, trivial, hr, hn, hf⟩
  | toClear =>
    obtain ⟨h0, hk, hb, he, hr, hn, hf⟩ := ho
    exact ⟨fun _ _ _ => .inr trivial, And.intro h0 hk, trivial, hb, he, trivial, trivial, hr, hn, hf⟩
  | creating _ =>
    obtain ⟨h0, ht, hb, hsv, hr, hn, hf⟩ := ho
    exact ⟨fun _ => hsv, And.intro h0 ht, trivial, hb, trivial, trivial, trivial, hr, hn, hf⟩
  | innerSet _ _ =>
    obtain ⟨h0, ⟨ht, hb, hsv, hr, hn, hf⟩, hin⟩ := ho
    exact ⟨fun _ => hsv, And.intro h0 ht, trivial, hb, trivial, hin, trivial, hr, hn, hf⟩
  | created =>
    obtain ⟨h0, hk, hb, hbl, hfr, hh, hr, hn, hf⟩ := ho
    exact ⟨fun _ => hfr, And.intro h0 hk, hh, And.intro hb hbl, (fun h => by obtain ⟨e, he, -⟩ := hbl; cases he.symm.trans h),
      trivial, trivial, hr, hn, hf⟩
  | cleared =>
    obtain ⟨h0, hk, hb, he, hfr, hh, hr, hn, hf⟩ := ho
    exact ⟨fun _ => hfr, And.intro h0 hk, hh, hb, he, trivial, trivial, hr, hn, hf⟩
  | remarked =>
    obtain ⟨h0, hk, hb, hfl, hr, hn, hf⟩ := ho
    exact ⟨fun _ s hs => .inl (hfl s hs), And.intro h0 hk, trivial, hb, trivial, trivial, trivial, hr, hn, hf⟩
  | holding =>
    obtain ⟨h0, hk, hb, he, hfr, hh, ⟨hr, hn, hf⟩, hl⟩ := ho
    exact ⟨fun _ => hfr, And.intro h0 hk, hh, hb, he, trivial, hl, hr, hn, hf⟩

/-- The record the handout writes: the check was made under the lock, the cache serves every set
    before it, and the cache is this acquire's build if it made one. -/
theorem Outline.acqRec {e : Env} (ho : Outline σ c)
    (hpc : c.pc = .checked false ∨ c.pc = .created ∨ c.pc = .cleared) (he : σ.env = some e) :
    AcqRecOk σ ⟨c.tid, c.lockedAt, c.checkedAt, e, if c.built then some c.buildStart else none⟩ := by
  obtain ⟨-, hk, hb, -, hh, -⟩ := ho.handout hpc
  refine ⟨hk.1, hk.2, fun s hs hlt => hh s hs hlt e he, fun b hbe => ?_⟩
  cases hbt : c.built with
  | false => simp [hbt] at hbe
  | true =>
    obtain ⟨e', he', h1, h2, h3⟩ := hb hbt
    cases he.symm.trans he'
    simp only [hbt, if_true, Option.some.injEq] at hbe
    subst hbe
    exact ⟨h1, h2, h3⟩

theorem Idle.pcInv (hc : σ.cur = none) (hi : Idle σ) : PcInv σ := by
  cases σ; cases hc
  exact ⟨hi.1, trivial, trivial, trivial, trivial, trivial, trivial, hi.2.1, hi.2.2.1, hi.2.2.2⟩

theorem PcInv.idle (hc : σ.cur = none) (h : PcInv σ) : Idle σ := by
  cases σ; cases hc
  exact ⟨h.served, h.cntRebuild, h.cntNone, h.cntFlag⟩

theorem pcInv_raise (h : Inv σ) {ths : List Thread} : PcInv (σ.raise ths) := by
  cases hc : σ.cur with
  | none => exact (h.pcInv.idle hc).raise.pcInv hc
  | some c => exact (h.pcInv.outline hc (cur_not_poisoned h hc).1).raise.pcInv hc

end

theorem TimeOk_frame {σ σ' : State} (h : TimeOk σ) (hc : σ'.cur = σ.cur) (hn : σ.now ≤ σ'.now) :
    TimeOk σ' := by
  unfold TimeOk at *
  rw [hc]
  split <;> simp_all
  split <;> simp_all <;> omega

theorem AcqRecOk_frame {σ σ' : State} {a : AcqRec} (h : AcqRecOk σ a) (hn : σ.now ≤ σ'.now)
    (hs : ∀ s ∈ σ'.sets, s ∈ σ.sets ∨ s = σ.now) : AcqRecOk σ' a := by
  unfold AcqRecOk at *
  refine ⟨h.1, by omega, ?_, h.2.2.2⟩
  intro s hs' hlt
  rcases hs s hs' with h' | h'
  · exact h.2.2.1 s h' hlt
  · omega

theorem pendingFirst_le_one (σ : State) : pendingFirst σ ≤ 1 := by
  unfold pendingFirst; repeat' split
  all_goals omega

section
variable {σ : State}

theorem Inv.reqLog_succ (h : Inv σ) :
    ∀ r ∈ σ.reqLog, r.setAt ∈ σ.sets ∧ r.setAt < r.retAt ∧ r.retAt < σ.now + 1 :=
  fun r hr => ⟨(h.reqLog r hr).1, (h.reqLog r hr).2.1, Nat.lt_succ_of_lt (h.reqLog r hr).2.2⟩

theorem Inv.acqLog_lt (h : Inv σ) : ∀ a ∈ σ.acqLog, a.lockedAt < a.checkedAt ∧ a.checkedAt < σ.now :=
  fun a ha => ⟨(h.acqLog a ha).1, (h.acqLog a ha).2.1⟩

theorem Inv.thr_set (h : Inv σ) {i : Nat} {t : Thread} (ht : ∀ s, Thread.reqSet s ≠ t) :
    ∀ s, Thread.reqSet s ∈ σ.threads.set i t → s ∈ σ.sets :=
  fun s hm => h.thr s (mem_of_mem_set hm (ht s))

/-- A tick that writes none of the fields the invariant reads, apart from the thread list and the
    request log: `set_fast_reload`, `set_callback`, `watch_path`, `persistent_watch`, the return of a
    request, a panic on the poisoned lock.  A conjunct that does not read the clock is the same
    proposition before and after. -/
theorem inv_tick (h : Inv σ) {fast persistent watching registered : Bool}
    {lastDrop : Option (Bool × Bool)} {cbConst : Option Bool} {threads : List Thread}
    {lockPanics onCalls : Nat} {panicTids : List Nat} {reqLog : List ReqRec}
    (hthr : ∀ s, Thread.reqSet s ∈ threads → s ∈ σ.sets)
    (hreq : ∀ r ∈ reqLog, r.setAt ∈ σ.sets ∧ r.setAt < r.retAt ∧ r.retAt < σ.now + 1) :
    Inv { σ with now := σ.now + 1, fast := fast, persistent := persistent, watching := watching,
                 registered := registered, lastDrop := lastDrop, cbConst := cbConst,
                 threads := threads, lockPanics := lockPanics, onCalls := onCalls,
                 panicTids := panicTids, reqLog := reqLog } where
  setsLt s hs := Nat.lt_succ_of_lt (h.setsLt s hs)
  served := h.served
  time := TimeOk_frame h.time rfl (Nat.le_succ _)
  hand := h.hand
  built := h.built
  envSome := h.envSome
  inner := h.inner
  thr := hthr
  reqLog := hreq
  acqLog a ha := AcqRecOk_frame (h.acqLog a ha) (Nat.le_succ _) fun _ hs => Or.inl hs
  hold := h.hold
  cntRebuild := h.cntRebuild
  cntNone := h.cntNone
  cntFlag := h.cntFlag
  risLe := h.risLe
  norec := h.norec
  pois p hp := ⟨(h.pois p hp).1, (h.pois p hp).2.1, Nat.lt_succ_of_lt (h.pois p hp).2.2.1,
    (h.pois p hp).2.2.2⟩
  pois2 := h.pois2

theorem inv_reqIdle {i : Nat} (h : Inv σ) : Inv (σ.raise (σ.threads.set i (.reqSet σ.now))) :=
  { pcInv_raise h with
    setsLt := fun s hs => by
      rcases List.mem_cons.mp hs with rfl | hs
      · exact Nat.lt_succ_self _
      · exact Nat.lt_succ_of_lt (h.setsLt s hs)
    thr := fun s hs => by
      rcases List.mem_or_eq_of_mem_set hs with h' | h'
      · exact List.mem_cons_of_mem _ (h.thr s h')
      · cases h'; exact List.mem_cons_self
    reqLog := fun r hr => ⟨List.mem_cons_of_mem _ (h.reqLog r hr).1, (h.reqLog_succ r hr).2⟩
    acqLog := fun a ha =>
      AcqRecOk_frame (h.acqLog a ha) (Nat.le_succ _) fun _ hs => (List.mem_cons.mp hs).symm
    risLe := by have := h.risLe; simp only [List.length_cons]; split <;> omega
    norec := h.norec
    pois := fun p hp => ⟨(h.pois p hp).1, (h.pois p hp).2.1, Nat.lt_succ_of_lt (h.pois p hp).2.2.1,
      (h.pois p hp).2.2.2⟩
    pois2 := h.pois2 }

/-- Taking the free mutex; the poison clauses are vacuous, the mutex was not poisoned. -/
theorem inv_lock {i : Nat} {cfg : AcqCfg} (h : Inv σ) (hc : σ.cur = none)
    (hp : σ.poisoned = false) :
    Inv { σ with now := σ.now + 1,
                 cur := some { tid := i, cfg := cfg, pc := .locked, lockedAt := σ.now },
                 threads := σ.threads.set i .acqActive } :=
  { ((h.pcInv.idle hc).lock hp).pcInv rfl with
    setsLt := fun s hs => Nat.lt_succ_of_lt (h.setsLt s hs)
    thr := h.thr_set nofun
    reqLog := h.reqLog_succ
    acqLog := fun a ha => AcqRecOk_frame (h.acqLog a ha) (Nat.le_succ _) fun _ hs => Or.inl hs
    risLe := h.risLe
    norec := h.norec
    pois := fun p hpa => by have := (h.pois p hpa).1; simp [hp] at this
    pois2 := fun hq => by simp [hp] at hq }

end

section
variable {σ σ' : State} {c : Active}

theorem pcInv_stepActive (h : Inv σ) (hc : σ.cur = some c)
    (hs : stepActive σ c = some σ') : PcInv σ' := by
  have := outline_stepActive (h.pcInv.outline hc (cur_not_poisoned h hc).1) h.setsLt hs
  cases hc' : σ'.cur with
  | none => rw [hc'] at this; exact this.pcInv hc'
  | some c' => rw [hc'] at this; exact this.pcInv hc'

/-- The conjuncts that look at the holder's program counter come from the proof outline; the others
    follow from what the step does to the fields they read (`ReloaderStep`). -/
theorem inv_stepActive (h : Inv σ) (hc : σ.cur = some c) (hs : stepActive σ c = some σ') :
    Inv σ' :=
  have hh := stepActive_holder hs
  { pcInv_stepActive h hc hs with
    setsLt s hm := by
      rw [hh.now]
      rcases hh.mem_sets s hm with hm | rfl
      · exact Nat.lt_succ_of_lt (h.setsLt s hm)
      · exact Nat.lt_succ_self _
    thr s hm := hh.sets_subset s (h.thr s (hh.mem_threads hm nofun))
    reqLog := by
      have hold : ∀ r ∈ σ.reqLog, r.setAt ∈ σ'.sets ∧ r.setAt < r.retAt ∧ r.retAt < σ'.now := by
        intro r hr
        obtain ⟨h1, h2, h3⟩ := h.reqLog_succ r hr
        exact ⟨hh.sets_subset _ h1, h2, by rw [hh.now]; exact h3⟩
      rcases hh.reqLog with h' | ⟨s, rest, hpc, h'⟩ <;> rw [h']
      · exact hold
      · have hin := h.inner
        simp only [InnerOk, hc, hpc] at hin
        intro r hr
        rcases List.mem_cons.mp hr with rfl | hr
        · exact ⟨hh.sets_subset s hin, h.setsLt s hin,
            by rw [hh.now]; exact Nat.lt_succ_self _⟩
        · exact hold r hr
    acqLog := by
      -- a record that is in order stays so; the one the handout adds is in order by the outline
      have keep : ∀ a, AcqRecOk σ a → AcqRecOk σ' a := fun a ha =>
        AcqRecOk_frame ha (by rw [hh.now]; exact Nat.le_succ _) hh.mem_sets
      rcases hh.acqLog with h' | ⟨e, he, hpc, -, -, -, h'⟩ <;> rw [h'] <;> intro a ha
      · exact keep a (h.acqLog a ha)
      · rcases List.mem_cons.mp ha with rfl | ha
        · exact keep _ ((h.pcInv.outline hc (cur_not_poisoned h hc).1).acqRec hpc he)
        · exact keep a (h.acqLog a ha)
    risLe := by
      have := h.risLe
      rcases hh.sets with ⟨h1, h2⟩ | ⟨h1, h2⟩ <;> rw [h1] <;> simp <;> omega
    norec := hh.norec.trans h.norec
    pois p hp' := by
      -- with a holder inside there has been no panic, so a panic in this step is the first, at the clock;
      -- every guard in the log was checked before the clock
      obtain ⟨-, hpa⟩ := cur_not_poisoned h hc
      rcases hh.poison with ⟨-, h'⟩ | ⟨hq', h', hcur, hlog⟩ <;> rw [h', hpa] at hp' <;>
        cases hp'
      rw [hlog, hh.now]
      exact ⟨hq', hcur, Nat.lt_succ_self _, fun a ha => (h.acqLog_lt a ha).2⟩
    pois2 hq' := by
      rcases hh.poison with ⟨hq, -⟩ | ⟨-, h', -, -⟩
      · rw [hq, (cur_not_poisoned h hc).1] at hq'; cases hq'
      · rw [h']; nofun }

end

theorem inv_step {σ σ' : State} {i : Nat} (h : Inv σ) (hs : step σ i = some σ') : Inv σ' := by
  revert hs
  fun_cases step σ i <;> intro hs
  · cases hs; exact inv_tick h (h.thr_set nofun) h.reqLog_succ
  · rename_i hc hp
    cases hs
    exact inv_lock h hc (by simpa [h.norec] using hp)
  · cases hs
  · exact inv_stepActive h ‹_› hs
  · cases hs
  · cases hs
  · cases hs; exact inv_reqIdle h
  · -- a request returns: its set is in `sets` (`thr`), before the clock
    rename_i s hth
    have hm := h.thr s (List.mem_of_getElem? hth)
    cases hs
    refine inv_tick h (h.thr_set nofun) fun r hr => ?_
    rcases List.mem_cons.mp hr with rfl | hr
    · exact ⟨hm, h.setsLt s hm, Nat.lt_succ_self _⟩
    · exact h.reqLog_succ r hr
  rotate_right
  · cases hs
  all_goals
    cases hs
    exact inv_tick h (h.thr_set nofun) h.reqLog_succ

theorem inv_of_reachable {σ : State} (h : Reachable σ) : Inv σ := by
  induction h with
  | init ths h => exact inv_init ths h
  | step i _ hs ih => exact inv_step ih hs

end MJ.Reloader
