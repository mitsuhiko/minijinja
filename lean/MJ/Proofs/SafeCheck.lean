import MJ.Model.SafeCheck
import MJ.Proofs.SafeFrag
/-! Soundness of the decision procedure `progOkB` for the syntactic fragment `ProgOk`. -/
namespace MJ.Safe

theorem filterOkB_sound {name : String} {ps : List Nat} (h : filterOkB name ps = true) : FilterOk name ps := by
  intro m g ok hl
  simp only [filterOkB, List.all_cons, List.all_nil, Bool.and_true, Bool.and_eq_true] at h
  cases m with
  | html => have := h.1; rw [hl] at this; exact this
  | none => have := h.2.1; rw [hl] at this; exact this
  | json => have := h.2.2; rw [hl] at this; exact this

theorem allowsB_sound {m : Mode} {k : Bool} (h : allowsB m k = true) : allows m k := by
  simp only [allowsB, Bool.or_eq_true, Bool.and_eq_true, beq_iff_eq] at h
  rcases h with h | ⟨h, hk⟩
  · exact Or.inl h
  · exact Or.inr ⟨h, hk⟩

theorem autoModeB_eq (a : AutoArg) : autoModeB a = autoMode a := by
  cases a <;> rfl

mutual
theorem okE_sound {m : Mode} : ∀ (e : Expr), okE m e = true → OkE m e
  | .var n, _ => .var n
  | .lit s, _ => .lit s
  | .int n, _ => .int n
  | .bool b, _ => .bool b
  | .none, _ => .none
  | .cat a b, h => by
    simp only [okE, Bool.and_eq_true] at h
    exact .cat (okE_sound a h.1) (okE_sound b h.2)
  | .add a b, h => by
    simp only [okE, Bool.and_eq_true] at h
    exact .add (okE_sound a h.1) (okE_sound b h.2)
  | .mul a n, h => .mul n (okE_sound a h)
  | .filt name ps args, h => by
    simp only [okE, Bool.and_eq_true] at h
    exact .filt (filterOkB_sound h.1) (okEs_sound args h.2)
  | .meth name ps args, h => by
    simp only [okE, Bool.and_eq_true, List.all_eq_true] at h
    exact .meth (fun k hk => filterOkB_sound (h.1 k hk)) (okEs_sound args h.2)
  | .index a k, h => .index k (okE_sound a h)
  | .slice a x y, h => .slice x y (okE_sound a h)
  | .attr a key, h => .attr key (okE_sound a h)
  | .list xs, h => .list (okEs_sound xs h)
  | .dict kvs, h => .dict (okKs_sound kvs h)
  | .call g args, h => .call g (okEs_sound args h)
  | .modCall a g args, h => .modCall a g (okEs_sound args h)
  | .modVar a x, _ => .modVar a x
  | .caller, _ => .caller
  | .super, h => by
    simp only [okE, beq_iff_eq] at h
    exact .super h
  | .loopRec e, h => .loopRec (okE_sound e h)
  | .loopIndex, _ => .loopIndex
  | .loopFirst, _ => .loopFirst
  | .not e, h => .not (okE_sound e h)
  | .cond c a b, h => by
    simp only [okE, Bool.and_eq_true] at h
    exact .cond (okE_sound c h.1.1) (okE_sound a h.1.2) (okE_sound b h.2)
theorem okEs_sound {m : Mode} : ∀ (es : List Expr), okEs m es = true → OkEs m es
  | [], _ => .nil
  | e :: es, h => by
    simp only [okEs, Bool.and_eq_true] at h
    exact .cons (okE_sound e h.1) (okEs_sound es h.2)
theorem okKs_sound {m : Mode} : ∀ (kvs : List (String × Expr)), okKs m kvs = true → OkKs m kvs
  | [], _ => .nil
  | (k, e) :: kvs, h => by
    simp only [okKs, Bool.and_eq_true] at h
    exact .cons (okE_sound e h.1) (okKs_sound kvs h.2)
end

mutual
theorem okS_sound {p : Prog} : ∀ (m : Mode) (k : Bool) (s : Stmt), okS p m k s = true → OkS p m k s
  | _, _, .text t, _ => .text t
  | m, k, .emit e, h => by
    simp only [okS, Bool.and_eq_true] at h
    exact .emit (allowsB_sound h.1) (okE_sound e h.2)
  | m, k, .set n e, h => .set n (okE_sound e h)
  | m, k, .setBlock n Option.none body, h => .setBlock n (okSs_sound _ _ body h)
  | m, k, .setBlock n (some (name, ps)) body, h => by
    simp only [okS, Bool.and_eq_true] at h
    exact .setBlockF n (filterOkB_sound h.1) (okSs_sound _ _ body h.2)
  | m, k, .filterBlock name ps body, h => by
    simp only [okS, Bool.and_eq_true] at h
    exact .filterBlock (allowsB_sound h.1.1) (filterOkB_sound h.1.2) (okSs_sound _ _ body h.2)
  | m, k, .forIn v it false body els, h => by
    simp only [okS, Bool.and_eq_true] at h
    exact .forIn v (okE_sound it h.1.1) (okSs_sound _ _ body h.1.2) (okSs_sound _ _ els h.2)
  | m, k, .forIn v it true body els, h => by
    simp only [okS, Bool.and_eq_true] at h
    exact .forRec v (okE_sound it h.1.1.1.1) (okSs_sound _ _ body h.1.1.1.2) (okSs_sound _ _ els h.1.1.2)
      (okSs_sound _ _ body h.1.2) (okSs_sound _ _ body h.2)
  | m, k, .ifE c a b, h => by
    simp only [okS, Bool.and_eq_true] at h
    exact .ifE (okE_sound c h.1.1) (okSs_sound _ _ a h.1.2) (okSs_sound _ _ b h.2)
  | m, k, .withE n e body, h => by
    simp only [okS, Bool.and_eq_true] at h
    exact .withE n (okE_sound e h.1) (okSs_sound _ _ body h.2)
  | m, k, .callBlock g args body, h => by
    simp only [okS, Bool.and_eq_true] at h
    exact .callBlock g (allowsB_sound h.1.1.1) (okEs_sound args h.1.1.2) (okSs_sound _ _ body h.1.2) (okSs_sound _ _ body h.2)
  | m, k, .incl name, h => .incl name (allowsB_sound h)
  | m, k, .block name body, h => by
    simp only [okS, Bool.and_eq_true, beq_iff_eq] at h
    exact .block name h.1 (okSs_sound _ _ body h.2)
  | m, k, .auto a body, h => by
    simp only [okS] at h
    split at h
    · rename_i m' hm
      rw [autoModeB_eq] at hm
      exact .auto hm (okSs_sound _ _ body h)
    · cases h
theorem okSs_sound {p : Prog} : ∀ (m : Mode) (k : Bool) (ss : List Stmt), okSs p m k ss = true → OkSs p m k ss
  | _, _, [], _ => .nil
  | m, k, s :: ss, h => by
    simp only [okSs, Bool.and_eq_true] at h
    exact .cons (okS_sound m k s h.1) (okSs_sound m k ss h.2)
end

theorem polyB_sound {p : Prog} {ss : List Stmt} (h : polyB p ss = true) : Poly p ss := by
  simp only [polyB, Bool.and_eq_true] at h
  exact ⟨okSs_sound _ _ ss h.1, okSs_sound _ _ ss h.2⟩

theorem tmplOkB_sound {p : Prog} {t : Tmpl} (h : tmplOkB p t = true) : TmplOk p t := by
  simp only [tmplOkB, Bool.and_eq_true, List.all_eq_true, bne_iff_ne, ne_eq] at h
  exact ⟨h.1.1.1, okSs_sound _ _ _ h.1.1.2, okSs_sound _ _ _ h.1.2, fun md hmd => polyB_sound (h.2 md hmd)⟩

theorem progOkB_sound {p : Prog} (h : progOkB p = true) : ProgOk p := by
  simp only [progOkB, Bool.and_eq_true, List.all_eq_true, beq_iff_eq] at h
  refine ⟨fun t ht => tmplOkB_sound (h.1.1 t ht), h.1.2, fun t ht => ?_⟩
  have := h.2 t ht
  exact ⟨okSs_sound _ _ _ this.1, okSs_sound _ _ _ this.2⟩

end MJ.Safe
