import MJ.Model.BalPatch
import MJ.Proofs.BalGen
/-!
# The back-patching generator and the size-computing generator emit the same code (C05)

`gen_spec`: started on any instruction buffer and any `pending_block` stack, `BalPatch.gen` appends the
code `BalGen.comp` computes for the context that stack stands for — with the jumps of the `break`s that
belong to the innermost pending loop still pointing at the placeholder — and pushes exactly their
positions onto that loop's `jump_instrs`.  `Patches`: what writing a target into remembered positions does to
a piece of code, wherever it stands, with rules for composing pieces; `patch_breaks`: writing the loop end into
those positions (`end_for_loop`) gives `comp`'s code for that loop end.  `genTemplate_eq`: whole templates.
-/
namespace MJ.BalPatch
open MJ.Bal MJ.BalGen

theorem modAt_length (f : Instr → Instr) : ∀ (l : List Instr) (i : Nat), (modAt f l i).length = l.length := by
  intro l
  induction l with
  | nil => intro i; rfl
  | cons x xs ih => intro i; cases i <;> simp [modAt, ih]

theorem modAt_append_left (f : Instr → Instr) : ∀ (P Q : List Instr) (i : Nat), i < P.length →
    modAt f (P ++ Q) i = modAt f P i ++ Q := by
  intro P
  induction P with
  | nil => intro Q i h; simp at h
  | cons x xs ih =>
    intro Q i h
    cases i with
    | zero => rfl
    | succ n => simp only [List.cons_append, modAt, List.cons.injEq, true_and]; exact ih Q n (by simpa using h)

theorem modAt_append_right (f : Instr → Instr) : ∀ (P Q : List Instr) (k : Nat),
    modAt f (P ++ Q) (P.length + k) = P ++ modAt f Q k := by
  intro P
  induction P with
  | nil => intro Q k; simp
  | cons x xs ih =>
    intro Q k
    have : (x :: xs).length + k = (xs.length + k) + 1 := by simp; omega
    rw [this]
    simp only [List.cons_append, modAt, List.cons.injEq, true_and]
    exact ih Q k

theorem modAt_at (f : Instr → Instr) (P : List Instr) (x : Instr) (Q : List Instr) (i : Nat)
    (h : i = P.length) : modAt f (P ++ x :: Q) i = P ++ f x :: Q := by
  subst h
  have := modAt_append_right f P (x :: Q) 0
  simpa [modAt] using this

/-- `Ctx` of `BalGen.comp` for a pending stack, with `en` as the end of the innermost loop -/
def ctx (ps : List Pending) (en : Nat) : Ctx :=
  ⟨(loopOf ps).map (fun it => (it, en)), scopesOf ps⟩

theorem loopOf_addBreaks (ps : List Pending) (bs : List Nat) : loopOf (addBreaks ps bs) = loopOf ps := by
  induction ps with
  | nil => rfl
  | cons p r ih => cases p <;> simp [addBreaks, loopOf, ih]

theorem scopesOf_addBreaks (ps : List Pending) (bs : List Nat) : scopesOf (addBreaks ps bs) = scopesOf ps := by
  induction ps with
  | nil => rfl
  | cons p r ih => cases p <;> simp [addBreaks, scopesOf, ih]

theorem addBreaks_nil (ps : List Pending) : addBreaks ps [] = ps := by
  induction ps with
  | nil => rfl
  | cons p r ih => cases p <;> simp [addBreaks, ih]

theorem addBreaks_addBreaks (ps : List Pending) (a b : List Nat) :
    addBreaks (addBreaks ps a) b = addBreaks ps (a ++ b) := by
  induction ps with
  | nil => rfl
  | cons p r ih => cases p <;> simp [addBreaks, ih]

theorem ctx_addBreaks (ps : List Pending) (bs : List Nat) (en : Nat) : ctx (addBreaks ps bs) en = ctx ps en := by
  simp [ctx, loopOf_addBreaks, scopesOf_addBreaks]

def compI (Γ : Ctx) (b : Nat) (σ : AbsState) (s : Stmt) : List Instr := (comp Γ b σ s).map (·.1)

theorem compI_length (Γ : Ctx) (b : Nat) (σ : AbsState) (s : Stmt) :
    (compI Γ b σ s).length = size Γ.scopes Γ.loop.isSome s := by
  simp [compI, comp_length]

theorem leaveCode_eq (sc : List Scope) : ∀ σ, leaveCode sc = (cleanup sc σ).1.map (·.1) := by
  induction sc with
  | nil => intro σ; rfl
  | cons x r ih => intro σ; cases x <;> simp [leaveCode, cleanup] <;> exact ih _

theorem others_map (n : Nat) (σ : AbsState) : (BalGen.others n σ).map (·.1) = others n := by
  simp [BalGen.others, others]

/-- positions of the jumps of the `break`s that belong to the innermost pending loop -/
def breakIdx (Γ : Ctx) (b : Nat) : Stmt → List Nat
  | .skip => []
  | .seq a c => breakIdx Γ b a ++ breakIdx Γ (b + size Γ.scopes Γ.loop.isSome a) c
  | .simple _ => []
  | .flat _ => []
  | .ifS n t => breakIdx Γ (b + n + 1) t
  | .ifElse n t e =>
    breakIdx Γ (b + n + 1) t ++ breakIdx Γ (b + n + 1 + size Γ.scopes Γ.loop.isSome t + 1) e
  | .forS _ _ _ _ _ => []
  | .forElse _ _ npre nt body e => breakIdx Γ (b + npre + 2 + nt + size [] true body + 1 + 3) e
  | .withS n body => breakIdx { Γ with scopes := .withS :: Γ.scopes } (b + 1 + n) body
  | .capture body _ => breakIdx { Γ with scopes := .capture :: Γ.scopes } (b + 1) body
  | .autoEscape npre body => breakIdx { Γ with scopes := .autoEscape :: Γ.scopes } (b + npre + 1) body
  | .macroS nargs body _ _ => breakIdx Γ (b + 1 + nargs) body
  | .importS _ _ => []
  | .breakS => [b + cleanupLen Γ.scopes]
  | .continueS => []

def patchAll (en : Nat) (l : List Instr) (idx : List Nat) : List Instr :=
  idx.foldl (fun l i => modAt (setLoop en) l i) l

theorem patchAll_append (en : Nat) (l : List Instr) (a b : List Nat) :
    patchAll en l (a ++ b) = patchAll en (patchAll en l a) b := by
  simp [patchAll, List.foldl_append]

theorem compI_seq (Γ : Ctx) (b : Nat) (σ : AbsState) (a c : Stmt) :
    compI Γ b σ (.seq a c) = compI Γ b σ a ++ compI Γ (b + size Γ.scopes Γ.loop.isSome a) σ c := by
  simp [compI, comp]

/-- writing `en` into the positions `idx` turns the code `X`, sitting at `b`, into `Y`, whatever stands
in front of it and behind it -/
def Patches (en b : Nat) (idx : List Nat) (X Y : List Instr) : Prop :=
  ∀ P Q : List Instr, P.length = b → patchAll en (P ++ (X ++ Q)) idx = P ++ (Y ++ Q)

theorem Patches.refl {en b : Nat} {X : List Instr} : Patches en b [] X X := fun _ _ _ => rfl

theorem Patches.append {en b n : Nat} {i₁ i₂ : List Nat} {X₁ Y₁ X₂ Y₂ : List Instr}
    (h₁ : Patches en b i₁ X₁ Y₁) (hl : Y₁.length = n) (h₂ : Patches en (b + n) i₂ X₂ Y₂) :
    Patches en b (i₁ ++ i₂) (X₁ ++ X₂) (Y₁ ++ Y₂) := by
  intro P Q hP
  rw [patchAll_append, List.append_assoc, h₁ P _ hP, ← List.append_assoc P, h₂ (P ++ Y₁) Q (by simp [hP, hl]),
    List.append_assoc, List.append_assoc]

/-- code that holds no `break` of the loop -/
theorem Patches.pre {en b n : Nat} {idx : List Nat} {A X Y : List Instr} (hl : A.length = n)
    (h : Patches en (b + n) idx X Y) : Patches en b idx (A ++ X) (A ++ Y) :=
  Patches.append (i₁ := []) .refl hl h

theorem Patches.post {en b : Nat} {idx : List Nat} {X Y Z : List Instr}
    (h : Patches en b idx X Y) : Patches en b idx (X ++ Z) (Y ++ Z) := by
  intro P Q hP
  rw [List.append_assoc, List.append_assoc]; exact h P _ hP

theorem Patches.cons {en b : Nat} {idx : List Nat} {x : Instr} {X Y : List Instr}
    (h : Patches en (b + 1) idx X Y) : Patches en b idx (x :: X) (x :: Y) :=
  Patches.pre (A := [x]) rfl h

/-- the indices may come in the other order: the two parts do not overlap -/
theorem Patches.append_rev {en b n : Nat} {i₁ i₂ : List Nat} {X₁ Y₁ X₂ Y₂ : List Instr}
    (h₁ : Patches en b i₁ X₁ Y₁) (hl : X₁.length = n) (h₂ : Patches en (b + n) i₂ X₂ Y₂) :
    Patches en b (i₂ ++ i₁) (X₁ ++ X₂) (Y₁ ++ Y₂) := by
  intro P Q hP
  rw [patchAll_append, List.append_assoc, ← List.append_assoc P, h₂ (P ++ X₁) Q (by simp [hP, hl]),
    List.append_assoc, h₁ P _ hP, List.append_assoc]

/-- one remembered instruction (the jump of a `break` behind its clean-up code, the `Iterate` of the loop) -/
theorem Patches.one {en b k : Nat} {C : List Instr} {x : Instr} (hl : C.length = k) :
    Patches en b [b + k] (C ++ [x]) (C ++ [setLoop en x]) := by
  intro P Q hP
  have h1 : b + k = (P ++ C).length + 0 := by simp [hP, hl]
  simp only [patchAll, List.foldl_cons, List.foldl_nil, List.append_assoc]
  rw [← List.append_assoc P, h1, modAt_append_right]
  simp [modAt]

theorem length_map_others (n : Nat) (σ : AbsState) : ((BalGen.others n σ).map (·.1)).length = n := by
  rw [List.length_map, others_length]

/-- writing the loop end into the remembered `break` jumps turns the code with placeholders into the
code `BalGen.comp` computes for that loop end -/
theorem patch_breaks (s : Stmt) (it : Nat) (sc : List Scope) (b : Nat) (σ : AbsState) (en : Nat) :
    Patches en b (breakIdx ⟨some (it, 0), sc⟩ b s) (compI ⟨some (it, 0), sc⟩ b σ s)
      (compI ⟨some (it, en), sc⟩ b σ s) := by
  induction s generalizing it sc b σ <;>
    simp only [compI, comp, breakIdx, List.map_append, List.map_cons, List.map_nil, List.append_assoc,
      List.cons_append, List.nil_append, Option.isSome_some]
  case skip | simple | flat | forS | importS | continueS => exact .refl
  case seq a c iha ihc => exact .append (iha _ _ _ σ) (compI_length ..) (ihc _ _ _ σ)
  case ifS n t iht => exact .pre (length_map_others ..) (.cons (iht _ _ _ σ))
  case ifElse n t e iht ihe =>
    exact .pre (length_map_others ..) (.cons (.append (iht _ _ _ σ) (compI_length ..) (.cons (ihe _ _ _ σ))))
  case forElse v r npre nt body e _ ihe =>
    -- everything in front of the else body does not depend on the enclosing loop
    refine .pre (length_map_others ..) (.cons (.cons (.pre (length_map_others ..) (.pre (compI_length ..)
      (.cons (.cons (.cons (.cons ?_))))))))
    rw [show b + npre + 1 + 1 + nt + size [] true body + 1 + 1 + 1 + 1
      = b + npre + 2 + nt + size [] true body + 1 + 3 by omega]
    exact ihe it sc _ σ
  case withS n body ih => exact .cons (.pre (length_map_others ..) (.post (ih _ _ _ (pushW σ))))
  case capture body npost ih => exact .cons (.post (ih _ _ _ (pushC σ)))
  case autoEscape npre body ih => exact .pre (length_map_others ..) (.cons (.post (ih _ _ _ (pushE σ))))
  case macroS nargs body nenc nafter ih =>
    exact .cons (.pre (length_map_others ..) (.post (ih _ _ _ AbsState.init)))
  case breakS => exact .one (by rw [List.length_map, cleanup_length])

theorem ctx_branch (j : Nat) (ps : List Pending) (en : Nat) : ctx (.branch j :: ps) en = ctx ps en := rfl

theorem ctx_scope (sc : Scope) (ps : List Pending) (en : Nat) :
    ctx (.scope sc :: ps) en = { ctx ps en with scopes := sc :: (ctx ps en).scopes } := rfl

theorem ctx_loop (it : Nat) (js : List Nat) (ps : List Pending) (en : Nat) :
    ctx (.loop it js :: ps) en = ⟨some (it, en), []⟩ := rfl

theorem ctx_isSome (ps : List Pending) (en : Nat) : (ctx ps en).loop.isSome = (loopOf ps).isSome := by
  simp [ctx]

theorem foldl_modify (f : Instr → Instr) : ∀ (l : List Nat) (g : Gen),
    l.foldl (fun g i => g.modify i f) g = ⟨l.foldl (fun is i => modAt f is i) g.instrs, g.pending⟩ := by
  intro l
  induction l with
  | nil => intro g; rfl
  | cons x xs ih => intro g; simp only [List.foldl_cons]; rw [ih]; simp [Gen.modify]

/-- the shape of the result of `gen`; loop end `0` is the placeholder target the open `break`s still carry -/
def Spec (s : Stmt) (g : Gen) (σ : AbsState) : Gen :=
  ⟨g.instrs ++ compI (ctx g.pending 0) g.instrs.length σ s,
   addBreaks g.pending (breakIdx (ctx g.pending 0) g.instrs.length s)⟩

theorem branch_tail (e : Stmt) (σ : AbsState) (ihe : ∀ (g : Gen) (σ : AbsState), gen e g = Spec e g σ)
    (is : List Instr) (j : Instr) (k : Nat) (ps : List Pending) (hk : k = is.length) :
    endIf (gen e ⟨is ++ [j], .branch k :: ps⟩) =
      ⟨is ++ setCond (k + 1 + size (ctx ps 0).scopes (ctx ps 0).loop.isSome e) j :: compI (ctx ps 0) (k + 1) σ e,
        addBreaks ps (breakIdx (ctx ps 0) (k + 1) e)⟩ := by
  subst hk
  rw [ihe _ σ]
  simp only [Spec, Gen.next, endIf, endCondition, addBreaks, ctx_branch,
    List.length_append, compI_length, List.length_cons, List.length_nil, Nat.zero_add]
  have := modAt_at (setCond (is.length + 1 + size (ctx ps 0).scopes (ctx ps 0).loop.isSome e)) is j
    (compI (ctx ps 0) (is.length + 1) σ e) is.length rfl
  simp only [List.append_assoc, List.cons_append, List.nil_append] at this ⊢
  rw [this]

/-- `start_if … end_if` around a statement whose code is as specified -/
theorem if_tail (e : Stmt) (σ : AbsState) (ihe : ∀ (g : Gen) (σ : AbsState), gen e g = Spec e g σ) (G : Gen) :
    endIf (gen e (startIf G)) =
      ⟨G.instrs ++ Instr.jumpIfFalse (G.instrs.length + 1 +
            size (ctx G.pending 0).scopes (ctx G.pending 0).loop.isSome e) ::
          compI (ctx G.pending 0) (G.instrs.length + 1) σ e,
        addBreaks G.pending (breakIdx (ctx G.pending 0) (G.instrs.length + 1) e)⟩ :=
  branch_tail e σ ihe G.instrs (.jumpIfFalse 0) _ G.pending rfl

theorem endForLoop_loop (is : List Instr) (it : Nat) (js : List Nat) (rest : List Pending) (pdni : Bool) :
    endForLoop ⟨is, .loop it js :: rest⟩ pdni =
      ⟨patchAll (is.length + 1)
          (is ++ Instr.jump it :: ((if pdni then [Instr.pushDidNotIterate] else []) ++ [Instr.popLoopFrame]))
          (js ++ [it]), rest⟩ := by
  simp only [endForLoop, foldl_modify]
  cases pdni <;> simp [Gen.add, Gen.next, patchAll]

theorem for_spec (body : Stmt) (ih : ∀ (g : Gen) (σ : AbsState), gen body g = Spec body g σ)
    (g : Gen) (σ : AbsState) (v r : Bool) (npre nt : Nat) (pdni : Bool) :
    endForLoop (gen body ((startForLoop (g.addAll (others npre)) v r).addAll (others nt))) pdni =
      ⟨g.instrs ++ (others npre ++ Instr.pushLoop v r ::
          Instr.iterate (g.instrs.length + npre + 1 + 1 + nt + size [] true body + 1) ::
          (others nt ++
            (compI ⟨some (g.instrs.length + npre + 1, g.instrs.length + npre + 1 + 1 + nt + size [] true body + 1), []⟩
                (g.instrs.length + npre + 1 + 1 + nt) (pushL (g.instrs.length + npre) v r σ) body ++
              Instr.jump (g.instrs.length + npre + 1) ::
                ((if pdni then [Instr.pushDidNotIterate] else []) ++ [Instr.popLoopFrame])))),
        g.pending⟩ := by
  rw [ih _ (pushL (g.instrs.length + npre) v r σ)]
  simp only [Spec, startForLoop, Gen.addAll, Gen.add, Gen.push, Gen.next, addBreaks, ctx_loop, List.nil_append,
    List.length_append, others, List.length_replicate, List.length_cons, List.length_nil, Nat.zero_add]
  rw [endForLoop_loop]
  simp only [List.length_append, compI_length, List.length_replicate, List.length_cons, List.length_nil, Nat.zero_add,
    Option.isSome_some]
  -- `end_for_loop` writes the loop end into the `Iterate` and into the jumps of the body's `break`s: one patch
  have h := Patches.append_rev (Patches.one (en := g.instrs.length + npre + 1 + 1 + nt + size [] true body + 1)
      (b := g.instrs.length + npre + 1) (C := []) (x := Instr.iterate 0) rfl) rfl
    (Patches.pre (A := List.replicate nt Instr.other) (List.length_replicate ..)
      (patch_breaks body (g.instrs.length + npre + 1) [] (g.instrs.length + npre + 1 + 1 + nt)
        (pushL (g.instrs.length + npre) v r σ) _))
  have := h (g.instrs ++ List.replicate npre Instr.other ++ [Instr.pushLoop v r])
    (Instr.jump (g.instrs.length + npre + 1) ::
      ((if pdni then [Instr.pushDidNotIterate] else []) ++ [Instr.popLoopFrame])) (by simp; omega)
  simp only [List.append_assoc, List.cons_append, List.nil_append, List.length_nil, Nat.add_zero, setLoop] at this ⊢
  rw [this]

theorem gen_spec (s : Stmt) (g : Gen) (σ : AbsState) : gen s g = Spec s g σ := by
  induction s generalizing g σ with
  | skip => simp [gen, Spec, compI, comp, breakIdx, addBreaks_nil]
  | seq a c iha ihc =>
    simp only [gen]
    rw [iha g σ, ihc _ σ]
    simp only [Spec, ctx_addBreaks, addBreaks_addBreaks, compI_seq, breakIdx, List.length_append, compI_length,
      List.append_assoc]
  | simple is =>
    simp [gen, Spec, Gen.addAll, compI, comp, breakIdx, addBreaks_nil, Function.comp_def]
  | flat is =>
    simp [gen, Spec, Gen.addAll, Gen.next, compI, comp, breakIdx, addBreaks_nil, Function.comp_def]
  | ifS n t iht =>
    simp only [gen]
    rw [if_tail t σ iht]
    simp [Spec, Gen.addAll, compI, comp, breakIdx, others, BalGen.others, ctx_isSome, List.append_assoc, Nat.add_assoc]
  | withS n body ih =>
    simp only [gen]
    rw [ih _ (pushW σ)]
    simp [Spec, startScope, endScope, Gen.addAll, Gen.add, Gen.push, addBreaks, ctx_scope, others,
      compI, comp, breakIdx, BalGen.others, List.append_assoc, Nat.add_assoc, Nat.add_comm 1 n]
  | capture body npost ih =>
    simp only [gen]
    rw [ih _ (pushC σ)]
    simp [Spec, startScope, endScope, Gen.addAll, Gen.add, Gen.push, addBreaks, ctx_scope, others,
      compI, comp, breakIdx, BalGen.others, List.append_assoc]
  | autoEscape npre body ih =>
    simp only [gen]
    rw [ih _ (pushE σ)]
    simp [Spec, startScope, endScope, Gen.addAll, Gen.add, Gen.push, addBreaks, ctx_scope, others,
      compI, comp, breakIdx, BalGen.others, List.append_assoc, Nat.add_assoc]
  | importS n m =>
    simp [gen, Spec, Gen.addAll, others, compI, comp, breakIdx, BalGen.others, addBreaks_nil, List.append_assoc]
  | breakS =>
    simp only [gen, leaveScopes, Gen.addAll, Gen.next, Spec, compI, comp, breakIdx, List.map_append,
      List.map_cons, List.map_nil, List.length_append]
    rw [leaveCode_eq _ σ]
    cases h : loopOf g.pending <;> simp [h, ctx, cleanup_length, List.append_assoc]
  | continueS =>
    simp only [gen, leaveScopes, Gen.addAll, Spec, compI, comp, breakIdx, addBreaks_nil, List.map_append]
    rw [leaveCode_eq _ σ]
    cases h : loopOf g.pending with
    | none => simp [ctx, h]
    | some it => simp [ctx, h, Gen.add, List.append_assoc]
  | ifElse n t e iht ihe =>
    simp only [gen]
    rw [iht _ σ]
    simp only [Spec, startIf, Gen.addAll, Gen.add, Gen.push, Gen.next, addBreaks, ctx_branch, startElse, endCondition,
      List.length_append, compI_length, others, List.length_replicate, List.length_cons, List.length_nil, Nat.zero_add]
    have h1 : ∀ tg, modAt (setCond tg)
        (g.instrs ++ List.replicate n Instr.other ++ [Instr.jumpIfFalse 0] ++
          compI (ctx g.pending 0) (g.instrs.length + n + 1) σ t ++ [Instr.jump 0]) (g.instrs.length + n)
        = (g.instrs ++ List.replicate n Instr.other ++ Instr.jumpIfFalse tg ::
          compI (ctx g.pending 0) (g.instrs.length + n + 1) σ t) ++ [Instr.jump 0] := by
      intro tg
      have := modAt_at (setCond tg) (g.instrs ++ List.replicate n Instr.other) (Instr.jumpIfFalse 0)
        (compI (ctx g.pending 0) (g.instrs.length + n + 1) σ t ++ [Instr.jump 0]) (g.instrs.length + n) (by simp)
      simpa [setCond, List.append_assoc] using this
    rw [h1, branch_tail e σ ihe _ _ _ _ (by simp [compI_length]; omega)]
    simp [ctx_addBreaks, addBreaks_addBreaks, setCond, compI, comp, breakIdx, BalGen.others, List.append_assoc,
      Nat.add_assoc]
  | forS v r npre nt body ih =>
    simp only [gen]
    rw [for_spec body ih g σ]
    simp [Spec, compI, comp, breakIdx, others, BalGen.others, addBreaks_nil, List.append_assoc, Nat.add_assoc]
  | forElse v r npre nt body e ih ihe =>
    simp only [gen]
    rw [for_spec body ih g σ, if_tail e σ ihe]
    simp [Spec, compI, comp, breakIdx, others, BalGen.others, List.append_assoc, Nat.add_assoc, ctx_isSome,
      comp_length]
    have harith : g.instrs.length + (npre + (nt + (size [] true body + 6)))
        = g.instrs.length + (npre + (2 + (nt + (size [] true body + 4)))) := by omega
    exact ⟨⟨by omega, by rw [harith]⟩, by rw [harith]⟩
  | macroS nargs body nenc nafter ih =>
    simp only [gen]
    rw [ih _ AbsState.init]
    simp only [Spec, Gen.addAll, Gen.add, Gen.next, Gen.modify, List.length_append, compI_length, others,
      List.length_replicate, List.length_cons, List.length_nil, Nat.zero_add]
    have hm := modAt_at (setJump (g.instrs.length + 1 + nargs +
        size (ctx g.pending 0).scopes (ctx g.pending 0).loop.isSome body + 1))
      g.instrs (Instr.jump 0)
      (List.replicate nargs Instr.other ++ (compI (ctx g.pending 0) (g.instrs.length + 1 + nargs) AbsState.init body ++
        ([Instr.ret] ++ (List.replicate nenc Instr.other ++ [Instr.buildMacro (g.instrs.length + 1)]))))
      g.instrs.length rfl
    simp only [List.append_assoc, List.cons_append, List.nil_append] at hm ⊢
    rw [hm]
    simp [compI, comp, breakIdx, BalGen.others, setJump, List.append_assoc, Nat.add_assoc, ctx_isSome,
      Nat.add_comm 1 nargs]

/-- for every statement the generator that appends instructions and
writes jump targets into them afterwards (`pending_block`) produces exactly the instruction list of
`BalGen.compileTemplate`, and its `pending_block` stack is empty again -/
theorem genTemplate_eq (s : Stmt) :
    genTemplate s = (compileTemplate s).map (·.1) ∧ (gen s ⟨[], []⟩).pending = [] := by
  rw [genTemplate, gen_spec s ⟨[], []⟩ AbsState.init]
  exact ⟨by simp [Spec, compI, compileTemplate, ctx, loopOf, scopesOf], by simp [Spec, addBreaks]⟩

end MJ.BalPatch
