import MJ.Proofs.LocSpans
/-!
C14: the arithmetic of `render_debug_info`.
-/
namespace MJ.Loc
open MJ

theorem mem_enum {α : Type} (lines : List α) (p : Nat × α)
    (hp : p ∈ (List.range lines.length).zip lines) : lines[p.1]? = some p.2 := by
  obtain ⟨i, hi, rfl⟩ := List.mem_iff_getElem.mp hp
  simp at hi
  simp [List.getElem_zip, hi]

theorem enum_fst {α : Type} (lines : List α) :
    ((List.range lines.length).zip lines).map Prod.fst = List.range lines.length := by
  rw [List.map_fst_zip]; simp

theorem enum_getElem? {α : Type} (lines : List α) (i : Nat) (h : i < lines.length) :
    ((List.range lines.length).zip lines)[i]? = some (i, lines[i]) := by
  simp [h]

theorem take_range'_min (s n m : Nat) : (List.range' s n).take m = List.range' s (min m n) := by
  rcases Nat.le_total n m with h | h
  · rw [List.take_range'_of_length_le h, Nat.min_eq_right h]
  · rw [List.take_range'_of_length_ge h, Nat.min_eq_left h]

/-- the window never panics for any line number a `usize` can hold -/
theorem window_total {α : Type} (lines : List α) (line : Option Nat)
    (h : line.getD 1 < 18446744073709551616) : ∃ r, window lines line = .ok r := by
  unfold window
  simp only []
  rw [usize_ok _ (by omega)]
  exact ⟨_, rfl⟩

/-- tokens that start and end on the same (unsaturated) line have their columns in order, so the
    saturating subtraction of the caret width is exact -/
theorem cols_ordered (src : List Char) (a b : Nat) (hab : a ≤ b)
    (hline : (posOf (src.take a)).1 = (posOf (src.take b)).1) (hsat : (posOf (src.take b)).1 < 65535) :
    (posOf (src.take a)).2 ≤ (posOf (src.take b)).2 := by
  rw [take_eq_take_append src hab, posOf_append] at hline hsat ⊢
  generalize (src.drop a).take (b - a) = mid at *
  have hle := posOf_le (src.take a)
  generalize hp : posOf (src.take a) = pa at *
  obtain ⟨l, c⟩ := pa
  simp only [] at hle hline hsat ⊢
  rw [foldl_stepChar mid l c hle.1 hle.2] at hline hsat ⊢
  simp only [] at hline hsat ⊢
  have hno : mid.count '\n' = 0 := by omega
  have hnm : '\n' ∉ mid := by
    intro hm
    have := List.count_pos_iff.mpr hm
    omega
  simp only [hnm, if_false]
  omega

end MJ.Loc
