import MJ.Model.Ops
/-!
# `loop_recursion_bases` is paired with the loop frames (helper lemmas for C05)
-/
namespace MJ.Ops

/-- the invariant: the engine's `loop_recursion_bases` is the list of the bases recorded by the
`PushLoop`s of the live loop frames, and a loop frame has a base iff it has a recursion return -/
def Inv (s : State) : Prop :=
  s.bases = basesOf s.frames ∧ framesOk s.frames = true

/-- `PopFrame` is about to pop a loop frame (the engine would silently drop the loop) -/
def PopsLoop (code : Code) (s : State) : Prop :=
  code[s.pc]? = some .popFrame ∧ ∃ l fs, s.frames = .loopF l :: fs

theorem init_inv (e h : Nat) : Inv (init e h) := ⟨rfl, rfl⟩

theorem framesOk_loop {l : Loop} {fs : List Frame} :
    framesOk (.loopF l :: fs) = true ↔ l.gbase.isSome = l.ret.isSome ∧ framesOk fs = true := by
  simp only [framesOk, Bool.and_eq_true, beq_iff_eq]

/-- what the instruction at the pc does: `step` behind its fetch, arm for arm the text of `step`; an
analysis by instruction is made on `exec`, where the other arms are out of the way -/
def exec (cond : Cond) (s : State) (k : Nat) : Instr → List State
  | .eff a b => if a ≤ s.h then [{ s with pc := s.pc + 1, h := s.h - a + b }] else []
  | .dyn => if k + 1 ≤ s.h then [{ s with pc := s.pc + 1, h := s.h - k }] else []
  | .unpack n => if n ≤ s.h then [{ s with pc := s.pc + 1, h := s.h - n + k + 1 }] else []
  | .call n =>
    if n ≤ s.h then
      { s with pc := s.pc + 1, h := s.h - n + 1 } ::
        (if n = 1 then (liveTargets s.frames).map (fun t => recurse s s.h t true) else [])
    else []
  | .callDyn =>
    (if k + 1 ≤ s.h then [{ s with pc := s.pc + 1, h := s.h - k }] else []) ++
    (if 2 ≤ s.h then (liveTargets s.frames).map (fun t => recurse s (s.h - 1) t true) else [])
  | .pushWith => [{ s with pc := s.pc + 1, frames := .withF s.h :: s.frames }]
  | .popFrame =>
    match s.frames with
    | _ :: fs => [{ s with pc := s.pc + 1, frames := fs }]
    | [] => []
  | .pushLoop v r => doPushLoop cond s v r
  | .iterate t =>
    match innermostLoop s.frames with
    | some _ => [{ s with pc := s.pc + 1, h := s.h + 1 }, { s with pc := t }]
    | none => [{ s with pc := t }]
  | .pushDidNotIterate =>
    match innermostLoop s.frames with
    | some _ => [{ s with pc := s.pc + 1, h := s.h + 1 }]
    | none => []
  | .popLoopFrame => doPopLoopFrame s
  | .beginCapture => [{ s with pc := s.pc + 1, caps := some s.h :: s.caps }]
  | .endCapture =>
    match s.caps with
    | _ :: cs => [{ s with pc := s.pc + 1, h := s.h + 1, caps := cs }]
    | [] => [{ s with pc := s.pc + 1, h := s.h + 1 }]
  | .pushAutoEscape =>
    if 1 ≤ s.h then [{ s with pc := s.pc + 1, h := s.h - 1, escs := (s.h - 1) :: s.escs }] else []
  | .popAutoEscape =>
    match s.escs with
    | _ :: es => [{ s with pc := s.pc + 1, escs := es }]
    | [] => []
  | .jump t => [{ s with pc := t }]
  | .jumpIfFalse t => if 1 ≤ s.h then [{ s with pc := s.pc + 1, h := s.h - 1 }, { s with pc := t, h := s.h - 1 }] else []
  | .jumpIfFalseOrPop t | .jumpIfTrueOrPop t =>
    if 1 ≤ s.h then [{ s with pc := s.pc + 1, h := s.h - 1 }, { s with pc := t }] else []
  | .fastRecurse =>
    match innermostLoop s.frames with
    | some l => match l.recTarget with
      | some t => [recurse s s.h t false]
      | none => []
    | none => []
  | .ret => []
  | .buildMacro _ => if 2 ≤ s.h then [{ s with pc := s.pc + 1, h := s.h - 1 }] else []
  | .exportLocals => if 1 ≤ s.h then [{ s with pc := s.pc + 1 }] else []

theorem step_eq_exec {cond : Cond} {code : Code} {s : State} {i : Instr} (h : code[s.pc]? = some i)
    (k : Nat) : step cond code s k = exec cond s k i := by
  unfold step; rw [h]; cases i <;> rfl

theorem step_eq_nil {cond : Cond} {code : Code} {s : State} (h : code[s.pc]? = none) (k : Nat) :
    step cond code s k = [] := by
  unfold step; rw [h]

theorem mem_of_mem_ite {α : Type} {p : Prop} [Decidable p] {l : List α} {a : α}
    (h : a ∈ if p then l else []) : a ∈ l :=
  (List.mem_ite_nil_right.mp h).2

theorem mem_of_mem_ite' {α : Type} {p : Prop} [Decidable p] {l : List α} {a : α}
    (h : a ∈ if p then [] else l) : a ∈ l :=
  (List.mem_ite_nil_left.mp h).2

theorem eq_of_mem_pair {α : Type} {a x y : α} (h : a ∈ [x, y]) : a = x ∨ a = y := by
  simpa using h

/-- Only `PushLoop` and `PopLoopFrame` touch `bases`, and they push / pop a loop frame with it; `PushWith`
and a `PopFrame` that meets a `with` frame change `frames` by a frame that carries no base. -/
theorem step_inv {code : Code} {m t : State} {k : Nat} (hi : Inv m) (hd : ¬ PopsLoop code m)
    (ht : t ∈ step condReal code m k) : Inv t := by
  cases hci : code[m.pc]? with
  | none => rw [step_eq_nil hci] at ht; cases ht
  | some i =>
    rw [step_eq_exec hci] at ht
    obtain ⟨pc, h, fs, caps, escs, bases, nx⟩ := m
    obtain ⟨hb, hf⟩ := hi
    cases i with
    | eff | dyn | unpack | buildMacro | exportLocals | pushAutoEscape =>
      obtain rfl := List.mem_singleton.mp (mem_of_mem_ite ht); exact ⟨hb, hf⟩
    | beginCapture | jump | pushWith => obtain rfl := List.mem_singleton.mp ht; exact ⟨hb, hf⟩
    | ret => cases ht
    | jumpIfFalse | jumpIfFalseOrPop | jumpIfTrueOrPop =>
      rcases eq_of_mem_pair (mem_of_mem_ite ht) with rfl | rfl <;> exact ⟨hb, hf⟩
    | endCapture => cases caps <;> (obtain rfl := List.mem_singleton.mp ht; exact ⟨hb, hf⟩)
    | popAutoEscape =>
      cases escs with
      | nil => cases ht
      | cons => obtain rfl := List.mem_singleton.mp ht; exact ⟨hb, hf⟩
    | iterate =>
      cases hl : innermostLoop fs with
      | none => rw [exec, hl] at ht; obtain rfl := List.mem_singleton.mp ht; exact ⟨hb, hf⟩
      | some => rw [exec, hl] at ht; rcases eq_of_mem_pair ht with rfl | rfl <;> exact ⟨hb, hf⟩
    | pushDidNotIterate =>
      cases hl : innermostLoop fs with
      | none => rw [exec, hl] at ht; cases ht
      | some => rw [exec, hl] at ht; obtain rfl := List.mem_singleton.mp ht; exact ⟨hb, hf⟩
    | fastRecurse =>
      cases hl : innermostLoop fs with
      | none => rw [exec, hl] at ht; cases ht
      | some l =>
        rw [exec, hl] at ht
        cases hr : l.recTarget with
        | none => simp only [hr] at ht; cases ht
        | some => simp only [hr] at ht; obtain rfl := List.mem_singleton.mp ht; exact ⟨hb, hf⟩
    | call =>
      rcases List.mem_cons.mp (mem_of_mem_ite ht) with rfl | ht
      · exact ⟨hb, hf⟩
      · obtain ⟨_, _, rfl⟩ := List.mem_map.mp (mem_of_mem_ite ht); exact ⟨hb, hf⟩
    | callDyn =>
      rcases List.mem_append.mp ht with ht | ht
      · obtain rfl := List.mem_singleton.mp (mem_of_mem_ite ht); exact ⟨hb, hf⟩
      · obtain ⟨_, _, rfl⟩ := List.mem_map.mp (mem_of_mem_ite ht); exact ⟨hb, hf⟩
    | popFrame =>
      cases fs with
      | nil => cases ht
      | cons f fs' =>
        cases f with
        | withF => obtain rfl := List.mem_singleton.mp ht; exact ⟨hb, hf⟩
        | loopF l => exact absurd ⟨hci, l, fs', rfl⟩ hd
    | pushLoop v r =>
      obtain rfl := List.mem_singleton.mp (mem_of_mem_ite' ht)
      cases nx with
      | none => exact ⟨hb, hf⟩
      | some => exact ⟨congrArg (_ :: ·) hb, hf⟩
    | popLoopFrame =>
      cases fs with
      | nil => cases ht
      | cons f fs' =>
        cases f with
        | withF => cases ht
        | loopF l =>
          obtain ⟨_, _, ret, gb, _⟩ := l
          have hf' : gb.isSome = ret.isSome ∧ framesOk fs' = true := framesOk_loop.mp hf
          cases ret with
          | none =>
            obtain rfl := List.mem_singleton.mp ht
            cases gb with
            | some => cases hf'.1
            | none => exact ⟨hb, hf'.2⟩
          | some p =>
            obtain rfl := List.mem_singleton.mp ht
            cases gb with
            | none => cases hf'.1
            | some b =>
              cases bases with
              | nil => cases hb
              | cons _ bs => exact ⟨(List.cons.inj hb).2, hf'.2⟩

/-- frame discipline of a stream from an entry state: `PopFrame` never meets a loop frame (what
`MJ.OpsBal.certified_disciplined` proves for streams whose projection has an accepted certificate) -/
def Disciplined (code : Code) (s0 : State) : Prop :=
  ∀ s, Reach condReal code s0 s → ¬ PopsLoop code s

theorem reach_inv {code : Code} {s0 s : State} (hd : Disciplined code s0) (h0 : Inv s0)
    (hr : Reach condReal code s0 s) : Inv s := by
  induction hr with
  | refl => exact h0
  | tail k hr' ht ih => exact step_inv ih (hd _ hr') ht

/-- a stream without `PopFrame` is disciplined for trivial reasons (used for examples) -/
theorem disciplined_of_no_popFrame {code : Code} {s0 : State}
    (h : ∀ i ∈ code.toList, i ≠ Instr.popFrame) : Disciplined code s0 := by
  intro s _ hp
  obtain ⟨hc, _⟩ := hp
  have : Instr.popFrame ∈ code.toList := by
    rw [← Array.getElem?_toList] at hc
    exact List.mem_of_getElem? hc
  exact h _ this rfl

/-- following a path of choices `(k, index of the successor)` -/
def follow (cond : Cond) (code : Code) : State → List (Nat × Nat) → Option State
  | s, [] => some s
  | s, (k, i) :: rest =>
    match (step cond code s k)[i]? with
    | some t => follow cond code t rest
    | none => none

theorem follow_reach {cond : Cond} {code : Code} {s0 : State} :
    ∀ (p : List (Nat × Nat)) (s t : State), Reach cond code s0 s → follow cond code s p = some t →
      Reach cond code s0 t := by
  intro p
  induction p with
  | nil => intro s t hr h; simp only [follow, Option.some.injEq] at h; subst h; exact hr
  | cons x rest ih =>
    intro s t hr h
    obtain ⟨k, i⟩ := x
    simp only [follow] at h
    split at h
    · rename_i u hu
      exact ih u t (.tail k hr (List.mem_of_getElem? hu)) h
    · simp at h

end MJ.Ops
