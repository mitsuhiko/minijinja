import MJ.Model.CmpF64
/-!
# Order of float bit patterns

`scaledOfMag` (the exact magnitude times `2^1074`) is strictly monotone in the 63 magnitude bits, so
`cmp_f64` (IEEE `==`, else `total_cmp`) is `compare` on `key`.
-/
namespace MJ.F64

theorem P52_pos : 0 < P52 := by decide

theorem two_pow_le {a b : Nat} (h : a ≤ b) : 2 ^ a ≤ 2 ^ b := Nat.pow_le_pow_right (by omega) h

theorem scaledOfMag_strictMono {m m' : Nat} (h : m < m') : scaledOfMag m < scaledOfMag m' := by
  unfold scaledOfMag
  have hm := Nat.div_add_mod m P52
  have hm' := Nat.div_add_mod m' P52
  have hr : m % P52 < P52 := Nat.mod_lt _ P52_pos
  have hr' : m' % P52 < P52 := Nat.mod_lt _ P52_pos
  generalize m / P52 = e at *
  generalize m' / P52 = e' at *
  generalize m % P52 = f at *
  generalize m' % P52 = f' at *
  have hee : e ≤ e' := by
    apply Nat.le_of_lt_succ
    apply Nat.lt_of_mul_lt_mul_left (a := P52)
    rw [Nat.mul_succ]; omega
  by_cases he : e = e'
  · subst he
    have hf : f < f' := by omega
    by_cases h0 : e = 0
    · simp [h0]; exact hf
    · simp [h0]
      exact Nat.mul_lt_mul_of_pos_right (by omega) (Nat.pow_pos (by omega))
  · have hlt : e < e' := by omega
    have h0' : e' ≠ 0 := by omega
    by_cases h0 : e = 0
    · simp only [h0, if_true, if_neg h0']
      calc f < P52 := hr
        _ ≤ (P52 + f') * 1 := by omega
        _ ≤ (P52 + f') * 2 ^ (e' - 1) := Nat.mul_le_mul_left _ (Nat.pow_pos (by omega))
    · simp only [if_neg h0, if_neg h0']
      have h1 : (P52 + f) * 2 ^ (e - 1) < (P52 + P52) * 2 ^ (e - 1) :=
        Nat.mul_lt_mul_of_pos_right (by omega) (Nat.pow_pos (by omega))
      have h2 : (P52 + P52) * 2 ^ (e - 1) = P52 * 2 ^ e := by
        have : e = (e - 1) + 1 := by omega
        rw [this, Nat.pow_succ]; simp; rw [← Nat.two_mul]
        simp [Nat.mul_assoc, Nat.mul_comm]
      have h3 : P52 * 2 ^ e ≤ P52 * 2 ^ (e' - 1) := Nat.mul_le_mul_left _ (two_pow_le (by omega))
      have h4 : P52 * 2 ^ (e' - 1) ≤ (P52 + f') * 2 ^ (e' - 1) := Nat.mul_le_mul_right _ (by omega)
      omega

theorem scaledOfMag_zero : scaledOfMag 0 = 0 := by decide

theorem scaledOfMag_lt_iff {m m' : Nat} : scaledOfMag m < scaledOfMag m' ↔ m < m' := by
  constructor
  · intro h
    apply Nat.lt_of_not_le
    intro hle
    rcases Nat.lt_or_eq_of_le hle with h' | h'
    · have := scaledOfMag_strictMono h'; omega
    · subst h'; omega
  · exact scaledOfMag_strictMono

theorem scaledOfMag_inj {m m' : Nat} (h : scaledOfMag m = scaledOfMag m') : m = m' := by
  rcases Nat.lt_trichotomy m m' with h' | h' | h'
  · have := scaledOfMag_strictMono h'; omega
  · exact h'
  · have := scaledOfMag_strictMono h'; omega

theorem scaledOfMag_eq_zero {m : Nat} : scaledOfMag m = 0 ↔ m = 0 := by
  constructor
  · intro h; exact scaledOfMag_inj (h.trans scaledOfMag_zero.symm)
  · intro h; subst h; exact scaledOfMag_zero

theorem compare_congr_int {a b c d : Int} (h1 : a < b ↔ c < d) (h2 : b < a ↔ d < c) :
    compare a b = compare c d := by
  simp only [Int.compare_eq_ite_lt]
  by_cases x : a < b
  · rw [if_pos x, if_pos (h1.mp x)]
  · rw [if_neg x, if_neg (fun h => x (h1.mpr h))]
    by_cases y : b < a
    · rw [if_pos y, if_pos (h2.mp y)]
    · rw [if_neg y, if_neg (fun h => y (h2.mpr h))]

theorem isNaN_false_of_mag_zero {a : Nat} (h : mag a = 0) : isNaN a = false := by
  simp [isNaN, h]

/-- `total_cmp` and the value order agree strictly, the two zeros aside: `scaledOfMag` is strictly monotone in
    the magnitude bits and both orders mirror the negative half -/
theorem totalKey_lt_iff {a b : Nat} (hnz : ¬ (mag a = 0 ∧ mag b = 0)) :
    totalKey a < totalKey b ↔ key a < key b := by
  have m1 := @scaledOfMag_lt_iff (mag a) (mag b)
  have m2 := @scaledOfMag_lt_iff (mag b) (mag a)
  have z1 := @scaledOfMag_eq_zero (mag a)
  have z2 := @scaledOfMag_eq_zero (mag b)
  unfold totalKey key scaled
  cases sign a <;> cases sign b <;> simp only [Bool.false_eq_true, if_false, if_true] <;> omega

theorem cmpF64_eq (a b : Nat) : cmpF64 a b = compare (key a) (key b) := by
  unfold cmpF64
  by_cases hf : feq a b = true
  · rw [if_pos hf]
    simp only [feq, Bool.and_eq_true, decide_eq_true_eq] at hf
    exact (Int.compare_eq_eq.mpr hf.2).symm
  · rw [if_neg hf]
    -- `==` fails, so the two are not both zeros
    have hnz : ¬ (mag a = 0 ∧ mag b = 0) := by
      intro ⟨h1, h2⟩
      apply hf
      simp [feq, isNaN_false_of_mag_zero h1, isNaN_false_of_mag_zero h2, key, scaled, h1, h2,
        scaledOfMag_zero]
    exact compare_congr_int (totalKey_lt_iff hnz) (totalKey_lt_iff fun h => hnz ⟨h.2, h.1⟩)

end MJ.F64
