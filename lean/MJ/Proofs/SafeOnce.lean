import MJ.Proofs.SafeFlag
/-! C02: *escaped once* at the level of programs.  Whatever a capture construct collected under Html is
a `Safe` string holding exactly the collected text, and printing a `Safe` string writes its text
verbatim — wherever, and under whatever mode, it was captured. -/
namespace MJ.Safe

theorem M.bind_eq {α β : Type} {m : M α} {f : α → M β} {st st' : St} {a : α} (h : m st = some (a, st')) :
    (m >>= f) st = f a st' := by
  simp only [Bind.bind, M.bind, h]

theorem pushM_apply1 (g : Fn) (i : Nat) (st : St) (x v : V) (hx : st.pool[i]? = some x) (hg : g [x] = some v) :
    pushM (.apply g [i]) st = some (st.pool.size, st.push v) := by
  simp [pushM, Step.run, St.args, hx, hg, St.push_eq]

theorem St.push_get (st : St) (v : V) : (st.push v).pool[st.pool.size]? = some v := by
  simp [St.push_eq]

theorem pushM_endCapture (endS : Mode → Step) (hend : endS = .endCapture ∨ endS = .macroReturn) (m : Mode)
    {st : St} {buf : TStr} {rest : List TStr} (hc : st.caps = buf :: rest) :
    pushM (endS m) st = some (st.pool.size, { st with caps := rest }.push (capturedValue m buf.reverse)) := by
  rcases hend with rfl | rfl <;> simp [pushM, Step.run, hc, St.push_eq]

theorem writable_html {env : Env} (hm : env.mode = .html) : env.writable = true := by simp [Env.writable, hm]

theorem emitG_html (strict : Bool) (env : Env) (r : Nat) (st : St) (v : V) (hm : env.mode = .html)
    (hf : env.prog.fmt = .default) (hr : st.pool[r]? = some v) :
    emitG strict env r st = some ((), st.write (writeEscaped .html v)) := by
  unfold emitG
  simp [writable_html hm, hf, hm, stepM, Step.run, hr]

theorem applyNamed_html (strict : Bool) (env : Env) (name : String) (ps : List Nat) (g : Fn) (i : Nat) (st : St) (x v : V)
    (hm : env.mode = .html) (hl : lookupF name .html ps = some (g, true)) (hx : st.pool[i]? = some x)
    (hg : g [x] = some v) : applyNamed strict env name ps [i] st = some (st.pool.size, st.push v) := by
  simp [applyNamed, applyG, hm, hl, pushM_apply1 g i st x v hx hg]

/-- printing a `Safe` string writes its text verbatim, whoever captured it and where: `write_escaped` does not look
    at the mode; only the guarded interpreter asks that an expression may be written here -/
theorem print_safe_verbatim (strict : Bool) (env : Env) (r : Nat) (st : St) (s : TStr)
    (hw : strict = true → env.writable = true) (hf : env.prog.fmt = .default) (hr : st.pool[r]? = some (.str s true)) :
    emitG strict env r st = some ((), st.write s) := by
  unfold emitG
  cases strict <;> simp [hw, hf, stepM, Step.run, hr, writeEscaped]

/-- the value a capture produces: `BeginCapture; body; EndCapture` (or the tail of `Macro::call`) in a mode
    other than `None` leaves a `Safe` string holding exactly what the body wrote into the capture -/
theorem capture_value {α : Type} (body : M α) (endS : Mode → Step) (hend : endS = .endCapture ∨ endS = .macroReturn)
    (m : Mode) (hm : m ≠ .none) (st st1 : St) (a : α) (buf : TStr) (rest : List TStr)
    (hb : body { st with caps := [] :: st.caps } = some (a, st1)) (hc : st1.caps = buf :: rest) :
    (stepM .beginCapture >>= fun _ => body >>= fun _ => pushM (endS m)) st =
      some (st1.pool.size, { st1 with caps := rest }.push (.str buf.reverse true)) := by
  have e : capturedValue m buf.reverse = .str buf.reverse true := by cases m <;> first | rfl | exact absurd rfl hm
  rw [M.bind_eq (show stepM .beginCapture st = some ((), { st with caps := [] :: st.caps }) from rfl), M.bind_eq hb,
    pushM_endCapture endS hend m hc, e]

theorem print_pushed (strict : Bool) (env : Env) (st : St) (s : TStr) (vars : List (String × Nat))
    (hm : env.mode = .html) (hf : env.prog.fmt = .default) :
    (emitG strict env st.pool.size >>= fun _ => (pure vars : M _)) (st.push (.str s true)) =
      some (vars, (st.push (.str s true)).write s) := by
  rw [M.bind_eq (print_safe_verbatim strict env _ _ s (fun _ => writable_html hm) hf (St.push_get st _))]
  rfl

/-- **escaped once**, in the form `{{ caller() }}` and `{{ super() }}` have: a capture that ends under Html, printed at
    once, writes into the enclosing target exactly the text the body wrote into the capture -/
theorem capture_print {α : Type} (strict : Bool) (env : Env) (body : M α) (endS : Mode → Step)
    (hend : endS = .endCapture ∨ endS = .macroReturn) (vars : List (String × Nat))
    (hm : env.mode = .html) (hf : env.prog.fmt = .default) (st st1 : St) (a : α) (buf : TStr) (rest : List TStr)
    (hb : body { st with caps := [] :: st.caps } = some (a, st1)) (hc : st1.caps = buf :: rest) :
    ((stepM .beginCapture >>= fun _ => body >>= fun _ => pushM (endS env.mode)) >>= fun r =>
        emitG strict env r >>= fun _ => (pure vars : M _)) st =
      some (vars, ({ st1 with caps := rest }.push (.str buf.reverse true)).write buf.reverse) := by
  rw [M.bind_eq (capture_value body endS hend env.mode (by rw [hm]; decide) st st1 a buf rest hb hc)]
  exact print_pushed strict env { st1 with caps := rest } buf.reverse vars hm hf

/-- `Macro::call` under a mode other than `None`: the result is a `Safe` string holding what the body wrote -/
theorem callMacro_value (strict : Bool) (n : Nat) (env : Env) (g : String) (args : List Expr) (caller : Option CallerCl)
    (home : Tmpl) (md : MacroDef) (st sta stb st1 : St) (rs : List Nat) (params vs : List (String × Nat))
    (buf : TStr) (rest : List TStr) (hm : env.mode ≠ .none) (hfm : findMacro env.prog g = some (home, md))
    (hargs : evalArgs strict n env args st = some (rs, sta))
    (hparams : bindParams md.params rs sta = some (params, stb))
    (hb : execStmts strict n (env.forMacro home params caller) md.body { stb with caps := [] :: stb.caps } = some (vs, st1))
    (hc : st1.caps = buf :: rest) :
    callMacro strict (n + 1) env g args caller st =
      some (st1.pool.size, { st1 with caps := rest }.push (.str buf.reverse true)) := by
  show (match findMacro env.prog g with | Option.none => _ | some (home, md) => _ : M Nat) st = _
  rw [hfm]
  show ((_ : M (List Nat)) >>= _) st = _
  rw [M.bind_eq hargs, M.bind_eq hparams]
  exact capture_value _ .macroReturn (Or.inr rfl) env.mode hm stb st1 vs buf rest hb hc

/-- **escaped once, set-block**: `{% set x %}body{% endset %}{{ x }}` under Html writes into the enclosing
    target exactly the text the body wrote into the capture — whatever the body is (expressions,
    includes of templates with another mode, blocks, macro calls …) -/
theorem escaped_once_set_block (strict : Bool) (n : Nat) (env : Env) (x : String) (body : List Stmt) (st st1 : St)
    (vs : List (String × Nat)) (buf : TStr) (rest : List TStr) (hm : env.mode = .html) (hf : env.prog.fmt = .default)
    (hb : execStmts strict (n + 2) env.inCapture body { st with caps := [] :: st.caps } = some (vs, st1))
    (hc : st1.caps = buf :: rest) :
    execStmts strict (n + 4) env [.setBlock x Option.none body, .emit (.var x)] st =
      some ((x, st1.pool.size) :: env.vars, ({ st1 with caps := rest }.push (.str buf.reverse true)).write buf.reverse) := by
  have e : capturedValue env.mode buf.reverse = .str buf.reverse true := by rw [hm]; rfl
  have hl : lookupVar { env with vars := (x, st1.pool.size) :: env.vars } x = some st1.pool.size := by
    simp [lookupVar, List.lookup]
  have h1 : execStmt strict (n + 3) env (.setBlock x Option.none body) st =
      some ((x, st1.pool.size) :: env.vars, { st1 with caps := rest }.push (.str buf.reverse true)) := by
    show ((_ : M Unit) >>= _) st = _
    rw [M.bind_eq (show stepM .beginCapture st = some ((), { st with caps := [] :: st.caps }) from rfl), M.bind_eq hb,
      M.bind_eq (pushM_endCapture .endCapture (Or.inl rfl) env.mode hc), e]
    rfl
  have h2 : execStmt strict (n + 2) { env with vars := (x, st1.pool.size) :: env.vars } (.emit (.var x))
        ({ st1 with caps := rest }.push (.str buf.reverse true)) =
      some ((x, st1.pool.size) :: env.vars, ({ st1 with caps := rest }.push (.str buf.reverse true)).write buf.reverse) := by
    show ((match lookupVar _ x with | some r => _ | Option.none => _ : M Nat) >>= _) _ = _
    rw [hl]
    exact print_pushed strict _ { st1 with caps := rest } buf.reverse _ hm hf
  show ((_ : M (List (String × Nat))) >>= _) st = _
  rw [M.bind_eq h1]
  show ((_ : M (List (String × Nat))) >>= _) _ = _
  rw [M.bind_eq h2]
  rfl

/-- the filters of shape `preserve_safety(g(text))` (upper, lower, capitalize, trim, indent): the block's text,
    mapped by `g`, is written verbatim -/
theorem escaped_once_filter_block_preserve (g : TStr → TStr) (buf : TStr) :
    (preserveF g [.str buf true]).map (writeEscaped .html) = some (g buf) := by
  simp [preserveF, StrIn.ofV, StrIn.preserve, writeEscaped]

/-- balance: a body run inside a capture leaves that capture's buffer on top (from the invariant: the
    flags list has the length of the capture stack, `CapsOk.length_eq`) -/
theorem capture_open {α : Type} {fl : List Bool} {c : Bool} {body : M α} (h : HT (c :: fl) (c :: fl) body) {st st1 : St} {a : α}
    (hs : StInvF fl st) (hb : body { st with caps := [] :: st.caps } = some (a, st1)) :
    ∃ buf rest, st1.caps = buf :: rest := by
  have h0 : StInvF (c :: fl) { st with caps := [] :: st.caps } :=
    ⟨hs.1, by simp only [CapsOk]; exact ⟨fun _ => Clean.nil, hs.2.1⟩, hs.2.2⟩
  exact List.exists_cons_of_length_eq_add_one (CapsOk.length_eq (h.apply h0 hb).2.1)

end MJ.Safe
