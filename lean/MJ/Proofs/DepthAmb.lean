import MJ.Model.DepthAmb
import MJ.Proofs.Depth
/-! The charge computed from the regenerated cost expressions is the model's (`enterA_eq_enter`) and is
    the same in every ambient state (`enterA_indep_of_closed`); the empty state satisfies `Inv 0`; nests
    of renders keep the invariant of a single render in each of them (`NestInv`, `runN_inv`), so the
    bounds of one render add up (`wsumN_le`, `stackBytesN_le`) (C11; model: `MJ/Model/DepthAmb.lean`). -/
namespace MJ.Depth
open MJ.Gen

theorem evalTerm_const (amb : Amb) (d : Nat) (src : String) (v : Nat) : evalTerm amb d ("const", src, v) = v :=
  if_pos (Or.inl rfl)

theorem evalTerm_frame (amb : Amb) (d : Nat) (src : String) (v : Nat) : evalTerm amb d ("frame", src, v) = v :=
  if_pos (Or.inr rfl)

theorem evalTerm_callerDepth (amb : Amb) (d : Nat) (src : String) (v : Nat) :
    evalTerm amb d ("caller-depth", src, v) = d :=
  (if_neg (show ¬("caller-depth" = "const" ∨ "caller-depth" = "frame") by decide)).trans (if_pos rfl)

theorem evalTerm_closed (amb amb' : Amb) (d : Nat) (t : Term) (h : termClosed t = true) :
    evalTerm amb d t = evalTerm amb' d t := by
  unfold evalTerm
  split
  · rfl
  · split
    · rfl
    · -- the only branch that reads `amb` is taken by none of the three closed classes
      simp only [termClosed, Bool.or_eq_true, decide_eq_true_eq] at h
      rcases h with (h | h) | h
      · exact absurd (Or.inl h) ‹_›
      · exact absurd (Or.inr h) ‹_›
      · exact absurd h ‹_›

theorem evalTerms_closed (amb amb' : Amb) (d : Nat) :
    ∀ ts : List Term, (∀ t ∈ ts, termClosed t = true) → evalTerms amb d ts = evalTerms amb' d ts
  | [], _ => rfl
  | t :: ts, h => by
    obtain ⟨h1, h2⟩ := List.forall_mem_cons.1 h
    simp only [evalTerms, evalTerm_closed amb amb' d t h1, evalTerms_closed amb amb' d ts h2]

theorem termsOf_closed (hall : ∀ r ∈ costSites, ∀ t ∈ r.2.2.2.2.1, termClosed t = true)
    (fn op : String) : ∀ t ∈ termsOf fn op, termClosed t = true := by
  intro t ht
  unfold termsOf at ht
  rw [List.mem_flatMap] at ht
  obtain ⟨r, hr, htr⟩ := ht
  exact hall r (List.mem_filter.1 hr).1 t htr

/-- closedness of the table is a hypothesis, so the proof does not look at the table: it holds
    whatever the constants are -/
theorem enterA_indep_of_closed (hall : ∀ r ∈ costSites, ∀ t ∈ r.2.2.2.2.1, termClosed t = true)
    (amb amb' : Amb) (s : St) (k : Kind) : enterA amb s k = enterA amb' s k := by
  have h1 : framesOf amb s k = framesOf amb' s k :=
    evalTerms_closed amb amb' s.cur.depth _ (termsOf_closed hall (fnOf k) "push_frame")
  have h2 : incrOf amb s k = incrOf amb' s k :=
    evalTerms_closed amb amb' s.cur.depth _ (termsOf_closed hall (fnOf k) "incr_depth")
  unfold enterA
  rw [h1, h2]

theorem costSites_closed : ∀ r ∈ costSites, ∀ t ∈ r.2.2.2.2.1, termClosed t = true := by decide +kernel

theorem termsOf_macro_push : termsOf "eval_macro" "push_frame" = [("frame", "1", 1)] := by decide +kernel
theorem termsOf_macro_incr : termsOf "eval_macro" "incr_depth" =
    [("caller-depth", "state.ctx.depth()", 0), ("const", "MACRO_RECURSION_COST", macroRecursionCost)] := by decide +kernel
theorem termsOf_include_push : termsOf "perform_include" "push_frame" = [] := by decide +kernel
theorem termsOf_include_incr : termsOf "perform_include" "incr_depth" =
    [("const", "INCLUDE_RECURSION_COST", includeRecursionCost)] := by decide +kernel
theorem termsOf_block_push : termsOf "call_block" "push_frame" = [("frame", "1", 1)] := by decide +kernel
theorem termsOf_block_incr : termsOf "call_block" "incr_depth" = [] := by decide +kernel
theorem termsOf_super_push : termsOf "perform_super" "push_frame" = [("frame", "1", 1)] := by decide +kernel
theorem termsOf_super_incr : termsOf "perform_super" "incr_depth" = [] := by decide +kernel

theorem pushFrames_one (L : Nat) (c : Ctx) : pushFrames L 1 c = c.pushFrame L := by
  show (match c.pushFrame L with | none => none | some c' => pushFrames L 0 c') = _
  cases c.pushFrame L <;> rfl

/-- with the terms of the table put in (`termsOf_*`), both sides are the same checked operations in
    the same order -/
theorem enterA_eq_enter (amb : Amb) (s : St) (k : Kind) : enterA amb s k = enter s k := by
  unfold enterA framesOf incrOf
  cases k <;>
    simp only [fnOf, termsOf_macro_push, termsOf_macro_incr, termsOf_include_push, termsOf_include_incr,
      termsOf_block_push, termsOf_block_incr, termsOf_super_push, termsOf_super_incr, evalTerms,
      evalTerm_const, evalTerm_frame, evalTerm_callerDepth, Nat.add_zero, pushFrames_one, pushFrames, startCtx, baseFor,
      enter, enterMacro, List.isEmpty_cons, List.isEmpty_nil, if_true, Bool.false_eq_true, if_false]
  all_goals rfl

theorem inv_initEmpty (L : Nat) : Inv 0 (initEmpty L) :=
  ⟨trivial, ⟨rfl, Nat.le_refl 0⟩, Nat.zero_le _, Nat.zero_le 1⟩

theorem runN_cons (n : Nest) (e : EvN) (es : List EvN) :
    runN n (e :: es) = match stepN n e with | .ok n' => runN n' es | o => o := rfl

def NestInv (M : Nat) (n : Nest) : Prop := ∀ s ∈ n, Inv 1 s ∧ s.limit ≤ M

/-- the fresh limits a trace introduces are bounded by `M` -/
def freshLE (M : Nat) : List EvN → Prop
  | [] => True
  | .fresh l :: es => l ≤ M ∧ freshLE M es
  | _ :: es => freshLE M es

theorem freshLE_cons {M : Nat} {e : EvN} {es : List EvN} (h : freshLE M (e :: es)) :
    (∀ l, e = .fresh l → l ≤ M) ∧ freshLE M es := by
  cases e with
  | fresh l => exact ⟨fun _ hl => by cases hl; exact h.1, h.2⟩
  | _ => exact ⟨nofun, h⟩

/-- an event of a nest touches the innermost render only, or pushes a fresh root, or pops one -/
theorem nestInv_step {M : Nat} {n n' : Nest} {e : EvN} (hi : NestInv M n) (he : ∀ l, e = .fresh l → l ≤ M)
    (h : stepN n e = .ok n') : NestInv M n' := by
  cases n with
  | nil => cases e <;> cases h
  | cons s rest =>
    obtain ⟨hs, hrest⟩ := List.forall_mem_cons.1 hi
    cases e with
    | ev e =>
      simp only [stepN] at h
      cases hst : step s e <;> rw [hst] at h <;> cases h
      obtain ⟨h1, h2⟩ := inv_step hs.1 hst
      exact List.forall_mem_cons.2 ⟨⟨h1, h2 ▸ hs.2⟩, hrest⟩
    | fresh l =>
      cases h
      exact List.forall_mem_cons.2 ⟨⟨inv_init l, he l rfl⟩, hi⟩
    | finish =>
      simp only [stepN] at h
      split at h <;> cases h
      exact hrest

theorem stepN_ne_panic {M : Nat} {n : Nest} (hi : NestInv M n) (e : EvN) : stepN n e ≠ .panic := by
  cases n with
  | nil => cases e <;> nofun
  | cons s rest =>
    cases e with
    | ev e =>
      simp only [stepN]
      cases hs : step s e with
      | panic => exact absurd hs (step_ne_panic (hi s List.mem_cons_self).1 e)
      | _ => nofun
    | fresh l => nofun
    | finish => simp only [stepN]; split <;> nofun

theorem runN_inv {M : Nat} : ∀ (evs : List EvN) {n : Nest}, NestInv M n → freshLE M evs →
    runN n evs ≠ .panic ∧ ∀ n', runN n evs = .ok n' → NestInv M n'
  | [], _, hi, _ => ⟨nofun, fun _ h => by cases h; exact hi⟩
  | e :: es, n, hi, hf => by
    obtain ⟨hf1, hf2⟩ := freshLE_cons hf
    rw [runN_cons]
    cases hs : stepN n e with
    | ok n1 => exact runN_inv es (nestInv_step hi hf1 hs) hf2
    | panic => exact absurd hs (stepN_ne_panic hi e)
    | _ => exact ⟨nofun, nofun⟩

/-- the weighted nesting of every render on the stack is below its own limit, so the total is at
    most (number of renders) × (largest limit) -/
theorem wsumN_le {M : Nat} : ∀ n : Nest, NestInv M n →
    wsumN n ≤ n.length * M ∧ nativeDepthN n ≤ n.length * max M 1
  | [], _ => ⟨Nat.zero_le _, Nat.zero_le _⟩
  | s :: rest, hi => by
    obtain ⟨⟨hs, hlim⟩, hrest⟩ := List.forall_mem_cons.1 hi
    obtain ⟨h1, h2⟩ := wsumN_le rest hrest
    obtain ⟨hw, hn, _⟩ := wsum_le_limit hs
    simp only [wsumN, nativeDepthN, nativeDepth, List.length_cons, Nat.succ_mul]
    constructor <;> omega

theorem stackBytesN_le (bytes : Kind → Nat) (ρ : Nat) (hρ : ∀ k, bytes k ≤ ρ * cost k) :
    ∀ n : Nest, stackBytesN bytes n ≤ ρ * wsumN n
  | [] => Nat.zero_le _
  | s :: rest => by
    have := stackBytes_le_mul_wsum bytes ρ s.acts (fun a _ => hρ a.kind)
    have := stackBytesN_le bytes ρ hρ rest
    simp only [stackBytesN, wsumN, Nat.mul_add]
    omega

end MJ.Depth
