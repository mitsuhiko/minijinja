import MJ.Model.Kernels
/-!
# The C01 kernels return, and what they ask the allocator for is bounded

`Chk.Returns P x` says that the computation `x` does not panic and that its value satisfies `P`, mostly
`AllocsLe lim` (every infallible request is at most `lim`).  A theorem `fooK_returns` walks through the
cases of the kernel `fooK` once; "no panic" and the bound on the allocations (`MJ/Props/C01.lean`) are its
two projections, `Returns.ne_panic` and `Returns.of_eq`.  The checked operations (`usub`, `udiv`, `i128` …)
have one equation each that says when they succeed; the kernels are unfolded with these, those without a
`_returns` theorem (`cycleK`, `fmtPrecisionK`, `sliceFK`, `zeroPadK`) in `MJ/Props/C01.lean`; `loopAttrsK_eq`
writes out the value of `loopAttrsK`.
-/
namespace MJ.Chk

def Returns {α : Type} (P : α → Prop) (x : Chk α) : Prop := ∃ a, x = .ok a ∧ P a

@[simp] theorem returns_ok {α : Type} {P : α → Prop} {a : α} : Returns P (.ok a) ↔ P a :=
  ⟨fun ⟨_, e, h⟩ => by cases e; exact h, fun h => ⟨a, rfl, h⟩⟩

@[simp] theorem returns_ite {α : Type} {P : α → Prop} {c : Prop} [Decidable c] {x y : Chk α} :
    Returns P (if c then x else y) ↔ (c → Returns P x) ∧ (¬ c → Returns P y) := by
  split <;> simp [*]

theorem Returns.ne_panic {α : Type} {P : α → Prop} {x : Chk α} (h : Returns P x) : x ≠ .panic := by
  obtain ⟨a, rfl, _⟩ := h; nofun

theorem Returns.of_eq {α : Type} {P : α → Prop} {x : Chk α} {a : α} (h : Returns P x) (e : x = .ok a) :
    P a := by
  obtain ⟨b, rfl, hb⟩ := h; cases e; exact hb

end MJ.Chk

namespace MJ.Kernels
open MJ Chk

theorem i128_ok (x : Int) (h0 : -(170141183460469231731687303715884105728 : Int) ≤ x)
    (h1 : x < 170141183460469231731687303715884105728) : i128 x = .ok x := if_pos ⟨h0, h1⟩

theorem u16N_ok (x : Nat) (h1 : x < 65536) : u16N x = .ok x := if_pos h1

theorem usizeN_ok (x : Nat) (h1 : x < 18446744073709551616) : usizeN x = .ok x := if_pos h1

theorem usize_ok' (x : Int) (h0 : 0 ≤ x) (h1 : x < 18446744073709551616) : usize x = .ok x.toNat :=
  usize_ok x h0 h1

theorem usub_of_le {a b : Nat} (h : b ≤ a) : usub a b = .ok (a - b) := if_pos h

theorem u64Add_of_lt {a b : Nat} (h : a + b < 18446744073709551616) : u64Add a b = .ok (a + b) := if_pos h

theorem udiv_of_ne {a b : Nat} (h : b ≠ 0) : udiv a b = .ok (a / b) := if_neg h

theorem urem_of_ne {a b : Nat} (h : b ≠ 0) : urem a b = .ok (a % b) := if_neg h

theorem checkedMul_some {a b r : Nat} (h : checkedMul a b = some r) : r = a * b ∧ a * b < 18446744073709551616 := by
  revert h
  fun_cases checkedMul a b <;> intro h <;> cases h
  exact ⟨rfl, by assumption⟩

def AllocsLe {α : Type} (lim : Nat) (out : Out α) : Prop := ∀ a ∈ out.allocs, a ≤ lim

@[simp] theorem allocsLe_mk {α : Type} {lim : Nat} {as ts : List Nat} {r : Res α} :
    AllocsLe lim ⟨as, ts, r⟩ ↔ ∀ a ∈ as, a ≤ lim := Iff.rfl

@[simp] theorem allocsLe_err {α : Type} {lim : Nat} : AllocsLe lim (err : Out α) := fun _ h => nomatch h

theorem allocsLe_one {α : Type} {lim a : Nat} {ts : List Nat} {r : Res α} (h : a ≤ lim) :
    AllocsLe lim ⟨[a], ts, r⟩ := by
  intro x hx
  cases hx with
  | head => exact h
  | tail _ h' => cases h'

theorem allocsLe_two {α : Type} {lim a b : Nat} {ts : List Nat} {r : Res α} (ha : a ≤ lim) (hb : b ≤ lim) :
    AllocsLe lim ⟨[a, b], ts, r⟩ := by
  intro x hx
  cases hx with
  | head => exact ha
  | tail _ h' => exact allocsLe_one (ts := ts) (r := r) hb x h'

theorem returns_err {α : Type} {lim : Nat} : Returns (AllocsLe lim) (.ok (err : Out α)) :=
  returns_ok.mpr allocsLe_err

@[simp] theorem err_res {α : Type} : (err : Out α).res = .error := rfl

theorem negStepLen_ok (lo hi s : Int) (hlo : InI64 lo) (hhi : InI64 hi) (hs : InI64 s) (hneg : s < 0) :
    negStepLen lo hi s = .ok (if lo ≤ hi then 0 else ((lo - hi - s - 1) / (-s)).toNat) := by
  simp only [InI64] at hlo hhi hs
  unfold negStepLen
  split
  · rfl
  · simp only [i128_ok (lo - hi) (by omega) (by omega), i128_ok (lo - hi - s) (by omega) (by omega),
      i128_ok (lo - hi - s - 1) (by omega) (by omega), i128_ok (-s) (by omega) (by omega), ok_bind,
      if_neg (show ¬ -s = 0 by omega), pure_eq]
    -- the quotient fits `usize`, so the wrapping cast is exact: dividend < 2^64 + |s| ≤ 2^64 · |s|
    have hq0 : 0 ≤ (lo - hi - s - 1) / (-s) := Int.ediv_nonneg (by omega) (by omega)
    have hq2 : (lo - hi - s - 1) / (-s) < 18446744073709551616 :=
      Int.ediv_lt_of_lt_mul (by omega) (by omega)
    rw [Chk.asUsize, Int.emod_eq_of_lt hq0 hq2]

theorem toResult_res {len : Nat} {first stride : Int} {r : RangeOut} (h : (toResult len first stride).res = .ok r) :
    r = ⟨len, first, stride⟩ ∧ len ≤ Gen.rangeLimit := by
  revert h
  fun_cases toResult len first stride <;> intro h <;> cases h
  exact ⟨rfl, by omega⟩

theorem toResult_allocs (len : Nat) (first stride : Int) : AllocsLe Gen.rangeLimit (toResult len first stride) := by
  fun_cases toResult len first stride
  · exact allocsLe_err
  · exact allocsLe_one (by omega)

theorem rangeK_none (lower : Int) (upper : Option Int) :
    rangeK lower upper none =
      .ok (toResult (rangeLen (rangeLo lower upper) (rangeHi lower upper)) (rangeLo lower upper) 1) := rfl

theorem rangeK_zero (lower : Int) (upper : Option Int) : rangeK lower upper (some 0) = .ok err := rfl

theorem rangeK_pos (lower : Int) (upper : Option Int) {s : Int} (h : 0 < s) :
    rangeK lower upper (some s) =
      .ok (toResult (if rangeLen (rangeLo lower upper) (rangeHi lower upper) = 0 then 0
                     else 1 + (rangeLen (rangeLo lower upper) (rangeHi lower upper) - 1) / s.toNat)
            (rangeLo lower upper) s) := by
  simp only [rangeK, if_neg (Int.ne_of_gt h), if_pos h, pure_eq]

theorem rangeK_neg (lower : Int) (upper : Option Int) {s : Int} (h : s < 0) :
    rangeK lower upper (some s) =
      negStepLen (rangeLo lower upper) (rangeHi lower upper) s >>= fun len =>
        .ok (toResult len (rangeLo lower upper) s) := by
  simp only [rangeK, if_neg (Int.ne_of_lt h), if_neg (Int.not_lt.mpr (Int.le_of_lt h))]
  rfl

theorem rangeK_shape {lower : Int} {upper step : Option Int} {out : Out RangeOut}
    (h : rangeK lower upper step = .ok out) : out = err ∨ ∃ len first stride, out = toResult len first stride := by
  cases step with
  | none => exact .inr ⟨_, _, _, (Chk.ok.inj h).symm⟩
  | some s =>
    rcases Int.lt_trichotomy s 0 with hs | rfl | hs
    · rw [rangeK_neg _ _ hs] at h
      cases hn : negStepLen (rangeLo lower upper) (rangeHi lower upper) s with
      | panic => rw [hn] at h; cases h
      | ok n => rw [hn] at h; exact .inr ⟨_, _, _, (Chk.ok.inj h).symm⟩
    · exact .inl (Chk.ok.inj h).symm
    · rw [rangeK_pos _ _ hs] at h; exact .inr ⟨_, _, _, (Chk.ok.inj h).symm⟩

theorem rangeLo_inI64 {lower : Int} {upper : Option Int} (hl : InI64 lower) : InI64 (rangeLo lower upper) := by
  cases upper with
  | none => simp [rangeLo, InI64]
  | some u => exact hl

theorem rangeHi_inI64 {lower : Int} {upper : Option Int} (hl : InI64 lower) (hu : OptInI64 upper) :
    InI64 (rangeHi lower upper) := by
  cases upper with
  | none => exact hl
  | some u => exact hu

/-- `StepBy::len`: the items `i · k` below the length stay below the distance `n` -/
theorem stepBy_item_lt {n k i : Nat} (hk : 0 < k) (hi : i < (if n = 0 then 0 else 1 + (n - 1) / k)) :
    i * k < n := by
  split at hi
  · omega
  · have : i * k ≤ n - 1 := (Nat.le_div_iff_mul_le hk).mp (by omega)
    omega

theorem ceilDiv_item_lt {n d : Int} {i : Nat} (hd : 0 < d) (hi : (i : Int) < (n + d - 1) / d) :
    (i : Int) * d < n := by
  have : ((i : Int) + 1) * d ≤ n + d - 1 := (Int.le_ediv_iff_mul_le hd).mp (by omega)
  rw [Int.add_mul] at this
  omega

/-- for `isize` arguments `range` returns, and every item `first + i · stride` of what it returns lies
    between the bounds, hence fits `isize` -/
theorem rangeK_returns (lower : Int) (upper step : Option Int) (hl : InI64 lower) (hu : OptInI64 upper)
    (hs : OptInI64 step) :
    Returns (fun out => ∀ r, out.res = .ok r → ∀ i, i < r.len → InI64 (r.item i)) (rangeK lower upper step) := by
  have hlo := rangeLo_inI64 (upper := upper) hl
  have hhi := rangeHi_inI64 hl hu
  cases step with
  | none =>
    rw [rangeK_none, returns_ok]
    intro r hr i hlen
    obtain ⟨rfl, _⟩ := toResult_res hr
    generalize rangeLo lower upper = lo at *
    generalize rangeHi lower upper = up at *
    simp only [RangeOut.item, rangeLen, InI64] at *
    split at hlen <;> constructor <;> omega
  | some s =>
    have hs : InI64 s := hs
    rcases Int.lt_trichotomy s 0 with hneg | rfl | hpos
    · rw [rangeK_neg _ _ hneg, negStepLen_ok _ _ s hlo hhi hs hneg, ok_bind, returns_ok]
      intro r hr i hlen
      obtain ⟨rfl, _⟩ := toResult_res hr
      generalize rangeLo lower upper = lo at *
      generalize rangeHi lower upper = up at *
      simp only [RangeOut.item, InI64] at *
      split at hlen
      · omega
      · -- `up < lo + i·s ≤ lo`: with `d = -s`, `i·d < lo - up` and `0 ≤ i·d`
        have h1 := ceilDiv_item_lt (n := lo - up) (d := -s) (i := i) (by omega)
          (by rw [show lo - up + -s - 1 = lo - up - s - 1 by omega]; omega)
        have h2 : 0 ≤ (i : Int) * (-s) := Int.mul_nonneg (by omega) (by omega)
        rw [Int.mul_neg] at h1 h2
        constructor <;> omega
    · rw [rangeK_zero, returns_ok]
      intro r hr
      simp at hr
    · rw [rangeK_pos _ _ hpos, returns_ok]
      intro r hr i hlen
      obtain ⟨rfl, _⟩ := toResult_res hr
      -- `lo ≤ lo + i·s < up`
      obtain ⟨k, rfl⟩ : ∃ k : Nat, s = (k : Int) := ⟨s.toNat, by omega⟩
      have h1 := stepBy_item_lt (k := k) (by omega) (by simpa using hlen)
      have h2 : ((i * k : Nat) : Int) = (i : Int) * (k : Int) := Int.natCast_mul i k
      generalize rangeLo lower upper = lo at *
      generalize rangeHi lower upper = up at *
      simp only [RangeOut.item, rangeLen, InI64] at *
      split at h1 <;> constructor <;> omega

theorem mulStrK_returns (slen : Nat) (n : Option Nat) :
    Returns (AllocsLe Gen.maxRepeatedStringLen) (mulStrK slen n) := by
  fun_cases mulStrK slen n
  · exact returns_err
  · exact returns_err
  · next h => exact returns_ok.mpr (allocsLe_one h)
  · exact returns_err

/-- the eager (tuple) copy occupies at most the limit in bytes, the lazy one yields at most that many items -/
theorem repeatSeqK_returns (t : Bool) (len n : Option Nat) :
    Returns (fun out => AllocsLe Gen.maxRepeatedStringLen out ∧
        ∀ total, out.res = .ok total → total ≤ Gen.maxRepeatedStringLen) (repeatSeqK t len n) := by
  fun_cases repeatSeqK t len n
  case case5 total _ htot _ _ hsz hle =>
    obtain ⟨rfl, _⟩ := checkedMul_some hsz
    exact returns_ok.mpr ⟨allocsLe_one hle, fun _ h => by cases h; exact htot⟩
  case case7 total _ htot _ =>
    exact returns_ok.mpr ⟨(fun _ h => nomatch h), fun _ h => by cases h; exact htot⟩
  all_goals exact returns_ok.mpr ⟨allocsLe_err, fun _ h => nomatch h⟩

theorem splitNlLens_length_pos (s : List Char) : 0 < (splitNlLens s).length := by
  cases s with
  | nil => simp [splitNlLens]
  | cons c rest =>
    unfold splitNlLens
    split
    · simp
    · split <;> simp

theorem indentK_returns (w : Option Nat) (f b : Bool) (input : List Char) :
    Returns (AllocsLe Gen.maxRepeatedStringLen) (indentK w f b input) := by
  fun_cases indentK w f b input
  · exact returns_err
  · exact returns_err
  · next w lines added hadd hle =>
    obtain ⟨rfl, _⟩ := checkedMul_some hadd
    -- there is at least one line, so the filler `w` is at most as long as all fillers together
    have := Nat.le_mul_of_pos_right w (splitNlLens_length_pos (stripTrailingNewline input))
    exact returns_ok.mpr (allocsLe_two (Nat.le_trans this hle) hle)
  · exact returns_err

theorem tojsonIndentK_returns (w : Option Nat) : Returns (AllocsLe Gen.maxRepeatedStringLen) (tojsonIndentK w) := by
  fun_cases tojsonIndentK w
  · exact returns_err
  · exact returns_err
  · next h => exact returns_ok.mpr (allocsLe_one (Nat.le_of_not_gt h))

theorem fmtWidthK_returns (w : Option Nat) (cur : Nat) : Returns (AllocsLe Gen.fmtMaxWidth) (fmtWidthK w cur) := by
  fun_cases fmtWidthK w cur
  · exact returns_err
  · exact returns_err
  · next h => exact returns_ok.mpr (allocsLe_one (Nat.le_trans (Nat.sub_le _ _) (Nat.le_of_not_gt h)))

theorem batchRest_le (len count : Nat) (h0 : count ≠ 0) : batchRest len count ≤ count := by
  fun_cases batchRest len count
  · omega
  · have := Nat.mod_lt (len - 1) (Nat.pos_of_ne_zero h0); omega

/-- `len / count` has a non-zero divisor and `count - tmp.len()` cannot underflow; the two infallible
    requests are `len / count` (at most the items that exist) and `untrusted_size_hint(count)` -/
theorem batchK_returns (mem len : Nat) (count : Option Nat) (fill : Bool) :
    Returns (AllocsLe (max len Gen.untrustedSizeHintCap)) (batchK mem len count fill) := by
  cases count with
  | none => simp [batchK]
  | some count =>
    by_cases h0 : count = 0
    · simp [batchK, h0]
    · -- every remaining leaf asks for `[len / count, min count cap]`
      have key : len / count ≤ max len Gen.untrustedSizeHintCap ∧
          min count Gen.untrustedSizeHintCap ≤ max len Gen.untrustedSizeHintCap :=
        ⟨Nat.le_trans (Nat.div_le_self _ _) (Nat.le_max_left _ _),
         Nat.le_trans (Nat.min_le_right _ _) (Nat.le_max_right _ _)⟩
      simp [batchK, h0, udiv_of_ne h0, usub_of_le (batchRest_le len count h0), key]

/-- every round of the `slice` filter's loop indexes `items[start..end]` within bounds -/
theorem sliceColumn_ok (len count : Nat) (fill : Bool) (s : Nat) (hs : s < count)
    (hl : len < 9223372036854775808) :
    ∃ n, sliceColumn len (len / count) (len % count) fill s = .ok n := by
  unfold sliceColumn
  have hdm : count * (len / count) + len % count = len := Nat.div_add_mod len count
  have h1 : s * (len / count) ≤ count * (len / count) := Nat.mul_le_mul_right _ (by omega)
  have h2 : (s + 1) * (len / count) ≤ count * (len / count) := Nat.mul_le_mul_right _ (by omega)
  have h3 : (s + 1) * (len / count) = s * (len / count) + len / count := by rw [Nat.succ_mul]
  generalize s * (len / count) = p at *
  generalize (s + 1) * (len / count) = q at *
  generalize count * (len / count) = cq at *
  generalize len / count = ips at *
  generalize len % count = extra at *
  have b1 : min s extra + p ≤ min (s + 1) extra + q := by omega
  have b2 : min (s + 1) extra + q ≤ len := by omega
  simp only []
  rw [if_pos ⟨by omega, by omega⟩, if_pos ⟨b1, b2⟩]
  exact ⟨_, rfl⟩

theorem mapM_exists_ok {β γ : Type} (f : β → Chk γ) (l : List β) (h : ∀ b ∈ l, ∃ c, f b = .ok c) :
    ∃ cs, l.mapM f = .ok cs := by
  induction l with
  | nil => exact ⟨[], rfl⟩
  | cons b l ih =>
    obtain ⟨c, hc⟩ := h b (by simp)
    obtain ⟨cs, hcs⟩ := ih (fun b hb => h b (by simp [hb]))
    exact ⟨c :: cs, by rw [List.mapM_cons, hc, hcs]; rfl⟩

theorem advanceChar_ok (p : Pos) (c : Char) (h : p.line ≤ 65535 ∧ p.col ≤ 65535) :
    Returns (fun q => q.line ≤ 65535 ∧ q.col ≤ 65535) (advanceChar p c) := by
  have hsat : ∀ n, min (n + 1) 65535 < 65536 := fun n => Nat.lt_succ_of_le (Nat.min_le_right _ _)
  unfold advanceChar
  split <;> rw [u16N_ok _ (hsat _)]
  · simpa using Nat.min_le_right _ _
  · simpa using ⟨h.1, Nat.min_le_right _ _⟩

theorem advance_ok (text : List Char) (p : Pos) (h : p.line ≤ 65535 ∧ p.col ≤ 65535) :
    Returns (fun q => q.line ≤ 65535 ∧ q.col ≤ 65535) (advance p text) := by
  induction text generalizing p with
  | nil => simpa [advance] using h
  | cons c cs ih =>
    obtain ⟨q, hq, hq2⟩ := advanceChar_ok p c h
    simpa [advance, hq] using ih q hq2

theorem widen_self_ok (c : Nat) (h : c ≤ 65535) : widen c c = .ok (min (c + 1) 65535) := by
  unfold widen
  rw [if_pos rfl, u16N_ok _ (by omega)]

theorem caretCount_ok (a b : Nat) (hb : b ≤ 65535) : caretCount a b = .ok (b - a) := by
  unfold caretCount
  rw [usizeN_ok _ (by omega)]

/-- the `u16` line / column arithmetic saturates, the caret subtraction saturates: at most 65535 spaces
    and 65535 carets -/
theorem lexErrK_returns (text : List Char) : Returns (AllocsLe 65535) (lexErrK text) := by
  obtain ⟨q, hq, _, hcol⟩ := advance_ok text ⟨1, 0⟩ (by simp)
  have hm : min (q.col + 1) 65535 ≤ 65535 := Nat.min_le_right _ _
  simp only [lexErrK, hq, widen_self_ok q.col hcol, caretCount_ok q.col _ hm]
  simp only [returns_ok, allocsLe_mk, List.forall_mem_cons, List.not_mem_nil, false_imp_iff, implies_true, and_true]
  exact ⟨hcol, Nat.le_trans (Nat.sub_le _ _) hm⟩

/-- away from the sentinel `!0` every attribute is defined: `idx + 1` cannot wrap and `len - 1` is
    behind `len == 0` -/
theorem loopAttrsK_eq (idx : Nat) (len : Option Nat) (depth : Nat) (hi : idx < 18446744073709551615)
    (hd : depth + 1 < 18446744073709551616) :
    loopAttrsK idx len depth = .ok (some
      { index0 := idx, index := idx + 1, length := len, revindex := len.map (fun l => usat l idx),
        revindex0 := len.map (fun l => usat (usat l idx) 1), first := idx == 0,
        last := match len with
          | none => false
          | some l => if l = 0 then true else idx == l - 1
        depth := depth + 1, depth0 := depth }) := by
  simp only [loopAttrsK, if_neg (Nat.ne_of_lt hi), u64Add_of_lt (Nat.succ_lt_succ hi), usizeN_ok _ hd, ok_bind]
  cases len with
  | none => rfl
  | some l =>
    by_cases hl : l = 0
    · simp [hl]
    · simp [hl, usub_of_le (Nat.pos_of_ne_zero hl)]

theorem groupedLen_ge (n g : Nat) : n ≤ groupedLen n g := by
  unfold groupedLen
  split
  · omega
  · exact Nat.le_add_right _ _

theorem foldl_max_le_iff (xs : List Nat) (a m : Nat) : xs.foldl max a ≤ m ↔ a ≤ m ∧ ∀ x ∈ xs, x ≤ m := by
  induction xs generalizing a with
  | nil => simp
  | cons x xs ih => simp only [List.foldl_cons, ih, List.forall_mem_cons, Nat.max_le, and_assoc]

theorem realMax_le_iff (vs : List MS) (m : Nat) : realMax vs ≤ m ↔ ∀ v ∈ vs, v.real ≤ m := by
  induction vs with
  | nil => simp [realMax]
  | cons v vs ih => simp only [realMax, List.forall_mem_cons, Nat.max_le, ih]

end MJ.Kernels
