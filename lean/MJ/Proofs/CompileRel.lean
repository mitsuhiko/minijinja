import MJ.Model.Compile
/-!
# The code generator without back-patching (C03 stage 3)

`relExpr e base aux` is the code `cExpr` appends for `e` when the code so far has length `base`,
with all jump targets already resolved (they are computed from the sizes of the parts).
`cExpr_eq_core` proves that the state-passing, back-patching generator of `MJ.Compile` produces
exactly this: it appends `relExpr` to the code, restores the pending-block stack, and threads the
same auxiliary state (`CG.extend`).  Each block of the generator (`start_*` … `end_*` around chunks of
code) is one equation over `CG.extend` (`scBool_block`, `if_block`, `cmp_block`); a patch of a
placeholder is `patch_mid`.  Fragment: `coreExpr` (calls only of a name); `simpleExpr` is its call-free
part (`cExpr_eq_rel`).

At the end, what the simulation reads of `relExpr` (under the names it uses, `MJ.Vm.*`): the flag `oof` is only ever
set (`relExpr_oof_mono`), so where it is clear after a piece of code it was clear before each of its parts
(`oof_false_of_rel*`); `rel_*` are the equations of `relExpr` for the single expression forms.
-/
namespace MJ.Compile
open MJ.Eval

mutual
  /-- the call-free part of `coreExpr` -/
  def simpleExpr : Expr → Bool
    | .const _ => true
    | .var _ => true
    | .unop _ e => simpleExpr e
    | .binop _ l r => simpleExpr l && simpleExpr r
    | .cmp e ops => decide (2 ≤ ops.length) && simpleExpr e && simpleChain ops
    | .ife c t none => simpleExpr c && simpleExpr t
    | .ife c t (some f) => simpleExpr c && simpleExpr t && simpleExpr f
    | .filter _ e args => simpleExpr e && simpleArgs args
    | .test _ e args => simpleExpr e && simpleArgs args
    | .getattr e _ => simpleExpr e
    | .getitem e i => simpleExpr e && simpleExpr i
    | .call _ _ => false
    | .list items => simpleList items
    | .map kvs => simplePairs kvs
  def simpleChain : List (CmpOp × Expr) → Bool
    | [] => true
    | (_, e) :: rest => simpleExpr e && simpleChain rest
  def simpleArgs : List (Option String × Expr) → Bool
    | [] => true
    | (none, e) :: rest => simpleExpr e && simpleArgs rest
    | (some _, _) :: _ => false
  def simpleList : List Expr → Bool
    | [] => true
    | e :: rest => simpleExpr e && simpleList rest
  def simplePairs : List (Expr × Expr) → Bool
    | [] => true
    | (k, v) :: rest => simpleExpr k && simpleExpr v && simplePairs rest
end

mutual
  /-- the expression fragment of the refinement theorem: `simpleExpr` plus calls `f(args)` of a name
  with positional and keyword arguments -/
  def coreExpr : Expr → Bool
    | .const _ => true
    | .var _ => true
    | .unop _ e => coreExpr e
    | .binop _ l r => coreExpr l && coreExpr r
    | .cmp e ops => decide (2 ≤ ops.length) && coreExpr e && coreChain ops
    | .ife c t none => coreExpr c && coreExpr t
    | .ife c t (some f) => coreExpr c && coreExpr t && coreExpr f
    | .filter _ e args => coreExpr e && coreArgs args
    | .test _ e args => coreExpr e && coreArgs args
    | .getattr e _ => coreExpr e
    | .getitem e i => coreExpr e && coreExpr i
    | .call (.var _) args => coreCallArgs args
    | .call _ _ => false
    | .list items => coreList items
    | .map kvs => corePairs kvs
  def coreChain : List (CmpOp × Expr) → Bool
    | [] => true
    | (_, e) :: rest => coreExpr e && coreChain rest
  def coreArgs : List (Option String × Expr) → Bool
    | [] => true
    | (none, e) :: rest => coreExpr e && coreArgs rest
    | (some _, _) :: _ => false
  def coreCallArgs : List (Option String × Expr) → Bool
    | [] => true
    | (_, e) :: rest => coreExpr e && coreCallArgs rest
  def coreList : List Expr → Bool
    | [] => true
    | e :: rest => coreExpr e && coreList rest
  def corePairs : List (Expr × Expr) → Bool
    | [] => true
    | (k, v) :: rest => coreExpr k && coreExpr v && corePairs rest
end

/-- `emit_compare` -/
def cmpInstrs : CmpOp → List Instr
  | .eq => [.eq] | .ne => [.ne] | .lt => [.lt] | .le => [.lte]
  | .gt => [.gt] | .ge => [.gte] | .isin => [.isIn]
  | .notin => [.isIn, .not]

mutual
  def relExpr : Expr → Nat → Aux → List Instr × Aux
    | e, base, a =>
      match asConst e with
      | .val v => ([.loadConst v], a)
      | .oof => ([], a.markOof)
      | .no =>
        match e with
        | .const l => ([.loadConst (litVal l)], a)
        | .var x => ([.lookup x], a)
        | .unop .not x => ((relExpr x base a).1 ++ [.not], (relExpr x base a).2)
        | .unop .neg x => ((relExpr x base a).1 ++ [.neg], (relExpr x base a).2)
        | .binop .and l r =>
          let rl := relExpr l base a
          let rr := relExpr r (base + rl.1.length + 1) rl.2
          (rl.1 ++ [.jumpIfFalseOrPop (base + rl.1.length + 1 + rr.1.length)] ++ rr.1, rr.2)
        | .binop .or l r =>
          let rl := relExpr l base a
          let rr := relExpr r (base + rl.1.length + 1) rl.2
          (rl.1 ++ [.jumpIfTrueOrPop (base + rl.1.length + 1 + rr.1.length)] ++ rr.1, rr.2)
        | .binop op l r =>
          let rl := relExpr l base a
          let rr := relExpr r (base + rl.1.length) rl.2
          (rl.1 ++ rr.1 ++ [binInstr op], rr.2)
        | .cmp x ops =>
          -- operands; all but the last comparison jump to the clean-up code at `cs` when false
          let rx := relExpr x base a
          let len := (relChain ops (base + rx.1.length) rx.2 0).1.length
          let cs := base + rx.1.length + len + 1
          let rc := relChain ops (base + rx.1.length) rx.2 cs
          (rx.1 ++ rc.1 ++ [.jump (cs + 2), .swap, .discardTop], rc.2)
        | .ife c t f =>
          let rc := relExpr c base a
          let rt := relExpr t (base + rc.1.length + 1) rc.2
          let fbase := base + rc.1.length + 1 + rt.1.length + 1
          let rf : List Instr × Aux := match f with
            | some f => relExpr f fbase rt.2
            | none => ([.loadConst .undef], rt.2)
          (rc.1 ++ [.jumpIfFalse fbase] ++ rt.1 ++ [.jump (fbase + rf.1.length)] ++ rf.1, rf.2)
        | .filter name x args =>
          let rx := relExpr x base a
          let ra := relArgs args (base + rx.1.length) rx.2
          (rx.1 ++ ra.1 ++ [.applyFilter name (1 + args.length) (ra.2.filterId name).1], (ra.2.filterId name).2)
        | .test name x args =>
          let rx := relExpr x base a
          let ra := relArgs args (base + rx.1.length) rx.2
          (rx.1 ++ ra.1 ++ [.performTest name (1 + args.length) (ra.2.testId name).1], (ra.2.testId name).2)
        | .getattr x name => ((relExpr x base a).1 ++ [.getAttr name], (relExpr x base a).2)
        | .getitem x i =>
          let rx := relExpr x base a
          let ri := relExpr i (base + rx.1.length) rx.2
          (rx.1 ++ ri.1 ++ [.getItem], ri.2)
        | .call (.var x) args =>
          -- `compile_call` of a function call: positional arguments, then the keyword arguments as one
          -- value (a constant if all values are literals, else built at run time)
          let rp := relPosArgs args base a
          match kwArgs args with
          | [] => (rp.1 ++ [.callFunction x (posArgs args).length], rp.2)
          | k0 :: ks =>
            match staticKwargs (k0 :: ks) with
            | some m => (rp.1 ++ [.loadConst (.kwargs m), .callFunction x ((posArgs args).length + 1)], rp.2)
            | none =>
              let rk := relKwArgs args (base + rp.1.length) rp.2
              (rp.1 ++ rk.1 ++ [.buildKwargs (k0 :: ks).length, .callFunction x ((posArgs args).length + 1)], rk.2)
        | .call _ _ => ([], a.markOof)
        | .list items => ((relList items base a).1 ++ [.buildList (some items.length)], (relList items base a).2)
        | .map kvs => ((relPairs kvs base a).1 ++ [.buildMap kvs.length], (relPairs kvs base a).2)
  /-- the operator loop of `compile_compare` with the target `cs` of the clean-up jumps resolved -/
  def relChain : List (CmpOp × Expr) → Nat → Aux → Nat → List Instr × Aux
    | [], _, a, _ => ([], a)
    | [(op, e)], base, a, _ => ((relExpr e base a).1 ++ cmpInstrs op, (relExpr e base a).2)
    | (op, e) :: o2 :: rest, base, a, cs =>
      let re := relExpr e base a
      let rr := relChain (o2 :: rest) (base + re.1.length + 2) re.2 cs
      (re.1 ++ [.compareAndPreserve op, .jumpIfFalseOrPop cs] ++ rr.1, rr.2)
  def relArgs : List (Option String × Expr) → Nat → Aux → List Instr × Aux
    | [], _, a => ([], a)
    | (none, e) :: rest, base, a =>
      let re := relExpr e base a
      let rr := relArgs rest (base + re.1.length) re.2
      (re.1 ++ rr.1, rr.2)
    | (some _, _) :: _, _, a => ([], a.markOof)
  def relPosArgs : List (Option String × Expr) → Nat → Aux → List Instr × Aux
    | [], _, a => ([], a)
    | (none, e) :: rest, base, a =>
      let re := relExpr e base a
      let rr := relPosArgs rest (base + re.1.length) re.2
      (re.1 ++ rr.1, rr.2)
    | (some _, _) :: rest, base, a => relPosArgs rest base a
  /-- the keyword arguments of a call as `LoadConst key; value` pairs -/
  def relKwArgs : List (Option String × Expr) → Nat → Aux → List Instr × Aux
    | [], _, a => ([], a)
    | (none, _) :: rest, base, a => relKwArgs rest base a
    | (some k, e) :: rest, base, a =>
      let re := relExpr e (base + 1) a
      let rr := relKwArgs rest (base + 1 + re.1.length) re.2
      ([.loadConst (.str k)] ++ re.1 ++ rr.1, rr.2)
  def relList : List Expr → Nat → Aux → List Instr × Aux
    | [], _, a => ([], a)
    | e :: rest, base, a =>
      let re := relExpr e base a
      let rr := relList rest (base + re.1.length) re.2
      (re.1 ++ rr.1, rr.2)
  def relPairs : List (Expr × Expr) → Nat → Aux → List Instr × Aux
    | [], _, a => ([], a)
    | (k, v) :: rest, base, a =>
      let rk := relExpr k base a
      let rv := relExpr v (base + rk.1.length) rk.2
      let rr := relPairs rest (base + rk.1.length + rv.1.length) rv.2
      (rk.1 ++ rv.1 ++ rr.1, rr.2)
end

def CG.extend (g : CG) (r : List Instr × Aux) : CG :=
  { code := g.code ++ r.1, pending := g.pending, aux := r.2 }


theorem getElem?_mid {α : Type} (A B : List α) (x : α) (n : Nat) (h : n = A.length) :
    (A ++ x :: B)[n]? = some x := by subst h; simp

theorem set_mid {α : Type} (A B : List α) (x y : α) (n : Nat) (h : n = A.length) :
    (A ++ x :: B).set n y = A ++ y :: B := by subst h; simp

@[simp] theorem CG.next_extend (g : CG) (r : List Instr × Aux) : (g.extend r).next = g.next + r.1.length := by
  simp [CG.extend, CG.next]

@[simp] theorem CG.extend_add (g : CG) (r : List Instr × Aux) (i : Instr) :
    (g.extend r).add i = g.extend (r.1 ++ [i], r.2) := by
  simp [CG.extend, CG.add]

theorem CG.extend_extend (g : CG) (r r' : List Instr × Aux) :
    (g.extend r).extend r' = g.extend (r.1 ++ r'.1, r'.2) := by
  simp [CG.extend]

@[simp] theorem CG.extend_aux (g : CG) (r : List Instr × Aux) : (g.extend r).aux = r.2 := rfl
@[simp] theorem CG.extend_pending (g : CG) (r : List Instr × Aux) : (g.extend r).pending = g.pending := rfl

theorem CG.add_eq_extend (g : CG) (i : Instr) : g.add i = g.extend ([i], g.aux) := by
  simp [CG.extend, CG.add]

theorem extend_nil_markOof (g : CG) : g.markOof = g.extend ([], g.aux.markOof) := by
  simp [CG.extend, CG.markOof]


/-- the instructions whose operand `CG.patch` overwrites, as functions of that operand -/
inductive Patchable : (Nat → Instr) → Prop
  | jump : Patchable .jump
  | jumpIfFalse : Patchable .jumpIfFalse
  | jumpIfFalseOrPop : Patchable .jumpIfFalseOrPop
  | jumpIfTrueOrPop : Patchable .jumpIfTrueOrPop
  | iterate : Patchable .iterate

theorem patch_mid {J : Nat → Instr} (hJ : Patchable J) (g : CG) (A B : List Instr) (n u t : Nat)
    (hc : g.code = A ++ J u :: B) (hn : n = A.length) : g.patch n t = { g with code := A ++ J t :: B } := by
  cases hJ <;> simp [CG.patch, hc, getElem?_mid A B _ n hn, set_mid A B _ _ n hn]

theorem scBool_block (g : CG) (L R : List Instr × Aux) (isAnd : Bool) :
    (((g.startScBool.extend L).scBool isAnd).extend R).endScBool =
      g.extend (L.1 ++ [if isAnd then Instr.jumpIfFalseOrPop (g.next + L.1.length + 1 + R.1.length)
                        else Instr.jumpIfTrueOrPop (g.next + L.1.length + 1 + R.1.length)] ++ R.1, R.2) := by
  have hJ : Patchable fun t => if isAnd then Instr.jumpIfFalseOrPop t else Instr.jumpIfTrueOrPop t := by
    cases isAnd
    · exact .jumpIfTrueOrPop
    · exact .jumpIfFalseOrPop
  simp only [CG.startScBool, CG.scBool, CG.endScBool, CG.extend, CG.add, CG.next, CG.patchAll, List.foldl,
    List.nil_append]
  rw [patch_mid hJ _ (g.code ++ L.1) R.1 _ unpatched _ (by simp) (by simp)]
  simp +arith


theorem startIf_extend (g : CG) (C : List Instr × Aux) :
    (g.extend C).startIf =
      { code := (g.code ++ C.1) ++ Instr.jumpIfFalse unpatched :: [],
        pending := .branch (g.next + C.1.length) :: g.pending, aux := C.2 } := by
  simp [CG.startIf, CG.extend, CG.add, CG.next]

theorem startElse_after (A : List Instr) (P : List Pending) (a : Aux) (C : List Instr × Aux) (n : Nat)
    (hn : n = A.length) :
    (({ code := A ++ Instr.jumpIfFalse unpatched :: [], pending := .branch n :: P, aux := a } : CG).extend C).startElse =
      { code := (A ++ Instr.jumpIfFalse (A.length + 1 + C.1.length + 1) :: C.1) ++ Instr.jump unpatched :: [],
        pending := .branch (A.length + 1 + C.1.length) :: P, aux := C.2 } := by
  subst hn
  simp only [CG.startElse, CG.endCondition, CG.extend, CG.add, CG.next]
  rw [patch_mid .jumpIfFalse _ A (C.1 ++ [Instr.jump unpatched]) _ unpatched _ (by simp) rfl]
  simp +arith

/-- `end_if` resolves the pending jump `J` (the `JumpIfFalse` of an `if` without `else`, or the `Jump`
over the `else` branch) to the address behind the branch `C` -/
theorem endIf_after {J : Nat → Instr} (hJ : Patchable J) (A : List Instr) (P : List Pending) (a : Aux)
    (C : List Instr × Aux) (n : Nat) (hn : n = A.length) :
    (({ code := A ++ J unpatched :: [], pending := .branch n :: P, aux := a } : CG).extend C).endIf =
      { code := A ++ J (A.length + 1 + C.1.length) :: C.1, pending := P, aux := C.2 } := by
  subst hn
  simp only [CG.endIf, CG.endCondition, CG.extend, CG.next]
  rw [patch_mid hJ _ A C.1 _ unpatched _ (by simp) rfl]
  simp [Nat.add_assoc, Nat.add_comm 1]

theorem if_block (g : CG) (Cc Ct Cf : List Instr × Aux) :
    ((((g.extend Cc).startIf.extend Ct).startElse).extend Cf).endIf =
      g.extend (Cc.1 ++ [Instr.jumpIfFalse (g.next + Cc.1.length + 1 + Ct.1.length + 1)] ++ Ct.1 ++
        [Instr.jump (g.next + Cc.1.length + 1 + Ct.1.length + 1 + Cf.1.length)] ++ Cf.1, Cf.2) := by
  rw [startIf_extend, startElse_after _ _ _ _ _ (by simp [CG.next]), endIf_after .jump _ _ _ _ _ (by simp; omega)]
  simp +arith [CG.extend, CG.next]

theorem if_block_noelse (g : CG) (Cc Ct : List Instr × Aux) :
    ((g.extend Cc).startIf.extend Ct).endIf =
      g.extend (Cc.1 ++ [Instr.jumpIfFalse (g.next + Cc.1.length + 1 + Ct.1.length)] ++ Ct.1, Ct.2) := by
  rw [startIf_extend, endIf_after .jumpIfFalse _ _ _ _ _ (by simp [CG.next])]
  simp [CG.extend, CG.next, Nat.add_assoc]

@[simp] theorem next_startScBool (g : CG) : g.startScBool.next = g.next := rfl
@[simp] theorem aux_startScBool (g : CG) : g.startScBool.aux = g.aux := rfl
@[simp] theorem next_scBool_ext (g : CG) (L : List Instr × Aux) (b : Bool) :
    ((g.startScBool.extend L).scBool b).next = g.next + L.1.length + 1 := by
  simp [CG.startScBool, CG.scBool, CG.extend, CG.add, CG.next, Nat.add_assoc]
@[simp] theorem aux_scBool_ext (g : CG) (L : List Instr × Aux) (b : Bool) :
    ((g.startScBool.extend L).scBool b).aux = L.2 := by
  simp [CG.startScBool, CG.scBool, CG.extend, CG.add]
@[simp] theorem next_startIf_ext (g : CG) (C : List Instr × Aux) :
    (g.extend C).startIf.next = g.next + C.1.length + 1 := by
  simp [CG.startIf, CG.extend, CG.add, CG.next, Nat.add_assoc]
@[simp] theorem aux_startIf_ext (g : CG) (C : List Instr × Aux) : (g.extend C).startIf.aux = C.2 := by
  simp [CG.startIf, CG.extend, CG.add]
@[simp] theorem next_startElse_ext (g : CG) (Cc Ct : List Instr × Aux) :
    (((g.extend Cc).startIf.extend Ct).startElse).next = g.next + Cc.1.length + 1 + Ct.1.length + 1 := by
  rw [startIf_extend, startElse_after _ _ _ _ _ (by simp [CG.next])]
  simp +arith [CG.next]
@[simp] theorem aux_startElse_ext (g : CG) (Cc Ct : List Instr × Aux) :
    (((g.extend Cc).startIf.extend Ct).startElse).aux = Ct.2 := by
  rw [startIf_extend, startElse_after _ _ _ _ _ (by simp [CG.next])]

@[simp] theorem patch_next (g : CG) (i t : Nat) : (g.patch i t).next = g.next := by
  unfold CG.patch; split <;> simp [CG.next]
@[simp] theorem patch_aux (g : CG) (i t : Nat) : (g.patch i t).aux = g.aux := by
  unfold CG.patch; split <;> rfl
@[simp] theorem patch_pending (g : CG) (i t : Nat) : (g.patch i t).pending = g.pending := by
  unfold CG.patch; split <;> rfl
@[simp] theorem patchAll_next (is : List Nat) (t : Nat) : ∀ g : CG, (g.patchAll is t).next = g.next := by
  induction is with
  | nil => intro g; rfl
  | cons i rest ih => intro g; simp [CG.patchAll] at ih ⊢; rw [ih]; simp
@[simp] theorem patchAll_aux (is : List Nat) (t : Nat) : ∀ g : CG, (g.patchAll is t).aux = g.aux := by
  induction is with
  | nil => intro g; rfl
  | cons i rest ih => intro g; simp [CG.patchAll] at ih ⊢; rw [ih]; simp

/-- absolute positions of the `JumpIfFalseOrPop`s of a comparison chain -/
def chainJumps : List (CmpOp × Expr) → Nat → Aux → List Nat
  | [], _, _ => []
  | [_], _, _ => []
  | (_, e) :: o2 :: rest, base, a =>
    (base + (relExpr e base a).1.length + 1) ::
      chainJumps (o2 :: rest) (base + (relExpr e base a).1.length + 2) (relExpr e base a).2

/-- the clean-up target only occurs as a jump operand: sizes and auxiliary state do not depend on it -/
theorem relChain_cs : ∀ (ops : List (CmpOp × Expr)) (base : Nat) (a : Aux) (cs cs' : Nat),
    (relChain ops base a cs).1.length = (relChain ops base a cs').1.length ∧
    (relChain ops base a cs).2 = (relChain ops base a cs').2
  | [], _, _, _, _ => by simp [relChain]
  | [(op, e)], _, _, _, _ => by simp [relChain]
  | (op, e) :: o2 :: rest, base, a, cs, cs' => by
    have ih := relChain_cs (o2 :: rest) (base + (relExpr e base a).1.length + 2) (relExpr e base a).2 cs cs'
    simp only [relChain, List.length_append, List.length_cons, List.length_nil]
    exact ⟨by rw [ih.1], ih.2⟩

theorem emitCompare_eq (g : CG) (op : CmpOp) : emitCompare g op = g.extend (cmpInstrs op, g.aux) := by
  cases op <;> simp [emitCompare, cmpInstrs, CG.add, CG.extend]

/-- patching all clean-up jumps of a chain resolves them to `cs` -/
theorem patchAll_chain : ∀ (ops : List (CmpOp × Expr)) (base : Nat) (a : Aux) (cs : Nat) (pre post : List Instr)
    (P : List Pending) (aux' : Aux), pre.length = base →
    ({ code := pre ++ (relChain ops base a unpatched).1 ++ post, pending := P, aux := aux' } : CG).patchAll
        (chainJumps ops base a) cs =
      { code := pre ++ (relChain ops base a cs).1 ++ post, pending := P, aux := aux' }
  | [], _, _, _, _, _, _, _, _ => by simp [chainJumps, relChain, CG.patchAll]
  | [(op, e)], _, _, _, _, _, _, _, _ => by simp [chainJumps, relChain, CG.patchAll]
  | (op, e) :: o2 :: rest, base, a, cs, pre, post, P, aux', hpre => by
    simp only [chainJumps, relChain, CG.patchAll, List.foldl]
    rw [patch_mid .jumpIfFalseOrPop _ (pre ++ (relExpr e base a).1 ++ [Instr.compareAndPreserve op])
      ((relChain (o2 :: rest) (base + (relExpr e base a).1.length + 2) (relExpr e base a).2 unpatched).1 ++ post)
      _ unpatched _ (by simp) (by simp [hpre]; omega)]
    have ih := patchAll_chain (o2 :: rest) (base + (relExpr e base a).1.length + 2) (relExpr e base a).2 cs
      (pre ++ (relExpr e base a).1 ++ [Instr.compareAndPreserve op, Instr.jumpIfFalseOrPop cs]) post P aux'
      (by simp [hpre]; omega)
    simp only [CG.patchAll] at ih
    simpa using ih

/-- the tail of `compile_compare` for a chain placed at `b`: jump over the clean-up code, clean-up
code, patching -/
theorem cmp_block (g : CG) (Cx : List Instr × Aux) (ops : List (CmpOp × Expr)) (b n : Nat)
    (hb : b = g.next + Cx.1.length) (hn : n = b + (relChain ops b Cx.2 unpatched).1.length + 3) :
    ((((((g.extend Cx).extend (relChain ops b Cx.2 unpatched)).add (Instr.jump unpatched)).add
          Instr.swap).add Instr.discardTop).patchAll (chainJumps ops b Cx.2)
        ((((g.extend Cx).extend (relChain ops b Cx.2 unpatched)).add (Instr.jump unpatched)).next)).patch
      (b + (relChain ops b Cx.2 unpatched).1.length) n =
    g.extend (Cx.1 ++ (relChain ops b Cx.2 (b + (relChain ops b Cx.2 0).1.length + 1)).1 ++
      [Instr.jump (b + (relChain ops b Cx.2 0).1.length + 1 + 2), Instr.swap, Instr.discardTop],
      (relChain ops b Cx.2 (b + (relChain ops b Cx.2 0).1.length + 1)).2) := by
  have hl := (relChain_cs ops b Cx.2 unpatched 0).1
  generalize hcs : b + (relChain ops b Cx.2 0).1.length + 1 = cs at hl ⊢
  obtain ⟨hl1, hl2⟩ := relChain_cs ops b Cx.2 unpatched cs
  have hP := patchAll_chain ops b Cx.2 cs (g.code ++ Cx.1) [Instr.jump unpatched, Instr.swap, Instr.discardTop]
    g.pending (relChain ops b Cx.2 unpatched).2 (by simp [hb, CG.next])
  -- from here on only the lengths and auxiliary states of the two chains matter
  generalize relChain ops b Cx.2 unpatched = R at *
  generalize relChain ops b Cx.2 cs = Rcs at *
  have e0 : ((((g.extend Cx).extend R).add (Instr.jump unpatched)).add Instr.swap).add Instr.discardTop =
      { code := g.code ++ Cx.1 ++ R.1 ++ [Instr.jump unpatched, Instr.swap, Instr.discardTop],
        pending := g.pending, aux := R.2 } := by
    simp [CG.extend, CG.add]
  have e1 : (((g.extend Cx).extend R).add (Instr.jump unpatched)).next = cs := by
    simp [CG.extend, CG.add, CG.next, ← hcs, hb, hl, Nat.add_assoc]
  have e2 : n = cs + 2 := by rw [hn, ← hcs, hl]
  rw [e0, e1, e2, hP, patch_mid .jump _ (g.code ++ Cx.1 ++ Rcs.1) [Instr.swap, Instr.discardTop] _ unpatched _
    (by simp) (by simp [hb, CG.next, hl1, Nat.add_assoc])]
  simp [CG.extend, hl2]

theorem chainJumps_cons (op : CmpOp) (e : Expr) (o2 : CmpOp × Expr) (rest : List (CmpOp × Expr)) (b : Nat) (a : Aux) :
    chainJumps ((op, e) :: o2 :: rest) b a =
      (b + (relExpr e b a).1.length + 1) :: chainJumps (o2 :: rest) (b + (relExpr e b a).1.length + 2) (relExpr e b a).2 := by
  simp [chainJumps]

mutual
theorem cExpr_eq_core : ∀ (e : Expr) (g : CG), coreExpr e = true →
    cExpr e g = g.extend (relExpr e g.next g.aux)
  | e, g, h => by
    unfold cExpr relExpr
    cases hc : asConst e with
    | val v => simp [CG.add_eq_extend]
    | oof => simp [extend_nil_markOof]
    | no =>
      simp only
      match e, h with
      | .const l, _ => simp [CG.add_eq_extend]
      | .var x, _ => simp [CG.add_eq_extend]
      | .unop .not x, h | .unop .neg x, h => simp only; rw [cExpr_eq_core x g (by simpa [coreExpr] using h)]; simp
      | .binop op l r, h =>
        have hs : coreExpr l = true ∧ coreExpr r = true := by simpa [coreExpr] using h
        cases op
        case and | or =>
          simp only
          rw [cExpr_eq_core l g.startScBool hs.1, cExpr_eq_core r _ hs.2, scBool_block]
          simp [Nat.add_assoc]
        all_goals
          simp only
          rw [cExpr_eq_core l g hs.1, cExpr_eq_core r _ hs.2]
          simp [CG.extend_extend]
      | .cmp x [], h => simp [coreExpr] at h
      | .cmp x [_], h => simp [coreExpr] at h
      | .cmp x (o1 :: o2 :: rest), h =>
        have hs : coreExpr x = true ∧ coreChain (o1 :: o2 :: rest) = true := by
          have := h; simp [coreExpr] at this; exact ⟨this.1, this.2⟩
        simp only
        rw [cExpr_eq_core x g hs.1, cChain_eq_core (o1 :: o2 :: rest) [] _ hs.2]
        obtain ⟨op1, e1⟩ := o1
        simp only [List.nil_append, CG.next_extend, CG.extend_aux, chainJumps_cons]
        rw [← chainJumps_cons]
        rw [cmp_block g (relExpr x g.next g.aux) ((op1, e1) :: o2 :: rest) (g.next + (relExpr x g.next g.aux).1.length) _ rfl
          (by rw [patchAll_next]; simp only [CG.extend, CG.add, CG.next, List.length_append, List.length_cons, List.length_nil])]
      | .ife c t none, h =>
        have hs : coreExpr c = true ∧ coreExpr t = true := by simpa [coreExpr] using h
        simp only
        rw [cExpr_eq_core c g hs.1, cExpr_eq_core t _ hs.2, CG.add_eq_extend, if_block]
        simp [Nat.add_assoc]
      | .ife c t (some f), h =>
        have hs : (coreExpr c = true ∧ coreExpr t = true) ∧ coreExpr f = true := by simpa [coreExpr] using h
        simp only
        rw [cExpr_eq_core c g hs.1.1, cExpr_eq_core t _ hs.1.2, cExpr_eq_core f _ hs.2, if_block]
        simp [Nat.add_assoc]
      | .filter name x args, h =>
        have hs : coreExpr x = true ∧ coreArgs args = true := by simpa [coreExpr] using h
        simp only
        rw [cExpr_eq_core x g hs.1, cArgs_eq_core args _ hs.2]
        simp [CG.filterId, CG.extend, CG.add, CG.next]
      | .test name x args, h =>
        have hs : coreExpr x = true ∧ coreArgs args = true := by simpa [coreExpr] using h
        simp only
        rw [cExpr_eq_core x g hs.1, cArgs_eq_core args _ hs.2]
        simp [CG.testId, CG.extend, CG.add, CG.next]
      | .getattr x name, h => simp only; rw [cExpr_eq_core x g (by simpa [coreExpr] using h)]; simp
      | .getitem x i, h =>
        have hs : coreExpr x = true ∧ coreExpr i = true := by simpa [coreExpr] using h
        simp only
        rw [cExpr_eq_core x g hs.1, cExpr_eq_core i _ hs.2]
        simp [CG.extend_extend]
      | .call f args, h =>
        cases f with
        | var x =>
          have hs : coreCallArgs args = true := by simpa [coreExpr] using h
          simp only [callKind, callName]
          cases hk : kwArgs args with
          | nil => simp [cPosArgs_eq_core args g hs, CG.extend, CG.add]
          | cons k0 ks =>
            simp only
            cases hst : staticKwargs (k0 :: ks) with
            | some m => simp [cPosArgs_eq_core args g hs, CG.extend, CG.add]
            | none => simp [cPosArgs_eq_core args g hs, cKwArgs_eq_core args _ hs, CG.extend, CG.add, CG.next]
        | _ => simp [coreExpr] at h
      | .list items, h => simp only; rw [cList_eq_core items g (by simpa [coreExpr] using h)]; simp
      | .map kvs, h => simp only; rw [cPairs_eq_core kvs g (by simpa [coreExpr] using h)]; simp
theorem cChain_eq_core : ∀ (ops : List (CmpOp × Expr)) (jumps : List Nat) (g : CG), coreChain ops = true →
    cChain ops jumps g =
      (g.extend (relChain ops g.next g.aux unpatched), jumps ++ chainJumps ops g.next g.aux)
  | [], jumps, g, _ => by simp [cChain, relChain, chainJumps, CG.extend]
  | [(op, e)], jumps, g, h => by
    have hs : coreExpr e = true := by simpa [coreChain] using h
    simp only [cChain, relChain, chainJumps, List.append_nil]
    rw [cExpr_eq_core e g hs, emitCompare_eq, CG.extend_extend]
    simp
  | (op, e) :: o2 :: rest, jumps, g, h => by
    have hs : coreExpr e = true ∧ coreChain (o2 :: rest) = true := by simpa [coreChain] using h
    simp only [cChain, relChain, chainJumps]
    rw [cExpr_eq_core e g hs.1, CG.extend_add, CG.extend_add, CG.next_extend]
    rw [cChain_eq_core (o2 :: rest) _ _ hs.2]
    simp [CG.extend_extend, Nat.add_assoc]
theorem cArgs_eq_core : ∀ (args : List (Option String × Expr)) (g : CG), coreArgs args = true →
    cArgs args g = g.extend (relArgs args g.next g.aux)
  | [], g, _ => by simp [cArgs, relArgs, CG.extend]
  | (none, e) :: rest, g, h => by
    have hs : coreExpr e = true ∧ coreArgs rest = true := by simpa [coreArgs] using h
    simp only [cArgs, relArgs]
    rw [cExpr_eq_core e g hs.1, cArgs_eq_core rest _ hs.2]
    simp [CG.extend_extend]
  | (some _, _) :: _, _, h => by simp [coreArgs] at h
theorem cList_eq_core : ∀ (es : List Expr) (g : CG), coreList es = true →
    cList es g = g.extend (relList es g.next g.aux)
  | [], g, _ => by simp [cList, relList, CG.extend]
  | e :: rest, g, h => by
    have hs : coreExpr e = true ∧ coreList rest = true := by simpa [coreList] using h
    simp only [cList, relList]
    rw [cExpr_eq_core e g hs.1, cList_eq_core rest _ hs.2]
    simp [CG.extend_extend]
theorem cPairs_eq_core : ∀ (kvs : List (Expr × Expr)) (g : CG), corePairs kvs = true →
    cPairs kvs g = g.extend (relPairs kvs g.next g.aux)
  | [], g, _ => by simp [cPairs, relPairs, CG.extend]
  | (k, v) :: rest, g, h => by
    have hs : (coreExpr k = true ∧ coreExpr v = true) ∧ corePairs rest = true := by simpa [corePairs] using h
    simp only [cPairs, relPairs]
    rw [cExpr_eq_core k g hs.1.1, cExpr_eq_core v _ hs.1.2, cPairs_eq_core rest _ hs.2]
    simp [CG.extend_extend, Nat.add_assoc]
theorem cPosArgs_eq_core : ∀ (args : List (Option String × Expr)) (g : CG), coreCallArgs args = true →
    cPosArgs args g = g.extend (relPosArgs args g.next g.aux)
  | [], g, _ => by simp [cPosArgs, relPosArgs, CG.extend]
  | (none, e) :: rest, g, h => by
    have hs : coreExpr e = true ∧ coreCallArgs rest = true := by simpa [coreCallArgs] using h
    simp only [cPosArgs, relPosArgs]
    rw [cExpr_eq_core e g hs.1, cPosArgs_eq_core rest _ hs.2]
    simp [CG.extend_extend]
  | (some _, e) :: rest, g, h => by
    have hs : coreExpr e = true ∧ coreCallArgs rest = true := by simpa [coreCallArgs] using h
    simp only [cPosArgs, relPosArgs]
    exact cPosArgs_eq_core rest g hs.2
theorem cKwArgs_eq_core : ∀ (args : List (Option String × Expr)) (g : CG), coreCallArgs args = true →
    cKwArgs args g = g.extend (relKwArgs args g.next g.aux)
  | [], g, _ => by simp [cKwArgs, relKwArgs, CG.extend]
  | (none, e) :: rest, g, h => by
    have hs : coreExpr e = true ∧ coreCallArgs rest = true := by simpa [coreCallArgs] using h
    simp only [cKwArgs, relKwArgs]
    exact cKwArgs_eq_core rest g hs.2
  | (some k, e) :: rest, g, h => by
    have hs : coreExpr e = true ∧ coreCallArgs rest = true := by simpa [coreCallArgs] using h
    simp only [cKwArgs, relKwArgs]
    rw [CG.add_eq_extend, cExpr_eq_core e _ hs.1, cKwArgs_eq_core rest _ hs.2]
    simp [CG.extend_extend, Nat.add_assoc, Nat.add_comm 1]
end

mutual
theorem simple_core : ∀ (e : Expr), simpleExpr e = true → coreExpr e = true
  | .const _, _ => rfl
  | .var _, _ => rfl
  | .unop _ e, h => by simp only [simpleExpr] at h; simp only [coreExpr]; exact simple_core e h
  | .binop _ l r, h => by
    simp only [simpleExpr, Bool.and_eq_true] at h; simp only [coreExpr, Bool.and_eq_true]
    exact ⟨simple_core l h.1, simple_core r h.2⟩
  | .cmp e ops, h => by
    simp only [simpleExpr, Bool.and_eq_true] at h; simp only [coreExpr, Bool.and_eq_true]
    exact ⟨⟨h.1.1, simple_core e h.1.2⟩, simple_coreChain ops h.2⟩
  | .ife c t none, h => by
    simp only [simpleExpr, Bool.and_eq_true] at h; simp only [coreExpr, Bool.and_eq_true]
    exact ⟨simple_core c h.1, simple_core t h.2⟩
  | .ife c t (some f), h => by
    simp only [simpleExpr, Bool.and_eq_true] at h; simp only [coreExpr, Bool.and_eq_true]
    exact ⟨⟨simple_core c h.1.1, simple_core t h.1.2⟩, simple_core f h.2⟩
  | .filter _ e args, h => by
    simp only [simpleExpr, Bool.and_eq_true] at h; simp only [coreExpr, Bool.and_eq_true]
    exact ⟨simple_core e h.1, simple_coreArgs args h.2⟩
  | .test _ e args, h => by
    simp only [simpleExpr, Bool.and_eq_true] at h; simp only [coreExpr, Bool.and_eq_true]
    exact ⟨simple_core e h.1, simple_coreArgs args h.2⟩
  | .getattr e _, h => by simp only [simpleExpr] at h; simp only [coreExpr]; exact simple_core e h
  | .getitem e i, h => by
    simp only [simpleExpr, Bool.and_eq_true] at h; simp only [coreExpr, Bool.and_eq_true]
    exact ⟨simple_core e h.1, simple_core i h.2⟩
  | .call _ _, h => by simp [simpleExpr] at h
  | .list items, h => by simp only [simpleExpr] at h; simp only [coreExpr]; exact simple_coreList items h
  | .map kvs, h => by simp only [simpleExpr] at h; simp only [coreExpr]; exact simple_corePairs kvs h
theorem simple_coreChain : ∀ (ops : List (CmpOp × Expr)), simpleChain ops = true → coreChain ops = true
  | [], _ => rfl
  | (_, e) :: rest, h => by
    simp only [simpleChain, Bool.and_eq_true] at h; simp only [coreChain, Bool.and_eq_true]
    exact ⟨simple_core e h.1, simple_coreChain rest h.2⟩
theorem simple_coreArgs : ∀ (args : List (Option String × Expr)), simpleArgs args = true → coreArgs args = true
  | [], _ => rfl
  | (none, e) :: rest, h => by
    simp only [simpleArgs, Bool.and_eq_true] at h; simp only [coreArgs, Bool.and_eq_true]
    exact ⟨simple_core e h.1, simple_coreArgs rest h.2⟩
  | (some _, _) :: _, h => by simp [simpleArgs] at h
theorem simple_coreList : ∀ (es : List Expr), simpleList es = true → coreList es = true
  | [], _ => rfl
  | e :: rest, h => by
    simp only [simpleList, Bool.and_eq_true] at h; simp only [coreList, Bool.and_eq_true]
    exact ⟨simple_core e h.1, simple_coreList rest h.2⟩
theorem simple_corePairs : ∀ (kvs : List (Expr × Expr)), simplePairs kvs = true → corePairs kvs = true
  | [], _ => rfl
  | (k, v) :: rest, h => by
    simp only [simplePairs, Bool.and_eq_true] at h; simp only [corePairs, Bool.and_eq_true]
    exact ⟨⟨simple_core k h.1.1, simple_core v h.1.2⟩, simple_corePairs rest h.2⟩
end

theorem cExpr_eq_rel (e : Expr) (g : CG) (h : simpleExpr e = true) : cExpr e g = g.extend (relExpr e g.next g.aux) :=
  cExpr_eq_core e g (simple_core e h)
theorem cArgs_eq_rel (args : List (Option String × Expr)) (g : CG) (h : simpleArgs args = true) :
    cArgs args g = g.extend (relArgs args g.next g.aux) := cArgs_eq_core args g (simple_coreArgs args h)

end MJ.Compile

namespace MJ.Vm
open MJ.Eval MJ.Compile

@[simp] theorem oof_filterId (a : Aux) (n : String) : (a.filterId n).2.oof = a.oof := rfl
@[simp] theorem oof_testId (a : Aux) (n : String) : (a.testId n).2.oof = a.oof := rfl
@[simp] theorem oof_markOof (a : Aux) : a.markOof.oof = true := rfl

mutual
theorem relExpr_oof_mono : ∀ (e : Expr) (b : Nat) (a : Aux), a.oof = true → (relExpr e b a).2.oof = true
  | .const l, b, a, h => by unfold relExpr; simp [asConst, h]
  | .var x, b, a, h => by unfold relExpr; simp [asConst, h]
  | .unop .not x, b, a, h => by
    unfold relExpr; cases asConst (.unop .not x) <;> simp [h, relExpr_oof_mono x b a h]
  | .unop .neg x, b, a, h => by
    unfold relExpr; cases asConst (.unop .neg x) <;> simp [h, relExpr_oof_mono x b a h]
  | .binop op l r, b, a, h => by
    unfold relExpr
    cases asConst (.binop op l r) with
    | val v => simp [h]
    | oof => simp
    | no =>
      have hl := relExpr_oof_mono l b a h
      cases op <;> simp only <;> exact relExpr_oof_mono r _ _ hl
  | .cmp x ops, b, a, h => by
    unfold relExpr
    cases asConst (.cmp x ops) with
    | val v => simp [h]
    | oof => simp
    | no => simp only; exact relChain_oof_mono ops _ _ _ (relExpr_oof_mono x b a h)
  | .ife c t none, b, a, h => by
    unfold relExpr
    cases asConst (.ife c t none) with
    | val v => simp [h]
    | oof => simp
    | no => simp only; exact relExpr_oof_mono t _ _ (relExpr_oof_mono c b a h)
  | .ife c t (some f), b, a, h => by
    unfold relExpr
    cases asConst (.ife c t (some f)) with
    | val v => simp [h]
    | oof => simp
    | no => simp only; exact relExpr_oof_mono f _ _ (relExpr_oof_mono t _ _ (relExpr_oof_mono c b a h))
  | .filter name x args, b, a, h => by
    unfold relExpr
    cases asConst (.filter name x args) with
    | val v => simp [h]
    | oof => simp
    | no => simp only [oof_filterId]; exact relArgs_oof_mono args _ _ (relExpr_oof_mono x b a h)
  | .test name x args, b, a, h => by
    unfold relExpr
    cases asConst (.test name x args) with
    | val v => simp [h]
    | oof => simp
    | no => simp only [oof_testId]; exact relArgs_oof_mono args _ _ (relExpr_oof_mono x b a h)
  | .getattr x name, b, a, h => by
    unfold relExpr; cases asConst (.getattr x name) <;> simp [h, relExpr_oof_mono x b a h]
  | .getitem x i, b, a, h => by
    unfold relExpr
    cases asConst (.getitem x i) with
    | val v => simp [h]
    | oof => simp
    | no => simp only; exact relExpr_oof_mono i _ _ (relExpr_oof_mono x b a h)
  | .call f args, b, a, h => by
    cases f with
    | var x =>
      unfold relExpr
      simp only [asConst]
      have hp := relPosArgs_oof_mono args b a h
      cases kwArgs args with
      | nil => simpa using hp
      | cons k0 ks =>
        simp only
        cases staticKwargs (k0 :: ks) with
        | some m => simpa using hp
        | none => simp only; exact relKwArgs_oof_mono args _ _ hp
    | _ => unfold relExpr; simp [asConst]
  | .list items, b, a, h => by
    unfold relExpr; cases asConst (.list items) <;> simp [h, relList_oof_mono items b a h]
  | .map kvs, b, a, h => by
    unfold relExpr; cases asConst (.map kvs) <;> simp [h, relPairs_oof_mono kvs b a h]
theorem relChain_oof_mono : ∀ (ops : List (CmpOp × Expr)) (b : Nat) (a : Aux) (cs : Nat), a.oof = true →
    (relChain ops b a cs).2.oof = true
  | [], b, a, cs, h => by simp [relChain, h]
  | [(op, e)], b, a, cs, h => by simp [relChain, relExpr_oof_mono e b a h]
  | (op, e) :: o2 :: rest, b, a, cs, h => by
    simp only [relChain]; exact relChain_oof_mono (o2 :: rest) _ _ _ (relExpr_oof_mono e b a h)
theorem relArgs_oof_mono : ∀ (args : List (Option String × Expr)) (b : Nat) (a : Aux), a.oof = true →
    (relArgs args b a).2.oof = true
  | [], b, a, h => by simp [relArgs, h]
  | (none, e) :: rest, b, a, h => by
    simp only [relArgs]; exact relArgs_oof_mono rest _ _ (relExpr_oof_mono e b a h)
  | (some _, _) :: _, b, a, h => by simp [relArgs]
theorem relPosArgs_oof_mono : ∀ (args : List (Option String × Expr)) (b : Nat) (a : Aux), a.oof = true →
    (relPosArgs args b a).2.oof = true
  | [], b, a, h => by simp [relPosArgs, h]
  | (none, e) :: rest, b, a, h => by
    simp only [relPosArgs]; exact relPosArgs_oof_mono rest _ _ (relExpr_oof_mono e b a h)
  | (some _, _) :: rest, b, a, h => by simp only [relPosArgs]; exact relPosArgs_oof_mono rest b a h
theorem relKwArgs_oof_mono : ∀ (args : List (Option String × Expr)) (b : Nat) (a : Aux), a.oof = true →
    (relKwArgs args b a).2.oof = true
  | [], b, a, h => by simp [relKwArgs, h]
  | (none, _) :: rest, b, a, h => by simp only [relKwArgs]; exact relKwArgs_oof_mono rest b a h
  | (some _, e) :: rest, b, a, h => by
    simp only [relKwArgs]; exact relKwArgs_oof_mono rest _ _ (relExpr_oof_mono e _ a h)
theorem relList_oof_mono : ∀ (es : List Expr) (b : Nat) (a : Aux), a.oof = true →
    (relList es b a).2.oof = true
  | [], b, a, h => by simp [relList, h]
  | e :: rest, b, a, h => by
    simp only [relList]; exact relList_oof_mono rest _ _ (relExpr_oof_mono e b a h)
theorem relPairs_oof_mono : ∀ (kvs : List (Expr × Expr)) (b : Nat) (a : Aux), a.oof = true →
    (relPairs kvs b a).2.oof = true
  | [], b, a, h => by simp [relPairs, h]
  | (k, v) :: rest, b, a, h => by
    simp only [relPairs]
    exact relPairs_oof_mono rest _ _ (relExpr_oof_mono v _ _ (relExpr_oof_mono k b a h))
end

theorem oof_false_of_mono {a b : Aux} (hm : a.oof = true → b.oof = true) (h : b.oof = false) : a.oof = false := by
  cases ha : a.oof with
  | false => rfl
  | true => rw [hm ha] at h; cases h

theorem oof_false_of_relExpr {e b a} (h : (relExpr e b a).2.oof = false) : a.oof = false :=
  oof_false_of_mono (relExpr_oof_mono e b a) h

theorem oof_false_of_relArgs {args b a} (h : (relArgs args b a).2.oof = false) : a.oof = false :=
  oof_false_of_mono (relArgs_oof_mono args b a) h

theorem oof_false_of_relPairs {kvs b a} (h : (relPairs kvs b a).2.oof = false) : a.oof = false :=
  oof_false_of_mono (relPairs_oof_mono kvs b a) h

theorem oof_false_of_relList {es b a} (h : (relList es b a).2.oof = false) : a.oof = false :=
  oof_false_of_mono (relList_oof_mono es b a) h

theorem oof_false_of_relChain {ops b a cs} (h : (relChain ops b a cs).2.oof = false) : a.oof = false :=
  oof_false_of_mono (relChain_oof_mono ops b a cs) h

theorem oof_false_of_relPosArgs {args b a} (h : (relPosArgs args b a).2.oof = false) : a.oof = false :=
  oof_false_of_mono (relPosArgs_oof_mono args b a) h

theorem oof_false_of_relKwArgs {args b a} (h : (relKwArgs args b a).2.oof = false) : a.oof = false :=
  oof_false_of_mono (relKwArgs_oof_mono args b a) h

theorem relExpr_val {e w} (hc : asConst e = .val w) (base a) : relExpr e base a = ([.loadConst w], a) := by
  unfold relExpr; simp [hc]

theorem relExpr_oof {e} (hc : asConst e = .oof) (base a) : relExpr e base a = ([], a.markOof) := by
  unfold relExpr; simp [hc]

theorem rel_var {x} (base a) : relExpr (.var x) base a = ([.lookup x], a) := by
  conv => lhs; unfold relExpr
  simp [asConst]
theorem rel_not {x} (hc : asConst (.unop .not x) = .no) (base a) :
    relExpr (.unop .not x) base a = ((relExpr x base a).1 ++ [.not], (relExpr x base a).2) := by
  conv => lhs; unfold relExpr
  simp [hc]
theorem rel_neg {x} (hc : asConst (.unop .neg x) = .no) (base a) :
    relExpr (.unop .neg x) base a = ((relExpr x base a).1 ++ [.neg], (relExpr x base a).2) := by
  conv => lhs; unfold relExpr
  simp [hc]
theorem rel_and {l r} (hc : asConst (.binop .and l r) = .no) (base a) :
    relExpr (.binop .and l r) base a =
      ((relExpr l base a).1 ++ [.jumpIfFalseOrPop (base + (relExpr l base a).1.length + 1 +
          (relExpr r (base + (relExpr l base a).1.length + 1) (relExpr l base a).2).1.length)] ++
        (relExpr r (base + (relExpr l base a).1.length + 1) (relExpr l base a).2).1,
       (relExpr r (base + (relExpr l base a).1.length + 1) (relExpr l base a).2).2) := by
  conv => lhs; unfold relExpr
  simp [hc]
theorem rel_or {l r} (hc : asConst (.binop .or l r) = .no) (base a) :
    relExpr (.binop .or l r) base a =
      ((relExpr l base a).1 ++ [.jumpIfTrueOrPop (base + (relExpr l base a).1.length + 1 +
          (relExpr r (base + (relExpr l base a).1.length + 1) (relExpr l base a).2).1.length)] ++
        (relExpr r (base + (relExpr l base a).1.length + 1) (relExpr l base a).2).1,
       (relExpr r (base + (relExpr l base a).1.length + 1) (relExpr l base a).2).2) := by
  conv => lhs; unfold relExpr
  simp [hc]
theorem rel_binop {op l r} (hc : asConst (.binop op l r) = .no) (h1 : op ≠ .and) (h2 : op ≠ .or) (base a) :
    relExpr (.binop op l r) base a =
      ((relExpr l base a).1 ++ (relExpr r (base + (relExpr l base a).1.length) (relExpr l base a).2).1 ++ [binInstr op],
       (relExpr r (base + (relExpr l base a).1.length) (relExpr l base a).2).2) := by
  conv => lhs; unfold relExpr
  cases op <;> simp [hc] at h1 h2 ⊢
theorem rel_getattr {x name} (base a) :
    relExpr (.getattr x name) base a = ((relExpr x base a).1 ++ [.getAttr name], (relExpr x base a).2) := by
  conv => lhs; unfold relExpr
  simp [asConst]
theorem rel_getitem {x i} (base a) :
    relExpr (.getitem x i) base a =
      ((relExpr x base a).1 ++ (relExpr i (base + (relExpr x base a).1.length) (relExpr x base a).2).1 ++ [.getItem],
       (relExpr i (base + (relExpr x base a).1.length) (relExpr x base a).2).2) := by
  conv => lhs; unfold relExpr
  simp [asConst]
theorem rel_ife_none {c t} (base a) :
    relExpr (.ife c t none) base a =
      (let rc := relExpr c base a
       let rt := relExpr t (base + rc.1.length + 1) rc.2
       let fb := base + rc.1.length + 1 + rt.1.length + 1
       (rc.1 ++ .jumpIfFalse fb :: (rt.1 ++ .jump (fb + 1) :: [.loadConst .undef]), rt.2)) := by
  conv => lhs; unfold relExpr
  simp [asConst]
theorem rel_ife_some {c t f} (base a) :
    relExpr (.ife c t (some f)) base a =
      (let rc := relExpr c base a
       let rt := relExpr t (base + rc.1.length + 1) rc.2
       let fb := base + rc.1.length + 1 + rt.1.length + 1
       let rf := relExpr f fb rt.2
       (rc.1 ++ .jumpIfFalse fb :: (rt.1 ++ .jump (fb + rf.1.length) :: rf.1), rf.2)) := by
  conv => lhs; unfold relExpr
  simp [asConst]

end MJ.Vm
