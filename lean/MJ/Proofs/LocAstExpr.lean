import MJ.Proofs.LocAst
/-!
# The expression layer of the code generator (C14)

`cExpr`, `cExprs`, `cCallBody`, `cArgs2`, `cArgs1` and `cCmpOps` call each other and nothing else of the
compile functions; the claim for each of them is a claim about the event list it returns, proved along that
recursion (`cExpr.mutual_induct_unfolding`): one case per arm of the model, with the induction hypotheses for
exactly the calls the arm makes.  A case of `cExpr` states the claim of the arm's own event list, with the
test for a folded constant already decided; the cases of `cCallBody` and of the list walks name the call and
open it by its equation (`rw [cArgs1]`).  What the layers above take from here stands at the end: `expr_ok`, and
`WFs.expr`, `WFs.exprO`, `WFs.call` for an expression or a call among the nodes inside a construct.
-/
namespace MJ.LocAst
open MJ MJ.Loc

/-- `r` is code of the expression `n`: it locates itself inside `n`'s construct and emits at least one located
    instruction -/
def ExprOk (n : Node) (r : List Ev) : Prop :=
  wf n = true → isE n = true → J false true n.lo n.hi r

section
variable {ctx : List Pend} {LO HI : Nat} {l : List Node} {c : Node}

/-- a child expression, in any mode, in the range of a construct that contains it -/
theorem WFs.sub (hw : WFs LO HI l) (hc : c ∈ l) (ih : ExprOk c (cExpr ctx c)) (he : isE c = true) {n g : Bool} :
    J n g LO HI (cExpr ctx c) :=
  (J.mono (ih (hw c hc).1 he) (hw c hc).2.1 (hw c hc).2.2).all n g

theorem WFs.subO (hw : WFs LO HI l) (hc : c ∈ l) (ih : ExprOk c (cExpr ctx c)) (he : isEo c = true)
    (hk : ¬(c.kind == Kind.absent) = true) {n g : Bool} : J n g LO HI (cExpr ctx c) :=
  hw.sub hc ih ((Bool.or_eq_true _ _).mp he |>.resolve_left hk)

/-- an optional child: where it is absent a constant is loaded in its place -/
theorem WFs.subC (hw : WFs LO HI l) (hc : c ∈ l) (ih : ExprOk c (cExpr ctx c)) (he : isEo c = true) {nm : String} :
    J true false LO HI (if (c.kind == Kind.absent) = true then [.add nm LO HI] else cExpr ctx c) :=
  J.ite (fun _ => J.addG) (fun hne => hw.subO hc ih he hne)
end

theorem spanless_of_exprKind {k : Kind} (h : exprKind k = true) : spanless k = false := by
  cases k <;> first | rfl | cases h

/-- a folded expression is recorded on the start line of its span, wherever that span starts -/
theorem mustAnchor_folded {n : Node} (hs : spanless n.kind = false) (hf : n.flag = true) : mustAnchor n = true := by
  unfold mustAnchor
  rw [hs, hf, Bool.or_true]
  rfl

/-- the kids of a call are what the claim about `cCallBody` asks for: a callee, which is an expression -/
theorem shapeOk_call {ck : List Node} (h : shapeOk .call ck = true) :
    (∀ c, ck.head? = some c → isE c = true) ∧ ck ≠ [] := by
  cases ck with
  | nil => cases h
  | cons c args => exact ⟨fun _ hh => by cases hh; exact ((Bool.and_eq_true _ _).mp h).1, List.cons_ne_nil _ _⟩

/-- an arm of `compile_expr`, given what `wf` says about the node -/
theorem expr_arm {kind : Kind} {sp : Span} {flag : Bool} {name : String} {num lo hi : Nat} {kids : List Node} {r : List Ev}
    (arm : (mustAnchor (.mk kind sp flag name num lo hi []) = true → InR lo hi sp.startLine) → shapeOk kind kids = true →
      WFs lo hi kids → J false true lo hi r) : ExprOk (.mk kind sp flag name num lo hi kids) r :=
  fun hw _ => arm (wf_mk hw).1 (wf_mk hw).2.2.1 (wf_mk hw).2.2.2

theorem expr_layer (ctx : List Pend) :
    (∀ n, ExprOk n (cExpr ctx n)) ∧
    (∀ l, ∀ LO HI, WFs LO HI l → (∀ n ∈ l, isE n = true) → J true false LO HI (cExprs ctx l)) ∧
    (∀ c sp lo hi l, CallerOk c → InR lo hi sp.startLine → WFs lo hi l → (∀ h, l.head? = some h → isE h = true) → l ≠ [] →
      J false true lo hi (cCallBody ctx c sp lo hi l)) ∧
    (∀ lo hi st p l, WFs lo hi l → J true false lo hi (cArgs2 ctx lo hi st p l)) ∧
    (∀ lo hi p l, WFs lo hi l → J true false lo hi (cArgs1 ctx lo hi p l)) ∧
    (∀ lo hi l, WFs lo hi l → (∀ n ∈ l, n.kind = .cmpop) → J true false lo hi (cCmpOps ctx lo hi l)) := by
  -- `compile_call_args` and the call instruction, after whatever the arm has pushed and compiled first
  have hCall : ∀ {lo hi : Nat} {sp : Span} {c : Option (List Ev)} {t : List Node} {pre : List Ev} {nm : String} (extra : Nat),
      CallerOk c → InR lo hi sp.startLine → J true false lo hi (cArgs1 ctx lo hi extra t) →
      J true false lo hi (cArgs2 ctx lo hi (c.isNone && staticKw t) 0 t) → J false false lo hi pre →
      J false true lo hi (pre ++ cArgs1 ctx lo hi extra t ++
        (if (c.isSome || hasKw t) = true then cArgs2 ctx lo hi (c.isNone && staticKw t) 0 t else []) ++
        argsTail lo hi sp.startLine extra t c ++ [.add nm lo hi, .pop]) :=
    fun extra hc hsp h1 h2 hp => J.seqT2 (J.seqF (J.seqF (J.seqF hp h1) (J.ite (fun _ => h2) (fun _ => J.nil)))
      (J.argsTail extra _ _ hc hsp)) J.addPop
  apply cExpr.mutual_induct_unfolding ctx ExprOk
    (fun l r => ∀ LO HI, WFs LO HI l → (∀ n ∈ l, isE n = true) → J true false LO HI r)
    (fun c sp lo hi l r => CallerOk c → InR lo hi sp.startLine → WFs lo hi l → (∀ h, l.head? = some h → isE h = true) →
      l ≠ [] → J false true lo hi r)
    (fun lo hi _ _ l r => WFs lo hi l → J true false lo hi r)
    (fun lo hi _ l r => WFs lo hi l → J true false lo hi r)
    (fun lo hi l r => WFs lo hi l → (∀ n ∈ l, n.kind = .cmpop) → J true false lo hi r)
  -- `compile_expr`
  · -- folded to a constant
    intro _ _ _ _ _ _ _ hw he
    exact J.lineAdd ((wf_mk hw).1 (mustAnchor_folded (spanless_of_exprKind he) rfl))
  · -- var
    intro _ _ _ _ _ _ _ _
    refine expr_arm fun hanch _ _ => ?_
    exact J.lineAdd (hanch rfl)
  · -- slice
    intro _ _ _ _ _ _ _ _ _ _ _ ie ia ib ic
    refine expr_arm fun hanch hshape hk => ?_
    change (_ && _) = true at hshape
    simp only [Bool.and_eq_true] at hshape
    exact J.seqT2 (J.seqF (J.seqF (J.seqF (J.seqF (J.pushG _ (hanch rfl)) (hk.sub (.head _) ie hshape.1.1.1))
      (hk.subC (.tail _ (.head _)) ia hshape.1.1.2)) (hk.subC (.tail _ (.tail _ (.head _))) ib hshape.1.2))
      (hk.subC (.tail _ (.tail _ (.tail _ (.head _)))) ic hshape.2)) J.addPop
  · -- not: the span may start in front of the construct, the operand locates itself
    intro _ _ _ _ _ _ _ _ ie
    refine expr_arm fun _ hshape hk => ?_
    exact J.seqT1 (J.skipSetLine _ (hk.sub (.head _) ie hshape)) J.addG
  · -- neg
    intro _ _ _ _ _ _ _ _ ie
    refine expr_arm fun hanch hshape hk => ?_
    exact J.seqT2 (J.seqF (J.setLineG (hanch rfl)) (hk.sub (.head _) ie hshape)) (J.addSpanG (hanch rfl))
  · -- `and` / `or`: the jump has no location of its own and inherits that of the left operand
    intro _ _ _ _ _ _ _ _ _ _ il ir
    refine expr_arm fun _ hshape hk => ?_
    replace hshape := (Bool.and_eq_true _ _).mp hshape
    exact J.seqT1 (J.seqT1 (J.raw _ (J.skipPush _ (hk.sub (.head _) il hshape.1))) (hk.sub (.tail _ (.head _)) ir hshape.2)) J.pop
  · -- the other binary operators
    intro _ _ _ _ _ _ _ _ _ _ il ir
    refine expr_arm fun _ hshape hk => ?_
    replace hshape := (Bool.and_eq_true _ _).mp hshape
    exact J.seqT1 (J.seqT1 (J.skipPush _ (hk.sub (.head _) il hshape.1)) (hk.sub (.tail _ (.head _)) ir hshape.2)) J.addPop
  · -- cmp
    intro _ _ _ _ _ _ _ _ _ ie iops
    refine expr_arm fun _ hshape hk => ?_
    replace hshape := (Bool.and_eq_true _ _).mp hshape
    exact J.seqT1 (J.seqT1 (J.seqT1 (J.skipPush _ (hk.sub (.head _) ie hshape.1))
      (iops hk.tail fun n hn => by simpa using List.all_eq_true.mp hshape.2 n hn))
      (J.ite (fun _ => J.consF J.addG (J.consF J.addG J.addG)) (fun _ => J.nil))) J.pop
  · -- ifx
    intro _ _ _ _ _ _ _ _ _ _ it ia ib
    refine expr_arm fun _ hshape hk => ?_
    change (_ && _) = true at hshape
    simp only [Bool.and_eq_true] at hshape
    exact J.seqT1 (J.seqT1 (J.seqT1 (J.seqT1 (J.skipSetLine _ (hk.sub (.head _) it hshape.1.1)) J.addG)
      (hk.sub (.tail _ (.head _)) ia hshape.1.2)) J.addG) (hk.subC (.tail _ (.tail _ (.head _))) ib hshape.2)
  · -- filter
    intro _ _ _ _ _ _ _ _ _ ie i1 i2
    refine expr_arm fun hanch hshape hk => ?_
    replace hshape := (Bool.and_eq_true _ _).mp hshape
    exact J.seqT2 (J.seqF (J.seqF (J.seqF (J.seqF (J.pushG _ (hanch rfl))
      (J.ite (fun _ => J.nil) (fun hne => hk.subO (.head _) ie hshape.1 hne))) (i1 hk.tail)) (i2 hk.tail))
      (J.argsTail 1 _ none callerOk_none (hanch rfl))) J.addPop
  · -- test
    intro _ _ _ _ _ _ _ _ _ ie i1 i2
    refine expr_arm fun hanch hshape hk => ?_
    replace hshape := (Bool.and_eq_true _ _).mp hshape
    exact J.seqT2 (J.seqF (J.seqF (J.seqF (J.seqF (J.pushG _ (hanch rfl)) (hk.sub (.head _) ie hshape.1)) (i1 hk.tail))
      (i2 hk.tail)) (J.argsTail 1 _ none callerOk_none (hanch rfl))) J.addPop
  · -- attr
    intro _ _ _ _ _ _ _ _ ie
    refine expr_arm fun hanch hshape hk => ?_
    exact J.seqT2 (J.seqF (J.pushG _ (hanch rfl)) (hk.sub (.head _) ie hshape)) J.addPop
  · -- item
    intro _ _ _ _ _ _ _ _ _ ie is
    refine expr_arm fun hanch hshape hk => ?_
    replace hshape := (Bool.and_eq_true _ _).mp hshape
    exact J.seqT2 (J.seqF (J.seqF (J.pushG _ (hanch rfl)) (hk.sub (.head _) ie hshape.1)) (hk.sub (.tail _ (.head _)) is hshape.2))
      J.addPop
  · -- call
    intro _ _ _ _ _ _ _ ck icall
    refine expr_arm fun hanch hshape hk => ?_
    exact icall callerOk_none (hanch rfl) hk (shapeOk_call hshape).1 (shapeOk_call hshape).2
  · -- list
    intro _ _ _ _ _ _ _ _ ii
    refine expr_arm fun hanch hshape hk => ?_
    exact J.seqT2 (J.seqF (J.setLineG (hanch rfl)) (ii _ _ hk (List.all_eq_true.mp hshape))) J.addG
  · -- tuple
    intro _ _ _ _ _ _ _ _ ii
    refine expr_arm fun hanch hshape hk => ?_
    exact J.seqT2 (J.seqF (J.setLineG (hanch rfl)) (ii _ _ hk (List.all_eq_true.mp hshape))) J.addG
  · -- map
    intro _ _ _ _ _ _ _ _ ii
    refine expr_arm fun hanch hshape hk => ?_
    exact J.seqT2 (J.seqF (J.setLineG (hanch rfl)) (ii _ _ hk (List.all_eq_true.mp hshape))) J.addG
  · -- no other shape is a well-formed expression
    intro k _ _ _ _ _ _ hf kids xvar xslice xnot xneg xbin xcmp xifx xfilter xtest xattr xitem xcall xlist xtuple xmap hw he
    obtain ⟨-, hconst, hshape, -⟩ := wf_mk hw
    exfalso
    cases k <;> cases he
    · exact xvar rfl
    · exact hf (hconst rfl)
    · rcases kids with _ | ⟨e, _ | ⟨a, _ | ⟨b, _ | ⟨c, _ | _⟩⟩⟩⟩ <;> first | cases hshape | exact xslice _ _ _ _ rfl rfl
    · rcases kids with _ | ⟨e, _ | _⟩ <;> first | cases hshape | exact xnot _ rfl rfl
    · rcases kids with _ | ⟨e, _ | _⟩ <;> first | cases hshape | exact xneg _ rfl rfl
    · rcases kids with _ | ⟨l, _ | ⟨r, _ | _⟩⟩ <;> first | cases hshape | exact xbin _ _ rfl rfl
    · rcases kids with _ | _ <;> first | cases hshape | exact xcmp _ _ rfl rfl
    · rcases kids with _ | ⟨t, _ | ⟨a, _ | ⟨b, _ | _⟩⟩⟩ <;> first | cases hshape | exact xifx _ _ _ rfl rfl
    · rcases kids with _ | _ <;> first | cases hshape | exact xfilter _ _ rfl rfl
    · rcases kids with _ | _ <;> first | cases hshape | exact xtest _ _ rfl rfl
    · rcases kids with _ | ⟨e, _ | _⟩ <;> first | cases hshape | exact xattr _ rfl rfl
    · rcases kids with _ | ⟨e, _ | ⟨s, _ | _⟩⟩ <;> first | cases hshape | exact xitem _ _ rfl rfl
    · exact xcall rfl
    · exact xlist rfl
    · exact xtuple rfl
    · exact xmap rfl
  -- `cExprs`
  · intros; rw [cExprs]; exact J.nil
  · intro n _ i1 i2 _ _ hw he
    rw [cExprs]
    exact J.seqF (hw.sub (.head _) i1 (he n (.head _))) (i2 _ _ hw.tail fun m hm => he m (.tail _ hm))
  -- `compile_call`
  · intro _ _ _ _ _ _ _ _ h; exact absurd rfl h
  · -- a function
    intro _ _ _ _ _ _ _ _ _ _ _ _ i1 i2 hc hsp hw _ _
    rw [cCallBody]
    exact hCall 0 hc hsp (i1 hw.tail) (i2 hw.tail) (J.pushG _ hsp)
  · -- `self.block()`
    intro _ _ _ _ _ _ _ _ _ _ _ _ hself _ hsp _ _ _
    rw [cCallBody, if_pos hself]
    exact J.consT2 (J.pushG _ hsp) (J.consT1 J.addG (J.consF J.addG J.addPop))
  · -- a method
    intro _ _ _ _ _ _ _ _ _ _ _ _ hself ii i1 i2 hc hsp hw _ _
    rw [cCallBody, if_neg hself]
    obtain ⟨hk, hshape⟩ := hw.kids (.head _)
    exact hCall 1 hc hsp (i1 hw.tail) (i2 hw.tail) (J.seqF (J.pushG _ hsp) (hk.sub (.head _) ii hshape))
  · -- any other callee
    intro _ _ _ _ _ _ _ _ io i1 i2 hc hsp hw hhead _
    rw [cCallBody]
    exact hCall 1 hc hsp (i1 hw.tail) (i2 hw.tail) (J.seqF (J.pushG _ hsp) (hw.sub (.head _) io (hhead _ rfl)))
    all_goals assumption
  -- `cArgs2`
  · intros; rw [cArgs2]; exact J.nil
  · intro _ _ _ _ _ _ _ _ _ _ _ ir hw
    rw [cArgs2, if_pos rfl]
    exact ir hw.tail
  · intro _ _ _ _ _ _ _ _ _ _ _ _ hst ie ir hw
    rw [cArgs2, if_neg hst]
    obtain ⟨hk, hshape⟩ := hw.kids (.head _)
    exact J.seqF (J.seqF J.addG (hk.sub (.head _) ie hshape)) (ir hw.tail)
  · intro _ _ _ _ _ _ _ _ _ _ _ _ ie ir hw
    rw [cArgs2]
    obtain ⟨hk, hshape⟩ := hw.kids (.head _)
    exact J.seqF (J.seqF J.optAdd (hk.sub (.head _) ie hshape)) (ir hw.tail)
  · intro _ _ _ _ _ _ _ _ ir hw
    rw [cArgs2]
    exact ir hw.tail
    all_goals assumption
  -- `cArgs1`
  · intros; rw [cArgs1]; exact J.nil
  · intro _ _ _ _ _ _ _ _ _ _ _ ie ir hw
    rw [cArgs1]
    obtain ⟨hk, hshape⟩ := hw.kids (.head _)
    exact J.seqF (hk.sub (.head _) ie hshape) (ir hw.tail)
  · intro _ _ _ _ _ _ _ _ _ _ _ ie ir hw
    rw [cArgs1]
    obtain ⟨hk, hshape⟩ := hw.kids (.head _)
    exact J.seqF (J.seqF J.optAdd (hk.sub (.head _) ie hshape)) (ir hw.tail)
  · intro _ _ _ _ _ _ _ ir hw
    rw [cArgs1]
    exact ir hw.tail
    all_goals assumption
  -- `cCmpOps`
  · intros; rw [cCmpOps]; exact J.nil
  · intro _ _ _ _ _ _ _ _ _ _ ix hw hc
    rw [cCmpOps]
    obtain ⟨hk, hshape⟩ := hw.kids (.head _)
    cases hc _ (.head _)
    exact J.seqF (hk.sub (.head _) ix hshape) J.emitCompare
  · intro _ _ _ _ _ _ _ _ _ _ _ _ ix ir hw hc
    rw [cCmpOps]
    obtain ⟨hk, hshape⟩ := hw.kids (.head _)
    cases hc _ (.head _)
    exact J.seqF (J.seqF (hk.sub (.head _) ix hshape) (J.consF J.addG J.addG)) (ir hw.tail fun n hn => hc n (.tail _ hn))
    assumption
  · intro _ _ _ _ _ _ ir hw hc
    rw [cCmpOps]
    exact ir hw.tail fun n hn => hc n (.tail _ hn)
    all_goals assumption

theorem expr_ok (ctx : List Pend) (n : Node) : ExprOk n (cExpr ctx n) := (expr_layer ctx).1 n

section
variable {LO HI : Nat} {l : List Node} {c : Node}

theorem WFs.expr (hw : WFs LO HI l) (hc : c ∈ l) (he : isE c = true) (ctx : List Pend) {n g : Bool} :
    J n g LO HI (cExpr ctx c) := hw.sub hc (expr_ok ctx c) he

theorem WFs.exprO (hw : WFs LO HI l) (hc : c ∈ l) (he : isEo c = true) (ctx : List Pend)
    (hk : ¬(c.kind == Kind.absent) = true) {n g : Bool} : J n g LO HI (cExpr ctx c) := hw.subO hc (expr_ok ctx c) he hk

/-- a call among the members, compiled by `compile_call` in the range of the enclosing construct -/
theorem WFs.call (hw : WFs LO HI l) {sp : Span} {fl : Bool} {nm : String} {num clo chi : Nat} {ck : List Node}
    (hc : Node.mk .call sp fl nm num clo chi ck ∈ l) (ctx : List Pend) (c : Option (List Ev)) (hco : CallerOk c) {n g : Bool} :
    J n g LO HI (cCallBody ctx c sp clo chi ck) := by
  obtain ⟨cw, c1, c2⟩ := hw _ hc
  obtain ⟨hanch, -, cshape, ckw⟩ := wf_mk cw
  exact (J.mono ((expr_layer ctx).2.2.1 c sp clo chi _ hco (hanch rfl) ckw (shapeOk_call cshape).1
    (shapeOk_call cshape).2) c1 c2).all n g
end

end MJ.LocAst
