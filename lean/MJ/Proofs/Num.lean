import MJ.Model.Num
/-! The integer operators of `MJ/Model/Num.lean`: what the casts, `int_as_value`, `coerce` and the
`checked_*` contracts do on well-formed operands (property theorems: `MJ/Props/C08.lean`). -/
namespace MJ.Num

theorem wrapI128_of_in {x : Int} (h : InI128 x) : wrapI128 x = x := by
  unfold InI128 at h
  unfold wrapI128
  simp only []
  split <;> omega

theorem wrapI64_wf (x : Int) : (NumRepr.i64 (wrapI64 x)).WF := by
  unfold NumRepr.WF wrapI64
  simp only []
  split <;> omega

theorem wrapI64_eq_iff (x : Int) : wrapI64 x = x ↔ (NumRepr.i64 x).WF := by
  unfold NumRepr.WF wrapI64
  simp only []
  split <;> omega

theorem wf_u64_in {n : Nat} (h : (NumRepr.u64 n).WF) : InI128 (n : Int) := by
  unfold NumRepr.WF at h; unfold InI128; constructor <;> omega

theorem wf_i64_in {i : Int} (h : (NumRepr.i64 i).WF) : InI128 i := by
  unfold NumRepr.WF at h; unfold InI128; constructor <;> omega

/-- `2^127`, the operand `ops::neg` treats apart, is no `i128` -/
theorem ne_of_inI128 {x : Int} (h : InI128 x) : x ≠ 170141183460469231731687303715884105728 := by
  unfold InI128 at h; omega

theorem intAsValue_eq (v : Int) :
    intAsValue v = if -9223372036854775808 ≤ v ∧ v < 9223372036854775808 then .i64 v else .i128 v := by
  unfold intAsValue
  rw [wrapI128_of_in (wf_i64_in (wrapI64_wf v))]
  split
  · next h => rw [h]; exact (if_pos ((wrapI64_eq_iff v).1 h)).symm
  · next h => exact (if_neg (fun hh => h ((wrapI64_eq_iff v).2 hh))).symm

theorem intAsValue_val (v : Int) : (intAsValue v).val = v := by
  rw [intAsValue_eq]; split <;> rfl

theorem intAsValue_wf {v : Int} (h : InI128 v) : (intAsValue v).WF := by
  rw [intAsValue_eq]
  split
  · assumption
  · exact h

theorem chk_some {x v : Int} (h : chk x = some v) : v = x ∧ InI128 v := by
  revert h
  fun_cases chk x <;> intro h <;> cases h
  exact ⟨rfl, ‹_›⟩

theorem chk_of_in {x : Int} (h : InI128 x) : chk x = some x := by
  unfold chk; rw [if_pos h]

theorem i128OfU128_eq (n : Nat) : i128OfU128 n = chk (n : Int) := by
  unfold i128OfU128 chk
  by_cases h : InI128 (n : Int)
  · rw [if_pos h, if_pos (by unfold InI128 at h; omega)]
  · rw [if_neg h, if_neg (fun hh => h (by unfold InI128; constructor <;> omega))]

theorem toI128_eq {a : NumRepr} (h : a.WF) : toI128 a = chk a.val := by
  cases a with
  | u64 n => exact (chk_of_in (wf_u64_in h)).symm
  | i64 i => exact (chk_of_in (wf_i64_in h)).symm
  | u128 n => exact i128OfU128_eq n
  | i128 i => exact (chk_of_in h).symm

theorem coerceViaTryFrom_eq {a b : NumRepr} (ha : a.WF) (hb : b.WF) :
    coerceViaTryFrom a b =
      if InI128 a.val ∧ InI128 b.val then some (a.val, b.val) else none := by
  unfold coerceViaTryFrom
  rw [toI128_eq ha, toI128_eq hb]
  by_cases h1 : InI128 a.val <;> by_cases h2 : InI128 b.val <;> simp [chk, h1, h2]

/-- the arms for equal representations (casts `as i128`, which never wrap on well-formed payloads)
    agree with the general one, so the result depends on the two values only -/
theorem coerce_eq {a b : NumRepr} (ha : a.WF) (hb : b.WF) :
    coerce a b = if InI128 a.val ∧ InI128 b.val then some (a.val, b.val) else none := by
  have key := coerceViaTryFrom_eq ha hb
  cases a <;> cases b
  case u64.u64 x y =>
    rw [if_pos ⟨wf_u64_in ha, wf_u64_in hb⟩]
    show some (wrapI128 x, wrapI128 y) = some ((x : Int), (y : Int))
    rw [wrapI128_of_in (wf_u64_in ha), wrapI128_of_in (wf_u64_in hb)]
  case i64.i64 x y =>
    rw [if_pos ⟨wf_i64_in ha, wf_i64_in hb⟩]
    show some (wrapI128 x, wrapI128 y) = some (x, y)
    rw [wrapI128_of_in (wf_i64_in ha), wrapI128_of_in (wf_i64_in hb)]
  case i128.i128 x y => exact (if_pos ⟨ha, hb⟩).symm
  -- the mixed pairs, and `(U128, U128)`: `coerceU128 x y` unfolds to the general arm on `.u128 x`, `.u128 y`
  all_goals exact key

theorem pow_big_not_in {a : Int} {e : Nat} (ha : 2 ≤ a.natAbs) (he : 128 ≤ e) : ¬ InI128 (a ^ e) := by
  intro h
  have h1 : (a ^ e).natAbs = a.natAbs ^ e := Int.natAbs_pow a e
  have h2 : 2 ^ 128 ≤ a.natAbs ^ e :=
    Nat.le_trans (Nat.pow_le_pow_right (by decide) he) (Nat.pow_le_pow_left ha e)
  have h3 : (2 : Nat) ^ 128 = 340282366920938463463374607431768211456 := by decide
  unfold InI128 at h
  omega

/-- the executable shortcut in `checkedPow` does not change the function -/
theorem checkedPow_eq_chk (a : Int) (e : Nat) : checkedPow a e = chk (a ^ e) := by
  unfold checkedPow
  split
  · rename_i h
    unfold chk
    rw [if_neg (pow_big_not_in h.1 h.2)]
  · rfl

theorem finish_chk (v : Int) : finish (chk v) = if InI128 v then .ok (intAsValue v) else .err := by
  unfold chk; split <;> rfl

/-- unary minus, exact or an error, as a function of the number only: only a `u128` can hold `2^127`,
    so the special case of `ops::neg` is a condition on the value; everything else is
    `checked_mul(-1)` by contract -/
theorem neg_spec {a : NumRepr} (ha : a.WF) :
    neg a =
      if a.val = 170141183460469231731687303715884105728 then
        .ok (.u128 170141183460469231731687303715884105728)
      else if InI128 a.val ∧ InI128 (-a.val) then .ok (intAsValue (-a.val)) else .err := by
  have general : (match toI128 a with
        | some x => finish (checkedMul x (-1))
        | none => Res.err) =
      if InI128 a.val ∧ InI128 (-a.val) then .ok (intAsValue (-a.val)) else .err := by
    rw [toI128_eq ha]
    by_cases hin : InI128 a.val
    · rw [chk_of_in hin]
      show finish (chk (a.val * -1)) = _
      rw [Int.mul_neg_one, finish_chk]
      by_cases h2 : InI128 (-a.val)
      · rw [if_pos h2, if_pos ⟨hin, h2⟩]
      · rw [if_neg h2, if_neg (fun h => h2 h.2)]
    · rw [chk, if_neg hin, if_neg (fun h => hin h.1)]
  cases a with
  | u128 n =>
    unfold neg
    simp only []
    split
    · next hn => exact (if_pos (by rw [hn]; rfl)).symm
    · next hn => exact general.trans (if_neg (by show ¬ (n : Int) = _; omega)).symm
  | u64 n => exact general.trans (if_neg (ne_of_inI128 (wf_u64_in ha))).symm
  | i64 i => exact general.trans (if_neg (ne_of_inI128 (wf_i64_in ha))).symm
  | i128 i => exact general.trans (if_neg (ne_of_inI128 ha)).symm

/-- `checked_div_euclid` by contract, like the others: `|x / y| ≤ |x| ≤ 2^127`, and `x / y = 2^127`
    only for `MIN / -1` -/
theorem checkedDivEuclid_eq {x y : Int} (hx : InI128 x) (hy : y ≠ 0) :
    checkedDivEuclid x y = chk (x / y) := by
  unfold checkedDivEuclid chk
  by_cases hc : x = minI128 ∧ y = -1
  · rw [if_pos (Or.inr hc), if_neg (by rw [hc.1, hc.2]; decide)]
  · rw [if_neg (fun h => h.elim hy hc), if_pos]
    have hle : (x / y).natAbs ≤ x.natAbs := Int.natAbs_ediv_le_natAbs x y
    by_cases hm : x / y = -minI128
    · have hq : x / y * y + x % y = x := Int.ediv_mul_add_emod x y
      have hr0 : 0 ≤ x % y := Int.emod_nonneg x hy
      have hr1 : x % y < y.natAbs := Int.emod_lt x hy
      rw [hm] at hq hle
      unfold InI128 at hx
      unfold minI128 at hq hle hc
      exact absurd ⟨by omega, by omega⟩ hc
    · unfold InI128 minI128 at *
      omega

/-- the arm of `ops::rem`: a remainder is an `i128` whenever the divisor is; `x % -1 = 0` is
    answered without asking `checked_rem_euclid` -/
theorem remArm_eq (x : Int) {y : Int} (hy : InI128 y) (hy0 : y ≠ 0) :
    (if y = -1 then some 0 else checkedRemEuclid x y) = chk (x % y) := by
  have hr0 := Int.emod_nonneg x hy0
  have hr1 := Int.emod_lt x hy0
  rw [chk_of_in (by unfold InI128 at *; omega)]
  split
  · next h => rw [h, Int.emod_neg, Int.emod_one]
  · next h => exact if_neg (fun hh => hh.elim hy0 (fun hh => h hh.2))

theorem neg_one_pow_even (k : Nat) : (-1 : Int) ^ (2 * k) = 1 := by
  rw [Int.pow_mul]; exact Int.one_pow

theorem unit_pow (x : Int) (hx : -1 ≤ x ∧ x ≤ 1) (n : Nat) (hn : 0 < n) :
    x ^ n = if n % 2 = 0 then x * x else x := by
  have hx' : x = -1 ∨ x = 0 ∨ x = 1 := by omega
  rcases hx' with rfl | rfl | rfl
  · obtain ⟨k, hk⟩ : ∃ k, n = 2 * k ∨ n = 2 * k + 1 := ⟨n / 2, by omega⟩
    rcases hk with rfl | rfl
    · rw [neg_one_pow_even, if_pos (by omega)]; rfl
    · rw [Int.pow_succ, neg_one_pow_even, if_neg (by omega)]; rfl
  · rw [Int.zero_pow (by omega)]; split <;> rfl
  · rw [Int.one_pow]; split <;> rfl

/-- the shortcut of `ops::pow` for the bases 0, 1, -1 is the power -/
theorem unit_pow_eq {x y : Int} (hx : -1 ≤ x ∧ x ≤ 1) (hy : 0 < y) :
    (if y % 2 = 0 then x * x else x) = x ^ y.toNat := by
  rw [unit_pow x hx y.toNat (by omega)]
  by_cases he : y % 2 = 0
  · rw [if_pos he, if_pos (by omega)]
  · rw [if_neg he, if_neg (by omega)]

theorem unit_pow_in (x : Int) (hx : -1 ≤ x ∧ x ≤ 1) (n : Nat) : InI128 (x ^ n) := by
  by_cases hn : n = 0
  · subst hn; simp [InI128]
  · rw [unit_pow x hx n (by omega)]
    unfold InI128
    have hx' : x = -1 ∨ x = 0 ∨ x = 1 := by omega
    rcases hx' with rfl | rfl | rfl <;> split <;> decide

theorem powChecked_eq (x y : Int) :
    powChecked x y = if 0 ≤ y ∧ y < 4294967296 then chk (x ^ y.toNat) else none := by
  unfold powChecked
  split
  · exact checkedPow_eq_chk _ _
  · rfl

/-- the arm of `ops::pow`: `checked_pow` by contract on a `u32` exponent; beyond `u32` only the bases
    0, 1, -1 have a power that fits, and the shortcut computes it -/
theorem powArm_eq (x y : Int) :
    (match powChecked x y with
      | some v => Res.ok (intAsValue v)
      | none =>
        if 0 < y ∧ -1 ≤ x ∧ x ≤ 1 then .ok (intAsValue (if y % 2 = 0 then x * x else x)) else .err) =
      if 0 ≤ y then finish (chk (x ^ y.toNat)) else .err := by
  rw [powChecked_eq]
  by_cases h0 : 0 ≤ y
  · rw [if_pos h0, finish_chk]
    by_cases hs : y < 4294967296
    · rw [if_pos ⟨h0, hs⟩]
      by_cases hin : InI128 (x ^ y.toNat)
      · rw [chk_of_in hin, if_pos hin]
      · -- the shortcut does not apply either: the power of a unit base fits
        rw [chk, if_neg hin, if_neg hin]
        exact if_neg (fun h => hin (unit_pow_in x h.2 _))
    · rw [if_neg (fun h => hs h.2)]
      by_cases hu : -1 ≤ x ∧ x ≤ 1
      · simp only []
        rw [if_pos ⟨by omega, hu⟩, unit_pow_eq hu (by omega), if_pos (unit_pow_in x hu _)]
      · rw [if_neg (pow_big_not_in (by omega) (by omega))]
        exact if_neg (fun h => hu h.2)
  · rw [if_neg h0, if_neg (fun h => h0 h.1)]
    exact if_neg (fun h => h0 (Int.le_of_lt h.1))

end MJ.Num
