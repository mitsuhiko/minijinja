import MJ.Model.Eval
import MJ.Model.VmM
/-!
# The argument-binding rules of macros and call-block callers (C03)

`MJ.Eval.bindArgs` is the reference semantics of `Macro::prepare_args`.  Its closed form (`bindParams_eq`,
`bindArgs_eq`): the call fails with `TooManyArguments` if there are more positional values than parameters,
if a parameter filled by position is also named by a keyword (`noClash`), or if a keyword is left over;
otherwise parameter number `i` is bound to `boundValue pos kw i p`.  The laws of the binder are read off it.
The loop of the model VM's `MJ.Vm.prepareArgs` has the same closed form (`prepareStep_foldr`), so the two
binders agree (`prepareArgs_kwargs`, `prepareArgs_positional`).  `slotOf_*`: when a default is used.
At the end (`MJ.Vm.*`): what the simulation of a call reads of the binder — `bindArgs_ok`, and `bindArgs_rel`: keyword
bundles with the same keys that agree on the parameters bind alike, up to the value of `caller`; `paramDefaults_eq`: the
defaults belong to the last parameters, as the code generator and as the interpreter say it.
-/
namespace MJ.ArgBind
open MJ.Eval

theorem assocGet_append {α : Type} (k : String) : ∀ (a b : List (String × α)),
    assocGet k (a ++ b) = match assocGet k a with
      | some v => some v
      | none => assocGet k b
  | [], b => by simp [assocGet]
  | (k', v) :: a, b => by
    by_cases h : k' = k
    · simp [assocGet, h]
    · simp [assocGet, h, assocGet_append k a b]

theorem assocGet_append_of_ne {α : Type} {k p : String} (h : p ≠ k) (l : List (String × α)) (v : α) :
    assocGet k (l ++ [(p, v)]) = assocGet k l := by
  rw [assocGet_append]
  cases assocGet k l with
  | some w => rfl
  | none => simp [assocGet, h]

theorem assocGet_some_of_mem {α : Type} {k : String} {v : α} : ∀ {l : List (String × α)}, (k, v) ∈ l →
    ∃ w, assocGet k l = some w
  | (k', v') :: l, h => by
    by_cases hk : k' = k
    · exact ⟨v', by simp [assocGet, hk]⟩
    · have : (k, v) ∈ l := by
        rcases List.mem_cons.1 h with h | h
        · exact absurd (by simpa using (congrArg Prod.fst h).symm) hk
        · exact h
      obtain ⟨w, hw⟩ := assocGet_some_of_mem this
      exact ⟨w, by simp [assocGet, hk, hw]⟩

theorem assocGet_mem {α : Type} {k : String} {v : α} : ∀ {l : List (String × α)}, assocGet k l = some v → (k, v) ∈ l
  | (k', v') :: l, h => by
    by_cases hk : k' = k
    · simp [assocGet, hk] at h; subst h; subst hk; simp
    · simp [assocGet, hk] at h; exact List.mem_cons_of_mem _ (assocGet_mem h)

/-- what parameter number `i` is bound to: the positional value if there is one, else the (first)
keyword value of that name, else `undef` -/
def boundValue (pos : List Val) (kw : List (String × Val)) (i : Nat) (p : String) : Val :=
  match pos[i]? with
  | some v => v
  | none => (assocGet p kw).getD .undef

/-- no parameter of `L` (names with their numbers) that is filled by position is also named by a keyword -/
def noClash (pos : List Val) (kw : List (String × Val)) (L : List (String × Nat)) : Bool :=
  L.all fun x => decide (pos.length ≤ x.2) || (assocGet x.1 kw).isNone

theorem noClash_cons (pos : List Val) (kw : List (String × Val)) (x : String × Nat) (L : List (String × Nat)) :
    noClash pos kw (x :: L) = ((decide (pos.length ≤ x.2) || (assocGet x.1 kw).isNone) && noClash pos kw L) := rfl

theorem zipIdx_cons_map {α : Type} (p : α) (ps : List α) :
    (p :: ps).zipIdx = (p, 0) :: ps.zipIdx.map fun x => (x.1, x.2 + 1) := by
  simp [List.zipIdx_succ]

theorem noClash_shift (a : Val) (as : List Val) (kw : List (String × Val)) : ∀ (L : List (String × Nat)),
    noClash (a :: as) kw (L.map fun x => (x.1, x.2 + 1)) = noClash as kw L
  | [] => rfl
  | x :: L => by rw [List.map_cons, noClash_cons, noClash_cons, noClash_shift a as kw L]; simp

theorem noClash_nil (kw : List (String × Val)) : ∀ (L : List (String × Nat)), noClash [] kw L = true
  | [] => rfl
  | x :: L => by rw [noClash_cons, noClash_nil kw L]; rfl

/-- the binder in closed form: it fails with `TooManyArguments` or binds every parameter to `boundValue`.
The recursion of `bindParams` consumes the positional values, the closed form numbers the parameters:
`boundValue (a :: as) kw (i + 1) p` and `boundValue as kw i p` are the same by computation. -/
theorem bindParams_eq : ∀ (params : List String) (pos : List Val) (kw : List (String × Val)),
    bindParams params pos kw =
      if decide (pos.length ≤ params.length) && noClash pos kw params.zipIdx then
        .ok (params.zipIdx.map fun x => (x.1, boundValue pos kw x.2 x.1))
      else .error .tooManyArgs
  | [], [], kw => rfl
  | [], _ :: _, kw => rfl
  | p :: ps, [], kw => by
    rw [bindParams, bindParams_eq ps [] kw, zipIdx_cons_map, noClash_nil, noClash_nil, List.map_cons, List.map_map]
    rfl
  | p :: ps, a :: as, kw => by
    have hl : decide ((a :: as).length ≤ (p :: ps).length) = decide (as.length ≤ ps.length) := by simp
    rw [bindParams, bindParams_eq ps as kw, zipIdx_cons_map, noClash_cons, noClash_shift, List.map_cons, List.map_map, hl]
    cases assocGet p kw <;> cases noClash as kw ps.zipIdx <;> cases decide (as.length ≤ ps.length) <;> rfl

theorem noClash_iff (params : List String) (pos : List Val) (kw : List (String × Val)) :
    noClash pos kw params.zipIdx = true ↔
      ∀ i p, i < pos.length → params[i]? = some p → assocGet p kw = none := by
  simp only [noClash, List.all_eq_true, Bool.or_eq_true, decide_eq_true_eq, Prod.forall,
    List.mem_zipIdx_iff_getElem?, Option.isNone_iff_eq_none]
  exact ⟨fun h i p hi hp => (h p i hp).resolve_left (by omega),
    fun h p i hp => (Nat.lt_or_ge i pos.length).elim (fun hi => .inr (h i p hi hp)) .inl⟩

theorem bindParams_isOk (params : List String) (pos : List Val) (kw : List (String × Val)) :
    (∃ bound, bindParams params pos kw = .ok bound) ↔
      pos.length ≤ params.length ∧ ∀ i p, i < pos.length → params[i]? = some p → assocGet p kw = none := by
  rw [bindParams_eq, ← noClash_iff]
  by_cases hl : pos.length ≤ params.length <;> cases noClash pos kw params.zipIdx <;> simp [hl]

theorem bindParams_length : ∀ (params : List String) (pos : List Val) (kw : List (String × Val)) (bound),
    bindParams params pos kw = .ok bound → bound.length = params.length ∧ pos.length ≤ params.length := by
  intro params pos kw bound h
  rw [bindParams_eq] at h
  split at h <;> cases h
  rename_i hc
  exact ⟨by simp, of_decide_eq_true (Bool.and_eq_true_iff.1 hc).1⟩

/-- **An explicitly passed value is bound as it is** (1): the binding of every parameter is the
value found for it, untouched. -/
theorem bindParams_getElem? : ∀ (params : List String) (pos : List Val) (kw : List (String × Val)) (bound),
    bindParams params pos kw = .ok bound →
    ∀ i p, params[i]? = some p → bound[i]? = some (p, boundValue pos kw i p) := by
  intro params pos kw bound h i p hp
  rw [bindParams_eq] at h
  split at h <;> cases h
  rw [List.getElem?_map, List.getElem?_zipIdx, hp, Nat.zero_add]
  rfl

theorem bindParams_error : ∀ (params : List String) (pos : List Val) (kw : List (String × Val)) (e),
    bindParams params pos kw = .error e → e = .tooManyArgs := by
  intro params pos kw e h
  rw [bindParams_eq] at h
  split at h <;> cases h
  rfl

/-- the keyword list is only consulted through `assocGet` on the parameter names -/
theorem bindParams_congr : ∀ (params : List String) (pos : List Val) (kw kw' : List (String × Val)),
    (∀ p ∈ params, assocGet p kw = assocGet p kw') → bindParams params pos kw = bindParams params pos kw'
  | [], [], _, _, _ => rfl
  | [], _ :: _, _, _, _ => rfl
  | p :: ps, [], kw, kw', h => by
    simp only [bindParams]
    rw [bindParams_congr ps [] kw kw' (fun q hq => h q (by simp [hq])), h p (by simp)]
  | p :: ps, a :: as, kw, kw', h => by
    simp only [bindParams]
    rw [bindParams_congr ps as kw kw' (fun q hq => h q (by simp [hq])), h p (by simp)]

/-- **Positional and keyword passing of the same value bind the same** (binder level): the next
free parameter `p` gets `v` by position or as `p=v`. -/
theorem bindParams_pos_eq_kw : ∀ (params : List String) (pos : List Val) (kw : List (String × Val)) (p : String) (v : Val),
    params.Nodup → params[pos.length]? = some p → assocGet p kw = none →
    bindParams params (pos ++ [v]) kw = bindParams params pos (kw ++ [(p, v)])
  | [], pos, kw, p, v, _, hp, _ => by simp at hp
  | p0 :: ps, [], kw, p, v, hnd, hp, hk => by
    simp at hp; subst hp
    have hnot : p0 ∉ ps := (List.nodup_cons.1 hnd).1
    have e1 : assocGet p0 (kw ++ [(p0, v)]) = some v := by
      rw [assocGet_append, hk]; simp [assocGet]
    have e2 : bindParams ps [] (kw ++ [(p0, v)]) = bindParams ps [] kw :=
      bindParams_congr ps [] _ _ fun q hq => assocGet_append_of_ne (fun (e : p0 = q) => hnot (e ▸ hq)) kw v
    simp only [List.nil_append, bindParams, hk, e1, e2, Option.getD_some]
  | p0 :: ps, a :: as, kw, p, v, hnd, hp, hk => by
    have hnot : p0 ∉ ps := (List.nodup_cons.1 hnd).1
    have hp' : ps[as.length]? = some p := by simpa using hp
    have hne : p ≠ p0 := by
      intro e; subst e
      exact hnot (List.mem_of_getElem? hp')
    simp only [List.cons_append, bindParams, assocGet_append_of_ne hne kw v]
    rw [bindParams_pos_eq_kw ps as kw p v (List.nodup_cons.1 hnd).2 hp' hk]

/-- **Positional and keyword passing of the same value bind the same**: calling with one more
positional value `v` is the same — parameters, hidden `caller`, error-or-not — as passing `v` by
keyword to the next free parameter. -/
theorem bindArgs_pos_eq_kw (params : List String) (uc : Bool) (pos : List Val) (kw : List (String × Val))
    (p : String) (v : Val) (hnd : params.Nodup) (hp : params[pos.length]? = some p)
    (hk : assocGet p kw = none) (hc : p ≠ "caller") :
    bindArgs params uc (pos ++ [v]) kw = bindArgs params uc pos (kw ++ [(p, v)]) := by
  have hmem : p ∈ params := List.mem_of_getElem? hp
  -- the appended keyword names a parameter, so it is not surplus, and it is not `caller`
  have e1 : (kw ++ [(p, v)]).any (fun q => !(params.contains q.1) && !(uc && q.1 == "caller")) =
      kw.any (fun q => !(params.contains q.1) && !(uc && q.1 == "caller")) := by simp [hmem]
  simp only [bindArgs, bindParams_pos_eq_kw params pos kw p v hnd hp hk, e1, assocGet_append_of_ne hc kw v]

/-- the whole binder in closed form: besides `bindParams_eq`, no keyword is left over (one that names no
parameter and is not the hidden `caller` of a macro that refers to it) -/
theorem bindArgs_eq (params : List String) (uc : Bool) (pos : List Val) (kw : List (String × Val)) :
    bindArgs params uc pos kw =
      if decide (pos.length ≤ params.length) && noClash pos kw params.zipIdx &&
          !kw.any (fun q => !(params.contains q.1) && !(uc && q.1 == "caller")) then
        .ok (params.zipIdx.map fun x => (x.1, boundValue pos kw x.2 x.1),
          if uc then some ((assocGet "caller" kw).getD .undef) else none)
      else .error .tooManyArgs := by
  rw [bindArgs, bindParams_eq]
  cases decide (pos.length ≤ params.length) && noClash pos kw params.zipIdx <;>
    cases kw.any (fun q => !(params.contains q.1) && !(uc && q.1 == "caller")) <;> rfl

theorem leftOver_iff (params : List String) (uc : Bool) (kw : List (String × Val)) :
    kw.any (fun q => !(params.contains q.1) && !(uc && q.1 == "caller")) = true ↔
      ∃ k v, (k, v) ∈ kw ∧ k ∉ params ∧ ¬ (uc = true ∧ k = "caller") := by
  cases uc <;> simp [List.any_eq_true]

theorem clash_iff (params : List String) (pos : List Val) (kw : List (String × Val)) :
    noClash pos kw params.zipIdx = false ↔ ∃ i p, i < pos.length ∧ params[i]? = some p ∧ (assocGet p kw).isSome := by
  rw [← Bool.not_eq_true, noClash_iff]
  simp [Option.isSome_iff_ne_none]

/-- **Every keyword is either consumed or an error**: when binding succeeds, every keyword names a
parameter that was not filled by position (and is bound to the keyword's value) or is the hidden
`caller` of a macro that refers to it. -/
theorem bindArgs_keywords_consumed {params uc pos kw bound c}
    (h : bindArgs params uc pos kw = .ok (bound, c)) (k : String) (v : Val) (hm : (k, v) ∈ kw) :
    (∃ i w, params[i]? = some k ∧ pos.length ≤ i ∧ assocGet k kw = some w ∧ bound[i]? = some (k, w)) ∨
      (uc = true ∧ k = "caller") := by
  rw [bindArgs_eq] at h
  split at h <;> cases h
  rename_i hc
  simp only [Bool.and_eq_true, Bool.not_eq_true'] at hc
  by_cases hin : k ∈ params
  · obtain ⟨i, hpi⟩ := List.getElem?_of_mem hin
    obtain ⟨w, hw⟩ := assocGet_some_of_mem hm
    have hle : pos.length ≤ i := Nat.le_of_not_lt fun hlt => by
      have := (noClash_iff params pos kw).1 hc.1.2 i k hlt hpi
      rw [hw] at this; cases this
    exact .inl ⟨i, w, hpi, hle, hw, by simp [hpi, boundValue, List.getElem?_eq_none hle, hw]⟩
  · refine .inr (Decidable.byContradiction fun hcon => ?_)
    rw [(leftOver_iff params uc kw).2 ⟨k, v, hm, hin, hcon⟩] at hc
    cases hc.2

theorem bindArgs_error_iff (params : List String) (uc : Bool) (pos : List Val) (kw : List (String × Val)) :
    bindArgs params uc pos kw = .error .tooManyArgs ↔
      (params.length < pos.length ∨ (∃ i p, i < pos.length ∧ params[i]? = some p ∧ (assocGet p kw).isSome) ∨
        ∃ k v, (k, v) ∈ kw ∧ k ∉ params ∧ ¬ (uc = true ∧ k = "caller")) := by
  rw [bindArgs_eq, ← clash_iff, ← leftOver_iff, ← Nat.not_le]
  by_cases hl : pos.length ≤ params.length <;> cases noClash pos kw params.zipIdx <;>
    cases kw.any (fun q => !(params.contains q.1) && !(uc && q.1 == "caller")) <;> simp [hl]

/-- **The default is evaluated iff the parameter is missing or undefined**: a parameter takes its
default exactly when it is bound to `undef` and has one. -/
theorem slotOf_dflt_iff (v : Val) (dflt : Option Expr) (d : Expr) :
    slotOf v dflt = .dflt d ↔ v = .undef ∧ dflt = some d := by
  cases v <;> cases dflt <;> simp [slotOf]

/-- … every other bound value — `none`, `false`, `0`, `""`, `[]` included — is kept as it is -/
theorem slotOf_passed_of_ne_undef (v : Val) (dflt : Option Expr) (h : v ≠ .undef) : slotOf v dflt = .passed v := by
  cases v <;> cases dflt <;> simp_all [slotOf]

theorem slotOf_no_default (v : Val) : slotOf v none = .passed v := by
  cases v <;> simp [slotOf]

/-- the loop of `prepare_args` in closed form, over any list of parameters with their numbers -/
theorem prepareStep_foldr (pos : List Val) (kw : List (String × Val)) : ∀ (L : List (String × Nat)),
    L.foldr (MJ.Vm.prepareStep pos kw) (.ok []) =
      if noClash pos kw L then .ok (L.map fun x => boundValue pos kw x.2 x.1)
      else .error .tooManyArgs
  | [] => rfl
  | x :: L => by
    rw [List.foldr_cons, prepareStep_foldr pos kw L, noClash_cons]
    cases noClash pos kw L <;>
      by_cases hx : x.2 < pos.length <;> cases hk : assocGet x.1 kw <;>
      simp [MJ.Vm.prepareStep, boundValue, hx, hk, Nat.not_le.2, Nat.not_lt.1]

/-- `prepare_args` once the keyword bundle is split off -/
theorem prepareArgs_bind (spec : List String) (cref : Bool) (pos : List Val) (kw : List (String × Val)) :
    (if pos.length > spec.length then .error .tooManyArgs
      else match (spec.zipIdx).foldr (MJ.Vm.prepareStep pos kw) (.ok []) with
        | .error e => .error e
        | .ok vs =>
          if kw.any (fun p => !(spec.contains p.1) && !(cref && p.1 == "caller")) then .error .tooManyArgs
          else .ok (vs, if cref then some ((assocGet "caller" kw).getD .undef) else none)) =
      (bindArgs spec cref pos kw).map fun r => (r.1.map (·.2), r.2) := by
  rw [prepareStep_foldr, bindArgs, bindParams_eq]
  by_cases hl : pos.length > spec.length
  · simp [hl, Nat.not_le.2 hl, Except.map]
  · cases noClash pos kw spec.zipIdx
    · simp [hl, Except.map]
    · simp only [hl, Nat.not_lt.1 hl, if_false, decide_true, Bool.and_self, if_true, Except.map]
      split <;> simp [Function.comp_def]

theorem prepareArgs_kwargs (spec : List String) (cref : Bool) (pos : List Val) (kw : List (String × Val)) :
    MJ.Vm.prepareArgs spec cref (pos ++ [.kwargs kw]) =
      (bindArgs spec cref pos kw).map fun r => (r.1.map (·.2), r.2) := by
  simp only [MJ.Vm.prepareArgs, List.getLast?_append, List.getLast?_singleton, Option.some_or,
    List.dropLast_concat, Option.getD_some]
  exact prepareArgs_bind spec cref pos kw

/-- a call without keyword bundle (the last value is not one) -/
theorem prepareArgs_positional (spec : List String) (cref : Bool) (pos : List Val)
    (hlast : ∀ kvs, pos.getLast? ≠ some (.kwargs kvs)) :
    MJ.Vm.prepareArgs spec cref pos =
      (bindArgs spec cref pos []).map fun r => (r.1.map (·.2), r.2) := by
  -- (the equation of `prepareArgs` for "the last value is no keyword bundle" is discharged by `hlast`)
  simp only [MJ.Vm.prepareArgs, Option.getD_none]
  exact prepareArgs_bind spec cref pos []

end MJ.ArgBind

namespace MJ.Vm
open MJ.Eval MJ.Compile

theorem any_key_congr {m kw : List (String × Val)} (h : ∀ k, (assocGet k m).isSome = (assocGet k kw).isSome) (g : String → Bool) :
    m.any (fun p => g p.1) = kw.any (fun p => g p.1) := by
  have key : ∀ (a b : List (String × Val)), (∀ k, (assocGet k a).isSome = (assocGet k b).isSome) → a.any (fun p => g p.1) = true →
      b.any (fun p => g p.1) = true := by
    intro a b hab ha
    obtain ⟨⟨k, v⟩, hmem, hg⟩ := List.any_eq_true.1 ha
    obtain ⟨w, hw⟩ := MJ.ArgBind.assocGet_some_of_mem hmem
    have hb : (assocGet k b).isSome = true := by rw [← hab k, hw]; rfl
    cases hb' : assocGet k b with
    | none => rw [hb'] at hb; cases hb
    | some w' => exact List.any_eq_true.2 ⟨(k, w'), MJ.ArgBind.assocGet_mem hb', hg⟩
  cases h1 : m.any (fun p => g p.1) with
  | true => exact (key m kw h h1).symm
  | false =>
    cases h2 : kw.any (fun p => g p.1) with
    | false => rfl
    | true => rw [key kw m (fun k => (h k).symm) h2] at h1; cases h1

theorem bindArgs_congr (params : List String) (uc : Bool) (pos : List Val) {m kw : List (String × Val)}
    (h : ∀ k, assocGet k m = assocGet k kw) : bindArgs params uc pos m = bindArgs params uc pos kw := by
  simp only [bindArgs]
  rw [MJ.ArgBind.bindParams_congr params pos m kw (fun p _ => h p),
    any_key_congr (m := m) (kw := kw) (fun k => by rw [h k]) (fun k => !(params.contains k) && !(uc && k == "caller")), h "caller"]

theorem eq_dropLast_append {α : Type} : ∀ (l : List α) (a : α), l.getLast? = some a → l = l.dropLast ++ [a] := by
  intro l a h
  obtain ⟨q, rfl⟩ := List.getLast?_eq_some_iff.mp h
  rw [List.dropLast_concat]

theorem bindArgs_ok {params : List String} {uc : Bool} {pos : List Val} {kw : List (String × Val)}
    {bound : List (String × Val)} {caller : Option Val} (h : bindArgs params uc pos kw = .ok (bound, caller)) :
    bindParams params pos kw = .ok bound ∧
      caller = if uc then some ((assocGet "caller" kw).getD .undef) else none := by
  revert h
  fun_cases bindArgs params uc pos kw <;> intro h <;> cases h
  exact ⟨‹_›, rfl⟩

/-- keyword bundles with the same keys that agree on the parameters bind alike, up to the value of `caller` -/
theorem bindArgs_rel (params : List String) (uc : Bool) (pos : List Val) {m kw : List (String × Val)}
    (hk : ∀ k, k ≠ "caller" → assocGet k m = assocGet k kw)
    (hc : (assocGet "caller" m).isSome = (assocGet "caller" kw).isSome) (hpc : "caller" ∉ params) :
    bindArgs params uc pos m =
      (bindArgs params uc pos kw).map fun r => (r.1, if uc then some ((assocGet "caller" m).getD .undef) else none) := by
  have hsome : ∀ k, (assocGet k m).isSome = (assocGet k kw).isSome := fun k => by
    by_cases e : k = "caller"
    · subst e; exact hc
    · rw [hk k e]
  simp only [bindArgs]
  rw [MJ.ArgBind.bindParams_congr params pos m kw (fun p hp => hk p (fun e => hpc (e ▸ hp))),
    any_key_congr hsome (fun k => !(params.contains k) && !(uc && k == "caller"))]
  cases bindParams params pos kw with
  | error e => rfl
  | ok bound => dsimp only; split <;> rfl

theorem bindParams_names (params : List String) (pos : List Val) (kw : List (String × Val)) (bound : List (String × Val))
    (h : bindParams params pos kw = .ok bound) : bound.map (·.1) = params := by
  rw [MJ.ArgBind.bindParams_eq] at h
  split at h <;> cases h
  simp [Function.comp_def]

theorem assocGet_snoc_same {α : Type} (l : List (String × α)) (k : String) (v : α) (h : assocGet k l = none) :
    assocGet k (l ++ [(k, v)]) = some v := by
  rw [MJ.ArgBind.assocGet_append, h]; simp [assocGet]

theorem defaultOf_nil (params : List String) (i : Nat) : defaultOf params [] i = none := by
  simp [defaultOf]

theorem bindDefaults_nodefaults : ∀ (n : Nat) (ctx : Scope) (heap : Heap) (cell : Nat) (env : List Nat) (params : List String)
    (i : Nat) (bound : List (String × Val)) (heap2 : Heap),
    bindDefaults n ctx heap (cell :: env) params [] i bound = .ok heap2 → heap2 = heapSetAll heap cell bound := by
  intro n
  induction n with
  | zero => intro ctx heap cell env params i bound heap2 h; simp [bindDefaults] at h
  | succ m ih =>
    intro ctx heap cell env params i bound heap2 h
    cases bound with
    | nil => simp [bindDefaults] at h; subst h; rfl
    | cons b rest =>
      obtain ⟨p, v⟩ := b
      simp only [bindDefaults, topCell, defaultOf_nil, MJ.ArgBind.slotOf_no_default] at h
      simp only [heapSetAll]
      exact ih _ _ _ _ _ _ _ _ h

theorem zipIdx_map_none : ∀ (l : List String) (k n : Nat),
    (l.zipIdx k).map (fun (x : String × Nat) => (x.1, if n ≤ x.2 then ([] : List Expr)[x.2 - n]? else none)) =
      l.map fun p => (p, (none : Option Expr))
  | [], _, _ => rfl
  | p :: rest, k, n => by
    simp only [List.zipIdx_cons, List.map_cons]
    rw [zipIdx_map_none rest (k + 1) n]
    by_cases h : n ≤ k <;> simp [h]

theorem paramDefaults_nil (params : List String) : paramDefaults params [] = params.map fun p => (p, none) := by
  unfold paramDefaults
  exact zipIdx_map_none params 0 _

theorem slotOf_passed {v : Val} {od : Option Expr} {w : Val} (h : slotOf v od = .passed w) : w = v := by
  cases v <;> cases od <;> simp [slotOf] at h <;> exact h.symm

theorem defaultOf_mem {params : List String} {defaults : List Expr} {i : Nat} {d : Expr}
    (h : defaultOf params defaults i = some d) : d ∈ defaults := by
  unfold defaultOf at h
  split at h
  · exact List.mem_of_getElem? h
  · cases h

/-- the defaults belong to the last parameters: the two ways to say it -/
theorem paramDefaults_eq (params : List String) (defaults : List Expr) (hle : defaults.length ≤ params.length) :
    paramDefaults params defaults = (params.zipIdx 0).map fun x => (x.1, defaultOf params defaults x.2) := by
  unfold paramDefaults
  refine List.map_congr_left fun x _ => ?_
  simp only [defaultOf]
  by_cases hk : params.length - defaults.length ≤ x.2
  · have h2 : params.length ≤ x.2 + defaults.length := by omega
    have h3 : x.2 - (params.length - defaults.length) = x.2 + defaults.length - params.length := by omega
    simp [hk, h2, h3]
  · have h2 : ¬ params.length ≤ x.2 + defaults.length := by omega
    simp [hk, h2]

end MJ.Vm
