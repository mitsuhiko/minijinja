import MJ.Model.Coll
/-!
# sort / min / max / reverse: the defining laws

The filters are run with comparisons that are total preorders only on the keys at hand (`Value::cmp` on
values whose numbers are within range).  `PullsBack cmp S cmp' g` says so: on the keys satisfying `S`,
`cmp` is a total preorder `cmp'` (`Std.TransCmp`: oriented + transitive) read through `g`.  Every law is
proved under that hypothesis; a comparison that is a total preorder outright is the instance
`PullsBack.self`.
-/
namespace MJ.Coll
open Std

variable {α κ κ' : Type}

theorem leOf_iff (cmp : κ → κ → Ordering) (a b : κ) : leOf cmp a b = true ↔ cmp a b ≠ .gt := by
  unfold leOf; cases cmp a b <;> simp

instance revCmp_trans (cmp : κ → κ → Ordering) [TransCmp cmp] (rev : Bool) : TransCmp (revCmp cmp rev) where
  eq_swap {a b} := by
    unfold revCmp
    cases rev
    · simp only [Bool.false_eq_true, if_false]; exact OrientedCmp.eq_swap
    · simp only [if_true]; rw [OrientedCmp.eq_swap (cmp := cmp) (a := a)]
  isLE_trans {a b c} h1 h2 := by
    unfold revCmp at *
    cases rev
    · simp only [Bool.false_eq_true, if_false] at *; exact TransCmp.isLE_trans h1 h2
    · simp only [if_true, Ordering.isLE_swap] at *; exact TransCmp.isGE_trans h1 h2

def PullsBack (cmp : κ → κ → Ordering) (S : κ → Prop) (cmp' : κ' → κ' → Ordering) (g : κ → κ') : Prop :=
  ∀ a b, S a → S b → cmp a b = cmp' (g a) (g b)

theorem PullsBack.self (cmp : κ → κ → Ordering) : PullsBack cmp (fun _ => True) cmp id :=
  fun _ _ _ _ => rfl

namespace PullsBack
variable {cmp : κ → κ → Ordering} {S : κ → Prop} {cmp' : κ' → κ' → Ordering} [TransCmp cmp'] {g : κ → κ'}
  (h : PullsBack cmp S cmp' g) {a b c : κ}
include h

theorem refl (ha : S a) : cmp a a = .eq := by
  rw [h a a ha ha]; exact ReflCmp.compare_self

theorem swap (ha : S a) (hb : S b) : cmp b a = (cmp a b).swap := by
  rw [h a b ha hb, h b a hb ha]; exact OrientedCmp.eq_swap

theorem eq_trans (ha : S a) (hb : S b) (hc : S c) (h1 : cmp a b = .eq) (h2 : cmp b c = .eq) : cmp a c = .eq := by
  rw [h _ _ ha hb] at h1; rw [h _ _ hb hc] at h2; rw [h _ _ ha hc]
  exact TransCmp.eq_trans h1 h2

theorem congr_left (ha : S a) (hb : S b) (hc : S c) (h1 : cmp a b = .eq) : cmp a c = cmp b c := by
  rw [h _ _ ha hb] at h1; rw [h _ _ ha hc, h _ _ hb hc]
  exact TransCmp.congr_left h1

theorem le_trans (ha : S a) (hb : S b) (hc : S c) (h1 : cmp a b ≠ .gt) (h2 : cmp b c ≠ .gt) : cmp a c ≠ .gt := by
  rw [h _ _ ha hb] at h1; rw [h _ _ hb hc] at h2; rw [h _ _ ha hc]
  exact Ordering.ne_gt_iff_isLE.mpr
    (TransCmp.isLE_trans (Ordering.ne_gt_iff_isLE.mp h1) (Ordering.ne_gt_iff_isLE.mp h2))

theorem lt_of_lt_of_le (ha : S a) (hb : S b) (hc : S c) (h1 : cmp a b = .lt) (h2 : cmp b c ≠ .gt) :
    cmp a c = .lt := by
  rw [h _ _ ha hb] at h1; rw [h _ _ hb hc] at h2; rw [h _ _ ha hc]
  exact TransCmp.lt_of_lt_of_isLE h1 (Ordering.ne_gt_iff_isLE.mp h2)

theorem ge_trans (ha : S a) (hb : S b) (hc : S c) (h1 : cmp a b ≠ .lt) (h2 : cmp b c ≠ .lt) : cmp a c ≠ .lt := by
  rw [h _ _ ha hb] at h1; rw [h _ _ hb hc] at h2; rw [h _ _ ha hc]
  exact Ordering.ne_lt_iff_isGE.mpr
    (TransCmp.isGE_trans (Ordering.ne_lt_iff_isGE.mp h1) (Ordering.ne_lt_iff_isGE.mp h2))

theorem lt_trans (ha : S a) (hb : S b) (hc : S c) (h1 : cmp a b = .lt) (h2 : cmp b c = .lt) : cmp a c = .lt := by
  rw [h _ _ ha hb] at h1; rw [h _ _ hb hc] at h2; rw [h _ _ ha hc]
  exact TransCmp.lt_trans h1 h2

theorem lt_of_gt (ha : S a) (hb : S b) (h1 : cmp a b = .gt) : cmp b a = .lt := by
  rw [h.swap ha hb, h1]; rfl

end PullsBack

theorem mergeSort_congr {le le' : α → α → Bool} (l : List α)
    (h : ∀ a ∈ l, ∀ b ∈ l, le a b = le' a b) : l.mergeSort le = l.mergeSort le' := by
  have := List.map_mergeSort (f := id) (r := le) (s := le') (l := l) (by simpa using h)
  simpa using this

theorem leOf_trans (cmp : κ → κ → Ordering) [TransCmp cmp] (key : α → κ) (a b c : α) :
    leOf cmp (key a) (key b) = true → leOf cmp (key b) (key c) = true → leOf cmp (key a) (key c) = true := by
  simp only [leOf_iff, Ordering.ne_gt_iff_isLE]
  exact TransCmp.isLE_trans

theorem leOf_total (cmp : κ → κ → Ordering) [TransCmp cmp] (key : α → κ) (a b : α) :
    (leOf cmp (key a) (key b) || leOf cmp (key b) (key a)) = true := by
  simp only [Bool.or_eq_true, leOf_iff]
  by_cases h : cmp (key a) (key b) = .gt
  · right; rw [OrientedCmp.gt_iff_lt.mp h]; simp
  · left; exact h

section
variable {cmp : κ → κ → Ordering} {S : κ → Prop} {cmp' : κ' → κ' → Ordering} [TransCmp cmp'] {g : κ → κ'}
  (h : PullsBack cmp S cmp' g) (key : α → κ) (xs : List α) (hx : ∀ x ∈ xs, S (key x))
include h hx

omit [TransCmp cmp'] in
/-- sorting by `cmp` is sorting by `cmp'`, which is a total preorder on all keys -/
theorem sort_eq_on : xs.mergeSort (fun a b => cmp (key a) (key b) != .gt) =
    xs.mergeSort (fun a b => leOf cmp' (g (key a)) (g (key b))) :=
  mergeSort_congr xs fun a ha b hb => by rw [h _ _ (hx a ha) (hx b hb)]; rfl

/-- the sort by a key returns a permutation of the input that is in order -/
theorem sort_sorted_on :
    (xs.mergeSort (fun a b => cmp (key a) (key b) != .gt)).Perm xs ∧
    (xs.mergeSort (fun a b => cmp (key a) (key b) != .gt)).Pairwise (fun a b => cmp (key a) (key b) ≠ .gt) := by
  rw [sort_eq_on h key xs hx]
  have hp : (xs.mergeSort (fun a b => leOf cmp' (g (key a)) (g (key b)))).Perm xs := List.mergeSort_perm _ _
  refine ⟨hp, (List.pairwise_mergeSort (leOf_trans cmp' _) (leOf_total cmp' _) xs).imp_of_mem fun ha hb hab => ?_⟩
  rw [h _ _ (hx _ (hp.subset ha)) (hx _ (hp.subset hb))]
  exact (leOf_iff _ _ _).mp hab

/-- … and it is stable: every sub-sequence of the input that is in order is a sub-sequence of the output
    (items with `Equal` keys stay in input order) -/
theorem sort_stable_on (zs : List α) (hs : zs.Sublist xs)
    (ho : zs.Pairwise (fun a b => cmp (key a) (key b) ≠ .gt)) :
    zs.Sublist (xs.mergeSort (fun a b => cmp (key a) (key b) != .gt)) := by
  rw [sort_eq_on h key xs hx]
  refine List.sublist_mergeSort (leOf_trans cmp' _) (leOf_total cmp' _) (ho.imp_of_mem fun ha hb hab => ?_) hs
  rw [h _ _ (hx _ (hs.subset ha)) (hx _ (hs.subset hb))] at hab
  exact (leOf_iff _ _ _).mpr hab

end

/-- a left fold that at each step keeps what it has or takes the item it reads, as `R` allows (`R` reflexive
    and transitive on the items at hand): what it ends with is one of the items and `R`-related to all -/
theorem foldl_pick {R : α → α → Prop} {S : α → Prop} (hrefl : ∀ a, S a → R a a)
    (htrans : ∀ a b c, S a → S b → S c → R a b → R b c → R a c) {f : α → α → α}
    (hf : ∀ m y, S m → S y → (f m y = y ∧ R y m) ∨ (f m y = m ∧ R m y)) :
    ∀ (xs : List α) (m0 : α), S m0 → (∀ x ∈ xs, S x) →
      S (xs.foldl f m0) ∧ xs.foldl f m0 ∈ m0 :: xs ∧ ∀ x ∈ m0 :: xs, R (xs.foldl f m0) x
  | [], m0, h0, _ => ⟨h0, List.mem_cons_self, by simpa using hrefl m0 h0⟩
  | y :: ys, m0, h0, hs => by
    have hy := hs y List.mem_cons_self
    have hys : ∀ x ∈ ys, S x := fun x hx => hs x (List.mem_cons_of_mem _ hx)
    rw [List.foldl_cons]
    rcases hf m0 y h0 hy with ⟨e, r⟩ | ⟨e, r⟩ <;> rw [e]
    · obtain ⟨s, mem, all⟩ := foldl_pick hrefl htrans hf ys y hy hys
      refine ⟨s, List.mem_cons_of_mem _ mem, fun x hx => ?_⟩
      rcases List.mem_cons.mp hx with rfl | hx
      · exact htrans _ _ _ s hy h0 (all y List.mem_cons_self) r
      · exact all x hx
    · obtain ⟨s, mem, all⟩ := foldl_pick hrefl htrans hf ys m0 h0 hys
      refine ⟨s, List.mem_cons.mpr ((List.mem_cons.mp mem).imp id (List.mem_cons_of_mem _)), fun x hx => ?_⟩
      rcases List.mem_cons.mp hx with rfl | hx
      · exact all _ List.mem_cons_self
      · rcases List.mem_cons.mp hx with rfl | hx
        · exact htrans _ _ _ s h0 hy (all m0 List.mem_cons_self) r
        · exact all x (List.mem_cons_of_mem _ hx)

theorem minmax_on {cmp : α → α → Ordering} {S : α → Prop} {cmp' : κ' → κ' → Ordering} [TransCmp cmp']
    {g : α → κ'} (h : PullsBack cmp S cmp' g) (xs : List α) (hx : ∀ x ∈ xs, S x) (r : α) :
    (minBy cmp xs = some r → r ∈ xs ∧ ∀ x ∈ xs, cmp r x ≠ .gt) ∧
    (maxBy cmp xs = some r → r ∈ xs ∧ ∀ x ∈ xs, cmp r x ≠ .lt) := by
  cases xs with
  | nil => simp [minBy, maxBy]
  | cons y ys =>
    have hy := hx y List.mem_cons_self
    have hys : ∀ x ∈ ys, S x := fun x hx' => hx x (List.mem_cons_of_mem _ hx')
    constructor <;> intro hm <;> simp only [minBy, maxBy, Option.some.injEq] at hm <;> subst hm
    · -- `min` takes the item it reads when what it has is strictly greater
      refine (foldl_pick (R := fun a b => cmp a b ≠ .gt) (fun a ha => by rw [h.refl ha]; decide)
        (fun a b c => h.le_trans) (fun m z hm hz => ?_) ys y hy hys).2
      by_cases hc : cmp m z = .gt
      · exact .inl ⟨if_pos (by rw [hc]; rfl), by rw [h.swap hm hz, hc]; decide⟩
      · exact .inr ⟨if_neg fun e => hc (beq_iff_eq.mp e), hc⟩
    · -- `max` keeps what it has only when that is strictly greater
      refine (foldl_pick (R := fun a b => cmp a b ≠ .lt) (fun a ha => by rw [h.refl ha]; decide)
        (fun a b c => h.ge_trans) (fun m z hm hz => ?_) ys y hy hys).2
      by_cases hc : cmp m z = .gt
      · exact .inr ⟨if_pos (by rw [hc]; rfl), by rw [hc]; decide⟩
      · refine .inl ⟨if_neg fun e => hc (beq_iff_eq.mp e), ?_⟩
        rw [h.swap hm hz]
        cases hcz : cmp m z <;> first | decide | exact absurd hcz hc

theorem reverseSeq_eq (dflt : α) (xs : List α) : reverseSeq dflt xs = xs.reverse := by
  unfold reverseSeq
  rw [List.map_reverse]
  congr 1
  apply List.ext_getElem
  · simp
  · intro i h1 h2
    simp only [List.length_map, List.length_range] at h1
    simp [List.getD_eq_getElem?_getD, h1]

end MJ.Coll
