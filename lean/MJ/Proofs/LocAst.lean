import MJ.Model.LocAst
/-!
# Lines of the instructions of a compiled program lie within their constructs (C14)

`J needCur givesPrev lo hi evs`: run from any state (whose current line lies in `lo..hi` if
`needCur`), the events `evs` emit only instructions whose line lies within the range they are
tagged with, leave the current line in `lo..hi`, leave the line of the previous instruction
unchanged or in `lo..hi` (in `lo..hi` if `givesPrev`) and the stack of suspended generators as it
was.  Every compile arm is a composition of such pieces.
-/
namespace MJ.LocAst
open MJ MJ.Loc

def InR (lo hi x : Nat) : Prop := lo ≤ x ∧ x ≤ hi

def PrevIn (lo hi : Nat) (s : LS) : Prop := ∃ p, s.prev = some p ∧ lo ≤ p ∧ p ≤ hi

def OutOk (out : List Em) : Prop := ∀ e ∈ out, e.ok = true

def J (needCur givesPrev : Bool) (lo hi : Nat) (evs : List Ev) : Prop :=
  ∀ s : LS, (needCur = true → InR lo hi s.cur) →
    OutOk (execL s evs).2 ∧ InR lo hi (execL s evs).1.cur ∧
    ((execL s evs).1.prev = s.prev ∨ PrevIn lo hi (execL s evs).1) ∧
    (givesPrev = true → PrevIn lo hi (execL s evs).1) ∧ (execL s evs).1.saved = s.saved

theorem Em.line_of_ok {e : Em} (h : e.ok = true) : ∃ l, e.line = some l ∧ e.lo ≤ l ∧ l ≤ e.hi := by
  unfold Em.ok at h
  split at h
  · rename_i l hl
    simp only [Bool.and_eq_true, decide_eq_true_eq] at h
    exact ⟨l, hl, h.1, h.2⟩
  · cases h

theorem execL_nil (s : LS) : execL s [] = (s, []) := rfl

theorem execL_cons (s : LS) (e : Ev) (es : List Ev) :
    execL s (e :: es) = ((execL (stepL s e).1 es).1, (stepL s e).2 ++ (execL (stepL s e).1 es).2) := rfl

theorem execL_append (s : LS) (a b : List Ev) :
    execL s (a ++ b) = ((execL (execL s a).1 b).1, (execL s a).2 ++ (execL (execL s a).1 b).2) := by
  induction a generalizing s with
  | nil => simp [execL_nil]
  | cons e es ih => simp only [List.cons_append, execL_cons, ih, List.append_assoc]

theorem OutOk_append {a b : List Em} (ha : OutOk a) (hb : OutOk b) : OutOk (a ++ b) := by
  intro e he
  rcases List.mem_append.mp he with h | h
  · exact ha e h
  · exact hb e h

theorem PrevIn.mono {lo hi lo' hi' : Nat} {s : LS} (h : PrevIn lo' hi' s) (h1 : lo ≤ lo') (h2 : hi' ≤ hi) :
    PrevIn lo hi s := by
  obtain ⟨p, hp, a, b⟩ := h
  exact ⟨p, hp, by omega, by omega⟩

theorem OutOk_nil : OutOk [] := fun _ he => nomatch he

theorem J.nil {lo hi : Nat} : J true false lo hi [] :=
  fun _ h => ⟨OutOk_nil, h rfl, Or.inl rfl, nofun, rfl⟩

/-- sequencing: the second part may rely on the current line -/
theorem J.seq {n g1 g2 : Bool} {lo hi : Nat} {a b : List Ev} (ha : J n g1 lo hi a) (hb : J true g2 lo hi b) :
    J n (g1 || g2) lo hi (a ++ b) := by
  intro s hs
  obtain ⟨a1, a2, a3, a4, a5⟩ := ha s hs
  obtain ⟨b1, b2, b3, b4, b5⟩ := hb (execL s a).1 (fun _ => a2)
  rw [execL_append]
  refine ⟨OutOk_append a1 b1, b2, ?_, ?_, by rw [b5, a5]⟩
  · rcases b3 with h | h
    · rcases a3 with h' | h'
      · left; rw [h, h']
      · right; obtain ⟨p, hp, x, y⟩ := h'; exact ⟨p, by rw [h, hp], x, y⟩
    · right; exact h
  · intro hg
    cases g2 with
    | true => exact b4 rfl
    | false =>
      have : g1 = true := by simpa using hg
      rcases b3 with h | h
      · obtain ⟨p, hp, x, y⟩ := a4 this; exact ⟨p, by rw [h, hp], x, y⟩
      · exact h

theorem J.weaken {n g : Bool} {lo hi : Nat} {evs : List Ev} (h : J n g lo hi evs) (n' g' : Bool)
    (hn : n = true → n' = true) (hg : g' = true → g = true) : J n' g' lo hi evs := by
  intro s hs
  obtain ⟨a1, a2, a3, a4, a5⟩ := h s (fun hn' => hs (hn hn'))
  exact ⟨a1, a2, a3, fun x => a4 (hg x), a5⟩

/-- a self-locating piece may be placed in any wider range, where the current line is known or not -/
theorem J.mono {n g : Bool} {lo hi lo' hi' : Nat} {evs : List Ev} (h : J false g lo' hi' evs) (h1 : lo ≤ lo') (h2 : hi' ≤ hi) :
    J n g lo hi evs := by
  intro s _
  obtain ⟨a1, a2, a3, a4, a5⟩ := h s nofun
  refine ⟨a1, ⟨by have := a2.1; omega, by have := a2.2; omega⟩, ?_, fun x => (a4 x).mono h1 h2, a5⟩
  rcases a3 with h | h
  · exact Or.inl h
  · exact Or.inr (h.mono h1 h2)

/-! ## atoms, in every mode in which they hold -/

theorem OutOk_one (nm : String) {lo hi l : Nat} (h : InR lo hi l) : OutOk [⟨nm, some l, lo, hi⟩] := by
  intro e he
  cases List.mem_singleton.mp he
  simp [Em.ok, h.1, h.2]

theorem J.setLineG {n : Bool} {lo hi l : Nat} (h : InR lo hi l) : J n false lo hi [.setLine l] :=
  fun _ _ => ⟨OutOk_nil, h, Or.inl rfl, nofun, rfl⟩

theorem J.pushG (n : Bool) {lo hi : Nat} {sp : Span} (h : InR lo hi sp.startLine) : J n false lo hi [.push sp] :=
  J.setLineG h

theorem J.pop {lo hi : Nat} : J true false lo hi [.pop] :=
  fun _ h => ⟨OutOk_nil, h rfl, Or.inl rfl, nofun, rfl⟩

theorem J.addG {g : Bool} {nm : String} {lo hi : Nat} : J true g lo hi [.add nm lo hi] :=
  fun s h => ⟨OutOk_one nm (h rfl), h rfl, Or.inr ⟨s.cur, rfl, h rfl⟩, fun _ => ⟨s.cur, rfl, h rfl⟩, rfl⟩

theorem J.addSpanG {g : Bool} {nm : String} {lo hi : Nat} {sp : Span} (hsp : InR lo hi sp.startLine) :
    J true g lo hi [.addSpan nm sp lo hi] :=
  fun _ h => ⟨OutOk_one nm hsp, h rfl, Or.inr ⟨sp.startLine, rfl, hsp⟩, fun _ => ⟨sp.startLine, rfl, hsp⟩, rfl⟩

/-- the location-less instruction of `sc_bool` after a piece that has emitted something -/
theorem J.raw {n : Bool} {lo hi : Nat} {a : List Ev} (nm : String) (ha : J n true lo hi a) :
    J n true lo hi (a ++ [.raw nm lo hi]) := by
  intro s hs
  obtain ⟨a1, a2, a3, a4, a5⟩ := ha s hs
  obtain ⟨p, hp, hr⟩ := a4 rfl
  rw [execL_append]
  refine ⟨OutOk_append a1 ?_, a2, a3, fun _ => ⟨p, hp, hr⟩, a5⟩
  show OutOk [⟨nm, (execL s a).1.prev, lo, hi⟩]
  rw [hp]
  exact OutOk_one nm hr

/-- a non-emitting event in front of a self-locating piece does not matter (this is why a span that
    starts in front of its construct is harmless as long as an operand is compiled next) -/
theorem J.skipSetLine {n g : Bool} {lo hi : Nat} {b : List Ev} (l : Nat) (hb : J false g lo hi b) :
    J n g lo hi (.setLine l :: b) :=
  fun s _ => hb { s with cur := l } nofun

theorem J.skipPush {n g : Bool} {lo hi : Nat} {b : List Ev} (sp : Span) (hb : J false g lo hi b) :
    J n g lo hi (.push sp :: b) :=
  J.skipSetLine sp.startLine hb

/-- the body of a `{% block %}` runs in a sub-generator: what follows finds the line of the previous
    instruction as it was before the block -/
theorem J.block {g : Bool} {lo hi : Nat} {body rest : List Ev} (nm : String) (hb : J true false lo hi body)
    (hr : J true g lo hi rest) : J true g lo hi (.blockBegin nm :: (body ++ .blockEnd :: rest)) := by
  intro s hs
  obtain ⟨b1, b2, _, _, b5⟩ := hb { s with prev := none, saved := s.prev :: s.saved } hs
  rw [execL_cons, execL_append, execL_cons]
  simp only [stepL, b5, List.head?_cons, Option.join, List.tail_cons, List.nil_append]
  obtain ⟨r1, r2, r3, r4, r5⟩ := hr { (execL { s with prev := none, saved := s.prev :: s.saved } body).1 with
    prev := s.prev, saved := s.saved } (fun _ => b2)
  exact ⟨OutOk_append b1 r1, r2, r3, r4, r5⟩

/-! ## sequencing with the mode of the result given

`J.seq` with its flags worked out, as the derivations below use it: `F` neither part, `T2` the second,
`T1` the first part establishes the line of the previous instruction. -/

theorem J.cons {n g1 g2 : Bool} {lo hi : Nat} {e : Ev} {b : List Ev} (ha : J n g1 lo hi [e]) (hb : J true g2 lo hi b) :
    J n (g1 || g2) lo hi (e :: b) := J.seq ha hb

theorem J.seqF {n : Bool} {lo hi : Nat} {a b : List Ev} (ha : J n false lo hi a) (hb : J true false lo hi b) :
    J n false lo hi (a ++ b) := J.seq ha hb
theorem J.seqT2 {n : Bool} {lo hi : Nat} {a b : List Ev} (ha : J n false lo hi a) (hb : J true true lo hi b) :
    J n true lo hi (a ++ b) := J.seq ha hb
theorem J.seqT1 {n : Bool} {lo hi : Nat} {a b : List Ev} (ha : J n true lo hi a) (hb : J true false lo hi b) :
    J n true lo hi (a ++ b) := J.seq ha hb
theorem J.consF {n : Bool} {lo hi : Nat} {e e2 : Ev} {b : List Ev} (ha : J n false lo hi [e]) (hb : J true false lo hi (e2 :: b)) :
    J n false lo hi (e :: e2 :: b) := J.seqF ha hb
theorem J.consT2 {n : Bool} {lo hi : Nat} {e e2 : Ev} {b : List Ev} (ha : J n false lo hi [e]) (hb : J true true lo hi (e2 :: b)) :
    J n true lo hi (e :: e2 :: b) := J.seqT2 ha hb
theorem J.consT1 {n : Bool} {lo hi : Nat} {e e2 : Ev} {b : List Ev} (ha : J n true lo hi [e]) (hb : J true false lo hi (e2 :: b)) :
    J n true lo hi (e :: e2 :: b) := J.seqT1 ha hb

/-- anything that holds without a current line and establishes the previous one holds in every mode -/
theorem J.all {lo hi : Nat} {evs : List Ev} (h : J false true lo hi evs) (n g : Bool) : J n g lo hi evs :=
  h.weaken n g (by intro h; cases h) (by simp)

theorem J.anyG {n : Bool} {lo hi : Nat} {evs : List Ev} (h : J n true lo hi evs) (g : Bool) : J n g lo hi evs :=
  h.weaken _ _ id (by simp)

theorem J.addPop {g : Bool} {nm : String} {lo hi : Nat} : J true g lo hi [.add nm lo hi, .pop] :=
  (J.consT1 J.addG J.pop).anyG g

theorem J.lineAdd {n g : Bool} {nm : String} {lo hi l : Nat} (h : InR lo hi l) : J n g lo hi [.setLine l, .add nm lo hi] :=
  (J.consT2 (J.setLineG h) J.addG).anyG g

example (lo hi : Nat) (sp : Span) (h : InR lo hi sp.startLine) (x : List Ev) (hx : ∀ n g, J n g lo hi x) :
    J false true lo hi ([.push sp] ++ x ++ [.add "GetAttr" lo hi, .pop]) :=
  J.seqT2 (J.seqF (J.pushG _ h) (hx _ _)) J.addPop

theorem J.blockArm {n g : Bool} {lo hi l : Nat} {body : List Ev} (nm nm2 : String) (hl : InR lo hi l)
    (hb : J true false lo hi body) :
    J n g lo hi ([.setLine l, .blockBegin nm] ++ body ++ [.blockEnd, .add nm2 lo hi]) :=
  J.all (J.consT2 (J.setLineG hl) (J.block nm hb J.addG)) n g

theorem J.ite {n g : Bool} {lo hi : Nat} {c : Prop} [Decidable c] {a b : List Ev} (ha : c → J n g lo hi a)
    (hb : ¬c → J n g lo hi b) : J n g lo hi (if c then a else b) := by
  split
  · exact ha ‹_›
  · exact hb ‹_›

theorem J.optAdd {c : Prop} [Decidable c] {nm : String} {lo hi : Nat} :
    J true false lo hi (if c then [.add nm lo hi] else []) :=
  J.ite (fun _ => J.addG) (fun _ => J.nil)

theorem J.emitCompare {g : Bool} {op : String} {lo hi : Nat} : J true g lo hi (emitCompare op lo hi) := by
  unfold MJ.LocAst.emitCompare
  split
  · exact (J.consT1 J.addG J.addG).anyG g
  · exact J.addG

theorem J.startFor {g : Bool} {lo hi : Nat} : J true g lo hi (startFor lo hi) :=
  (J.consT1 J.addG J.addG).anyG g

theorem J.endFor {g p : Bool} {lo hi : Nat} : J true g lo hi (endFor p lo hi) := by
  unfold MJ.LocAst.endFor
  exact (J.seqT2 (J.seqF J.addG J.optAdd) J.addG).anyG g

theorem J.leaveScopes {lo hi : Nat} {ctx : List Pend} : J true false lo hi (leaveScopes lo hi ctx) := by
  induction ctx with
  | nil => exact J.nil
  | cons p r ih =>
    cases p
    · exact J.nil
    · exact J.seqF (a := [_]) J.addG ih
    · exact J.seqF (a := [_, _]) (J.consF J.addG J.addG) ih
    · exact J.seqF (a := [_]) J.addG ih

theorem J.replicateAdd {nm : String} {lo hi k : Nat} : J true false lo hi (List.replicate k (.add nm lo hi)) := by
  induction k with
  | zero => exact J.nil
  | succ k ih => exact J.seqF (a := [_]) J.addG ih

/-- what `cCallBody` is given for the caller macro of a call block: it only emits correct lines -/
def CallerOk (c : Option (List Ev)) : Prop :=
  ∀ evs, c = some evs → ∀ s, OutOk (execL s evs).2 ∧ (execL s evs).1.saved = s.saved

theorem callerOk_none : CallerOk none := nofun

theorem J.callerPart {lo hi l : Nat} {evs rest : List Ev} (nm : String)
    (hc : ∀ s, OutOk (execL s evs).2 ∧ (execL s evs).1.saved = s.saved) (hl : InR lo hi l)
    (hr : J true true lo hi rest) : J true true lo hi (([.add nm lo hi] ++ evs ++ [.setLine l]) ++ rest) := by
  intro s hs
  rw [execL_append, execL_append, execL_append]
  simp only [execL_cons, execL_nil, stepL, List.append_nil]
  obtain ⟨c1, c2⟩ := hc { s with prev := some s.cur }
  obtain ⟨r1, r2, _, r4, r5⟩ := hr { (execL { s with prev := some s.cur } evs).1 with cur := l } (fun _ => hl)
  exact ⟨OutOk_append (OutOk_append (OutOk_one nm (hs rfl)) c1) r1, r2, Or.inr (r4 rfl), fun _ => r4 rfl, r5.trans c2⟩

theorem J.kwBuild {g : Bool} {lo hi pk nb : Nat} : J true g lo hi (kwBuild lo hi pk nb) :=
  J.ite (fun _ => (J.seqT2 J.optAdd J.addG).anyG g) (fun _ => J.addG)

theorem J.argsList {lo hi p b : Nat} : J true false lo hi (argsList lo hi p b) :=
  J.ite (fun _ => J.seqF J.optAdd J.addG) (fun _ => J.nil)

theorem J.argsKw {lo hi l : Nat} (args : List Node) (c : Option (List Ev)) (hc : CallerOk c) (hl : InR lo hi l) :
    J true false lo hi (argsKw lo hi l args c) := by
  refine J.ite (fun _ => J.nil) (fun _ => J.ite (fun _ => J.addG) (fun _ => ?_))
  cases c with
  | none => exact J.kwBuild
  | some evs => exact (J.callerPart _ (hc evs rfl) hl J.kwBuild).anyG _

theorem J.argsTail {lo hi l : Nat} (extra : Nat) (args : List Node) (c : Option (List Ev)) (hc : CallerOk c)
    (hl : InR lo hi l) : J true false lo hi (argsTail lo hi l extra args c) :=
  J.seqF (J.argsKw args c hc hl) J.argsList

def WFs (LO HI : Nat) (l : List Node) : Prop := ∀ n ∈ l, wf n = true ∧ LO ≤ n.lo ∧ n.hi ≤ HI

theorem wfKids_WFs {lo hi : Nat} {l : List Node} (h : wfKids lo hi l = true) : WFs lo hi l := by
  induction l with
  | nil => intro n hn; cases hn
  | cons a r ih =>
    unfold wfKids at h
    simp only [Bool.and_eq_true, decide_eq_true_eq] at h
    intro n hn
    rcases List.mem_cons.mp hn with rfl | hn
    · exact ⟨h.1.2, h.1.1.1, h.1.1.2⟩
    · exact ih h.2 n hn

theorem wf_mk {kind : Kind} {sp : Span} {flag : Bool} {name : String} {num lo hi : Nat} {kids : List Node}
    (h : wf (.mk kind sp flag name num lo hi kids) = true) :
    (mustAnchor (.mk kind sp flag name num lo hi []) = true → InR lo hi sp.startLine) ∧
      (kind = .const → flag = true) ∧ shapeOk kind kids = true ∧ WFs lo hi kids := by
  unfold wf at h
  simp only [Bool.and_eq_true, decide_eq_true_eq, Bool.or_eq_true, Bool.not_eq_true', bne_iff_ne, ne_eq] at h
  obtain ⟨⟨⟨⟨-, h2⟩, h3⟩, h4⟩, h5⟩ := h
  refine ⟨?_, ?_, h4, wfKids_WFs h5⟩
  · intro hm
    rcases h2 with h2 | h2
    · rw [hm] at h2; cases h2
    · exact h2
  · intro hk
    rcases h3 with h3 | h3
    · exact absurd hk h3
    · exact h3

theorem wf_anchor {n : Node} (hw : wf n = true) (hm : mustAnchor n = true) : InR n.lo n.hi n.sp.startLine := by
  cases n with
  | mk kind sp flag name num lo hi kids =>
    -- `mustAnchor` does not look at the kids
    exact (wf_mk hw).1 hm

theorem mustAnchor_var {n : Node} (h : n.kind = .var) : mustAnchor n = true := by
  cases n
  cases h
  rfl

theorem WFs.mono {LO HI lo hi : Nat} {l : List Node} (h : WFs lo hi l) (h1 : LO ≤ lo) (h2 : hi ≤ HI) : WFs LO HI l := by
  intro n hn
  obtain ⟨a, b, c⟩ := h n hn
  exact ⟨a, by omega, by omega⟩

theorem WFs.tail {LO HI : Nat} {a : Node} {l : List Node} (h : WFs LO HI (a :: l)) : WFs LO HI l :=
  fun n hn => h n (List.mem_cons_of_mem _ hn)

theorem InR.mono {lo hi LO HI x : Nat} (h : InR lo hi x) (h1 : LO ≤ lo) (h2 : hi ≤ HI) : InR LO HI x :=
  ⟨Nat.le_trans h1 h.1, Nat.le_trans h.2 h2⟩

theorem WFs.anchor {LO HI : Nat} {l : List Node} (hw : WFs LO HI l) {c : Node} (hc : c ∈ l) (hm : mustAnchor c = true) :
    InR LO HI c.sp.startLine :=
  (wf_anchor (hw c hc).1 hm).mono (hw c hc).2.1 (hw c hc).2.2

theorem WFs.kids {LO HI : Nat} {l : List Node} {h : Node} (hw : WFs LO HI l) (hh : h ∈ l) :
    WFs LO HI h.kids ∧ shapeOk h.kind h.kids = true := by
  obtain ⟨w, h1, h2⟩ := hw h hh
  cases h with
  | mk kind sp flag name num lo hi kids => exact ⟨(wf_mk w).2.2.2.mono h1 h2, (wf_mk w).2.2.1⟩

end MJ.LocAst
