import MJ.Proofs.LocTables
/-!
C14: the code generator's line / span-stack bookkeeping.
-/
namespace MJ.Loc
open MJ

/-- the `Instructions`-level add that `CodeGenerator::add` performs in a given state -/
def addOf (line : Nat) (stack : List Span) : Add :=
  match stack with
  | sp :: _ => if sp.startLine = line then .withSpan sp else .withLine line
  | [] => .withLine line

theorem lineStep_addOf (acc : Option Nat) (l : Nat) (st : List Span) : lineStep acc (addOf l st) = some l := by
  unfold addOf
  cases st with
  | nil => rfl
  | cons sp tl =>
    simp only []
    split
    · exact congrArg some ‹sp.startLine = l›
    · rfl

theorem spanStep_addOf (acc : Option Span) (l : Nat) (st : List Span) :
    spanStep acc (addOf l st) = match st with
      | sp :: _ => if sp.startLine = l then sp.nonDefault else none
      | [] => none := by
  unfold addOf
  cases st with
  | nil => rfl
  | cons sp tl => simp only []; split <;> rfl

/-- the sequence of `Instructions`-level adds a script performs from a given line and span stack -/
def cgAdds : Nat → List Span → List CgOp → List Add
  | _, _, [] => []
  | _, st, .setLine l :: ops => cgAdds l st ops
  | _, st, .pushSpan sp :: ops => cgAdds sp.startLine (sp :: st) ops
  | l, st, .popSpan :: ops => cgAdds l st.tail ops
  | l, st, .add :: ops => addOf l st :: cgAdds l st ops
  | l, st, .addWithSpan sp :: ops => .withSpan sp :: cgAdds l st ops

/-- the line in force after a script: the one set by its last `set_line` / `push_span` -/
def lineAfter : List CgOp → Nat → Nat
  | [], l => l
  | .setLine l :: ops, _ => lineAfter ops l
  | .pushSpan sp :: ops, _ => lineAfter ops sp.startLine
  | _ :: ops, l => lineAfter ops l

/-- scripts whose `push_span` / `pop_span` calls are properly nested -/
inductive Balanced : List CgOp → Prop where
  | nil : Balanced []
  | setLine (l : Nat) {ops : List CgOp} : Balanced ops → Balanced (.setLine l :: ops)
  | add {ops : List CgOp} : Balanced ops → Balanced (.add :: ops)
  | addWithSpan (sp : Span) {ops : List CgOp} : Balanced ops → Balanced (.addWithSpan sp :: ops)
  | nest (sp : Span) {inner rest : List CgOp} : Balanced inner → Balanced rest →
      Balanced (.pushSpan sp :: inner ++ .popSpan :: rest)

theorem Cg.add_eq (c : Cg) : c.add = { c with instrs := c.instrs.apply (addOf c.currentLine c.spanStack) } := by
  unfold Cg.add addOf
  cases c.spanStack with
  | nil => rfl
  | cons sp st => simp only []; split <;> rfl

theorem cgRun_append (a b : List CgOp) (c : Cg) : cgRun (a ++ b) c = cgRun b (cgRun a c) := by
  simp [cgRun, List.foldl_append]

theorem cgRun_fields (ops : List CgOp) :
    ∀ c : Cg, (cgRun ops c).currentLine = lineAfter ops c.currentLine ∧
      (cgRun ops c).instrs = (cgAdds c.currentLine c.spanStack ops).foldl Instrs.apply c.instrs := by
  induction ops with
  | nil => intro c; simp [cgRun, lineAfter, cgAdds]
  | cons op ops ih =>
    intro c
    have hstep : cgRun (op :: ops) c = cgRun ops (c.step op) := rfl
    rw [hstep]
    obtain ⟨h1, h2⟩ := ih (c.step op)
    rw [h1, h2]
    cases op with
    | setLine l => simp [Cg.step, lineAfter, cgAdds]
    | pushSpan sp => simp [Cg.step, lineAfter, cgAdds]
    | popSpan => simp [Cg.step, lineAfter, cgAdds]
    | add => simp [Cg.step, Cg.add_eq, lineAfter, cgAdds]
    | addWithSpan sp => simp [Cg.step, lineAfter, cgAdds, Instrs.apply]

theorem cgRun_stack_balanced (ops : List CgOp) (h : Balanced ops) :
    ∀ c : Cg, (cgRun ops c).spanStack = c.spanStack := by
  induction h with
  | nil => intro c; rfl
  | setLine l _ ih => intro c; exact ih (c.step (.setLine l))
  | add _ ih =>
    intro c
    have : (c.step .add).spanStack = c.spanStack := by simp [Cg.step, Cg.add_eq]
    rw [← this]; exact ih (c.step .add)
  | addWithSpan sp _ ih => intro c; exact ih (c.step (.addWithSpan sp))
  | nest sp _ _ ih1 ih2 =>
    intro c
    have e : ∀ (inner rest : List CgOp), cgRun (CgOp.pushSpan sp :: inner ++ CgOp.popSpan :: rest) c =
        cgRun rest ((cgRun inner (c.step (.pushSpan sp))).step .popSpan) := by
      intro inner rest
      show cgRun (inner ++ CgOp.popSpan :: rest) (c.step (.pushSpan sp)) = _
      rw [cgRun_append]; rfl
    rw [e, ih2]
    simp only [Cg.step]
    rw [ih1]
    rfl

theorem cgAdds_length_le (ops : List CgOp) : ∀ l st, (cgAdds l st ops).length ≤ ops.length := by
  induction ops with
  | nil => intro l st; simp [cgAdds]
  | cons op ops ih =>
    intro l st
    cases op with
    | setLine _ | pushSpan _ | popSpan => exact Nat.le_succ_of_le (ih _ _)
    | add | addWithSpan _ => exact Nat.succ_le_succ (ih _ _)

theorem cgRun_new_instrs (ops : List CgOp) : (cgRun ops Cg.new).instrs = addAll (cgAdds 0 [] ops) := by
  rw [(cgRun_fields ops Cg.new).2]; rfl

end MJ.Loc
