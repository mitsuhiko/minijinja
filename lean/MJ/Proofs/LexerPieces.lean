import MJ.Proofs.LexerTok
/-! The token texts `scanPieces` records are a partition of what `tokenize_block_or_var` reads: no
character is lost or invented (`tokens_concat_verbatim` in `Props/C10.lean`). -/
namespace MJ.Lexer

theorem scanPieces_snd (e : List Char) (line : Bool) (s : List Char) (m : Mode) (bal : Int) (cur : List Char) :
    (scanPieces e line m bal s cur).2 = scanTag e line m bal s := by
  fun_induction scanPieces e line m bal s cur with
  | case1 => rfl
  | case2 _ _ _ _ _ _ h => rw [scanTag_done h]
  | case3 _ _ _ _ _ _ _ h _ _ ih => rw [scanTag_goto h]; exact ih
  | case4 _ _ _ _ _ _ _ _ h _ ih => rw [scanTag_goto2 h]; exact ih
  | case5 _ _ _ _ _ _ h => rw [scanTag_goto2_nil h]

theorem piecesSrc_append (a b : List Piece) : piecesSrc (a ++ b) = piecesSrc a ++ piecesSrc b := by
  simp [piecesSrc]

theorem piecesSrc_closeCur (cur : List Char) : piecesSrc (closeCur cur) = cur.reverse := by
  unfold closeCur piecesSrc
  cases cur <;> simp [Piece.src]

/-- one step of bookkeeping keeps every character: what was read so far plus the characters of this
    step = the complete pieces plus the token that is being read -/
theorem pieceUpd_src (m : Mode) (c : Char) (r : List Char) (m' : Mode) (two : Bool) (cur : List Char) :
    piecesSrc (pieceUpd m c r m' two cur).1 ++ (pieceUpd m c r m' two cur).2.reverse =
      cur.reverse ++ (if two then c :: r.take 1 else [c]) := by
  unfold pieceUpd
  generalize (if two then c :: r.take 1 else [c]) = cs
  have hx : piecesSrc [if isAsciiWs c then Piece.blank cs else Piece.tok cs] = cs := by
    split <;> simp [piecesSrc, Piece.src]
  -- a token ends (or none was being read): the text read so far is closed
  have hclose : ∀ p : List Piece × List Char,
      p = (if m' = Mode.top then (closeCur cur ++ [if isAsciiWs c then Piece.blank cs else Piece.tok cs], [])
        else (closeCur cur, cs.reverse)) → piecesSrc p.1 ++ p.2.reverse = cur.reverse ++ cs := by
    rintro p rfl
    split
    · rw [piecesSrc_append, piecesSrc_closeCur, hx]; simp
    · rw [piecesSrc_closeCur]; simp
  cases tokCont m c r with
  | go _ => simp only []; split <;> simp [piecesSrc, Piece.src]
  | boundary => exact hclose _ rfl
  | fail _ => exact hclose _ rfl

/-- a token that cannot continue is an error (or outside the model), never the end of the tag -/
theorem tokCont_fail {m : Mode} {c : Char} {r : List Char} {res : ScanRes} (h : tokCont m c r = .fail res) :
    res = .error ∨ res = .unsupported := by
  revert h
  fun_cases tokCont m c r <;> intro h <;> cases h <;> simp

theorem dispatch_cases (bal : Int) (c : Char) (r : List Char) :
    (∃ m b t, dispatch bal c r = .goto m b t) ∨ dispatch bal c r = .done .unsupported ∨
      dispatch bal c r = .done .error := by
  unfold dispatch
  cases isTwo c r with
  | true => exact Or.inl ⟨_, _, _, rfl⟩
  | false =>
    cases singleOp c with
    | some dl => exact Or.inl ⟨_, _, _, rfl⟩
    | none =>
      cases (decide (c = '\'') || decide (c = '"')) with
      | true => exact Or.inl ⟨_, _, _, rfl⟩
      | false =>
        cases isDigit c with
        | true => cases radixPrefix c r <;> exact Or.inl ⟨_, _, _, rfl⟩
        | false =>
          cases isIdentStart c with
          | true => exact Or.inl ⟨_, _, _, rfl⟩
          | false =>
            by_cases h : c.toNat ≥ 128
            · exact Or.inr (Or.inl (if_pos h))
            · exact Or.inr (Or.inr (if_neg h))

theorem dispatch_ne_found (bal : Int) (c : Char) (r rest : List Char) (ws : Ws) :
    dispatch bal c r ≠ .done (.found rest ws) := by
  rcases dispatch_cases bal c r with ⟨m, b, t, h⟩ | h | h <;> rw [h] <;> nofun

/-- where `topStep` finds the end of an ordinary tag, the input reads: marker, end delimiter, rest -/
theorem topStep_found {e : List Char} {bal : Int} {c : Char} {r rest : List Char} {ws : Ws}
    (h : topStep e false bal c r = .done (.found rest ws)) : c :: r = ws.src ++ (e ++ rest) := by
  revert h
  fun_cases topStep e false bal c r with
  | case1 rest' hl => cases hl
  | case2 => nofun
  | case3 _ _ hm =>
    intro h; cases h
    simp only [Bool.not_false, Bool.true_and, Bool.and_eq_true, Bool.or_eq_true, decide_eq_true_eq] at hm
    obtain ⟨x, hx⟩ := (startsWith_iff e r).1 hm.2
    rcases hm.1.2 with rfl | rfl <;> simp [Ws.src, hx]
  | case4 _ _ _ hm =>
    intro h; cases h
    simp only [Bool.not_false, Bool.true_and, Bool.and_eq_true] at hm
    obtain ⟨x, hx⟩ := (startsWith_iff e (c :: r)).1 hm.2
    simp [Ws.src, hx]
  | case5 => exact fun h => absurd h (dispatch_ne_found bal c r rest ws)

/-- only `topStep` ends a tag -/
theorem scanStep_found {e : List Char} {m : Mode} {bal : Int} {c : Char} {r rest : List Char} {ws : Ws}
    (h : scanStep e false m bal c r = .done (.found rest ws)) : c :: r = ws.src ++ (e ++ rest) := by
  unfold scanStep at h
  split at h
  · cases h
  · rename_i hf
    cases h
    rcases tokCont_fail hf with h | h <;> cases h
  · exact topStep_found h

/-- **no character is lost or invented**: behind an ordinary tag's start the lexer's pieces (tokens
    and skipped blanks), concatenated in order, followed by the marker and the end delimiter,
    followed by what it leaves unread, are the input -/
theorem scanPieces_concat (e : List Char) (s : List Char) (m : Mode) (bal : Int) (cur : List Char) (rest : List Char)
    (ws : Ws) (h : (scanPieces e false m bal s cur).2 = .found rest ws) :
    cur.reverse ++ s = piecesSrc (scanPieces e false m bal s cur).1 ++ (ws.src ++ (e ++ rest)) := by
  fun_induction scanPieces e false m bal s cur with
  | case1 m _ cur =>
    simp only [scanEof] at h
    cases m <;> simp at h
    all_goals (split at h <;> cases h)
  | case2 _ _ _ _ _ _ hs =>
    cases h
    rw [piecesSrc_closeCur, scanStep_found hs]
  | case3 m _ c r cur m' _ _ u t ih =>
    have hu := pieceUpd_src m c r m' false cur
    simp only [Bool.false_eq_true, if_false] at hu
    rw [piecesSrc_append, List.append_assoc, ← ih h, ← List.append_assoc, hu, List.append_assoc]
    rfl
  | case4 m _ c cur m' _ c2 r2 _ u ih =>
    have hu := pieceUpd_src m c (c2 :: r2) m' true cur
    simp only [if_true, List.take_succ_cons, List.take_zero] at hu
    rw [piecesSrc_append, List.append_assoc, ← ih h, ← List.append_assoc, hu, List.append_assoc]
    rfl
  | case5 => cases h

end MJ.Lexer
