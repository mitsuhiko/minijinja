import MJ.Proofs.LocAdvance
/-!
C14: the tokenizer state along any script, the spans it can create, and
the effect of a prefix of whole lines.
-/
namespace MJ.Loc
open MJ

/-- the tokenizer has consumed exactly the prefix `p` of `src` -/
structure At (src : List Char) (t : Tok) (p : List Char) : Prop where
  split : src = p ++ t.rest
  pos : (t.line, t.col) = posOf p
  off : t.offset = utf8Len p

theorem At.new (src : List Char) : At src (Tok.new src) [] := ⟨rfl, rfl, rfl⟩

theorem At.line {src : List Char} {t : Tok} {p : List Char} (h : At src t p) : t.line = (posOf p).1 :=
  congrArg Prod.fst h.pos

theorem At.col {src : List Char} {t : Tok} {p : List Char} (h : At src t p) : t.col = (posOf p).2 :=
  congrArg Prod.snd h.pos

/-- what a split of the source says in terms of indexes (`locAt`, `spanAt` count characters) -/
theorem split_index {src p r : List Char} (h : src = p ++ r) :
    p.length ≤ src.length ∧ src.take p.length = p ∧ src.drop p.length = r := by
  subst h
  -- not through `List.take_add`, which rests on `Classical.choice`: `run_good` does without it
  exact ⟨by rw [List.length_append]; omega, List.take_left' rfl, List.drop_left' rfl⟩

theorem At.le {src : List Char} {t : Tok} {p : List Char} (h : At src t p) : p.length ≤ src.length :=
  (split_index h.split).1

theorem At.take {src : List Char} {t : Tok} {p : List Char} (h : At src t p) : src.take p.length = p :=
  (split_index h.split).2.1

theorem At.rest {src : List Char} {t : Tok} {p : List Char} (h : At src t p) : t.rest = src.drop p.length :=
  (split_index h.split).2.2.symm

theorem usize_ok (x : Nat) (h : x < 18446744073709551616) : usize x = .ok x := by
  unfold usize; rw [if_pos h]

theorem usize_inv (x y : Nat) (h : usize x = .ok y) : y = x := by
  unfold usize at h
  split at h
  · injection h with h; exact h.symm
  · cases h

theorem advance_inv (t t' : Tok) (n : Nat) (ha : t.advance n = .ok t') :
    advanceGo t.rest n (t.line, t.col) = some (t'.rest, (t'.line, t'.col)) ∧ t'.offset = t.offset + n := by
  revert ha
  fun_cases Tok.advance t n <;> intro ha <;> cases ha
  rename_i hgo _ hu
  exact ⟨hgo, usize_inv _ _ hu⟩

/-- a successful `advance` consumed a whole number of further characters -/
theorem advance_at (src : List Char) (t t' : Tok) (p : List Char) (n : Nat) (h : At src t p)
    (ha : t.advance n = .ok t') : ∃ q, At src t' (p ++ q) ∧ utf8Len q = n := by
  obtain ⟨hgo, hoff⟩ := advance_inv t t' n ha
  obtain ⟨q, hq, hl, hlc⟩ := advanceGo_spec _ _ _ _ _ hgo
  exact ⟨q, ⟨by rw [h.split, hq, List.append_assoc], by rw [posOf_append, ← h.pos, hlc],
    by rw [utf8Len_append, ← h.off, hoff, hl]⟩, hl⟩

/-- `advance` succeeds when it is asked to stop after further whole characters `q` of the source -/
theorem advance_ok_of_split (src : List Char) (t : Tok) (p q r : List Char) (h : At src t p) (hr : t.rest = q ++ r)
    (hsz : utf8Len src < 18446744073709551616) : ∃ t', t.advance (utf8Len q) = .ok t' ∧ At src t' (p ++ q) := by
  have hb : utf8Len src = utf8Len p + utf8Len q + utf8Len r := by
    rw [h.split, hr, utf8Len_append, utf8Len_append]; omega
  refine ⟨⟨r, (q.foldl stepChar (t.line, t.col)).1, (q.foldl stepChar (t.line, t.col)).2, t.offset + utf8Len q⟩, ?_,
    ⟨by rw [h.split, hr, List.append_assoc], by rw [posOf_append, ← h.pos], by rw [utf8Len_append, ← h.off]⟩⟩
  unfold Tok.advance
  rw [hr, advanceGo_prefix]
  simp only []
  rw [usize_ok _ (by rw [h.off]; omega)]

/-- `loc()` when `k` characters are consumed -/
def locAt (src : List Char) (k : Nat) : Loc :=
  ⟨(posOf (src.take k)).1, (posOf (src.take k)).2, utf8Len (src.take k)⟩

/-- the span of a token that covers characters `a .. b` -/
def spanAt (src : List Char) (a b : Nat) : Span :=
  ⟨(locAt src a).line, (locAt src a).col, (locAt src a).offset,
   (locAt src b).line, (locAt src b).col, (locAt src b).offset⟩

/-- the span of a syntax error raised when `a` characters are consumed: the next character (if
    any), one column wide -/
def errSpanAt (src : List Char) (a : Nat) : Span :=
  ⟨(locAt src a).line, (locAt src a).col, (locAt src a).offset,
   (locAt src a).line, satInc (locAt src a).col, (locAt src (min (a + 1) src.length)).offset⟩

inductive GoodSpan (src : List Char) (s : Span) : Prop where
  | token (a b : Nat) (hab : a ≤ b) (hb : b ≤ src.length) (h : s = spanAt src a b)
  | error (a : Nat) (ha : a ≤ src.length) (h : s = errSpanAt src a)

theorem asU32_of_lt (x : Nat) (h : x < 4294967296) : asU32 x = x := Nat.mod_eq_of_lt h

theorem At.loc_eq {src : List Char} {t : Tok} {p : List Char} (h : At src t p) (hsz : utf8Len src < 4294967296) :
    t.loc = locAt src p.length := by
  have := utf8Len_take_le src p.length
  rw [h.take] at this
  simp [Tok.loc, locAt, h.take, h.line, h.col, h.off, asU32_of_lt _ (by omega : utf8Len p < 4294967296)]

theorem utf8Len_take_succ (src : List Char) (k : Nat) :
    utf8Len (src.take (min (k + 1) src.length)) = utf8Len (src.take k) + nextCharLen (src.drop k) := by
  induction src generalizing k with
  | nil => simp [utf8Len, nextCharLen]
  | cons c cs ih =>
    cases k with
    | zero => simp [utf8Len, nextCharLen]
    | succ k =>
      have := ih k
      simp only [List.length_cons, List.take_succ_cons, utf8Len, List.drop_succ_cons] at this ⊢
      have hmin : min (k + 1 + 1) (cs.length + 1) = (min (k + 1) cs.length) + 1 := by omega
      rw [hmin, List.take_succ_cons, utf8Len, this]; omega

theorem nextCharLen_le (cs : List Char) : nextCharLen cs ≤ 4 ∧ nextCharLen cs ≤ utf8Len cs := by
  cases cs with
  | nil => simp [nextCharLen]
  | cons c cs => simp [nextCharLen, utf8Len]; exact Char.utf8Size_le_four c

/-- while the offsets fit `u32` the casts in `syntax_error` are exact -/
theorem Tok.syntaxError_ok (t : Tok) (h : t.offset + nextCharLen t.rest < 4294967296) :
    t.syntaxError = .ok ⟨t.line, t.col, t.offset, t.line, satInc t.col, t.offset + nextCharLen t.rest⟩ := by
  unfold Tok.syntaxError
  simp only [Tok.span, Tok.loc, if_true, asU32_of_lt _ (by omega : t.offset < 4294967296),
    asU32_of_lt _ (by omega : nextCharLen t.rest < 4294967296)]
  unfold u32
  rw [if_pos h]

theorem At.syntaxError_eq {src : List Char} {t : Tok} {p : List Char} (h : At src t p)
    (hsz : utf8Len src < 4294967296) : t.syntaxError = .ok (errSpanAt src p.length) := by
  have hs := utf8Len_take_succ src p.length
  have hb := utf8Len_take_le src (min (p.length + 1) src.length)
  rw [h.take, ← h.rest] at hs
  rw [t.syntaxError_ok (by rw [h.off]; omega), h.off, ← hs, h.line, h.col, errSpanAt, locAt, locAt, h.take]

theorem Tok.span_eq (t : Tok) (m : Loc) : t.span m = ⟨m.line, m.col, m.offset, t.loc.line, t.loc.col, t.loc.offset⟩ := rfl

theorem At.span_eq {src : List Char} {t : Tok} {p : List Char} {km : Nat} (h : At src t p)
    (hsz : utf8Len src < 4294967296) : t.span (locAt src km) = spanAt src km p.length := by
  rw [Tok.span_eq, h.loc_eq hsz]
  rfl

/-- every span produced by any script is the span of a token `a .. b` or of a syntax error at `a` -/
theorem run_good (src : List Char) (hsz : utf8Len src < 4294967296) (ops : List Op) :
    ∀ (t : Tok) (p : List Char) (km : Nat) (spans : List Span), At src t p → km ≤ p.length →
      run t (locAt src km) ops = .ok spans → ∀ s ∈ spans, GoodSpan src s := by
  induction ops with
  | nil => intro t p km spans _ _ h; simp [run] at h; subst h; simp
  | cons op ops ih =>
    intro t p km spans hat hkm h
    cases op with
    | adv n =>
      simp only [run] at h
      split at h
      · cases h
      · rename_i t' ha
        obtain ⟨q, hat', _⟩ := advance_at src t t' p n hat ha
        exact ih t' (p ++ q) km spans hat' (by rw [List.length_append]; omega) h
    | mark =>
      simp only [run] at h
      rw [hat.loc_eq hsz] at h
      exact ih t p p.length spans hat (Nat.le_refl _) h
    | emit =>
      simp only [run] at h
      split at h
      · cases h
      · rename_i ss hss
        injection h with h
        subst h
        intro s hs
        rcases List.mem_cons.mp hs with rfl | hs
        · exact .token km p.length hkm hat.le (hat.span_eq hsz)
        · exact ih t p km ss hat hkm hss s hs
    | err =>
      simp only [run] at h
      rw [hat.syntaxError_eq hsz] at h
      injection h with h
      subst h
      intro s hs
      simp at hs
      exact .error p.length hat.le hs

theorem run_mark_good (src : List Char) (hsz : utf8Len src < 4294967296) (ops : List Op) (m0 : Loc) (spans : List Span)
    (h : run (Tok.new src) m0 (.mark :: ops) = .ok spans) : ∀ s ∈ spans, GoodSpan src s := by
  simp only [run] at h
  rw [(At.new src).loc_eq hsz] at h
  exact run_good src hsz ops (Tok.new src) [] 0 spans (At.new src) (Nat.le_refl _) h

def shiftLoc (N B : Nat) (m : Loc) : Loc := ⟨m.line + N, m.col, m.offset + B⟩

def shiftSpan (N B : Nat) (s : Span) : Span :=
  ⟨s.startLine + N, s.startCol, s.startOffset + B, s.endLine + N, s.endCol, s.endOffset + B⟩

def mapChk {α β : Type} (f : α → β) : Chk α → Chk β
  | .panic => .panic
  | .ok a => .ok (f a)

theorem advanceGo_shift (cs : List Char) (n l c N : Nat) (h : l + N + cs.count '\n' ≤ 65535) :
    advanceGo cs n (l + N, c) =
      (advanceGo cs n (l, c)).map (fun r => (r.1, (r.2.1 + N, r.2.2))) := by
  induction cs generalizing n l c with
  | nil => cases n <;> simp [advanceGo]
  | cons ch cs ih =>
    cases n with
    | zero => simp [advanceGo]
    | succ n =>
      simp only [advanceGo]
      split
      · by_cases hch : ch = '\n'
        · subst hch
          simp only [List.count_cons_self] at h
          have h1 : satInc (l + N) = satInc l + N := by unfold satInc; split <;> split <;> omega
          rw [stepChar_nl, stepChar_nl, h1]
          exact ih _ _ _ (by have := satInc_le l; omega)
        · rw [stepChar_of_ne hch, stepChar_of_ne hch]
          rw [List.count_cons_of_ne hch] at h
          exact ih _ _ _ h
      · simp

/-- the two tokenizers (on `src` and on `P ++ src` after the prefix) move in lock step -/
structure Sim (N B : Nat) (t t' : Tok) : Prop where
  rest : t'.rest = t.rest
  line : t'.line = t.line + N
  col : t'.col = t.col
  off : t'.offset = t.offset + B
  lines : t.line + N + t.rest.count '\n' ≤ 65535
  bytes : t.offset + B + utf8Len t.rest < 4294967296

theorem advance_sim (N B : Nat) (t t' : Tok) (n : Nat) (h : Sim N B t t') :
    (t.advance n = .panic ∧ t'.advance n = .panic) ∨
    (∃ u u', t.advance n = .ok u ∧ t'.advance n = .ok u' ∧ Sim N B u u') := by
  unfold Tok.advance
  rw [h.rest, h.line, h.col, advanceGo_shift _ _ _ _ _ h.lines]
  cases hgo : advanceGo t.rest n (t.line, t.col) with
  | none => left; simp
  | some r =>
    obtain ⟨rest, lc⟩ := r
    obtain ⟨p, hp, hl, hlc⟩ := advanceGo_spec _ _ _ _ _ hgo
    have hb := h.bytes
    rw [hp, utf8Len_append, hl] at hb
    have hc := h.lines
    rw [hp, List.count_append] at hc
    have hle := foldl_stepChar_line_le p t.line t.col
    rw [← hlc] at hle
    right
    simp only [Option.map_some, h.off]
    rw [usize_ok _ (by omega), usize_ok _ (by omega)]
    refine ⟨_, _, rfl, rfl, ⟨rfl, rfl, rfl, by simp; omega, by simp; omega, by simp; omega⟩⟩

theorem Sim.loc {N B : Nat} {t t' : Tok} (h : Sim N B t t') : t'.loc = shiftLoc N B t.loc := by
  have hb := h.bytes
  simp [Tok.loc, shiftLoc, h.line, h.col, h.off, asU32_of_lt _ (by omega : t.offset + B < 4294967296),
    asU32_of_lt _ (by omega : t.offset < 4294967296)]

theorem Sim.span {N B : Nat} {t t' : Tok} (h : Sim N B t t') (m : Loc) :
    t'.span (shiftLoc N B m) = shiftSpan N B (t.span m) := by
  rw [Tok.span_eq, h.loc]
  rfl

theorem Sim.syntaxError {N B : Nat} {t t' : Tok} (h : Sim N B t t') :
    t'.syntaxError = mapChk (shiftSpan N B) t.syntaxError := by
  have hb := h.bytes
  have hn := nextCharLen_le t.rest
  rw [t'.syntaxError_ok (by rw [h.rest, h.off]; omega), t.syntaxError_ok (by omega), h.rest, h.line, h.col, h.off]
  simp only [mapChk, shiftSpan]
  congr 2
  omega

theorem run_sim (N B : Nat) (ops : List Op) :
    ∀ (t t' : Tok) (m : Loc), Sim N B t t' →
      run t' (shiftLoc N B m) ops = mapChk (List.map (shiftSpan N B)) (run t m ops) := by
  induction ops with
  | nil => intro t t' m _; simp [run, mapChk]
  | cons op ops ih =>
    intro t t' m h
    cases op with
    | adv n =>
      simp only [run]
      rcases advance_sim N B t t' n h with ⟨h1, h2⟩ | ⟨u, u', h1, h2, hs⟩
      · rw [h1, h2]; rfl
      · rw [h1, h2]; exact ih u u' m hs
    | mark =>
      simp only [run]
      rw [h.loc]; exact ih t t' t.loc h
    | emit =>
      simp only [run]
      rw [ih t t' m h, h.span m]
      cases run t m ops <;> simp [mapChk]
    | err =>
      simp only [run]
      rw [h.syntaxError]
      cases t.syntaxError <;> simp [mapChk]

end MJ.Loc
