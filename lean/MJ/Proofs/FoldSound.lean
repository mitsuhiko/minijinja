import MJ.Model.Compile
import MJ.Proofs.EvalFrame
/-!
# Constant folding is sound (C03 stage 3)

`asConst e = .val v` implies that the reference semantics evaluates `e` to `v` in every
environment, unless the fuel runs out: `OkOrFuel r v`, which `>>=` keeps (`OkOrFuel.bind`), so that the
induction follows the arms of `evalExpr` (`asConst_sound_aux`, expressions and comparison chains together).
-/
namespace MJ.Compile
open MJ.Eval

/-- "the value `v`, unless the fuel runs out" -/
def OkOrFuel {α : Type} (r : Res α) (v : α) : Prop := r = .ok v ∨ r = .error .fuel

theorem OkOrFuel.of_eq {α : Type} {r : Res α} {a : α} (h : r = .ok a) : OkOrFuel r a := Or.inl h

theorem OkOrFuel.ok {α : Type} (a : α) : OkOrFuel (.ok a : Res α) a := .of_eq rfl

theorem OkOrFuel.bind {α β : Type} {x : Res α} {a : α} {f : α → Res β} {b : β} (hx : OkOrFuel x a)
    (hf : OkOrFuel (f a) b) : OkOrFuel (x >>= f) b := by
  rcases hx with rfl | rfl
  · exact hf
  · exact Or.inr rfl

theorem evalExpr_lit (n : Nat) (ctx : Scope) (heap : Heap) (stack : List Nat) (l : Lit) :
    OkOrFuel (evalExpr n ctx heap stack (.const l)) (litVal l) := by
  cases n <;> simp [evalExpr, OkOrFuel]

theorem evalList_const (ctx : Scope) (heap : Heap) (stack : List Nat) :
    ∀ (items : List Expr) (vs : List Val) (n : Nat), constItems items = some vs →
      OkOrFuel (evalList n ctx heap stack items) vs
  | _, _, 0, _ => Or.inr (by simp [evalList])
  | [], vs, _ + 1, h => by simp [constItems] at h; subst h; simp [evalList, OkOrFuel]
  | e :: rest, vs, n + 1, h => by
    cases e <;> simp [constItems] at h
    obtain ⟨ws, hws, rfl⟩ := h
    simp only [evalList]
    exact (evalExpr_lit ..).bind ((evalList_const ctx heap stack rest ws n hws).bind (.ok _))

theorem evalPairs_const (ctx : Scope) (heap : Heap) (stack : List Nat) :
    ∀ (kvs : List (Expr × Expr)) (ps : List (Val × Val)) (n : Nat), constPairs kvs = some ps →
      OkOrFuel (evalPairs n ctx heap stack kvs) ps
  | _, _, 0, _ => Or.inr (by simp [evalPairs])
  | [], ps, _ + 1, h => by simp [constPairs] at h; subst h; simp [evalPairs, OkOrFuel]
  | (k, v) :: rest, ps, n + 1, h => by
    cases k <;> cases v <;> simp [constPairs] at h
    obtain ⟨ws, hws, rfl⟩ := h
    simp only [evalPairs]
    exact (evalExpr_lit ..).bind ((evalExpr_lit ..).bind ((evalPairs_const ctx heap stack rest ws n hws).bind (.ok _)))

theorem ofRes_val {r : Res Val} {v : Val} (h : Fold.ofRes r = .val v) : r = .ok v := by
  cases r with
  | ok w => simp [Fold.ofRes] at h; simp [h]
  | error e => cases e <;> simp [Fold.ofRes] at h

theorem foldBinop_sound (op : BinOp) (a b v : Val) (hop : op ≠ .and) (hor : op ≠ .or)
    (h : foldBinop op a b = .val v) : binVal op a b = .ok v := by
  cases op <;> simp [foldBinop, binVal] at h ⊢ <;> first | exact ofRes_val h | (simp [h]) | contradiction

theorem asConst_sound_aux (ctx : Scope) (heap : Heap) (stack : List Nat) : ∀ n,
    (∀ e v, asConst e = .val v → OkOrFuel (evalExpr n ctx heap stack e) v) ∧
    (∀ a ops v, asConstChain a ops = .val v → OkOrFuel (evalChain n ctx heap stack a ops) v) := by
  intro n
  induction n with
  | zero => exact ⟨fun e v _ => Or.inr (by simp [evalExpr]), fun a ops v _ => Or.inr (by simp [evalChain])⟩
  | succ n ih =>
    obtain ⟨ihE, ihC⟩ := ih
    refine ⟨?_, ?_⟩
    · intro e v h
      cases e with
      | const l => simp [asConst] at h; subst h; exact evalExpr_lit ..
      | unop op x =>
        cases op with
        | not =>
          simp only [asConst] at h
          split at h
          · rename_i w hw
            cases h
            simp only [evalExpr]
            exact (ihE x w hw).bind (.ok _)
          · rename_i hx; exact absurd h (hx v)
        | neg =>
          simp only [asConst] at h
          split at h
          · rename_i w hw
            simp only [evalExpr]
            exact (ihE x w hw).bind (.of_eq (ofRes_val h))
          · rename_i hx; exact absurd h (hx v)
      | binop op l r =>
        simp only [asConst] at h
        split at h <;> try (simp at h)
        rename_i a b ha hb
        by_cases hop : op = .and
        · subst hop; simp [foldBinop] at h; subst h
          simp only [evalExpr]
          refine (ihE l a ha).bind ?_
          split
          · exact ihE r b hb
          · exact .ok a
        · by_cases hor : op = .or
          · subst hor; simp [foldBinop] at h; subst h
            simp only [evalExpr]
            refine (ihE l a ha).bind ?_
            split
            · exact .ok a
            · exact ihE r b hb
          · rw [evalExpr_binop hop hor]
            exact (ihE l a ha).bind ((ihE r b hb).bind (.of_eq (foldBinop_sound op a b v hop hor h)))
      | cmp x ops =>
        simp only [asConst] at h
        split at h
        · rename_i a ha
          simp only [evalExpr]
          exact (ihE x a ha).bind (ihC a ops v h)
        · rename_i hx; exact absurd h (hx v)
      | list items =>
        simp only [asConst] at h
        split at h <;> try (simp at h)
        rename_i vs hvs; subst h
        simp only [evalExpr]
        exact (evalList_const ctx heap stack items vs n hvs).bind (.ok _)
      | map kvs =>
        simp only [asConst] at h
        split at h <;> try (simp at h)
        rename_i ps hps
        obtain ⟨m, hm, rfl⟩ := map_ok.1 (ofRes_val h)
        simp only [evalExpr]
        exact (evalPairs_const ctx heap stack kvs ps n hps).bind ((OkOrFuel.of_eq hm).bind (.ok _))
      | _ => simp [asConst] at h
    · intro a ops v h
      cases ops with
      | nil => simp [asConstChain] at h; subst h; left; simp [evalChain]
      | cons o rest =>
        obtain ⟨op, e⟩ := o
        simp only [asConstChain] at h
        split at h
        · rename_i b hb
          simp only [evalChain]
          refine (ihE e b hb).bind ?_
          split at h
          · rename_i hcmp
            exact (OkOrFuel.of_eq hcmp).bind (ihC b rest v h)
          · rename_i hcmp
            cases h
            exact (OkOrFuel.of_eq hcmp).bind (.ok _)
          · simp at h
          · simp at h
        · rename_i hx; exact absurd h (hx v)

/-- **Constant folding is sound**: whenever `as_const` folds an expression to `v`, the reference
semantics gives `v` in every environment (or runs out of fuel). -/
theorem asConst_sound {e : Expr} {v : Val} (h : asConst e = .val v) (n : Nat) (ctx : Scope) (heap : Heap)
    (stack : List Nat) : OkOrFuel (evalExpr n ctx heap stack e) v :=
  (asConst_sound_aux ctx heap stack n).1 e v h

end MJ.Compile
