import MJ.Model.FoldCode
import MJ.Proofs.Fold
/-! Running the instruction stream `codeC e` computes `evalC e` (`run_codeC`, behind `compile_transparent` of C04).
    `Then code pre res` says what `code` does to a stack with `pre` on top; `Then.bind` sequences, one rule per
    instruction and per jump pattern of `compile_expr` gives the steps, and the induction on the syntax composes them. -/
namespace MJ.Fold

mutual
  /-- the call-free expression language: everything except filters, tests and calls (their callee
      takes argument pieces, not a stack; their CODE is compared with the real one, their VALUE is
      `evalC`'s) -/
  def Expr.Core : Expr → Prop
    | .const _ => True
    | .var _ => True
    | .list items => items.Core
    | .tuple items => items.Core
    | .map kvs => kvs.Core
    | .not e => e.Core
    | .neg e => e.Core
    | .bin _ l r => l.Core ∧ r.Core
    | .cmp e ops => e.Core ∧ ops.Core
    | .getAttr e _ => e.Core
    | .getItem e i => e.Core ∧ i.Core
    | .slice e a b c => e.Core ∧ a.Core ∧ b.Core ∧ c.Core
    | .ifExpr c t f => c.Core ∧ t.Core ∧ f.Core
    | .filter _ _ _ _ => False
    | .test _ _ _ _ => False
    | .call _ _ _ => False
    | .callx _ _ _ _ => False
  def OptExpr.Core : OptExpr → Prop
    | .none => True
    | .some e => e.Core
  def Exprs.Core : Exprs → Prop
    | .nil => True
    | .cons e es => e.Core ∧ es.Core
  def Pairs.Core : Pairs → Prop
    | .nil => True
    | .cons k v rest => k.Core ∧ v.Core ∧ rest.Core
  def Chain.Core : Chain → Prop
    | .nil => True
    | .cons _ e rest => e.Core ∧ rest.Core
end

section
variable (P : Prims) (m : Mode) (ρ : Env)

/-- running `code` (followed by anything) pushes the value `res`, or fails with its error -/
def Pushes (code : List Instr) (res : Except Err V) : Prop :=
  ∀ rest st, run P m ρ (code ++ rest) 0 st =
    match res with
    | .ok v => run P m ρ rest 0 (v :: st)
    | .error e => .error e

/-- … pushes the values `res` in order (the last one on top) -/
def PushesList (code : List Instr) (res : Except Err (List V)) : Prop :=
  ∀ rest st, run P m ρ (code ++ rest) 0 st =
    match res with
    | .ok vs => run P m ρ rest 0 (vs.reverse ++ st)
    | .error e => .error e

def flatPairs : List (V × V) → List V
  | [] => []
  | (k, v) :: ps => k :: v :: flatPairs ps

def PushesPairs (code : List Instr) (res : Except Err (List (V × V))) : Prop :=
  ∀ rest st, run P m ρ (code ++ rest) 0 st =
    match res with
    | .ok ps => run P m ρ rest 0 ((flatPairs ps).reverse ++ st)
    | .error e => .error e

theorem run_skip (xs rest : List Instr) (k : Nat) (st : List V) :
    run P m ρ (xs ++ rest) (xs.length + k) st = run P m ρ rest k st := by
  induction xs with
  | nil => simp
  | cons x xs ih =>
    have : (x :: xs).length + k = (xs.length + k) + 1 := by simp; omega
    rw [List.cons_append, this, run]
    exact ih

theorem run_skip0 (xs rest : List Instr) (st : List V) :
    run P m ρ (xs ++ rest) xs.length st = run P m ρ rest 0 st := by
  have := run_skip P m ρ xs rest 0 st
  simpa using this

theorem popN_rev (vs st : List V) : popN vs.length (vs.reverse ++ st) = some (vs, st) := by
  unfold popN
  have h2 : (vs.reverse ++ st).take vs.length = vs.reverse := List.take_left' (by simp)
  have h3 : (vs.reverse ++ st).drop vs.length = st := List.drop_left' (by simp)
  simp [h2, h3]

theorem pairUp_flat : ∀ ps : List (V × V), pairUp (flatPairs ps) = ps
  | [] => rfl
  | (k, v) :: ps => by simp [flatPairs, pairUp, pairUp_flat ps]

theorem flat_length : ∀ ps : List (V × V), (flatPairs ps).length = 2 * ps.length
  | [] => rfl
  | (k, v) :: ps => by simp [flatPairs, flat_length ps]; omega

/-- an optional precomputed constant in place of `code` (`o` is a variable: the fold-first scheme and
    the `Neg` shortcut are its two instances) -/
theorem pushes_optConst (o : Option V) {code : List Instr} {res : Except Err V} (h : Pushes P m ρ code res) :
    Pushes P m ρ (match o with | some v => [.loadConst v] | none => code)
      (match o with | some v => .ok v | none => res) := by
  cases o with
  | some v => intro rest st; rfl
  | none => exact h

theorem pushes_folded {e : Expr} {rt : List Instr} {rv : Except Err V} (h : Pushes P m ρ rt rv) :
    Pushes P m ρ (foldedI P e rt) (folded P e rv) :=
  pushes_optConst P m ρ (foldFirst P e) h

/-- `code`, run on a stack with `pre` on top (top first), replaces `pre` by the value `res` or fails with its
    error; `Pushes` is the case `pre = []` -/
def Then (code : List Instr) (pre : List V) (res : Except Err V) : Prop :=
  ∀ rest st, run P m ρ (code ++ rest) 0 (pre ++ st) =
    match res with
    | .ok v => run P m ρ rest 0 (v :: st)
    | .error e => .error e

theorem Then.bind {c₁ c₂ : List Instr} {pre : List V} {r : Except Err V} {k : V → Except Err V}
    (h₁ : Pushes P m ρ c₁ r) (h₂ : ∀ v, Then P m ρ c₂ (v :: pre) (k v)) :
    -- `h₁` mentions `r`, which the match must not abstract from it
    Then P m ρ (c₁ ++ c₂) pre (match (generalizing := false) r with
      | .error e => .error e
      | .ok v => k v) := by
  intro rest st
  rw [List.append_assoc, h₁]
  cases r with
  | error e => rfl
  | ok v => exact h₂ v rest st

theorem then_not (a : V) : Then P m ρ [.not] [a] (notInstr P m a) := by
  intro rest st; simp only [List.cons_append, List.nil_append, run]; cases notInstr P m a <;> rfl

theorem then_neg (a : V) : Then P m ρ [.neg] [a] (P.neg a) := by
  intro rest st; simp only [List.cons_append, List.nil_append, run]; cases P.neg a <;> rfl

theorem then_bin (op : BinOp) (a b : V) : Then P m ρ [.bin op] [b, a] (binInstr P m op a b) := by
  intro rest st; simp only [List.cons_append, List.nil_append, run]; cases binInstr P m op a b <;> rfl

theorem then_getAttr (name : String) (a : V) : Then P m ρ [.getAttr name] [a] (getAttrInstr P m a name) := by
  intro rest st; simp only [List.cons_append, List.nil_append, run]; cases getAttrInstr P m a name <;> rfl

theorem then_getItem (a i : V) : Then P m ρ [.getItem] [i, a] (getItemInstr P m a i) := by
  intro rest st; simp only [List.cons_append, List.nil_append, run]; cases getItemInstr P m a i <;> rfl

theorem then_slice (a x y z : V) : Then P m ρ [.slice] [z, y, x, a] (sliceInstr P m a x y z) := by
  intro rest st; simp only [List.cons_append, List.nil_append, run]; cases sliceInstr P m a x y z <;> rfl

theorem then_jumpIfFalseOrPop {c : List Instr} {r : Except Err V} (h : Pushes P m ρ c r) (a : V) :
    Then P m ρ (.jumpIfFalseOrPop c.length :: c) [a] (match isTrueM P m a with
      | .error e => .error e
      | .ok t => if t then r else .ok a) := by
  intro rest st
  simp only [List.cons_append, List.nil_append, run]
  cases isTrueM P m a with
  | error x => rfl
  | ok t =>
    cases t
    · simp only [Bool.false_eq_true, if_false, run_skip0]
    · simp only [if_true]; exact h rest st

theorem then_jumpIfTrueOrPop {c : List Instr} {r : Except Err V} (h : Pushes P m ρ c r) (a : V) :
    Then P m ρ (.jumpIfTrueOrPop c.length :: c) [a] (match isTrueM P m a with
      | .error e => .error e
      | .ok t => if t then .ok a else r) := by
  intro rest st
  simp only [List.cons_append, List.nil_append, run]
  cases isTrueM P m a with
  | error x => rfl
  | ok t =>
    cases t
    · simp only [Bool.false_eq_true, if_false]; exact h rest st
    · simp only [if_true, run_skip0]

theorem then_ifElse {ct cf : List Instr} {rt rf : Except Err V} (ht : Pushes P m ρ ct rt) (hf : Pushes P m ρ cf rf) (a : V) :
    Then P m ρ (.jumpIfFalse (ct.length + 1) :: ct ++ .jump cf.length :: cf) [a] (match isTrueM P m a with
      | .error e => .error e
      | .ok t => if t then rt else rf) := by
  intro rest st
  simp only [List.append_assoc, List.cons_append, List.nil_append, run]
  cases isTrueM P m a with
  | error x => rfl
  | ok t =>
    cases t
    · simp only [Bool.false_eq_true, if_false]
      have := run_skip P m ρ ct (.jump cf.length :: (cf ++ rest)) 1 st
      rw [this, run]
      exact hf rest st
    · simp only [if_true]
      rw [ht]
      cases rt with
      | error x => rfl
      | ok v => simp only [run, run_skip0]

theorem then_emitCompare (op : CmpOp) (left right : V) :
    Then P m ρ (emitCompare op) [right, left] (finalCompare P m op left right) := by
  cases op
  case notIn =>
    intro rest st
    refine (then_bin P m ρ .in_ left right (.not :: rest) st).trans ?_
    simp only [finalCompare, binInstr]
    cases inInstr P m left right with
    | error e => rfl
    | ok v => exact then_not P m ρ v rest st
  -- every other operator: `emitCompare` is the one instruction `cmpBin op`, and `finalCompare` unfolds to its `binInstr`
  all_goals exact then_bin P m ρ _ left right

theorem evalCList_len : ∀ (items : Exprs) (vs : List V), evalCList P m ρ items = .ok vs → vs.length = items.len
  | .nil, vs, h => by rw [evalCList] at h; cases h; rfl
  | .cons e es, vs, h => by
    rw [evalCList] at h
    split at h
    · cases h
    · split at h
      · cases h
      · next ws hes => cases h; simp [Exprs.len, evalCList_len es ws hes]

theorem evalCPairs_len : ∀ (kvs : Pairs) (ps : List (V × V)), evalCPairs P m ρ kvs = .ok ps → ps.length = kvs.len
  | .nil, ps, h => by rw [evalCPairs] at h; cases h; rfl
  | .cons k v rest, ps, h => by
    rw [evalCPairs] at h
    split at h
    · cases h
    · split at h
      · cases h
      · split at h
        · cases h
        · next qs hr => cases h; simp [Pairs.len, evalCPairs_len rest qs hr]

mutual
  theorem run_codeC (hT : ∀ b, P.isTrue (.bool b) = b) : ∀ (e : Expr), e.Core → Pushes P m ρ (codeC P e) (evalC P m ρ e)
    | .const _, _ | .var _, _ => fun _ _ => rfl
    | .list items, hc | .tuple items, hc => by
      apply pushes_folded
      intro rest st
      rw [List.append_assoc, run_codeCList hT items hc]
      cases h : evalCList P m ρ items with
      | error x => rfl
      | ok vs =>
        have hl := evalCList_len P m ρ items vs h
        simp only [List.cons_append, List.nil_append, run, ← hl, popN_rev]
    | .map kvs, hc => by
      apply pushes_folded
      intro rest st
      rw [List.append_assoc, run_codeCPairs hT kvs hc]
      cases h : evalCPairs P m ρ kvs with
      | error x => rfl
      | ok ps =>
        have hl := evalCPairs_len P m ρ kvs ps h
        have h2 : 2 * kvs.len = (flatPairs ps).length := by rw [flat_length, hl]
        simp only [List.cons_append, List.nil_append, run, h2, popN_rev, pairUp_flat]
    | .not e, hc =>
      pushes_folded P m ρ (Then.bind P m ρ (run_codeC hT e hc) (then_not P m ρ))
    | .neg e, hc =>
      pushes_folded P m ρ (pushes_optConst P m ρ _ (Then.bind P m ρ (run_codeC hT e hc) (then_neg P m ρ)))
    | .bin op l r, hc => by
      obtain ⟨hl, hr⟩ := hc
      have il := run_codeC hT l hl
      have ir := run_codeC hT r hr
      rw [evalC_bin]
      by_cases hand : op = .and
      · subst hand
        exact pushes_folded P m ρ (Then.bind P m ρ il (then_jumpIfFalseOrPop P m ρ ir))
      by_cases hor : op = .or
      · subst hor
        exact pushes_folded P m ρ (Then.bind P m ρ il (then_jumpIfTrueOrPop P m ρ ir))
      rw [codeC, binRt_other P m hand hor, List.append_assoc] <;> try assumption
      exact pushes_folded P m ρ (Then.bind P m ρ il fun a => Then.bind P m ρ ir (then_bin P m ρ op a))
    | .cmp e ops, hc => by
      apply pushes_folded
      obtain ⟨he, hops⟩ := hc
      rw [List.append_assoc]
      refine Then.bind P m ρ (pre := []) (run_codeC hT e he) fun left => ?_
      cases ops with
      | nil => intro rest st; simp [codeCChain, chainTail, evalCChain]
      | cons op e1 rest1 =>
        cases rest1 with
        | nil =>
          simp only [codeCChain, chainTail, evalCChain, List.append_nil]
          exact Then.bind P m ρ (run_codeC hT e1 hops.1) (then_emitCompare P m ρ op left)
        | cons op2 e2 rest2 =>
          intro rest st
          simp only [chainTail, List.append_assoc, List.cons_append, List.nil_append]
          exact run_codeCChain hT (.cons op e1 (.cons op2 e2 rest2)) hops (by simp) left rest st
    | .getAttr e name, hc => by
      rw [codeC, evalC]
      exact Then.bind P m ρ (run_codeC hT e hc) (then_getAttr P m ρ name)
    | .getItem e idx, hc => by
      rw [codeC, evalC, List.append_assoc]
      exact Then.bind P m ρ (run_codeC hT e hc.1) fun v => Then.bind P m ρ (run_codeC hT idx hc.2) (then_getItem P m ρ v)
    | .slice e a b c, hc => by
      rw [codeC, evalC]
      simp only [List.append_assoc]
      exact Then.bind P m ρ (run_codeC hT e hc.1) fun v => Then.bind P m ρ (run_codeCOpt hT .none a hc.2.1) fun x =>
        Then.bind P m ρ (run_codeCOpt hT .none b hc.2.2.1) fun y => Then.bind P m ρ (run_codeCOpt hT .none c hc.2.2.2)
          (then_slice P m ρ v x y)
    | .ifExpr c t f, hc => by
      rw [codeC, evalC, List.append_assoc]
      exact Then.bind P m ρ (run_codeC hT c hc.1) (then_ifElse P m ρ (run_codeC hT t hc.2.1) (run_codeCOpt hT .silent f hc.2.2))
    | .filter .., hc | .test .., hc | .call .., hc | .callx .., hc => False.elim hc
  theorem run_codeCOpt (hT : ∀ b, P.isTrue (.bool b) = b) (d : V) : ∀ (o : OptExpr), o.Core →
      Pushes P m ρ (codeCOpt P d o) (evalCOpt P m ρ d o)
    | .none, _ => by intro rest st; simp [codeCOpt, evalCOpt, run]
    | .some e, hc => by
      rw [codeCOpt, evalCOpt]
      simp only [OptExpr.Core] at hc
      exact run_codeC hT e hc
  theorem run_codeCList (hT : ∀ b, P.isTrue (.bool b) = b) : ∀ (es : Exprs), es.Core →
      PushesList P m ρ (codeCList P es) (evalCList P m ρ es)
    | .nil, _ => by intro rest st; simp [codeCList, evalCList]
    | .cons e es, hc => by
      rw [codeCList, evalCList]
      simp only [Exprs.Core] at hc
      intro rest st
      rw [List.append_assoc, run_codeC hT e hc.1]
      cases he : evalC P m ρ e with
      | error x => rfl
      | ok v =>
        simp only []
        rw [run_codeCList hT es hc.2]
        cases hes : evalCList P m ρ es with
        | error x => rfl
        | ok vs => simp
  theorem run_codeCPairs (hT : ∀ b, P.isTrue (.bool b) = b) : ∀ (ps : Pairs), ps.Core →
      PushesPairs P m ρ (codeCPairs P ps) (evalCPairs P m ρ ps)
    | .nil, _ => by intro rest st; simp [codeCPairs, evalCPairs, flatPairs]
    | .cons k v r, hc => by
      rw [codeCPairs, evalCPairs]
      simp only [Pairs.Core] at hc
      intro rest st
      rw [List.append_assoc, List.append_assoc, run_codeC hT k hc.1]
      cases hk : evalC P m ρ k with
      | error x => rfl
      | ok kv =>
        simp only []
        rw [run_codeC hT v hc.2.1]
        cases hv : evalC P m ρ v with
        | error x => rfl
        | ok vv =>
          simp only []
          rw [run_codeCPairs hT r hc.2.2]
          cases hr : evalCPairs P m ρ r with
          | error x => rfl
          | ok qs => simp [flatPairs]
  theorem run_codeCChain (hT : ∀ b, P.isTrue (.bool b) = b) : ∀ (ops : Chain), ops.Core → ops ≠ .nil →
      ∀ (left : V) (rest : List Instr) (st : List V),
      run P m ρ (codeCChain P ops ++ (.jump 2 :: .swap :: .discardTop :: rest)) 0 (left :: st) =
        match evalCChain P m ρ left ops with
        | .ok v => run P m ρ rest 0 (v :: st)
        | .error e => .error e
    | .nil, _, hn => by simp at hn
    | .cons op e .nil, hc, _ => by
      intro left rest st
      simp only [Chain.Core] at hc
      rw [codeCChain, evalCChain, List.append_assoc, run_codeC hT e hc.1]
      cases he : evalC P m ρ e with
      | error x => rfl
      | ok right =>
        simp only []
        refine (then_emitCompare P m ρ op left right _ st).trans ?_
        cases finalCompare P m op left right with
        | error x => rfl
        | ok v => simp [run]
    | .cons op e (.cons op2 e2 rest2), hc, _ => by
      intro left rest st
      simp only [Chain.Core] at hc
      have ih := run_codeCChain hT (.cons op2 e2 rest2) ⟨hc.2.1, hc.2.2⟩ (by simp)
      rw [codeCChain, evalCChain] <;> try (intro h; cases h; done)
      rw [List.append_assoc, run_codeC hT e hc.1]
      cases he : evalC P m ρ e with
      | error x => rfl
      | ok right =>
        simp only [List.cons_append, run]
        cases hcap : compareAndPreserve P m op left right with
        | error x => rfl
        | ok t =>
          have hb : isTrueM P m (.bool t) = .ok t := by rw [isTrueM_ok P m (v := .bool t) nofun, hT]
          simp only [hb]
          cases t
          · simp only [Bool.false_eq_true, if_false]
            have := run_skip P m ρ (codeCChain P (.cons op2 e2 rest2)) (.jump 2 :: .swap :: .discardTop :: rest) 1
              (.bool false :: right :: st)
            rw [this]
            simp [run]
          · simp only [if_true]
            exact ih right rest st
end

end

end MJ.Fold
