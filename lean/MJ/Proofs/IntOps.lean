import MJ.Model.IntOps
/-! Proofs about `MJ/Model/IntOps.lean`: no integer operation of the VM panics, whatever integers a
    `Value` holds (the functions are case trees whose leaves are `pure`: `fun_cases` and `nofun`, but for the
    plain operators of `powK` and `absK`), and a returned value of `+ - * // %` is the exact mathematical
    result; the static argument count of a call and the line window of `render_debug_info` stay in range. -/
namespace MJ.IntOps
open MJ Chk

theorem checkedBin_no_panic (f : Int → Int → Int) (a b : Int) : checkedBin f a b ≠ .panic := by
  fun_cases checkedBin f a b <;> nofun

theorem remK_no_panic (a b : Int) : remK a b ≠ .panic := by
  fun_cases remK a b <;> nofun

theorem intDivK_no_panic (a b : Int) : intDivK a b ≠ .panic := by
  fun_cases intDivK a b <;> nofun

theorem negK_no_panic (a : Int) : negK a ≠ .panic := by
  fun_cases negK a <;> nofun

theorem fits128_iff (x : Int) : fits128 x = true ↔ (i128Min ≤ x ∧ x ≤ i128Max) := by
  unfold fits128
  simp only [Bool.and_eq_true, decide_eq_true_eq]

theorem fits64_iff (x : Int) : fits64 x = true ↔ (i64Min ≤ x ∧ x ≤ i64Max) := by
  unfold fits64
  simp only [Bool.and_eq_true, decide_eq_true_eq]

theorem fits128_small (x : Int) (h1 : -1 ≤ x) (h2 : x ≤ 1) : fits128 x = true := by
  rw [fits128_iff]; unfold i128Min i128Max; constructor <;> omega

theorem coerce_some {a b : Int} {p : Int × Int} (h : coerce a b = some p) : p = (a, b) := by
  unfold coerce at h
  split at h
  · exact (Option.some.inj h).symm
  · cases h

theorem checked_some {x v : Int} (h : checked x = some v) : v = x ∧ fits128 v = true := by
  unfold checked at h
  split at h
  · cases h; exact ⟨rfl, by assumption⟩
  · cases h

theorem unit_sq_bounds {a : Int} (h1 : -1 ≤ a) (h2 : a ≤ 1) : 0 ≤ a * a ∧ a * a ≤ 1 := by
  have : a = -1 ∨ a = 0 ∨ a = 1 := by omega
  rcases this with rfl | rfl | rfl <;> decide

theorem i128_of_fits {x : Int} (h : fits128 x = true) : i128 x = .ok x := if_pos h

theorem powK_no_panic (a b : Int) : powK a b ≠ .panic := by
  fun_cases powK a b
  case case3 a' b' _ _ h =>
    -- the plain operators of the unit-base fallback: `b % 2` is 0 or 1, `a * a` is 0 or 1
    have hsq := unit_sq_bounds h.2.1 h.2.2
    rw [if_neg (by decide), i128_of_fits (fits128_small (b' % 2) (by omega) (by omega)), ok_bind,
      i128_of_fits (fits128_small (a' * a') (by omega) (by omega)), ok_bind]
    split <;> nofun
  all_goals nofun

theorem binK_no_panic (op : Op) (a b : Int) : binK op a b ≠ .panic := by
  cases op <;> simp only [binK]
  · exact checkedBin_no_panic _ a b
  · exact checkedBin_no_panic _ a b
  · exact checkedBin_no_panic _ a b
  · exact remK_no_panic a b
  · exact intDivK_no_panic a b
  · exact powK_no_panic a b

theorem absK_no_panic (a : Int) : absK a ≠ .panic := by
  fun_cases absK a
  case case2 h _ =>
    -- `(x as i128).abs()` of an `i64` fits
    have hf : fits128 (Int.ofNat a.natAbs) = true := by
      rw [fits64_iff] at h
      rw [fits128_iff]
      unfold i64Min i64Max at h
      unfold i128Min i128Max
      simp only [Int.ofNat_eq_natCast]
      constructor <;> omega
    rw [i128_of_fits hf, ok_bind]
    nofun
  all_goals nofun

theorem checkedBin_exact (f : Int → Int → Int) (a b v : Int) (h : checkedBin f a b = .ok (.val v)) :
    v = f a b ∧ fits128 v = true := by
  revert h
  fun_cases checkedBin f a b <;> intro h <;> cases h
  next hc hv => cases coerce_some hc; exact checked_some hv

theorem intDivK_exact (a b v : Int) (h : intDivK a b = .ok (.val v)) : b ≠ 0 ∧ v = a / b ∧ fits128 v = true := by
  revert h
  fun_cases intDivK a b <;> intro h <;> cases h
  next hc hb hv =>
    cases coerce_some hc
    rw [checkedDivEuclid, if_neg hb] at hv
    exact ⟨hb, checked_some hv⟩

theorem remK_exact (a b v : Int) (h : remK a b = .ok (.val v)) : b ≠ 0 ∧ v = a % b := by
  revert h
  fun_cases remK a b <;> intro h <;> cases h
  next hc rv hv =>
    cases coerce_some hc
    unfold rv at hv
    split at hv
    · next hb =>
      -- `x % -1` is 0
      cases hv
      subst hb
      exact ⟨by decide, by simp [Int.emod_neg]⟩
    · revert hv
      fun_cases checkedRemEuclid a b <;> intro hv <;> cases hv
      exact ⟨by assumption, rfl⟩

theorem callArgCountK_no_panic (extra nPos : Nat) (kw : Bool) {m : Nat} (he : extra ≤ 1) (hn : nPos ≤ m)
    (hlim : m + 2 < 65536) : callArgCountK extra nPos kw ≠ .panic := by
  unfold callArgCountK
  have : extra + nPos + (if kw = true then 1 else 0) < 65536 := by
    cases kw <;> simp <;> omega
  simp only [Nat.mod_eq_of_lt this, if_true]
  simp

theorem numberAll_ok (l : List Nat) (h : ∀ i ∈ l, i + 1 < 18446744073709551616) :
    ∃ xs, numberAll l = .ok xs := by
  induction l with
  | nil => exact ⟨[], rfl⟩
  | cons i is ih =>
    have hi := h i (by simp)
    obtain ⟨xs, hxs⟩ := ih (fun j hj => h j (by simp [hj]))
    refine ⟨(i + 1) :: xs, ?_⟩
    simp [numberAll, usizeAdd, hi, hxs]

theorem mem_window_lt (n a b i : Nat) (h : i ∈ ((List.range n).drop a).take b) : i < n := by
  have h1 := List.mem_of_mem_take h
  have h2 := List.mem_of_mem_drop h1
  exact List.mem_range.1 h2

/-- the window arithmetic of `render_debug_info` never overflows: for every line number a `usize` can
    hold and every source of fewer than 2^63 lines -/
theorem debugWindowK_no_panic (line : Option Nat) (n : Nat) (hl : ∀ l, line = some l → l < 18446744073709551616)
    (hn : n < 9223372036854775808) : debugWindowK line n ≠ .panic := by
  unfold debugWindowK
  have hidx : (line.getD 1) - 1 + 1 < 18446744073709551616 := by
    cases line with
    | none => simp
    | some l => have := hl l rfl; simp; omega
  obtain ⟨pre, hpre⟩ := numberAll_ok (((List.range n).drop ((line.getD 1) - 1 - 3)).take (min 3 ((line.getD 1) - 1)))
    (fun i hi => by have := mem_window_lt _ _ _ _ hi; omega)
  obtain ⟨cur, hcur⟩ := numberAll_ok (if (line.getD 1) - 1 < n then [(line.getD 1) - 1] else [])
    (fun i hi => by
      split at hi
      · simp at hi; omega
      · simp at hi)
  obtain ⟨post, hpost⟩ := numberAll_ok (((List.range n).drop ((line.getD 1) - 1 + 1)).take 3)
    (fun i hi => by have := mem_window_lt _ _ _ _ hi; omega)
  simp only [hpre, hcur, usizeAdd, hidx, if_true, hpost]
  simp

end MJ.IntOps
