import MJ.Proofs.CollSort
/-!
# unique and groupby

`unique` needs a comparison that is reflexive on the keys at hand and nothing else: `unique_spec` is four
readings of the loop with its list of keys seen.  `groupby` cuts the sorted input where the key changes;
`groupLoop_spec` is the loop's invariant under `PullsBack` (the groupers are keys of members, so they stay
among the keys at hand).
-/
namespace MJ.Coll
open Std

variable {α κ κ' : Type} (cmp : κ → κ → Ordering) (key : α → κ)

def hit (seen : List κ) (k : κ) : Bool := seen.any (fun s => cmp s k == .eq)

theorem uniqueLoop_sublist (xs : List α) (seen : List κ) : (uniqueLoop cmp key xs seen).Sublist xs := by
  fun_induction uniqueLoop cmp key xs seen <;> simp_all

/-- nothing kept hits `seen`, and kept items have pairwise non-`Equal` keys (earlier vs later) -/
theorem uniqueLoop_nodup (xs : List α) (seen : List κ) :
    (∀ y ∈ uniqueLoop cmp key xs seen, ∀ s ∈ seen, cmp s (key y) ≠ .eq) ∧
    (uniqueLoop cmp key xs seen).Pairwise (fun a b => cmp (key a) (key b) ≠ .eq) := by
  fun_induction uniqueLoop cmp key xs seen <;> simp_all

/-- every input item is represented: by `seen` or by a kept item with an `Equal` key -/
theorem uniqueLoop_covers (xs : List α) (seen : List κ) (hrefl : ∀ x ∈ xs, cmp (key x) (key x) = .eq) :
    ∀ x ∈ xs, (∃ s ∈ seen, cmp s (key x) = .eq) ∨
      (∃ y ∈ uniqueLoop cmp key xs seen, cmp (key y) (key x) = .eq) := by
  induction xs generalizing seen with
  | nil => simp
  | cons z zs ih =>
    have hrefl' : ∀ x ∈ zs, cmp (key x) (key x) = .eq := fun x hx => hrefl x (List.mem_cons_of_mem _ hx)
    intro x hx
    unfold uniqueLoop
    split
    · rename_i hz
      rcases List.mem_cons.mp hx with rfl | hx
      · left
        obtain ⟨s, hs, he⟩ := List.any_eq_true.mp hz
        exact ⟨s, hs, by simpa using he⟩
      · exact ih seen hrefl' x hx
    · rcases List.mem_cons.mp hx with rfl | hx
      · right; exact ⟨x, List.mem_cons_self, hrefl x List.mem_cons_self⟩
      · rcases ih (key z :: seen) hrefl' x hx with ⟨s, hs, he⟩ | ⟨y, hy, he⟩
        · rcases List.mem_cons.mp hs with rfl | hs
          · right; exact ⟨z, List.mem_cons_self, he⟩
          · left; exact ⟨s, hs, he⟩
        · right; exact ⟨y, List.mem_cons_of_mem _ hy, he⟩

/-- an item whose key is not `Equal` to any earlier key (nor to `seen`) is kept -/
theorem uniqueLoop_keeps_first (pre post : List α) (x : α) (seen : List κ)
    (h1 : ∀ s ∈ seen, cmp s (key x) ≠ .eq) (h2 : ∀ p ∈ pre, cmp (key p) (key x) ≠ .eq) :
    x ∈ uniqueLoop cmp key (pre ++ x :: post) seen := by
  induction pre generalizing seen with
  | nil =>
    simp only [List.nil_append]
    unfold uniqueLoop
    have : seen.any (fun s => cmp s (key x) == .eq) = false := by
      apply Bool.eq_false_iff.mpr
      intro h
      obtain ⟨s, hs, he⟩ := List.any_eq_true.mp h
      exact h1 s hs (by simpa using he)
    simp [this]
  | cons p pre ih =>
    simp only [List.cons_append]
    unfold uniqueLoop
    split
    · exact ih seen h1 (fun q hq => h2 q (List.mem_cons_of_mem _ hq))
    · apply List.mem_cons_of_mem
      apply ih
      · intro s hs
        rcases List.mem_cons.mp hs with rfl | hs
        · exact h2 p List.mem_cons_self
        · exact h1 s hs
      · exact fun q hq => h2 q (List.mem_cons_of_mem _ hq)

/-- `unique`: an order-preserving sub-sequence without two `Equal` keys that represents every input
    key and keeps the first item of every key class — for a comparison reflexive on the keys at hand -/
theorem unique_spec (xs : List α) (hrefl : ∀ x ∈ xs, cmp (key x) (key x) = .eq) :
    (uniqueLoop cmp key xs []).Sublist xs ∧
    (uniqueLoop cmp key xs []).Pairwise (fun a b => cmp (key a) (key b) ≠ .eq) ∧
    (∀ x ∈ xs, ∃ y ∈ uniqueLoop cmp key xs [], cmp (key y) (key x) = .eq) ∧
    (∀ pre x post, xs = pre ++ x :: post → (∀ p ∈ pre, cmp (key p) (key x) ≠ .eq) →
      x ∈ uniqueLoop cmp key xs []) := by
  refine ⟨uniqueLoop_sublist cmp key xs [], (uniqueLoop_nodup cmp key xs []).2, fun x hx => ?_, ?_⟩
  · exact (uniqueLoop_covers cmp key xs [] hrefl x hx).resolve_left (by simp)
  · rintro pre x post rfl hpre
    exact uniqueLoop_keeps_first cmp key pre post x [] (by simp) hpre

theorem lt_of_bne_eq {o : Ordering} (h1 : (o != .eq) = true) (h2 : o ≠ .gt) : o = .lt := by
  cases o <;> simp_all

theorem eq_of_not_bne_eq {o : Ordering} (h : ¬ (o != .eq) = true) : o = .eq := by
  cases o <;> simp_all

section
variable {cmp key} {S : κ → Prop} {cmp' : κ' → κ' → Ordering} [TransCmp cmp'] {g : κ → κ'}
  (h : PullsBack cmp S cmp' g)
include h

/-- the grouping loop over items sorted by key, with `lg` the key of the last item seen and `lst` the
    (non-empty) group under construction, all of whose keys are `Equal` to `lg`: the groups
    concatenate to `lst ++ ys`, none is empty, every member's key is `Equal` to its grouper, and the
    groupers are strictly increasing from `lg` on -/
theorem groupLoop_spec : ∀ (ys : List α) (lg : κ) (lst : List α), S lg → (∀ y ∈ ys, S (key y)) →
    lst ≠ [] → (∀ y ∈ lst, S (key y) ∧ cmp lg (key y) = .eq) →
    ys.Pairwise (fun a b => cmp (key a) (key b) ≠ .gt) → (∀ y ∈ ys, cmp lg (key y) ≠ .gt) →
    (groupLoop cmp key ys (some lg) lst).flatMap (·.2) = lst ++ ys ∧
    (∀ p ∈ groupLoop cmp key ys (some lg) lst,
      S p.1 ∧ cmp lg p.1 ≠ .gt ∧ p.2 ≠ [] ∧ ∀ y ∈ p.2, cmp p.1 (key y) = .eq) ∧
    (groupLoop cmp key ys (some lg) lst).Pairwise (fun p q => cmp p.1 q.1 = .lt)
  | [], lg, lst, hl, _, hne, hall, _, _ => by
    cases lst with
    | nil => exact absurd rfl hne
    | cons a l =>
      simp only [groupLoop, List.isEmpty_cons, Bool.false_eq_true, if_false, List.flatMap_cons,
        List.flatMap_nil, List.append_nil, List.mem_singleton, forall_eq, List.pairwise_cons,
        List.not_mem_nil, false_imp_iff, implies_true, List.Pairwise.nil, and_true, true_and]
      exact ⟨hl, by rw [h.refl hl]; decide, by simp, fun y hy => (hall y hy).2⟩
  | x :: xs, lg, lst, hl, hS, hne, hall, hs, hg => by
    have hx : S (key x) := hS x List.mem_cons_self
    have hS' : ∀ y ∈ xs, S (key y) := fun y hy => hS y (List.mem_cons_of_mem _ hy)
    rw [List.pairwise_cons] at hs
    have hlx : cmp lg (key x) ≠ .gt := hg x List.mem_cons_self
    unfold groupLoop
    simp only
    split
    · -- `x` opens the next group
      rename_i hne'
      have hlt : cmp lg (key x) = .lt := lt_of_bne_eq hne' hlx
      obtain ⟨h1, h2, h3⟩ := groupLoop_spec xs (key x) [x] hx hS' (by simp)
        (by simpa using ⟨hx, h.refl hx⟩) hs.2 hs.1
      refine ⟨by simp [h1], ?_, List.pairwise_cons.mpr ⟨fun p hp => ?_, h3⟩⟩
      · intro p hp
        rcases List.mem_cons.mp hp with rfl | hp
        · exact ⟨hl, by rw [h.refl hl]; decide, hne, fun y hy => (hall y hy).2⟩
        · obtain ⟨s, le, r⟩ := h2 p hp
          exact ⟨s, h.le_trans hl hx s hlx le, r⟩
      · obtain ⟨s, le, _⟩ := h2 p hp
        exact h.lt_of_lt_of_le hl hx s hlt le
    · -- `x` joins the group under construction
      rename_i he
      have he' : cmp lg (key x) = .eq := eq_of_not_bne_eq he
      have hxl : cmp (key x) lg = .eq := by rw [h.swap hl hx, he']; rfl
      obtain ⟨h1, h2, h3⟩ := groupLoop_spec xs (key x) (lst ++ [x]) hx hS' (by simp)
        (by
          intro y hy
          rcases List.mem_append.mp hy with hy | hy
          · exact ⟨(hall y hy).1, h.eq_trans hx hl (hall y hy).1 hxl (hall y hy).2⟩
          · rw [List.mem_singleton.mp hy]; exact ⟨hx, h.refl hx⟩) hs.2 hs.1
      refine ⟨by simp [h1], fun p hp => ?_, h3⟩
      obtain ⟨s, le, r⟩ := h2 p hp
      exact ⟨s, h.le_trans hl hx s hlx le, r⟩

/-- `groupby`: the groups concatenate to the input sorted by key (so they partition the input), no
    group is empty, every member's key is `Equal` to its group's grouper, and the groupers are
    strictly increasing (one group per key class) -/
theorem groupby_spec_on (xs : List α) (hx : ∀ x ∈ xs, S (key x)) :
    (groupLoop cmp key (xs.mergeSort (fun a b => cmp (key a) (key b) != .gt)) none []).flatMap (·.2) =
      xs.mergeSort (fun a b => cmp (key a) (key b) != .gt) ∧
    (xs.mergeSort (fun a b => cmp (key a) (key b) != .gt)).Perm xs ∧
    (∀ p ∈ groupLoop cmp key (xs.mergeSort (fun a b => cmp (key a) (key b) != .gt)) none [],
      p.2 ≠ [] ∧ ∀ y ∈ p.2, cmp p.1 (key y) = .eq) ∧
    (groupLoop cmp key (xs.mergeSort (fun a b => cmp (key a) (key b) != .gt)) none []).Pairwise
      (fun p q => cmp p.1 q.1 = .lt) := by
  obtain ⟨hp, hs⟩ := sort_sorted_on h key xs hx
  have hS : ∀ y ∈ xs.mergeSort (fun a b => cmp (key a) (key b) != .gt), S (key y) :=
    fun y hy => hx y (hp.subset hy)
  generalize xs.mergeSort (fun a b => cmp (key a) (key b) != .gt) = ys at hp hs hS
  cases ys with
  | nil => simp [groupLoop, hp]
  | cons y ys =>
    have hy := hS y List.mem_cons_self
    rw [List.pairwise_cons] at hs
    obtain ⟨h1, h2, h3⟩ := groupLoop_spec h ys (key y) [y] hy (fun z hz => hS z (List.mem_cons_of_mem _ hz))
      (by simp) (by simpa using ⟨hy, h.refl hy⟩) hs.2 hs.1
    exact ⟨h1, hp, fun p hp' => (h2 p hp').2.2, h3⟩

end

end MJ.Coll
