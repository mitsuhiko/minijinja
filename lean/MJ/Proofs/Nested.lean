import MJ.Model.Nested
/-! Restore lemmas for the nested-evaluation wrappers (helper lemmas for C05). -/
namespace MJ.Nested

/-- the nested run only pushes frames on top of the ones it found (and pops only its own) -/
def FramesOnTop (f : Body) : Prop := ∀ s o, ∃ extra, (f s o).2.1.frames = extra ++ s.frames
/-- … and may give the frame it started on a (new) closure (`Enclose` in an included template) -/
def TopClosureOnly (f : Body) : Prop :=
  ∀ s o, ∃ extra c, (f s o).2.1.frames = extra ++ setTopClosure c s.frames
/-- nested includes give their recursion cost back -/
def KeepsOuter (f : Body) : Prop := ∀ s o, (f s o).2.1.outerDepth = s.outerDepth
/-- `LoadBlocks` only appends levels to existing block stacks / adds entries -/
def BlocksGrow (f : Body) : Prop :=
  ∀ s o n b, s.blocks n = some b →
    ∃ c, (f s o).2.1.blocks n = some c ∧ c.instrs.take b.instrs.length = b.instrs
/-- the nested run does not extend (`LoadBlocks`) and leaves the `super()` cursors as they were -/
def NoLoad (f : Body) : Prop := ∀ s o, (f s o).2.1.blocks = s.blocks ∧ (f s o).2.1.loaded = s.loaded
/-- a run that ends normally leaves the capture stack of the output as deep as it was -/
def BalancedOnOk (f : Body) : Prop := ∀ s o, (f s o).1 = .ok → (f s o).2.2.caps = o.caps

theorem truncate_append (extra fs : List Frame) : truncate (extra ++ fs) fs.length = fs := by
  simp [truncate]

theorem restoreIsolated_eq (saved cur : Nat → Option BlockStack)
    (h : ∀ n b, saved n = some b → ∃ c, cur n = some c ∧ c.instrs.take b.instrs.length = b.instrs) :
    restoreIsolated saved cur = saved := by
  funext n
  unfold restoreIsolated
  cases hs : saved n with
  | none => rfl
  | some b =>
    obtain ⟨c, hc, ht⟩ := h n b hs
    simp [hc, ht]

theorem length_setTopClosure (c : Option Nat) (fs : List Frame) :
    (setTopClosure c fs).length = fs.length := by
  cases fs <;> simp [setTopClosure]

theorem setTopClosure_twice (a b : Option Nat) (fs : List Frame) :
    setTopClosure a (setTopClosure b fs) = setTopClosure a fs := by
  cases fs <;> simp [setTopClosure]

theorem setTopClosure_top (fs : List Frame) : setTopClosure (topClosure fs) fs = fs := by
  cases fs <;> simp [setTopClosure, topClosure]

theorem same_refl (s : St) : Same s s := ⟨rfl, rfl, rfl, rfl, rfl, rfl, rfl⟩

theorem keep_frames (body : Body) (hf : FramesOnTop body) (s1 : St) (o : Out) (fs new : List Frame)
    (h : s1.frames = new ++ fs) : truncate (body s1 o).2.1.frames fs.length = fs := by
  obtain ⟨extra, he⟩ := hf s1 o
  rw [he, h, ← List.append_assoc]
  exact truncate_append _ _

/-- macro calls: every field comes back whatever the body does to frames, depth, escape mode,
instructions and current block, on both outcomes; the caller's output is not involved -/
theorem macroCall_restores (instr cost limit : Nat) (base closureF : Frame) (body : Body)
    (hb : BlocksGrow body) (s : St) (o : Out) :
    Same (macroCall instr cost limit base closureF body s o).2.1 s ∧
    (macroCall instr cost limit base closureF body s o).2.2 = o := by
  refine ⟨?_, rfl⟩
  unfold macroCall evalMacro
  by_cases hlim : s.depth + cost + 2 > limit
  · simp [hlim, same_refl]
  · simp only [hlim, if_false]
    refine ⟨rfl, rfl, rfl, rfl, rfl, ?_, rfl⟩
    simp only [withExec, exitBlocks, enterBlocks]
    exact restoreIsolated_eq _ _ (fun n b hn => hb _ _ n b hn)

/-- the nested run leaves the frames it found at the bottom of the stack -/
def FramesBelow (g : Body) : Prop :=
  ∀ s o, truncate (g s o).2.1.frames s.frames.length = s.frames

theorem framesBelow_of_onTop (body : Body) (hf : FramesOnTop body) : FramesBelow body :=
  fun s o => keep_frames body hf s o s.frames [] rfl

theorem pushThen_framesBelow (limit : Nat) (newFrame : Frame) (body : Body) (hf : FramesOnTop body) :
    FramesBelow (pushThen limit newFrame body) := by
  intro s o
  unfold pushThen
  split
  · exact truncate_append [] _
  · exact keep_frames body hf _ o s.frames [newFrame] rfl

theorem pushThen_keepsOuter (limit : Nat) (newFrame : Frame) (body : Body) (ho : KeepsOuter body) :
    KeepsOuter (pushThen limit newFrame body) := by
  intro s o
  unfold pushThen
  split
  · rfl
  · exact ho _ _

theorem pushThen_noLoad (limit : Nat) (newFrame : Frame) (body : Body) (hn : NoLoad body) :
    NoLoad (pushThen limit newFrame body) := by
  intro s o
  unfold pushThen
  split
  · exact ⟨rfl, rfl⟩
  · exact hn _ _

/-- `with_execution_state(.., BlockState::Keep, ..)` gives the state back whatever the outcome -/
theorem withExec_keep_same (instr ae : Nat) (cb : Option Nat) (g : Body)
    (hf : FramesBelow g) (ho : KeepsOuter g) (hn : NoLoad g) (s : St) (o : Out) :
    Same (withExec .keep instr ae cb g s o).2.1 s := by
  simp only [withExec, exitFrames, exitBlocks, exitLoaded, enterBlocks, enterLoaded]
  exact ⟨hf _ _, ho _ _, rfl, rfl, rfl, (hn _ _).1, (hn _ _).2⟩

theorem callBlock_restores (name limit : Nat) (required : Bool) (newFrame : Frame) (body : Body)
    (hf : FramesOnTop body) (ho : KeepsOuter body) (hn : NoLoad body) (s : St) (o : Out) :
    Same (callBlock name limit required newFrame body s o).2.1 s := by
  unfold callBlock
  cases hbl : s.blocks name with
  | none => exact same_refl s
  | some bs =>
    cases required with
    | true => exact same_refl s
    | false =>
      simp only [Bool.false_eq_true, if_false]
      exact withExec_keep_same _ _ _ _ (pushThen_framesBelow limit newFrame body hf)
        (pushThen_keepsOuter limit newFrame body ho) (pushThen_noLoad limit newFrame body hn) s o

theorem callBlock_caps (name limit : Nat) (required : Bool) (newFrame : Frame) (body : Body)
    (hc : BalancedOnOk body) (s : St) (o : Out)
    (hok : (callBlock name limit required newFrame body s o).1 = .ok) :
    (callBlock name limit required newFrame body s o).2.2.caps = o.caps := by
  unfold callBlock at hok ⊢
  cases hbl : s.blocks name with
  | none => simp [hbl] at hok
  | some bs =>
    cases required with
    | true => simp [hbl] at hok
    | false =>
      simp only [hbl, Bool.false_eq_true, if_false, withExec, pushThen] at hok ⊢
      split at hok
      · simp at hok
      · rename_i hlim
        simp only [hlim, if_false]
        exact hc _ _ hok

theorem renderBlock_restores (name limit : Nat) (required : Bool) (newFrame : Frame) (body : Body)
    (hf : FramesOnTop body) (ho : KeepsOuter body) (hn : NoLoad body) (s : St) (o : Out) :
    Same (renderBlock name limit required newFrame body s o).2.1 s ∧
    (renderBlock name limit required newFrame body s o).2.2 = o :=
  ⟨callBlock_restores name limit required newFrame body hf ho hn s ⟨0⟩, rfl⟩

theorem update_same (f : Nat → Option BlockStack) (n : Nat) (a b : Option BlockStack) (h : f n = b) :
    update (update f n a) n b = f := by
  funext m
  simp only [update]
  split
  · rename_i hm; rw [hm, h]
  · rfl

theorem performSuper_restores (limit : Nat) (capture : Bool) (newFrame : Frame) (body : Body)
    (hf : FramesOnTop body) (ho : KeepsOuter body) (hn : NoLoad body) (s : St) (o : Out) :
    Same (performSuper limit capture newFrame body s o).2.1 s := by
  unfold performSuper
  split
  · exact same_refl s
  · split
    · exact same_refl s
    · rename_i name _ bs hbl
      split
      · exact same_refl s
      · split
        · exact same_refl s
        · extract_lets s1 o1 res s3 s4
          -- `with_execution_state(Keep)` hands back the state the nested run was started on: `s` with the frame pushed
          -- and the cursor advanced; `pop_frame` and `BlockStack::pop` behind it undo exactly these
          obtain ⟨h1, h2, h3, h4, h5, h6, h7⟩ : Same s3 s1 :=
            withExec_keep_same _ _ _ body (framesBelow_of_onTop body hf) ho hn s1 o1
          have key : Same s4 s :=
            ⟨congrArg List.tail h1, h2, h3, h4, h5,
              by simp only [s4, h6, s1, update, if_true, Option.map_some, Nat.add_sub_cancel]
                 exact update_same _ _ _ _ hbl, h7⟩
          split <;> exact key

theorem performInclude_restores (instr tmplAe cost limit : Nat) (newBlocks : Nat → Option BlockStack)
    (body : Body) (hf : TopClosureOnly body) (ho : KeepsOuter body) (s : St) (o : Out) :
    Same (performInclude instr tmplAe cost limit newBlocks body s o).2.1 s := by
  unfold performInclude
  by_cases hlim : s.depth + cost > limit
  · simp [hlim, same_refl]
  · simp only [hlim, if_false, withExec, exitFrames, exitBlocks, exitLoaded]
    refine ⟨?_, ?_, rfl, rfl, rfl, rfl, rfl⟩
    · obtain ⟨extra, c, he⟩ := hf
        { s with
          outerDepth := s.outerDepth + cost, frames := setTopClosure none s.frames,
          instructions := instr, autoEscape := tmplAe, currentBlock := s.currentBlock,
          blocks := enterBlocks (.replace newBlocks) s.blocks,
          loaded := enterLoaded (.replace newBlocks) s.loaded } o
      simp only at he ⊢
      rw [he, setTopClosure_twice]
      have hl : (setTopClosure none s.frames).length = (setTopClosure c s.frames).length := by
        simp [length_setTopClosure]
      rw [hl, truncate_append, setTopClosure_twice, setTopClosure_top]
    · rw [ho]
      simp

theorem performInclude_caps (instr tmplAe cost limit : Nat) (newBlocks : Nat → Option BlockStack)
    (body : Body) (hc : BalancedOnOk body) (s : St) (o : Out)
    (hok : (performInclude instr tmplAe cost limit newBlocks body s o).1 = .ok) :
    (performInclude instr tmplAe cost limit newBlocks body s o).2.2.caps = o.caps := by
  unfold performInclude at hok ⊢
  by_cases hlim : s.depth + cost > limit
  · simp [hlim] at hok
  · simp only [hlim, if_false, withExec] at hok ⊢
    exact hc _ _ hok

/-- the hypotheses on the templates an include may evaluate -/
def ChoiceOk : Choice → Prop
  | .found _ _ _ body => TopClosureOnly body ∧ KeepsOuter body
  | _ => True

/-- the include statement on every way through it: either nothing at all is touched (the lookup failed, or nothing
was found and the statement did nothing), or it is `performInclude` on the one candidate that was found -/
theorem includeStmt_eq (cost limit : Nat) (ignoreMissing : Bool) (choices : List Choice) (tried : Nat)
    (s : St) (o : Out) :
    (∃ r, includeStmt cost limit ignoreMissing choices tried s o = (r, s, o)) ∨
    ∃ i a nb b, .found i a nb b ∈ choices ∧
      includeStmt cost limit ignoreMissing choices tried s o = performInclude i a cost limit nb b s o := by
  fun_induction includeStmt cost limit ignoreMissing choices tried s o with
  | case1 | case2 | case3 | case4 => exact .inl ⟨_, rfl⟩
  | case5 rest tried s o ih =>
    exact ih.imp id fun ⟨i, a, nb, b, hm, he⟩ => ⟨i, a, nb, b, List.mem_cons_of_mem _ hm, he⟩
  | case6 => exact .inr ⟨_, _, _, _, List.mem_cons_self, rfl⟩

/-- the include statement gives the state back — frames with their closure attachment, depth,
instructions, escape mode, current block, block table, loaded templates — on every way through it -/
theorem includeStmt_restores (cost limit : Nat) (ignoreMissing : Bool) (choices : List Choice)
    (h : ∀ c ∈ choices, ChoiceOk c) (tried : Nat) (s : St) (o : Out) :
    Same (includeStmt cost limit ignoreMissing choices tried s o).2.1 s := by
  rcases includeStmt_eq cost limit ignoreMissing choices tried s o with ⟨r, he⟩ | ⟨i, a, nb, b, hm, he⟩ <;> rw [he]
  · exact same_refl s
  · exact performInclude_restores i a cost limit nb b (h _ hm).1 (h _ hm).2 s o

/-- when no template is evaluated the output is not touched either -/
theorem includeStmt_noop (cost limit : Nat) (ignoreMissing : Bool) (choices : List Choice)
    (h : ∀ c ∈ choices, ∀ i a nb b, c ≠ .found i a nb b) (tried : Nat) (s : St) (o : Out) :
    (includeStmt cost limit ignoreMissing choices tried s o).2.1 = s ∧
    (includeStmt cost limit ignoreMissing choices tried s o).2.2 = o := by
  rcases includeStmt_eq cost limit ignoreMissing choices tried s o with ⟨r, he⟩ | ⟨i, a, nb, b, hm, _⟩
  · rw [he]; exact ⟨rfl, rfl⟩
  · exact absurd rfl (h _ hm i a nb b)

/-- with `take_closure()` hoisted in front of the candidate loop, an include that finds nothing and
is forgiven (`ignore missing`) succeeds and leaves the closure of the including frame detached -/
theorem hoisted_take_closure_loses_closure :
    ∃ (s : St) (o : Out),
      (includeStmtHoisted 10 500 true [.missing] s o).1 = .ok ∧
      ¬ Same (includeStmtHoisted 10 500 true [.missing] s o).2.1 s ∧
      Same (includeStmt 10 500 true [.missing] 0 s o).2.1 s := by
  refine ⟨{ frames := [⟨1, some 7⟩], outerDepth := 0, instructions := 0, autoEscape := 0,
            currentBlock := none, blocks := fun _ => none, loaded := [], pool := 0 }, ⟨0⟩, ?_, ?_, ?_⟩
  · simp [includeStmtHoisted, includeStmtHoisted.go]
  · intro h
    have := h.1
    simp [includeStmtHoisted, includeStmtHoisted.go, setTopClosure] at this
  · simp [includeStmt, same_refl]

/-- the override of the auto-escape mode never outlives `with_auto_escape`: whatever `f` does to the
mode, when the override changed the mode the old one is back afterwards (Ok and Err alike) -/
theorem withAutoEscape_mode (ae : Nat) (f : Body) (s : St) (o : Out) (h : s.autoEscape ≠ ae) :
    (withAutoEscape ae f s o).2.1.autoEscape = s.autoEscape := by
  simp [withAutoEscape, h]

/-- with a callee that leaves the state alone (the formatter only reads it) the whole state is
what it was, on both branches of the helper and for both outcomes -/
theorem withAutoEscape_restores (ae : Nat) (f : Body) (hf : ∀ s o, (f s o).2.1 = s) (s : St) (o : Out) :
    (withAutoEscape ae f s o).2.1 = s := by
  unfold withAutoEscape
  split
  · exact hf s o
  · simp [hf]

/-- the inverted guard leaves the override installed whenever it changed the mode -/
theorem withAutoEscapeInverted_leaks :
    ∃ (f : Body) (s : St) (o : Out), (∀ s o, (f s o).2.1 = s) ∧
      (withAutoEscapeInverted 2 f s o).2.1.autoEscape ≠ s.autoEscape ∧
      (withAutoEscape 2 f s o).2.1 = s := by
  refine ⟨fun s o => (.ok, s, o),
    { frames := [], outerDepth := 0, instructions := 0, autoEscape := 0, currentBlock := none,
      blocks := fun _ => none, loaded := [], pool := 0 }, ⟨0⟩, fun _ _ => rfl, ?_, ?_⟩
  · simp [withAutoEscapeInverted]
  · simp [withAutoEscape]

/-- returning early on `Err` (before the caller's context is swapped back) is *not* a restore:
the caller is left with the macro's frames and depth -/
theorem earlyReturn_does_not_restore :
    ∃ (body : Body) (s : St),
      (evalMacroEarlyReturn 7 4 500 ⟨100, none⟩ ⟨101, none⟩ body s).1 = .err ∧
      ¬ Same (evalMacroEarlyReturn 7 4 500 ⟨100, none⟩ ⟨101, none⟩ body s).2 s := by
  refine ⟨fun s o => (.err, s, o),
    { frames := [⟨1, none⟩], outerDepth := 0, instructions := 0, autoEscape := 0, currentBlock := none,
      blocks := fun _ => none, loaded := [], pool := 0 }, ?_, ?_⟩
  · simp [evalMacroEarlyReturn, St.depth, withExec]
  · intro h
    have := h.1
    simp [evalMacroEarlyReturn, St.depth, withExec, exitFrames] at this

end MJ.Nested
