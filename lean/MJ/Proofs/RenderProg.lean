import MJ.Model.RenderProg
import MJ.Proofs.World
/-!
Renders as programs of lookups (C15): run on an environment of a world a program behaves as on that
environment's value, and lookups leave the outcome of every later program as it was.
-/
namespace MJ.Render
open MJ.Store

variable (c : LtCfg → Source → Bool)

theorem runAt_local {Out : Type} (e : Nat) (p : Prog Out) :
    ∀ (w : World), w.WF → ∀ v, w.flatView e = some v →
      (p.runAt c e w).1 = (p.runOn c v).1 ∧ (p.runAt c e w).2.flatView e = some (p.runOn c v).2 := by
  induction p with
  | ret o => intro w _ v hv; exact ⟨rfl, hv⟩
  | lookup n k ih =>
    intro w hw v hv
    obtain ⟨h1, h2⟩ := World.step_local c w hw (.store (.get n)) hv
    have := ih (w.step c (.store e (.get n))).2 _ (World.step_WF c w _ hw) _ h1
    simp only [Prog.runAt, Prog.runOn]
    change (w.step c (.store e (.get n))).2 = _ at h2
    rw [← h2]
    exact this

/-- two stores that answer every lookup alike (and load alike in future) -/
def Flat.Same (f f' : Flat) : Prop :=
  f'.loader = f.loader ∧ f'.cfg = f.cfg ∧ ∀ n, (f'.get c n).2 = (f.get c n).2

theorem Flat.Same.refl (f : Flat) : Flat.Same c f f := ⟨rfl, rfl, fun _ => rfl⟩

theorem Flat.Same.get_left (c : LtCfg → Source → Bool) {f f' : Flat} (h : Flat.Same c f f') (m : Name) :
    Flat.Same c f (f'.get c m).1 := by
  obtain ⟨hl, hc, hg⟩ := h
  obtain ⟨b1, b2⟩ := Flat.get_frame c f' m
  refine ⟨by rw [b1, hl], by rw [b2, hc], fun n => ?_⟩
  rw [flat_get_get_result, hg]

/-- the part of an environment's value a run of lookups cannot change, and the part it changes only
    by memoising -/
def EnvSpec.Same (v v' : EnvSpec) : Prop :=
  Flat.Same c v.flat v'.flat ∧ v'.rt = v.rt ∧ v'.filters = v.filters ∧ v'.tests = v.tests ∧ v'.globals = v.globals

theorem EnvSpec.Same.refl (v : EnvSpec) : EnvSpec.Same c v v := ⟨Flat.Same.refl c v.flat, rfl, rfl, rfl, rfl⟩

theorem EnvSpec.Same.get_left {v v' : EnvSpec} (h : EnvSpec.Same c v v') (n : Name) :
    EnvSpec.Same c v { v' with flat := (v'.flat.get c n).1 } :=
  ⟨Flat.Same.get_left c h.1 n, h.2⟩

theorem runOn_same {Out : Type} (p : Prog Out) :
    ∀ v v' : EnvSpec, EnvSpec.Same c v v' →
      (p.runOn c v').1 = (p.runOn c v).1 ∧ EnvSpec.Same c v (p.runOn c v').2 := by
  induction p with
  | ret o => intro v v' h; exact ⟨rfl, h⟩
  | lookup n k ih =>
    intro v v' h
    simp only [Prog.runOn, EnvSpec.step]
    rw [show (v'.flat.step c (.get n)).2 = (v.flat.step c (.get n)).2 from h.1.2.2 n]
    -- after the lookup both `v'` and `v` itself still answer like `v`: compare both continuations with `v`
    obtain ⟨a1, a2⟩ := ih _ v _ (h.get_left c n)
    obtain ⟨b1, _⟩ := ih _ v _ ((EnvSpec.Same.refl c v).get_left c n)
    exact ⟨a1.trans b1.symm, a2⟩

end MJ.Render
