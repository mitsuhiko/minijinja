import MJ.Model.FuelEdge
import MJ.Proofs.Fuel
namespace MJ.Fuel

theorem splice_total {cs : List (List String)} {f s : List String} (h : Splice cs f s) :
    total s = total f + calleesTotal cs := by
  induction h with
  | nil => simp [total, calleesTotal]
  | own i _ ih => simp only [total, ih]; omega
  | callee c _ ih => simp only [total_append, calleesTotal, ih]; omega

theorem calleesTotal_replicate (m : Nat) (c : List String) : calleesTotal (List.replicate m c) = m * total c := by
  induction m with
  | zero => simp [calleesTotal]
  | succ n ih => simp only [List.replicate_succ, calleesTotal, ih, Nat.succ_mul]; omega

theorem splice_no_callee (f : List String) : Splice [] f f := by
  induction f with
  | nil => exact Splice.nil
  | cons i _ ih => exact Splice.own i ih

/-- a splice exists for every way of cutting the frame: `pre ++ c ++ post` -/
theorem splice_mid (pre c post : List String) : Splice [c] (pre ++ post) (pre ++ c ++ post) := by
  induction pre with
  | nil => exact Splice.callee c (splice_no_callee post)
  | cons i _ ih => simpa using Splice.own i ih

end MJ.Fuel
