import MJ.Model.CollV
import MJ.Proofs.CmpNumFloatEq
import MJ.Proofs.CmpMap
import MJ.Proofs.CollGroup
/-!
# The filters on values obey the laws of `MJ.Coll`

`cmp_helper` is `Value::cmp` on case-folded keys (`cmpHelper_eq`), and on values whose numbers are within
range that is the order of the key type `K` read through `kk` (`pullsBack_cmpHelper`): the hypothesis
under which `MJ.Coll` proves the laws of `sort`, `dictsort`, `unique`, `groupby`, `min`, `max`.
-/
namespace MJ.CollV
open MJ MJ.Val MJ.Cmp MJ.Coll MJ.CmpKey MJ.CmpNum MJ.CmpEq Std

theorem rank_str (s t : List Nat) : (V.str s).rank = (V.str t).rank := rfl

theorem cmpV_str_str (s t : List Nat) : cmpV (.str s) (.str t) = cmpBytes s t := by
  rw [cmpV]; simp [rank_str s t]

theorem foldCase_of_not_str (cs : Bool) {v : V} (h : cls v ≠ .str) : foldCase cs v = v := by
  cases v <;> first | rfl | exact absurd rfl h

theorem cls_foldCase (cs : Bool) (v : V) : cls (foldCase cs v) = cls v := by
  cases v <;> first | rfl | (cases cs <;> rfl)

theorem rank_foldCase (cs : Bool) (v : V) : (foldCase cs v).rank = v.rank := by
  rw [rank_cls, rank_cls, cls_foldCase]

theorem cls_str_iff (v : V) : cls v = .str ↔ ∃ s, v = .str s := by
  refine ⟨fun h => ?_, fun ⟨s, e⟩ => e ▸ rfl⟩
  cases v <;> first | exact ⟨_, rfl⟩ | cases h

theorem cmpCore_of_not_both_str (cs : Bool) {a b : V} (h : ¬ (cls a = .str ∧ cls b = .str)) :
    cmpCore cs a b = cmpV a b := by
  unfold cmpCore
  split
  · rfl
  · split
    · exact absurd ⟨rfl, rfl⟩ h
    · rfl

theorem cmpCore_eq (cs : Bool) (a b : V) : cmpCore cs a b = cmpV (foldCase cs a) (foldCase cs b) := by
  by_cases hc : cls a = cls b
  · by_cases hs : cls a = .str
    · obtain ⟨x, rfl⟩ := (cls_str_iff a).mp hs
      obtain ⟨y, rfl⟩ := (cls_str_iff b).mp (hc ▸ hs)
      cases cs <;> simp [cmpCore, foldCase, cmpV_str_str]
    · rw [cmpCore_of_not_both_str cs (fun h => hs h.1), foldCase_of_not_str cs hs,
        foldCase_of_not_str cs (hc ▸ hs)]
  · -- different classes: the kinds decide, and folding keeps the kind
    have hr : a.rank ≠ b.rank := fun h => hc (cls_eq_of_rank_eq h)
    rw [cmpCore_of_not_both_str cs (fun h => hc (h.1.trans h.2.symm)), cmpV_of_rank_ne hr,
      cmpV_of_rank_ne (by rw [rank_foldCase, rank_foldCase]; exact hr), rank_foldCase, rank_foldCase]

/-- `cmp_helper` is `Value::cmp` on the case-folded operands (reversed with `reverse`) -/
theorem cmpHelper_eq (cs rev : Bool) (a b : V) :
    cmpHelper cs rev a b = revCmp (fun x y => cmpV (foldCase cs x) (foldCase cs y)) rev a b := by
  unfold cmpHelper revCmp
  rw [cmpCore_eq]

theorem inRange_foldCase (cs : Bool) {v : V} (h : AllNum N.WF v) : AllNum N.WF (foldCase cs v) := by
  cases v <;> simp only [foldCase] <;> try exact h
  split <;> simp [AllNum]

/-- the key in the linearly ordered key type -/
def kk (cs : Bool) (v : V) : K := key (foldCase cs v)

theorem pullsBack_cmpHelper (cs rev : Bool) : PullsBack (cmpHelper cs rev) (AllNum N.WF) (revCmp cmpK rev) (kk cs) := by
  intro a b ha hb
  rw [cmpHelper_eq]
  unfold revCmp kk
  simp only []
  rw [cmpV_eq_cmpK numSpec_wf _ _ (inRange_foldCase cs ha) (inRange_foldCase cs hb)]

theorem sortBy_spec {α : Type} (cs rev : Bool) (kf : α → V) (xs : List α) (h : ∀ x ∈ xs, AllNum N.WF (kf x)) :
    (xs.mergeSort (fun a b => cmpHelper cs rev (kf a) (kf b) != .gt)).Perm xs ∧
    (xs.mergeSort (fun a b => cmpHelper cs rev (kf a) (kf b) != .gt)).Pairwise
      (fun a b => cmpHelper cs rev (kf a) (kf b) ≠ .gt) ∧
    (∀ a b, [a, b].Sublist xs → cmpHelper cs rev (kf a) (kf b) = .eq →
      [a, b].Sublist (xs.mergeSort (fun a b => cmpHelper cs rev (kf a) (kf b) != .gt))) := by
  obtain ⟨h1, h2⟩ := sort_sorted_on (pullsBack_cmpHelper cs rev) kf xs h
  exact ⟨h1, h2, fun a b hs he => sort_stable_on (pullsBack_cmpHelper cs rev) kf xs h [a, b] hs (by simp [he])⟩

theorem groupbyKV_spec (cs : Bool) (kf : V → V) (xs : List V) (h : ∀ x ∈ xs, AllNum N.WF (kf x)) :
    let S := xs.mergeSort (fun a b => cmpHelper cs false (kf a) (kf b) != .gt)
    let G := groupLoop (cmpHelper cs false) kf S Option.none []
    G.flatMap (·.2) = S ∧ S.Perm xs ∧
    (∀ p ∈ G, p.2 ≠ [] ∧ ∀ y ∈ p.2, cmpHelper cs false p.1 (kf y) = .eq) ∧
    G.Pairwise (fun p q => cmpHelper cs false p.1 q.1 = .lt) :=
  groupby_spec_on (pullsBack_cmpHelper cs false) xs h

/-- the key `unique` memorises -/
def uniqKey (m : Mode) (lower : List Nat → List Nat) (cs : Bool) (attr : Option (List Nat)) (x : V) : V :=
  match keyOf m attr x with
  | .str s => if cs then .str s else .str (lower s)
  | v => v

/-- `x in m` for a `BTreeMap`-backed map: some key compares `Equal` to `x` … -/
theorem contains_map_iff_cmp (ps : List (V × V)) (x : V) :
    containsV .btree (.map ps) x = some true ↔ ∃ p ∈ ps, cmpV x p.1 = .eq := by
  simp only [containsV, getV, Option.some.injEq]
  exact getB_isSome_iff x ps

/-- … which is "some key is `==` to `x`" outside the excluded regions (NaN, bool facing number) -/
theorem contains_map_iff_eq (ps : List (V × V)) (x : V)
    (hx : AllNum NumOK x) (hps : ∀ p ∈ ps, AllNum NumOK p.1)
    (sx : allV mapSorted x = true) (sps : ∀ p ∈ ps, allV mapSorted p.1 = true)
    (hc : ∀ p ∈ ps, noClash x p.1 = true) :
    containsV .btree (.map ps) x = some true ↔ ∃ p ∈ ps, eqV .btree p.1 x = true := by
  rw [contains_map_iff_cmp]
  -- key by key: `==` is `Equal` (with the key on the left), and `Equal` is symmetric
  have g : ∀ p ∈ ps, (cmpV x p.1 = .eq ↔ eqV .btree p.1 x = true) := fun p hp =>
    ((eq_iff_cmp numSpec_ok eqSpec_ok p.1 x ⟨hps p hp, hx, sps p hp, sx, noClash_symm (hc p hp)⟩).trans
      (cmpV_eq_comm numSpec_ok (hps p hp) hx)).symm
  exact ⟨fun ⟨p, hp, he⟩ => ⟨p, hp, (g p hp).mp he⟩, fun ⟨p, hp, he⟩ => ⟨p, hp, (g p hp).mpr he⟩⟩

/-- `select` keeps exactly the items passing the test, `reject` the others, both in input order;
    together they are the input -/
theorem select_reject (m : Mode) (attr : Option (List Nat)) (t : Test) (arg : V) (xs : List V) :
    selectV m false attr t arg xs = xs.filter (fun x => testV m t (keyOf m attr x) arg) ∧
    selectV m true attr t arg xs = xs.filter (fun x => !testV m t (keyOf m attr x) arg) ∧
    (selectV m false attr t arg xs ++ selectV m true attr t arg xs).Perm xs ∧
    (selectV m false attr t arg xs).Sublist xs ∧ (selectV m true attr t arg xs).Sublist xs := by
  have e1 : selectV m false attr t arg xs = xs.filter (fun x => testV m t (keyOf m attr x) arg) := by
    unfold selectV; congr 1; funext x; simp
  have e2 : selectV m true attr t arg xs = xs.filter (fun x => !testV m t (keyOf m attr x) arg) := by
    unfold selectV; congr 1; funext x; cases testV m t (keyOf m attr x) arg <;> rfl
  refine ⟨e1, e2, ?_, ?_, ?_⟩
  · rw [e1, e2]; exact List.filter_append_perm _ _
  · rw [e1]; exact List.filter_sublist
  · rw [e2]; exact List.filter_sublist

/-- `selectattr(a, "eq", v)` is the filter by `==`; `"lt"` by `cmp = Less`; `"in"` by containment -/
theorem select_tests (m : Mode) (a b : V) :
    testV m .eq a b = eqV m a b ∧ testV m .ne a b = !eqV m a b ∧
    (testV m .lt a b = true ↔ cmpV a b = .lt) ∧ (testV m .le a b = true ↔ cmpV a b ≠ .gt) ∧
    (testV m .gt a b = true ↔ cmpV a b = .gt) ∧ (testV m .ge a b = true ↔ cmpV a b ≠ .lt) ∧
    (testV m .isIn a b = true ↔ containsV m b a = some true) := by
  refine ⟨rfl, rfl, ?_, ?_, ?_, ?_, ?_⟩ <;> simp only [testV]
  · cases cmpV a b <;> simp
  · cases cmpV a b <;> simp
  · cases cmpV a b <;> simp
  · cases cmpV a b <;> simp
  · cases containsV m b a with
    | none => simp
    | some v => cases v <;> simp

/-- a map literal: the last value given for a key is the one looked up (`BTreeMap::insert`) -/
theorem insertLit_lookup (k v : V) (hk : cmpV k k = .eq) (ps : List (V × V)) :
    getB k (insertLit k v ps) = some v := by
  unfold insertLit
  fun_induction insertB k v ps <;> simp_all [getB]

end MJ.CollV
