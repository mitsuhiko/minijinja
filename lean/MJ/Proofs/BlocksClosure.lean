import MJ.Proofs.BlocksLaw
/-!
# Closures and frames across an include

Macro closures are kept apart across an include, and an include / import leaves the frames below
its own alone: both are `Rel H` between the frames before and after (`specInclude_apart` with
`H` = the length of the closure heap, `include_rel` with `H = 0`).
-/
namespace MJ.Blocks

/-- what an evaluation may do to the variable state when closures `< H` are foreign: the frames
    and closure slots below the top frame untouched (statements assign into the frame on top only,
    everything nested runs in frames pushed above it), the closures `< H` untouched -/
structure Rel (H : Nat) (a b : Vars) : Prop where
  stack : b.stack.dropLast = a.stack.dropLast
  len : b.stack.length = a.stack.length
  cls : b.cls.dropLast = a.cls.dropLast
  clen : b.cls.length = a.cls.length
  old : ∀ i, i < H → b.heap[i]? = a.heap[i]?
  grow : a.heap.length ≤ b.heap.length

structure Pre (H : Nat) (a : Vars) : Prop where
  /-- the frame on top writes through to no closure older than `H` -/
  qt : ∀ c, a.topClosure = some c → H ≤ c
  hh : H ≤ a.heap.length
  wf : a.cls.length = a.stack.length

theorem Rel.refl (H : Nat) (a : Vars) : Rel H a a :=
  ⟨rfl, rfl, rfl, rfl, fun _ _ => rfl, Nat.le_refl _⟩

theorem Rel.trans {H : Nat} {a b c : Vars} (h1 : Rel H a b) (h2 : Rel H b c) : Rel H a c :=
  ⟨h2.stack.trans h1.stack, h2.len.trans h1.len, h2.cls.trans h1.cls, h2.clen.trans h1.clen,
   fun i hi => (h2.old i hi).trans (h1.old i hi), Nat.le_trans h1.grow h2.grow⟩

theorem Rel.below {H : Nat} {a b : Vars} (h : Rel H a b) (i : Nat) (hi : i + 1 < a.stack.length) :
    b.stack[i]? = a.stack[i]? := by
  have h1 : b.stack.dropLast[i]? = a.stack.dropLast[i]? := by rw [h.stack]
  rwa [List.getElem?_dropLast, List.getElem?_dropLast, if_pos (by rw [h.len]; omega), if_pos (by omega)] at h1

theorem heap_rel (H : Nat) (a : Vars) (h' : List Frame) (hp : Pre H a)
    (hold : ∀ i, i < H → h'[i]? = a.heap[i]?) (hg : a.heap.length ≤ h'.length) :
    Rel H a { a with heap := h' } ∧ Pre H { a with heap := h' } :=
  ⟨⟨rfl, rfl, rfl, rfl, hold, hg⟩, hp.qt, Nat.le_trans hp.hh hg, hp.wf⟩

theorem store_rel (H : Nat) (a : Vars) (v : Nat) (x : Val) (hp : Pre H a) :
    Rel H a (store a v x) ∧ Pre H (store a v x) := by
  unfold store
  cases hs : a.stack.reverse with
  | nil => exact ⟨Rel.refl H a, hp⟩
  | cons top below =>
    have hst : a.stack = below.reverse ++ [top] := List.reverse_eq_cons_iff.1 hs
    obtain ⟨h1, h2⟩ := heap_rel H a (closureWrite a v x) hp
      (fun i hi => closureWrite_other a v x i (fun c hc => by have := hp.qt c hc; omega))
      (Nat.le_of_eq (closureWrite_length a v x).symm)
    refine ⟨⟨?_, ?_, rfl, rfl, h1.old, h1.grow⟩, hp.qt, h2.hh, ?_⟩
    · simp [hst]
    · simp [hst]
    · simp [hp.wf, hst]

theorem setTopClosure_cls (a : Vars) (c : Option Nat) :
    (a.setTopClosure c).cls.dropLast = a.cls.dropLast ∧ (a.setTopClosure c).cls.length = a.cls.length := by
  unfold Vars.setTopClosure
  cases h : a.cls.reverse with
  | nil => exact ⟨rfl, rfl⟩
  | cons x xs =>
    have hl : a.cls = xs.reverse ++ [x] := List.reverse_eq_cons_iff.1 h
    simp [hl]

theorem setTopClosure_rel (H : Nat) (a : Vars) (c : Option Nat) : Rel H a (a.setTopClosure c) :=
  ⟨by rw [setTopClosure_stack], by rw [setTopClosure_stack], (setTopClosure_cls a c).1, (setTopClosure_cls a c).2,
   fun i _ => by rw [setTopClosure_heap], by rw [setTopClosure_heap]; exact Nat.le_refl _⟩

theorem setTopClosure_pre (H : Nat) (a : Vars) (c : Option Nat) (hh : H ≤ a.heap.length) (wf : a.WF)
    (hc : ∀ k, c = some k → H ≤ k) : Pre H (a.setTopClosure c) := by
  refine ⟨?_, by rw [setTopClosure_heap]; exact hh, by rw [(setTopClosure_cls a c).2, setTopClosure_stack]; exact wf⟩
  intro k hk
  by_cases h : a.cls = []
  · rw [topClosure_setTopClosure_nil a c h] at hk; cases hk
  · rw [topClosure_setTopClosure a c h] at hk; exact hc k hk

theorem push_pre (H : Nat) (a : Vars) (fr : Frame) (hp : Pre H a) : Pre H (a.push [fr]) := by
  refine ⟨?_, hp.hh, by simp [Vars.push, hp.wf]⟩
  intro c hc; rw [topClosure_push] at hc; cases hc

/-- what comes back from one frame further up, with that frame dropped, is `a` with a newer heap -/
theorem pop_eq {H : Nat} {a b : Vars} {fr : Frame} (wf : a.cls.length = a.stack.length)
    (hr : Rel H (a.push [fr]) b) : b.take a.length = { a with heap := b.heap } := by
  have h1 : b.stack.take a.stack.length = a.stack := by
    have := hr.stack
    rw [List.dropLast_eq_take, hr.len] at this
    simpa [Vars.push] using this
  have h2 : b.cls.take a.stack.length = a.cls := by
    have := hr.cls
    rw [List.dropLast_eq_take, hr.clen] at this
    simpa [Vars.push, wf] using this
  simp only [Vars.take, Vars.length, h1, h2]

theorem pop_rel (H : Nat) (a b : Vars) (fr : Frame) (hp : Pre H a) (hr : Rel H (a.push [fr]) b) :
    Rel H a (b.take a.length) ∧ Pre H (b.take a.length) := by
  rw [pop_eq hp.wf hr]
  exact heap_rel H a b.heap hp hr.old hr.grow

theorem repush_rel (H : Nat) (a s : Vars) (x fr : Frame) (hp : Pre H a) (hr : Rel H (a.push [x]) s) :
    Rel H (a.push [x]) ((s.take a.length).push [fr]) ∧ Pre H ((s.take a.length).push [fr]) := by
  obtain ⟨_, h2⟩ := pop_rel H a s x hp hr
  refine ⟨?_, push_pre H _ fr h2⟩
  rw [pop_eq hp.wf hr]
  exact ⟨by simp [Vars.push], by simp [Vars.push], by simp [Vars.push], by simp [Vars.push], hr.old, hr.grow⟩

theorem openClosure_rel (H : Nat) (a : Vars) (hp : Pre H a) :
    Rel H a a.openClosure ∧ Pre H a.openClosure := by
  unfold Vars.openClosure
  cases hc : a.topClosure with
  | some c => exact ⟨Rel.refl H a, hp⟩
  | none =>
    have hs := setTopClosure_rel H a (some a.heap.length)
    have hq := setTopClosure_pre H a (some a.heap.length) hp.hh hp.wf (by intro k hk; cases hk; exact hp.hh)
    obtain ⟨h1, h2⟩ := heap_rel H _ (a.heap ++ [[]]) hq
      (fun i hi => by rw [setTopClosure_heap]; exact List.getElem?_append_left (Nat.lt_of_lt_of_le hi hp.hh))
      (by rw [setTopClosure_heap]; simp)
    exact ⟨hs.trans h1, h2⟩

theorem enclose_rel (H : Nat) (ctx : Frame) (a : Vars) (w : Nat) (hp : Pre H a) :
    Rel H a (enclose ctx a w) ∧ Pre H (enclose ctx a w) := by
  obtain ⟨h1, h2⟩ := openClosure_rel H a hp
  unfold enclose
  simp only []
  cases hc : a.openClosure.topClosure with
  | none => exact ⟨h1, h2⟩
  | some c =>
    simp only []
    split
    · exact ⟨h1, h2⟩
    · obtain ⟨h3, h4⟩ := heap_rel H a.openClosure (modAt a.openClosure.heap c
          (fun cl => (w, (load ctx a.openClosure w).getD .undef) :: cl)) h2
        (fun i hi => modAt_get_ne _ _ _ _ (by have := h2.qt c hc; omega)) (Nat.le_of_eq (modAt_length _ _ _).symm)
      exact ⟨h1.trans h3, h4⟩

/-- the rule of `MJ.Proofs.BlocksLaw` for closures: a successful run leaves foreign closures
    (those `< H`) alone; nothing is claimed about errors -/
abbrev Keeps (H : Nat) (a : Vars) (r : SRes) : Prop := Resp (Pre H) (Rel H) (fun _ => True) a r

structure CbKeeps (cbs : SpecCbs) (H : Nat) : Prop where
  body : ∀ D m k disc outer ae a, Pre H a → Keeps H a (cbs.body D m k disc outer ae a)
  list : ∀ D cur disc ext outer ae items a, Pre H a → Keeps H a (cbs.list D cur disc ext outer ae items a)
  chain : ∀ chain inh disc outer ae layout a, Pre H a → Keeps H a (cbs.chain chain inh disc outer ae layout a)

theorem keepsLaw (H : Nat) : Law (fun _ => Pre H) (Rel H) (fun _ => True) where
  refl := Rel.refl H
  trans := Rel.trans
  err _ := trivial
  wrap _ _ _ := trivial
  store v x h := store_rel H _ v x h
  enclose ctx w h := enclose_rel H ctx _ w h
  detach h := ⟨setTopClosure_rel H _ none, setTopClosure_pre H _ none h.hh h.wf (by intro k hk; cases hk)⟩
  -- the included template returns the frame count it got, so `take` changes nothing
  attach {_ a b} ha hab hb := by
    rw [take_self b a.length hab.len (by rw [hab.clen]; exact ha.wf)]
    exact ⟨hab.trans (setTopClosure_rel H b _), setTopClosure_pre H b _ hb.hh hb.wf ha.qt⟩
  push fr h := push_pre H _ fr h
  pop fr ha hr _ := pop_rel H _ _ fr ha hr
  repush x fr ha hr _ := repush_rel H _ _ x fr ha hr

theorem CbKeeps.law {cbs : SpecCbs} {H : Nat} (h : CbKeeps cbs H) (outer n : Nat) :
    CbLaw (fun _ => Pre H) (Rel H) (fun _ => True) cbs outer n :=
  ⟨fun D m k disc ae a ha _ => h.body D m k disc outer ae _ (push_pre H a [] ha),
   fun D cur disc ext ae items _ b _ _ hb => h.list D cur disc ext outer ae items b hb,
   fun _ _ _ _ _ _ _ _ _ _ => trivial,
   fun t inh disc ae layout _ a _ ha _ => h.chain [t] inh disc (outer + INCLUDE_COST) ae layout a ha⟩

theorem keeps_all (env : Env) (ctx : Cfg) (H : Nat) : ∀ f, CbKeeps (specAll env ctx f) H := by
  intro f
  induction f with
  | zero => exact ⟨fun _ _ _ _ _ _ _ _ => trivial, fun _ _ _ _ _ _ _ _ _ => trivial,
                  fun _ _ _ _ _ _ _ _ => trivial⟩
  | succ f ih =>
    have hitems : ∀ D cur disc ext outer ae items a, Pre H a →
        Keeps H a (specItems env ctx (specAll env ctx f) D cur disc ext outer ae items a) :=
      fun D cur disc ext outer ae items a hp =>
        specItems_resp (keepsLaw H) env ctx (ih.law outer 0) D cur disc ext ae items
          (fun m body _ _ b hb => ih.list D cur disc ext outer m body b hb) a hp
    refine ⟨?_, ?_, ?_⟩
    · intro D m k disc outer ae a hp
      simp only [specAll]
      cases (D m)[k]? with
      | none => trivial
      | some b => exact hitems D _ disc false outer ae b a hp
    · intro D cur disc ext outer ae items a hp
      exact hitems D cur disc ext outer ae items a hp
    · intro chain inh disc outer ae layout a hp
      exact specChain_resp (keepsLaw H) env ctx (ih.law outer 0) chain inh disc ae layout
        (fun D cur disc ext m body _ b hb => ih.list D cur disc ext outer m body b hb)
        (fun t T b _ _ hb => ih.chain (chain ++ [t]) inh disc outer ae T.layout b hb) a hp

theorem specInclude_apart (env : Env) (ctx : Cfg) (f : Nat) (inh : Option Nat) (disc ign : Bool) (outer : Nat)
    (names : List Cand) (tried : Bool) (a b : Vars) (o : List String)
    (hwf : a.cls.length = a.stack.length)
    (h : specInclude env (specAll env ctx f) inh disc ign outer names tried a = .ok (o, b)) :
    (∀ i, i < a.heap.length → b.heap[i]? = a.heap[i]?) ∧ b.topClosure = a.topClosure := by
  rw [specInclude_select] at h
  cases hs : select env names tried with
  | loadError t k => rw [hs] at h; cases h
  | notAString => rw [hs] at h; cases h
  | nothing tr =>
    rw [hs] at h
    simp only [] at h
    split at h
    · cases h
    · cases h; exact ⟨fun _ _ => rfl, rfl⟩
  | render t T =>
    rw [hs] at h
    simp only [specIncludeTemplate] at h
    split at h
    · cases h
    · -- with its closure detached the frame on top writes to nothing that exists yet
      have hp0 : Pre a.heap.length (a.setTopClosure none) :=
        setTopClosure_pre _ a none (Nat.le_refl _) hwf (by intro k hk; cases hk)
      have hc := (keeps_all env ctx a.heap.length f).chain [t] inh disc (outer + INCLUDE_COST) T.ae T.layout _ hp0
      cases hr : (specAll env ctx f).chain [t] inh disc (outer + INCLUDE_COST) T.ae T.layout (a.setTopClosure none) with
      | error e => rw [hr] at h; cases h
      | ok q =>
        obtain ⟨o', b'⟩ := q
        rw [hr] at h hc
        simp only [] at h
        have hab := (setTopClosure_rel a.heap.length a none).trans hc.1
        rw [take_self b' a.length hab.len (by rw [hab.clen]; exact hwf)] at h
        cases h
        refine ⟨fun i hi => by rw [setTopClosure_heap]; exact hab.old i hi, ?_⟩
        by_cases hc : a.cls = []
        · have hb : b'.cls = [] := List.eq_nil_of_length_eq_zero (by rw [hab.clen, hc]; rfl)
          rw [topClosure_setTopClosure_nil _ _ hb]
          simp [Vars.topClosure, hc]
        · have hb : b'.cls ≠ [] := by
            intro hb
            have := hab.clen; rw [hb] at this
            exact hc (List.eq_nil_of_length_eq_zero this.symm)
          exact topClosure_setTopClosure _ _ hb

theorem store_heap_other (a : Vars) (v : Nat) (x : Val) (i : Nat)
    (hi : ∀ c, a.topClosure = some c → i ≠ c) : (store a v x).heap[i]? = a.heap[i]? := by
  unfold store
  cases a.stack.reverse with
  | nil => rfl
  | cons top below => exact closureWrite_other a v x i hi

theorem enclose_heap_other (ctx : Frame) (a : Vars) (w : Nat) (i : Nat) (hlt : i < a.heap.length)
    (hi : ∀ c, a.topClosure = some c → i ≠ c) : (enclose ctx a w).heap[i]? = a.heap[i]? := by
  have hopen : a.openClosure.heap[i]? = a.heap[i]? ∧ ∀ c, a.openClosure.topClosure = some c → i ≠ c := by
    unfold Vars.openClosure
    cases hc : a.topClosure with
    | some c => exact ⟨rfl, fun c' hc' => hi c' (hc.symm ▸ hc')⟩
    | none =>
      simp only []
      refine ⟨List.getElem?_append_left hlt, ?_⟩
      intro c hc'
      change (a.setTopClosure (some a.heap.length)).topClosure = some c at hc'
      by_cases he : a.cls = []
      · rw [topClosure_setTopClosure_nil _ _ he] at hc'; cases hc'
      · rw [topClosure_setTopClosure _ _ he] at hc'; cases hc'; omega
  unfold enclose
  simp only []
  cases hc : a.openClosure.topClosure with
  | none => exact hopen.1
  | some c =>
    simp only []
    split
    · exact hopen.1
    · show (modAt a.openClosure.heap c _)[i]? = a.heap[i]?
      rw [modAt_get_ne _ _ _ _ (hopen.2 c hc)]
      exact hopen.1

theorem include_rel (env : Env) (ctx : Cfg) (fuel : Nat) (henv : EnvOK env)
    (cur : Option Nat) (disc ign : Bool) (outer : Nat) (cands : List Cand) (tried : Bool)
    (st st' : St) (o : List String) (hwf : st.frames.WF)
    (h : performInclude env (evalImpl env ctx fuel) cur disc ign outer cands tried st = .ok (o, st')) :
    Rel 0 st.frames st'.frames := by
  rw [include_sim (hyp_all env ctx henv fuel) henv] at h
  have hk := specInclude_resp (keepsLaw 0) ((keeps_all env ctx 0 fuel).law outer 0) env cur disc ign cands tried
    (Or.inl rfl) st.frames ⟨fun _ _ => Nat.zero_le _, Nat.zero_le _, hwf⟩
  rw [(liftS_ok h).1] at hk
  exact hk.1

/-- a successful include returns as many frames as it got, and the frames below the current one
    hold what they held -/
theorem include_frames (env : Env) (ctx : Cfg) (fuel : Nat) (henv : EnvOK env)
    (cur : Option Nat) (disc ign : Bool) (outer : Nat) (cands : List Cand) (tried : Bool)
    (st st' : St) (o : List String) (hwf : st.frames.WF)
    (h : performInclude env (evalImpl env ctx fuel) cur disc ign outer cands tried st = .ok (o, st')) :
    st'.frames.stack.length = st.frames.stack.length ∧
      ∀ i, i + 1 < st.frames.stack.length → st'.frames.stack[i]? = st.frames.stack[i]? :=
  have hr := include_rel env ctx fuel henv cur disc ign outer cands tried st st' o hwf h
  ⟨hr.len, hr.below⟩

/-- an include into a fresh frame (`import`, `from … import`): when it succeeds there is exactly
    one frame more, and *all* of the importer's frames hold what they held -/
theorem import_frames (env : Env) (ctx : Cfg) (fuel : Nat) (henv : EnvOK env)
    (cur : Option Nat) (disc ign : Bool) (outer : Nat) (cands : List Cand) (tried : Bool)
    (st st' : St) (o : List String) (hwf : st.frames.WF)
    (h : performInclude env (evalImpl env ctx fuel) cur disc ign outer cands tried
          { st with frames := st.frames.push [[]] } = .ok (o, st')) :
    st'.frames.length = st.frames.length + 1 ∧
      (st'.frames.take st.frames.length).stack = st.frames.stack := by
  have hr := include_rel env ctx fuel henv cur disc ign outer cands tried _ st' o (push_WF _ _ hwf) h
  exact ⟨by have := hr.len; simp only [Vars.push, List.length_append, List.length_singleton] at this; exact this,
    by rw [pop_eq hwf hr]⟩

end MJ.Blocks
