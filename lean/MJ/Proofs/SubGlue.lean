import MJ.Model.Subscript
import MJ.Proofs.SubClamp
import MJ.Proofs.SubUtf8
import MJ.Proofs.SliceLemmas
/-!
# The glue model (`MJ.Sub`) read against Python

`HoldsInt v x`: `primitive_int_try_from!` has an arm for `v` and `v` holds the integer `x`.  Every conversion is then a
function of `x` and of its own range (`tryInt_of_payload`); `slice_bound` is `clampI64 x` (`sliceBound_of_holds`).
`pyInt`, `pyBound`, `pyView` (into `PySeq`) are the specification side: what Python takes for an index, for a slice part,
for a sequence.  `sliceV_conv` is `ops::slice` after the three conversions, as one equation over `pyView`.  `keyPos` is
the position a key denotes; every arm of `get_item_opt` hands out the item there (`indexOf_get`), and the
`get_value(key)` fallback of sequences never answers differently (`vecGet_dead`, `vecGet_agrees`).

The facts about *which arm does what* are proved against the tables regenerated from `/repo`
(`MJ.Gen.c09…`) by evaluation (`rfl`/`decide`): when an arm of `ops::slice`, `slice_bound`,
`primitive_int_try_from!`, `get_item_opt` or `handle_undefined` changes, they stop checking.
-/
namespace MJ.Sub
open MJ Chk Slice

/-- Python's view of an index-like value (`__index__`): integers of every representation, booleans -/
def pyInt {α : Type} : Val α → Option Int
  | .bool b => some (if b then 1 else 0)
  | .num (.i64 x) => some x
  | .num (.u64 x) => some x
  | .num (.i128 x) => some x
  | .num (.u128 x) => some x
  | _ => Option.none

/-- an `I64` holds an `i64` (the other representations need no side condition here) -/
def Val.WF {α : Type} : Val α → Prop
  | .num (.i64 x) => i64Min ≤ x ∧ x ≤ i64Max
  | _ => True

/-- a slice part as Python sees it: omitted (`none`) or an integer -/
def pyBound {α : Type} (v : Val α) : Option (Option Int) :=
  match v with
  | .none => some Option.none
  | v => (pyInt v).map some

/-- a value `primitive_int_try_from!` has an arm for, holding the integer `x`: a boolean (`x` is
    0 or 1), an integer of any of the four representations, or an integral float below `2^63` -/
def HoldsInt {α : Type} (v : Val α) (x : Int) : Prop :=
  MJ.Gen.c09IntTryFromArms.contains v.repr = true ∧ v.payload = some x ∧ v.WF

/-- every conversion reads the same payload and differs in the range only: what one of them accepts
    decides what every other one makes of the value -/
theorem tryInt_transfer {α : Type} (lo hi lo' hi' : Int) (v : Val α) (x : Int) (h : tryInt lo hi v = some x) :
    tryInt lo' hi' v = if lo' ≤ x ∧ x ≤ hi' then some x else Option.none := by
  revert h
  fun_cases tryInt lo hi v with
  | case1 harm y hy _ => intro h; cases h; unfold tryInt; rw [if_pos harm, hy]
  | case2 | case3 | case4 => intro h; cases h

theorem tryInt_range {α : Type} (lo hi : Int) (v : Val α) (x : Int) (h : tryInt lo hi v = some x) : lo ≤ x ∧ x ≤ hi := by
  have ht := tryInt_transfer lo hi lo hi v x h
  rw [h] at ht
  exact Decidable.by_contra fun hr => by rw [if_neg hr] at ht; cases ht

theorem tryInt_of_payload {α : Type} (lo hi : Int) (v : Val α) (x : Int)
    (h : MJ.Gen.c09IntTryFromArms.contains v.repr = true ∧ v.payload = some x) :
    tryInt lo hi v = if lo ≤ x ∧ x ≤ hi then some x else Option.none := by
  unfold tryInt
  rw [if_pos h.1, h.2]

theorem tryInt_none {α : Type} (lo hi : Int) (v : Val α)
    (h : MJ.Gen.c09IntTryFromArms.contains v.repr = false ∨ v.payload = Option.none) : tryInt lo hi v = Option.none := by
  unfold tryInt
  rcases h with h | h
  · rw [if_neg (by rw [h]; decide)]
  · rw [h]; split <;> rfl

theorem arm_bool {α : Type} (b : Bool) : MJ.Gen.c09IntTryFromArms.contains (Val.bool b : Val α).repr = true := by
  simp only [Val.repr]; decide +kernel

theorem arm_num {α : Type} (n : N) : MJ.Gen.c09IntTryFromArms.contains (Val.num n : Val α).repr = true := by
  cases n <;> (simp only [Val.repr]; decide +kernel)

theorem pyInt_payload {α : Type} (v : Val α) (x : Int) (h : pyInt v = some x) :
    MJ.Gen.c09IntTryFromArms.contains v.repr = true ∧ v.payload = some x := by
  cases v with
  | bool b => exact ⟨arm_bool b, h⟩
  | num n =>
    cases n with
    | f64 b => cases h
    | _ => exact ⟨arm_num _, h⟩
  | _ => cases h

theorem holds_of_pyInt {α : Type} (v : Val α) (x : Int) (h : pyInt v = some x) (wf : v.WF) : HoldsInt v x :=
  ⟨(pyInt_payload v x h).1, (pyInt_payload v x h).2, wf⟩

theorem castInt_range (lo hi : Int) (b : Nat) (hlo : lo ≤ 0) (hhi : 0 ≤ hi) :
    lo ≤ F64.castInt lo hi b ∧ F64.castInt lo hi b ≤ hi := by
  unfold F64.castInt
  by_cases h1 : F64.isNaN b = true
  · rw [if_pos h1]; exact ⟨hlo, hhi⟩
  · rw [if_neg h1]
    by_cases h2 : (!F64.isFinite b) = true
    · rw [if_pos h2]; split <;> omega
    · rw [if_neg h2]
      simp only
      split
      · omega
      · split <;> omega

theorem f64ToI64_range (b : Nat) (x : Int) (h : f64ToI64 b = some x) : i64Min ≤ x ∧ x ≤ i64Max := by
  simp only [f64ToI64] at h
  split at h
  · cases h; exact castInt_range _ _ b (by decide) (by decide)
  · cases h

theorem clampRow_cases {α : Type} (v : Val α) (tbl : List (String × String)) (c : Int) (h : clampRow v tbl = some c) :
    c = i64Max ∨ c = i64Min := by
  fun_induction clampRow v tbl with
  | case1 | case6 => cases h
  | case2 => exact Or.inl (Option.some.inj h).symm
  | case3 | case4 => exact Or.inr (Option.some.inj h).symm
  | case5 _ _ _ _ ih | case7 _ _ _ _ ih => exact ih h

theorem clampRow_bool {α : Type} (b : Bool) : clampRow (Val.bool b : Val α) MJ.Gen.c09SliceBoundClamp = Option.none := rfl
theorem clampRow_i64 {α : Type} (x : Int) : clampRow (Val.num (.i64 x) : Val α) MJ.Gen.c09SliceBoundClamp = Option.none := rfl
theorem clampRow_u64 {α : Type} (x : Nat) : clampRow (Val.num (.u64 x) : Val α) MJ.Gen.c09SliceBoundClamp = some i64Max := rfl
theorem clampRow_u128 {α : Type} (x : Nat) : clampRow (Val.num (.u128 x) : Val α) MJ.Gen.c09SliceBoundClamp = some i64Max := rfl
theorem clampRow_i128 {α : Type} (x : Int) :
    clampRow (Val.num (.i128 x) : Val α) MJ.Gen.c09SliceBoundClamp = if x < 0 then some i64Min else some i64Max := by
  simp [clampRow, MJ.Gen.c09SliceBoundClamp, Val.repr, Val.payload]
theorem clampRow_f64 {α : Type} (b : Nat) : clampRow (Val.num (.f64 b) : Val α) MJ.Gen.c09SliceBoundClamp = Option.none := rfl

/-- the rows of the clamp table are for representations that hold integers beyond `i64`: the
    unsigned ones go to the maximum, `I128` by sign; everything else holds no such integer -/
theorem clampRow_of_beyond {α : Type} (v : Val α) (x : Int) (h : HoldsInt v x) (hx : ¬ (i64Min ≤ x ∧ x ≤ i64Max)) :
    clampRow v MJ.Gen.c09SliceBoundClamp = some (clampI64 x) := by
  obtain ⟨_, h2, wf⟩ := h
  cases v with
  | bool b => cases h2; cases b <;> exact absurd ⟨by decide, by decide⟩ hx
  | num n =>
    cases n with
    | i64 y => cases h2; exact absurd wf hx
    | u64 y => cases h2; rw [clampRow_u64, clampI64_big _ (by unfold i64Min i64Max at *; omega)]
    | u128 y => cases h2; rw [clampRow_u128, clampI64_big _ (by unfold i64Min i64Max at *; omega)]
    | i128 y =>
      cases h2
      rw [clampRow_i128]
      by_cases hneg : x < 0
      · rw [if_pos hneg, clampI64_small _ (by unfold i64Min i64Max at *; omega)]
      · rw [if_neg hneg, clampI64_big _ (by unfold i64Min i64Max at *; omega)]
    | f64 b => exact absurd (f64ToI64_range b x h2) hx
  | _ => cases h2

/-- integers of every representation and size, booleans and integral floats: `slice_bound` clamps
    the integer held into `i64` -/
theorem sliceBound_of_holds {α : Type} (v : Val α) (x : Int) (h : HoldsInt v x) : sliceBound v = .ok (clampI64 x) := by
  have hv : valI64 v = if i64Min ≤ x ∧ x ≤ i64Max then some x else Option.none := tryInt_of_payload _ _ v x ⟨h.1, h.2.1⟩
  unfold sliceBound
  by_cases hr : i64Min ≤ x ∧ x ≤ i64Max
  · rw [hv, if_pos hr, clampI64_id x hr]
    cases clampRow v MJ.Gen.c09SliceBoundClamp <;> rfl
  · rw [hv, if_neg hr, clampRow_of_beyond v x h hr]; rfl

theorem sliceBound_pyInt {α : Type} (v : Val α) (x : Int) (h : pyInt v = some x) (wf : v.WF) :
    sliceBound v = .ok (clampI64 x) :=
  sliceBound_of_holds v x (holds_of_pyInt v x h wf)

theorem clampRow_none_of_no_int {α : Type} (v : Val α)
    (h : MJ.Gen.c09IntTryFromArms.contains v.repr = false ∨ v.payload = Option.none) :
    clampRow v MJ.Gen.c09SliceBoundClamp = Option.none := by
  cases v with
  | num n =>
    cases n with
    | f64 b => exact clampRow_f64 b
    | _ => rcases h with h | h <;> cases h
  | str r bs => cases r <;> rfl
  | _ => rfl

theorem sliceBound_of_no_int {α : Type} (v : Val α)
    (h : MJ.Gen.c09IntTryFromArms.contains v.repr = false ∨ v.payload = Option.none) :
    sliceBound v = .error (convErr v) := by
  unfold sliceBound valI64
  rw [clampRow_none_of_no_int v h, tryInt_none _ _ v h]

/-- whatever the value: a converted bound or step is an `i64` -/
theorem sliceBound_range {α : Type} (v : Val α) (x : Int) (h : sliceBound v = .ok x) : i64Min ≤ x ∧ x ≤ i64Max := by
  unfold sliceBound at h
  split at h
  next c hc =>
    cases h
    cases hv : valI64 v with
    | none =>
      simp only [Option.getD_none]
      rcases clampRow_cases v _ c hc with rfl | rfl <;> simp [i64Min, i64Max]
    | some y => simpa using tryInt_range _ _ v y hv
  next =>
    split at h
    next y hy => cases h; exact tryInt_range _ _ v x hy
    next => cases h

theorem optBound_range {α : Type} (v : Val α) (b : Option Int) (h : optBound v = .ok b) : OptInI64 b := by
  unfold optBound at h
  split at h
  · cases h; trivial
  · cases hb : sliceBound v with
    | error e => rw [hb] at h; cases h
    | ok x =>
      rw [hb] at h
      cases h
      have := sliceBound_range v x hb
      unfold i64Min i64Max at this
      show -9223372036854775808 ≤ x ∧ x < 9223372036854775808
      omega

theorem optBound_pyBound {α : Type} (v : Val α) (b : Option Int) (h : pyBound v = some b) (wf : v.WF) :
    optBound v = .ok (b.map clampI64) := by
  have key : ∀ w : Val α, (pyInt w).map some = some b → w.WF →
      Except.map some (sliceBound w) = .ok (b.map clampI64) := by
    intro w hw wfw
    obtain ⟨x, hx, rfl⟩ := Option.map_eq_some_iff.mp hw
    exact congrArg (Except.map some) (sliceBound_pyInt w x hx wfw)
  cases v with
  | none => cases h; rfl
  | bool c => exact key _ h wf
  | num n => exact key _ h wf
  | _ => cases h

/-- the arm is chosen by the name of the representation.  (With the name as a literal the facts
    below are closed, so the kernel evaluates the string tables; `rfl` on the open terms would have
    the elaborator evaluate them first, which is several times slower.) -/
theorem sliceClass_of_repr {α : Type} (v : Val α) (r : String) (h : v.repr = r) :
    sliceClass v =
      match MJ.Gen.c09SliceDispatch.lookup r with
      | some c => c
      | Option.none =>
        if MJ.Gen.c09SliceObjectReprs.any (fun r' => "Object:" ++ r' = r) then "object" else "error" := by
  subst h; rfl

theorem sliceClass_str {α : Type} (r : StrRepr) (bs : List UInt8) : sliceClass (Val.str r bs : Val α) = "str" := by
  cases r with
  | small => exact (sliceClass_of_repr _ "SmallStr" rfl).trans (by decide +kernel)
  | _ => exact (sliceClass_of_repr _ "String" rfl).trans (by decide +kernel)
theorem sliceClass_bytes {α : Type} (bs : List UInt8) : sliceClass (Val.bytes bs : Val α) = "bytes" :=
  (sliceClass_of_repr _ "Bytes" rfl).trans (by decide +kernel)
theorem sliceClass_undef {α : Type} : sliceClass (Val.undef : Val α) = "empty" :=
  (sliceClass_of_repr _ "Undefined" rfl).trans (by decide +kernel)
theorem sliceClass_none {α : Type} : sliceClass (Val.none : Val α) = "empty" :=
  (sliceClass_of_repr _ "None" rfl).trans (by decide +kernel)
theorem sliceClass_seq {α : Type} (xs : List α) : sliceClass (Val.seq xs) = "object" :=
  (sliceClass_of_repr _ "Object:Seq" rfl).trans (by decide +kernel)
theorem sliceClass_tuple {α : Type} (xs : List α) : sliceClass (Val.tuple xs) = "object" :=
  (sliceClass_of_repr _ "Object:Seq" rfl).trans (by decide +kernel)
theorem sliceClass_iter {α : Type} (s : Bool) (xs : List α) : sliceClass (Val.iter s xs) = "object" :=
  (sliceClass_of_repr _ "Object:Iterable" rfl).trans (by decide +kernel)
theorem sliceClass_once {α : Type} (xs : List α) : sliceClass (Val.once xs) = "object" :=
  (sliceClass_of_repr _ "Object:Iterable" rfl).trans (by decide +kernel)
theorem sliceClass_bool {α : Type} (b : Bool) : sliceClass (Val.bool b : Val α) = "error" :=
  (sliceClass_of_repr _ "Bool" rfl).trans (by decide +kernel)
theorem sliceClass_num {α : Type} (n : N) : sliceClass (Val.num n : Val α) = "error" := by
  cases n with
  | i64 x => exact (sliceClass_of_repr _ "I64" rfl).trans (by decide +kernel)
  | u64 x => exact (sliceClass_of_repr _ "U64" rfl).trans (by decide +kernel)
  | i128 x => exact (sliceClass_of_repr _ "I128" rfl).trans (by decide +kernel)
  | u128 x => exact (sliceClass_of_repr _ "U128" rfl).trans (by decide +kernel)
  | f64 b => exact (sliceClass_of_repr _ "F64" rfl).trans (by decide +kernel)
theorem sliceClass_map {α : Type} (kvs : List (MKey × α)) : sliceClass (Val.map kvs) = "error" :=
  (sliceClass_of_repr _ "Object:Map" rfl).trans (by decide +kernel)
theorem sliceClass_plain {α : Type} : sliceClass (Val.plain : Val α) = "error" :=
  (sliceClass_of_repr _ "Object:Plain" rfl).trans (by decide +kernel)
theorem sliceClass_invalid {α : Type} : sliceClass (Val.invalid : Val α) = "error" :=
  (sliceClass_of_repr _ "Invalid" rfl).trans (by decide +kernel)

theorem unsizedLen_eq : MJ.Gen.c09UnsizedLen = 18446744073709551615 := rfl

theorem lenFn_string : MJ.Gen.c09GetItemLenFn.lookup "String" = some "chars" := by decide +kernel
theorem lenFn_smallstr : MJ.Gen.c09GetItemLenFn.lookup "SmallStr" = some "chars" := by decide +kernel
theorem lenFn_bytes : MJ.Gen.c09GetItemLenFn.lookup "Bytes" = some "bytes" := by decide +kernel
theorem obj_seq : MJ.Gen.c09GetItemObject.lookup "Seq" = some "get_value(index-or-key)" := by decide +kernel
theorem obj_iter : MJ.Gen.c09GetItemObject.lookup "Iterable" = some "get_value-then-nth(index,len-or-count-on-demand)" := by decide +kernel
theorem obj_map : MJ.Gen.c09GetItemObject.lookup "Map" = some "get_value" := by decide +kernel

theorem lenBy_chars (bs : List UInt8) : lenBy "chars" bs = some (chars bs).length := rfl
theorem lenBy_bytes (bs : List UInt8) : lenBy "bytes" bs = some bs.length := rfl

theorem getItemOpt_str {α : Type} (r : StrRepr) (bs : List UInt8) (key : Val α) :
    getItemOpt (.str r bs) key =
      match indexOf key (some (chars bs).length) with
      | some idx => ((chars bs)[idx]?).map Item.chr
      | Option.none => Option.none := by
  have hfn : MJ.Gen.c09GetItemLenFn.lookup (Val.str r bs : Val α).repr = some "chars" := by
    cases r with
    | small => exact lenFn_smallstr
    | _ => exact lenFn_string
  simp only [getItemOpt, hfn, lenBy_chars]
  rfl

theorem getItemOpt_bytes {α : Type} (bs : List UInt8) (key : Val α) :
    getItemOpt (.bytes bs) key =
      match indexOf key (some bs.length) with
      | some idx => (bs[idx]?).map Item.byte
      | Option.none => Option.none := by
  simp only [getItemOpt, Val.repr, lenFn_bytes, lenBy_bytes]
  rfl

theorem getItemOpt_vec {α : Type} (xs : List α) (key : Val α) :
    getItemOpt (.seq xs) key =
      (match indexOf key (some xs.length) with
       | some idx => (xs[idx]?).map Item.elem
       | Option.none => (vecGet xs key).map Item.elem) ∧
    getItemOpt (.tuple xs) key = getItemOpt (.seq xs) key := by
  constructor <;> simp only [getItemOpt, obj_seq, if_true] <;> rfl

theorem getItemOpt_iter {α : Type} (sized : Bool) (xs : List α) (key : Val α) :
    getItemOpt (.iter sized xs) key =
      match indexOf key (some xs.length) with
      | some idx => (xs[idx]?).map Item.elem
      | Option.none => Option.none := by
  simp only [getItemOpt, obj_iter, if_true]
  rfl

theorem getItemOpt_once {α : Type} (xs : List α) (key : Val α) :
    getItemOpt (.once xs) key =
      match valI64 key with
      | some i => if i < 0 then Option.none else (xs[i.toNat]?).map Item.elem
      | Option.none => Option.none := by
  simp only [getItemOpt, obj_iter, if_true]
  rfl

/-- the position `xs[key]` denotes in a sequence of length `len`: Python's rule for the integer `as_i64`
    reads, nothing for every other key -/
def keyPos {α : Type} (key : Val α) (len : Nat) : Option Nat := (valI64 key).bind (PySlice.index len)

/-- `index` with the element access is the item at `keyPos`: a position `index` hands on and Python
    rejects lies beyond the list -/
theorem indexOf_get {α β γ : Type} (key : Val α) (xs : List β) (f : β → γ) :
    (match indexOf key (some xs.length) with
     | some idx => (xs[idx]?).map f
     | Option.none => Option.none) = (keyPos key xs.length).bind fun j => (xs[j]?).map f := by
  have h : (match indexOf key (some xs.length) with
      | some idx => (xs[idx]?).map f
      | Option.none => Option.none) = (valI64 key).bind fun i => (index? xs i).map f := by
    unfold indexOf index?
    cases valI64 key with
    | none => rfl
    | some i =>
      by_cases hi : i < 0
      · by_cases hl : i.natAbs ≤ xs.length <;> simp [hi, hl]
      · simp [hi]
  rw [h, keyPos]
  cases valI64 key with
  | none => rfl
  | some i => simp only [Option.bind_some, index?_eq]; cases PySlice.index xs.length i <;> rfl

/-- `as_usize` and `as_i64` read the same integer: a position `as_usize` accepts is handed on by `index`,
    or it lies beyond `i64` -/
theorem indexOf_of_usize {α : Type} (key : Val α) (n : Nat) (len : Option Nat) (h : valUsize key = some n) :
    indexOf key len = some n ∨ (valI64 key = Option.none ∧ 9223372036854775808 ≤ n) := by
  obtain ⟨x, hx, rfl⟩ := Option.map_eq_some_iff.mp h
  have h0 := (tryInt_range _ _ key x hx).1
  have hk := tryInt_transfer 0 usizeMax i64Min i64Max key x hx
  by_cases hr : x ≤ i64Max
  · left
    unfold indexOf
    rw [show valI64 key = some x from hk.trans (if_pos ⟨by unfold i64Min; omega, hr⟩)]
    exact if_neg (by omega)
  · exact Or.inr ⟨hk.trans (if_neg fun h => hr h.2), by unfold i64Max at hr; omega⟩

/-- the `get_value(key)` fallback of sequences is dead: where `index` finds no position, `as_usize`
    finds none either or one beyond `i64`, hence beyond the sequence (the only use of the length bound) -/
theorem vecGet_dead {α : Type} (xs : List α) (key : Val α) (len : Option Nat) (h : indexOf key len = Option.none)
    (hl : valI64 key = Option.none → xs.length < 9223372036854775808) : vecGet xs key = Option.none := by
  unfold vecGet
  cases hu : valUsize key with
  | none => rfl
  | some n =>
    rcases indexOf_of_usize key n len hu with h' | ⟨hk, hn⟩
    · rw [h'] at h; cases h
    · exact List.getElem?_eq_none (by have := hl hk; omega)

/-- … and where `get_value(key)` answers, `index` and `nth` give the same answer -/
theorem vecGet_agrees {α : Type} (xs : List α) (key : Val α) (x : α) (h : vecGet xs key = some x)
    (hl : valI64 key = Option.none → xs.length < 9223372036854775808) :
    (match indexOf key (some xs.length) with
     | some idx => xs[idx]?
     | Option.none => Option.none) = some x := by
  unfold vecGet at h
  cases hu : valUsize key with
  | none => rw [hu] at h; cases h
  | some n =>
    rw [hu] at h
    have h : xs[n]? = some x := h
    have hn : n < xs.length := Nat.lt_of_not_le fun hle => by rw [List.getElem?_eq_none hle] at h; cases h
    rcases indexOf_of_usize key n (some xs.length) hu with h' | ⟨hk, hn'⟩
    · rw [h']; exact h
    · exact absurd (hl hk) (Nat.not_lt.mpr (by omega))

/-- a subscript beyond `i64` is beyond every sequence: Python's IndexError -/
theorem index_beyond_i64 (len : Nat) (i : Int) (hl : len < 9223372036854775808) (hr : ¬ (i64Min ≤ i ∧ i ≤ i64Max)) :
    PySlice.index len i = Option.none := by
  unfold PySlice.index
  rw [if_neg (by unfold i64Min i64Max at hr; split <;> omega)]

/-- Python integers of every representation and size denote Python's position -/
theorem keyPos_pyInt {α : Type} (key : Val α) (i : Int) (len : Nat) (hk : pyInt key = some i)
    (hl : len < 9223372036854775808) : keyPos key len = PySlice.index len i := by
  unfold keyPos
  rw [show valI64 key = _ from tryInt_of_payload _ _ key i (pyInt_payload key i hk)]
  by_cases hr : i64Min ≤ i ∧ i ≤ i64Max
  · rw [if_pos hr]; rfl
  · rw [if_neg hr, index_beyond_i64 len i hl hr]; rfl

theorem getItemOpt_seq_pos {α : Type} (xs : List α) (key : Val α)
    (hl : valI64 key = Option.none → xs.length < 9223372036854775808) :
    getItemOpt (.seq xs) key = (keyPos key xs.length).bind fun j => (xs[j]?).map Item.elem := by
  rw [(getItemOpt_vec xs key).1, ← indexOf_get]
  cases hi : indexOf key (some xs.length) with
  | none => rw [vecGet_dead xs key _ hi hl]; rfl
  | some idx => rfl

/-- the Python sequence a value stands for: `str`, `bytes`, `tuple`, or a list (sequences and
    iterables of every flavour) -/
inductive PySeq (α : Type) where
  | str (cs : List Char)
  | bytes (bs : List UInt8)
  | tuple (xs : List α)
  | list (xs : List α)
  deriving Repr, DecidableEq

def pyView {α : Type} : Val α → Option (PySeq α)
  | .str _ bs => some (.str (chars bs))
  | .bytes bs => some (.bytes bs)
  | .tuple xs => some (.tuple xs)
  | .seq xs => some (.list xs)
  | .iter _ xs => some (.list xs)
  | .once xs => some (.list xs)
  | _ => Option.none

def PySeq.len {α : Type} : PySeq α → Nat
  | .str cs => cs.length
  | .bytes bs => bs.length
  | .tuple xs => xs.length
  | .list xs => xs.length

/-- select the positions `is`, keeping the type: a string from a string, bytes from bytes, a
    tuple from a tuple, a list otherwise -/
def PySeq.pick {α : Type} (s : PySeq α) (is : List Nat) : PySeq α :=
  match s with
  | .str cs => .str (MJ.Slice.pick cs is)
  | .bytes bs => .bytes (MJ.Slice.pick bs is)
  | .tuple xs => .tuple (MJ.Slice.pick xs is)
  | .list xs => .list (MJ.Slice.pick xs is)

/-- Python's `s[a:b:c]` for `c ≠ 0` -/
def PySeq.slice {α : Type} (s : PySeq α) (a b : Option Int) (c : Int) : PySeq α :=
  s.pick (PySlice.indices s.len a b c)

/-- the item at position `i`, as the engine represents it -/
def PySeq.itemAt {α : Type} (s : PySeq α) (i : Nat) : Option (Item α) :=
  match s with
  | .str cs => (cs[i]?).map Item.chr
  | .bytes bs => (bs[i]?).map Item.byte
  | .tuple xs => (xs[i]?).map Item.elem
  | .list xs => (xs[i]?).map Item.elem

/-- Python's `s[i]`: `none` = IndexError -/
def PySeq.index {α : Type} (s : PySeq α) (i : Int) : Option (Item α) :=
  (PySlice.index s.len i).bind s.itemAt

def isOnce {α : Type} : Val α → Bool
  | .once _ => true
  | _ => false

/-- an iterable that does not announce its length -/
def unsized {α : Type} : Val α → Bool
  | .iter false _ => true
  | .once _ => true
  | _ => false

section sliceV
variable {α : Type} {v a b c : Val α} {A B C : Option Int}

/-- the zero step and the value without a slicing arm are the errors; else the list-level slice of the
    sequence Python sees in the value, wrapped as a value of its kind (unsized iterables and one-shot
    iterators go the lazy way), and the empty list for undefined and none -/
theorem sliceV_conv (ha : optBound a = .ok A) (hb : optBound b = .ok B) (hc : optBound c = .ok C) :
    sliceV v a b c =
      if C.getD 1 = 0 then .ok (.error zeroStepErr)
      else if sliceClass v = "error" then .ok (.error (unsliceableErr v))
      else match pyView v with
        | some (.str cs) => wrapRes (slice cs A B (some (C.getD 1))) fun ys => Val.str .normal (encode ys)
        | some (.bytes bs) => wrapRes (slice bs A B (some (C.getD 1))) Val.bytes
        | some (.tuple xs) => wrapRes (slice xs A B (some (C.getD 1))) Val.tuple
        | some (.list xs) =>
          if unsized v then sliceUnsizedG xs A B (C.getD 1) else wrapRes (slice xs A B (some (C.getD 1))) (Val.iter true)
        | Option.none => .ok (.ok (.seq [])) := by
  by_cases h0 : C.getD 1 = 0
  · simp only [sliceV, ha, hb, hc, h0, if_true]
  · cases v with
    | iter sized xs =>
      cases sized <;> simp only [sliceV, ha, hb, hc, h0, pyView, unsized, sliceClass_iter, String.reduceEq,
        Bool.false_eq_true, if_true, if_false]
    | _ => simp only [sliceV, ha, hb, hc, h0, pyView, unsized, sliceClass_str, sliceClass_bytes, sliceClass_undef, sliceClass_none,
        sliceClass_seq, sliceClass_tuple, sliceClass_once, sliceClass_bool, sliceClass_num, sliceClass_map,
        sliceClass_plain, sliceClass_invalid, String.reduceEq, Bool.false_eq_true, if_true, if_false]

/-- everything Python has a sequence type for has a slicing arm -/
theorem sliceClass_of_view {s : PySeq α} (hv : pyView v = some s) : sliceClass v ≠ "error" := by
  cases v with
  | str r bs => rw [sliceClass_str]; decide
  | bytes bs => rw [sliceClass_bytes]; decide
  | tuple xs => rw [sliceClass_tuple]; decide
  | seq xs => rw [sliceClass_seq]; decide
  | iter sized xs => rw [sliceClass_iter]; decide
  | once xs => rw [sliceClass_once]; decide
  | _ => cases hv

end sliceV

theorem handleUndefined_eq {α : Type} (m : Mode) (u : Bool) :
    (handleUndefined m u : Except Err (Item α)) =
      if u && m != .chainable then .error undefinedErr else .ok .undef := by
  cases m <;> cases u <;> rfl

theorem mergeGetFrom_eq {α : Type} (xss : List (List α)) : ∀ (idx cur : Nat), cur ≤ idx →
    mergeGetFrom xss idx cur = xss.flatten[idx - cur]? := by
  induction xss with
  | nil => intro idx cur _; simp [mergeGetFrom]
  | cons xs rest ih =>
    intro idx cur h
    simp only [mergeGetFrom, List.flatten_cons]
    by_cases hlt : idx < cur + xs.length
    · rw [if_pos hlt, List.getElem?_append_left (by omega)]
    · rw [if_neg hlt, ih idx (cur + xs.length) (by omega), List.getElem?_append_right (by omega)]
      congr 1; omega

/-- subscripting the chained sequence is subscripting the concatenation of its operands -/
theorem mergeGet_eq_concat_index {α : Type} (xss : List (List α)) (idx : Nat) :
    mergeGet xss idx = xss.flatten[idx]? := by
  unfold mergeGet; rw [mergeGetFrom_eq xss idx 0 (Nat.zero_le _)]; rfl

/-- the objects of `minijinja/src` whose `get_value` has an integer-key path (regenerated by
    scanning every `impl Object`); each one is subscripted by the C09 harness — a new one stops
    this from checking -/
theorem indexable_objects_known :
    (MJ.Gen.c09IndexableObjects.filter (fun p => p.2 == "int")).map (·.1) =
      ["filters.rs:GroupTuple", "merge_object.rs:MergeDict", "merge_object.rs:MergeSeq",
       "object.rs:$vec_type<T>", "object.rs:[T; N]", "tuple.rs:Tuple"] := by decide +kernel

/-- the error `ops::slice` reports, if any: the first part (in the order start, stop, step) that
    is neither `none` nor convertible, else a zero step, else a value that cannot be sliced -/
def sliceErr? {α : Type} (v a b c : Val α) : Option Err :=
  match optBound a with
  | .error e => some e
  | .ok _ =>
  match optBound b with
  | .error e => some e
  | .ok _ =>
  match optBound c with
  | .error e => some e
  | .ok C =>
    if C.getD 1 = 0 then some zeroStepErr
    else if sliceClass v = "error" then some (unsliceableErr v) else Option.none

end MJ.Sub
