import MJ.Model.UndefVm
/-!
# C12: questions to the undefined behaviour are monotone, hence every `Comp` is

The extracted rows are looked at once (`HQ.run_eq`): a question is refused exactly under the documented
condition `HQ.refuses`, and that condition is inherited by stricter modes.  What is said about computations
(`Comp.run_cases`: a run fails at a refused question or returns `Comp.final`), runs of the machine
(`Machine.first_added_error`) and single instructions (`step_ask`) argues from these two facts.
`Comp.AllAsks` bounds the questions a computation can put: the argument conversion, `join_safe`, `UnpackLists`.
-/
namespace MJ.Undef

/-- a mode-indexed check only adds errors with strictness -/
abbrev ChkMono (f : Mode → Except Err Unit) : Prop :=
  ∀ m m', m' ≤ m → f m = .ok () → f m' = .ok ()

/-! ## the order on modes

The three conditions on the mode that occur in the helpers are thresholds in
`Chainable ≤ Lenient ≤ SemiStrict ≤ Strict`, hence inherited by every stricter mode. -/

namespace Mode
theorem ne_chainable_iff (m : Mode) : m ≠ .chainable ↔ 1 ≤ m.code := by cases m <;> decide
theorem strictish_iff (m : Mode) : (m = .strict ∨ m = .semiStrict) ↔ 2 ≤ m.code := by cases m <;> decide
theorem eq_strict_iff (m : Mode) : m = .strict ↔ 3 ≤ m.code := by cases m <;> decide

theorem up {P : Mode → Prop} {n : Nat} (hP : ∀ m, P m ↔ n ≤ m.code) {m m' : Mode} (h : m' ≤ m) (hp : P m') : P m :=
  (hP m).2 (Nat.le_trans ((hP m').1 hp) h)
end Mode

/-- when mode `m` refuses the question: the documented matrix (rustdoc of `UndefinedBehavior`; the `Slice` test of
    `eval_impl` is no row of it) -/
def HQ.refuses : HQ → Mode → Prop
  | .handleUndefined p, m => p = true ∧ m ≠ .chainable
  | .isTrue k, m => m = .strict ∧ k = .undef
  | .assertIterable k, m | .tryIter k, m | .assertNotUndef k, m | .emit k, m | .envFormat k, m =>
      (m = .strict ∨ m = .semiStrict) ∧ k = .undef
  | .slice k, m => m = .strict ∧ k ≠ .defined

instance HQ.decRefuses (q : HQ) (m : Mode) : Decidable (q.refuses m) := by
  cases q <;> exact instDecidableAnd

/-- the rows regenerated from utils.rs / vm/mod.rs / environment.rs say what the documentation says: a
    question is answered with `UndefinedError` where it is refused and passes with payload `true` otherwise
    (the one finite check of all rows; everything below argues from it) -/
theorem HQ.run_eq (q : HQ) (m : Mode) :
    q.run m = if q.refuses m then .error .undefinedError else .ok true := by
  cases q with
  | handleUndefined p => cases m <;> cases p <;> decide
  | _ k => cases m <;> cases k <;> decide

theorem HQ.refuses_mono {q : HQ} {m m' : Mode} (h : m' ≤ m) : q.refuses m' → q.refuses m := by
  cases q with
  | handleUndefined p => exact And.imp_right (Mode.up Mode.ne_chainable_iff h)
  | isTrue k => exact And.imp_left (Mode.up Mode.eq_strict_iff h)
  | slice k => exact And.imp_left (Mode.up Mode.eq_strict_iff h)
  | _ k => exact And.imp_left (Mode.up Mode.strictish_iff h)

theorem HQ.mono_of_refuses {α : Type} {q : HQ} {f : Mode → Except Err α} {a b : α}
    (hf : ∀ m, f m = if q.refuses m then .error .undefinedError else .ok a)
    (m m' : Mode) (h : m' ≤ m) (hb : f m = .ok b) : f m' = .ok b := by
  rw [hf] at hb ⊢
  by_cases hr : q.refuses m
  · rw [if_pos hr] at hb; cases hb
  · rw [if_neg hr] at hb; rw [if_neg (mt (HQ.refuses_mono h) hr)]; exact hb

theorem unitOk_eq_ite {x : Except Err Unit} {c : Prop} [Decidable c] {e : Err}
    (h : unitOk x = if c then .error e else .ok true) : x = if c then .error e else .ok () := by
  cases x <;> by_cases hc : c <;> simp_all [unitOk]

namespace Comp

theorem run_ask {α : Type} (q : HQ) (g : Err → Err) (k : Bool → Comp α) (m : Mode) :
    (Comp.ask q g k).run m = if q.refuses m then .error (g .undefinedError) else (k true).run m := by
  by_cases hr : q.refuses m <;> simp only [Comp.run, HQ.run_eq, hr, if_true, if_false]

theorem failsAtAsk_ask {α : Type} (q : HQ) (g : Err → Err) (k : Bool → Comp α) (m : Mode) :
    (Comp.ask q g k).failsAtAsk m = if q.refuses m then true else (k true).failsAtAsk m := by
  by_cases hr : q.refuses m <;> simp only [Comp.failsAtAsk, HQ.run_eq, hr, if_true, if_false]

theorem run_bind {α β : Type} (c : Comp α) (f : α → Comp β) (m : Mode) :
    (c.bind f).run m = match c.run m with
      | .error e => .error e
      | .ok a => (f a).run m := by
  induction c with
  | pure a => rfl
  | fail e => rfl
  | ask q g k ih =>
    simp only [Comp.bind, run_ask]
    split
    · rfl
    · exact ih true

theorem run_ofExcept {α : Type} (x : Except Err α) (m : Mode) : (Comp.ofExcept x).run m = x := by
  cases x <;> rfl

/-! The mode matters to a computation only where one of its questions is refused (`failsAtAsk`): there it
fails with that question's error, every other mode returns `final`, and the refusing modes are upward closed. -/

/-- the outcome when every question passes -/
def final {α : Type} : Comp α → Except Err α
  | .pure a => .ok a
  | .fail e => .error e
  | .ask _ _ k => (k true).final

theorem run_cases {α : Type} (c : Comp α) (m : Mode) :
    (c.failsAtAsk m = true ∧ ∃ e, c.run m = .error e ∧ c.AskErr e) ∨ (c.failsAtAsk m = false ∧ c.run m = c.final) := by
  induction c with
  | pure x => exact .inr ⟨rfl, rfl⟩
  | fail e => exact .inr ⟨rfl, rfl⟩
  | ask q g k ih =>
    rw [failsAtAsk_ask, run_ask]
    by_cases hr : q.refuses m
    · rw [if_pos hr, if_pos hr]; exact .inl ⟨rfl, _, rfl, .inl rfl⟩
    · rw [if_neg hr, if_neg hr]
      exact (ih true).imp (fun ⟨hf, e, he, ha⟩ => ⟨hf, e, he, .inr ⟨true, ha⟩⟩) id

theorem run_of_failsAtAsk {α : Type} (c : Comp α) (m : Mode) (hf : c.failsAtAsk m = true) :
    ∃ e, c.run m = .error e ∧ c.AskErr e :=
  (run_cases c m).elim And.right fun h => absurd (hf.symm.trans h.1) (by decide)

theorem run_of_not_failsAtAsk {α : Type} (c : Comp α) (m : Mode) (hf : c.failsAtAsk m = false) : c.run m = c.final :=
  (run_cases c m).elim (fun h => absurd (h.1.symm.trans hf) (by decide)) And.right

theorem final_of_ok {α : Type} {c : Comp α} {m : Mode} {a : α} (h : c.run m = .ok a) :
    c.failsAtAsk m = false ∧ c.final = .ok a := by
  rcases run_cases c m with ⟨_, e, he, _⟩ | ⟨hf, hr⟩
  · rw [he] at h; cases h
  · exact ⟨hf, hr.symm.trans h⟩

theorem failsAtAsk_mono {α : Type} (c : Comp α) (m m' : Mode) (h : m' ≤ m) :
    c.failsAtAsk m' = true → c.failsAtAsk m = true := by
  induction c with
  | pure x => exact id
  | fail e => exact id
  | ask q g k ih =>
    rw [failsAtAsk_ask, failsAtAsk_ask]
    by_cases hr : q.refuses m
    · simp only [if_pos hr]; exact fun _ => trivial
    · simp only [if_neg hr, if_neg (fun hr' => hr (HQ.refuses_mono h hr'))]; exact ih true

theorem run_mono {α : Type} (c : Comp α) (m m' : Mode) (h : m' ≤ m) (a : α) (ha : c.run m = .ok a) :
    c.run m' = .ok a := by
  obtain ⟨hm, hfin⟩ := final_of_ok ha
  rw [run_of_not_failsAtAsk c m' (Bool.eq_false_iff.2 fun hf => by rw [failsAtAsk_mono c m m' h hf] at hm; cases hm)]
  exact hfin

theorem askErr_of_plain {α : Type} (c : Comp α) (hp : c.PlainAsks) (e : Err) : c.AskErr e → e = .undefinedError := by
  induction c with
  | pure x => intro h; cases h
  | fail e' => intro h; cases h
  | ask q g k ih =>
    intro h
    obtain ⟨hg, hk⟩ := hp
    rcases h with h | ⟨b, h⟩
    · subst hg; exact h
    · exact ih b (hk b) h

/-- a computation that asks nothing does not depend on the mode -/
theorem run_of_isPure {α : Type} (c : Comp α) (h : c.isPure = true) (m m' : Mode) : c.run m = c.run m' := by
  cases c with
  | pure a => rfl
  | fail e => rfl
  | ask q g k => cases h

theorem run_mapErr_ok {α : Type} (c : Comp α) (f : Err → Err) (m : Mode) (a : α) :
    (c.mapErr f).run m = .ok a ↔ c.run m = .ok a := by
  induction c with
  | pure x => exact Iff.rfl
  | fail e => exact ⟨(nomatch ·), (nomatch ·)⟩
  | ask q g k ih =>
    simp only [Comp.mapErr, run_ask]
    split
    · exact ⟨(nomatch ·), (nomatch ·)⟩
    · exact ih true

end Comp

/-- the state after `k` steps under `m`, none of which failed -/
def Machine.after {σ ε : Type} (M : Machine σ ε) (m : Mode) : Nat → σ → Option σ
  | 0, s => some s
  | k + 1, s => match M.next s with
    | none => none
    | some f => match f m s with
      | .ok s' => M.after m k s'
      | .error _ => none

/-- when all steps are `StepMono`, the error a stricter mode adds to a run is the error of one step, taken in a
    state that both runs reach after the same number of steps: up to there they do not differ -/
theorem Machine.first_added_error {σ ε : Type} (M : Machine σ ε)
    (hstep : ∀ s f, M.next s = some f → StepMono f)
    (m m' : Mode) (h : m' ≤ m) (n : Nat) (s r : σ) (e : ε) :
    M.run m n s = .error e → M.run m' n s = .ok r →
    ∃ k s₀ f s₁, k < n ∧ M.after m k s = some s₀ ∧ M.after m' k s = some s₀ ∧
      M.next s₀ = some f ∧ f m s₀ = .error e ∧ f m' s₀ = .ok s₁ := by
  fun_induction M.run m n s with
  | case1 s hn | case3 n s hn => exact (nomatch ·)
  | case2 s f hn => rw [Machine.run, hn]; exact fun _ => (nomatch ·)
  | case4 n s f hn e' hf =>
    rw [Machine.run, hn]; dsimp only
    cases hf' : f m' s with
    | error _ => exact fun _ => (nomatch ·)
    | ok s₁ => exact fun hm _ => ⟨0, s, f, s₁, Nat.succ_pos n, rfl, rfl, hn, hf.trans hm, hf'⟩
  | case5 n s f hn s' hf ih =>
    -- both runs take the same step
    have hf' := hstep s f hn m m' s s' h hf
    rw [Machine.run, hn]; dsimp only; rw [hf']
    intro hm hm'
    obtain ⟨k, s₀, g, s₃, hk, ha, ha', rest⟩ := ih hm hm'
    exact ⟨k + 1, s₀, g, s₃, Nat.succ_lt_succ hk, by rw [Machine.after, hn]; dsimp only; rw [hf]; exact ha,
      by rw [Machine.after, hn]; dsimp only; rw [hf']; exact ha', rest⟩

theorem vm_next {ops : Ops} {P : Prog} {s : St} {f : Step St Err} (h : (vm ops P).next s = some f) :
    ∃ c, nextC ops P s = some c ∧ f = fun m _ => c.run m := by
  simp only [vm, Option.map_eq_some_iff] at h
  obtain ⟨c, hc, rfl⟩ := h
  exact ⟨c, hc, rfl⟩

theorem vm_stepMono (ops : Ops) (P : Prog) (s : St) (f : Step St Err) (h : (vm ops P).next s = some f) : StepMono f := by
  obtain ⟨c, -, rfl⟩ := vm_next h
  exact fun m m' _ s' hm hs => Comp.run_mono c m m' hm s' hs

namespace Comp
/-- every question the computation can ask satisfies `p` -/
def AllAsks {α : Type} (p : HQ → Prop) : Comp α → Prop
  | .pure _ => True
  | .fail _ => True
  | .ask q _ k => p q ∧ ∀ b, AllAsks p (k b)

theorem allAsks_bind {α β : Type} (p : HQ → Prop) (c : Comp α) (f : α → Comp β)
    (hc : c.AllAsks p) (hf : ∀ a, (f a).AllAsks p) : (c.bind f).AllAsks p := by
  induction c with
  | pure a => exact hf a
  | fail e => trivial
  | ask q g k ih => exact ⟨hc.1, fun b => ih b (hc.2 b)⟩

theorem allAsks_ofExcept {α : Type} (p : HQ → Prop) (x : Except Err α) : (Comp.ofExcept x).AllAsks p := by
  cases x <;> trivial

theorem allAsks_chks (p : HQ → Prop) (qs : List HQ) (h : ∀ q ∈ qs, p q) : (Comp.chks qs).AllAsks p := by
  induction qs with
  | nil => trivial
  | cons q r ih => exact ⟨h q (by simp), fun _ => ih (fun q' hq' => h q' (by simp [hq']))⟩

end Comp

def isAssertNotUndef : HQ → Prop
  | .assertNotUndef _ => True
  | _ => False

/-- `assert_value_not_undefined` is refused by Strict and SemiStrict alike and never by Lenient and Chainable: a
    computation that asks nothing else has these two behaviours -/
theorem Comp.classes_of_assertOnly {α : Type} (c : Comp α) (h : c.AllAsks isAssertNotUndef) :
    c.run .strict = c.run .semiStrict ∧ c.run .lenient = c.run .chainable ∧
    c.failsAtAsk .lenient = false ∧ c.failsAtAsk .chainable = false := by
  induction c with
  | pure a => exact ⟨rfl, rfl, rfl, rfl⟩
  | fail e => exact ⟨rfl, rfl, rfl, rfl⟩
  | ask q g k ih =>
    obtain ⟨hq, hk⟩ := h
    cases q <;> first | exact hq.elim | skip
    obtain ⟨h1, h2, h3, h4⟩ := ih true (hk true)
    simp [Comp.run_ask, Comp.failsAtAsk_ask, HQ.refuses, h1, h2, h3, h4]

theorem asksOwned_spec (t : ArgTy) (v : V) (q : HQ) : q ∈ t.asksOwned v → isAssertNotUndef q ∧ t.consultsOwned = true := by
  fun_cases ArgTy.asksOwned t v with
  | case1 n h => intro hq; cases List.mem_singleton.1 hq; exact ⟨trivial, decide_eq_true h⟩
  | _ => exact (nomatch ·)

/-- of the branches of `ArgTy.asks` three kinds ask at all: a base type
    with the checking conversion, a wrapper `Option<T>` / `Rest<T>` whose row forwards to `T`, and a forwarding
    `Vec<T>` on the items of a list -/
theorem asks_spec (t : ArgTy) (v : V) (q : HQ) (hq : q ∈ t.asks v) : isAssertNotUndef q ∧ t.consults = true := by
  fun_induction ArgTy.asks t v with
  | case1 v n h => cases List.mem_singleton.1 hq; exact ⟨trivial, decide_eq_true h⟩
  | case6 t hw v _ _ _ ih | case8 v t hw ih => exact ⟨(ih hq).1, by simp [ArgTy.consults, hw, (ih hq).2]⟩
  | case10 t hw xs | case11 t hw xs =>
    obtain ⟨x, _, hx⟩ := List.mem_flatMap.mp hq
    exact ⟨(asksOwned_spec t x q hx).1, by simp [ArgTy.consults, hw, (asksOwned_spec t x q hx).2]⟩
  | _ => cases hq

theorem convOne_assert (ops : Ops) (t : ArgTy) (name : String) (v : V) {c : Comp Unit} (hc : c.AllAsks isAssertNotUndef) :
    (Comp.bind (Comp.chks (t.asks v)) fun _ => Comp.bind (Comp.ofExcept (convertOne ops t name v)) fun _ => c).AllAsks
      isAssertNotUndef :=
  Comp.allAsks_bind _ _ _ (Comp.allAsks_chks _ _ fun q hq => (asks_spec t v q hq).1)
    fun _ => Comp.allAsks_bind _ _ _ (Comp.allAsks_ofExcept _ _) fun _ => hc

theorem convRest_assert (ops : Ops) (name : String) (t : ArgTy) (args : List V) :
    (convRest ops name t args).AllAsks isAssertNotUndef := by
  induction args with
  | nil => trivial
  | cons v r ih => exact convOne_assert ops (.rest t) name v ih

theorem convArgs_assert (ops : Ops) (sig : List (String × ArgTy)) (args : List V) :
    (convArgs ops sig args).AllAsks isAssertNotUndef := by
  fun_induction convArgs ops sig args with
  | case3 name t rest args => exact convRest_assert ops name t args
  | case4 _ _ ts ih => exact ih
  | case6 name t ts v r _ ih => exact convOne_assert ops t name v ih
  | _ => trivial

def isEnvFormat : HQ → Prop
  | .envFormat _ => True
  | _ => False

theorem joinSafeC_asks (f : Nat) (sep : String) (xs : List V) (first : Bool) :
    (joinSafeC f sep xs first).AllAsks isEnvFormat := by
  fun_induction joinSafeC f sep xs first with
  | case1 => trivial
  | case2 _ _ _ _ ih => exact Comp.allAsks_bind _ _ _ ih (fun _ => trivial)
  | case3 _ _ _ _ _ ih => exact ⟨trivial, fun _ => Comp.allAsks_bind _ _ _ ih (fun _ => trivial)⟩

theorem joinAeC_asks (f : Nat) (v : V) (j : Option V) : (joinAeC f v j).AllAsks isEnvFormat := by
  fun_cases joinAeC f v j with
  | case1 => trivial
  | case2 xs =>
    fun_cases joinAeItems f (normJoiner j) xs with
    | case3 => trivial
    | _ => exact Comp.allAsks_bind _ _ _ (joinSafeC_asks _ _ _ _) (fun _ => trivial)

theorem unpackListsC_asks (vs : List V) : (unpackListsC vs).AllAsks (fun q => ∃ k, q = .tryIter k) := by
  fun_induction unpackListsC vs with
  | case1 => trivial
  | case2 => trivial
  | case3 v r _ ih =>
    refine ⟨⟨_, rfl⟩, fun _ => ?_⟩
    split
    · trivial
    · exact Comp.allAsks_bind _ _ _ ih (fun _ => trivial)

/-! ## the rows of the extracted `ArgType` table that the theorems name -/

theorem argTypeCode_checking :
    ∀ t ∈ ["String", "Cow<str>", "StringInput"], ((argTypeCode t).getD (0, 0)).1 = 1 := by decide +kernel

theorem argTypeCode_plain :
    ∀ t ∈ ["Value", "&Value", "&str", "i64", "usize", "isize", "u32", "bool", "f64", "Kwargs", "ValueOrKwargs"],
      ((argTypeCode t).getD (0, 0)).1 = 0 := by decide +kernel

theorem wrapperForwards_rows :
    wrapperForwards "Option<T>" = false ∧ wrapperForwards "Rest<T>" = true ∧ wrapperForwards "Vec<T>" = true := by
  decide +kernel

theorem asks_nil_of_not_consults (t : ArgTy) (h : t.consults = false) (v : V) : t.asks v = [] := by
  cases hl : t.asks v with
  | nil => rfl
  | cons q l => exact absurd (h ▸ (asks_spec t v q (hl ▸ List.mem_cons_self)).2) Bool.false_ne_true

/-- a parameter type that can consult the mode does so for some (defined, non-none) value: it asks
    `assert_value_not_undefined` about the value, resp. about the items of a list -/
theorem consults_witness (t : ArgTy) (h : t.consults = true) : ∃ v : V, v.kind = .defined ∧ v ≠ .none ∧ t.asks v ≠ [] := by
  induction t with
  | base n =>
    refine ⟨.int 0, rfl, (nomatch ·), ?_⟩
    rw [ArgTy.asks, if_pos (of_decide_eq_true h)]
    exact (nomatch ·)
  | opt t ih =>
    obtain ⟨hw, ht⟩ := Bool.and_eq_true_iff.1 h
    obtain ⟨v, hk, hn, hv⟩ := ih ht
    refine ⟨v, hk, hn, ?_⟩
    rw [ArgTy.asks, if_pos hw]
    cases v <;> first | exact hv | cases hk | exact absurd rfl hn
  | rest t ih =>
    obtain ⟨hw, ht⟩ := Bool.and_eq_true_iff.1 h
    obtain ⟨v, hk, hn, hv⟩ := ih ht
    exact ⟨v, hk, hn, by rw [ArgTy.asks, if_pos hw]; exact hv⟩
  | vec t =>
    obtain ⟨hw, ht⟩ := Bool.and_eq_true_iff.1 h
    refine ⟨.seq [.undef], rfl, (nomatch ·), ?_⟩
    rw [ArgTy.asks, if_pos hw]
    cases t with
    | base n => simp [ArgTy.asksOwned, of_decide_eq_true ht]
    | _ => cases ht

/-- looking up a row's own key finds a row of the table, so when the parameter types of every row are known the
    signature found for every registered builtin is -/
theorem sigKnown_of_rows
    (h : MJ.Gen.undefBuiltinSigs.all (fun r => (r.2.2.1.map (fun p => ArgTy.ofParts p.1 p.2)).all ArgTy.known) = true) :
    MJ.Gen.undefBuiltinSigs.all (fun r => sigKnown r.1 r.2.1) = true := by
  unfold sigKnown sigOf
  generalize MJ.Gen.undefBuiltinSigs = rows at h ⊢
  refine List.all_eq_true.2 fun r hr => ?_
  cases hf : rows.find? (fun r' => r'.1 == r.1 && r'.2.1 == r.2.1) with
  | none =>
    exact absurd (Bool.and_eq_true_iff.2 ⟨decide_eq_true rfl, decide_eq_true rfl⟩) (List.find?_eq_none.1 hf r hr)
  | some r' => exact List.all_eq_true.1 h r' (List.mem_of_find?_eq_some hf)

/-- a write changes nothing but the output buffers (whatever they are: live, capturing, discarding) -/
theorem St.write_eq (s : St) (c : String) : s.write c = { s with outs := (s.write c).outs } := by
  unfold St.write; split <;> rfl

/-- a state whose stack is known, with the stack in sight of the matches of `guardQs` and `exec` -/
theorem St.eq_of_stack {s : St} {st : List V} (h : s.stack = st) : s = { s with stack := st } := by
  cases s; cases h; rfl

theorem V.eq_of_isUndefined {u : V} (h : u.isUndefined = true) : u = .undef ∨ u = .silent := by
  cases u <;> first | exact .inl rfl | exact .inr rfl | cases h

theorem V.not_kwargs_of_not_opaque {v : V} (h : v.isOpaque = false) : isKwargsVal v = false := by
  cases v <;> first | rfl | cases h

theorem V.not_object_of_not_opaque {v : V} (h : v.isOpaque = false) : v.isObject = false := by
  cases v <;> first | rfl | cases h

theorem V.getItem_of_isUndefined {u : V} (hu : u.isUndefined = true) (k : V) : V.getItem u k = .ok Option.none := by
  unfold V.getItem
  generalize k.plain = kp
  rcases V.eq_of_isUndefined hu with rfl | rfl <;> cases kp <;> rfl

/-- a site of the matrix: on the stack `st` the instruction is the computation "ask `q`, then `x`", and `q` is
    refused exactly when `C`.  The stack being explicit, `hc hk` hold by `rfl` for a given instruction; where an
    operand is a variable, unfold `stepC stepC1 guardQs exec` before simplifying (`simp only [exec]` is slow). -/
theorem step_ask (ops : Ops) (P : Prog) {m : Mode} {i : Instr} {s : St} {st : List V} {q : HQ} {k : Bool → Comp St}
    {x : St} {C : Prop} [Decidable C] (hs : s.stack = st)
    (hc : stepC ops P i { s with stack := st } = .ask q id k) (hk : k true = .pure x) (hC : q.refuses m ↔ C) :
    step ops P m i s = if C then .error .undefinedError else .ok x := by
  rw [St.eq_of_stack hs, step, hc, Comp.run_ask, hk]
  by_cases hc : C
  · rw [if_pos hc, if_pos (hC.2 hc)]; rfl
  · rw [if_neg hc, if_neg (mt hC.1 hc)]; rfl

/-- `Emit` of a value the model looks inside: the default formatter's inline test and `Environment::format`
    refuse the same values under the same modes, and every other value is written -/
theorem stepC_emit (ops : Ops) (P : Prog) (m : Mode) (s : St) (v : V) (r : List V) (hs : s.stack = v :: r)
    (hv : v.isOpaque = false) :
    (stepC ops P .emit s).run m =
      (if (m = .strict ∨ m = .semiStrict) ∧ v.kind = .undef then .error .undefinedError else .ok (s.emitVia r v)) ∧
    ((stepC ops P .emit s).failsAtAsk m = true ↔ (m = .strict ∨ m = .semiStrict) ∧ v.kind = .undef) := by
  by_cases hf : s.formatter = 0 <;> by_cases hc : (m = .strict ∨ m = .semiStrict) ∧ v.kind = .undef <;>
    simp [stepC, stepC1, inspects, emitC, hs, hv, hf, Comp.run_ask, Comp.failsAtAsk_ask, HQ.refuses, Comp.run,
      Comp.failsAtAsk, hc]

theorem St.emitVia_eq (s : St) (r : List V) (v : V) :
    s.emitVia r v = { s with stack := r, pc := s.pc + 1, outs := (s.emitVia r v).outs,
                             fmtCalls := if s.formatter = 0 then s.fmtCalls else s.fmtCalls + 1 } := by
  unfold St.emitVia
  split <;> (rw [St.write_eq]; rfl)

theorem callBuiltin_eq (ops : Ops) (kind name : String) (args : List V) :
    callBuiltin ops kind name args = (sigOf kind name).map (fun sr =>
      Comp.bind (convCall ops sr.1 args) (fun _ =>
        match handBody ops (callBuiltinN ops 5) kind name args with
        | some c => c
        | Option.none =>
          if sr.2.isEmpty then Comp.ofExcept (ops.pureBody kind name args)
          else .fail (.unsupported ("call shape of the mode-reaching " ++ kind ++ " " ++ name)))) := by
  unfold callBuiltin callBuiltinN
  cases sigOf kind name <;> rfl

end MJ.Undef
