import MJ.Gen.Tables
import MJ.Model.Loc
/-!
C14 source tie: the table `MJ.Gen.c14VmRows` is regenerated from `vm/mod.rs` on every run.  It lists,
for every instruction arm of `eval_impl` (and for the helper macros defined inside it), each fallible
expression together with the way its error leaves the interpreter loop.  Here it is checked that
every such row goes through `process_err` (the mechanism that attaches template name, line and span),
except for an explicit list of exceptions.
-/
namespace MJ.Loc
open MJ.Gen

/-- macros that end in `bail!`, i.e. `process_err(&mut err, pc, state); return Err(err)` -/
def locatingMacros : List String :=
  ["ctx_ok", "bail", "assert_valid", "func_binop", "op_binop", "recurse_loop"]

/-- rows that may leave the loop without location, each with its reason -/
def allowedUnlocated : List ((String × String × String × String) × String) := [
  (("macro:bail", "", "return_err", "err"),
    "the `return Err(err)` that ends bail! itself, after process_err ran"),
  (("macro:bail", "", "calls", "process_err"),
    "marker row: the body of bail! calls process_err(&mut err, pc, state)"),
  (("EmitRaw", "", "ok", "out.write_str"),
    "a write failure of the output sink is not a template error (comment in the source); C19 covers it")]

def rowLocated (r : String × String × String × String) : Bool :=
  locatingMacros.contains r.2.2.1 || allowedUnlocated.any (fun a => a.1 == r)

/-- the helper macros really are what `locatingMacros` assumes -/
def macroRowsPresent : Bool :=
  c14VmRows.contains ("macro:bail", "", "calls", "process_err") &&
  c14VmRows.contains ("macro:ctx_ok", "", "bail", "err") &&
  c14VmRows.contains ("macro:assert_valid", "", "bail", "err") &&
  c14VmRows.contains ("macro:func_binop", "", "ctx_ok", "ops::$method") &&
  c14VmRows.contains ("macro:op_binop", "", "ctx_ok", "undefined_behavior.assert_value_not_undefined") &&
  c14VmRows.contains ("macro:recurse_loop", "", "bail", "Error::new")

theorem vm_rows_located : c14VmRows.all rowLocated = true := by decide +kernel
theorem vm_macros_present : macroRowsPresent = true := by decide +kernel

/-- the integer widths the model hard-codes are the ones of the source -/
theorem widths_match :
    c14Bits_line = 16 ∧ c14Bits_col = 16 ∧ c14Bits_span_line = 16 ∧ c14Bits_span_col = 16 ∧
    c14Bits_span_offset = 32 ∧ c14Bits_first_instruction = 32 ∧ c14Bits_table_line = 16 := by decide

theorem satInc_width (x : Nat) : satInc x = if x < 2 ^ c14Bits_line - 1 then x + 1 else 2 ^ c14Bits_line - 1 := by
  unfold satInc; rfl

theorem asU32_width (x : Nat) : asU32 x = x % 2 ^ c14Bits_span_offset := by
  unfold asU32; rfl

end MJ.Loc
