import MJ.Proofs.MetaBasic
/-! Two runs of the analysis over the same code — one from a fresh tracker without nested
tracking (`find_macro_closure`, the free names of a block body), one inside the enclosing
template (`find_undeclared`, either mode) — stay related: whatever the fresh run reports is
reported by the run in context as well, unless the context had the name assigned when the
code was entered (C18, macros and blocks). -/
namespace MJ.Meta

/-- `s0`: fresh run (never nested), `s1`: run in context, `A`: names assigned in `s1` at the
start -/
structure Rel (A : String → Prop) (s0 s1 : St) : Prop where
  flat : s0.nested = none
  ne0 : s0.assigned ≠ []
  ne1 : s1.assigned ≠ []
  r1 : ∀ x, s0.isAssigned x = true → s1.isAssigned x = true ∨ x ∈ s0.out
  r3 : ∀ x, s1.isAssigned x = true → s0.isAssigned x = true ∨ s1.reported x ∨ A x
  r2 : ∀ x ∈ s0.out, s1.reported x ∨ A x

structure Pres (A : String → Prop) (f : St → St) : Prop where
  step : ∀ st, Step st (f st)
  rel : ∀ s0 s1, Rel A s0 s1 → Rel A (f s0) (f s1)

theorem Pres.id (A : String → Prop) : Pres A (fun st => st) :=
  ⟨fun st => Step.refl st, fun _ _ h => h⟩

theorem Pres.comp {A : String → Prop} {f g : St → St} (hf : Pres A f) (hg : Pres A g) :
    Pres A (fun st => g (f st)) :=
  ⟨fun st => Step.trans (hf.step st) (hg.step _), fun _ _ h => hg.rel _ _ (hf.rel _ _ h)⟩

theorem pres_assign (A : String → Prop) (x : String) : Pres A (fun st => st.assign x) := by
  refine ⟨fun st => step_assign st x, fun s0 s1 h => ?_⟩
  refine ⟨by rw [assign_nested]; exact h.flat, assign_ne _ h.ne0 x, assign_ne _ h.ne1 x,
    fun y hy => ?_, fun y hy => ?_, fun y hy => ?_⟩
  all_goals simp only [isAssigned_assign, assign_out, assign_reported] at hy ⊢
  · rcases hy with hy | ⟨e, _⟩
    · exact (h.r1 y hy).imp Or.inl id
    · exact Or.inl (Or.inr ⟨e, h.ne1⟩)
  · rcases hy with hy | ⟨e, _⟩
    · exact (h.r3 y hy).imp Or.inl id
    · exact Or.inl (Or.inr ⟨e, h.ne0⟩)
  · exact h.r2 y hy

theorem pres_visitLeaf (A : String → Prop) (l : Leaf) : Pres A (fun st => visitLeaf st l) := by
  refine ⟨fun st => step_visitLeaf st l, fun s0 s1 h => ?_⟩
  refine ⟨(step_visitLeaf s0 l).nested_none h.flat, (step_visitLeaf s0 l).ne h.ne0,
    (step_visitLeaf s1 l).ne h.ne1, fun y hy => ?_, fun y hy => ?_, fun y hy => ?_⟩
  all_goals simp only [isAssigned_visitLeaf, mem_out_visitLeaf, reported_visitLeaf] at hy ⊢
  · rcases hy with hy | ⟨rfl, _⟩
    · exact (h.r1 y hy).imp Or.inl Or.inl
    · by_cases a0 : s0.isAssigned l.1 = true
      · exact (h.r1 _ a0).imp Or.inl Or.inl
      · exact Or.inr (Or.inr ⟨rfl, a0, h.flat⟩)
  · rcases hy with hy | ⟨rfl, _⟩
    · exact (h.r3 y hy).imp Or.inl (Or.imp Or.inl id)
    · exact Or.inl (Or.inr ⟨rfl, h.flat, h.ne0⟩)
  · rcases hy with hy | ⟨rfl, a0, _⟩
    · exact (h.r2 y hy).imp Or.inl id
    · -- the fresh run reports the variable: the run in context reports it too, or had it
      -- assigned, which `r3` accounts for
      by_cases a1 : s1.isAssigned l.1 = true
      · rcases h.r3 _ a1 with h3 | h3 | h3
        · exact absurd h3 a0
        · exact Or.inl (Or.inl h3)
        · exact Or.inr h3
      · exact Or.inl (Or.inr ⟨rfl, a1⟩)

/-- both runs have walked a piece on stacks of their own (`a` to `b`) and put their stacks back -/
theorem Rel.restore {A : String → Prop} {a0 a1 b0 b1 : St} (h : Rel A a0 a1) (hr : Rel A b0 b1)
    (ho : ∀ x ∈ a0.out, x ∈ b0.out) (hp : ∀ x, a1.reported x → b1.reported x) :
    Rel A { b0 with assigned := a0.assigned } { b1 with assigned := a1.assigned } :=
  ⟨hr.flat, h.ne0, h.ne1, fun y hy => (h.r1 y hy).imp id (ho y),
    fun y hy => (h.r3 y hy).imp id (Or.imp (hp y) id), hr.r2⟩

theorem pres_scope {A : String → Prop} {f : St → St} (hf : Pres A f) :
    Pres A (fun st => (f st.push).pop) := by
  refine ⟨fun st => step_of_scope (hf.step _), fun s0 s1 h => ?_⟩
  have hp : Rel A s0.push s1.push :=
    ⟨h.flat, by simp [St.push], by simp [St.push], fun y hy => by rw [isAssigned_push] at *; exact h.r1 y hy,
      fun y hy => by rw [isAssigned_push] at *; exact h.r3 y hy, h.r2⟩
  show Rel A (f s0.push).pop (f s1.push).pop
  rw [pop_of_step (hf.step _), pop_of_step (hf.step _)]
  exact h.restore (hf.rel _ _ hp) (hf.step s0.push).out (hf.step s1.push).rep

theorem pres_block {A : String → Prop} {f : St → St} (hf : Pres A f) :
    Pres A (fun st => { f { st with assigned := [[]] } with assigned := st.assigned }) := by
  refine ⟨fun st => step_restore (hf.step _), fun s0 s1 h => ?_⟩
  have hin : Rel A { s0 with assigned := [[]] } { s1 with assigned := [[]] } :=
    ⟨h.flat, by simp, by simp, fun y hy => by simp [St.isAssigned] at hy,
      fun y hy => by simp [St.isAssigned] at hy, h.r2⟩
  exact h.restore (hf.rel _ _ hin) (hf.step { s0 with assigned := [[]] }).out
    (hf.step { s1 with assigned := [[]] }).rep

theorem Piece.pres {L : List Leaf} {B : List String} {f : St → St} (A : String → Prop)
    (h : Piece L B f) : Pres A f := by
  induction h with
  | id => exact Pres.id A
  | assign x => exact pres_assign A x
  | leaf l => exact pres_visitLeaf A l
  | comp _ _ ihf ihg => exact Pres.comp ihf ihg
  | scope _ ih => exact pres_scope ih
  | block _ ih => exact pres_block ih

theorem pres_walk (A : String → Prop) : (s : Stmt) → Pres A (fun st => walk st s) :=
  fun s => (piece_walk s).pres A

theorem Piece.fresh_reported {L : List Leaf} {B : List String} {f : St → St} (h : Piece L B f)
    (s1 : St) (hne : s1.assigned ≠ []) :
    ∀ x ∈ (f St.init).out, (f s1).reported x ∨ s1.isAssigned x = true := by
  have hrel : Rel (fun x => s1.isAssigned x = true) St.init s1 := by
    refine ⟨rfl, by simp [St.init], hne, ?_, fun x hx => Or.inr (Or.inr hx), ?_⟩
    · intro x hx; simp [St.init, St.isAssigned] at hx
    · intro x hx; simp [St.init] at hx
  exact ((h.pres _).rel _ _ hrel).r2

/-- The closure analysis of a macro against the analysis of the same macro in its context:
a closure name is reported by the run in context, or it was assigned when the macro was
entered (`st1` = tracker right after `push` and `assign("caller")`). -/
theorem closure_in_context (st1 : St) (hne : st1.assigned ≠ [])
    (args : List String) (defaults : List Expr) (body : List Stmt) :
    ∀ x ∈ findMacroClosure args defaults body,
      (walkList (macroArgs st1 args.reverse defaults.reverse) body).reported x
      ∨ st1.isAssigned x = true :=
  (Piece.comp (piece_macroArgs args.reverse defaults.reverse) (piece_walkList body)).fresh_reported
    st1 hne

theorem Piece.blocks {L : List Leaf} {B : List String} {f : St → St} (h : Piece L B f) :
    ∀ st, ∀ x ∈ B, (f st).reported x := by
  induction h with
  | id => exact fun _ _ hx => nomatch hx
  | assign _ => exact fun _ _ hx => nomatch hx
  | leaf _ => exact fun _ _ hx => nomatch hx
  | comp _ hg ihf ihg =>
    intro st x hx
    rcases List.mem_append.1 hx with hx | hx
    · exact (hg.step _).rep x (ihf st x hx)
    · exact ihg _ x hx
  | scope _ ih => exact fun st => ih st.push
  | block hf ih =>
    intro st x hx
    rcases List.mem_append.1 hx with hx | hx
    · -- the free names of a block body are reported wherever the block stands: the block
      -- starts with nothing assigned
      exact (hf.fresh_reported { st with assigned := [[]] } (by simp) x hx).resolve_right
        (by simp [St.isAssigned])
    · exact ih _ x hx

end MJ.Meta
