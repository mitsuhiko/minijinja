import MJ.Model.Bal
/-!
# Soundness of the certificate checker (helper lemmas for C05)

`Rel cert G c e fs k m`: the abstract state `(G, c, e)` that the certificate assigns to the current
pc describes the machine state `(fs, k, m)`.  In the outermost activation the two coincide.  In a
recursive activation of the loop at `t` (entered through `loop(...)` from a call site that returns
to `rpc`), the machine state is the part of the abstract state above the entry state of the loop,
stacked on the machine state of the suspended caller.
-/
namespace MJ.Bal

inductive Rel (cert : Cert) : List FrameKind → Nat → Nat → List RFrame → Nat → Nat → Prop where
  | nil (c e : Nat) : Rel cert [] c e [] c e
  | withF {G c e fs k m} : Rel cert G c e fs k m →
      Rel cert (.withF :: G) c e (.withF :: fs) k m
  | plain {G c e fs k m} (id : Nat) (v r : Bool) : Rel cert G c e fs k m →
      Rel cert (.loopF id v r :: G) c e (.loopF v (recOf id r) none :: fs) k m
  | recur {G c e fs k m} (t : Nat) (v : Bool) (rpc : Nat) (cap : Bool) (B0 B : AbsState) :
      look cert t = some B0 → B0.frames = G → B0.caps ≤ c → B0.escs ≤ e →
      look cert rpc = some B → Rel cert B.frames B.caps B.escs fs k m →
      Rel cert (.loopF t v true :: G) c e (.loopF v (some t) (some (rpc, cap)) :: fs)
        ((c - B0.caps) + k + (if cap then 1 else 0)) ((e - B0.escs) + m)

def Inv (cert : Cert) (s : VmState) : Prop :=
  ∃ A, look cert s.pc = some A ∧ Rel cert A.frames A.caps A.escs s.frames s.caps s.escs

/-- what the instruction at the pc does: `step` behind its fetch.  Arm for arm the text of `step`, so
that what an instruction does holds by `rfl` and an analysis by instruction is made on `exec`. -/
def exec (code : Code) (s : VmState) : Instr → Outcome
  | .other | .buildMacro _ => .next [s.fall]
  | .pushWith => .next [{ s.fall with frames := .withF :: s.frames }]
  | .popFrame =>
    match s.frames with
    | .withF :: fs => .next [{ s.fall with frames := fs }]
    | _ => .stuck
  | .pushLoop v r => .next [{ s.fall with frames := .loopF v (recOf s.pc r) none :: s.frames }]
  | .iterate t =>
    match s.frames with
    | .loopF _ _ _ :: _ => .next [s.fall, s.goto t]
    | _ => .stuck
  | .pushDidNotIterate =>
    match s.frames with
    | .loopF _ _ _ :: _ => .next [s.fall]
    | _ => .stuck
  | .popLoopFrame =>
    match s.frames with
    | .loopF _ _ none :: fs => .next [{ s.fall with frames := fs }]
    | .loopF _ _ (some (r, false)) :: fs => .next [{ s with pc := r, frames := fs }]
    | .loopF _ _ (some (r, true)) :: fs =>
      if s.caps = 0 then .stuck else .next [{ s with pc := r, frames := fs, caps := s.caps - 1 }]
    | _ => .stuck
  | .beginCapture => .next [{ s.fall with caps := s.caps + 1 }]
  | .endCapture => if s.caps = 0 then .stuck else .next [{ s.fall with caps := s.caps - 1 }]
  | .pushAutoEscape => .next [{ s.fall with escs := s.escs + 1 }]
  | .popAutoEscape => if s.escs = 0 then .stuck else .next [{ s.fall with escs := s.escs - 1 }]
  | .jump t => .next [s.goto t]
  | .jumpIfFalse t | .jumpIfFalseOrPop t | .jumpIfTrueOrPop t => .next [s.fall, s.goto t]
  | .fastRecurse =>
    match innermostLoop s.frames with
    | none | some none => .next []
    | some (some t) =>
      match recurseTo code s t false with
      | some s' => .next [s']
      | none => .stuck
  | .callFunction =>
    match allSome ((liveTargets s.frames).map (fun t => recurseTo code s t true)) with
    | some l => .next (s.fall :: l)
    | none => .stuck
  | .ret => .exit

theorem step_eq_exec {code : Code} {s : VmState} {i : Instr} (h : code[s.pc]? = some i) :
    step code s = exec code s i := by
  unfold step; rw [h]; cases i <;> rfl

theorem step_eq_exit {code : Code} {s : VmState} (h : code[s.pc]? = none) : step code s = .exit := by
  unfold step; rw [h]

theorem ws_tail {code : Code} {cert : Cert} {f : FrameKind} {G : List FrameKind} {c e : Nat}
    (h : wsFrames code cert (f :: G) c e = true) : wsFrames code cert G c e = true := by
  cases f with
  | withF => exact h
  | loopF id v r =>
    cases r
    · exact h
    · simp only [wsFrames, Bool.and_eq_true] at h
      exact h.2

theorem ws_recur {code : Code} {cert : Cert} {t : Nat} {v : Bool} {G : List FrameKind} {c e : Nat}
    (h : wsFrames code cert (.loopF t v true :: G) c e = true) :
    ∃ B0, look cert t = some B0 ∧ B0.caps ≤ c ∧ B0.escs ≤ e ∧ code[t]? = some (.pushLoop v true) := by
  simp only [wsFrames, Bool.and_eq_true, decide_eq_true_eq] at h
  cases hl : look cert t with
  | none => rw [hl] at h; cases h.1.1
  | some B0 =>
    simp only [hl, Bool.and_eq_true, decide_eq_true_eq] at h
    exact ⟨B0, rfl, h.1.1.1.2, h.1.1.2, h.1.2⟩

theorem recur_shift {b c' c : Nat} (hb : b ≤ c') (hc : c' ≤ c) (k x : Nat) :
    (c - b) + k + x = (c' - b) + k + x + (c - c') := by omega

theorem Rel.up {cert G c e fs k m} (h : Rel cert G c e fs k m) (dc de : Nat) :
    Rel cert G (c + dc) (e + de) fs (k + dc) (m + de) := by
  induction h with
  | nil c e => exact .nil _ _
  | withF _ ih => exact .withF ih
  | plain id v r _ ih => exact .plain id v r ih
  | @recur G c e fs k m t v rpc cap B0 B h1 h2 h3 h4 h5 h6 _ =>
    have hk := recur_shift h3 (Nat.le_add_right c dc) k (if cap then 1 else 0)
    have hm : (e + de - B0.escs) + m = (e - B0.escs) + m + (e + de - e) :=
      recur_shift h4 (Nat.le_add_right e de) m 0
    rw [Nat.add_sub_cancel_left] at hk hm
    rw [← hk, ← hm]
    exact .recur t v rpc cap B0 B h1 h2 (Nat.le_add_right_of_le h3) (Nat.le_add_right_of_le h4) h5 h6

/-- Where the certificate goes down to `(c', e')` and the frames are still well-stacked there, the
machine has as many captures and auto-escape entries of its own to close: a recursive loop frame
keeps the depths above those its `PushLoop` was certified with. -/
theorem Rel.down {cert code G c e fs k m} (h : Rel cert G c e fs k m) {c' e' : Nat} (hc : c' ≤ c) (he : e' ≤ e)
    (hws : wsFrames code cert G c' e' = true) :
    ∃ k' m', k = k' + (c - c') ∧ m = m' + (e - e') ∧ Rel cert G c' e' fs k' m' := by
  induction h with
  | nil c e => exact ⟨c', e', (Nat.add_sub_cancel' hc).symm, (Nat.add_sub_cancel' he).symm, .nil _ _⟩
  | withF _ ih =>
    obtain ⟨k', m', hk, hm, hr⟩ := ih hc he hws
    exact ⟨k', m', hk, hm, .withF hr⟩
  | plain id v r _ ih =>
    obtain ⟨k', m', hk, hm, hr⟩ := ih hc he (ws_tail hws)
    exact ⟨k', m', hk, hm, .plain id v r hr⟩
  | @recur G c e fs k m t v rpc cap B0 B h1 h2 h3 h4 h5 h6 _ =>
    obtain ⟨_, hl, hc', he', _⟩ := ws_recur hws
    cases h1.symm.trans hl
    exact ⟨_, _, recur_shift hc' hc _ _, recur_shift he' he m 0, .recur t v rpc cap B0 B h1 h2 hc' he' h5 h6⟩

/-- the innermost loops agree -/
theorem Rel.innermost {cert G c e fs k m} (h : Rel cert G c e fs k m) :
    (absInnermost G = none → innermostLoop fs = none) ∧
    (absInnermost G = some false → innermostLoop fs = some none) ∧
    (absInnermost G = some true → ∃ t, innermostLoop fs = some (some t)) := by
  induction h with
  | nil c e => simp [absInnermost, innermostLoop]
  | withF _ ih => simpa [absInnermost, innermostLoop] using ih
  | plain id v r _ _ => cases r <;> simp [absInnermost, innermostLoop, recOf]
  | recur t v rpc cap B0 B _ _ _ _ _ _ _ => simp [absInnermost, innermostLoop]

/-- what `checkCert` guarantees at a certified pc -/
structure PcOk (code : Code) (cert : Cert) (pc : Nat) (A : AbsState) : Prop where
  ws : wsFrames code cert A.frames A.caps A.escs = true
  atEnd : code[pc]? = none → A = AbsState.init
  edge : ∀ i, code[pc]? = some i → ∃ es, edges cert pc i A = some es ∧ ∀ x ∈ es, look cert x.1 = some x.2

theorem look_lt {cert : Cert} {pc : Nat} {A : AbsState} (h : look cert pc = some A) : pc < cert.size := by
  unfold look at h
  cases hc : cert[pc]? with
  | none => simp [hc] at h
  | some _ => exact (Array.getElem?_eq_some_iff.mp hc).1

theorem checkPc_iff {code : Code} {cert : Cert} {pc : Nat} :
    checkPc code cert pc = true ↔ ∀ A, look cert pc = some A → PcOk code cert pc A := by
  unfold checkPc
  cases look cert pc with
  | none => exact ⟨fun _ _ => nofun, fun _ => rfl⟩
  | some A =>
    simp only [Option.some.injEq, forall_eq', Bool.and_eq_true]
    constructor
    · intro ⟨hws, h⟩
      refine ⟨hws, fun hn => ?_, fun i hi => ?_⟩
      · simp only [hn] at h; exact of_decide_eq_true h
      · cases he : edges cert pc i A with
        | none => simp [hi, he] at h
        | some es =>
          simp only [hi, he] at h
          exact ⟨es, rfl, fun x hx => of_decide_eq_true (List.all_eq_true.mp h x hx)⟩
    · intro ⟨hws, hend, hedge⟩
      refine ⟨hws, ?_⟩
      cases hi : code[pc]? with
      | none => exact decide_eq_true (hend hi)
      | some i =>
        obtain ⟨es, he, hall⟩ := hedge i hi
        simp only [he]
        exact List.all_eq_true.mpr fun x hx => decide_eq_true (hall x hx)

theorem checkCert_iff {code : Code} {cert : Cert} :
    checkCert code cert = true ↔
      (∀ e ∈ entries code, look cert e = some AbsState.init) ∧
      ∀ pc A, look cert pc = some A → PcOk code cert pc A := by
  simp only [checkCert, Bool.and_eq_true, List.all_eq_true, decide_eq_true_eq, List.mem_range, checkPc_iff]
  exact and_congr_right fun _ => ⟨fun h pc A hA => h pc (look_lt hA) A hA, fun h pc _ => h pc⟩

theorem pcOk_of_check {code : Code} {cert : Cert} (hc : checkCert code cert = true)
    {pc : Nat} {A : AbsState} (h : look cert pc = some A) : PcOk code cert pc A :=
  (checkCert_iff.mp hc).2 pc A h

theorem Rel.live {code : Code} {cert : Cert}
    (hall : ∀ pc A, look cert pc = some A → wsFrames code cert A.frames A.caps A.escs = true)
    {G c e fs k m} (h : Rel cert G c e fs k m) :
    wsFrames code cert G c e = true →
    ∀ t ∈ liveTargets fs, ∃ B0 v, look cert t = some B0 ∧ code[t]? = some (.pushLoop v true) := by
  induction h with
  | nil c e => intro _ t ht; cases ht
  | withF _ ih => intro hws t ht; exact ih hws t ht
  | @plain G c e fs k m id v r _ ih =>
    intro hws t ht
    cases r with
    | false => exact ih hws t ht
    | true =>
      rcases List.mem_cons.mp ht with rfl | ht
      · obtain ⟨B0, hl, _, _, hcode⟩ := ws_recur hws
        exact ⟨B0, v, hl, hcode⟩
      · exact ih (ws_tail hws) t ht
  | @recur G c e fs k m t0 v rpc cap B0 B h1 h2 h3 h4 h5 h6 ih =>
    intro hws t ht
    rcases List.mem_cons.mp ht with rfl | ht
    · obtain ⟨_, _, _, _, hcode⟩ := ws_recur hws
      exact ⟨B0, v, h1, hcode⟩
    · exact ih (hall rpc B h5) t ht

theorem Inv.of_edge {cert : Cert} {es : List (Nat × AbsState)} (hedge : ∀ x ∈ es, look cert x.1 = some x.2)
    {p : Nat} {B : AbsState} (hm : (p, B) ∈ es) {fs : List RFrame} {k m : Nat}
    (hrel : Rel cert B.frames B.caps B.escs fs k m) : Inv cert ⟨p, fs, k, m⟩ :=
  ⟨B, hedge (p, B) hm, hrel⟩

theorem recurse_inv {code : Code} {cert : Cert} (hc : checkCert code cert = true)
    {s : VmState} {A B0 : AbsState} {t : Nat} {v : Bool} (cap : Bool)
    (hret : look cert (s.pc + 1) = some A)
    (hrel : Rel cert A.frames A.caps A.escs s.frames s.caps s.escs)
    (ht : look cert t = some B0) (hcode : code[t]? = some (.pushLoop v true)) :
    ∃ s', recurseTo code s t cap = some s' ∧ Inv cert s' := by
  obtain ⟨_, ⟨⟩, hall⟩ := (pcOk_of_check hc ht).edge _ hcode
  have key := Rel.recur t v (s.pc + 1) cap B0 A ht rfl (Nat.le_refl _) (Nat.le_refl _) hret hrel
  rw [Nat.sub_self, Nat.sub_self, Nat.zero_add, Nat.zero_add] at key
  refine ⟨_, by rw [recurseTo, hcode], ?_⟩
  cases cap <;> exact .of_edge hall (.head _) key

theorem innermost_live {fs : List RFrame} {t : Nat} (h : innermostLoop fs = some (some t)) :
    t ∈ liveTargets fs := by
  fun_induction innermostLoop fs with
  | case1 => cases h
  | case2 fs ih => exact ih h
  | case3 => cases h; exact .head _

theorem allSome_of {α β : Type} (f : α → Option β) (P : β → Prop) :
    ∀ ts : List α, (∀ t ∈ ts, ∃ b, f t = some b ∧ P b) →
      ∃ l, allSome (ts.map f) = some l ∧ ∀ x ∈ l, P x := by
  intro ts
  induction ts with
  | nil => intro _; exact ⟨[], rfl, fun _ h => nomatch h⟩
  | cons t ts ih =>
    intro h
    obtain ⟨b, hb, hP⟩ := h t (.head _)
    obtain ⟨l, hl, hPl⟩ := ih (fun t' ht' => h t' (.tail _ ht'))
    refine ⟨b :: l, by rw [List.map_cons, hb, allSome, hl], ?_⟩
    intro x hx
    rcases List.mem_cons.mp hx with rfl | hx
    · exact hP
    · exact hPl x hx

def Sound (cert : Cert) (s : VmState) : Outcome → Prop
  | .stuck => False
  | .exit => s.frames = [] ∧ s.caps = 0 ∧ s.escs = 0
  | .next l => ∀ t ∈ l, Inv cert t

theorem Sound.one {cert : Cert} {s t : VmState} (h : Inv cert t) : Sound cert s (.next [t]) := by
  intro u hu; rw [List.mem_singleton.mp hu]; exact h

theorem Sound.two {cert : Cert} {s t₁ t₂ : VmState} (h₁ : Inv cert t₁) (h₂ : Inv cert t₂) :
    Sound cert s (.next [t₁, t₂]) := by
  intro u hu
  rcases List.mem_cons.mp hu with rfl | hu
  · exact h₁
  · rw [List.mem_singleton.mp hu]; exact h₂

/-- The certified edges of an instruction are what the machine does: each successor of `exec` is the
target of an edge of `edges`, in the state the edge carries; where `edges` refuses, `checkCert` has. -/
theorem exec_sound {code : Code} {cert : Cert} (hc : checkCert code cert = true)
    {s : VmState} {i : Instr} (hi : code[s.pc]? = some i) (hinv : Inv cert s) :
    Sound cert s (exec code s i) := by
  obtain ⟨pc, fs, k, m⟩ := s
  obtain ⟨⟨G, c, e⟩, hA, hrel⟩ := hinv
  dsimp only at hA hrel
  have hok := pcOk_of_check hc hA
  have hall : ∀ pc A, look cert pc = some A → wsFrames code cert A.frames A.caps A.escs = true :=
    fun pc A h => (pcOk_of_check hc h).ws
  obtain ⟨es, hes, hedge⟩ := hok.edge i hi
  cases i with
  | other | buildMacro | jump => cases hes; exact .one (.of_edge hedge (.head _) hrel)
  | pushWith => cases hes; exact .one (.of_edge hedge (.head _) (.withF hrel))
  | pushLoop v r => cases hes; exact .one (.of_edge hedge (.head _) (.plain pc v r hrel))
  | beginCapture => cases hes; exact .one (.of_edge hedge (.head _) (hrel.up 1 0))
  | pushAutoEscape => cases hes; exact .one (.of_edge hedge (.head _) (hrel.up 0 1))
  | jumpIfFalse | jumpIfFalseOrPop | jumpIfTrueOrPop =>
    cases hes; exact .two (.of_edge hedge (.head _) hrel) (.of_edge hedge (.tail _ (.head _)) hrel)
  | popFrame =>
    cases hrel with
    | withF hrel' => cases hes; exact .one (.of_edge hedge (.head _) hrel')
    | _ => cases hes
  | iterate tgt =>
    have h := hrel
    cases h with
    | nil | withF => cases hes
    | plain | recur =>
      cases hes; exact .two (.of_edge hedge (.head _) hrel) (.of_edge hedge (.tail _ (.head _)) hrel)
  | pushDidNotIterate =>
    have h := hrel
    cases h with
    | nil | withF => cases hes
    | plain | recur => cases hes; exact .one (.of_edge hedge (.head _) hrel)
  | popLoopFrame =>
    cases G with
    | nil => cases hes
    | cons g G' =>
      cases g with
      | withF => cases hes
      | loopF id v r =>
        simp only [edges] at hes
        split at hes
        · cases hes
        · rename_i hcond
          cases hes
          have h1 := hedge _ (.head _)
          cases hrel with
          | plain _ _ _ hrel' => exact .one ⟨_, h1, hrel'⟩
          | @recur _ _ _ fs' k0 m0 _ _ rpc cap B0 B a1 a2 a3 a4 a5 a6 =>
            -- the check at the `PopLoopFrame` of a recursive loop: the state here is the one its `PushLoop`
            -- was certified with, so the level has closed all it opened
            have hB0 : look cert id = some { frames := G', caps := c, escs := e } :=
              Decidable.byContradiction (fun hne => hcond ⟨rfl, hne⟩)
            obtain rfl : B0 = _ := Option.some.inj (a1.symm.trans hB0)
            simp only [Nat.sub_self, Nat.zero_add]
            cases cap <;> exact .one ⟨B, a5, a6⟩
  | endCapture =>
    simp only [edges] at hes
    split at hes
    · cases hes
    · rename_i hc0
      cases hes
      have h1 := hedge _ (.head _)
      obtain ⟨k', m', hk, hm, hr⟩ := hrel.down (c' := c - 1) (e' := e) (Nat.sub_le _ _) (Nat.le_refl _) (hall _ _ h1)
      rw [Nat.sub_sub_self (Nat.pos_of_ne_zero hc0)] at hk
      rw [Nat.sub_self] at hm
      subst hk hm
      exact .one ⟨_, h1, hr⟩
  | popAutoEscape =>
    simp only [edges] at hes
    split at hes
    · cases hes
    · rename_i he0
      cases hes
      have h1 := hedge _ (.head _)
      obtain ⟨k', m', hk, hm, hr⟩ := hrel.down (c' := c) (e' := e - 1) (Nat.le_refl _) (Nat.sub_le _ _) (hall _ _ h1)
      rw [Nat.sub_self] at hk
      rw [Nat.sub_sub_self (Nat.pos_of_ne_zero he0)] at hm
      subst hk hm
      exact .one ⟨_, h1, hr⟩
  | fastRecurse =>
    have hinn := hrel.innermost
    cases ha : absInnermost G with
    | none => rw [exec, hinn.1 ha]; exact fun _ h => nomatch h
    | some r =>
      cases r with
      | false => rw [exec, hinn.2.1 ha]; exact fun _ h => nomatch h
      | true =>
        simp only [edges, ha, Option.some.injEq] at hes; subst hes
        obtain ⟨t0, ht0⟩ := hinn.2.2 ha
        obtain ⟨B0, v, hB0, hcode⟩ := hrel.live hall hok.ws t0 (innermost_live ht0)
        obtain ⟨s', hs', hinv'⟩ := recurse_inv hc (s := ⟨pc, fs, k, m⟩) false (hedge _ (.head _)) hrel hB0 hcode
        rw [exec, ht0]; simp only; rw [hs']
        exact .one hinv'
  | callFunction =>
    cases hes
    have hret := hedge _ (.head _)
    obtain ⟨l, hl, hPl⟩ := allSome_of (fun t => recurseTo code ⟨pc, fs, k, m⟩ t true) (Inv cert)
      (liveTargets fs) (fun t ht => by
        obtain ⟨B0, v, hB0, hcode⟩ := hrel.live hall hok.ws t ht
        exact recurse_inv hc (s := ⟨pc, fs, k, m⟩) true hret hrel hB0 hcode)
    rw [exec, hl]
    intro t ht
    rcases List.mem_cons.mp ht with rfl | ht
    · exact ⟨_, hret, hrel⟩
    · exact hPl t ht
  | ret =>
    simp only [edges] at hes
    split at hes
    · rename_i hinit
      cases hinit
      cases hrel
      exact ⟨rfl, rfl, rfl⟩
    · cases hes

theorem step_sound {code : Code} {cert : Cert} (hc : checkCert code cert = true)
    (s : VmState) (hinv : Inv cert s) :
    step code s ≠ .stuck ∧
    (step code s = .exit → s.frames = [] ∧ s.caps = 0 ∧ s.escs = 0) ∧
    (∀ l, step code s = .next l → ∀ t ∈ l, Inv cert t) := by
  obtain ⟨pc, fs, k, m⟩ := s
  have key : Sound cert ⟨pc, fs, k, m⟩ (step code ⟨pc, fs, k, m⟩) := by
    cases hi : code[pc]? with
    | some i => rw [step_eq_exec hi]; exact exec_sound hc hi hinv
    | none =>
      rw [step_eq_exit hi]
      obtain ⟨A, hA, hrel⟩ := hinv
      cases (pcOk_of_check hc hA).atEnd hi
      cases hrel
      exact ⟨rfl, rfl, rfl⟩
  cases h : step code ⟨pc, fs, k, m⟩ with
  | stuck => rw [h] at key; exact key.elim
  | exit => rw [h] at key; exact ⟨nofun, fun _ => key, nofun⟩
  | next l => rw [h] at key; exact ⟨nofun, nofun, fun _ h' => by cases h'; exact key⟩

theorem reach_inv {code : Code} {cert : Cert} (hc : checkCert code cert = true)
    {s t : VmState} (hs : Inv cert s) (h : Reach code s t) : Inv cert t := by
  induction h with
  | refl => exact hs
  | tail _ hstep hmem ih => exact (step_sound hc _ ih).2.2 _ hstep _ hmem

theorem init_inv {code : Code} {cert : Cert} (hc : checkCert code cert = true)
    {e : Nat} (he : e ∈ entries code) : Inv cert (initAt e) :=
  ⟨AbsState.init, (checkCert_iff.mp hc).1 e he, .nil 0 0⟩

theorem reach_sound {code : Code} {cert : Cert} (hc : checkCert code cert = true) {e : Nat} (he : e ∈ entries code)
    {s : VmState} (hr : Reach code (initAt e) s) :
    step code s ≠ .stuck ∧ (step code s = .exit → s.frames = [] ∧ s.caps = 0 ∧ s.escs = 0) :=
  have h := step_sound hc s (reach_inv hc (init_inv hc he) hr)
  ⟨h.1, h.2.1⟩

/-- the frame a certificate frame stands for in the outermost activation -/
def toR : FrameKind → RFrame
  | .withF => .withF
  | .loopF id v r => .loopF v (recOf id r) none

/-- no frame carries a recursion return address: the state belongs to the outermost activation -/
def noReturn : List RFrame → Bool
  | [] => true
  | .withF :: fs => noReturn fs
  | .loopF _ _ none :: fs => noReturn fs
  | .loopF _ _ (some _) :: _ => false

/-- in the outermost activation the machine state *is* the certified state -/
theorem Rel.outermost {cert : Cert} {G c e fs k m} (h : Rel cert G c e fs k m)
    (hn : noReturn fs = true) : fs = G.map toR ∧ k = c ∧ m = e := by
  induction h with
  | nil c e => exact ⟨rfl, rfl, rfl⟩
  | withF _ ih =>
    simp only [noReturn] at hn
    obtain ⟨h1, h2, h3⟩ := ih hn
    exact ⟨by simp [toR, h1], h2, h3⟩
  | plain id v r _ ih =>
    simp only [noReturn] at hn
    obtain ⟨h1, h2, h3⟩ := ih hn
    exact ⟨by simp [toR, h1], h2, h3⟩
  | recur t v rpc cap B0 B _ _ _ _ _ _ _ => simp [noReturn] at hn

end MJ.Bal
