import MJ.Model.DepthHop
import MJ.Proofs.Depth
/-!
# Rust callbacks are transparent for the depth accounting (C11)

`runH` on a mixed trace and `run` on its depth events agree (`runH_erase`); the callback frames on
the native stack are bounded by `H × (activations + 1)` when no activation nests more than `H`
callbacks (`HopInv`, `totalHops_le`, `totalHops_le_nativeDepth`).  `bytes_le_rho` is what the
decidable budget `budgetOK` knows of each kind: `bytes k ≤ rho bytes P * cost k`.
-/
namespace MJ.Depth

theorem runH_cons (s : StH) (e : EvH) (es : List EvH) :
    runH s (e :: es) = match stepH s e with | .ok s' => runH s' es | o => o := rfl

theorem runH_cons_ok {s s' : StH} {e : EvH} {es : List EvH} :
    runH s (e :: es) = .ok s' ↔ ∃ s1, stepH s e = .ok s1 ∧ runH s1 es = .ok s' := by
  rw [runH_cons]
  cases stepH s e <;> simp

/-- a depth event of a mixed trace has the outcome the accounting model gives it, unless it is a
    `leave` where no activation is pending -/
theorem stepH_ev (s : StH) (e : Ev) :
    stepH s (.ev e) = .stuck ∨ (stepH s (.ev e)).toOut = step s.st e := by
  cases e with
  | leave =>
    simp only [stepH]
    cases s.saved with
    | nil => exact Or.inl rfl
    | cons h rest => right; cases step s.st .leave <;> rfl
  | _ => right; simp only [stepH]; cases step s.st _ <;> rfl

theorem stepH_ev_ok {s s' : StH} {e : Ev} (h : stepH s (.ev e) = .ok s') :
    step s.st e = .ok s'.st ∧
    match e with
    | .enter _ => s'.cur = 0 ∧ s'.saved = s.cur :: s.saved
    | .leave => s.saved = s'.cur :: s'.saved
    | _ => s'.cur = s.cur ∧ s'.saved = s.saved := by
  cases e with
  | leave =>
    simp only [stepH] at h
    cases hsv : s.saved with
    | nil => rw [hsv] at h; cases h
    | cons x rest =>
      rw [hsv] at h
      cases hs : step s.st .leave <;> rw [hs] at h <;> cases h
      exact ⟨rfl, rfl⟩
  | _ =>
    simp only [stepH] at h
    cases hs : step s.st _ <;> rw [hs] at h <;> cases h
    exact ⟨rfl, rfl, rfl⟩

theorem toOut_eq_error_or_stuck {o : OutH} (h : o.toOut = .recursionError ∨ o.toOut = .stuck) :
    o = .recursionError ∨ o = .stuck := by
  cases o with
  | recursionError => exact Or.inl rfl
  | stuck => exact Or.inr rfl
  | _ => rcases h with h | h <;> cases h

def InvH (s : StH) : Prop := Inv 1 s.st ∧ s.saved.length = s.st.acts.length

theorem invH_init (L : Nat) : InvH (initH L) := ⟨inv_init L, rfl⟩

theorem stepH_inv {s s' : StH} {e : EvH} (hi : InvH s) (h : stepH s e = .ok s') : InvH s' := by
  cases e with
  | hop => cases h; exact hi
  | unhop => simp only [stepH] at h; split at h <;> cases h; exact hi
  | ev e =>
    obtain ⟨hs, hc⟩ := stepH_ev_ok h
    refine ⟨(inv_step hi.1 hs).1, ?_⟩
    have hlen : s'.st.acts.length = pending [e] s.st.acts.length := step_acts_length hi.1 hs
    have := hi.2
    cases e with
    | enter k => rw [hc.2, hlen, List.length_cons, this]; rfl
    | leave => rw [hc, List.length_cons] at this; rw [hlen]; show _ = s.st.acts.length - 1; omega
    | _ => rw [hc.2, hlen, this]; rfl

/-- **transparency**: a mixed trace ends exactly as its depth events end in the accounting model —
    same state, same error, no panic that the model does not have — unless it is not well formed:
    a callback "returns" that was never entered, or a `leave` finds `saved = []` (under `InvH` the
    depth events are stuck there as well) -/
theorem runH_erase : ∀ (evs : List EvH) (s : StH),
    runH s evs = .stuck ∨ (runH s evs).toOut = run s.st (erase evs)
  | [], _ => Or.inr rfl
  | .hop :: es, s => runH_erase es { s with cur := s.cur + 1 }
  | .unhop :: es, s => by
    rw [runH_cons]
    by_cases h : s.cur = 0
    · simp only [stepH, if_pos h, true_or]
    · simp only [stepH, if_neg h]; exact runH_erase es { s with cur := s.cur - 1 }
  | .ev e :: es, s => by
    rw [runH_cons, erase, run_cons]
    rcases stepH_ev s e with h | h
    · rw [h]; exact Or.inl rfl
    · rw [← h]
      cases hs : stepH s (.ev e) with
      | ok s1 => exact runH_erase es s1
      | _ => exact Or.inr rfl

theorem runH_ok_erase {evs : List EvH} {s s' : StH} (hi : InvH s) (h : runH s evs = .ok s') :
    run s.st (erase evs) = .ok s'.st ∧ InvH s' := by
  constructor
  · rcases runH_erase evs s with h1 | h1 <;> rw [h] at h1
    · cases h1
    · exact h1.symm
  · induction evs generalizing s with
    | nil => cases h; exact hi
    | cons e es ih =>
      obtain ⟨s1, h1, h2⟩ := runH_cons_ok.1 h
      exact ih (stepH_inv hi h1) h2

def HopInv (H : Nat) (s : StH) : Prop := s.cur ≤ H ∧ ∀ h ∈ s.saved, h ≤ H

/-- along the trace no callback is entered while `H` callbacks of the current activation are
    pending (a property of the program: how deep its Rust callbacks nest before template code
    runs again) -/
def hopsWithin (H : Nat) : StH → List EvH → Prop
  | _, [] => True
  | s, e :: es =>
    (e = .hop → s.cur < H) ∧
    match stepH s e with
    | .ok s' => hopsWithin H s' es
    | _ => True

def hopsWithinB (H : Nat) : StH → List EvH → Bool
  | _, [] => true
  | s, e :: es =>
    (e != .hop || decide (s.cur < H)) &&
    match stepH s e with
    | .ok s' => hopsWithinB H s' es
    | _ => true

theorem hopsWithinB_iff (H : Nat) : ∀ (evs : List EvH) (s : StH),
    hopsWithinB H s evs = true ↔ hopsWithin H s evs := by
  intro evs
  induction evs with
  | nil => intro s; simp [hopsWithinB, hopsWithin]
  | cons e es ih =>
    intro s
    simp only [hopsWithinB, hopsWithin, Bool.and_eq_true, Bool.or_eq_true, bne_iff_ne, ne_eq,
      decide_eq_true_eq, ← Decidable.imp_iff_not_or]
    cases stepH s e <;> simp only [ih]

theorem sumNat_le (H : Nat) : ∀ l : List Nat, (∀ h ∈ l, h ≤ H) → sumNat l ≤ H * l.length
  | [], _ => Nat.le_refl 0
  | x :: xs, hl => by
    have h1 := hl x List.mem_cons_self
    have h2 := sumNat_le H xs (fun h hh => hl h (List.mem_cons_of_mem _ hh))
    simp only [sumNat, List.length_cons, Nat.mul_succ]
    omega

theorem totalHops_le {H : Nat} {s : StH} (h : HopInv H s) :
    totalHops s ≤ H * s.saved.length + H := by
  have := sumNat_le H s.saved h.2
  have h1 := h.1
  simp only [totalHops]
  omega

theorem stackBytes_withHops (hopBytes H : Nat) (bytes : Kind → Nat) : ∀ acts : List Act,
    stackBytes (withHops hopBytes H bytes) acts = stackBytes bytes acts + hopBytes * H * acts.length
  | [] => rfl
  | a :: rest => by
    simp only [stackBytes, stackBytes_withHops hopBytes H bytes rest, withHops, List.length_cons, Nat.mul_succ]
    omega

theorem hopInv_init (H L : Nat) : HopInv H (initH L) :=
  ⟨Nat.zero_le _, nofun⟩

theorem stepH_hopInv {H : Nat} {s s' : StH} {e : EvH} (hi : HopInv H s)
    (hb : e = .hop → s.cur < H) (h : stepH s e = .ok s') : HopInv H s' := by
  obtain ⟨h1, h2⟩ := hi
  cases e with
  | hop => cases h; exact ⟨hb rfl, h2⟩
  | unhop => simp only [stepH] at h; split at h <;> cases h; exact ⟨Nat.le_trans (Nat.sub_le _ _) h1, h2⟩
  | ev e =>
    have hc := (stepH_ev_ok h).2
    cases e with
    | enter k =>
      rw [HopInv, hc.1, hc.2]
      exact ⟨Nat.zero_le _, List.forall_mem_cons.2 ⟨h1, h2⟩⟩
    | leave =>
      rw [hc] at h2
      exact List.forall_mem_cons.1 h2
    | _ => rw [HopInv, hc.1, hc.2]; exact ⟨h1, h2⟩

theorem runH_hopInv {H : Nat} : ∀ {evs : List EvH} {s s' : StH}, HopInv H s →
    hopsWithin H s evs → runH s evs = .ok s' → HopInv H s'
  | [], _, _, hi, _, h => by cases h; exact hi
  | e :: es, s, s', hi, hw, h => by
    obtain ⟨s1, h1, h2⟩ := runH_cons_ok.1 h
    obtain ⟨hb, hw'⟩ := hw
    rw [h1] at hw'
    exact runH_hopInv (stepH_hopInv hi hb h1) hw' h2

theorem totalHops_le_nativeDepth {H L : Nat} {evs : List EvH} {s : StH}
    (hw : hopsWithin H (initH L) evs) (hr : runH (initH L) evs = .ok s) :
    totalHops s ≤ H * nativeDepth s.st := by
  have h := totalHops_le (runH_hopInv (hopInv_init H L) hw hr)
  rwa [(runH_ok_erase (invH_init L) hr).2.2, ← Nat.mul_succ] at h

theorem le_maxOver (f : Kind → Nat) : ∀ (l : List Kind) (k : Kind), k ∈ l → f k ≤ maxOver f l
  | x :: xs, k, hk => by
    simp only [maxOver]
    rcases List.mem_cons.1 hk with rfl | h
    · exact Nat.le_max_left _ _
    · exact Nat.le_trans (le_maxOver f xs k h) (Nat.le_max_right _ _)

theorem bytes_le_perUnit (bytes : Kind → Nat) (k : Kind) : bytes k ≤ perUnit bytes k * cost k := by
  have hc := cost_pos k
  unfold perUnit
  have h1 := Nat.div_add_mod (bytes k + cost k - 1) (cost k)
  have h2 := Nat.mod_lt (bytes k + cost k - 1) (show 0 < cost k by omega)
  rw [Nat.mul_comm] at h1
  generalize (bytes k + cost k - 1) / cost k * cost k = q at h1 ⊢
  omega

theorem mem_allKinds (k : Kind) : k ∈ allKinds := by
  cases k <;> decide

theorem all_allKinds {p : Kind → Bool} (h : allKinds.all p = true) (k : Kind) : p k = true := by
  simp only [allKinds, List.all_cons, List.all_nil, Bool.and_true, Bool.and_eq_true] at h
  obtain ⟨h1, h2, h3, h4, h5⟩ := h
  cases k <;> assumption

theorem bytes_le_rho (bytes : Kind → Nat) (P : Kind → Bool) (k : Kind) (hk : P k = true) :
    bytes k ≤ rho bytes P * cost k :=
  Nat.le_trans (bytes_le_perUnit bytes k) (Nat.mul_le_mul_right _
    (le_maxOver (perUnit bytes) _ k (List.mem_filter.2 ⟨mem_allKinds k, hk⟩)))

end MJ.Depth
