import MJ.Model.ValueSer
/-! `impl Serialize for Value` keeps serde's length contract (`contract_serCalls`), and every conversion restores the
`INTERNAL_SERIALIZATION` flag (`runConv_restores`) (C16). -/
namespace MJ.ValueSer

theorem serCallsList_length (xs : List LV) : (serCallsList xs).length = xs.length := by
  induction xs with
  | nil => rfl
  | cons x xs ih => simp [serCallsList, ih]

theorem enLen_exact (en : En) (count n : Nat) (h : enHonest en count) (hn : enLen en count = some n) : count = n := by
  cases en with
  | nonEnumerable => simp [enLen] at hn
  | empty => simp [enLen] at hn; simp [enHonest] at h; omega
  | exact => simp [enLen] at hn; exact hn
  | sized m => simp [enLen] at hn; simp [enHonest] at h; omega
  | hinted lo hi =>
    simp only [enLen] at hn
    split at hn
    · rename_i hhi
      simp at hn
      simp only [enHonest] at h
      have := h.2 lo hhi
      omega
    · simp at hn

mutual
theorem contract_serCalls : ∀ (lv : LV), Honest lv → ContractOK (serCalls lv)
  | .leaf v, _ => by cases v <;> simp [serCalls, scalarCall, ContractOK]
  | .list t xs, h => by
    simp only [Honest] at h
    simp only [serCalls, ContractOK]
    exact ⟨by intro n hn; simp at hn; rw [serCallsList_length]; exact hn, contract_serCallsList xs h⟩
  | .lazy en xs, h => by
    simp only [Honest] at h
    cases en with
    | nonEnumerable => simp [serCalls, ContractOK, ContractOKList]
    | _ =>
      simp only [serCalls, ContractOK]
      exact ⟨fun n hn => by rw [serCallsList_length]; exact enLen_exact _ _ _ h.1 hn, contract_serCallsList xs h.2⟩
  | .vmap kvs, h => by
    simp only [Honest] at h
    simp only [serCalls, ContractOK]
    exact ⟨by intro n hn; simp at hn, contract_serCallsPairs kvs h⟩
  | .omap e kvs, h => by
    simp only [Honest] at h
    simp only [serCalls, ContractOK]
    refine ⟨by intro n hn; simp at hn, ?_⟩
    cases e
    · simp [ContractOKPairs]
    · simpa using contract_serCallsPairs kvs h
theorem contract_serCallsList : ∀ (xs : List LV), HonestList xs → ContractOKList (serCallsList xs)
  | [], _ => by simp [serCallsList, ContractOKList]
  | x :: xs, h => by
    simp only [HonestList] at h
    simp only [serCallsList, ContractOKList]
    exact ⟨contract_serCalls x h.1, contract_serCallsList xs h.2⟩
theorem contract_serCallsPairs : ∀ (kvs : List (LV × LV)), HonestPairs kvs → ContractOKPairs (serCallsPairs kvs)
  | [], _ => by simp [serCallsPairs, ContractOKPairs]
  | (k, v) :: rest, h => by
    simp only [HonestPairs] at h
    simp only [serCallsPairs, ContractOKPairs]
    exact ⟨contract_serCalls k h.1, contract_serCalls v h.2.1, contract_serCallsPairs rest h.2.2⟩
end

/-- the headline form: an announced sequence length is the number of elements -/
theorem announced_len_exact (en : En) (xs : List LV) (h : Honest (.lazy en xs)) (n : Nat) (elems : List Call)
    (hc : serCalls (.lazy en xs) = .seq (some n) elems) : elems.length = n := by
  have := contract_serCalls (.lazy en xs) h
  rw [hc] at this
  simp only [ContractOK] at this
  exact this.1 n rfl

mutual
/-- a conversion leaves the flag as it found it, also when it (or something nested) panics -/
theorem runConv_restores : ∀ (c : Conv) (flag : Bool), (runConv c flag).1 = flag
  | .conv inner panics, flag => by
    have h := runConvs_restores inner true
    cases flag <;> simp [runConv, h]
theorem runConvs_restores : ∀ (cs : List Conv) (flag : Bool), (runConvs cs flag).1 = flag
  | [], flag => rfl
  | c :: cs, flag => by
    have h1 := runConv_restores c flag
    simp only [runConvs]
    split
    · exact h1
    · rw [h1]; exact runConvs_restores cs flag
end

end MJ.ValueSer
