import MJ.Model.Serde
/-! `f32 → f64 → f32` on bit patterns is the identity (except for signalling NaNs). -/
namespace MJ.Serde

theorem narrow_fields (s e M : Nat) (hs : s < 2) (he : e < 2048) (hM : M < 4503599627370496) :
    narrow (s * 9223372036854775808 + e * 4503599627370496 + M) =
      if e = 2047 then
        s * 2147483648 + 2139095040 + (if M = 0 then 0 else M / 536870912 % 4194304 + 4194304)
      else if 897 ≤ e then
        s * 2147483648 + Nat.min ((e - 897) * 8388608 + rne (4503599627370496 + M) 29) 2139095040
      else if 873 ≤ e then
        s * 2147483648 + rne (4503599627370496 + M) (29 + (897 - e))
      else s * 2147483648 := by
  have h1 : (s * 9223372036854775808 + e * 4503599627370496 + M) / 9223372036854775808 % 2 = s := by omega
  have h2 : (s * 9223372036854775808 + e * 4503599627370496 + M) / 4503599627370496 % 2048 = e := by omega
  have h3 : (s * 9223372036854775808 + e * 4503599627370496 + M) % 4503599627370496 = M := by omega
  simp only [narrow, h1, h2, h3]

theorem rne_exact (q sh : Nat) : rne (q * 2 ^ sh) sh = q := by
  unfold rne
  by_cases h0 : sh = 0
  · simp [h0]
  · have hpos : 0 < 2 ^ sh := Nat.pow_pos (by decide)
    have hq : q * 2 ^ sh / 2 ^ sh = q := Nat.mul_div_cancel q hpos
    have hr : q * 2 ^ sh % 2 ^ sh = 0 := Nat.mul_mod_left q (2 ^ sh)
    have hhalf : 0 < 2 ^ sh / 2 := by
      have : 2 ≤ 2 ^ sh := by
        calc 2 = 2 ^ 1 := rfl
          _ ≤ 2 ^ sh := Nat.pow_le_pow_right (by decide) (by omega)
      omega
    simp only [h0, if_false, hq, hr]
    have : ¬ (2 ^ sh / 2 < 0 ∨ (0 = 2 ^ sh / 2 ∧ q % 2 = 1)) := by omega
    rw [if_neg this]

theorem narrow_widen (b : Nat) (hb : b < 4294967296) (hs : isSNaN32 b = false) : narrow (widen b) = b := by
  have hs' : ¬ (b / 8388608 % 256 = 255 ∧ b % 8388608 ≠ 0 ∧ b % 8388608 < 4194304) := by
    intro h
    simp [isSNaN32, h.1, h.2.1, h.2.2] at hs
  generalize hsg : b / 2147483648 % 2 = s
  generalize heg : b / 8388608 % 256 = e at hs'
  generalize hmg : b % 8388608 = m at hs'
  have hb' : b = s * 2147483648 + e * 8388608 + m := by omega
  have hs2 : s < 2 := by omega
  have he2 : e < 256 := by omega
  have hm2 : m < 8388608 := by omega
  unfold widen
  simp only [hsg, heg, hmg]
  -- from here on `b` is known by its fields; the quotients would only make `omega` split cases again
  clear hsg heg hmg hs
  by_cases he255 : e = 255
  · -- infinities and quiet NaNs
    simp only [he255, if_true]
    by_cases hm0 : m = 0
    · rw [if_pos hm0]
      have key : s * 9223372036854775808 + 9218868437227405312 + 0
          = s * 9223372036854775808 + 2047 * 4503599627370496 + 0 := by omega
      rw [key, narrow_fields s 2047 0 hs2 (by omega) (by omega), if_pos rfl, if_pos rfl]
      clear key
      omega
    · have hq : 4194304 ≤ m := by
        apply Nat.le_of_not_lt
        intro hlt
        exact hs' ⟨he255, hm0, hlt⟩
      rw [if_neg hm0, if_pos hq]
      have key : s * 9223372036854775808 + 9218868437227405312 + (m * 536870912 + 0)
          = s * 9223372036854775808 + 2047 * 4503599627370496 + m * 536870912 := by omega
      have hne : m * 536870912 ≠ 0 := by omega
      rw [key, narrow_fields s 2047 (m * 536870912) hs2 (by omega) (by omega), if_pos rfl, if_neg hne]
      clear key
      omega
  · simp only [he255, if_false]
    by_cases he0 : e = 0
    · simp only [he0, if_true]
      by_cases hm0 : m = 0
      · rw [if_pos hm0]
        have key : s * 9223372036854775808 = s * 9223372036854775808 + 0 * 4503599627370496 + 0 := by omega
        rw [key, narrow_fields s 0 0 hs2 (by omega) (by omega), if_neg (by decide), if_neg (by decide),
          if_neg (by decide)]
        clear key
        omega
      · -- subnormals: normalised in f64
        simp only [hm0, if_false]
        have hk1 : 2 ^ m.log2 ≤ m := Nat.log2_self_le hm0
        have hk2 : m < 2 ^ (m.log2 + 1) := Nat.lt_log2_self
        generalize hkg : m.log2 = k at hk1 hk2
        have hk : k < 23 := by
          have : 2 ^ k < 2 ^ 23 := Nat.lt_of_le_of_lt hk1 (by simpa using hm2)
          exact (Nat.pow_lt_pow_iff_right (by decide)).mp this
        have hsplit : 2 ^ k * 2 ^ (52 - k) = 4503599627370496 := by
          rw [← Nat.pow_add]
          have : k + (52 - k) = 52 := by omega
          rw [this]
        have hlo : 4503599627370496 ≤ m * 2 ^ (52 - k) := by
          rw [← hsplit]
          exact Nat.mul_le_mul_right _ hk1
        have hhi : m * 2 ^ (52 - k) < 9007199254740992 := by
          have h2 : 2 ^ (k + 1) * 2 ^ (52 - k) = 9007199254740992 := by
            rw [Nat.pow_succ, Nat.mul_right_comm, hsplit]
          rw [← h2]
          exact Nat.mul_lt_mul_of_pos_right hk2 (Nat.pow_pos (by decide))
        have := narrow_fields s (874 + k) (m * 2 ^ (52 - k) - 4503599627370496) hs2 (by omega) (by omega)
        rw [this]
        have c1 : ¬ (874 + k = 2047) := by omega
        have c2 : ¬ (897 ≤ 874 + k) := by omega
        have c3 : 873 ≤ 874 + k := by omega
        simp only [c1, c2, c3, if_false, if_true]
        have hM : 4503599627370496 + (m * 2 ^ (52 - k) - 4503599627370496) = m * 2 ^ (52 - k) := by omega
        have hsh : 29 + (897 - (874 + k)) = 52 - k := by omega
        rw [hM, hsh, rne_exact]
        omega
    · -- normal numbers
      simp only [he0, if_false]
      have := narrow_fields s (e + 896) (m * 536870912) hs2 (by omega) (by omega)
      rw [this]
      have c1 : ¬ (e + 896 = 2047) := by omega
      have c2 : 897 ≤ e + 896 := by omega
      simp only [c1, c2, if_false, if_true]
      have hx : 4503599627370496 + m * 536870912 = (8388608 + m) * 2 ^ 29 := by
        have : (2 : Nat) ^ 29 = 536870912 := by decide
        rw [this]
        omega
      rw [hx, rne_exact]
      have hmin : Nat.min ((e + 896 - 897) * 8388608 + (8388608 + m)) 2139095040
          = (e + 896 - 897) * 8388608 + (8388608 + m) := by
        apply Nat.min_eq_left
        omega
      rw [hmin]
      omega

end MJ.Serde
