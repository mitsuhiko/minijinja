import MJ.Model.OutputEmit
import MJ.Proofs.Output
/-!
# The `Emit` layer and `Interrupted` (C19)

`HtmlEscape::fmt` writes the byte-wise escaped text, in non-empty pieces (`htmlPieces_flatten`,
`htmlPiecesAux_nonempty`).  Deleting the `Interrupted` answers from a script changes neither the
error of a `write_all` nor the bytes it delivers, and leaves the rest of the script without them
(`writeAll_dropInterrupts`); so the adapter over the shortened script stays `SameButInterrupts`
with the one over the full script, and reports the same, through every `fmt::Write` call and
chunk sequence (`put_dropInterrupts`, `feed_dropInterrupts`).
-/
namespace MJ.Output
open MJ

theorem htmlEscape_cons (b : UInt8) (s : Bytes) :
    htmlEscape (b :: s) = (htmlQuote b).getD [b] ++ htmlEscape s := rfl

/-- the pending run of ordinary bytes as `HtmlEscape::fmt` writes it out: only if it is non-empty -/
theorem flush_flatten (pending : Bytes) :
    (if pending = [] then [] else [pending] : List Bytes).flatten = pending := by
  split
  · next h => rw [h]; rfl
  · exact List.append_nil _

theorem flush_nonempty (pending : Bytes) :
    ∀ p ∈ (if pending = [] then [] else [pending] : List Bytes), p ≠ [] := by
  split
  · exact fun _ h => nomatch h
  · next h => intro p hp; rw [List.mem_singleton.1 hp]; exact h

theorem htmlPiecesAux_flatten (pending s : Bytes) :
    (htmlPiecesAux pending s).flatten = pending ++ htmlEscape s := by
  induction s generalizing pending with
  | nil => exact (flush_flatten pending).trans (List.append_nil _).symm
  | cons b rest ih =>
    rw [htmlPiecesAux, htmlEscape_cons]
    cases htmlQuote b with
    | none => exact (ih _).trans (List.append_assoc ..)
    | some q =>
      show ((if pending = [] then [] else [pending]) ++ q :: htmlPiecesAux [] rest).flatten = _
      rw [List.flatten_append, flush_flatten, List.flatten_cons, ih]
      rfl

theorem htmlPieces_flatten (s : Bytes) : (htmlPieces s).flatten = htmlEscape s :=
  htmlPiecesAux_flatten [] s

theorem htmlTable_nonempty : ∀ r ∈ MJ.Gen.htmlEscapeTable, r.2.toUTF8.toList ≠ [] := by decide +kernel

theorem htmlQuote_nonempty {b : UInt8} {q : Bytes} (h : htmlQuote b = some q) : q ≠ [] := by
  unfold htmlQuote at h
  split at h
  · cases hf : MJ.Gen.htmlEscapeTable.find? (fun r => r.1.toNat = b.toNat) with
    | none => rw [hf] at h; cases h
    | some r =>
      rw [hf] at h
      cases h
      exact htmlTable_nonempty r (List.mem_of_find?_eq_some hf)
  · cases h

theorem htmlPiecesAux_nonempty (pending s : Bytes) : ∀ p ∈ htmlPiecesAux pending s, p ≠ [] := by
  induction s generalizing pending with
  | nil => exact flush_nonempty pending
  | cons b rest ih =>
    rw [htmlPiecesAux]
    cases hq : htmlQuote b with
    | none => exact ih _
    | some q =>
      intro p hp
      rcases List.mem_append.1 hp with hp | hp
      · exact flush_nonempty pending p hp
      · rcases List.mem_cons.1 hp with rfl | hp
        · exact htmlQuote_nonempty hq
        · exact ih _ p hp

theorem htmlEscape_of_not_needs (s : Bytes) (h : needsHtmlEscaping s = false) : htmlEscape s = s := by
  induction s with
  | nil => rfl
  | cons b rest ih =>
    rw [needsHtmlEscaping, List.any_cons, Bool.or_eq_false_iff] at h
    have hb : htmlQuote b = none := Option.isSome_eq_false_iff.1 h.1 |> Option.isNone_iff_eq_none.1
    rw [htmlEscape_cons, hb, ih h.2]
    rfl

theorem run_writes_string (cs : List Chunk) (b : Bytes) (ws : List Wrap) :
    run (cs.map Op.write) (⟨⟨b, []⟩, ws⟩ : St Bytes) = (⟨⟨b ++ flat cs, []⟩, ws⟩, .ok (.ok ())) := by
  induction cs generalizing b with
  | nil => rw [flat_nil, List.append_nil]; rfl
  | cons c cs ih =>
    have hst : step (.write c) (⟨⟨b, []⟩, ws⟩ : St Bytes) = (⟨⟨b ++ c.bytes, []⟩, ws⟩, none) := by
      rw [step_base_write, put_string]; rfl
    rw [List.map_cons, run_cons_go hst, ih, flat_cons, List.append_assoc]

theorem renderString_strs (ps : List Bytes) :
    renderString (ps.map strOp) = ⟨ps.flatten, .ok (.ok ())⟩ := by
  have h := run_writes_string (ps.map Chunk.str) [] []
  rw [List.map_map] at h
  have hf : flat (ps.map Chunk.str) = ps.flatten := by
    rw [flat, List.map_map]; exact congrArg List.flatten (List.map_id' ps)
  rw [renderString, St.init, show ps.map strOp = ps.map (Op.write ∘ Chunk.str) from rfl, h, hf]
  rfl

def Beh.isInterrupt : Beh → Bool
  | .err e => e.kind == .interrupted
  | _ => false

/-- the script without its `Interrupted` answers -/
def dropInterrupts (script : List Beh) : List Beh := script.filter fun b => !b.isInterrupt

theorem Beh.isInterrupt_call {beh : Beh} (h : beh.isInterrupt = true) (buf : Bytes) :
    (⟨buf, beh.apply buf⟩ : Call).failure = none ∧ (⟨buf, beh.apply buf⟩ : Call).accepted = [] := by
  cases beh with
  | err e =>
    have hk : e.kind = .interrupted := by simpa [Beh.isInterrupt] using h
    exact ⟨by simp [Beh.apply, Call.failure, hk], rfl⟩
  | _ => cases h

theorem writeAll_dropInterrupts (script : List Beh) (buf : Bytes) :
    (writeAll (dropInterrupts script) buf).rest = dropInterrupts (writeAll script buf).rest ∧
    (writeAll (dropInterrupts script) buf).err = (writeAll script buf).err ∧
    delivered (writeAll (dropInterrupts script) buf).calls = delivered (writeAll script buf).calls := by
  induction script generalizing buf with
  | nil => exact ⟨by cases buf <;> rfl, rfl, rfl⟩
  | cons beh rest ih =>
    by_cases hb : buf = []
    · subst hb
      rw [writeAll_nil_buf, writeAll_nil_buf]
      exact ⟨rfl, rfl, rfl⟩
    · cases hi : beh.isInterrupt with
      | true =>
        obtain ⟨hf, ha⟩ := Beh.isInterrupt_call hi buf
        obtain ⟨a, b, c⟩ := ih buf
        have hd : dropInterrupts (beh :: rest) = dropInterrupts rest := by
          simp [dropInterrupts, hi]
        rw [hd, writeAll_cons beh rest hb, hf, ha]
        exact ⟨a, b, by rw [delivered_cons, ha]; exact c⟩
      | false =>
        have hd : dropInterrupts (beh :: rest) = beh :: dropInterrupts rest := by
          simp [dropInterrupts, hi]
        rw [hd, writeAll_cons beh _ hb, writeAll_cons beh rest hb]
        cases (⟨buf, beh.apply buf⟩ : Call).failure with
        | some e => exact ⟨rfl, rfl, rfl⟩
        | none =>
          obtain ⟨a, b, c⟩ := ih (buf.drop (⟨buf, beh.apply buf⟩ : Call).accepted.length)
          exact ⟨a, b, by rw [delivered_cons, delivered_cons, c]⟩

/-- `w'` is `w` over the interrupt-free script; the logs differ by the `Interrupted` calls, so
    they are compared by what was delivered -/
def SameButInterrupts (w' w : WriteWrapper) : Prop :=
  w'.script = dropInterrupts w.script ∧ w'.err = w.err ∧ delivered w'.calls = delivered w.calls

theorem put_dropInterrupts {w' w : WriteWrapper} (h : SameButInterrupts w' w) (c : Chunk) :
    (put w' c).2 = (put w c).2 ∧ SameButInterrupts (put w' c).1 (put w c).1 := by
  obtain ⟨hs, he, hd⟩ := h
  cases hwe : w.err with
  | some e =>
    rw [put_poisoned hwe, put_poisoned (he.trans hwe)]
    exact ⟨rfl, hs, he, hd⟩
  | none =>
    obtain ⟨a, b, d⟩ := writeAll_dropInterrupts w.script c.bytes
    rw [put_of_none hwe, put_of_none (he.trans hwe), hs, b]
    exact ⟨rfl, a, rfl, by rw [delivered_append, delivered_append, hd, d]⟩

theorem feed_dropInterrupts (cs : List Chunk) {w' w : WriteWrapper} (h : SameButInterrupts w' w) :
    (feed w' cs).2 = (feed w cs).2 ∧ SameButInterrupts (feed w' cs).1 (feed w cs).1 := by
  induction cs generalizing w w' with
  | nil => exact ⟨rfl, h⟩
  | cons c cs ih =>
    obtain ⟨hb, hs⟩ := put_dropInterrupts h c
    cases hok : (put w c).2 with
    | true => rw [feed_cons_ok (hb.trans hok), feed_cons_ok hok]; exact ih hs
    | false => rw [feed_cons_fail (hb.trans hok), feed_cons_fail hok]; exact ⟨rfl, hs⟩

end MJ.Output
