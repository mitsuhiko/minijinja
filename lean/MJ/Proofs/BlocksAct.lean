import MJ.Model.BlocksAct
/-!
# The caches of an activation (`MJ.Model.BlocksAct`)

`Coherent c s` holds of the empty cache and is kept by every use, which then answers as the stream
does; a wipe at the switch makes it hold for the parent's stream.  So a cache that is always wiped
behaves as no cache: `run_eq_spec_of_coherent`, and `run2_eq_spec` with suspended callers.
-/
namespace MJ.BlocksAct

/-- every filled slot holds the name the stream gives that id -/
def Coherent (c : Cache) (s : Stream) : Prop := ∀ i n, c i = some n → s[i]? = some n

theorem coherent_empty (s : Stream) : Coherent Cache.empty s := by
  intro i n h; simp [Cache.empty] at h

theorem useId_fst {c : Cache} {s : Stream} (h : Coherent c s) (i : Nat) :
    (useId s c i).1 = s[i]? := by
  unfold useId
  cases hc : c i with
  | some n => simp [h i n hc]
  | none =>
    cases hs : s[i]? with
    | some n => simp
    | none => simp

theorem useId_coherent {c : Cache} {s : Stream} (h : Coherent c s) (i : Nat) :
    Coherent (useId s c i).2 s := by
  unfold useId
  cases hc : c i with
  | some n => simpa using h
  | none =>
    cases hs : s[i]? with
    | none => simpa using h
    | some n =>
      intro j m hj
      simp only [Cache.set] at hj
      by_cases e : j = i
      · subst e; simp at hj; subst hj; exact hs
      · simp [e] at hj; exact h j m hj

theorem run_eq_spec_of_coherent (wipe : Cache → Bool) (hw : ∀ c, wipe c = true) :
    ∀ (evs : List Ev) (s : Stream) (c : Cache), Coherent c s → run wipe s c evs = runSpec s evs
  | [], _, _, _ => rfl
  | .use i :: rest, s, c, h => by
    simp only [run, runSpec]
    rw [useId_fst h, run_eq_spec_of_coherent wipe hw rest s _ (useId_coherent h i)]
  | .switch p :: rest, s, c, h => by
    simp only [run, runSpec, hw c, if_true]
    exact run_eq_spec_of_coherent wipe hw rest p _ (coherent_empty p)

theorem run2_eq_spec (wipe : Cache → Bool) (hw : ∀ c, wipe c = true) :
    ∀ (evs : List Ev2) (s : Stream) (c : Cache) (stk : List (Stream × Cache)),
      Coherent c s → (∀ e ∈ stk, Coherent e.2 e.1) →
      run2 wipe s c stk evs = runSpec2 s (stk.map (·.1)) evs
  | [], _, _, _, _, _ => by simp [run2, runSpec2]
  | .use i :: rest, s, c, stk, h, hs => by
    simp only [run2, runSpec2]
    rw [useId_fst h, run2_eq_spec wipe hw rest s _ stk (useId_coherent h i) hs]
  | .switch p :: rest, s, c, stk, h, hs => by
    simp only [run2, runSpec2, hw c, if_true]
    exact run2_eq_spec wipe hw rest p _ stk (coherent_empty p) hs
  | .call s' :: rest, s, c, stk, h, hs => by
    simp only [run2, runSpec2]
    have := run2_eq_spec wipe hw rest s' Cache.empty ((s, c) :: stk) (coherent_empty s')
      (by intro e he; cases he with
          | head => exact h
          | tail _ h' => exact hs e h')
    simpa using this
  | .ret :: rest, s, c, [], h, hs => by
    simp only [run2, runSpec2, List.map_nil]
    exact run2_eq_spec wipe hw rest s c [] h hs
  | .ret :: rest, s, c, (s0, c0) :: stk, h, hs => by
    simp only [run2, runSpec2, List.map_cons]
    exact run2_eq_spec wipe hw rest s0 c0 stk (hs (s0, c0) (by simp)) (fun e he => hs e (by simp [he]))

end MJ.BlocksAct
