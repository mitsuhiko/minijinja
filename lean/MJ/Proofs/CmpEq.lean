import MJ.Proofs.CmpKey
/-!
# `==` ⇔ `cmp = Equal` and `==` ⇒ equal hash keys (BTreeMap-backed maps)

The structural part, parametric in what is known about numbers (`NumSpec`, `EqSpec`, `HashSpec` on
the numbers satisfying `P`).  Values that compare `Equal` feed the hasher the same items
(`hkey_of_cmp_eq`: the hash is a function of the key), and `==` is `Equal` (`eq_iff_cmp`) outside two
regions, excluded by explicit decidable hypotheses:

* `noClash a b`: not (a bool somewhere in one value and a number somewhere in the other) — the
  engine's `true == 1` is `true` while `cmp` and `Hash` keep them apart;
* `allV mapSorted v`: every map inside `v` holds its keys in strictly increasing `cmpV` order, which
  is how a `BTreeMap<Value, _>` holds them.

Two maps are `==` when they have the same number of entries and every entry of the first is found in
the second.  That this lines the entries up one to one is seen in the key type, where the order is
linear (`Equal` keys are the same token list): the two strictly increasing key lists are then one
list (`sorted_eq_of_subset`).
-/
namespace MJ.CmpEq
open MJ MJ.Val MJ.Cmp MJ.CmpKey Std

/-- pointwise relation between two lists of the same length -/
inductive All2 {α β : Type} (R : α → β → Prop) : List α → List β → Prop where
  | nil : All2 R [] []
  | cons {x y xs ys} : R x y → All2 R xs ys → All2 R (x :: xs) (y :: ys)

theorem All2.length {α β : Type} {R : α → β → Prop} {xs : List α} {ys : List β} (h : All2 R xs ys) :
    xs.length = ys.length := by
  induction h with
  | nil => rfl
  | cons _ _ ih => simp [ih]

theorem All2.imp_mem {α β : Type} {R S : α → β → Prop} {xs : List α} {ys : List β} (h : All2 R xs ys)
    (f : ∀ x ∈ xs, ∀ y ∈ ys, R x y → S x y) : All2 S xs ys := by
  induction h with
  | nil => exact .nil
  | cons hr _ ih =>
    refine .cons (f _ List.mem_cons_self _ List.mem_cons_self hr) (ih ?_)
    intro x hx y hy
    exact f x (List.mem_cons_of_mem _ hx) y (List.mem_cons_of_mem _ hy)

theorem All2.flip {α β : Type} {R : α → β → Prop} {xs : List α} {ys : List β} (h : All2 R xs ys) :
    All2 (fun y x => R x y) ys xs := by
  induction h with
  | nil => exact .nil
  | cons hr _ ih => exact .cons hr ih

theorem All2.map_left {α β γ : Type} {R : γ → β → Prop} (f : α → γ) {xs : List α} {ys : List β}
    (h : All2 (fun x y => R (f x) y) xs ys) : All2 R (xs.map f) ys := by
  induction h with
  | nil => exact .nil
  | cons hr _ ih => exact .cons hr ih

theorem All2.of_map {α β γ δ : Type} {R : γ → δ → Prop} (f : α → γ) (g : β → δ) :
    ∀ {xs : List α} {ys : List β}, All2 R (xs.map f) (ys.map g) → All2 (fun x y => R (f x) (g y)) xs ys
  | [], [], _ => .nil
  | [], _ :: _, h => by cases h
  | _ :: _, [], h => by cases h
  | _ :: _, _ :: _, h => by
    cases h with
    | cons hr ht => exact .cons hr (All2.of_map f g ht)

theorem All2.exists_right {α β : Type} {R : α → β → Prop} {xs : List α} {ys : List β}
    (h : All2 R xs ys) : ∀ x ∈ xs, ∃ y ∈ ys, R x y := by
  induction h with
  | nil => intro x hx; simp at hx
  | cons hr _ ih =>
    intro x hx
    rcases List.mem_cons.mp hx with rfl | hx
    · exact ⟨_, List.mem_cons_self, hr⟩
    · obtain ⟨y, hy, hxy⟩ := ih x hx
      exact ⟨y, List.mem_cons_of_mem _ hy, hxy⟩

theorem All2.iff_mem {α β : Type} {R S : α → β → Prop} {xs : List α} {ys : List β}
    (f : ∀ x ∈ xs, ∀ y ∈ ys, (R x y ↔ S x y)) : All2 R xs ys ↔ All2 S xs ys :=
  ⟨fun h => h.imp_mem fun x hx y hy => (f x hx y hy).mp, fun h => h.imp_mem fun x hx y hy => (f x hx y hy).mpr⟩

theorem All2.refl {α : Type} : ∀ l : List α, All2 Eq l l
  | [] => .nil
  | _ :: l => .cons rfl (All2.refl l)

theorem All2.of_map_eq {α β γ : Type} {f : α → γ} {g : β → γ} {xs : List α} {ys : List β}
    (h : xs.map f = ys.map g) : All2 (fun x y => f x = g y) xs ys :=
  All2.of_map f g (h ▸ All2.refl _)

section
variable {α β : Type} {R : α → β → Prop} {x : α} {xs : List α} {y : β} {ys : List β}
@[simp] theorem All2.nil_iff : All2 R [] [] ↔ True := ⟨fun _ => trivial, fun _ => .nil⟩
@[simp] theorem All2.nil_cons : All2 R [] (y :: ys) ↔ False := ⟨fun h => (nomatch h), False.elim⟩
@[simp] theorem All2.cons_nil : All2 R (x :: xs) [] ↔ False := ⟨fun h => (nomatch h), False.elim⟩
@[simp] theorem All2.cons_iff : All2 R (x :: xs) (y :: ys) ↔ R x y ∧ All2 R xs ys :=
  ⟨fun | .cons h t => ⟨h, t⟩, fun ⟨h, t⟩ => .cons h t⟩
end

theorem eqL_iff (m : Mode) (xs ys : List V) :
    eqL m xs ys = true ↔ All2 (fun x y => eqV m x y = true) xs ys := by
  induction xs generalizing ys <;> cases ys <;> simp_all [eqL]

theorem cmpL_eq_iff (xs ys : List V) : cmpL xs ys = .eq ↔ All2 (fun x y => cmpV x y = .eq) xs ys := by
  induction xs generalizing ys <;> cases ys <;> simp_all [cmpL, Ordering.then_eq_eq]

theorem cmpPL_eq_iff (ps qs : List (V × V)) : cmpPL ps qs = .eq ↔
    All2 (fun p q => cmpV p.1 q.1 = .eq ∧ cmpV p.2 q.2 = .eq) ps qs := by
  induction ps generalizing qs <;> cases qs <;> simp_all [cmpPL, Ordering.then_eq_eq, and_assoc]

section
variable {β : Type} (cmp : β → β → Ordering) [TransCmp cmp]

theorem nodup_of_sorted {ks : List β} (hk : ks.Pairwise (fun a b => cmp a b = .lt)) : ks.Nodup :=
  hk.imp fun {a b} h e => by rw [e, ReflCmp.compare_self (cmp := cmp)] at h; cases h

theorem sorted_eq_of_subset {ks ls : List β} (hk : ks.Pairwise (fun a b => cmp a b = .lt))
    (hl : ls.Pairwise (fun a b => cmp a b = .lt)) (hsub : ks ⊆ ls) (hlen : ks.length = ls.length) :
    ks = ls := by
  classical
  have nk := nodup_of_sorted cmp hk
  have nl := nodup_of_sorted cmp hl
  -- pigeonhole: a member of `ls` missing from `ks` would leave `ks` inside a shorter list
  have hsup : ls ⊆ ks := by
    intro b hb
    apply Classical.byContradiction
    intro hnb
    have h1 : ks ⊆ ls.erase b := fun a ha =>
      (List.mem_erase_of_ne (fun e : a = b => hnb (e ▸ ha))).mpr (hsub ha)
    have h2 := nk.length_le_of_subset h1
    rw [List.length_erase_of_mem hb] at h2
    have := List.length_pos_of_mem hb
    omega
  refine List.Perm.eq_of_pairwise (le := fun a b => cmp a b = .lt) (fun a b _ _ h1 h2 => ?_) hk hl
    ((List.perm_ext_iff_of_nodup nk nl).mpr fun a => ⟨fun h => hsub h, fun h => hsup h⟩)
  rw [OrientedCmp.gt_of_lt h1] at h2; cases h2

end

mutual
/-- `q` holds for the value and everything nested inside it -/
def allV (q : V → Bool) : V → Bool
  | .seq xs => q (.seq xs) && allL q xs
  | .tuple xs => q (.tuple xs) && allL q xs
  | .iter xs => q (.iter xs) && allL q xs
  | .map ps => q (.map ps) && allPL q ps
  | .undef => q .undef
  | .none => q .none
  | .bool b => q (.bool b)
  | .num n => q (.num n)
  | .str s => q (.str s)
  | .bytes s => q (.bytes s)
  | .plain s => q (.plain s)
def allL (q : V → Bool) : List V → Bool
  | [] => true
  | x :: xs => allV q x && allL q xs
def allPL (q : V → Bool) : List (V × V) → Bool
  | [] => true
  | (k, v) :: ps => allV q k && allV q v && allPL q ps
end

def notBool : V → Bool
  | .bool _ => false
  | _ => true
def notNum : V → Bool
  | .num _ => false
  | _ => true
/-- the keys of a map are strictly increasing (`BTreeMap` iteration order) -/
def mapSorted : V → Bool
  | .map ps => decide ((ps.map (·.1)).Pairwise (fun a b => cmpV a b = .lt))
  | _ => true

/-- no bool in one value facing a number in the other -/
def noClash (a b : V) : Bool :=
  (allV notBool a || allV notNum b) && (allV notNum a || allV notBool b)

theorem noClash_symm {a b : V} (h : noClash a b = true) : noClash b a = true := by
  unfold noClash at *
  simp only [Bool.and_eq_true, Bool.or_eq_true] at *
  exact ⟨h.2.symm, h.1.symm⟩

theorem allL_mem {q : V → Bool} {xs : List V} (h : allL q xs = true) : ∀ x ∈ xs, allV q x = true := by
  induction xs <;> simp_all [allL]

theorem allPL_mem {q : V → Bool} {ps : List (V × V)} (h : allPL q ps = true) :
    ∀ p ∈ ps, allV q p.1 = true ∧ allV q p.2 = true := by
  induction ps <;> simp_all [allPL] <;> assumption

theorem AllNumL_mem {P : N → Prop} {xs : List V} (h : AllNumL P xs) : ∀ x ∈ xs, AllNum P x := by
  induction xs <;> simp_all [AllNumL]

theorem AllNumPL_mem {P : N → Prop} {ps : List (V × V)} (h : AllNumPL P ps) :
    ∀ p ∈ ps, AllNum P p.1 ∧ AllNum P p.2 := by
  induction ps <;> simp_all [AllNumPL] <;> assumption

/-- on numbers satisfying `P`: `==` exactly when the order says `Equal` -/
def EqSpec (P : N → Prop) : Prop := ∀ x y : N, P x → P y → (eqN x y = true ↔ cmpN x y = .eq)
/-- on numbers satisfying `P`: `==` numbers feed the same item to the hasher -/
def HashSpec (P : N → Prop) : Prop := ∀ x y : N, P x → P y → eqN x y = true → hkeyN x = hkeyN y

theorem cmpV_eq_cls {a b : V} (h : cmpV a b = .eq) : cls a = cls b := by
  apply cls_eq_of_rank_eq
  by_cases hr : a.rank = b.rank
  · exact hr
  · rw [cmpV_of_rank_ne hr] at h
    exact absurd (Nat.compare_eq_eq.mp h) hr

theorem eqV_cls {m : Mode} {a b : V} (h : eqV m a b = true) (nc : noClash a b = true) : cls a = cls b := by
  rw [eqV.eq_def] at h
  split at h <;> first | rfl | cases h | simp [noClash, allV, notBool, notNum] at nc

theorem rank_eq_of_cls {a b : V} (h : cls a = cls b) : a.rank = b.rank := by
  rw [rank_cls, rank_cls, h]

theorem cmpBytes_eq_iff (x y : List Nat) : cmpBytes x y = .eq ↔ x = y := by
  unfold cmpBytes
  exact LawfulEqCmp.compare_eq_iff_eq

theorem eqAll_btree_iff : ∀ (ps qs : List (V × V)), eqAll .btree ps qs = true ↔
    ∀ p ∈ ps, findB .btree p.1 p.2 qs = true
  | [], qs => by simp [eqAll]
  | (k, v) :: ps, qs => by
    rw [eqAll]; simp only [Bool.and_eq_true, List.mem_cons, forall_eq_or_imp]
    rw [eqAll_btree_iff ps qs]

section hash
variable {P : N → Prop} (hE : EqSpec P) (hH : HashSpec P)
include hE hH

mutual
theorem hkey_of_cmp_eq (a b : V) (ha : AllNum P a) (hb : AllNum P b) (h : cmpV a b = .eq) :
    hkey a = hkey b := by
  cases sameCls_of (cmpV_eq_cls h) <;>
    simp only [cmpV, rank_cls, cls, ne_eq, not_true_eq_false, if_false, reduceCtorEq, AllNum, hkey] at h ha hb ⊢
  case bool x y => revert h; cases x <;> cases y <;> decide
  case num x y => rw [hH x y ha hb ((hE x y ha hb).mpr h)]
  case str x y | bytes x y => rw [(cmpBytes_eq_iff x y).mp h]
  case seq_seq xs ys | seq_iter xs ys | iter_seq xs ys | iter_iter xs ys | tuple_tuple xs ys =>
    rw [hkeyL_of_cmp_eq xs ys ha hb h 0]
  case map ps qs => rw [hkeyPL_of_cmp_eq ps qs ha hb h]
  all_goals first | rfl | cases h

theorem hkeyL_of_cmp_eq (xs ys : List V) (ha : AllNumL P xs) (hb : AllNumL P ys) (h : cmpL xs ys = .eq)
    (i : Nat) : hkeyL i xs = hkeyL i ys := by
  cases xs <;> cases ys <;> simp only [cmpL, Ordering.then_eq_eq, reduceCtorEq, AllNumL] at h ha hb
  case nil.nil => rfl
  case cons.cons x xs y ys =>
    rw [hkeyL, hkeyL, hkey_of_cmp_eq x y ha.1 hb.1 h.1, hkeyL_of_cmp_eq xs ys ha.2 hb.2 h.2]

theorem hkeyPL_of_cmp_eq (ps qs : List (V × V)) (ha : AllNumPL P ps) (hb : AllNumPL P qs)
    (h : cmpPL ps qs = .eq) : hkeyPL ps = hkeyPL qs := by
  cases ps <;> cases qs <;> simp only [cmpPL, Ordering.then_eq_eq, reduceCtorEq, AllNumPL] at h ha hb
  case nil.nil => rfl
  case cons.cons p ps q qs =>
    rw [hkeyPL, hkeyPL, hkey_of_cmp_eq p.1 q.1 ha.1 hb.1 h.1.1, hkey_of_cmp_eq p.2 q.2 ha.2.1 hb.2.1 h.1.2,
      hkeyPL_of_cmp_eq ps qs ha.2.2 hb.2.2 h.2]
end

end hash

section main
variable {P : N → Prop}

/-- the hypotheses on a pair of values (all inherited by corresponding sub-values) -/
structure Hyp (P : N → Prop) (a b : V) : Prop where
  na : AllNum P a
  nb : AllNum P b
  sa : allV mapSorted a = true
  sb : allV mapSorted b = true
  nc : noClash a b = true

theorem Hyp.symm {a b : V} (h : Hyp P a b) : Hyp P b a :=
  ⟨h.nb, h.na, h.sb, h.sa, noClash_symm h.nc⟩

theorem rank_seq_iter (xs ys : List V) : (V.seq xs).rank = (V.iter ys).rank := rank_eq_of_cls rfl
theorem rank_seq_tuple (xs ys : List V) : (V.seq xs).rank = (V.tuple ys).rank := rank_eq_of_cls rfl
theorem rank_iter_tuple (xs ys : List V) : (V.iter xs).rank = (V.tuple ys).rank := rank_eq_of_cls rfl

theorem sizeOf_pair_mem_lt {p : V × V} {ps : List (V × V)} (h : p ∈ ps) :
    sizeOf p.1 < sizeOf ps ∧ sizeOf p.2 < sizeOf ps := by
  have := List.sizeOf_lt_of_mem h
  obtain ⟨k, v⟩ := p
  simp only [Prod.mk.sizeOf_spec] at this
  constructor <;> simp only <;> omega

variable (hN : NumSpec P)
include hN

/-- looking an entry up in a map that holds each key once: the entry with that key decides -/
theorem findB_iff (m : Mode) {k : V} (v1 : V) (hk : AllNum P k) : ∀ (qs : List (V × V)),
    (∀ q ∈ qs, AllNum P q.1) → (∀ q ∈ qs, ∀ q' ∈ qs, key q.1 = key q'.1 → q = q') →
    (findB m k v1 qs = true ↔ ∃ q ∈ qs, key k = key q.1 ∧ eqV m q.2 v1 = true)
  | [], _, _ => by simp [findB]
  | (k', v') :: qs, hq, hu => by
    have ih := findB_iff m v1 hk qs (fun q h => hq q (List.mem_cons_of_mem _ h))
      (fun q h q' h' => hu q (List.mem_cons_of_mem _ h) q' (List.mem_cons_of_mem _ h'))
    rw [findB]
    by_cases h : cmpV k k' = .eq
    · have hk' := (cmpV_eq_iff_key hN hk (hq _ List.mem_cons_self)).mp h
      rw [if_pos h]
      refine ⟨fun he => ⟨_, List.mem_cons_self, hk', he⟩, fun ⟨q, hq', hkq, he⟩ => ?_⟩
      rw [← hu _ List.mem_cons_self q hq' (hk'.symm.trans hkq)] at he; exact he
    · have hk' := mt (cmpV_eq_iff_key hN hk (hq _ List.mem_cons_self)).mpr h
      simp [if_neg h, ih, hk']

/-- `==` on two maps with strictly increasing keys: the entries line up one to one, keys `Equal`
    and values `==` -/
theorem map_eq_iff (ps qs : List (V × V)) (nps : ∀ p ∈ ps, AllNum P p.1) (nqs : ∀ q ∈ qs, AllNum P q.1)
    (sps : (ps.map (·.1)).Pairwise (fun a b => cmpV a b = .lt))
    (sqs : (qs.map (·.1)).Pairwise (fun a b => cmpV a b = .lt)) :
    (ps.length = qs.length ∧ eqAll .btree ps qs = true) ↔
      All2 (fun p q => cmpV p.1 q.1 = .eq ∧ eqV .btree q.2 p.2 = true) ps qs := by
  -- in the key type the order is linear: entries are told apart by their key token lists
  have sk : ∀ {rs : List (V × V)}, (∀ r ∈ rs, AllNum P r.1) → (rs.map (·.1)).Pairwise (fun a b => cmpV a b = .lt) →
      (rs.map (fun r => key r.1)).Pairwise (fun a b => cmpK a b = .lt) := fun hr h =>
    List.pairwise_map.mpr ((List.pairwise_map.mp h).imp_of_mem fun ha hb h =>
      cmpV_eq_cmpK hN _ _ (hr _ ha) (hr _ hb) ▸ h)
  have uq : ∀ q ∈ qs, ∀ q' ∈ qs, key q.1 = key q'.1 → q = q' := by
    have := List.pairwise_map.mp (nodup_of_sorted cmpK (sk nqs sqs))
    exact List.Pairwise.forall_of_forall_of_flip (fun _ _ _ => rfl) (this.imp fun h e => absurd e h)
      (this.imp fun h e => absurd e.symm h)
  have find := fun p (hp : p ∈ ps) => findB_iff hN .btree p.2 (nps p hp) qs nqs uq
  rw [eqAll_btree_iff]
  constructor
  · intro ⟨hlen, hall⟩
    have hk : ps.map (fun r => key r.1) = qs.map (fun r => key r.1) :=
      sorted_eq_of_subset cmpK (sk nps sps) (sk nqs sqs) (fun k hk => by
        obtain ⟨p, hp, rfl⟩ := List.mem_map.mp hk
        obtain ⟨q, hq, e, _⟩ := (find p hp).mp (hall p hp)
        exact List.mem_map.mpr ⟨q, hq, e.symm⟩) (by simpa using hlen)
    refine (All2.of_map_eq hk).imp_mem fun p hp q hq e => ?_
    obtain ⟨q', hq', e', he⟩ := (find p hp).mp (hall p hp)
    rw [← uq q hq q' hq' (e.symm.trans e')] at he
    exact ⟨(cmpV_eq_iff_key hN (nps p hp) (nqs q hq)).mpr e, he⟩
  · intro h
    refine ⟨h.length, fun p hp => (find p hp).mpr ?_⟩
    obtain ⟨q, hq, hk, hv⟩ := h.exists_right p hp
    exact ⟨q, hq, (cmpV_eq_iff_key hN (nps p hp) (nqs q hq)).mp hk, hv⟩

variable (hE : EqSpec P)
include hE

theorem eq_iff_cmp (a b : V) (hyp : Hyp P a b) : eqV .btree a b = true ↔ cmpV a b = .eq := by
  generalize hn : sizeOf a + sizeOf b = n
  induction n using Nat.strongRecOn generalizing a b with
  | ind n ih =>
    by_cases hc : cls a = cls b
    case neg => exact ⟨fun he => absurd (eqV_cls he hyp.nc) hc, fun h => absurd (cmpV_eq_cls h) hc⟩
    case pos =>
      obtain ⟨na, nb, sa, sb, nc⟩ := hyp
      unfold noClash at nc
      simp only [Bool.and_eq_true, Bool.or_eq_true] at nc
      cases sameCls_of hc <;>
        simp only [eqV, cmpV, rank_cls, cls, ne_eq, not_true_eq_false, if_false, reduceCtorEq, AllNum, allV,
          Bool.and_eq_true, mapSorted, decide_eq_true_eq] at na nb sa sb nc ⊢
      case bool x y => cases x <;> cases y <;> decide
      case num x y => exact hE x y na nb
      case str x y | bytes x y | plain x y => rw [beq_iff_eq, cmpBytes_eq_iff]
      case seq_seq xs ys | seq_iter xs ys | iter_seq xs ys | iter_iter xs ys | tuple_tuple xs ys =>
        rw [eqL_iff, cmpL_eq_iff]
        refine All2.iff_mem fun x hx y hy => ih _ (by
          have := List.sizeOf_lt_of_mem hx; have := List.sizeOf_lt_of_mem hy; simp at hn; omega) x y ?_ rfl
        refine ⟨AllNumL_mem na x hx, AllNumL_mem nb y hy, allL_mem sa.2 x hx, allL_mem sb.2 y hy, ?_⟩
        unfold noClash
        simp only [Bool.and_eq_true, Bool.or_eq_true]
        exact ⟨nc.1.imp (fun h => allL_mem h.2 x hx) (fun h => allL_mem h.2 y hy),
               nc.2.imp (fun h => allL_mem h.2 x hx) (fun h => allL_mem h.2 y hy)⟩
      case map ps qs =>
        have e : (if ps.length = qs.length then eqAll .btree ps qs else false) = true ↔
            ps.length = qs.length ∧ eqAll .btree ps qs = true := by
          by_cases hl : ps.length = qs.length <;> simp [hl]
        rw [ite_not, e, map_eq_iff hN ps qs (fun p hp => (AllNumPL_mem na p hp).1)
          (fun q hq => (AllNumPL_mem nb q hq).1) sa.1 sb.1, cmpPL_eq_iff]
        refine All2.iff_mem fun p hp q hq => and_congr_right fun _ => ?_
        have np := (AllNumPL_mem na p hp).2
        have nq := (AllNumPL_mem nb q hq).2
        -- the values are compared with the sides exchanged; `Equal` does not mind
        refine (ih _ (by
          have := sizeOf_pair_mem_lt hp; have := sizeOf_pair_mem_lt hq; simp at hn; omega) q.2 p.2 ?_ rfl).trans
          (cmpV_eq_comm hN nq np)
        refine ⟨nq, np, (allPL_mem sb.2 q hq).2, (allPL_mem sa.2 p hp).2, ?_⟩
        unfold noClash
        simp only [Bool.and_eq_true, Bool.or_eq_true]
        exact ⟨nc.2.symm.imp (fun h => (allPL_mem h.2 q hq).2) (fun h => (allPL_mem h.2 p hp).2),
               nc.1.symm.imp (fun h => (allPL_mem h.2 q hq).2) (fun h => (allPL_mem h.2 p hp).2)⟩

variable (hH : HashSpec P)
include hH

/-- `==` is `Equal`, and `==` values feed the hasher the same items -/
theorem eq_main (a b : V) (hyp : Hyp P a b) :
    (eqV .btree a b = true ↔ cmpV a b = .eq) ∧ (eqV .btree a b = true → hkey a = hkey b) :=
  ⟨eq_iff_cmp hN hE a b hyp, fun h => hkey_of_cmp_eq hE hH a b hyp.na hyp.nb ((eq_iff_cmp hN hE a b hyp).mp h)⟩

end main

end MJ.CmpEq
