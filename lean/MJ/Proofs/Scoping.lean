import MJ.Proofs.StmtRel
/-!
# The core fragment of the refinement theorem (C03): static conditions

`wfBlock M P A inLoop prog` is the decidable description of the programs `vm_refines_eval` is about.
On top of the shape conditions of `coreBlock` (which forms are compiled) it asks for

* **macro names are only called** (`M` = the names declared by `{% macro %}` plus `caller`): a name of
  `M` occurs in expressions only as the head of a call or under `is defined` / `is undefined`, never as
  a value, and is never an assignment target / loop variable / parameter — so the values that flow
  through expressions are plain data and macro values sit in variables only; the hidden `caller`
  keyword is only passed by call blocks;
* **every read is covered** (`P`, `A`): inside a macro body a variable that is read is one of the
  names the macro's closure was built for (`P = some (find_macro_closure …)`) or was certainly
  assigned before in the body (`A`); at template level (`P = none`) nothing is asked.  The same for
  the names a nested declaration / a call block encloses.  This is what `find_macro_closure` is meant to
  guarantee;
* **defaults cannot tell the binding order** (`wfDefault`): a parameter default contains no call and reads
  no parameter (the engine binds back to front, the reference semantics front to back);
* keyword arguments of one call are distinct; parameters are distinct; the `caller` flag of a
  declaration / a call block is the one `find_macro_closure` computes.

The shape conditions are implied (`wf_coreBlock`), so `cBlock_eq_core` applies to these programs.
At template level the names known to be bound play no role (`wfBlock_none`), so the condition on a block
that is run in two parts is the condition on the parts (`wfBlock_append`).
-/
namespace MJ.Compile
open MJ.Eval

/-- may `x` be read here?  `P = none`: template level (every name); `P = some fv`: the names the
enclosing macro encloses, plus `A`, the names certainly bound in the scopes of the body -/
def allowed (P : Option (List String)) (A : List String) (x : String) : Bool :=
  match P with
  | none => true
  | some fv => fv.contains x || A.contains x

mutual
  /-- the names an assignment target binds -/
  def targetNames : Target → List String
    | .var x => [x]
    | .tuple ts => targetsNames ts
  def targetsNames : List Target → List String
    | [] => []
    | t :: ts => targetNames t ++ targetsNames ts
end

def keysOf (args : List (Option String × Expr)) : List String :=
  args.filterMap fun a => a.1

/-- the names a macro encloses (all free names but `caller`) -/
def fvOf (params : List String) (defaults : List Expr) (body : List Stmt) : List String :=
  (findMacroClosure params defaults body).filter (· != "caller")

mutual
  def wfExpr (M : List String) (P : Option (List String)) (A : List String) : Expr → Bool
    | .const _ => true
    | .var x => !M.contains x && allowed P A x
    | .unop _ e => wfExpr M P A e
    | .binop _ l r => wfExpr M P A l && wfExpr M P A r
    | .cmp e ops => decide (2 ≤ ops.length) && wfExpr M P A e && wfChain M P A ops
    | .ife c t none => wfExpr M P A c && wfExpr M P A t
    | .ife c t (some f) => wfExpr M P A c && wfExpr M P A t && wfExpr M P A f
    | .filter _ e args => wfExpr M P A e && wfArgs M P A args
    | .test name e args =>
      -- `m is defined` / `m is undefined` for a macro name `m`: the only use of a macro as a value
      (match e with
        | .var x => M.contains x && (name == "defined" || name == "undefined") && allowed P A x && args.isEmpty
        | _ => false) ||
      (wfExpr M P A e && wfArgs M P A args)
    | .getattr e _ => wfExpr M P A e
    | .getitem e i => wfExpr M P A e && wfExpr M P A i
    | .call (.var x) args =>
      M.contains x && allowed P A x && ((keysOf args).Nodup && !(keysOf args).contains "caller") && wfCallArgs M P A args
    | .call _ _ => false
    | .list items => wfList M P A items
    | .map kvs => wfPairs M P A kvs
  def wfChain (M : List String) (P : Option (List String)) (A : List String) : List (CmpOp × Expr) → Bool
    | [] => true
    | (_, e) :: rest => wfExpr M P A e && wfChain M P A rest
  def wfArgs (M : List String) (P : Option (List String)) (A : List String) : List (Option String × Expr) → Bool
    | [] => true
    | (none, e) :: rest => wfExpr M P A e && wfArgs M P A rest
    | (some _, _) :: _ => false
  def wfCallArgs (M : List String) (P : Option (List String)) (A : List String) : List (Option String × Expr) → Bool
    | [] => true
    | (_, e) :: rest => wfExpr M P A e && wfCallArgs M P A rest
  def wfList (M : List String) (P : Option (List String)) (A : List String) : List Expr → Bool
    | [] => true
    | e :: rest => wfExpr M P A e && wfList M P A rest
  def wfPairs (M : List String) (P : Option (List String)) (A : List String) : List (Expr × Expr) → Bool
    | [] => true
    | (k, v) :: rest => wfExpr M P A k && wfExpr M P A v && wfPairs M P A rest
end

mutual
  /-- `e` contains no call and reads only names of `F` -/
  def readsIn (F : List String) : Expr → Bool
    | .const _ => true
    | .var x => F.contains x
    | .unop _ e => readsIn F e
    | .binop _ l r => readsIn F l && readsIn F r
    | .cmp e ops => readsIn F e && readsInChain F ops
    | .ife c t none => readsIn F c && readsIn F t
    | .ife c t (some f) => readsIn F c && readsIn F t && readsIn F f
    | .filter _ e args => readsIn F e && readsInArgs F args
    | .test _ e args => readsIn F e && readsInArgs F args
    | .getattr e _ => readsIn F e
    | .getitem e i => readsIn F e && readsIn F i
    | .call _ _ => false
    | .list items => readsInList F items
    | .map kvs => readsInPairs F kvs
  def readsInChain (F : List String) : List (CmpOp × Expr) → Bool
    | [] => true
    | (_, e) :: rest => readsIn F e && readsInChain F rest
  def readsInArgs (F : List String) : List (Option String × Expr) → Bool
    | [] => true
    | (_, e) :: rest => readsIn F e && readsInArgs F rest
  def readsInList (F : List String) : List Expr → Bool
    | [] => true
    | e :: rest => readsIn F e && readsInList F rest
  def readsInPairs (F : List String) : List (Expr × Expr) → Bool
    | [] => true
    | (k, v) :: rest => readsIn F k && readsIn F v && readsInPairs F rest
end

/-- a parameter default: no call, reads only enclosed names that are not parameters (the engine binds
the parameters back to front, the reference semantics front to back: such a default cannot tell) -/
def wfDefault (M : List String) (fv params : List String) (d : Expr) : Bool :=
  readsIn (fv.filter fun x => !params.contains x) d && wfExpr M (some fv) [] d

def targetOk (M : List String) (t : Target) : Bool := (targetNames t).all fun x => !M.contains x

/-- the `with` bindings are evaluated one after the other in the new scope -/
def wfBinds (M : List String) (P : Option (List String)) : List String → List (Target × Expr) → Bool
  | _, [] => true
  | A, (t, e) :: rest => targetOk M t && wfExpr M P A e && wfBinds M P (A ++ targetNames t) rest

def bindsNames : List (Target × Expr) → List String
  | [] => []
  | (t, _) :: rest => targetNames t ++ bindsNames rest

def wfFilters (M : List String) (P : Option (List String)) (A : List String) : List FilterApp → Bool
  | [] => true
  | (_, args) :: rest => wfArgs M P A args && wfFilters M P A rest

/-- the names a statement certainly binds in the scope it stands in -/
def assignedBy : Stmt → List String
  | .set t _ => targetNames t
  | .setBlock x _ _ => [x]
  | .macroS name _ _ _ _ => [name]
  | _ => []

/-- `caller` is bound in the body of a macro that refers to it -/
def macroBound (params : List String) (uc : Bool) : List String := params ++ (if uc then ["caller"] else [])

mutual
  def wfStmt (M : List String) (P : Option (List String)) (A : List String) : Bool → Stmt → Bool
    | _, .text _ => true
    | _, .emit e => wfExpr M P A e
    | _, .set t e => targetOk M t && wfExpr M P A e
    | inLoop, .ifS c t f => wfExpr M P A c && wfBlock M P A inLoop t && wfBlock M P A inLoop f
    | inLoop, .withS binds body => wfBinds M P A binds && wfBlock M P (A ++ bindsNames binds) inLoop body
    | inLoop, .forS t iter flt body els =>
      targetOk M t && wfExpr M P A iter &&
        (match flt with | some c => wfExpr M P (A ++ targetNames t) c | none => true) &&
        wfBlock M P (A ++ targetNames t ++ ["loop"]) true body && wfBlock M P A inLoop els
    | inLoop, .setBlock x filters body => !M.contains x && wfFilters M P A filters && wfBlock M P A inLoop body
    | inLoop, .filterBlock filters body => wfFilters M P A filters && wfBlock M P A inLoop body
    | _, .macroS name params defaults body uc =>
      -- the declaration encloses names that may be read here; the body reads enclosed names, its
      -- parameters and what it assigned itself; defaults: `wfDefault`
      M.contains name && (fvOf params defaults body).all (allowed P A) &&
        (params.Nodup && params.all (fun p => !M.contains p && p != "caller") &&
          (decide (defaults.length ≤ params.length) && defaults.all (wfDefault M (fvOf params defaults body) params)) &&
          (uc == (findMacroClosure params defaults body).contains "caller") && (!uc || M.contains "caller") &&
          wfBlock M (some (fvOf params defaults body)) (macroBound params uc) false body)
    | _, .callBlock (.var x) args params defaults body uc =>
      -- a call of `x` with the hidden keyword argument `caller`: a macro made of the body of the block
      M.contains x && allowed P A x && ((keysOf args).Nodup && !(keysOf args).contains "caller") && wfCallArgs M P A args &&
        (M.contains "caller" && (fvOf params defaults body).all (allowed P A)) &&
        (params.Nodup && params.all (fun p => !M.contains p && p != "caller") &&
          (decide (defaults.length ≤ params.length) && defaults.all (wfDefault M (fvOf params defaults body) params)) &&
          (uc == (findMacroClosure params defaults body).contains "caller") && (!uc || M.contains "caller") &&
          wfBlock M (some (fvOf params defaults body)) (macroBound params uc) false body)
    | _, .callBlock _ _ _ _ _ _ => false
    | inLoop, .breakS => inLoop
    | inLoop, .continueS => inLoop
  def wfBlock (M : List String) (P : Option (List String)) (A : List String) : Bool → List Stmt → Bool
    | _, [] => true
    | inLoop, s :: rest => wfStmt M P A inLoop s && wfBlock M P (A ++ assignedBy s) inLoop rest
end

/-- what the body of a declared macro satisfies (the part of `wfStmt` a call needs) -/
def wfMacroBody (M : List String) (params : List String) (defaults : List Expr) (body : List Stmt) (uc : Bool) : Bool :=
  params.Nodup && params.all (fun p => !M.contains p && p != "caller") &&
    (decide (defaults.length ≤ params.length) && defaults.all (wfDefault M (fvOf params defaults body) params)) &&
    (uc == (findMacroClosure params defaults body).contains "caller") && (!uc || M.contains "caller") &&
    wfBlock M (some (fvOf params defaults body)) (macroBound params uc) false body

theorem wfStmt_macro {M P A l name params defaults body uc} (h : wfStmt M P A l (.macroS name params defaults body uc) = true) :
    M.contains name = true ∧ (fvOf params defaults body).all (allowed P A) = true ∧
      wfMacroBody M params defaults body uc = true := by
  simp only [wfStmt, Bool.and_eq_true] at h
  refine ⟨h.1.1, h.1.2, ?_⟩
  simp only [wfMacroBody, Bool.and_eq_true]
  exact h.2

theorem wfStmt_for {M P A l target iter flt body els} (hs : wfStmt M P A l (.forS target iter flt body els) = true) :
    (((targetOk M target = true ∧ wfExpr M P A iter = true) ∧
      wfBlock M P (A ++ targetNames target ++ ["loop"]) true body = true) ∧ wfBlock M P A l els = true) ∧
      ∀ c, flt = some c → wfExpr M P (A ++ targetNames target) c = true := by
  cases flt with
  | none => exact ⟨by simpa [wfStmt] using hs, fun c hc => by cases hc⟩
  | some c =>
    have : (((targetOk M target = true ∧ wfExpr M P A iter = true) ∧ wfExpr M P (A ++ targetNames target) c = true) ∧
        wfBlock M P (A ++ targetNames target ++ ["loop"]) true body = true) ∧ wfBlock M P A l els = true := by
      simpa [wfStmt] using hs
    exact ⟨⟨⟨this.1.1.1, this.1.2⟩, this.2⟩, fun c' hc => by cases hc; exact this.1.1.2⟩

theorem wfStmt_callBlock {M P A l x args params defaults body uc}
    (h : wfStmt M P A l (.callBlock (.var x) args params defaults body uc) = true) :
    (M.contains x = true ∧ allowed P A x = true ∧ (keysOf args).Nodup ∧ ¬ "caller" ∈ keysOf args ∧
      wfCallArgs M P A args = true) ∧ M.contains "caller" = true ∧
      (fvOf params defaults body).all (allowed P A) = true ∧ wfMacroBody M params defaults body uc = true := by
  simp only [wfStmt, Bool.and_eq_true] at h
  refine ⟨⟨h.1.1.1.1.1, h.1.1.1.1.2, by simpa using h.1.1.1.2.1, by simpa using h.1.1.1.2.2, h.1.1.2⟩, h.1.2.1, h.1.2.2, ?_⟩
  simp only [wfMacroBody, Bool.and_eq_true]
  exact h.2

mutual
  /-- the names declared by `{% macro %}` in a program -/
  def declaredStmt : Stmt → List String
    | .ifS _ t f => declaredBlock t ++ declaredBlock f
    | .forS _ _ _ body els => declaredBlock body ++ declaredBlock els
    | .setBlock _ _ body => declaredBlock body
    | .withS _ body => declaredBlock body
    | .filterBlock _ body => declaredBlock body
    | .macroS name _ _ body _ => name :: declaredBlock body
    | .callBlock _ _ _ _ body _ => declaredBlock body
    | _ => []
  def declaredBlock : List Stmt → List String
    | [] => []
    | s :: rest => declaredStmt s ++ declaredBlock rest
end

def macroNames (prog : List Stmt) : List String := "caller" :: declaredBlock prog

/-- the fragment of `vm_refines_eval` -/
def CoreFragment (prog : List Stmt) : Prop := wfBlock (macroNames prog) none [] false prog = true

instance (prog : List Stmt) : Decidable (CoreFragment prog) := by unfold CoreFragment; infer_instance

mutual
theorem wf_core (M P A) : ∀ (e : Expr), wfExpr M P A e = true → coreExpr e = true
  | .const _, _ => rfl
  | .var _, _ => rfl
  | .unop _ e, h => by simp only [wfExpr] at h; simp only [coreExpr]; exact wf_core M P A e h
  | .binop _ l r, h => by
    simp only [wfExpr, Bool.and_eq_true] at h; simp only [coreExpr, Bool.and_eq_true]
    exact ⟨wf_core M P A l h.1, wf_core M P A r h.2⟩
  | .cmp e ops, h => by
    simp only [wfExpr, Bool.and_eq_true] at h; simp only [coreExpr, Bool.and_eq_true]
    exact ⟨⟨h.1.1, wf_core M P A e h.1.2⟩, wf_coreChain M P A ops h.2⟩
  | .ife c t none, h => by
    simp only [wfExpr, Bool.and_eq_true] at h; simp only [coreExpr, Bool.and_eq_true]
    exact ⟨wf_core M P A c h.1, wf_core M P A t h.2⟩
  | .ife c t (some f), h => by
    simp only [wfExpr, Bool.and_eq_true] at h; simp only [coreExpr, Bool.and_eq_true]
    exact ⟨⟨wf_core M P A c h.1.1, wf_core M P A t h.1.2⟩, wf_core M P A f h.2⟩
  | .filter _ e args, h => by
    simp only [wfExpr, Bool.and_eq_true] at h; simp only [coreExpr, Bool.and_eq_true]
    exact ⟨wf_core M P A e h.1, wf_coreArgs M P A args h.2⟩
  | .test _ e args, h => by
    simp only [wfExpr, Bool.or_eq_true, Bool.and_eq_true] at h; simp only [coreExpr, Bool.and_eq_true]
    rcases h with h | h
    · cases e <;> try (simp at h; done)
      simp only [Bool.and_eq_true] at h
      have ha : args = [] := by simpa using h.2
      subst ha
      exact ⟨rfl, rfl⟩
    · exact ⟨wf_core M P A e h.1, wf_coreArgs M P A args h.2⟩
  | .getattr e _, h => by simp only [wfExpr] at h; simp only [coreExpr]; exact wf_core M P A e h
  | .getitem e i, h => by
    simp only [wfExpr, Bool.and_eq_true] at h; simp only [coreExpr, Bool.and_eq_true]
    exact ⟨wf_core M P A e h.1, wf_core M P A i h.2⟩
  | .call f args, h => by
    cases f with
    | var x =>
      simp only [wfExpr, Bool.and_eq_true] at h; simp only [coreExpr]
      exact wf_coreCallArgs M P A args h.2
    | _ => simp [wfExpr] at h
  | .list items, h => by simp only [wfExpr] at h; simp only [coreExpr]; exact wf_coreList M P A items h
  | .map kvs, h => by simp only [wfExpr] at h; simp only [coreExpr]; exact wf_corePairs M P A kvs h
theorem wf_coreChain (M P A) : ∀ (ops : List (CmpOp × Expr)), wfChain M P A ops = true → coreChain ops = true
  | [], _ => rfl
  | (_, e) :: rest, h => by
    simp only [wfChain, Bool.and_eq_true] at h; simp only [coreChain, Bool.and_eq_true]
    exact ⟨wf_core M P A e h.1, wf_coreChain M P A rest h.2⟩
theorem wf_coreArgs (M P A) : ∀ (args : List (Option String × Expr)), wfArgs M P A args = true → coreArgs args = true
  | [], _ => rfl
  | (none, e) :: rest, h => by
    simp only [wfArgs, Bool.and_eq_true] at h; simp only [coreArgs, Bool.and_eq_true]
    exact ⟨wf_core M P A e h.1, wf_coreArgs M P A rest h.2⟩
  | (some _, _) :: _, h => by simp [wfArgs] at h
theorem wf_coreCallArgs (M P A) : ∀ (args : List (Option String × Expr)), wfCallArgs M P A args = true →
    coreCallArgs args = true
  | [], _ => rfl
  | (_, e) :: rest, h => by
    simp only [wfCallArgs, Bool.and_eq_true] at h; simp only [coreCallArgs, Bool.and_eq_true]
    exact ⟨wf_core M P A e h.1, wf_coreCallArgs M P A rest h.2⟩
theorem wf_coreList (M P A) : ∀ (es : List Expr), wfList M P A es = true → coreList es = true
  | [], _ => rfl
  | e :: rest, h => by
    simp only [wfList, Bool.and_eq_true] at h; simp only [coreList, Bool.and_eq_true]
    exact ⟨wf_core M P A e h.1, wf_coreList M P A rest h.2⟩
theorem wf_corePairs (M P A) : ∀ (kvs : List (Expr × Expr)), wfPairs M P A kvs = true → corePairs kvs = true
  | [], _ => rfl
  | (k, v) :: rest, h => by
    simp only [wfPairs, Bool.and_eq_true] at h; simp only [corePairs, Bool.and_eq_true]
    exact ⟨⟨wf_core M P A k h.1.1, wf_core M P A v h.1.2⟩, wf_corePairs M P A rest h.2⟩
end

theorem wf_coreBinds (M P) : ∀ (A : List String) (bs : List (Target × Expr)), wfBinds M P A bs = true → coreBinds bs = true
  | _, [], _ => rfl
  | A, (t, e) :: rest, h => by
    simp only [wfBinds, Bool.and_eq_true] at h; simp only [coreBinds, Bool.and_eq_true]
    exact ⟨wf_core M P A e h.1.2, wf_coreBinds M P _ rest h.2⟩

theorem wf_coreFilters (M P A) : ∀ (fs : List FilterApp), wfFilters M P A fs = true → coreFilters fs = true
  | [], _ => rfl
  | (_, args) :: rest, h => by
    simp only [wfFilters, Bool.and_eq_true] at h; simp only [coreFilters, Bool.and_eq_true]
    exact ⟨wf_coreArgs M P A args h.1, wf_coreFilters M P A rest h.2⟩

theorem wf_coreDefaults (M P) : ∀ (ds : List Expr), (∀ d ∈ ds, wfExpr M P [] d = true) → coreDefaults ds = true
  | [], _ => rfl
  | d :: rest, h => by
    simp only [coreDefaults, Bool.and_eq_true]
    exact ⟨wf_core M P [] d (h d (by simp)), wf_coreDefaults M P rest (fun e he => h e (by simp [he]))⟩

theorem wfMacroBody_core {M params defaults body uc} (hb : wfMacroBody M params defaults body uc = true) :
    coreDefaults defaults = true ∧ wfBlock M (some (fvOf params defaults body)) (macroBound params uc) false body = true := by
  simp only [wfMacroBody, Bool.and_eq_true] at hb
  refine ⟨wf_coreDefaults M (some (fvOf params defaults body)) defaults (fun d hd => ?_), hb.2⟩
  have := List.all_eq_true.1 hb.1.1.1.2.2 d hd
  simp only [wfDefault, Bool.and_eq_true] at this
  exact this.2

mutual
theorem wf_coreStmt (M) : ∀ (P : Option (List String)) (A : List String) (l : Bool) (st : Stmt),
    wfStmt M P A l st = true → coreStmt l st = true
  | _, _, _, .text _, _ => rfl
  | P, A, _, .emit e, h => by simp only [wfStmt] at h; simp only [coreStmt]; exact wf_core M P A e h
  | P, A, _, .set _ e, h => by
    simp only [wfStmt, Bool.and_eq_true] at h; simp only [coreStmt]; exact wf_core M P A e h.2
  | P, A, l, .ifS c t f, h => by
    simp only [wfStmt, Bool.and_eq_true] at h; simp only [coreStmt, Bool.and_eq_true]
    exact ⟨⟨wf_core M P A c h.1.1, wf_coreBlock M P A l t h.1.2⟩, wf_coreBlock M P A l f h.2⟩
  | P, A, l, .withS binds body, h => by
    simp only [wfStmt, Bool.and_eq_true] at h; simp only [coreStmt, Bool.and_eq_true]
    exact ⟨wf_coreBinds M P A binds h.1, wf_coreBlock M P _ l body h.2⟩
  | P, A, l, .forS t iter flt body els, h => by
    simp only [wfStmt, Bool.and_eq_true] at h; simp only [coreStmt, Bool.and_eq_true]
    refine ⟨⟨⟨wf_core M P A iter h.1.1.1.2, ?_⟩, wf_coreBlock M P _ true body h.1.2⟩, wf_coreBlock M P A l els h.2⟩
    cases flt with
    | none => rfl
    | some c => exact wf_core M P _ c h.1.1.2
  | P, A, l, .setBlock _ fs body, h => by
    simp only [wfStmt, Bool.and_eq_true] at h; simp only [coreStmt, Bool.and_eq_true]
    exact ⟨wf_coreFilters M P A fs h.1.2, wf_coreBlock M P A l body h.2⟩
  | P, A, l, .filterBlock fs body, h => by
    simp only [wfStmt, Bool.and_eq_true] at h; simp only [coreStmt, Bool.and_eq_true]
    exact ⟨wf_coreFilters M P A fs h.1, wf_coreBlock M P A l body h.2⟩
  | P, A, _, .macroS name params defaults body uc, h => by
    have hb := wfMacroBody_core (wfStmt_macro h).2.2
    simp only [coreStmt, Bool.and_eq_true]
    exact ⟨hb.1, wf_coreBlock M _ _ false body hb.2⟩
  | P, A, _, .callBlock callee args params defaults body uc, h => by
    cases callee <;> try (simp [wfStmt] at h; done)
    have h' := wfStmt_callBlock h
    have hb := wfMacroBody_core h'.2.2.2
    simp only [coreStmt, Bool.and_eq_true]
    exact ⟨⟨wf_coreCallArgs M P A args h'.1.2.2.2.2, hb.1⟩, wf_coreBlock M _ _ false body hb.2⟩
  | _, _, _, .breakS, h => by simpa [wfStmt, coreStmt] using h
  | _, _, _, .continueS, h => by simpa [wfStmt, coreStmt] using h
theorem wf_coreBlock (M) : ∀ (P : Option (List String)) (A : List String) (l : Bool) (ss : List Stmt),
    wfBlock M P A l ss = true → coreBlock l ss = true
  | _, _, _, [], _ => rfl
  | P, A, l, s :: rest, h => by
    simp only [wfBlock, Bool.and_eq_true] at h; simp only [coreBlock, Bool.and_eq_true]
    exact ⟨wf_coreStmt M P A l s h.1, wf_coreBlock M P _ l rest h.2⟩
end

theorem allowed_mono {P : Option (List String)} {A B : List String} (hAB : ∀ x, x ∈ A → x ∈ B) {x : String}
    (h : allowed P A x = true) : allowed P B x = true := by
  cases P with
  | none => rfl
  | some fv =>
    simp only [allowed, Bool.or_eq_true, List.contains_iff_mem] at h ⊢
    exact h.elim Or.inl (fun h => Or.inr (hAB x h))

/-! at template level (`P = none`) the set of certainly-bound names plays no role -/
mutual
theorem wfExpr_none (M : List String) (A B : List String) : ∀ (e : Expr), wfExpr M none A e = wfExpr M none B e
  | .const _ => rfl
  | .var _ => rfl
  | .unop _ e => by simp only [wfExpr]; exact wfExpr_none M A B e
  | .binop _ l r => by simp only [wfExpr]; rw [wfExpr_none M A B l, wfExpr_none M A B r]
  | .cmp e ops => by simp only [wfExpr]; rw [wfExpr_none M A B e, wfChain_none M A B ops]
  | .ife c t none => by simp only [wfExpr]; rw [wfExpr_none M A B c, wfExpr_none M A B t]
  | .ife c t (some f) => by simp only [wfExpr]; rw [wfExpr_none M A B c, wfExpr_none M A B t, wfExpr_none M A B f]
  | .filter _ e args => by simp only [wfExpr]; rw [wfExpr_none M A B e, wfArgs_none M A B args]
  | .test _ e args => by
    simp only [wfExpr]; rw [wfExpr_none M A B e, wfArgs_none M A B args]
    cases e <;> rfl
  | .getattr e _ => by simp only [wfExpr]; exact wfExpr_none M A B e
  | .getitem e i => by simp only [wfExpr]; rw [wfExpr_none M A B e, wfExpr_none M A B i]
  | .call f args => by
    cases f with
    | var x => simp only [wfExpr, allowed]; rw [wfCallArgs_none M A B args]
    | _ => rfl
  | .list items => by simp only [wfExpr]; exact wfList_none M A B items
  | .map kvs => by simp only [wfExpr]; exact wfPairs_none M A B kvs
theorem wfChain_none (M : List String) (A B : List String) : ∀ (ops : List (CmpOp × Expr)), wfChain M none A ops = wfChain M none B ops
  | [] => rfl
  | (_, e) :: rest => by simp only [wfChain]; rw [wfExpr_none M A B e, wfChain_none M A B rest]
theorem wfArgs_none (M : List String) (A B : List String) : ∀ (args : List (Option String × Expr)), wfArgs M none A args = wfArgs M none B args
  | [] => rfl
  | (none, e) :: rest => by simp only [wfArgs]; rw [wfExpr_none M A B e, wfArgs_none M A B rest]
  | (some _, _) :: _ => rfl
theorem wfCallArgs_none (M : List String) (A B : List String) : ∀ (args : List (Option String × Expr)), wfCallArgs M none A args = wfCallArgs M none B args
  | [] => rfl
  | (_, e) :: rest => by simp only [wfCallArgs]; rw [wfExpr_none M A B e, wfCallArgs_none M A B rest]
theorem wfList_none (M : List String) (A B : List String) : ∀ (es : List Expr), wfList M none A es = wfList M none B es
  | [] => rfl
  | e :: rest => by simp only [wfList]; rw [wfExpr_none M A B e, wfList_none M A B rest]
theorem wfPairs_none (M : List String) (A B : List String) : ∀ (kvs : List (Expr × Expr)), wfPairs M none A kvs = wfPairs M none B kvs
  | [] => rfl
  | (k, v) :: rest => by simp only [wfPairs]; rw [wfExpr_none M A B k, wfExpr_none M A B v, wfPairs_none M A B rest]
end

theorem wfBinds_none (M : List String) : ∀ (A B : List String) (bs : List (Target × Expr)), wfBinds M none A bs = wfBinds M none B bs
  | _, _, [] => rfl
  | A, B, (t, e) :: rest => by
    simp only [wfBinds]; rw [wfExpr_none M A B e, wfBinds_none M (A ++ targetNames t) (B ++ targetNames t) rest]

theorem wfFilters_none (M : List String) (A B : List String) : ∀ (fs : List FilterApp), wfFilters M none A fs = wfFilters M none B fs
  | [] => rfl
  | (_, args) :: rest => by simp only [wfFilters]; rw [wfArgs_none M A B args, wfFilters_none M A B rest]

mutual
theorem wfStmt_none (M : List String) : ∀ (A B : List String) (l : Bool) (st : Stmt), wfStmt M none A l st = wfStmt M none B l st
  | _, _, _, .text _ => rfl
  | A, B, _, .emit e => by simp only [wfStmt]; exact wfExpr_none M A B e
  | A, B, _, .set _ e => by simp only [wfStmt]; rw [wfExpr_none M A B e]
  | A, B, l, .ifS c t f => by
    simp only [wfStmt]; rw [wfExpr_none M A B c, wfBlock_none M A B l t, wfBlock_none M A B l f]
  | A, B, l, .withS binds body => by
    simp only [wfStmt]; rw [wfBinds_none M A B binds, wfBlock_none M (A ++ bindsNames binds) (B ++ bindsNames binds) l body]
  | A, B, l, .forS t iter flt body els => by
    simp only [wfStmt]
    rw [wfExpr_none M A B iter, wfBlock_none M (A ++ targetNames t ++ ["loop"]) (B ++ targetNames t ++ ["loop"]) true body,
      wfBlock_none M A B l els]
    cases flt with
    | none => rfl
    | some c => simp only; rw [wfExpr_none M (A ++ targetNames t) (B ++ targetNames t) c]
  | A, B, l, .setBlock _ fs body => by simp only [wfStmt]; rw [wfFilters_none M A B fs, wfBlock_none M A B l body]
  | A, B, l, .filterBlock fs body => by simp only [wfStmt]; rw [wfFilters_none M A B fs, wfBlock_none M A B l body]
  | A, B, _, .macroS _ _ _ _ _ => by
    simp only [wfStmt]
    have : allowed none A = allowed none B := rfl
    rw [this]
  | A, B, _, .callBlock callee args params defaults body uc => by
    cases callee with
    | var x =>
      simp only [wfStmt]
      have : allowed none A = allowed none B := rfl
      rw [this, wfCallArgs_none M A B args]
    | _ => rfl
  | _, _, _, .breakS => rfl
  | _, _, _, .continueS => rfl
theorem wfBlock_none (M : List String) : ∀ (A B : List String) (l : Bool) (ss : List Stmt), wfBlock M none A l ss = wfBlock M none B l ss
  | _, _, _, [] => rfl
  | A, B, l, s :: rest => by
    simp only [wfBlock]; rw [wfStmt_none M A B l s, wfBlock_none M (A ++ assignedBy s) (B ++ assignedBy s) l rest]
end

theorem wfBlock_append (M : List String) (l : Bool) : ∀ (A : List String) (a b : List Stmt),
    wfBlock M none A l (a ++ b) = (wfBlock M none A l a && wfBlock M none A l b)
  | _, [], _ => by simp [wfBlock]
  | A, s :: rest, b => by
    simp only [List.cons_append, wfBlock]
    rw [wfBlock_append M l _ rest b, wfBlock_none M (A ++ assignedBy s) A l b, Bool.and_assoc]

end MJ.Compile
