import MJ.Proofs.ExprSim
import MJ.Proofs.EvalKeys
/-!
# What a piece of statement code achieves (C03)

The relation `Rel` between a state of the reference semantics and a VM state is `HRel` (`MJ/Proofs/SimRel.lean`) plus
"the output is the innermost capture buffer".  What a piece of code achieves is a `Done` (the VM ends behind it in a
related state and `Keeps` the frames and closures it does not own; `Stored`: its reading for code that writes nothing,
`Done.stored`) or, for a statement, a `Post` (… or it has left the loop body: `Unw`).  Pieces are put together with
`Done.trans` / `Done.andThen`; single instructions enter through `Done.store`, `Done.emit`, `Done.of_pushed` (expression
code) and `Done.of_pure`; `sim_target` is the code of an assignment target.  At the end the shapes of the simulation
statements, one per syntactic class: `StmtGoal`, `SimBlock`, `SimBinds`, `SimFilters`, `SimIters`.
-/
namespace MJ.Vm
open MJ.Eval MJ.Compile MJ.C03

/-- the relation between a state of the reference semantics (cells `loc` of the current context on top
of the lexical rest `env`) and a VM state -/
def Rel (K : Cfg) (G : Ghost) (P : Option (List String)) (clo : Option Nat) (σ : State) (loc env : List Nat)
    (s : VmState) : Prop :=
  HRel K G P clo σ.heap loc env s ∧ ∃ rest, s.outs = σ.out :: rest

theorem Rel.same {K G P clo σ loc env s} (h : Rel K G P clo σ loc env s) (s' : VmState) (hf : s'.frames = s.frames)
    (hc : s'.closures = s.closures) (ho : s'.outs = s.outs) : Rel K G P clo σ loc env s' :=
  ⟨h.1.same s' hf hc, by rw [ho]; exact h.2⟩

theorem Rel.ext {K G P clo σ loc env s} (h : Rel K G P clo σ loc env s) (s' : VmState) (hf : s'.frames = s.frames)
    {cls' : List Scope} (hx : Ext s.closures cls') (hc : s'.closures = cls') (ho : s'.outs = s.outs) :
    Rel K G P clo σ loc env s' := by
  obtain ⟨extra, rfl⟩ := hx
  exact ⟨h.1.ext s' hf extra hc, by rw [ho]; exact h.2⟩

/-- what a run does to the closures that existed before: only the closure the innermost frame owns may
change (stores are duplicated into it), no key is lost, closures are only added -/
def ClPres (s s' : VmState) : Prop :=
  s.closures.length ≤ s'.closures.length ∧ KeysMono s.closures s'.closures ∧
    ∀ c, c < s.closures.length → topClosure s.frames ≠ some c → s'.closures[c]? = s.closures[c]?

/-- the closure the innermost frame owns stays, or is created -/
def HeadClos (s s' : VmState) : Prop :=
  topClosure s'.frames = topClosure s.frames ∨
    (topClosure s.frames = none ∧ ∃ c, topClosure s'.frames = some c ∧ s.closures.length ≤ c)

theorem ClPres.of_eq {s s' : VmState} (hc : s'.closures = s.closures) : ClPres s s' := by
  rw [ClPres, hc]; exact ⟨Nat.le_refl _, KeysMono.refl _, fun _ _ _ => rfl⟩

theorem ClPres.refl (s : VmState) : ClPres s s := ClPres.of_eq rfl

theorem HeadClos.refl (s : VmState) : HeadClos s s := Or.inl rfl

theorem HeadClos.of_eq {s s' : VmState} (hf : topClosure s'.frames = topClosure s.frames) : HeadClos s s' := Or.inl hf

theorem ClPres.trans {s1 s2 s3 : VmState} (h1 : ClPres s1 s2) (hh : HeadClos s1 s2) (h2 : ClPres s2 s3) : ClPres s1 s3 := by
  refine ⟨Nat.le_trans h1.1 h2.1, h1.2.1.trans h2.2.1, fun c hc hne => ?_⟩
  have hc2 : c < s2.closures.length := Nat.lt_of_lt_of_le hc h1.1
  have hne2 : topClosure s2.frames ≠ some c := by
    rcases hh with hh | ⟨_, c', hc', hle⟩
    · rw [hh]; exact hne
    · rw [hc']; intro e; cases e; omega
  rw [h2.2.2 c hc2 hne2, h1.2.2 c hc hne]

theorem HeadClos.trans {s1 s2 s3 : VmState} (h1 : HeadClos s1 s2) (hl : s1.closures.length ≤ s2.closures.length)
    (h2 : HeadClos s2 s3) : HeadClos s1 s3 := by
  rcases h1 with h1 | ⟨hn, c, hc, hle⟩
  · rcases h2 with h2 | ⟨hn2, c, hc, hle⟩
    · exact Or.inl (h2.trans h1)
    · exact Or.inr ⟨by rw [← h1]; exact hn2, c, hc, Nat.le_trans hl hle⟩
  · rcases h2 with h2 | ⟨hn2, _, _, _⟩
    · exact Or.inr ⟨hn, c, by rw [h2]; exact hc, hle⟩
    · rw [hc] at hn2; cases hn2

theorem HeadClos.some_stays {s s' : VmState} (h : HeadClos s s') {c : Nat} (hc : topClosure s.frames = some c) :
    topClosure s'.frames = some c := by
  rcases h with h | ⟨hn, _⟩
  · rw [h]; exact hc
  · rw [hc] at hn; cases hn

theorem ClPres.of_ext {s s' : VmState} (hx : Ext s.closures s'.closures) : ClPres s s' := by
  obtain ⟨extra, he⟩ := hx
  refine ⟨by rw [he]; simp, by rw [he]; exact KeysMono.append _ _, fun c hc _ => ?_⟩
  rw [he, List.getElem?_append_left hc]

theorem Ext.of_getElem? {cls cls' : List Scope} (h : ∀ c, c < cls.length → cls'[c]? = cls[c]?) : Ext cls cls' := by
  refine ⟨cls'.drop cls.length, List.ext_getElem? fun i => ?_⟩
  by_cases hi : i < cls.length
  · rw [List.getElem?_append_left hi]; exact h i hi
  · have hle : cls.length ≤ i := Nat.le_of_not_lt hi
    rw [List.getElem?_append_right hle, List.getElem?_drop]
    congr 1; omega

theorem ClPres.ext_of_none {s s' : VmState} (h : ClPres s s') (hn : topClosure s.frames = none) :
    Ext s.closures s'.closures :=
  Ext.of_getElem? fun i hi => h.2.2 i hi (by rw [hn]; simp)

/-- what never changes in a frame while statements run in it: its loop state changes only at
`Iterate`, the closure it reads never -/
def Frame.sig (f : Frame) : Option LoopSt × Option Nat := (f.loop, f.closureCtx)

/-- the static part of the context a statement runs in -/
structure SC where
  K : Cfg
  P : Option (List String)
  clo : Option Nat
  env : List Nat

theorem Rel.store {K G P clo σ T locR env s} (h : Rel K G P clo σ (T :: locR) env s) (x : String) (w u : Val)
    (hv : ValAgree K G s.closures σ.heap.length x w u) (hpw : x ∉ K.M → plain w = true) (s' : VmState)
    (hf : s'.frames = storeLocal x u s.frames)
    (hc : s'.closures = storeClosure x u s.frames s.closures) (ho : s'.outs = s.outs) :
    Rel K G P clo { σ with heap := heapSet σ.heap T x w } (T :: locR) env s' :=
  ⟨h.1.store x w u hv hpw s' hf hc, by rw [ho]; exact h.2⟩

theorem Rel.appendOut {K G P clo σ loc env s} (h : Rel K G P clo σ loc env s) (t : String) (s' : VmState)
    (hf : s'.frames = s.frames) (hc : s'.closures = s.closures) (ho : s'.outs = MJ.Vm.appendOut t s.outs) :
    Rel K G P clo { σ with out := σ.out ++ t } loc env s' ∧ s'.outs.tail = s.outs.tail := by
  obtain ⟨rest, hr⟩ := h.2
  refine ⟨⟨h.1.same s' hf hc, ⟨rest, by rw [ho, hr]; rfl⟩⟩, ?_⟩
  rw [ho, hr]; rfl

theorem Rel.push {K G P clo σ loc env s} (h : Rel K G P clo σ loc env s) (hne : loc ≠ []) (cell : Scope) (f : Frame)
    (hcl : f.closure = none) (hcc : f.closureCtx = none)
    (hag : ∀ x, OptAgree K G s.closures (σ.heap.length + 1) x (assocGet x cell) (frameLocal f x))
    (hpl : ∀ x v, x ∉ K.M → assocGet x cell = some v → plain v = true) (s' : VmState)
    (hf : s'.frames = f :: s.frames) (hc : s'.closures = s.closures) (ho : s'.outs = s.outs) :
    Rel K G P clo { σ with heap := σ.heap ++ [cell] } (σ.heap.length :: loc) env s' :=
  ⟨h.1.push hne cell f hcl hcc hag hpl s' hf hc, by rw [ho]; exact h.2⟩

theorem Rel.bound0 {K G P clo σ T locR env s} (h : Rel K G P clo σ (T :: locR) env s) : T < σ.heap.length :=
  h.1.bound T (by simp)

theorem storeClosure_length (x : String) (u : Val) (frames : List Frame) (cls : List Scope) :
    (storeClosure x u frames cls).length = cls.length := by
  unfold storeClosure
  split
  · split <;> simp
  · rfl

theorem topClosure_storeLocal (x : String) (u : Val) (frames : List Frame) :
    topClosure (storeLocal x u frames) = topClosure frames := by
  cases frames <;> rfl

theorem ClPres.store {s s' : VmState} (x : String) (u : Val) (hc : s'.closures = storeClosure x u s.frames s.closures) :
    ClPres s s' := by
  refine ⟨by rw [hc, storeClosure_length]; exact Nat.le_refl _, by rw [hc]; exact storeClosure_keys _ _ _ _, fun c _ hne => ?_⟩
  rw [hc]; exact storeClosure_other _ _ _ _ c hne

theorem storeLocal_tail (x : String) (v : Val) (fs : List Frame) : (storeLocal x v fs).tail = fs.tail := by
  cases fs <;> rfl

theorem storeLocal_headLoop (x : String) (v : Val) (fs : List Frame) :
    (storeLocal x v fs).head?.map Frame.sig = fs.head?.map Frame.sig := by
  cases fs <;> rfl

/-- what a run of statement code leaves as it was: the frames below the innermost one, the loop state and
the closure context of the innermost one, and the closures as far as `ClPres` / `HeadClos` say -/
structure Keeps (s s' : VmState) : Prop where
  tail : s'.frames.tail = s.frames.tail
  head : s'.frames.head?.map Frame.sig = s.frames.head?.map Frame.sig
  clos : ClPres s s'
  top : HeadClos s s'

theorem Keeps.refl (s : VmState) : Keeps s s := ⟨rfl, rfl, ClPres.refl _, HeadClos.refl _⟩

theorem Keeps.trans {s1 s2 s3 : VmState} (h1 : Keeps s1 s2) (h2 : Keeps s2 s3) : Keeps s1 s3 :=
  ⟨h2.tail.trans h1.tail, h2.head.trans h1.head, h1.clos.trans h1.top h2.clos, h1.top.trans h1.clos.1 h2.top⟩

theorem Keeps.of_ext {s s' : VmState} (hf : s'.frames = s.frames) (hx : Ext s.closures s'.closures) : Keeps s s' :=
  ⟨by rw [hf], by rw [hf], ClPres.of_ext hx, HeadClos.of_eq (by rw [hf])⟩

/-- what executing a piece of code achieves on the VM side, relative to the reference state `σ'`: the VM
gets to `endPc` with operand stack `st`, writing to the innermost capture buffer only -/
def Done (X : SC) (loc : List Nat) (σ' : State) (s : VmState) (st : List Val) (endPc : Nat) : Prop :=
  ∃ s' G', Reach X.K.ctx X.K.C s s' ∧ s'.pc = endPc ∧ s'.stack = st ∧ Rel X.K G' X.P X.clo σ' loc X.env s' ∧
    s'.outs.tail = s.outs.tail ∧ Keeps s s'

/-- `Done` with every capture buffer as it was: what code that writes nothing achieves (`Done.stored`) -/
def Stored (X : SC) (loc : List Nat) (σ' : State) (s : VmState) (st : List Val) (endPc : Nat) : Prop :=
  ∃ s' G', Reach X.K.ctx X.K.C s s' ∧ s'.pc = endPc ∧ s'.stack = st ∧ Rel X.K G' X.P X.clo σ' loc X.env s' ∧
    s'.outs = s.outs ∧ s'.frames.tail = s.frames.tail ∧
    s'.frames.head?.map Frame.sig = s.frames.head?.map Frame.sig ∧ ClPres s s' ∧ HeadClos s s'

def nWith : List ScopeKind → Nat
  | [] => 0
  | .with_ :: r => nWith r + 1
  | .capture :: r => nWith r

def nCap : List ScopeKind → Nat
  | [] => 0
  | .with_ :: r => nCap r
  | .capture :: r => nCap r + 1

/-- the VM jumped to `tgt` after leaving the scopes `sc` (opened inside the loop body): their
frames and capture buffers are gone, the operand stack is as before -/
def Unw (X : SC) (σ' : State) (s : VmState) (tgt : Nat) (sc : List ScopeKind) : Prop :=
  ∃ s', Reach X.K.ctx X.K.C s s' ∧ s'.pc = tgt ∧ s'.stack = s.stack ∧
    s'.frames.tail = (s.frames.drop (nWith sc)).tail ∧
    s'.frames.head?.map Frame.sig = (s.frames.drop (nWith sc)).head?.map Frame.sig ∧
    s'.outs = (σ'.out :: s.outs.tail).drop (nCap sc) ∧ s.closures.length ≤ s'.closures.length ∧
    (∀ c, c < s.closures.length → (∀ f ∈ s.frames.take (nWith sc + 1), f.closure ≠ some c) →
      s'.closures[c]? = s.closures[c]?)

def jumpTarget : Flow → LoopCtx → Nat
  | .brk, l => l.exit
  | _, l => l.iter

/-- the postcondition of a statement: it ends normally behind its code (`Done`), or it jumps to the
`Iterate` / behind the innermost loop -/
def Post (X : SC) (loc : List Nat) (σ' : State) (fl : Flow) (s : VmState) (endPc : Nat)
    (lc : Option LoopCtx) : Prop :=
  if fl = .normal then Done X loc σ' s s.stack endPc
  else ∃ l, lc = some l ∧ Unw X σ' s (jumpTarget fl l) l.scopes

theorem drop_frames_eq {fs1 fs : List Frame} (ht : fs1.tail = fs.tail)
    (hh : fs1.head?.map Frame.sig = fs.head?.map Frame.sig) (k : Nat) :
    (fs1.drop k).tail = (fs.drop k).tail ∧ (fs1.drop k).head?.map Frame.sig = (fs.drop k).head?.map Frame.sig := by
  cases k with
  | zero => exact ⟨ht, hh⟩
  | succ k =>
    have e1 : fs1.drop (k + 1) = fs1.tail.drop k := by cases fs1 <;> simp
    have e2 : fs.drop (k + 1) = fs.tail.drop k := by cases fs <;> simp
    rw [e1, e2, ht]; exact ⟨rfl, rfl⟩

theorem topClosure_ne_of_take {fs : List Frame} {c k : Nat} (h : ∀ f ∈ fs.take (k + 1), f.closure ≠ some c) :
    topClosure fs ≠ some c := by
  cases fs with
  | nil => simp [topClosure]
  | cons f rest => simp only [topClosure]; exact h f (by simp)

theorem Unw.prefix {X σ' s s1 tgt sc} (r : Reach X.K.ctx X.K.C s s1) (hst : s1.stack = s.stack)
    (ht : s1.frames.tail = s.frames.tail) (hh : s1.frames.head?.map Frame.sig = s.frames.head?.map Frame.sig)
    (ho : s1.outs.tail = s.outs.tail) (hcp : ClPres s s1) (hhc : HeadClos s s1)
    (h : Unw X σ' s1 tgt sc) : Unw X σ' s tgt sc := by
  obtain ⟨s', r', hpc, hst', htl, hhd, hout, hlen, hun⟩ := h
  have := drop_frames_eq ht hh (nWith sc)
  refine ⟨s', r.trans r', hpc, hst'.trans hst, htl.trans this.1, hhd.trans this.2, by rw [hout, ho],
    Nat.le_trans hcp.1 hlen, fun c hc hu => ?_⟩
  have hc1 : c < s1.closures.length := Nat.lt_of_lt_of_le hc hcp.1
  have hu1 : ∀ f ∈ s1.frames.take (nWith sc + 1), f.closure ≠ some c := by
    intro f hf
    cases hf1 : s1.frames with
    | nil => rw [hf1] at hf; simp at hf
    | cons g rest =>
      rw [hf1] at hf
      simp only [List.take_succ_cons] at hf
      rcases List.mem_cons.1 hf with rfl | hmem
      · -- the head frame: its closure is the old one or a new one
        have htop : topClosure s1.frames = f.closure := by rw [hf1]; rfl
        rcases hhc with hh' | ⟨_, c', hc', hle⟩
        · rw [← htop, hh']; exact topClosure_ne_of_take hu
        · rw [← htop, hc']; intro e; cases e; omega
      · have hrest : rest = s.frames.tail := by rw [← ht, hf1]; rfl
        refine hu f ?_
        cases hs : s.frames with
        | nil => rw [hs] at hrest; rw [hrest] at hmem; simp at hmem
        | cons g0 rest0 =>
          rw [hs] at hrest; simp at hrest; subst hrest
          simp only [List.take_succ_cons]
          exact List.mem_cons_of_mem _ hmem
  rw [hun c hc1 hu1, hcp.2.2 c hc (topClosure_ne_of_take hu)]

theorem Post.not_normal {X : SC} {loc σ' fl s e lc} (hfl : ¬ fl = .normal) :
    Post X loc σ' fl s e lc ↔ ∃ l, lc = some l ∧ Unw X σ' s (jumpTarget fl l) l.scopes := by
  simp only [Post, hfl, if_false]

theorem Post.prefix_nn {X loc loc1 σ' fl s s1 e e' lc} (hfl : ¬ fl = Flow.normal) (r : Reach X.K.ctx X.K.C s s1)
    (hst : s1.stack = s.stack) (hk : Keeps s s1) (ho : s1.outs.tail = s.outs.tail)
    (h : Post X loc1 σ' fl s1 e lc) : Post X loc σ' fl s e' lc := by
  obtain ⟨l, hl, hu⟩ := (Post.not_normal hfl).1 h
  exact (Post.not_normal hfl).2 ⟨l, hl, hu.prefix r hst hk.tail hk.head ho hk.clos hk.top⟩

theorem Post.normal {X : SC} {loc σ' s e lc} : Post X loc σ' .normal s e lc ↔ Done X loc σ' s s.stack e := by
  simp only [Post, if_true]

theorem Done.trans {X : SC} {loc1 loc : List Nat} {σ1 σ2 : State} {s : VmState} {st1 st2 : List Val} {p1 p2 : Nat}
    (h1 : Done X loc1 σ1 s st1 p1)
    (h2 : ∀ s1 G1, s1.pc = p1 → s1.stack = st1 → Rel X.K G1 X.P X.clo σ1 loc1 X.env s1 → s1.outs.tail = s.outs.tail →
      Done X loc σ2 s1 st2 p2) : Done X loc σ2 s st2 p2 := by
  obtain ⟨s1, G1, r1, hpc1, hst1, hrel1, hout1, hk1⟩ := h1
  obtain ⟨s2, G2, r2, hpc2, hst2, hrel2, hout2, hk2⟩ := h2 s1 G1 hpc1 hst1 hrel1 hout1
  exact ⟨s2, G2, r1.trans r2, hpc2, hst2, hrel2, hout2.trans hout1, hk1.trans hk2⟩

theorem Done.seq {X : SC} {loc1 loc : List Nat} {σ1 σ2 : State} {s : VmState} {st1 : List Val} {p1 p2 : Nat}
    (h1 : Done X loc1 σ1 s st1 p1)
    (h2 : ∀ s1 G1, s1.pc = p1 → s1.stack = st1 → Rel X.K G1 X.P X.clo σ1 loc1 X.env s1 → s1.outs.tail = s.outs.tail →
      Done X loc σ2 s1 s1.stack p2) : Done X loc σ2 s st1 p2 :=
  h1.trans fun s1 G1 a b c d => b ▸ h2 s1 G1 a b c d

theorem Done.andThen {X : SC} {loc1 loc : List Nat} {σ1 σ2 : State} {fl : Flow} {s : VmState} {p1 p2 : Nat}
    {lc : Option LoopCtx} (h1 : Done X loc1 σ1 s s.stack p1)
    (h2 : ∀ s1 G1, s1.pc = p1 → s1.stack = s.stack → Rel X.K G1 X.P X.clo σ1 loc1 X.env s1 → s1.outs.tail = s.outs.tail →
      Post X loc σ2 fl s1 p2 lc) : Post X loc σ2 fl s p2 lc := by
  by_cases hfl : fl = .normal
  · subst hfl
    exact Post.normal.2 (h1.seq fun s1 G1 a b c d => Post.normal.1 (h2 s1 G1 a b c d))
  · obtain ⟨s1, G1, r1, hpc1, hst1, hrel1, hout1, hk1⟩ := h1
    exact Post.prefix_nn hfl r1 hst1 hk1 hout1 (h2 s1 G1 hpc1 hst1 hrel1 hout1)

theorem Done.cast {X : SC} {loc σ' s st p p'} (h : Done X loc σ' s st p) (hp : p = p') : Done X loc σ' s st p' := hp ▸ h

theorem Post.cast {X : SC} {loc σ' fl s p p' lc} (h : Post X loc σ' fl s p lc) (hp : p = p') : Post X loc σ' fl s p' lc :=
  hp ▸ h

theorem Done.refl {X : SC} {G loc σ s} (h : Rel X.K G X.P X.clo σ loc X.env s) : Done X loc σ s s.stack s.pc :=
  ⟨s, G, Reach.refl _, rfl, rfl, h, rfl, Keeps.refl _⟩

theorem Done.of_pure {X : SC} {G loc σ' s s'} (r : Reach X.K.ctx X.K.C s s') (hst : s'.stack = s.stack)
    (hrel : Rel X.K G X.P X.clo σ' loc X.env s') (hout : s'.outs.tail = s.outs.tail) (hf : s'.frames = s.frames)
    (hx : Ext s.closures s'.closures) : Done X loc σ' s s.stack s'.pc :=
  ⟨s', G, r, rfl, hst, hrel, hout, Keeps.of_ext hf hx⟩

def SC.ectx (X : SC) (G : Ghost) (heap : Heap) (loc : List Nat) (A : List String) : ECtx :=
  { K := X.K, G := G, P := X.P, clo := X.clo, heap := heap, loc := loc, env := X.env, A := A }

theorem Rel.eok {X : SC} {G σ loc s A} (h : Rel X.K G X.P X.clo σ loc X.env s) (hA : ABound σ.heap loc A)
    (hne : loc ≠ []) : (X.ectx G σ.heap loc A).ok s := ⟨h.1, hA, hne⟩

theorem Rel.lookup {X : SC} {G σ loc s A} (h : Rel X.K G X.P X.clo σ loc X.env s) (hA : ABound σ.heap loc A) (hne : loc ≠ [])
    {x : String} (hx : allowed X.P A x = true) :
    ValAgree X.K G s.closures σ.heap.length x ((MJ.Eval.lookup X.K.ctx σ.heap (loc ++ X.env) x).getD .undef)
      (lookupFrames X.K.ctx s.closures x s.frames) :=
  (h.eok hA hne).lookup hx

theorem Done.of_pushed {X : SC} {G : Ghost} {loc : List Nat} {A : List String} {σ : State} {s : VmState} {pc' : Nat}
    {st : List Val} (hrel : Rel X.K G X.P X.clo σ loc X.env s) (hp : Pushed (X.ectx G σ.heap loc A) s pc' st) :
    Done X loc σ s st pc' := by
  obtain ⟨c1, x1, r1⟩ := hp
  exact ⟨_, G, r1, rfl, rfl, hrel.ext _ rfl x1 rfl rfl, rfl, Keeps.of_ext rfl x1⟩

theorem Done.emit {X : SC} {G : Ghost} {σ : State} {loc : List Nat} {s : VmState} {p : Nat} {v : Val} {st : List Val}
    (hrel : Rel X.K G X.P X.clo σ loc X.env s) (hpc : s.pc = p) (hi : X.K.C[p]? = some .emit) (hst : s.stack = v :: st) :
    Done X loc { σ with out := σ.out ++ render v } s st (p + 1) := by
  subst hpc
  have hr := hrel.appendOut (render v) { s with pc := s.pc + 1, stack := st, outs := MJ.Vm.appendOut (render v) s.outs } rfl rfl rfl
  exact ⟨_, G, Reach.one hi (step_emit hst), rfl, rfl, hr.1, hr.2, Keeps.of_ext rfl (Ext.refl _)⟩

theorem Post.jump {X : SC} {loc σ' fl s e t lc} (h : Post X loc σ' fl s e lc) (hj : X.K.C[e]? = some (.jump t)) :
    Post X loc σ' fl s t lc := by
  by_cases hfl : fl = .normal
  · subst hfl
    obtain ⟨s2, G2, r2, hpc2, hst2, hrel2, hout2, hk2⟩ := Post.normal.1 h
    exact Post.normal.2 ⟨{ s2 with pc := t }, G2, r2.trans (Reach.one' (i := .jump t) _ hj hpc2 rfl), rfl,
      hst2, hrel2.same _ rfl rfl rfl, hout2, hk2.trans (Keeps.of_ext rfl (Ext.refl _))⟩
  · exact (Post.not_normal hfl).2 ((Post.not_normal hfl).1 h)

theorem Done.cast_state {X : SC} {loc σ σ' s st p} (h : Done X loc σ s st p) (hσ : σ = σ') : Done X loc σ' s st p := hσ ▸ h

/-- code that leaves the output of the reference state as it was has not touched the capture buffers -/
theorem Done.stored {X : SC} {G : Ghost} {loc0 loc : List Nat} {σ σ' : State} {s : VmState} {st : List Val} {p : Nat}
    (hrel : Rel X.K G X.P X.clo σ loc0 X.env s) (h : Done X loc σ' s st p) (ho : σ'.out = σ.out) :
    Stored X loc σ' s st p := by
  obtain ⟨s1, G1, r1, hpc1, hst1, hrel1, hout1, hk1⟩ := h
  refine ⟨s1, G1, r1, hpc1, hst1, hrel1, ?_, hk1.tail, hk1.head, hk1.clos, hk1.top⟩
  obtain ⟨r, hr⟩ := hrel.2
  obtain ⟨r', hr'⟩ := hrel1.2
  rw [hr, hr'] at hout1
  rw [hr, hr', ho]
  simpa using hout1

theorem Done.store {X : SC} {G : Ghost} {σ : State} {cell : Nat} {rs : List Nat} {s : VmState} {p : Nat} {x : String}
    {w u : Val} {st : List Val} (hrel : Rel X.K G X.P X.clo σ (cell :: rs) X.env s) (hpc : s.pc = p)
    (hi : X.K.C[p]? = some (.storeLocal x)) (hst : s.stack = u :: st)
    (hv : ValAgree X.K G s.closures σ.heap.length x w u) (hpw : x ∉ X.K.M → plain w = true) :
    Done X (cell :: rs) { σ with heap := heapSet σ.heap cell x w } s st (p + 1) := by
  subst hpc
  exact ⟨_, G, Reach.one hi (step_storeLocal hst), rfl, rfl, hrel.store x w u hv hpw _ rfl rfl rfl, rfl,
    storeLocal_tail _ _ _, storeLocal_headLoop _ _ _, ClPres.store x u rfl, HeadClos.of_eq (topClosure_storeLocal _ _ _)⟩

/-- behind code that keeps the outer capture buffers, the buffers a `break` / `continue` drops are still there -/
theorem cap_of_tail {K G1 G P clo clo1 P1 env env1} {s1 s : VmState} {σ1 σ : State} {st1 st : List Nat} {lc : Option LoopCtx}
    (hcap : ∀ l, lc = some l → nCap l.scopes < s.outs.length) (h1 : Rel K G1 P1 clo1 σ1 st1 env1 s1)
    (h : Rel K G P clo σ st env s) (ht : s1.outs.tail = s.outs.tail) :
    ∀ l, lc = some l → nCap l.scopes < s1.outs.length := by
  have hlen : s1.outs.length = s.outs.length := by
    obtain ⟨r1, e1⟩ := h1.2
    obtain ⟨r, e⟩ := h.2
    rw [e1, e] at ht
    simp at ht
    rw [e1, e, ht]; rfl
  intro l hl; rw [hlen]; exact hcap l hl

mutual
/-- `compile_assignment` against `bindTarget`: the value on top of the operand stack is stored /
unpacked into the innermost frame exactly as the reference semantics writes the innermost cell -/
theorem sim_target (X : SC) : ∀ (t : Target) (v : Val) (bs : List (String × Val)), bindTarget t v = .ok bs →
    targetOk X.K.M t = true → plain v = true →
    ∀ (G : Ghost) (base : Nat) (s : VmState) (st : List Val) (σ : State) (cell : Nat) (rs : List Nat),
      At X.K.C base (relTarget t) → s.pc = base → s.stack = v :: st → Rel X.K G X.P X.clo σ (cell :: rs) X.env s →
      Done X (cell :: rs) { σ with heap := heapSetAll σ.heap cell bs } s st (base + (relTarget t).length)
  | .var x, v, bs, hb, hok, hpv, G, base, s, st, σ, cell, rs, hAt, hpc, hst, hrel => by
    simp [bindTarget] at hb; subst hb
    have hxM : ¬ x ∈ X.K.M := by simpa [targetOk, targetNames] using hok
    simp only [relTarget] at hAt ⊢
    simpa [heapSetAll] using Done.store hrel hpc hAt.head hst (w := v) (by simp [ValAgree, hxM]) (fun _ => hpv)
  | .tuple ts, v, bs, hb, hok, hpv, G, base, s, st, σ, cell, rs, hAt, hpc, hst, hrel => by
    simp only [relTarget] at hAt ⊢
    have hok' : ∀ t ∈ ts, targetOk X.K.M t = true := by
      intro t ht
      simp only [targetOk, targetNames, List.all_eq_true] at hok ⊢
      intro y hy
      refine hok y ?_
      clear hok hb hAt
      induction ts with
      | nil => simp at ht
      | cons t0 rest ih =>
        simp only [targetsNames, List.mem_append]
        rcases List.mem_cons.1 ht with rfl | h
        · exact Or.inl hy
        · exact Or.inr (ih h)
    have hitems : ∃ xs, bindTargets ts xs = .ok bs ∧ (∀ x, x ∈ xs → plain x = true) ∧
        MJ.Vm.step X.K.ctx (.unpackList ts.length) s = .ok { s with pc := s.pc + 1, stack := xs ++ st } := by
      cases v
      case list xs =>
        simp only [bindTarget] at hb
        exact ⟨xs, hb, (plainL_iff xs).1 (by simpa [plain] using hpv),
          step_unpackList hst (.inl rfl) (bindTargets_length ts xs bs hb)⟩
      case map kvs =>
        simp only [bindTarget] at hb
        exact ⟨_, hb, (plainL_iff _).1 (plain_str_map (fun kv : String × Val => kv.1) kvs),
          step_unpackList hst (.inr ⟨kvs, rfl, rfl⟩) (bindTargets_length ts _ bs hb)⟩
      all_goals simp [bindTarget] at hb
    obtain ⟨xs, hbs, hpxs, hstep⟩ := hitems
    have r1 : Reach X.K.ctx X.K.C s { s with pc := s.pc + 1, stack := xs ++ st } :=
      Reach.one (i := .unpackList ts.length) (by rw [hpc]; exact hAt.head) hstep
    obtain ⟨s2, G2, r2, hpc2, hst2, hrel2, hout2, hk2⟩ :=
      sim_target_list X ts xs bs hbs hok' hpxs G (base + 1) { s with pc := s.pc + 1, stack := xs ++ st } st σ cell rs
        hAt.tail (by simp [hpc]) rfl (hrel.same _ rfl rfl rfl)
    exact ⟨s2, G2, r1.trans r2, by simp [hpc2, Nat.add_assoc, Nat.add_comm], hst2, hrel2, hout2, hk2.tail, hk2.head, hk2.clos, hk2.top⟩
theorem sim_target_list (X : SC) : ∀ (ts : List Target) (vs : List Val) (bs : List (String × Val)), bindTargets ts vs = .ok bs →
    (∀ t ∈ ts, targetOk X.K.M t = true) → (∀ v, v ∈ vs → plain v = true) →
    ∀ (G : Ghost) (base : Nat) (s : VmState) (st : List Val) (σ : State) (cell : Nat) (rs : List Nat),
      At X.K.C base (relTargets ts) → s.pc = base → s.stack = vs ++ st → Rel X.K G X.P X.clo σ (cell :: rs) X.env s →
      Done X (cell :: rs) { σ with heap := heapSetAll σ.heap cell bs } s st (base + (relTargets ts).length)
  | [], [], bs, hb, hok, _, G, base, s, st, σ, cell, rs, hAt, hpc, hst, hrel => by
    simp [bindTargets] at hb; subst hb
    exact ⟨s, G, Reach.refl _, by simp [relTargets, hpc], by simpa using hst, by simpa [heapSetAll] using hrel, rfl, Keeps.refl _⟩
  | [], _ :: _, bs, hb, _, _, _, _, _, _, _, _, _, _, _, _, _ => by simp [bindTargets] at hb
  | _ :: _, [], bs, hb, _, _, _, _, _, _, _, _, _, _, _, _, _ => by simp [bindTargets] at hb
  | t :: ts, v :: vs, bs, hb, hok, hpvs, G, base, s, st, σ, cell, rs, hAt, hpc, hst, hrel => by
    simp only [bindTargets] at hb
    split at hb
    · rename_i b1 hb1
      split at hb
      · rename_i b2 hb2
        simp at hb; subst hb
        simp only [relTargets] at hAt ⊢
        exact ((sim_target X t v b1 hb1 (hok t (by simp)) (hpvs v (by simp)) G base s (vs ++ st) σ cell rs hAt.left hpc
          (by simpa using hst) hrel).trans fun s1 G1 hpc1 hst1 hrel1 _ =>
            sim_target_list X ts vs b2 hb2 (fun t' ht' => hok t' (by simp [ht'])) (fun x hx => hpvs x (by simp [hx])) G1
              (base + (relTarget t).length) s1 st _ cell rs hAt.right hpc1 hst1 hrel1).cast_state
          (by simp [heapSetAll_append]) |>.cast (by simp [Nat.add_assoc])
      · simp at hb
    · simp at hb
end

theorem sim_targets (X : SC) : ∀ (ts : List Target) (vs : List Val) (bs : List (String × Val)), bindTargets ts vs = .ok bs →
    (∀ t ∈ ts, targetOk X.K.M t = true) → (∀ v, v ∈ vs → plain v = true) →
    ∀ (G : Ghost) (base : Nat) (s : VmState) (st : List Val) (σ : State) (cell : Nat) (rs : List Nat),
      At X.K.C base (relTargets ts) → s.pc = base → s.stack = vs ++ st → Rel X.K G X.P X.clo σ (cell :: rs) X.env s →
      Stored X (cell :: rs) { σ with heap := heapSetAll σ.heap cell bs } s st (base + (relTargets ts).length) :=
  fun ts vs bs hb hok hp G base s st σ cell rs hAt hpc hst hrel =>
    (sim_target_list X ts vs bs hb hok hp G base s st σ cell rs hAt hpc hst hrel).stored hrel rfl

theorem ABound.mono {heap heap' : Heap} {loc : List Nat} {A : List String} (h : ABound heap loc A) (hle : HeapLe heap heap') :
    ABound heap' loc A := by
  intro x hx
  obtain ⟨id, hid, cell, hc, hb⟩ := h x hx
  obtain ⟨cell', hc', hb'⟩ := hle id x ⟨cell, hc, hb⟩
  exact ⟨id, hid, cell', hc', hb'⟩

theorem ABound.append {heap : Heap} {loc : List Nat} {A B : List String} (h1 : ABound heap loc A) (h2 : ABound heap loc B) :
    ABound heap loc (A ++ B) := by
  intro x hx
  rcases List.mem_append.1 hx with h | h
  · exact h1 x h
  · exact h2 x h

theorem ABound.push {heap : Heap} {loc : List Nat} {A : List String} (h : ABound heap loc A) (cell : Scope)
    (hb : ∀ id ∈ loc, id < heap.length) : ABound (heap ++ [cell]) (heap.length :: loc) A := by
  intro x hx
  obtain ⟨id, hid, c, hc, hx'⟩ := h x hx
  exact ⟨id, by simp [hid], c, by rw [List.getElem?_append_left (hb id hid)]; exact hc, hx'⟩

theorem ABound.of_cell {heap : Heap} {T : Nat} {locR : List Nat} {B : List String}
    (h : ∀ x, x ∈ B → BoundCell heap T x) : ABound heap (T :: locR) B := by
  intro x hx
  obtain ⟨c, hc, hb⟩ := h x hx
  exact ⟨T, by simp, c, hc, hb⟩

/-- evaluate `e`, then assign to the target: `set t = e` and one `with` binding -/
theorem sim_assign {n} (ihE : SegExpr n) {X : SC} {G cell rs σ e v t bs A}
    (hv : evalExpr n X.K.ctx σ.heap ((cell :: rs) ++ X.env) e = .ok v)
    (hb : bindTarget t v = .ok bs) (hse : wfExpr X.K.M X.P A e = true) (hto : targetOk X.K.M t = true)
    (hA : ABound σ.heap (cell :: rs) A) {base a s}
    (hAt : At X.K.C base ((relExpr e base a).1 ++ relTarget t)) (hoof : (relExpr e base a).2.oof = false)
    (hpc : s.pc = base) (hrel : Rel X.K G X.P X.clo σ (cell :: rs) X.env s) :
    Done X (cell :: rs) { σ with heap := heapSetAll σ.heap cell bs } s s.stack
      (base + (relExpr e base a).1.length + (relTarget t).length) := by
  exact (Done.of_pushed hrel (ihE.run (X.ectx G σ.heap (cell :: rs) A) e v hv hse base a s hAt.left hoof hpc (hrel.eok hA (by simp)))).trans
    fun s1 G1 hpc1 hst1 hrel1 _ =>
      sim_target X t v bs hb hto (evalExpr_plain hrel.1.plain n e v hse hv) G1 _ s1 s.stack σ cell rs hAt.right hpc1 hst1 hrel1

/-- the last hypothesis: every capture a `break` / `continue` at this point has to end is open (`EndCapture` needs a
buffer below the one it ends; `cap_of_tail` carries it along) -/
def StmtGoal (n : Nat) (X : SC) (st : Stmt) : Prop :=
  ∀ G σ loc σ' fl, exec n X.K.ctx (loc ++ X.env) σ st = .ok (σ', fl) →
    ∀ A lc, wfStmt X.K.M X.P A lc.isSome st = true → ABound σ.heap loc A → loc ≠ [] →
    ∀ base a s, At X.K.C base (relStmt st base a lc).1.1 → (relStmt st base a lc).1.2.oof = false → s.pc = base →
      Rel X.K G X.P X.clo σ loc X.env s → (∀ l, lc = some l → nCap l.scopes < s.outs.length) →
      Post X loc σ' fl s (base + (relStmt st base a lc).1.1.length) lc

def SimStmt (n : Nat) : Prop := ∀ (X : SC) st, StmtGoal n X st

def SimBlock (n : Nat) : Prop :=
  ∀ (X : SC) ss G σ loc σ' fl, execBlock n X.K.ctx (loc ++ X.env) σ ss = .ok (σ', fl) →
    ∀ A lc, wfBlock X.K.M X.P A lc.isSome ss = true → ABound σ.heap loc A → loc ≠ [] →
    ∀ base a s, At X.K.C base (relBlock ss base a lc).1.1 → (relBlock ss base a lc).1.2.oof = false → s.pc = base →
      Rel X.K G X.P X.clo σ loc X.env s → (∀ l, lc = some l → nCap l.scopes < s.outs.length) →
      Post X loc σ' fl s (base + (relBlock ss base a lc).1.1.length) lc

def SimBinds (n : Nat) : Prop :=
  ∀ (X : SC) binds G heap loc heap' out, bindWith n X.K.ctx heap (loc ++ X.env) binds = .ok heap' →
    ∀ A, wfBinds X.K.M X.P A binds = true → ABound heap loc A → loc ≠ [] →
    ∀ base a s, At X.K.C base (relBinds binds base a).1 → (relBinds binds base a).2.oof = false → s.pc = base →
      Rel X.K G X.P X.clo { heap := heap, out := out } loc X.env s →
      Done X loc { heap := heap', out := out } s s.stack (base + (relBinds binds base a).1.length)

/-- a chain of block filters applied to the value on top of the operand stack -/
def SimFilters (n : Nat) : Prop :=
  ∀ (E : ECtx) fs v v', applyFilters n E.K.ctx E.heap (E.loc ++ E.env) v fs = .ok v' → wfFilters E.K.M E.P E.A fs = true →
    ∀ {s}, E.ok s → ∀ p a st, (relFilters fs p a).2.oof = false → Seg E s p (relFilters fs p a).1 (v :: st) (v' :: st)

/-- the iterations of a `for` loop: the VM is at the `Iterate` instruction; `σ` / `G` describe the
scopes *outside* the loop (the frames below the loop frame) -/
def SimIters (n : Nat) : Prop :=
  ∀ (X : SC) G σ loc σ' t body xs len idx prev,
    execIters n X.K.ctx (loc ++ X.env) σ t body (xs.zip (loopInfosFrom len idx prev xs)) = .ok σ' →
    ∀ A, wfBlock X.K.M X.P (A ++ targetNames t ++ ["loop"]) true body = true → targetOk X.K.M t = true →
    ABound σ.heap loc A → loc ≠ [] → (∀ x, x ∈ xs → plain x = true) → (∀ v, prev = some v → plain v = true) →
    ∀ iterPc endPc a (s : VmState) (l : LoopSt) (f0 : Frame) (fs : List Frame),
      X.K.C[iterPc]? = some (.iterate endPc) → At X.K.C (iterPc + 1) (relTarget t) →
      At X.K.C (iterPc + 1 + (relTarget t).length)
        (relBlock body (iterPc + 1 + (relTarget t).length) a (some ⟨iterPc, endPc, []⟩)).1.1 →
      (relBlock body (iterPc + 1 + (relTarget t).length) a (some ⟨iterPc, endPc, []⟩)).1.2.oof = false →
      X.K.C[iterPc + 1 + (relTarget t).length +
        (relBlock body (iterPc + 1 + (relTarget t).length) a (some ⟨iterPc, endPc, []⟩)).1.1.length]? = some (.jump iterPc) →
      s.pc = iterPc → s.frames = f0 :: fs → f0.loop = some l → f0.closureCtx = none →
      l.withLoopVar = true → l.len = len → l.calls = idx → l.cur = prev → l.rest = xs →
      Rel X.K G X.P X.clo σ loc X.env { s with frames := fs } →
      ∃ s', Reach X.K.ctx X.K.C s s' ∧ s'.pc = endPc ∧ s'.stack = s.stack ∧ s'.frames.tail = fs ∧
        (∃ rest, s'.outs = σ'.out :: rest) ∧ s'.outs.tail = s.outs.tail ∧
        (∃ lf f', s'.frames.head? = some f' ∧ f'.loop = some lf ∧
          lf.iterated = (l.iterated || !xs.isEmpty)) ∧ Ext s.closures s'.closures

end MJ.Vm
