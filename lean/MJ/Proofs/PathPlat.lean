import MJ.Model.PathPlat
import MJ.Proofs.Path
/-!
Lemmas for the platform-generic part of C17 (`MJ/Props/C17.lean`).

One `push` of an argument that contains no separator and has no drive prefix (`PlainArg`) appends
to the path: it keeps drive prefix, root flag and text of the path (`pushP_plain`) and adds the argument
as one component (`compsP_pushP_plain`).  The loop of `safe_join` is a filter followed by a fold of `push`
(`joinLoopG_eq`, for any filter and any use of a checked segment), and `foldl_pushP_plain` carries the
push lemmas through the fold.  The Unix functions of `MJ/Model/Path.lean` are the instance `unix`
(`pushP_unix`, `compsP_unix`, `joinLoopG_unix`); the lemmas on `splitOn` and `comps` at the end are read
off that instance.
-/
namespace MJ.PathPlat
open MJ.Path

/-- separators are neither drive letters nor `:` (true of every platform std supports) -/
def Plat.WF (pl : Plat) : Prop := ∀ c, pl.isSep c = true → isDriveLetter c = false ∧ c ≠ ':'

theorem Plat.forall_isSep {pl : Plat} {P : Char → Prop} (hm : P pl.mainSep) (ha : ∀ c ∈ pl.altSeps, P c)
    (c : Char) (h : pl.isSep c = true) : P c := by
  simp only [Plat.isSep, Bool.or_eq_true, beq_iff_eq, List.contains_iff_mem] at h
  rcases h with rfl | h
  · exact hm
  · exact ha c h

theorem unix_wf : unix.WF := Plat.forall_isSep (by decide) (by decide)

theorem windows_wf : windows.WF := Plat.forall_isSep (by decide) (by decide)

def NoSep (pl : Plat) (s : Str) : Prop := ∀ c ∈ s, pl.isSep c = false

theorem splitSeps_ne_nil (pl : Plat) (s : Str) : splitSeps pl s ≠ [] := by
  fun_cases splitSeps pl s
  · exact List.cons_ne_nil _ _
  · exact List.cons_ne_nil _ _
  · exact consHead_ne_nil _ _

theorem splitSeps_append_sep (pl : Plat) (a b : Str) (c : Char) (hc : pl.isSep c = true) :
    splitSeps pl (a ++ c :: b) = splitSeps pl a ++ splitSeps pl b := by
  induction a with
  | nil => simp [splitSeps, hc]
  | cons x xs ih =>
    by_cases hx : pl.isSep x = true
    · simp [splitSeps, hx, ← ih]
    · simp only [List.cons_append, splitSeps, hx, ih]
      exact consHead_append _ _ _ (splitSeps_ne_nil _ _)

theorem splitSeps_noSep (pl : Plat) (s : Str) (h : NoSep pl s) : splitSeps pl s = [s] := by
  fun_induction splitSeps pl s with
  | case1 => rfl
  | case2 c cs hc => rw [h c List.mem_cons_self] at hc; cases hc
  | case3 c cs hc ih => rw [ih fun d hd => h d (List.mem_cons_of_mem _ hd)]; rfl

/-- the components of a body: `compsP pl p` is `pieces pl (body pl p)` -/
def pieces (pl : Plat) (s : Str) : List Str := (splitSeps pl s).filter keepPiece

theorem pieces_nil (pl : Plat) : pieces pl [] = [] := by simp [pieces, splitSeps, keepPiece]

theorem pieces_single (pl : Plat) (s : Str) (h : NoSep pl s) (hdot : s ≠ ['.']) :
    pieces pl s = if s = [] then [] else [s] := by
  unfold pieces
  rw [splitSeps_noSep _ _ h]
  by_cases he : s = []
  · simp [he, keepPiece]
  · simp [he, keepPiece, hdot]

theorem pieces_append_sep (pl : Plat) (a b : Str) (c : Char) (hc : pl.isSep c = true) :
    pieces pl (a ++ c :: b) = pieces pl a ++ pieces pl b := by
  simp [pieces, splitSeps_append_sep pl a b c hc]

theorem mainSep_isSep (pl : Plat) : pl.isSep pl.mainSep = true := by simp [Plat.isSep]

/-- what `push` appends to a path with body `a` when the argument neither replaces the path nor
    has a root: the argument, after a main separator unless `a` is empty or ends in a separator -/
def pushTail (pl : Plat) (a seg : Str) : Str := if lastNotSep pl a then pl.mainSep :: seg else seg

theorem pushTail_nil (pl : Plat) (seg : Str) : pushTail pl [] seg = seg := rfl

theorem pieces_pushTail (pl : Plat) (a seg : Str) (h : NoSep pl seg) (hdot : seg ≠ ['.']) :
    pieces pl (a ++ pushTail pl a seg) = pieces pl a ++ (if seg = [] then [] else [seg]) := by
  unfold pushTail lastNotSep
  cases hl : a.getLast? with
  | none =>
    have : a = [] := by simpa using hl
    subst this
    simp [pieces_nil, pieces_single pl seg h hdot]
  | some c =>
    obtain ⟨q, rfl⟩ := List.getLast?_eq_some_iff.mp hl
    cases hc : pl.isSep c with
    | true =>
      -- `q ++ [c]` ends in a separator: `c` separates `q` from `seg`, and from nothing in `q ++ [c]`
      have e : q ++ [c] = q ++ c :: [] := rfl
      simp only [hc, Bool.not_true, Bool.false_eq_true, if_false, List.append_assoc, List.singleton_append]
      rw [pieces_append_sep pl q seg c hc, e, pieces_append_sep pl q [] c hc, pieces_nil,
        pieces_single pl seg h hdot, List.append_nil]
    | false =>
      simp only [hc, Bool.not_false, if_true]
      rw [pieces_append_sep pl _ seg _ (mainSep_isSep pl), pieces_single pl seg h hdot]

theorem driveLen_nodrives (pl : Plat) (h : pl.drives = false) (p : Str) : driveLen pl p = 0 := by
  simp [driveLen, h]

theorem driveLen_nil (pl : Plat) : driveLen pl [] = 0 := by simp [driveLen, startsWithDrive]

theorem driveLen_single (pl : Plat) (c : Char) : driveLen pl [c] = 0 := by simp [driveLen, startsWithDrive]

/-- the drive prefix is decided by the first two characters -/
theorem driveLen_cons_cons (pl : Plat) (c d : Char) (q r : Str) :
    driveLen pl (c :: d :: q) = driveLen pl (c :: d :: r) := rfl

theorem driveLen_le_length (pl : Plat) : ∀ p, driveLen pl p ≤ p.length
  | [] => by rw [driveLen_nil]; exact Nat.le_refl _
  | [c] => by rw [driveLen_single]; exact Nat.zero_le _
  | c :: d :: q => by unfold driveLen; split <;> simp

theorem driveLen_eq_two {pl : Plat} {p : Str} (h : driveLen pl p = 2) :
    pl.drives = true ∧ ∃ c q, p = c :: ':' :: q ∧ isDriveLetter c = true := by
  unfold driveLen at h
  split at h
  · rename_i hd
    simp only [Bool.and_eq_true] at hd
    refine ⟨hd.1, ?_⟩
    match p, hd.2 with
    | c :: d :: q, h2 =>
      simp only [startsWithDrive, Bool.and_eq_true, beq_iff_eq] at h2
      exact ⟨c, q, by rw [h2.1], h2.2⟩
  · simp at h

/-- `need_sep` only looks at the body: a path that is all prefix has the empty body, any other
    path ends as its body does -/
theorem needSep_eq (pl : Plat) (p : Str) : needSep pl p = lastNotSep pl (body pl p) := by
  have hle := driveLen_le_length pl p
  unfold needSep body lastNotSep
  rw [List.getLast?_drop]
  generalize driveLen pl p = n at hle
  by_cases h : p.length ≤ n
  · have : n = p.length := Nat.le_antisymm hle h
    subst this
    cases p <;> simp
  · have : n ≠ p.length := fun e => h (e ▸ Nat.le_refl _)
    simp [h, this]

def PlainArg (pl : Plat) (seg : Str) : Prop := NoSep pl seg ∧ driveLen pl seg = 0

theorem hasRoot_false_of_plain {pl : Plat} {seg : Str} (h : PlainArg pl seg) : hasRoot pl seg = false := by
  unfold hasRoot body
  rw [h.2]
  simp only [List.drop_zero]
  cases seg with
  | nil => simp
  | cons c cs => simpa using h.1 c (by simp)

theorem replaces_false_of_plain {pl : Plat} {seg : Str} (h : PlainArg pl seg) : replaces pl seg = false := by
  unfold replaces
  split
  · simp [h.2]
  · exact hasRoot_false_of_plain h

/-- a plain argument is appended: neither of the first two branches of `_push` is taken -/
theorem pushP_of_plain {pl : Plat} {seg : Str} (h : PlainArg pl seg) (p : Str) :
    pushP pl p seg = p ++ pushTail pl (body pl p) seg := by
  unfold pushP pushTail
  rw [replaces_false_of_plain h, hasRoot_false_of_plain h, needSep_eq]
  simp only [Bool.false_eq_true, if_false]
  split <;> rfl

/-- no drive prefix appears or disappears: a path of two characters or more keeps its first two;
    a single separator is no drive letter and a main separator no colon (`WF`); the empty path
    becomes the argument -/
theorem driveLen_push (pl : Plat) (hwf : pl.WF) (seg : Str) (h : PlainArg pl seg) :
    ∀ p, driveLen pl (p ++ pushTail pl (body pl p) seg) = driveLen pl p
  | [] => by rw [show body pl [] = [] from List.drop_nil, pushTail_nil, driveLen_nil]; exact h.2
  | [c] => by
    have e : body pl [c] = [c] := by rw [body, driveLen_single]; rfl
    simp only [e, pushTail, lastNotSep, List.getLast?_singleton]
    cases hc : pl.isSep c with
    | true => cases seg <;> simp [driveLen, startsWithDrive, (hwf c hc).1]
    | false => simp [driveLen, startsWithDrive, (hwf _ (mainSep_isSep pl)).2]
  | c :: d :: q => driveLen_cons_cons pl c d _ q

theorem body_push (pl : Plat) (hwf : pl.WF) (seg : Str) (h : PlainArg pl seg) (p : Str) :
    body pl (p ++ pushTail pl (body pl p) seg) = body pl p ++ pushTail pl (body pl p) seg := by
  have hd := driveLen_push pl hwf seg h p
  unfold body at hd ⊢
  rw [hd, List.drop_append_of_le_length (driveLen_le_length pl p)]

theorem pushP_plain (pl : Plat) (hwf : pl.WF) (p seg : Str) (h : PlainArg pl seg) :
    driveLen pl (pushP pl p seg) = driveLen pl p ∧ hasRoot pl (pushP pl p seg) = hasRoot pl p ∧
    p <+: pushP pl p seg := by
  rw [pushP_of_plain h]
  refine ⟨driveLen_push pl hwf seg h p, ?_, List.prefix_append _ _⟩
  unfold hasRoot
  rw [body_push pl hwf seg h]
  cases body pl p with
  | nil =>
    -- an empty body gets the argument itself, which does not start with a separator
    rw [pushTail_nil]
    cases seg with
    | nil => rfl
    | cons c cs => exact h.1 c List.mem_cons_self
  | cons x xs => rfl

theorem compsP_pushP_plain (pl : Plat) (hwf : pl.WF) (p seg : Str) (h : PlainArg pl seg) (hdot : seg ≠ ['.']) :
    compsP pl (pushP pl p seg) = compsP pl p ++ (if seg = [] then [] else [seg]) := by
  rw [pushP_of_plain h]
  show pieces pl (body pl _) = pieces pl (body pl p) ++ _
  rw [body_push pl hwf seg h, pieces_pushTail pl _ seg h.1 hdot]

theorem foldl_pushP_plain (pl : Plat) (hwf : pl.WF) (segs : List Str)
    (hplain : ∀ s ∈ segs, PlainArg pl s ∧ s ≠ ['.']) (rv : Str) :
    compsP pl (segs.foldl (pushP pl) rv) = compsP pl rv ++ segs.filter (fun s => s != []) ∧
    driveLen pl (segs.foldl (pushP pl) rv) = driveLen pl rv ∧
    hasRoot pl (segs.foldl (pushP pl) rv) = hasRoot pl rv ∧ rv <+: segs.foldl (pushP pl) rv := by
  induction segs generalizing rv with
  | nil => simp
  | cons s rest ih =>
    obtain ⟨hp, hdot⟩ := hplain s List.mem_cons_self
    obtain ⟨i4, i5, i6, i7⟩ := ih (fun t ht => hplain t (List.mem_cons_of_mem _ ht)) (pushP pl rv s)
    obtain ⟨g1, g2, g3⟩ := pushP_plain pl hwf rv s hp
    refine ⟨?_, i5.trans g1, i6.trans g2, g3.trans i7⟩
    rw [List.foldl_cons, i4, compsP_pushP_plain pl hwf rv s hp hdot]
    by_cases he : s = [] <;> simp [he]

theorem flatMap_useSame (segs : List Str) : segs.flatMap useSame = segs := by
  induction segs with
  | nil => rfl
  | cons s rest ih => rw [List.flatMap_cons, ih]; rfl

theorem joinLoopG_eq (pl : Plat) (bad : Str → Bool) (use : Str → List Str) (rv : Str) (tr : Trace)
    (segs : List Str) :
    joinLoopG pl bad use rv tr segs =
      if segs.any bad then none
      else some ((segs.flatMap use).foldl (pushP pl) rv, ⟨tr.checked ++ segs, tr.pushed ++ segs.flatMap use⟩) := by
  induction segs generalizing rv tr with
  | nil => simp [joinLoopG]
  | cons s rest ih =>
    by_cases hb : bad s = true
    · simp [joinLoopG, hb]
    · simp [joinLoopG, hb, ih, List.foldl_append]

theorem safeJoinTr_eq (pl : Plat) (base name : Str) :
    safeJoinTr pl base name =
      if (splitOn '/' name).any badSeg then none
      else some ((splitOn '/' name).foldl (pushP pl) base, ⟨splitOn '/' name, splitOn '/' name⟩) := by
  rw [safeJoinTr, sep_eq, joinLoopG_eq, flatMap_useSame]; rfl

theorem isSep_single (sep c : Char) : Plat.isSep ⟨sep, [], false⟩ c = decide (c = sep) := by
  by_cases h : c = sep <;> simp [Plat.isSep, h]

theorem splitSeps_single (sep : Char) (s : Str) : splitSeps ⟨sep, [], false⟩ s = splitOn sep s := by
  induction s with
  | nil => rfl
  | cons c cs ih => simp only [splitSeps, splitOn, isSep_single, decide_eq_true_eq, ih]

theorem noSep_single {sep : Char} {s : Str} (h : sep ∉ s) : NoSep ⟨sep, [], false⟩ s :=
  fun c hc => by rw [isSep_single]; exact decide_eq_false fun e => h (e ▸ hc)

theorem isSep_unix (c : Char) : unix.isSep c = decide (c = '/') := isSep_single '/' c

theorem splitSeps_unix (s : Str) : splitSeps unix s = splitOn '/' s := splitSeps_single '/' s

theorem body_unix (p : Str) : body unix p = p := by rw [body, driveLen_nodrives unix rfl]; rfl

theorem plainArg_unix {s : Str} (h : '/' ∉ s) : PlainArg unix s := ⟨noSep_single h, driveLen_nodrives unix rfl s⟩

theorem pieces_unix (s : Str) : pieces unix s = comps s := by rw [pieces, splitSeps_unix]; rfl

theorem compsP_unix (p : Str) : compsP unix p = comps p := by
  rw [← pieces_unix, compsP, body_unix]; rfl

theorem hasRoot_unix (p : Str) : hasRoot unix p = isAbs p := by
  rw [hasRoot, body_unix]
  cases p with
  | nil => rfl
  | cons c cs => by_cases h : c = '/' <;> simp [isSep_unix, isAbs, h]

theorem pushP_unix (p seg : Str) : pushP unix p seg = push p seg := by
  have hn : lastNotSep unix p = decide (p ≠ [] ∧ p.getLast? ≠ some '/') := by
    unfold lastNotSep
    cases hl : p.getLast? with
    | none => simp [List.getLast?_eq_none_iff.1 hl]
    | some c =>
      have : p ≠ [] := fun e => by simp [e] at hl
      simp [this, isSep_unix]
  unfold pushP push replaces
  rw [needSep_eq, body_unix, hn, hasRoot_unix, isAbs]
  by_cases h1 : seg.head? = some '/' <;> by_cases h2 : p ≠ [] ∧ p.getLast? ≠ some '/' <;>
    simp [h1, h2, unix]

theorem pushP_unix_fun : pushP unix = push := funext fun p => funext (pushP_unix p)

theorem joinLoopG_unix (rv : Str) (tr : Trace) (segs : List Str) :
    (joinLoopG unix badSeg useSame rv tr segs).map (·.1) = safeJoinLoop rv segs := by
  rw [joinLoopG_eq, safeJoinLoop_eq, pushP_unix_fun, flatMap_useSame]
  split <;> rfl

theorem loadCands_found {base : Str} {fs : Snapshot} {name s : Str} {cands : List (Str → Str)}
    (h : loadCands base fs name cands = .found s) :
    ∃ t ∈ cands, ∃ p, safeJoin base (t name) = some p ∧ fs p = .content s := by
  fun_induction loadCands base fs name cands with
  | case1 => nomatch h
  | case2 t rest hj ih => exact let ⟨u, hu, r⟩ := ih h; ⟨u, List.mem_cons_of_mem _ hu, r⟩
  | case3 t rest p hj c hf => cases h; exact ⟨t, List.mem_cons_self, p, hj, hf⟩
  | case4 t rest p hj hf ih => exact let ⟨u, hu, r⟩ := ih h; ⟨u, List.mem_cons_of_mem _ hu, r⟩
  | case5 t rest p hj hf => nomatch h

end MJ.PathPlat

namespace MJ.Path
open MJ.PathPlat

theorem splitOn_ne_nil (sep : Char) (s : Str) : splitOn sep s ≠ [] :=
  splitSeps_single sep s ▸ splitSeps_ne_nil _ s

theorem splitOn_append_sep (sep : Char) (a b : Str) :
    splitOn sep (a ++ sep :: b) = splitOn sep a ++ splitOn sep b := by
  simp only [← splitSeps_single]
  exact splitSeps_append_sep _ a b sep (by simp [isSep_single])

theorem splitOn_no_sep (sep : Char) (s : Str) (h : sep ∉ s) : splitOn sep s = [s] :=
  splitSeps_single sep s ▸ splitSeps_noSep _ s (noSep_single h)

theorem comps_nil : comps [] = [] := pieces_unix [] ▸ pieces_nil unix

theorem comps_single (s : Str) (h : '/' ∉ s) (hdot : s ≠ ['.']) :
    comps s = if s = [] then [] else [s] :=
  pieces_unix s ▸ pieces_single unix s (noSep_single h) hdot

theorem comps_append_sep (a b : Str) : comps (a ++ '/' :: b) = comps a ++ comps b := by
  simp only [← pieces_unix]
  exact pieces_append_sep unix a b '/' rfl

/-- the "absolute argument replaces the path" branch of `PathBuf::push` is not taken -/
theorem push_of_no_sep (p s : Str) (h : '/' ∉ s) :
    push p s = if p ≠ [] ∧ p.getLast? ≠ some '/' then p ++ '/' :: s else p ++ s := by
  unfold push
  rw [if_neg (head?_ne_of_not_mem h)]

theorem prefix_push (p s : Str) (h : '/' ∉ s) : p <+: push p s := by
  rw [push_of_no_sep p s h]
  split <;> exact List.prefix_append _ _

theorem isAbs_push (p s : Str) (h : '/' ∉ s) : isAbs (push p s) = isAbs p := by
  rw [push_of_no_sep p s h]
  cases p with
  | nil =>
    have := head?_ne_of_not_mem h
    simp [isAbs, this]
  | cons x xs => split <;> simp [isAbs]

theorem comps_push (p s : Str) (h : '/' ∉ s) (hdot : s ≠ ['.']) :
    comps (push p s) = comps p ++ (if s = [] then [] else [s]) := by
  rw [← pushP_unix, ← compsP_unix, ← compsP_unix]
  exact compsP_pushP_plain unix unix_wf p s (plainArg_unix h) hdot

end MJ.Path
