import MJ.Model.Stk
/-!
# Soundness of the operand-stack certificate checker (for `MJ.C01.checkStk_sound`)

`Gam a cs`: the cells `cs` (top first) are described by the abstract entry `a`; `GamS` lifts this to
stacks.  `Inv`: the certificate describes the machine state — in the outermost recursion level the
whole abstract stack of the current pc describes the operand stack; in a level entered through
`loop(…)` into the recursive loop at `t`, the part of the abstract stack *above the floor of `t`*
describes the (relative) operand stack, and the suspended caller, once it gets its result pushed,
satisfies the invariant at its return address.
-/
namespace MJ.Stk

inductive Gam : AE → List Cell → Prop where
  | v (c : Cell) : Gam .v [c]
  | z : Gam .z [.num 0]
  | o : Gam .o [.num 1]
  | l (m : Nat) : Gam (.l m) [.list m]
  | s (min k : Nat) (cs : List Cell) : min ≤ k → cs.length = k → Gam (.s min) (.num k :: cs)
  | p (min k : Nat) (cs : List Cell) : min ≤ k → cs.length = k + 1 → Gam (.p min) (.num k :: cs)

inductive GamS : List AE → List Cell → Prop where
  | nil : GamS [] []
  | cons {a as cs rest} : Gam a cs → GamS as rest → GamS (a :: as) (cs ++ rest)

theorem Gam_single {a : AE} {cs : List Cell} (h : a.single = true) (g : Gam a cs) : ∃ c, cs = [c] := by
  cases g <;> simp [AE.single] at h <;> exact ⟨_, rfl⟩

theorem Gam_le {a b : AE} {cs : List Cell} (h : a.le b = true) (g : Gam a cs) : Gam b cs := by
  revert h
  fun_cases AE.le a b <;> intro h <;> cases g
  · exact .v _
  · exact .z
  · exact .v _
  · cases beq_iff_eq.mp h; exact .s 0 0 [] (Nat.le_refl _) rfl
  · exact .o
  · exact .v _
  · cases beq_iff_eq.mp h; exact .l _
  · exact .v _
  · exact .s _ _ _ (Nat.le_trans (of_decide_eq_true h) ‹_ ≤ _›) ‹_›
  · exact .p _ _ _ (Nat.le_trans (of_decide_eq_true h) ‹_ ≤ _›) ‹_›
  all_goals cases h

theorem leStk_length {as bs : List AE} (h : leStk as bs = true) : as.length = bs.length := by
  revert h
  fun_induction leStk as bs <;> intro h
  · rfl
  · next ih => simp [ih (Bool.and_eq_true_iff.mp h).2]
  · cases h

theorem GamS_le {as bs : List AE} {st : List Cell} (h : leStk as bs = true) (g : GamS as st) : GamS bs st := by
  revert h st
  fun_induction leStk as bs <;> intro st h g
  · exact g
  · next ih =>
    cases g with
    | cons ga gr => exact .cons (Gam_le (Bool.and_eq_true_iff.mp h).1 ga) (ih (Bool.and_eq_true_iff.mp h).2 gr)
  · cases h

theorem leStk_take {as bs : List AE} (n : Nat) (h : leStk as bs = true) : leStk (as.take n) (bs.take n) = true := by
  revert h n
  fun_induction leStk as bs <;> intro n h
  · simp [leStk]
  · next ih =>
    cases n with
    | zero => simp [leStk]
    | succ n => simp [leStk, (Bool.and_eq_true_iff.mp h).1, ih n (Bool.and_eq_true_iff.mp h).2]
  · cases h

theorem GamS_pushV {stk : List AE} {st cs : List Cell} (g : GamS stk st) :
    GamS (List.replicate cs.length .v ++ stk) (cs ++ st) := by
  induction cs with
  | nil => simpa using g
  | cons c cs ih =>
    have : GamS (.v :: (List.replicate cs.length .v ++ stk)) ([c] ++ (cs ++ st)) := .cons (.v c) ih
    simpa [List.replicate_succ] using this

theorem GamS_cons1 {a : AE} {c : Cell} {stk : List AE} {st : List Cell} (ga : Gam a [c]) (g : GamS stk st) :
    GamS (a :: stk) (c :: st) := .cons ga g

theorem GamS_cons_inv {a : AE} {as : List AE} {st : List Cell} (g : GamS (a :: as) st) :
    ∃ cs rest, st = cs ++ rest ∧ Gam a cs ∧ GamS as rest := by
  cases g with
  | cons ga gr => exact ⟨_, _, rfl, ga, gr⟩

theorem GamS_nil_inv {st : List Cell} (g : GamS [] st) : st = [] := by
  cases g; rfl

theorem GamS_length_pos {x : AE} {xs : List AE} {st : List Cell} (g : GamS (x :: xs) st) : 1 ≤ st.length := by
  obtain ⟨cs, rest, rfl, ga, _⟩ := GamS_cons_inv g
  cases ga <;> simp

theorem GamS_top_single {a : AE} {stk : List AE} {st : List Cell} (h : a.single = true) (g : GamS (a :: stk) st) :
    ∃ c rest, st = c :: rest ∧ Gam a [c] ∧ GamS stk rest := by
  obtain ⟨cs, rest, rfl, ga, gr⟩ := GamS_cons_inv g
  obtain ⟨c, rfl⟩ := Gam_single h ga
  exact ⟨c, rest, rfl, ga, gr⟩

theorem GamS_top1 {a : AE} {as : List AE} {c : Cell} {rest : List Cell} (h : a.single = true)
    (g : GamS (a :: as) (c :: rest)) : Gam a [c] ∧ GamS as rest := by
  obtain ⟨c', r', heq, ga, gr⟩ := GamS_top_single h g
  cases heq
  exact ⟨ga, gr⟩

theorem GamS_top_s {m : Nat} {as : List AE} {st : List Cell} (g : GamS (.s m :: as) st) :
    ∃ k rest, st = .num k :: rest ∧ m ≤ k ∧ k ≤ rest.length ∧ GamS as (rest.drop k) := by
  obtain ⟨_, rest, rfl, ga, gr⟩ := GamS_cons_inv g
  cases ga with
  | s _ k cs h1 h2 => exact ⟨k, cs ++ rest, rfl, h1, by simp [h2], by simpa [← h2] using gr⟩

theorem GamS_z_as_s {as : List AE} {st : List Cell} (g : GamS (.z :: as) st) : GamS (.s 0 :: as) st := by
  obtain ⟨_, rest, rfl, ga, gr⟩ := GamS_cons_inv g
  cases ga
  exact .cons (.s 0 0 [] (Nat.le_refl _) rfl) gr

theorem GamS_top_p {m : Nat} {as : List AE} {st : List Cell} (g : GamS (.p m :: as) st) :
    ∃ k cs rest, st = .num k :: (cs ++ rest) ∧ m ≤ k ∧ cs.length = k + 1 ∧ GamS as rest := by
  obtain ⟨_, rest, rfl, ga, gr⟩ := GamS_cons_inv g
  cases ga with
  | p _ k cs h1 h2 => exact ⟨k, cs, rest, rfl, h1, h2, gr⟩

/-- an all-single prefix of `n` abstract entries is `n` cells, and these hold at least the items the
    entries guarantee (the two sums as `sumMin` and `StkStep.unpackLists` fold them, from any start) -/
theorem GamS_singles {stk : List AE} {st : List Cell} (n : Nat) (hn : n ≤ stk.length)
    (hs : (stk.take n).all AE.single = true) (g : GamS stk st) :
    n ≤ st.length ∧ GamS (stk.drop n) (st.drop n) ∧
      ∀ a b, a ≤ b → (stk.take n).foldl (fun acc x => acc + minItems x) a ≤
        (st.take n).foldl (fun acc c => match c with | .list m => acc + m | _ => acc) b := by
  induction n generalizing stk st with
  | zero => exact ⟨Nat.zero_le _, by simpa using g, fun _ _ h => h⟩
  | succ n ih =>
    cases g with
    | nil => simp at hn
    | @cons x as cs rest ga gr =>
      simp only [List.take_succ_cons, List.all_cons, Bool.and_eq_true] at hs
      obtain ⟨c, rfl⟩ := Gam_single hs.1 ga
      obtain ⟨h1, h2, h3⟩ := ih (by simpa using hn) hs.2 gr
      simp only [List.singleton_append, List.length_cons, List.drop_succ_cons, List.take_succ_cons, List.foldl_cons]
      refine ⟨by omega, h2, fun a b hab => h3 _ _ ?_⟩
      -- a list of `m` items adds `m` on both sides, any other entry nothing on the left
      cases ga with
      | l m => exact Nat.add_le_add_right hab m
      | _ => exact Nat.le_trans hab (by split <;> omega)

theorem absStk_sound {i : Instr} {hi out : List AE} {s : State} (ha : absStk i hi = some out)
    (g : GamS hi s.stack) : pre i s = true ∧ ∀ st', StkStep i s.stack st' → GamS out st' := by
  obtain ⟨pc, st, lp, sv⟩ := s
  simp only at g ⊢
  -- a counted segment (or the constant 0 as the count of an empty one) is what `BuildList(None)` and the
  -- dynamic calls consume; a value swapped below its count joins it, and the count is then one behind
  have dyn : ∀ {m as}, GamS (.s m :: as) st →
      pre .buildDyn ⟨pc, st, lp, sv⟩ = true ∧ ∀ st', StkStep .buildDyn st st' → GamS (.v :: as) st' := by
    intro m as g
    obtain ⟨k, rest, rfl, _, hk, gd⟩ := GamS_top_s g
    refine ⟨by simpa [pre] using hk, fun st' hs => ?_⟩
    cases hs with
    | buildDyn _ _ c => exact GamS_cons1 (.v c) gd
  have callDyn : ∀ {recv fn m as}, minArgs recv ≤ m → GamS (.s m :: as) st →
      pre (.callDyn recv fn) ⟨pc, st, lp, sv⟩ = true ∧
        ∀ st', StkStep (.callDyn recv fn) st st' → GamS (.v :: as) st' := by
    intro recv fn m as hm g
    obtain ⟨k, rest, rfl, hmk, hk, gd⟩ := GamS_top_s g
    refine ⟨by simp [pre, hk]; omega, fun st' hs => ?_⟩
    cases hs with
    | callDyn _ _ _ _ c => exact GamS_cons1 (.v c) gd
  have swapSeg : ∀ {a m as}, a.single = true → GamS (a :: .s m :: as) st →
      pre .swap ⟨pc, st, lp, sv⟩ = true ∧ ∀ st', StkStep .swap st st' → GamS (.p m :: as) st' := by
    intro a m as hx g
    obtain ⟨c, _, rfl, _, g1⟩ := GamS_top_single hx g
    obtain ⟨k, rest, rfl, hmk, hk, gd⟩ := GamS_top_s g1
    refine ⟨by simp [pre], fun st' hs => ?_⟩
    cases hs
    have : GamS (.p m :: as) ((.num k :: c :: rest.take k) ++ rest.drop k) :=
      .cons (.p _ k _ hmk (by simp; omega)) gd
    simpa using this
  revert ha
  fun_cases absStk i hi <;> intro ha <;> cases ha
  · next a b hc =>
    obtain ⟨hlen, gd, _⟩ := GamS_singles a hc.1 hc.2 g
    refine ⟨by simpa [pre] using hlen, fun st' hs => ?_⟩
    cases hs with
    | eff _ _ _ cs hb => rw [← hb]; exact GamS_pushV gd
  · exact ⟨rfl, fun st' hs => by cases hs; exact GamS_cons1 .z g⟩
  · exact ⟨rfl, fun st' hs => by cases hs; exact GamS_cons1 .o g⟩
  · exact ⟨rfl, fun st' hs => by cases hs; exact GamS_cons1 (.l _) g⟩
  · next n hc =>
    obtain ⟨hlen, gd, _⟩ := GamS_singles n hc.1 hc.2 g
    exact ⟨by simpa [pre] using hlen, fun st' hs => by cases hs; exact GamS_cons1 (.l n) gd⟩
  · exact dyn g
  · exact dyn (GamS_z_as_s g)
  · next n hc =>
    obtain ⟨hlen, gd, hsum⟩ := GamS_singles n hc.1 hc.2 g
    refine ⟨by simpa [pre] using hlen, fun st' hs => ?_⟩
    cases hs with
    | unpackLists _ _ items hitems =>
      exact .cons (.s _ items.length items (Nat.le_trans (hsum 0 0 (Nat.le_refl 0)) hitems) rfl) gd
  · next n recv fn hc =>
    obtain ⟨hlen, gd, _⟩ := GamS_singles n hc.1 hc.2.1 g
    refine ⟨by simp [pre, hlen, hc.2.2], fun st' hs => ?_⟩
    cases hs with
    | call _ _ _ _ c => exact GamS_cons1 (.v c) gd
  · next hm => exact callDyn hm g
  · next hm => exact callDyn (by omega) (GamS_z_as_s g)
  · next hx => exact swapSeg hx g
  · next hx =>
    obtain ⟨c, _, rfl, ga, g1⟩ := GamS_top_single hx g
    exact swapSeg hx (GamS_cons1 ga (GamS_z_as_s g1))
  · next hxy =>
    obtain ⟨c, _, rfl, ga, g1⟩ := GamS_top_single hxy.1 g
    obtain ⟨d, _, rfl, gb, g2⟩ := GamS_top_single hxy.2 g1
    exact ⟨by simp [pre], fun st' hs => by cases hs; exact GamS_cons1 gb (GamS_cons1 ga g2)⟩
  · -- the constant 1 added to a count that is one behind: a counted segment again
    obtain ⟨c, _, rfl, ga, g1⟩ := GamS_top_single rfl g
    cases ga
    obtain ⟨k, cs, rest, rfl, hmk, hk, gr⟩ := GamS_top_p g1
    refine ⟨by simp [pre], fun st' hs => ?_⟩
    cases hs with
    | addNum => exact .cons (.s _ (k + 1) cs (by omega) hk) gr
    | addOther _ _ _ _ hne => exact absurd ⟨rfl, rfl⟩ (hne k 1)
  · next hab =>
    obtain ⟨c, _, rfl, _, g1⟩ := GamS_top_single hab.1 g
    obtain ⟨d, _, rfl, _, g2⟩ := GamS_top_single hab.2 g1
    exact ⟨by simp [pre], fun st' hs => by cases hs <;> exact GamS_cons1 (.v _) g2⟩
  · next hx =>
    obtain ⟨c, _, rfl, ga, g1⟩ := GamS_top_single hx g
    exact ⟨by simp [pre], fun st' hs => by cases hs; exact GamS_cons1 ga (GamS_cons1 ga g1)⟩
  · next hx =>
    obtain ⟨c, _, rfl, ga, g1⟩ := GamS_top_single rfl g
    cases ga
    obtain ⟨d, _, rfl, _, g2⟩ := GamS_top_single hx g1
    refine ⟨rfl, fun st' hs => ?_⟩
    cases hs with
    | buildMacro _ _ _ _ _ c => exact GamS_cons1 (.v c) g2

theorem StkStep_straight {i : Instr} {st st' : List Cell} (h : StkStep i st st') : isStraight i = true := by
  cases h <;> rfl

theorem absEdges_straight {i : Instr} (pc : Nat) (A : Abs) (h : isStraight i = true) :
    absEdges pc i A = (absStk i A.stk).map (fun out => [(pc + 1, ⟨out, A.loops⟩)]) := by
  cases i <;> simp [isStraight] at h <;> simp only [absEdges] <;> cases absStk _ A.stk <;> rfl

/-- the instructions that pop one value before they go on have edges only for a single entry on top -/
theorem popSingle_some {α : Type} {stk : List AE} {f : AE → List AE → α} {r : α}
    (h : (match stk with
          | a :: rest => if a.single then some (f a rest) else none
          | _ => none) = some r) :
    ∃ a rest, stk = a :: rest ∧ a.single = true ∧ r = f a rest := by
  split at h
  · split at h
    · next hx => exact ⟨_, _, rfl, hx, (Option.some.inj h).symm⟩
    · cases h
  · cases h

theorem absEdges_pushLoop {pc : Nat} {r : Bool} {stk : List AE} {loops : List Nat} {es : List (Nat × Abs)}
    (he : absEdges pc (.pushLoop r) ⟨stk, loops⟩ = some es) :
    ∃ a rest, stk = a :: rest ∧ a.single = true ∧ es = [(pc + 1, ⟨rest, pc :: loops⟩)] :=
  popSingle_some he

theorem absEdges_jumpIfFalse {pc t : Nat} {stk : List AE} {loops : List Nat} {es : List (Nat × Abs)}
    (he : absEdges pc (.jumpIfFalse t) ⟨stk, loops⟩ = some es) :
    ∃ a rest, stk = a :: rest ∧ a.single = true ∧ es = [(pc + 1, ⟨rest, loops⟩), (t, ⟨rest, loops⟩)] :=
  popSingle_some he

theorem absEdges_orPop {pc t : Nat} {i : Instr} {stk : List AE} {loops : List Nat} {es : List (Nat × Abs)}
    (hi : i = .jumpIfFalseOrPop t ∨ i = .jumpIfTrueOrPop t) (he : absEdges pc i ⟨stk, loops⟩ = some es) :
    ∃ a rest, stk = a :: rest ∧ a.single = true ∧ es = [(pc + 1, ⟨rest, loops⟩), (t, ⟨stk, loops⟩)] := by
  rcases hi with rfl | rfl
  · exact popSingle_some he
  · exact popSingle_some he

theorem absEdges_iterate {pc t : Nat} {A : Abs} {es : List (Nat × Abs)} (he : absEdges pc (.iterate t) A = some es) :
    A.loops ≠ [] ∧ es = [(pc + 1, ⟨.v :: A.stk, A.loops⟩), (t, A)] := by
  simp only [absEdges] at he
  split at he
  · cases he
  · next hne => exact ⟨by simpa using hne, (Option.some.inj he).symm⟩

theorem absEdges_popLoopFrame {pc : Nat} {A : Abs} {es : List (Nat × Abs)} (he : absEdges pc .popLoopFrame A = some es) :
    ∃ u L, A.loops = u :: L ∧ es = [(pc + 1, ⟨A.stk, L⟩)] := by
  simp only [absEdges] at he
  split at he
  · next u L hA => exact ⟨u, L, hA, (Option.some.inj he).symm⟩
  · cases he

/-- `FastRecurse`: a counted segment on top (the argument is a number, `push_loop` fails) has no
    successor, a single entry is popped -/
theorem absEdges_fastRecurse {pc : Nat} {stk : List AE} {loops : List Nat} {es : List (Nat × Abs)}
    (he : absEdges pc .fastRecurse ⟨stk, loops⟩ = some es) :
    ∃ a rest, stk = a :: rest ∧
      ((∃ k, a = .s k) ∨ a.single = true ∧ es = [(pc + 1, ⟨rest, loops⟩)]) := by
  simp only [absEdges] at he
  split at he
  · exact ⟨_, _, rfl, .inl ⟨_, rfl⟩⟩
  · split at he
    · next hx => exact ⟨_, _, rfl, .inr ⟨hx, (Option.some.inj he).symm⟩⟩
    · cases he
  · cases he

/-- the live-loop flags `lp` of a recursion level against the loop list `L` that the certificate has where the level
    is executing.  The loops entered in the level are ordinary ones.  Beneath them a level that began at the region's
    start (`top`) has nothing, and its floor is 0; a level entered through the recursive loop at `t` has `t`, flagged,
    and the floor of `t` (what the certificate lists around `t` is not live in this level: the machine left it with
    the suspended caller) -/
inductive Loops (code : Code) (cert : Cert) : Bool → Nat → List Nat → List Bool → Prop where
  | top : Loops code cert true 0 [] []
  | entered {t f L} : isRecLoop code t = true → floorOf cert t = some f → Loops code cert false f (t :: L) [true]
  | inner {top f pc L lp} : Loops code cert top f L lp → Loops code cert top f (pc :: L) (false :: lp)

theorem Loops.isEmpty_eq {code : Code} {cert : Cert} {top : Bool} {f : Nat} {L : List Nat} {lp : List Bool}
    (h : Loops code cert top f L lp) : lp.isEmpty = L.isEmpty := by
  cases h <;> rfl

/-- leaving the innermost loop: an ordinary one stays within the level, the flagged one belongs to a recursion -/
theorem Loops.pop {code : Code} {cert : Cert} {top : Bool} {f u : Nat} {L : List Nat} {lp : List Bool}
    (h : Loops code cert top f (u :: L) lp) :
    (∃ lp', lp = false :: lp' ∧ Loops code cert top f L lp') ∨ (lp = [true] ∧ top = false) := by
  cases h with
  | entered => exact .inr ⟨rfl, rfl⟩
  | inner h => exact .inl ⟨_, rfl, h⟩

/-- the floor of the level is one of those the checker tries at a pc with these loops -/
theorem Loops.floor {code : Code} {cert : Cert} {top : Bool} {f : Nat} {L : List Nat} {lp : List Bool}
    (h : Loops code cert top f L lp) : f = 0 ∨ ∃ t ∈ L, isRecLoop code t = true ∧ floorOf cert t = some f := by
  induction h with
  | top => exact .inl rfl
  | entered hr hf => exact .inr ⟨_, List.mem_cons_self, hr, hf⟩
  | inner _ ih => exact ih.imp_right fun ⟨t, ht, h⟩ => ⟨t, List.mem_cons_of_mem _ ht, h⟩

/-- the current recursion level: above its floor `f` the abstract stack describes the operand stack -/
def Cur (code : Code) (cert : Cert) (top : Bool) (A : Abs) (st : List Cell) (lp : List Bool) (f : Nat) : Prop :=
  f ≤ A.stk.length ∧ GamS (A.stk.take (A.stk.length - f)) st ∧ Loops code cert top f A.loops lp

def Head (code : Code) (cert : Cert) (saved : List Saved) (pc : Nat) (st : List Cell) (lp : List Bool) : Prop :=
  ∃ A f, look cert pc = some A ∧ Cur code cert saved.isEmpty A st lp f

/-- every suspended caller, once its result is pushed, satisfies the invariant at its return address -/
def Tail (code : Code) (cert : Cert) : List Saved → Prop
  | [] => True
  | sv :: rest => ∀ r : List Cell, r.length = (if sv.capture then 1 else 0) →
      Head code cert rest sv.ret (r ++ sv.stack) sv.loops ∧ Tail code cert rest

def Inv (code : Code) (cert : Cert) (s : State) : Prop :=
  Head code cert s.saved s.pc s.stack s.loops ∧ Tail code cert s.saved

theorem look_lt {cert : Cert} {pc : Nat} {A : Abs} (h : look cert pc = some A) : pc < cert.size := by
  unfold look at h
  by_cases hlt : pc < cert.size
  · exact hlt
  · rw [Array.getElem?_eq_none (by omega)] at h
    simp at h

theorem checkStk_parts {code : Code} {cert : Cert} (h : checkStk code cert = true) :
    (∀ e ∈ entries code, look cert e.1 = some ⟨List.replicate e.2 .v, []⟩) ∧
    (∀ t, t < code.size → isRecLoop code t = true → (floorOf cert t).isSome = true) ∧
    (∀ pc, pc < cert.size → checkPc code cert pc = true) := by
  unfold checkStk at h
  simp only [Bool.and_eq_true, List.all_eq_true, decide_eq_true_eq, List.mem_range, Bool.or_eq_true,
    Bool.not_eq_eq_eq_not, Bool.not_true] at h
  exact ⟨h.1.1, fun t ht hr => (h.1.2 t ht).resolve_left (by rw [hr]; nofun), h.2⟩

theorem floorsOf_mem {code : Code} {cert : Cert} {L fs : List Nat} (h : floorsOf code cert L = some fs) :
    0 ∈ fs ∧ ∀ t ∈ L, isRecLoop code t = true → ∀ f, floorOf cert t = some f → f ∈ fs := by
  revert h fs
  fun_induction floorsOf code cert L <;> intro fs h <;> cases h
  · simp
  · next u L fs' hL hr f' hf' ih =>
    obtain ⟨h0, hmem⟩ := ih hL
    refine ⟨List.mem_cons_of_mem _ h0, fun t ht hrt f hf => ?_⟩
    rcases List.mem_cons.mp ht with rfl | ht'
    · rw [hf'] at hf; cases hf; exact List.mem_cons_self
    · exact List.mem_cons_of_mem _ (hmem t ht' hrt f hf)
  · next u L fs' hL hr ih =>
    obtain ⟨h0, hmem⟩ := ih hL
    refine ⟨h0, fun t ht hrt f hf => ?_⟩
    rcases List.mem_cons.mp ht with rfl | ht'
    · exact absurd hrt hr
    · exact hmem t ht' hrt f hf

theorem checkAt_floor {code : Code} {cert : Cert} (h : checkStk code cert = true) {pc : Nat} {A : Abs}
    (hl : look cert pc = some A) {f : Nat}
    (hf : f = 0 ∨ ∃ t ∈ A.loops, isRecLoop code t = true ∧ floorOf cert t = some f) :
    checkAt code cert pc A f = true := by
  have hp := (checkStk_parts h).2.2 pc (look_lt hl)
  unfold checkPc at hp
  rw [hl] at hp
  simp only at hp
  cases hfs : floorsOf code cert A.loops with
  | none => rw [hfs] at hp; simp at hp
  | some fs =>
    rw [hfs] at hp
    apply List.all_eq_true.mp hp
    rcases hf with rfl | ⟨t, ht, hr, hf⟩
    · exact (floorsOf_mem hfs).1
    · exact (floorsOf_mem hfs).2 t ht hr f hf

theorem edges_of {code : Code} {cert : Cert} {pc : Nat} {A : Abs} {f : Nat} {i : Instr}
    (h : checkAt code cert pc A f = true) (hi : code[pc]? = some i) :
    ∃ es, absEdges pc i ⟨A.stk.take (A.stk.length - f), A.loops⟩ = some es ∧
      ∀ e ∈ es, ∃ C, look cert e.1 = some C ∧
        leStk (e.2.stk ++ A.stk.drop (A.stk.length - f)) C.stk = true ∧ e.2.loops = C.loops := by
  unfold checkAt at h
  rw [hi] at h
  simp only [Bool.and_eq_true] at h
  cases he : absEdges pc i ⟨A.stk.take (A.stk.length - f), A.loops⟩ with
  | none => rw [he] at h; simp at h
  | some es =>
    rw [he] at h
    refine ⟨es, rfl, ?_⟩
    intro e hmem
    have := h.2
    simp only [List.all_eq_true] at this
    have he' := this e hmem
    cases hlk : look cert e.1 with
    | none => rw [hlk] at he'; simp at he'
    | some C =>
      rw [hlk] at he'
      simp only [Bool.and_eq_true, decide_eq_true_eq] at he'
      exact ⟨C, rfl, he'.1, he'.2⟩

/-- along a certified edge what the edge leaves above the floor describes the new stack; the flags that go with the
    successor's loops are a separate matter (kept, one pushed, one popped) -/
theorem Cur.edge {code : Code} {cert : Cert} {top : Bool} {A C : Abs} {st st' : List Cell} {lp lp' : List Bool}
    {f : Nat} {out : List AE} (hc : Cur code cert top A st lp f)
    (hle : leStk (out ++ A.stk.drop (A.stk.length - f)) C.stk = true) (g : GamS out st')
    (hl : Loops code cert top f C.loops lp') : Cur code cert top C st' lp' f := by
  have hlen := leStk_length hle
  simp only [List.length_append, List.length_drop] at hlen
  have hf := hc.1
  have hCl : C.stk.length - f = out.length := by omega
  refine ⟨by omega, ?_, hl⟩
  rw [hCl]
  exact GamS_le (by simpa using leStk_take out.length hle) g

/-- follow a certified edge: `Cur.edge` at the state the certificate has for the successor -/
theorem head_edge {code : Code} {cert : Cert} {saved : List Saved} {A : Abs} {f : Nat}
    {st st' : List Cell} {lp lp' : List Bool} (hc : Cur code cert saved.isEmpty A st lp f) {es : List (Nat × Abs)}
    (hall : ∀ e ∈ es, ∃ C, look cert e.1 = some C ∧
        leStk (e.2.stk ++ A.stk.drop (A.stk.length - f)) C.stk = true ∧ e.2.loops = C.loops)
    {pc' : Nat} {out : List AE} {L : List Nat} (hmem : (pc', (⟨out, L⟩ : Abs)) ∈ es) (g : GamS out st')
    (hl : Loops code cert saved.isEmpty f L lp') : Head code cert saved pc' st' lp' := by
  obtain ⟨C, hlC, hle, hloops⟩ := hall _ hmem
  exact ⟨C, f, hlC, hc.edge hle g (hloops ▸ hl)⟩

theorem replicate_false_cons {n : Nat} {L : List Bool} (h : List.replicate n false = false :: L) :
    ∃ m, n = m + 1 ∧ L = List.replicate m false := by
  cases n with
  | zero => simp at h
  | succ m => simp [List.replicate_succ] at h; exact ⟨m, rfl, h.symm⟩

theorem head_straight {code : Code} {cert : Cert} {saved : List Saved} {pc : Nat} {A : Abs}
    {f : Nat} {st st' : List Cell} {lp : List Bool} {i : Instr}
    (hca : checkAt code cert pc A f = true) (hi : code[pc]? = some i) (hc : Cur code cert saved.isEmpty A st lp f)
    (hss : StkStep i st st') : Head code cert saved (pc + 1) st' lp := by
  obtain ⟨es, he, hall⟩ := edges_of hca hi
  rw [absEdges_straight _ _ (StkStep_straight hss)] at he
  cases ha : absStk i (A.stk.take (A.stk.length - f)) with
  | none => rw [ha] at he; simp at he
  | some out =>
    rw [ha] at he
    simp only [Option.map_some, Option.some.injEq] at he
    subst he
    exact head_edge hc hall (by simp) ((absStk_sound (s := ⟨pc, st, lp, []⟩) ha hc.2.1).2 _ hss) hc.2.2

/-- the return state of a recursion site is certified: the caller's continuation with the result pushed -/
theorem site_return {code : Code} {cert : Cert} {saved : List Saved} {pc : Nat} {A : Abs}
    {f : Nat} {st : List Cell} {lp : List Bool} {i : Instr} {arg : Cell} {rest : List Cell} {cap : Bool}
    (hca : checkAt code cert pc A f = true) (hi : code[pc]? = some i) (hc : Cur code cert saved.isEmpty A st lp f)
    (hsite : recursionSite i st = some (arg, rest, cap)) (hnum : arg.isNum = false) :
    ∀ r : List Cell, r.length = (if cap then 1 else 0) → Head code cert saved (pc + 1) (r ++ rest) lp := by
  intro r hr
  unfold recursionSite at hsite
  split at hsite
  · -- `loop(x)` as a call with one argument: the captured output takes the argument's place
    obtain ⟨rfl, rfl, rfl⟩ : _ ∧ _ ∧ _ := by simpa using hsite
    obtain ⟨c, rfl⟩ := List.length_eq_one_iff.mp hr
    exact head_straight hca hi hc (.call 1 _ true _ c)
  · obtain ⟨rfl, rfl, rfl⟩ : _ ∧ _ ∧ _ := by simpa using hsite
    obtain ⟨c, rfl⟩ := List.length_eq_one_iff.mp hr
    exact head_straight hca hi hc (.callDyn _ true 1 _ c)
  · -- `FastRecurse`: nothing is pushed, the argument is gone
    obtain ⟨rfl, rfl, rfl⟩ : _ ∧ _ ∧ _ := by simpa using hsite
    obtain rfl : r = [] := List.eq_nil_of_length_eq_zero hr
    obtain ⟨es, he, hall⟩ := edges_of hca hi
    obtain ⟨x, xs, hx, hk | ⟨hsx, rfl⟩⟩ := absEdges_fastRecurse he
    all_goals
      have g := hc.2.1
      rw [hx] at g
    · obtain ⟨k, rfl⟩ := hk
      obtain ⟨_, _, heq, _⟩ := GamS_top_s g
      cases heq
      cases hnum
    · exact head_edge hc hall (by simp) (GamS_top1 hsx g).2 hc.2.2
  · cases hsite

theorem recLoop_certified {code : Code} {cert : Cert} (h : checkStk code cert = true) {t : Nat}
    (ht : code[t]? = some (.pushLoop true)) :
    ∃ B x restB, look cert t = some B ∧ B.stk = x :: restB ∧ floorOf cert t = some restB.length ∧
      isRecLoop code t = true := by
  have hrec : isRecLoop code t = true := by simp [isRecLoop, ht]
  have := (checkStk_parts h).2.1 t (Array.getElem?_eq_some_iff.mp ht).1 hrec
  unfold floorOf at this ⊢
  cases hl : look cert t with
  | none => rw [hl] at this; simp at this
  | some B =>
    rw [hl] at this
    simp only at this ⊢
    cases hB : B.stk with
    | nil => rw [hB] at this; simp at this
    | cons x restB => exact ⟨B, x, restB, rfl, hB, by simp, hrec⟩

/-- the state right after a recursion entered the recursive loop at `t` -/
theorem recursion_entry {code : Code} {cert : Cert} (h : checkStk code cert = true) {t : Nat}
    (ht : code[t]? = some (.pushLoop true)) {sv : Saved} {saved : List Saved} :
    Head code cert (sv :: saved) (t + 1) [] [true] := by
  obtain ⟨B, x, restB, hlB, hBstk, hfl, hrec⟩ := recLoop_certified h ht
  obtain ⟨es, he, hall⟩ := edges_of (checkAt_floor h hlB (.inl rfl)) ht
  simp only [Nat.sub_zero, List.take_length, List.drop_length, List.append_nil] at he hall
  obtain ⟨a, rest, hx, _, rfl⟩ := absEdges_pushLoop he
  obtain ⟨rfl, rfl⟩ : x = a ∧ restB = rest := by simpa [hBstk] using hx
  obtain ⟨C, hlC, hle, hloops⟩ := hall _ (List.mem_singleton.mpr rfl)
  simp only at hle hloops
  have hlen := leStk_length hle
  refine ⟨C, restB.length, hlC, by omega, ?_, hloops ▸ .entered hrec hfl⟩
  have : C.stk.length - restB.length = 0 := by omega
  rw [this]
  exact .nil

theorem step_inv {code : Code} {cert : Cert} (h : checkStk code cert = true) {s s' : State}
    (hinv : Inv code cert s) (hstep : Step code s s') : Inv code cert s' := by
  obtain ⟨⟨A, f, hl, hc⟩, htail⟩ := hinv
  have hca := checkAt_floor h hl hc.2.2.floor
  have g := hc.2.1
  cases hstep with
  | @straight i st' hi hpre hss => exact ⟨head_straight hca hi hc hss, htail⟩
  | @recurse i t arg rest cap hi hpre hsite hnum ht =>
    exact ⟨recursion_entry h ht, fun r hr => ⟨site_return hca hi hc hsite hnum r hr, htail⟩⟩
  | @pushLoop r a rest hi hst =>
    obtain ⟨es, he, hall⟩ := edges_of hca hi
    obtain ⟨x, xs, hx, hsx, rfl⟩ := absEdges_pushLoop he
    rw [hst, hx] at g
    exact ⟨head_edge hc hall (List.mem_singleton.mpr rfl) (GamS_top1 hsx g).2 (.inner hc.2.2), htail⟩
  | @iterNext t c hi hne =>
    obtain ⟨es, he, hall⟩ := edges_of hca hi
    obtain ⟨_, rfl⟩ := absEdges_iterate he
    exact ⟨head_edge hc hall (by simp) (GamS_cons1 (.v c) g) hc.2.2, htail⟩
  | @iterEnd t hi hne =>
    obtain ⟨es, he, hall⟩ := edges_of hca hi
    obtain ⟨_, rfl⟩ := absEdges_iterate he
    exact ⟨head_edge hc hall (by simp) g hc.2.2, htail⟩
  | @popLoop L hi hlp =>
    obtain ⟨es, he, hall⟩ := edges_of hca hi
    obtain ⟨u, L', hA, rfl⟩ := absEdges_popLoopFrame he
    have hl' := hc.2.2
    rw [show A.loops = u :: L' from hA, hlp] at hl'
    obtain ⟨_, hcons, hl'⟩ | ⟨hcons, _⟩ := hl'.pop <;> cases hcons
    exact ⟨head_edge hc hall (by simp) g hl', htail⟩
  | @popLoopRet L sv rest r hi hlp hsv hr =>
    rw [hsv] at htail
    exact htail r hr
  | @jump t hi =>
    obtain ⟨es, he, hall⟩ := edges_of hca hi
    cases he
    exact ⟨head_edge hc hall (by simp) g hc.2.2, htail⟩
  | @jumpIfFalseFall t a rest hi hst | @jumpIfFalseJump t a rest hi hst =>
    obtain ⟨es, he, hall⟩ := edges_of hca hi
    obtain ⟨x, xs, hx, hsx, rfl⟩ := absEdges_jumpIfFalse he
    rw [hst, hx] at g
    exact ⟨head_edge hc hall (by simp) (GamS_top1 hsx g).2 hc.2.2, htail⟩
  | @orPopFall t a rest hi hst =>
    obtain ⟨i, hi, hor⟩ : ∃ i, code[s.pc]? = some i ∧ (i = .jumpIfFalseOrPop t ∨ i = .jumpIfTrueOrPop t) := by
      rcases hi with hi | hi <;> exact ⟨_, hi, by simp⟩
    obtain ⟨es, he, hall⟩ := edges_of hca hi
    obtain ⟨x, xs, hx, hsx, rfl⟩ := absEdges_orPop hor he
    rw [hst, hx] at g
    exact ⟨head_edge hc hall (by simp) (GamS_top1 hsx g).2 hc.2.2, htail⟩
  | @orPopJump t a rest hi hst =>
    obtain ⟨i, hi, hor⟩ : ∃ i, code[s.pc]? = some i ∧ (i = .jumpIfFalseOrPop t ∨ i = .jumpIfTrueOrPop t) := by
      rcases hi with hi | hi <;> exact ⟨_, hi, by simp⟩
    obtain ⟨es, he, hall⟩ := edges_of hca hi
    obtain ⟨x, xs, hx, hsx, rfl⟩ := absEdges_orPop hor he
    exact ⟨head_edge hc hall (by simp) g hc.2.2, htail⟩

theorem inv_pre {code : Code} {cert : Cert} (h : checkStk code cert = true) {s : State}
    (hinv : Inv code cert s) {i : Instr} (hi : code[s.pc]? = some i) : pre i s = true := by
  obtain ⟨⟨A, f, hl, hc⟩, _⟩ := hinv
  obtain ⟨es, he, _⟩ := edges_of (checkAt_floor h hl hc.2.2.floor) hi
  have g := hc.2.1
  have straight : isStraight i = true → pre i s = true := fun hs => by
    rw [absEdges_straight _ _ hs] at he
    cases ha : absStk i (A.stk.take (A.stk.length - f)) with
    | none => rw [ha] at he; simp at he
    | some out => exact (absStk_sound ha g).1
  -- the instructions that pop: a non-empty abstract stack describes a non-empty stack
  have pops : ∀ {x xs}, A.stk.take (A.stk.length - f) = x :: xs → decide (1 ≤ s.stack.length) = true := by
    intro x xs hx
    rw [hx] at g
    simpa using GamS_length_pos g
  cases i
  case pushLoop r => obtain ⟨_, _, hx, _⟩ := absEdges_pushLoop he; exact pops hx
  case jumpIfFalse t => obtain ⟨_, _, hx, _⟩ := absEdges_jumpIfFalse he; exact pops hx
  case jumpIfFalseOrPop t => obtain ⟨_, _, hx, _⟩ := absEdges_orPop (.inl rfl) he; exact pops hx
  case jumpIfTrueOrPop t => obtain ⟨_, _, hx, _⟩ := absEdges_orPop (.inr rfl) he; exact pops hx
  case fastRecurse => obtain ⟨_, _, hx, _⟩ := absEdges_fastRecurse he; exact pops hx
  case jump => rfl
  case ret => rfl
  case iterate t =>
    obtain ⟨hne, _⟩ := absEdges_iterate he
    simp only [pre, hc.2.2.isEmpty_eq]
    simpa using hne
  case popLoopFrame =>
    obtain ⟨u, L', hA, _⟩ := absEdges_popLoopFrame he
    have hl' := hc.2.2
    rw [show A.loops = u :: L' from hA] at hl'
    -- the loop the level was entered through: a caller is suspended
    obtain ⟨_, hlp, _⟩ | ⟨hlp, hsv⟩ := hl'.pop <;> simp only [pre, hlp]
    rw [hsv]; rfl
  all_goals exact straight rfl

theorem init_inv {code : Code} {cert : Cert} (h : checkStk code cert = true) {s : State} (hs : Init code s) :
    Inv code cert s := by
  obtain ⟨e, he, hpc, hlen, hlp, hsv⟩ := hs
  have hl := (checkStk_parts h).1 e he
  rw [← hpc] at hl
  refine ⟨⟨_, 0, hl, Nat.zero_le _, ?_, by rw [hsv, hlp]; exact .top⟩, by rw [hsv]; trivial⟩
  simp only [Nat.sub_zero, List.take_length]
  rw [← hlen]
  have : ∀ st : List Cell, GamS (List.replicate st.length .v) st := by
    intro st
    have := GamS_pushV (stk := []) (st := []) (cs := st) .nil
    simpa using this
  exact this s.stack

theorem reach_inv {code : Code} {cert : Cert} (h : checkStk code cert = true) {s t : State}
    (hs : Inv code cert s) (hr : Reach code s t) : Inv code cert t := by
  induction hr with
  | refl => exact hs
  | tail _ hstep ih => exact step_inv h ih hstep

end MJ.Stk
