import MJ.Model.NumX
import MJ.Proofs.Num
import MJ.Proofs.NumLex
import MJ.Proofs.CmpNum
/-! Every integer operator is `opOn` of what `coerce` returns (`binop_eq_opOn`), and on two `i128`s
`opOn` is the `checked_*` method by contract (`opOn_eq`); with `coerce_eq` a `binop` is a function of
the two values: `binop_spec`, which `MJ/Props/C08.lean` reads.  A `Bool` operand is the `u64` 0 / 1
(`coerceX_embed`).  A C08 integer seen in the value model shared with C07 (`ofRepr_int`) takes the
tests `odd` / `even` / `divisibleby` from C07's `toI128_int`, `coerceN_int_eq`.  `parseI128` reads
every spelling `intText plus k v` as `v`, and fails when `v` is no `i128` (`parseI128_intText`). -/
namespace MJ.NumX
open MJ.Num MJ.F64 MJ.Val MJ.NumF MJ.NumLex

theorem binop_eq_opOn (op : Op) (a b : NumRepr) : binop op a b = opOn op (coerce a b) := by
  cases h : coerce a b with
  | none => cases op <;> simp [binop, add, sub, mul, intDiv, rem, pow, opOn, h]
  | some p =>
    obtain ⟨x, y⟩ := p
    cases op <;> simp only [binop, add, sub, mul, intDiv, rem, pow, opOn, h]
    cases powChecked x y <;> rfl

theorem opOn_eq (op : Op) {x y : Int} (hx : InI128 x) (hy : InI128 y) :
    opOn op (some (x, y)) = if op.Defined x y then finish (chk (op.denote x y)) else .err := by
  cases op
  · exact (if_pos trivial).symm
  · exact (if_pos trivial).symm
  · exact (if_pos trivial).symm
  · show (if y ≠ 0 then finish (checkedDivEuclid x y) else .err) = if y ≠ 0 then finish (chk (x / y)) else .err
    split
    · next h => rw [checkedDivEuclid_eq hx h]
    · rfl
  · show finish (if y = -1 then some 0 else checkedRemEuclid x y) = if y ≠ 0 then finish (chk (x % y)) else .err
    by_cases h : y = 0
    · subst h; rfl
    · rw [remArm_eq x hy h, if_pos h]
  · exact powArm_eq x y

/-- C08 for the six binary operators, exact or fail, as one equation in the two values -/
theorem binop_spec (op : Op) {a b : NumRepr} (ha : a.WF) (hb : b.WF) :
    binop op a b =
      if InI128 a.val ∧ InI128 b.val ∧ op.Defined a.val b.val ∧ InI128 (op.denote a.val b.val) then
        .ok (intAsValue (op.denote a.val b.val))
      else .err := by
  rw [binop_eq_opOn, coerce_eq ha hb]
  by_cases hin : InI128 a.val ∧ InI128 b.val
  · rw [if_pos hin, opOn_eq op hin.1 hin.2, finish_chk]
    by_cases hd : op.Defined a.val b.val <;> by_cases hr : InI128 (op.denote a.val b.val) <;>
      simp only [hin, hd, hr, and_self, and_true, and_false, if_true, if_false]
  · rw [if_neg hin, if_neg (fun h => hin ⟨h.1, h.2.1⟩)]
    cases op <;> rfl

theorem binop_ok {op : Op} {a b r : NumRepr} (ha : a.WF) (hb : b.WF) (h : binop op a b = .ok r) :
    (InI128 a.val ∧ InI128 b.val ∧ op.Defined a.val b.val ∧ InI128 (op.denote a.val b.val)) ∧
      r = intAsValue (op.denote a.val b.val) := by
  rw [binop_spec op ha hb] at h
  split at h
  · next hc => injection h with h; exact ⟨hc, h.symm⟩
  · cases h

theorem embed_val (a : IOpnd) : (embed a).val = a.val := by
  cases a with
  | int r => rfl
  | bool b => cases b <;> rfl

theorem embed_wf {a : IOpnd} (h : a.WF) : (embed a).WF := by
  cases a with
  | int r => exact h
  | bool b => cases b <;> decide

theorem toI128X_embed (a : IOpnd) : toI128X a = toI128 (embed a) := by
  cases a with
  | int r => rfl
  | bool b => cases b <;> rfl

theorem coerceX_embed {a b : IOpnd} (ha : a.WF) (hb : b.WF) :
    coerceX a b = coerce (embed a) (embed b) := by
  have key : ∀ {a b : IOpnd}, a.WF → b.WF →
      (match toI128X a with
        | none => none
        | some x => match toI128X b with
          | none => none
          | some y => some (x, y)) = coerce (embed a) (embed b) := by
    intro a b ha hb
    rw [toI128X_embed, toI128X_embed]
    exact (coerceViaTryFrom_eq (embed_wf ha) (embed_wf hb)).trans (coerce_eq (embed_wf ha) (embed_wf hb)).symm
  cases a with
  | int x =>
    cases b with
    | int y => rfl
    | bool q => exact key (a := .int x) (b := .bool q) ha hb
  | bool p =>
    cases b with
    | int y => exact key (a := .bool p) (b := .int y) ha hb
    | bool q => exact key (a := .bool p) (b := .bool q) ha hb

theorem tmod_eq_zero_iff_emod (a b : Int) : Int.tmod a b = 0 ↔ a % b = 0 :=
  ⟨fun h => Int.emod_eq_zero_of_dvd (Int.dvd_of_tmod_eq_zero h),
   fun h => Int.tmod_eq_zero_of_dvd (Int.dvd_of_emod_eq_zero h)⟩

theorem tmod_two_ne_zero_iff (v : Int) : Int.tmod v 2 ≠ 0 ↔ v % 2 = 1 := by
  rw [Ne, tmod_eq_zero_iff_emod]; omega

theorem wrappingRem_eq_zero_iff (a b : Int) : wrappingRem a b = 0 ↔ a % b = 0 := by
  unfold wrappingRem
  split
  · rename_i hb
    subst hb
    constructor
    · intro _; rw [Int.emod_neg, Int.emod_one]
    · intro _; rfl
  · exact tmod_eq_zero_iff_emod a b

/-- the `i128` range as the value model spells it -/
theorem inI128_iff (v : Int) : i128Min ≤ v ∧ v ≤ i128Max ↔ InI128 v := by
  unfold i128Min i128Max InI128; omega

theorem ofRepr_int (r : NumRepr) :
    (ofRepr r).isFloat = false ∧ (ofRepr r).int = r.val ∧ (r.WF → (ofRepr r).WF) := by
  cases r <;> exact ⟨rfl, rfl, fun h => by
    simp only [ofRepr, N.WF, NumRepr.WF, u64Max, i64Min, i64Max, u128Max, i128Min, i128Max] at h ⊢; omega⟩

theorem tryInt_ofRepr (r : NumRepr) : (ofRepr r).toI128 = chk r.val := by
  rw [MJ.CmpNum.toI128_int _ (ofRepr_int r).1, (ofRepr_int r).2.1]
  simp only [inI128_iff, chk]

theorem test_ofRepr (r : NumRepr) (f : Int → Bool) :
    (match tryI128 (.int r) with | some v => f v | none => false) =
      (decide (InI128 r.val) && f r.val) := by
  show (match (ofRepr r).toI128 with | some v => f v | none => false) = _
  rw [tryInt_ofRepr r]
  by_cases hin : InI128 r.val <;> simp [chk, hin]

/-- `coerce(a, b, false)` on two integers of C08: C07's `coerceN_int_eq` read through `ofRepr` -/
theorem coerceN_ofRepr {a b : NumRepr} (ha : a.WF) (hb : b.WF) :
    coerceN (ofRepr a) (ofRepr b) =
      if InI128 a.val ∧ InI128 b.val then some (.i a.val b.val) else none := by
  obtain ⟨fa, ia, wa⟩ := ofRepr_int a
  obtain ⟨fb, ib, wb⟩ := ofRepr_int b
  rw [MJ.CmpNum.coerceN_int_eq _ _ fa fb (wa ha) (wb hb), ia, ib]
  simp only [inI128_iff]

theorem digit36_lt_ten {c : Char} {e : Nat} (h : digit36 c = some e) (he : e < 10) : isDigit c = true := by
  revert h
  -- one goal per arm of `digit36`: a digit arm names `c`, a letter arm gives `e ≥ 10`
  fun_cases digit36 c <;> intro h <;> cases h
  all_goals first | omega | (subst_vars; rfl)

theorem isDigit_of_digitVal {c : Char} {d : Nat} (h : digitVal 10 c = some d) : isDigit c = true := by
  unfold digitVal at h
  cases heq : digit36 c with
  | none => rw [heq] at h; cases h
  | some e =>
    rw [heq] at h
    by_cases hlt : e < 10
    · exact digit36_lt_ten heq hlt
    · simp only [hlt, if_false] at h; cases h

theorem parseDigits_all_digits {ds : List Char} {acc n : Nat} (h : parseDigits 10 acc ds = some n) :
    ∀ c ∈ ds, isDigit c = true := by
  induction ds generalizing acc with
  | nil => intro c hc; cases hc
  | cons d ds ih =>
    intro c hc
    simp only [parseDigits] at h
    cases hd : digitVal 10 d with
    | none => rw [hd] at h; cases h
    | some v =>
      rw [hd] at h
      rcases List.mem_cons.1 hc with rfl | hc
      · exact isDigit_of_digitVal hd
      · exact ih h c hc

theorem isDigit_not_sign {c : Char} (h : isDigit c = true) : c ≠ '-' ∧ c ≠ '+' :=
  ⟨ne_of_isDigit h (by decide), ne_of_isDigit h (by decide)⟩

/-- spelling of an integer: optional sign, `k` leading zeros, the decimal digits -/
def intText (plus : Bool) (k : Nat) (v : Int) : List Char :=
  (if v < 0 then ['-'] else if plus then ['+'] else []) ++
    (List.replicate k '0' ++ Nat.toDigits 10 v.natAbs)

theorem body_parse (k n : Nat) :
    parseDigits 10 0 (List.replicate k '0' ++ Nat.toDigits 10 n) = some n := by
  rw [parseDigits_zeros (by omega), parseDigits_toDigits (by omega) (by omega)]

/-- where `parseI128` looks for the digits: after a sign, or at the first character itself -/
theorem digits_shape (c : Char) (rest : List Char) :
    let digits := if c = '-' ∨ c = '+' then rest else c :: rest
    c :: rest = digits ∨ c :: rest = '+' :: digits ∨ c :: rest = '-' :: digits := by
  by_cases hm : c = '-'
  · exact Or.inr (Or.inr (by rw [if_pos (Or.inl hm), hm]))
  · by_cases hp : c = '+'
    · exact Or.inr (Or.inl (by rw [if_pos (Or.inr hp), hp]))
    · exact Or.inl (by rw [if_neg (fun h => h.elim hm hp)])

theorem inI128_natCast (n : Nat) :
    InI128 (n : Int) ↔ (n : Int) < 170141183460469231731687303715884105728 := by
  unfold InI128; omega

theorem inI128_neg_natCast (n : Nat) :
    InI128 (-(n : Int)) ↔ (n : Int) ≤ 170141183460469231731687303715884105728 := by
  unfold InI128; omega

theorem parseI128_unsigned {ds : List Char} {n : Nat} (hne : ds ≠ []) (hp : parseDigits 10 0 ds = some n) :
    parseI128 ds = chk (n : Int) := by
  cases ds with
  | nil => exact absurd rfl hne
  | cons c rest =>
    have hc := isDigit_not_sign (parseDigits_all_digits hp c (List.mem_cons_self ..))
    simp only [parseI128, hc.1, hc.2, or_self, if_false, decide_false, hp, Bool.false_eq_true, chk,
      inI128_natCast]
    simp

theorem parseI128_minus {ds : List Char} {n : Nat} (hne : ds ≠ []) (hp : parseDigits 10 0 ds = some n) :
    parseI128 ('-' :: ds) = chk (-(n : Int)) := by
  simp [parseI128, hne, hp, chk, inI128_neg_natCast]

theorem parseI128_plus {ds : List Char} {n : Nat} (hne : ds ≠ []) (hp : parseDigits 10 0 ds = some n) :
    parseI128 ('+' :: ds) = chk (n : Int) := by
  simp [parseI128, hne, hp, chk, inI128_natCast]

theorem parseI128_intText (plus : Bool) (k : Nat) (v : Int) : parseI128 (intText plus k v) = chk v := by
  have hp := body_parse k v.natAbs
  have hne := spelling_ne_nil 10 k v.natAbs
  unfold intText
  by_cases hv : v < 0
  · have h2 : -(v.natAbs : Int) = v := by omega
    simp only [if_pos hv, List.cons_append, List.nil_append, parseI128_minus hne hp, h2]
  · have h2 : (v.natAbs : Int) = v := by omega
    cases plus <;>
      simp only [if_neg hv, if_true, if_false, Bool.false_eq_true, List.cons_append, List.nil_append,
        parseI128_plus hne hp, parseI128_unsigned hne hp, h2]

theorem isIntText_signed {ds : List Char} (hne : ds ≠ []) (hall : ∀ c ∈ ds, isDigit c = true)
    {sign : List Char} (hs : sign = ['-'] ∨ sign = ['+'] ∨ sign = []) : isIntText (sign ++ ds) = true := by
  cases ds with
  | nil => exact absurd rfl hne
  | cons c rest =>
    have hc : isDigit c = true := hall c (List.mem_cons_self ..)
    have hr : rest.all isDigit = true :=
      List.all_eq_true.2 (fun x hx => hall x (List.mem_cons_of_mem _ hx))
    rcases hs with rfl | rfl | rfl
    · simp [isIntText, hc, hr]
    · simp [isIntText, hc, hr]
    · cases rest <;> simp_all [isIntText]

theorem isIntText_intText (plus : Bool) (k : Nat) (v : Int) : isIntText (intText plus k v) = true := by
  refine isIntText_signed (spelling_ne_nil 10 k v.natAbs) (parseDigits_all_digits (body_parse k v.natAbs)) ?_
  split
  · exact Or.inl rfl
  · split
    · exact Or.inr (Or.inl rfl)
    · exact Or.inr (Or.inr rfl)

end MJ.NumX
