import MJ.Model.Store
/-!
Per-thread and process-wide state next to the store (C15), one invariant each: the state-id counter
(`IdSys.Inv`: ids are handed out in creation order), the serialisation flag with its drop guards
(`FlagInv`: dropping the live guards, innermost first, gives back the flag of the outside), the
handle counter (`HandlesInv`: no parked handle is above it).
-/
namespace MJ.Store

def IdSys.Inv (s : IdSys) : Prop := s.created.map (·.2) = List.range s.next

theorem IdSys.init_inv : IdSys.init.Inv := rfl

theorem IdSys.newState_inv (s : IdSys) (t : Nat) (h : s.Inv) : (s.newState t).Inv := by
  unfold IdSys.Inv at h ⊢
  simp [IdSys.newState, List.map_append, h, List.range_succ]

theorem IdSys.run_inv (ts : List Nat) : ∀ s : IdSys, s.Inv → (s.run ts).Inv := by
  induction ts with
  | nil => intro s h; exact h
  | cons t ts ih => intro s h; exact ih _ (IdSys.newState_inv s t h)

/-- the `p`-th state ever created has id `p`, whichever thread created it -/
theorem IdSys.id_eq_index (s : IdSys) (h : s.Inv) {p t i : Nat} (hp : s.created[p]? = some (t, i)) :
    i = p := by
  have h1 : (s.created.map (·.2))[p]? = some i := by simp [List.getElem?_map, hp]
  rw [h] at h1
  have h2 := List.getElem?_eq_some_iff.mp h1
  obtain ⟨_, h3⟩ := h2
  simpa using h3.symm

/-- the flag once every live guard has been dropped, innermost first -/
def restored (ser : Bool) : List Bool → Bool
  | [] => ser
  | g :: gs => restored (if g then false else ser) gs

/-- every way out of the live conversions leads back to the flag value `f₀` -/
def FlagInv (f₀ : Bool) (t : ThreadState) : Prop := restored t.serializing t.guards = f₀

theorem dropGuard_restored (u : Bool) (t : ThreadState) :
    restored (dropGuard true u t).serializing (dropGuard true u t).guards = restored t.serializing t.guards := by
  unfold dropGuard
  split
  · rfl
  · rename_i g gs hg
    rw [hg, Bool.true_or, Bool.and_true]
    rfl

theorem FlagInv.step (f₀ : Bool) (t : ThreadState) (e : ConvEv) (h : FlagInv f₀ t) :
    FlagInv f₀ (t.step e) := by
  cases e with
  | leave => exact (dropGuard_restored false t).trans h
  | enter =>
    -- the new guard remembers whether the flag was clear: dropping it puts the flag back
    show restored (if (!t.serializing) then false else true) t.guards = f₀
    rw [show (if (!t.serializing) then false else true) = t.serializing by cases t.serializing <;> rfl]
    exact h
  | park v =>
    show restored (t.step (.park v)).serializing (t.step (.park v)).guards = f₀
    simp only [ThreadState.step]
    split <;> exact h
  | take => exact h

theorem FlagInv.run (f₀ : Bool) (es : List ConvEv) : ∀ t, FlagInv f₀ t → FlagInv f₀ (t.run es) := by
  induction es with
  | nil => intro t h; exact h
  | cons e es ih => intro t h; exact ih _ (FlagInv.step f₀ t e h)

theorem FlagInv.of_no_guards {t : ThreadState} (hg : t.guards = []) : FlagInv t.serializing t := by
  unfold FlagInv
  rw [hg]
  rfl

theorem flag_of_no_guards {f₀ : Bool} {t : ThreadState} (h : FlagInv f₀ t) (hg : t.guards = []) :
    t.serializing = f₀ := by
  unfold FlagInv at h
  rwa [hg] at h

theorem unwind_all : ∀ (n : Nat) (t : ThreadState), t.guards.length = n →
    (unwind true t n).guards = [] ∧ (unwind true t n).serializing = restored t.serializing t.guards := by
  intro n
  induction n with
  | zero =>
    intro t hl
    rw [List.length_eq_zero_iff.mp hl]
    exact ⟨List.length_eq_zero_iff.mp hl, rfl⟩
  | succ n ih =>
    intro t hl
    obtain ⟨g, gs, hg⟩ := List.exists_cons_of_length_eq_add_one hl
    rw [← dropGuard_restored true t]
    exact ih _ (by simp [dropGuard, hg] at hl ⊢; exact hl)

def HandlesInv (t : ThreadState) : Prop := ∀ p ∈ t.handles, p.1 ≤ t.lastHandle

theorem HandlesInv.step (t : ThreadState) (e : ConvEv) (h : HandlesInv t) : HandlesInv (t.step e) := by
  cases e with
  | enter => exact h
  | leave =>
    intro p hp
    have : (dropGuard true false t).handles = t.handles ∧ (dropGuard true false t).lastHandle = t.lastHandle := by
      unfold dropGuard; cases t.guards <;> simp
    simp only [ThreadState.step, this.1, this.2] at hp ⊢
    exact h p hp
  | park v =>
    simp only [ThreadState.step]
    by_cases hs : t.serializing = true
    · simp only [hs, if_true]
      intro p hp
      simp only [List.mem_cons] at hp
      rcases hp with rfl | hp
      · simp
      · have := h p hp; simp only; omega
    · simp only [hs]; exact h
  | take =>
    intro p hp
    exact h p (List.mem_of_mem_drop hp)

theorem HandlesInv.run (es : List ConvEv) : ∀ t, HandlesInv t → HandlesInv (t.run es) := by
  induction es with
  | nil => intro t h; exact h
  | cons e es ih => intro t h; exact ih _ (HandlesInv.step t e h)

end MJ.Store
