import MJ.Model.Serde
/-! The value-handle side channel (C16).  The two tiers of the registry are read as one association list
(`Registry.toList`), on which `lookup`, `remove` and (up to the order of the entries) `insert` are `ovLookup`,
`ovRemove` and `ovInsert`; so the registry is a finite map (`lookup_insert`, `lookup_remove`, `registry_refines_map`), and an embedded value comes back
as itself (`serM_fst`). -/
namespace MJ.Serde

def ovLookup : List (Nat × V) → Nat → Option V
  | [], _ => none
  | (h', v') :: rest, h => if h' = h then some v' else ovLookup rest h

/-- what `remove` would find for a handle (specification only) -/
def Registry.lookup (r : Registry) (h : Nat) : Option V :=
  match r.single with
  | some (h0, v0) => if h0 = h then some v0 else ovLookup r.overflow h
  | none => ovLookup r.overflow h

theorem ovLookup_ovInsert (ov : List (Nat × V)) (h h' : Nat) (v : V) :
    ovLookup (ovInsert ov h v) h' = if h' = h then some v else ovLookup ov h' := by
  induction ov with
  | nil => simp [ovInsert, ovLookup, eq_comm]
  | cons p ps ih =>
    simp only [ovInsert, ovLookup]
    split <;> split <;> simp_all [ovLookup, eq_comm]

theorem ovLookup_ovRemove_ne (ov : List (Nat × V)) (h h' : Nat) (hne : h' ≠ h) :
    ovLookup (ovRemove ov h).2 h' = ovLookup ov h' := by
  induction ov with
  | nil => rfl
  | cons p ps ih =>
    simp only [ovRemove, ovLookup]
    split <;> split <;> simp_all [ovLookup]

theorem ovRemove_fst (l : List (Nat × V)) (h : Nat) : (ovRemove l h).1 = ovLookup l h := by
  induction l with
  | nil => rfl
  | cons p ps ih =>
    simp only [ovRemove, ovLookup]
    split <;> simp_all

theorem ovRemove_ovInsert_fresh (l : List (Nat × V)) (h : Nat) (v : V) (hl : ovLookup l h = none) :
    (ovRemove (ovInsert l h v) h).2 = l := by
  induction l with
  | nil => simp [ovInsert, ovRemove]
  | cons p ps ih =>
    obtain ⟨k, w⟩ := p
    by_cases hk : k = h
    · simp [ovLookup, hk] at hl
    · simp only [ovLookup, hk, if_false] at hl
      simp [ovInsert, ovRemove, hk, ih hl]

/-- the inline entry, then the map: `lookup`, `remove` and `insert` act on this list as `ovLookup`,
`ovRemove` and (up to the order of the entries) `ovInsert` do -/
def Registry.toList (r : Registry) : List (Nat × V) :=
  match r.single with
  | some p => p :: r.overflow
  | none => r.overflow

theorem lookup_toList (r : Registry) (h : Nat) : r.lookup h = ovLookup r.toList h := by
  rcases r with ⟨_ | ⟨h0, v0⟩, ov⟩ <;> rfl

theorem remove_toList (r : Registry) (h : Nat) : (r.remove h).1 = (ovRemove r.toList h).1 ∧
    (r.remove h).2.toList = (ovRemove r.toList h).2 := by
  rcases r with ⟨_ | ⟨h0, v0⟩, ov⟩
  · exact ⟨rfl, rfl⟩
  · by_cases hh : h0 = h <;> simp [Registry.remove, Registry.toList, ovRemove, hh]

/-- `insert` case by case.  This is where the fast-path condition regenerated from the source
(`MJ.Gen.registryInsertFastPath`) is used: the inline slot is taken only when it is free *and* nothing
has spilled yet. -/
theorem Registry.insert_cases (r : Registry) (h : Nat) (v : V) :
    r.insert h v =
      match r.single, r.overflow with
      | none, [] => { single := some (h, v), overflow := [] }
      | none, ov => { single := none, overflow := ovInsert ov h v }
      | some (h0, v0), ov => { single := none, overflow := ovInsert (ovInsert ov h0 v0) h v } := by
  obtain ⟨single, ov⟩ := r
  cases single with
  | none =>
    cases ov with
    | nil => simp [Registry.insert, MJ.Gen.registryInsertFastPath]
    | cons p ps => simp [Registry.insert, MJ.Gen.registryInsertFastPath]
  | some hv =>
    obtain ⟨h0, v0⟩ := hv
    cases ov <;> simp [Registry.insert, MJ.Gen.registryInsertFastPath]

/-- `insert` is `ovInsert` into a list that holds what the registry held (the spilled inline entry goes to
the end of the map, so the list itself may differ) -/
theorem insert_toList (r : Registry) (h : Nat) (v : V) :
    ∃ l, (r.insert h v).toList = ovInsert l h v ∧ ∀ k, ovLookup l k = r.lookup k := by
  rw [Registry.insert_cases]
  rcases r with ⟨_ | ⟨h0, v0⟩, ov⟩
  · cases ov
    · exact ⟨[], rfl, fun _ => rfl⟩
    · exact ⟨_, rfl, fun _ => rfl⟩
  · exact ⟨ovInsert ov h0 v0, rfl, fun k => by simp [ovLookup_ovInsert, Registry.lookup, eq_comm]⟩

theorem lookup_insert (r : Registry) (h h' : Nat) (v : V) :
    (r.insert h v).lookup h' = if h' = h then some v else r.lookup h' := by
  obtain ⟨l, hl, hk⟩ := insert_toList r h v
  rw [lookup_toList, hl, ovLookup_ovInsert, hk]

theorem remove_fst (r : Registry) (h : Nat) : (r.remove h).1 = r.lookup h := by
  rw [(remove_toList r h).1, ovRemove_fst, lookup_toList]

theorem lookup_remove_ne (r : Registry) (h h' : Nat) (hne : h' ≠ h) : (r.remove h).2.lookup h' = r.lookup h' := by
  rw [lookup_toList, (remove_toList r h).2, ovLookup_ovRemove_ne _ _ _ hne, lookup_toList]

theorem remove_insert (r : Registry) (h : Nat) (v : V) : ((r.insert h v).remove h).1 = some v := by
  rw [remove_fst, lookup_insert, if_pos rfl]

theorem remove_insert_frame (r : Registry) (h h' : Nat) (v : V) (hne : h' ≠ h) :
    ((r.insert h v).remove h).2.lookup h' = r.lookup h' := by
  rw [lookup_remove_ne _ _ _ hne, lookup_insert, if_neg hne]

theorem remove_insert_gone (r : Registry) (h : Nat) (v : V) (hfresh : r.lookup h = none) :
    ((r.insert h v).remove h).2.lookup h = none := by
  obtain ⟨l, hl, hk⟩ := insert_toList r h v
  rw [← hk] at hfresh
  rw [lookup_toList, (remove_toList _ h).2, hl, ovRemove_ovInsert_fresh l h v hfresh, hfresh]

/-- no handle twice in the overflow map (a `BTreeMap`) -/
def ovNodup : List (Nat × V) → Prop
  | [] => True
  | (h, _) :: rest => ovLookup rest h = none ∧ ovNodup rest

/-- registries reachable through `insert` / `remove`: the inline slot is only used while nothing has
spilled, and the map has no duplicate keys -/
def Registry.Inv (r : Registry) : Prop :=
  (∀ p, r.single = some p → r.overflow = []) ∧ ovNodup r.overflow

theorem ovNodup_ovInsert (l : List (Nat × V)) (h : Nat) (v : V) (hl : ovNodup l) : ovNodup (ovInsert l h v) := by
  induction l with
  | nil => simp [ovInsert, ovNodup, ovLookup]
  | cons p ps ih =>
    simp only [ovInsert]
    split <;> simp_all [ovNodup, ovLookup_ovInsert]

theorem ovNodup_ovRemove (l : List (Nat × V)) (h : Nat) (hl : ovNodup l) : ovNodup (ovRemove l h).2 := by
  induction l with
  | nil => trivial
  | cons p ps ih =>
    simp only [ovRemove]
    split <;> simp_all [ovNodup, ovLookup_ovRemove_ne]

theorem ovLookup_ovRemove_self (l : List (Nat × V)) (h : Nat) (hl : ovNodup l) : ovLookup (ovRemove l h).2 h = none := by
  induction l with
  | nil => rfl
  | cons p ps ih =>
    simp only [ovRemove]
    split <;> simp_all [ovNodup, ovLookup]

theorem nodup_toList (r : Registry) (hinv : r.Inv) : ovNodup r.toList := by
  rcases r with ⟨_ | p, ov⟩
  · exact hinv.2
  · cases hinv.1 p rfl
    exact ⟨rfl, trivial⟩

theorem lookup_remove (r : Registry) (h h' : Nat) (hinv : r.Inv) :
    (r.remove h).2.lookup h' = if h' = h then none else r.lookup h' := by
  by_cases hh : h' = h
  · rw [if_pos hh, hh, lookup_toList, (remove_toList r h).2, ovLookup_ovRemove_self _ _ (nodup_toList r hinv)]
  · rw [if_neg hh, lookup_remove_ne r h h' hh]

theorem inv_insert (r : Registry) (h : Nat) (v : V) (hinv : r.Inv) : (r.insert h v).Inv := by
  obtain ⟨single, ov⟩ := r
  obtain ⟨hs, hn⟩ := hinv
  rw [Registry.insert_cases]
  cases single with
  | none =>
    cases ov with
    | nil => exact ⟨fun _ _ => rfl, by simp [ovNodup]⟩
    | cons p ps => exact ⟨by intro p hp; simp at hp, ovNodup_ovInsert _ _ _ hn⟩
  | some hv =>
    obtain ⟨h0, v0⟩ := hv
    exact ⟨by intro p hp; simp at hp, ovNodup_ovInsert _ _ _ (ovNodup_ovInsert _ _ _ hn)⟩

theorem inv_remove (r : Registry) (h : Nat) (hinv : r.Inv) : (r.remove h).2.Inv := by
  rcases r with ⟨_ | ⟨h0, v0⟩, ov⟩ <;> simp only [Registry.remove, Registry.Inv] at hinv ⊢ <;> (try split) <;>
    simp_all [ovNodup_ovRemove, ovNodup, ovRemove]

/-- the specification: a finite map from handles to values -/
def runMap : List RegOp → (Nat → Option V) → (Nat → Option V) × List (Option V)
  | [], m => (m, [])
  | .ins h v :: ops, m => runMap ops (fun k => if k = h then some v else m k)
  | .rem h :: ops, m =>
    let rest := runMap ops (fun k => if k = h then none else m k)
    (rest.1, m h :: rest.2)

/-- for every sequence of inserts and removes the two-tier store answers like the finite map -/
theorem registry_refines_map (ops : List RegOp) (r : Registry) (m : Nat → Option V) (hinv : r.Inv)
    (hm : ∀ k, r.lookup k = m k) :
    (runReg ops r).2 = (runMap ops m).2 ∧ (∀ k, (runReg ops r).1.lookup k = (runMap ops m).1 k) ∧ (runReg ops r).1.Inv := by
  induction ops generalizing r m with
  | nil => exact ⟨rfl, hm, hinv⟩
  | cons op ops ih =>
    cases op with
    | ins h v =>
      simp only [runReg, runMap]
      exact ih (r.insert h v) _ (inv_insert r h v hinv) (fun k => by rw [lookup_insert, hm])
    | rem h =>
      simp only [runReg, runMap]
      obtain ⟨h1, h2, h3⟩ := ih (r.remove h).2 (fun k => if k = h then none else m k) (inv_remove r h hinv)
        (fun k => by rw [lookup_remove r h k hinv, hm])
      exact ⟨by rw [remove_fst, hm, h1], h2, h3⟩

/-- the handle read back from the tuple-struct field is the handle just inserted (`as u32` of a `u32`), and
`remove` right after `insert` finds the value -/
theorem serValueM_fst (v : V) (st : HState) : (serValueM v st).1 = v := by
  simp only [serValueM, Nat.mod_mod, remove_insert]

theorem seqM_fst (f : D → HState → V × HState) (g : D → V) (ds : List D)
    (h : ∀ d ∈ ds, ∀ st, (f d st).1 = g d) (st : HState) : (seqM f ds st).1 = ds.map g := by
  induction ds generalizing st with
  | nil => rfl
  | cons d ds ih =>
    simp only [seqM, List.map_cons]
    rw [h d (by simp), ih (fun x hx => h x (by simp [hx]))]

theorem pairsM_fst (f g : D → HState → V × HState) (f' g' : D → V) (ps : List (D × D))
    (hf : ∀ p ∈ ps, ∀ st, (f p.1 st).1 = f' p.1) (hg : ∀ p ∈ ps, ∀ st, (g p.2 st).1 = g' p.2) (st : HState) :
    (pairsM f g ps st).1 = ps.map fun p => (f' p.1, g' p.2) := by
  induction ps generalizing st with
  | nil => rfl
  | cons p ps ih =>
    simp only [pairsM, List.map_cons]
    rw [hf p (by simp), hg p (by simp),
      ih (fun x hx => hf x (by simp [hx])) (fun x hx => hg x (by simp [hx]))]

mutual
theorem serM_fst : ∀ (s : Shape) (d : D) (st : HState), (serM s d st).1 = ser s d
  | .opt s, d, st => by
    cases d with
    | some d => exact serM_fst s d st
    | _ => rfl
  | .seq s, d, st => by
    cases d with
    | list ds => exact congrArg (V.seq false) (seqM_fst _ _ ds (fun x _ st' => serM_fst s x st') st)
    | _ => rfl
  | .map k w, d, st => by
    cases d with
    | map kvs =>
      exact congrArg (fun m => V.map (buildMap m)) (pairsM_fst (serM k) (serM w) (ser k) (ser w) kvs
        (fun p _ st' => serM_fst k p.1 st') (fun p _ st' => serM_fst w p.2 st') st)
    | _ => rfl
  | .tup ss, d, st => by
    cases d with
    | list ds => exact congrArg (V.seq true) (serListM_fst ss ds st)
    | _ => rfl
  | .nstruct s, d, st => serM_fst s d st
  | .tstruct ss, d, st => by
    cases d with
    | list ds => exact congrArg (V.seq false) (serListM_fst ss ds st)
    | _ => rfl
  | .struct names ss, d, st => by
    cases d with
    | list ds => exact congrArg (fun l => V.map (zipKeys names l)) (serListM_fst ss ds st)
    | _ => rfl
  | .enum names vs, d, st => by
    cases d with
    | variant i p => exact serVariantM_fst vs names i p st
    | _ => rfl
  | .value, d, st => by
    cases d with
    | val v => exact serValueM_fst v st
    | _ => rfl
  | .bool, _, _ | .int _ _ _, _, _ | .f32, _, _ | .f64, _, _ | .char, _, _ | .str, _, _ | .bytes, _, _
  | .unit, _, _ | .ustruct, _, _ => rfl
theorem serListM_fst : ∀ (ss : List Shape) (ds : List D) (st : HState), (serListM ss ds st).1 = serList ss ds
  | [], ds, st => by simp [serListM, serList]
  | s :: ss, [], st => by simp [serListM, serList]
  | s :: ss, d :: ds, st => by
    simp only [serListM, serList]
    rw [serM_fst s d st, serListM_fst ss ds _]
theorem serVariantM_fst : ∀ (vs : List VShape) (names : List Str) (i : Nat) (p : D) (st : HState),
    (serVariantM names vs i p st).1 = serVariant names vs i p
  | [], names, i, p, st => by cases names <;> simp [serVariantM, serVariant]
  | v :: vs, [], i, p, st => by simp [serVariantM, serVariant]
  | v :: vs, n :: ns, 0, p, st => by
    simp only [serVariantM, serVariant]
    exact serVM_fst v n p st
  | v :: vs, n :: ns, i+1, p, st => by
    simp only [serVariantM, serVariant]
    exact serVariantM_fst vs ns i p st
theorem serVM_fst : ∀ (v : VShape) (n : Str) (p : D) (st : HState), (serVM n v p st).1 = serV n v p
  | .unit, _, _, _ => rfl
  | .newtype s, n, p, st => congrArg (fun x => V.map [(.str n false, x)]) (serM_fst s p st)
  | .tuple ss, n, p, st => by
    cases p with
    | list ds => exact congrArg (fun l => V.map [(.str n false, .seq false l)]) (serListM_fst ss ds st)
    | _ => rfl
  | .struct names ss, n, p, st => by
    cases p with
    | list ds =>
      exact congrArg (fun l => V.map [(.str n false, .map (zipKeys names l))]) (serListM_fst ss ds st)
    | _ => rfl
end

end MJ.Serde
