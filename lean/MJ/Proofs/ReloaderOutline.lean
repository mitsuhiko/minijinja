import MJ.Proofs.ReloaderStep
/-!
# The proof outline of `acquire_env`

`Outline σ c` says what holds of the holder `c` of the `cached_env` mutex at each program counter;
`Idle σ` what holds when nobody is inside.  `outline_stepActive` goes through the holder's steps edge
by edge: the assertion at the target of an edge follows from the assertion at its source and from
what the step writes; `Outline.raise` shows that a `request_reload` of another thread does not
disturb it.  The invariant `Inv` of `ReloaderInv` states the same facts property by
property (one match over the program counters each); the two are tied there.
-/
namespace MJ.Reloader

/-- the served environment (if any) was built or cleared after clock `s` -/
def EnvFresh (σ : State) (s : Nat) : Prop := ∀ e, σ.env = some e → s < e.freshAt

/-- every set is pending (flag up) or served by the cache -/
def Fresh (σ : State) : Prop := ∀ s ∈ σ.sets, σ.flag = true ∨ EnvFresh σ s

/-- the reload check was made under the lock, before now -/
def Checked (σ : State) (c : Active) : Prop := c.lockedAt < c.checkedAt ∧ c.checkedAt < σ.now

/-- the cache serves every set that preceded the holder's check -/
def Hand (σ : State) (c : Active) : Prop := ∀ s ∈ σ.sets, s < c.checkedAt → EnvFresh σ s

def up (b : Bool) : Nat := if b then 1 else 0

/-- The counter equations.  `pR` is 1 while a reload decided by the check has not reached the creator
    call or the clear, `pF` while a creator call decided on an empty cache has not ended, `fU` while
    the flag is up and the current check has not read it, `fP` between a creator's failure and the
    re-arming of the flag (`pendingRebuild`, `pendingFirst`, `flagUnseen`, `failPending` in
    `ReloaderInv`). -/
def Counts (σ : State) (pR pF fU fP : Nat) : Prop :=
  σ.creates + σ.clears + pR = σ.noneObs + σ.flagObs + σ.cbObs ∧
  ((σ.env = none → σ.noneObs = σ.failed + σ.panicked + pF) ∧
   (σ.env ≠ none → σ.noneObs ≤ σ.failed + σ.panicked + 1)) ∧
  σ.flagObs + fU + fP ≤ σ.risings + σ.failed

/-- inside the creator: a set that found the flag down precedes the build's start -/
def Building (σ : State) (c : Active) : Prop :=
  (c.lockedAt < c.checkedAt ∧ c.checkedAt < c.buildStart ∧ c.buildStart < σ.now) ∧ c.built = false ∧
  (∀ s ∈ σ.sets, σ.flag = true ∨ s < c.buildStart) ∧ Counts σ 0 1 (up σ.flag) 0

/-- the cache holds what this acquire's creator call made -/
def Built (σ : State) (c : Active) : Prop :=
  ∃ e, σ.env = some e ∧ e.builtAt = c.buildStart ∧ e.freshAt = c.buildStart ∧ c.checkedAt < c.buildStart

/-- what holds of the mutex holder `c`, per program counter -/
def Outline (σ : State) (c : Active) : Prop :=
  c.lockedAt < σ.now ∧
  match c.pc with
  | .locked => c.built = false ∧ Fresh σ ∧ Counts σ 0 0 (up σ.flag) 0
  | .checked true =>
    Checked σ c ∧ c.built = false ∧ Counts σ 1 1 (if σ.flag then if c.sawFlag then 0 else 1 else 0) 0
  | .reset | .toCreate => Checked σ c ∧ c.built = false ∧ Counts σ 1 1 (up σ.flag) 0
  | .toClear => Checked σ c ∧ c.built = false ∧ σ.env ≠ none ∧ Counts σ 1 0 (up σ.flag) 0
  | .creating _ => Building σ c
  | .innerSet s _ => Building σ c ∧ s ∈ σ.sets
  | .failed => Checked σ c ∧ c.built = false ∧ Counts σ 0 0 (up σ.flag) 1
  | .remarked => Checked σ c ∧ c.built = false ∧ (∀ s ∈ σ.sets, σ.flag = true) ∧ Counts σ 0 0 (up σ.flag) 0
  | .checked false | .cleared =>
    Checked σ c ∧ c.built = false ∧ σ.env ≠ none ∧ Fresh σ ∧ Hand σ c ∧ Counts σ 0 0 (up σ.flag) 0
  | .created =>
    Checked σ c ∧ c.built = true ∧ Built σ c ∧ Fresh σ ∧ Hand σ c ∧ Counts σ 0 0 (up σ.flag) 0
  | .holding =>
    Checked σ c ∧ (c.built = true → Built σ c) ∧ σ.env ≠ none ∧ Fresh σ ∧ Hand σ c ∧
      Counts σ 0 0 (up σ.flag) 0 ∧
      ∃ a ∈ σ.acqLog, a.tid = c.tid ∧ a.lockedAt = c.lockedAt ∧ a.checkedAt = c.checkedAt ∧
        σ.env = some a.env

/-- nobody inside: every set is pending or served, unless a creator has panicked -/
def Idle (σ : State) : Prop := (σ.poisoned = false → Fresh σ) ∧ Counts σ 0 0 (up σ.flag) 0

section
variable {σ σ' : State} {c : Active}

/-- What the creator does with its notifier, a request apart, and the return of a request it made,
    write nothing that `Building` reads but the clock. -/
theorem Building.tick (h : Building σ c) {pc : Pc} {fast persistent watching registered : Bool}
    {lastDrop : Option (Bool × Bool)} {onCalls : Nat} {reqLog : List ReqRec} {cur : Option Active} :
    Building { σ with now := σ.now + 1, fast := fast, persistent := persistent, watching := watching,
                      registered := registered, lastDrop := lastDrop, onCalls := onCalls,
                      reqLog := reqLog, cur := cur } { c with pc := pc } :=
  ⟨⟨h.1.1, h.1.2.1, Nat.lt_succ_of_lt h.1.2.2⟩, h.2⟩

/-- what the three program counters the handout is taken from have in common -/
theorem Outline.handout (ho : Outline σ c)
    (hpc : c.pc = .checked false ∨ c.pc = .created ∨ c.pc = .cleared) :
    c.lockedAt < σ.now ∧ Checked σ c ∧ (c.built = true → Built σ c) ∧ Fresh σ ∧ Hand σ c ∧
      Counts σ 0 0 (up σ.flag) 0 := by
  rcases hpc with hpc | hpc | hpc <;> simp only [Outline, hpc] at ho
  · exact ⟨ho.1, ho.2.1, fun h => by simp [ho.2.2.1] at h, ho.2.2.2.2⟩
  · exact ⟨ho.1, ho.2.1, fun _ => ho.2.2.2.1, ho.2.2.2.2⟩
  · exact ⟨ho.1, ho.2.1, fun h => by simp [ho.2.2.1] at h, ho.2.2.2.2⟩

theorem outline_stepActive (ho : Outline σ c)
    (hlt : ∀ s ∈ σ.sets, s < σ.now) (hs : stepActive σ c = some σ') :
    match σ'.cur with
    | some c' => Outline σ' c'
    | none => Idle σ' := by
  have tick {a b : Nat} (h : a < b) : a < b + 1 := Nat.lt_succ_of_lt h
  apply stepActive_elim hs
  case locked_none =>
    intro hpc he
    simp only [Outline, hpc] at ho
    obtain ⟨h0, hb, -, hr, hn, hf⟩ := ho
    exact ⟨tick h0, ⟨h0, Nat.lt_succ_self _⟩, hb, by dsimp only; omega,
      ⟨fun _ => by have := hn.1 he; dsimp only; omega, fun h => absurd he h⟩, hf⟩
  case locked_flag =>
    -- the rise that `up` stood for is now counted by `flagObs`
    intro hpc he hfl
    simp only [Outline, hpc, up, hfl, ↓reduceIte] at ho
    obtain ⟨h0, hb, -, hr, hn, hf⟩ := ho
    exact ⟨tick h0, ⟨h0, Nat.lt_succ_self _⟩, hb, by dsimp only; omega,
      ⟨fun h => absurd h he, hn.2⟩, by simp only [hfl, ↓reduceIte]; omega⟩
  case locked_cb =>
    intro hpc he _ _
    simp only [Outline, hpc] at ho
    obtain ⟨h0, hb, -, hr, hn, hf⟩ := ho
    exact ⟨tick h0, ⟨h0, Nat.lt_succ_self _⟩, hb, by dsimp only; omega,
      ⟨fun h => absurd h he, hn.2⟩, hf⟩
  case locked_no =>
    -- flag down: every set so far is served by the cache
    intro hpc he hf _
    simp only [Outline, hpc] at ho
    obtain ⟨h0, hb, hfr, hcnt⟩ := ho
    exact ⟨tick h0, ⟨h0, Nat.lt_succ_self _⟩, hb, he, hfr,
      fun s hs _ => (hfr s hs).resolve_left (by simp [hf]), hcnt⟩
  case checkedT =>
    -- the reset can only lower the left side of the flag count
    intro hpc
    simp only [Outline, hpc] at ho
    obtain ⟨h0, hk, hb, hr, hn, hf⟩ := ho
    exact ⟨tick h0, ⟨hk.1, tick hk.2⟩, hb, hr, hn,
      by show σ.flagObs + 0 + 0 ≤ σ.risings + σ.failed; omega⟩
  case reset_create =>
    intro hpc _
    simp only [Outline, hpc] at ho
    exact ⟨tick ho.1, ⟨ho.2.1.1, tick ho.2.1.2⟩, ho.2.2⟩
  case reset_clear =>
    intro hpc he _
    simp only [Outline, hpc] at ho
    obtain ⟨h0, hk, hb, hr, hn, hf⟩ := ho
    exact ⟨tick h0, ⟨hk.1, tick hk.2⟩, hb, he, hr, ⟨fun h => absurd h he, hn.2⟩, hf⟩
  case toCreate =>
    -- the sets so far precede the clock, which is the build's start
    intro hpc
    simp only [Outline, hpc] at ho
    obtain ⟨h0, ⟨h1, h2⟩, hb, hr, hn, hf⟩ := ho
    exact ⟨tick h0, ⟨h1, h2, Nat.lt_succ_self _⟩, hb, fun s hs => .inr (hlt s hs),
      by dsimp only; omega, hn, hf⟩
  case req =>
    -- the flag goes up, so every set counts as pending
    intro rest hpc
    simp only [Outline, hpc] at ho
    obtain ⟨h0, ⟨h1, h2, h3⟩, hb, -, hr, hn, hf⟩ := ho
    refine ⟨tick h0, ⟨⟨h1, h2, tick h3⟩, hb, fun _ _ => .inl rfl, hr, hn, ?_⟩, List.mem_cons_self⟩
    simp only [up] at hf ⊢
    cases hfl : σ.flag <;> simp [hfl] at hf ⊢ <;> omega
  case innerSet => intro _ _ hpc; simp only [Outline, hpc] at ho; exact ⟨tick ho.1, ho.2.1.tick⟩
  case setFast | persist => intro _ _ hpc; simp only [Outline, hpc] at ho; exact ⟨tick ho.1, ho.2.tick⟩
  case watch => intro _ hpc; simp only [Outline, hpc] at ho; exact ⟨tick ho.1, ho.2.tick⟩
  case panic =>
    -- the pending first build (`pF`) is from now on counted by `panicked`
    intro hpc _
    simp only [Outline, hpc] at ho
    obtain ⟨-, -, -, -, hr, hn, hf⟩ := ho
    exact ⟨nofun, hr, ⟨fun h => by have := hn.1 h; dsimp only; omega,
      fun h => by have := hn.2 h; dsimp only; omega⟩, hf⟩
  case fail =>
    -- … or to `failed`, which also pays for the re-arming to come
    intro hpc _ _
    simp only [Outline, hpc] at ho
    obtain ⟨h0, ⟨h1, h2, h3⟩, hb, -, hr, hn, hf⟩ := ho
    exact ⟨tick h0, ⟨h1, tick (Nat.lt_trans h2 h3)⟩, hb, hr, ⟨fun h => by have := hn.1 h; dsimp only; omega,
      fun h => by have := hn.2 h; dsimp only; omega⟩,
      by show σ.flagObs + up σ.flag + 1 ≤ σ.risings + (σ.failed + 1); omega⟩
  case store =>
    -- the creator's result is fresh from `buildStart`, which is later than the check and than
    -- every set that found the flag down
    intro hpc _ _
    simp only [Outline, hpc] at ho
    obtain ⟨h0, ⟨h1, h2, h3⟩, hb, hsv, hr, hn, hf⟩ := ho
    refine ⟨tick h0, ⟨h1, tick (Nat.lt_trans h2 h3)⟩, rfl, ⟨_, rfl, rfl, rfl, h2⟩,
      fun s hs => (hsv s hs).imp id fun h e he => by cases he; exact h,
      fun s hs hlt e he => by cases he; exact Nat.lt_trans hlt h2, hr, ⟨nofun, fun _ => ?_⟩, hf⟩
    cases he : σ.env with
    | none => have := hn.1 he; dsimp only; omega
    | some e => exact hn.2 (by rw [he]; nofun)
  case clear =>
    -- the cleared cache is fresh from the clock, which every set precedes
    intro e hpc he
    simp only [Outline, hpc] at ho
    obtain ⟨h0, hk, hb, hne, hr, hn, hf⟩ := ho
    exact ⟨tick h0, ⟨hk.1, tick hk.2⟩, hb, nofun,
      fun s hs => .inr fun e' he' => by cases he'; exact hlt s hs,
      fun s hs _ e' he' => by cases he'; exact hlt s hs,
      by dsimp only; omega, ⟨nofun, fun _ => hn.2 hne⟩, hf⟩
  case failed =>
    -- the re-arming was paid for when `failed` went up
    intro hpc
    simp only [Outline, hpc] at ho
    obtain ⟨h0, hk, hb, hr, hn, hf⟩ := ho
    exact ⟨tick h0, ⟨hk.1, tick hk.2⟩, hb, fun _ _ => rfl, hr, hn,
      by show σ.flagObs + 1 + 0 ≤ σ.risings + σ.failed; omega⟩
  case remarked =>
    intro hpc
    simp only [Outline, hpc] at ho
    obtain ⟨-, -, -, hfl, hcnt⟩ := ho
    exact ⟨fun _ s hs => .inl (hfl s hs), hcnt⟩
  case handout =>
    -- the record written is what `holding` points at
    intro e hpc he
    obtain ⟨h0, hk, hb, hfr, hh, hcnt⟩ := ho.handout hpc
    exact ⟨tick h0, ⟨hk.1, tick hk.2⟩, hb, by rw [he]; nofun, hfr, hh, hcnt,
      _, List.mem_cons_self, rfl, rfl, rfl, he⟩
  case holding =>
    intro hpc
    simp only [Outline, hpc] at ho
    exact ⟨fun _ => ho.2.2.2.2.1, ho.2.2.2.2.2.2.1⟩

end

/-- the state after `request_reload`'s first critical section: the flag goes up at the clock, which
    enters `sets` -/
abbrev State.raise (σ : State) (threads : List Thread) : State :=
  { σ with now := σ.now + 1, flag := true, sets := σ.now :: σ.sets,
           risings := if σ.flag then σ.risings else σ.risings + 1, threads := threads }

section
variable {σ : State} {c : Active} {ths : List Thread}

/-- a set that finds the flag down is a rise -/
theorem Counts.raise {a b f : Nat} (h : Counts σ a b (up σ.flag) f) :
    Counts (σ.raise ths) a b (up true) f := by
  refine ⟨h.1, h.2.1, ?_⟩
  have := h.2.2
  show σ.flagObs + 1 + f ≤ (if σ.flag then σ.risings else σ.risings + 1) + σ.failed
  cases hf : σ.flag <;> simp [hf, up] at this ⊢ <;> omega

/-- the new set is later than the holder's check -/
theorem Hand.raise (h : Hand σ c) (hk : Checked σ c) : Hand (σ.raise ths) c := by
  intro s hs hlt
  rcases List.mem_cons.mp hs with rfl | hs
  · exact absurd hlt (Nat.lt_asymm hk.2)
  · exact h s hs hlt

/-- The holder's assertion survives the set: with the flag up every set counts as pending, and what
    the cache serves is asked only of sets before the check. -/
theorem Outline.raise (ho : Outline σ c) : Outline (σ.raise ths) c := by
  have tick {a b : Nat} (h : a < b) : a < b + 1 := Nat.lt_succ_of_lt h
  have fr : Fresh (σ.raise ths) := fun _ _ => .inl rfl
  unfold Outline at ho ⊢
  generalize c.pc = pc at ho
  cases pc with
  | locked => exact ⟨tick ho.1, ho.2.1, fr, ho.2.2.2.raise⟩
  | checked b => cases b with
    | true =>
      -- the check in progress has read the flag already, or not: as before the set
      obtain ⟨h0, k, b, r, n, f⟩ := ho
      refine ⟨tick h0, ⟨k.1, tick k.2⟩, b, r, n, ?_⟩
      show σ.flagObs + (if c.sawFlag then 0 else 1) + 0
        ≤ (if σ.flag then σ.risings else σ.risings + 1) + σ.failed
      cases hf : σ.flag <;> cases hs : c.sawFlag <;> simp [hf, hs] at f ⊢ <;> omega
    | false =>
      obtain ⟨h0, k, b, e, -, h, cnt⟩ := ho
      exact ⟨tick h0, ⟨k.1, tick k.2⟩, b, e, fr, h.raise k, cnt.raise⟩
  | reset | toCreate | failed =>
    exact ⟨tick ho.1, ⟨ho.2.1.1, tick ho.2.1.2⟩, ho.2.2.1, ho.2.2.2.raise⟩
  | toClear => exact ⟨tick ho.1, ⟨ho.2.1.1, tick ho.2.1.2⟩, ho.2.2.1, ho.2.2.2.1, ho.2.2.2.2.raise⟩
  | creating _ =>
    obtain ⟨h0, ⟨t1, t2, t3⟩, b, -, cnt⟩ := ho
    exact ⟨tick h0, ⟨t1, t2, tick t3⟩, b, fun _ _ => .inl rfl, cnt.raise⟩
  | innerSet _ _ =>
    obtain ⟨h0, ⟨⟨t1, t2, t3⟩, b, -, cnt⟩, i⟩ := ho
    exact ⟨tick h0, ⟨⟨t1, t2, tick t3⟩, b, fun _ _ => .inl rfl, cnt.raise⟩, List.mem_cons_of_mem _ i⟩
  | created | cleared =>
    obtain ⟨h0, k, b, e, -, h, cnt⟩ := ho
    exact ⟨tick h0, ⟨k.1, tick k.2⟩, b, e, fr, h.raise k, cnt.raise⟩
  | remarked =>
    exact ⟨tick ho.1, ⟨ho.2.1.1, tick ho.2.1.2⟩, ho.2.2.1, fun _ _ => rfl, ho.2.2.2.2.raise⟩
  | holding =>
    obtain ⟨h0, k, b, e, -, h, cnt, l⟩ := ho
    exact ⟨tick h0, ⟨k.1, tick k.2⟩, b, e, fr, h.raise k, cnt.raise, l⟩

theorem Idle.raise (hi : Idle σ) : Idle (σ.raise ths) :=
  ⟨fun _ _ _ => .inl rfl, hi.2.raise⟩

/-- taking the free mutex: at `.locked` the holder finds what held with nobody inside -/
theorem Idle.lock (hi : Idle σ) (hp : σ.poisoned = false) {i : Nat} {cfg : AcqCfg} :
    Outline { σ with now := σ.now + 1,
                     cur := some { tid := i, cfg := cfg, pc := .locked, lockedAt := σ.now },
                     threads := ths }
      { tid := i, cfg := cfg, pc := .locked, lockedAt := σ.now } :=
  ⟨Nat.lt_succ_self _, rfl, hi.1 hp, hi.2⟩

end

end MJ.Reloader
