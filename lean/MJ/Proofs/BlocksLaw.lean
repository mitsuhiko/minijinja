import MJ.Proofs.Blocks
import MJ.Proofs.BlocksVars
/-!
# One rule for everything the specification does to the frames

Termination (`MJ.Proofs.BlocksTerm`) and the separation of closures (`MJ.Proofs.BlocksClosure`)
are both statements of the form "a run of the spec from frames `a` fails only with errors in `E`,
and on success ends in frames `b` with `R a b` that satisfy the invariant again".  The walk
through `specItems` / `specChain` is done here once, for every `I`, `R`, `E` that the primitive
operations on the frame stack respect (`Law`); the callbacks one nesting level further down are
assumed to behave where the guards of the spec let them be called (`CbLaw`).
-/
namespace MJ.Blocks

def Resp (I : Vars → Prop) (R : Vars → Vars → Prop) (E : Err → Prop) (a : Vars) : SRes → Prop
  | .ok (_, b) => R a b ∧ I b
  | .error e => E e

/-- what the operations on the frame stack have to respect.  The invariant is indexed by the
    number of frames pushed on top of the statement list that is being run (`I n` for the list
    itself, `I (n + 1)` inside a block body, a loop body or an `import`). -/
structure Law (I : Nat → Vars → Prop) (R : Vars → Vars → Prop) (E : Err → Prop) : Prop where
  refl : ∀ a, R a a
  trans : ∀ {a b c}, R a b → R b c → R a c
  /-- every error but the model's own fuel error is allowed -/
  err : ∀ {e}, Kind.recursion ∉ e → E e
  wrap : ∀ {e} (k : Kind), k ≠ .recursion → E e → E (k :: e)
  store : ∀ {n a} (v : Nat) (x : Val), I n a → R a (store a v x) ∧ I n (store a v x)
  enclose : ∀ {n a} (ctx : Frame) (w : Nat), I n a → R a (enclose ctx a w) ∧ I n (enclose ctx a w)
  /-- `include`: the closure of the top frame is detached … -/
  detach : ∀ {n a}, I n a → R a (a.setTopClosure none) ∧ I n (a.setTopClosure none)
  /-- … and attached again behind the included template -/
  attach : ∀ {n a b}, I n a → R a b → I n b →
    R a ((b.take a.length).setTopClosure a.topClosure) ∧ I n ((b.take a.length).setTopClosure a.topClosure)
  push : ∀ {n a} (fr : Frame), I n a → I (n + 1) (a.push [fr])
  pop : ∀ {n a b} (fr : Frame), I n a → R (a.push [fr]) b → I (n + 1) b →
    R a (b.take a.length) ∧ I n (b.take a.length)
  /-- the next iteration of a loop: a fresh loop frame takes the place of the last one -/
  repush : ∀ {n a s} (x fr : Frame), I n a → R (a.push [x]) s → I (n + 1) s →
    R (a.push [x]) ((s.take a.length).push [fr]) ∧ I (n + 1) ((s.take a.length).push [fr])

/-- the callbacks of a statement list that runs at `outer` on frames satisfying `I n`, wherever
    the guards of `specItems` let them be called -/
structure CbLaw (I : Nat → Vars → Prop) (R : Vars → Vars → Prop) (E : Err → Prop)
    (cbs : SpecCbs) (outer n : Nat) : Prop where
  body : ∀ D m k disc ae a, I n a → pushFails outer a = false →
    Resp (I (n + 1)) R E (a.push [[]]) (cbs.body D m k disc outer ae (a.push [[]]))
  list : ∀ D cur disc ext ae items a b, I n a → pushFails outer a = false → I (n + 1) b →
    Resp (I (n + 1)) R E b (cbs.list D cur disc ext outer ae items b)
  /-- a macro body runs on a context of its own, which is dropped afterwards -/
  mac : ∀ D ae items a (b : Vars) e, I n a → outer + a.length + MACRO_COST + 2 ≤ LIMIT → b.length = 2 →
    cbs.list D none false false (outer + a.length + MACRO_COST) ae items b = .error e → E e
  chain : ∀ t inh disc ae layout k a, k = n ∨ k = n + 1 → I k a →
    outer + INCLUDE_COST + a.length ≤ LIMIT →
    Resp (I k) R E a (cbs.chain [t] inh disc (outer + INCLUDE_COST) ae layout a)

variable {I : Nat → Vars → Prop} {R : Vars → Vars → Prop} {E : Err → Prop}

theorem Resp.ok {I : Vars → Prop} {a b : Vars} {o : List String} (h : R a b ∧ I b) :
    Resp I R E a (.ok (o, b)) := h

theorem Resp.elim {J I' : Vars → Prop} {a a' : Vars} (r : SRes) (F : Err → SRes) (K : List String → Vars → SRes) :
    Resp J R E a' r → (∀ e, E e → Resp I' R E a (F e)) → (∀ o b, R a' b → J b → Resp I' R E a (K o b)) →
    Resp I' R E a (match r with
      | .error e => F e
      | .ok (o, b) => K o b) := by
  intro hr hF hK
  cases r with
  | error e => exact hF e hr
  | ok p => exact hK p.1 p.2 hr.1 hr.2

theorem emitUndef_error {cfg : Cfg} {q : Bool} {ae : AE} {a : Vars} {e : Err}
    (h : emitUndef cfg q ae a = .error e) : e = [.undefinedError] := by
  unfold emitUndef at h
  split at h
  · cases h; rfl
  · split at h <;> cases h

theorem emitUndef_resp (L : Law I R E) {n : Nat} (cfg : Cfg) (q : Bool) (ae : AE) (a : Vars) (ha : I n a) :
    Resp (I n) R E a (emitUndef cfg q ae a) := by
  unfold emitUndef
  split
  · exact L.err (by simp)
  · split <;> exact ⟨L.refl a, ha⟩

theorem varItem_resp (L : Law I R E) {n : Nat} (cfg : Cfg) (q : Bool) (ae : AE) (it : Item) (a : Vars)
    (r : Except Err (List String × Vars)) (ha : I n a)
    (h : varItem cfg q ae it a = some r) : Resp (I n) R E a r := by
  unfold varItem at h
  cases it <;> simp only [] at h <;> try (cases h)
  case text s => exact ⟨L.refl a, ha⟩
  case required => exact ⟨L.refl a, ha⟩
  case setVar v s => exact L.store _ _ ha
  case defMacro v s => exact L.store _ _ ha
  case defMacroV m w =>
    obtain ⟨h1, h2⟩ := L.enclose cfg.rootCtx w ha
    split at h
    · cases h
      obtain ⟨h3, h4⟩ := L.store m (Val.macv m w _) h2
      exact ⟨L.trans h1 h3, h4⟩
    · cases h; exact L.err (by simp)
  -- the printing statements: whichever branch is taken, the frames stay as they are
  all_goals
    repeat' split at h
    all_goals
      cases h
      first
        | exact ⟨L.refl a, ha⟩
        | exact L.err (by simp)
        | exact emitUndef_resp L _ _ _ _ ha
        | (rename_i hu; exact L.err (by rw [emitUndef_error hu]; simp))

theorem specBlock_resp (L : Law I R E) {cbs : SpecCbs} {outer n : Nat} (h : CbLaw I R E cbs outer n)
    (D : Nat → List (List Item)) (disc : Bool) (ae : AE) (m : Nat) (a : Vars) (ha : I n a) :
    Resp (I n) R E a (specBlock cbs D disc outer ae m a) := by
  unfold specBlock
  cases D m with
  | nil => exact L.err (by simp)
  | cons b bs =>
    simp only []
    split
    · exact L.err (by simp)
    · cases hpf : pushFails outer a with
      | true => exact L.err (by simp)
      | false =>
        simp only [Bool.false_eq_true, if_false]
        exact Resp.elim _ _ _ (h.body D m 0 disc ae a ha hpf) (fun _ he => he)
          fun _ _ hR hI => L.pop [] ha hR hI

theorem specSuper_resp (L : Law I R E) {cbs : SpecCbs} {outer n : Nat} (h : CbLaw I R E cbs outer n)
    (D : Nat → List (List Item)) (cur : Option (Nat × Nat)) (disc : Bool) (ae : AE) (a : Vars) (ha : I n a) :
    Resp (I n) R E a (specSuper cbs D cur disc outer ae a) := by
  unfold specSuper
  cases cur with
  | none => exact L.err (by simp)
  | some p =>
    obtain ⟨b, k⟩ := p
    simp only []
    split
    · cases hpf : pushFails outer a with
      | true => exact L.err (by simp)
      | false =>
        simp only [Bool.false_eq_true, if_false]
        exact Resp.elim _ _ _ (h.body D b (k + 1) disc ae a ha hpf) (fun _ he => L.wrap _ (by decide) he)
          fun _ _ hR hI => L.pop [] ha hR hI
    · exact L.err (by simp)

/-- an include on the frames of the list itself (`include`) or on one more frame (`import`) -/
theorem specInclude_resp (L : Law I R E) {cbs : SpecCbs} {outer n : Nat} (h : CbLaw I R E cbs outer n)
    (env : Env) (inh : Option Nat) (disc ign : Bool) (names : List Cand) (tried : Bool)
    {k : Nat} (hk : k = n ∨ k = n + 1) (a : Vars) (ha : I k a) :
    Resp (I k) R E a (specInclude env cbs inh disc ign outer names tried a) := by
  rw [specInclude_select]
  cases select env names tried with
  | loadError t kk => exact L.err (by cases kk <;> simp [loadErrKind])
  | notAString => exact L.err (by simp)
  | nothing tr =>
    simp only []
    split
    · exact L.err (by simp)
    · exact ⟨L.refl a, ha⟩
  | render t T =>
    simp only [specIncludeTemplate]
    split
    · exact L.err (by simp)
    · rename_i hd
      obtain ⟨r0, i0⟩ := L.detach ha
      exact Resp.elim _ _ _ (h.chain t inh disc T.ae T.layout k _ hk i0 (by simpa using hd))
        (fun _ he => L.wrap _ (by decide) he) fun _ _ hR hI => L.attach ha (L.trans r0 hR) hI

theorem specLoop_resp (L : Law I R E) {n : Nat} {a : Vars} (ha : I n a) (run : Vars → SRes)
    (hrun : ∀ b, I (n + 1) b → Resp (I (n + 1)) R E b (run b)) (v : Nat) (vals : List String) (x : Frame) :
    Resp (I (n + 1)) R E (a.push [x]) (specLoop run v vals a.length (a.push [x])) := by
  unfold specLoop
  refine List.foldlRecOn vals _ (motive := Resp (I (n + 1)) R E (a.push [x])) ⟨L.refl _, L.push x ha⟩ ?_
  intro acc hacc val _
  cases acc with
  | error e => exact hacc
  | ok p =>
    obtain ⟨o, s⟩ := p
    obtain ⟨h1, h2⟩ := L.repush x [(v, Val.str val)] ha hacc.1 hacc.2
    exact Resp.elim _ _ (fun o' s' => .ok (o ++ o', s')) (hrun _ h2) (fun _ he => he)
      fun _ _ hR hI => ⟨L.trans h1 hR, hI⟩

/-- `hsame`: the bodies of `autoescape` blocks run through the `list` callback on the same frames -/
theorem specItems_resp (L : Law I R E) (env : Env) (ctx : Cfg) {cbs : SpecCbs} {outer n : Nat}
    (h : CbLaw I R E cbs outer n) (D : Nat → List (List Item)) (cur : Option (Nat × Nat))
    (disc ext : Bool) (ae : AE) (items : List Item)
    (hsame : ∀ m body, Item.autoesc m body ∈ items → aeDepthL body < AE_NEST_MAX →
      ∀ a, I n a → Resp (I n) R E a (cbs.list D cur disc ext outer m body a))
    (a : Vars) (ha : I n a) :
    Resp (I n) R E a (specItems env ctx cbs D cur disc ext outer ae items a) := by
  induction items generalizing a with
  | nil => exact ⟨L.refl a, ha⟩
  | cons it rest ih =>
    have ih := ih (fun m body hm hb => hsame m body (List.mem_cons_of_mem _ hm) hb)
    have hcont : ∀ {a : Vars} (r : SRes), Resp (I n) R E a r →
        Resp (I n) R E a (match r with
          | .error e => .error e
          | .ok (o, fs') =>
            match specItems env ctx cbs D cur disc ext outer ae rest fs' with
            | .error e => .error e
            | .ok (o', fs'') => .ok (o ++ o', fs'')) :=
      fun r hr => Resp.elim r _ _ hr (fun _ he => he) fun o b hR hI =>
        Resp.elim _ _ (fun o' c => .ok (o ++ o', c)) (ih b hI) (fun _ he => he)
          fun _ _ hR' hI' => ⟨L.trans hR hR', hI'⟩
    cases hv : it.isVar with
    | true =>
      rw [specItems_var _ _ _ _ _ _ _ _ _ hv]
      cases hvi : varItem ctx disc ae it a with
      | none => exact L.err (by simp)
      | some r =>
        have hf := varItem_resp L ctx disc ae it a r ha hvi
        cases r with
        | error e => exact hf
        | ok q => exact hcont (.ok q) hf
    | false =>
    cases it with
    | callBlock m =>
      simp only [specItems]
      split
      · exact hcont _ (.ok ⟨L.refl a, ha⟩)
      · exact hcont _ (specBlock_resp L h D disc ae m a ha)
    | super =>
      simp only [specItems]
      exact hcont _ (specSuper_resp L h D cur disc ae a ha)
    | setSuper v =>
      simp only [specItems]
      exact Resp.elim _ _ _ (specSuper_resp L h D cur false ae a ha) (fun _ he => he) fun o b hR hI =>
        have ⟨h3, h4⟩ := L.store v (captured ae o) hI
        hcont _ (.ok ⟨L.trans hR h3, h4⟩)
    | setSelf v m =>
      simp only [specItems]
      split
      · exact hcont _ (.ok (L.store _ _ ha))
      · exact Resp.elim _ _ _ (specBlock_resp L h D false ae m a ha) (fun _ he => he) fun o b hR hI =>
          have ⟨h3, h4⟩ := L.store v (captured ae o) hI
          hcont _ (.ok ⟨L.trans hR h3, h4⟩)
    | «extends» exec t =>
      simp only [specItems]
      split
      · exact hcont _ (.ok ⟨L.refl a, ha⟩)
      · split <;> exact L.err (by simp)
    | incl arg ign =>
      simp only [specItems]
      exact hcont _ (specInclude_resp L h env _ disc ign arg.cands false (Or.inl rfl) a ha)
    | importAs arg v =>
      simp only [specItems]
      cases hpf : pushFails outer a with
      | true => exact L.err (by simp)
      | false =>
        simp only [Bool.false_eq_true, if_false]
        exact Resp.elim _ _ _ (specInclude_resp L h env (cur.map Prod.fst) false false arg.cands false (Or.inr rfl)
          (a.push [[]]) (L.push [] ha)) (fun _ he => he) fun _ b hR hI =>
            have ⟨h1, h2⟩ := L.pop [] ha hR hI
            have ⟨h3, h4⟩ := L.store v (.module (dedupKeys (topFrame b))) h2
            hcont _ (.ok ⟨L.trans h1 h3, h4⟩)
    | fromImport arg name alias =>
      simp only [specItems]
      cases hpf : pushFails outer a with
      | true => exact L.err (by simp)
      | false =>
        simp only [Bool.false_eq_true, if_false]
        exact Resp.elim _ _ _ (specInclude_resp L h env (cur.map Prod.fst) true false arg.cands false (Or.inr rfl)
          (a.push [[]]) (L.push [] ha)) (fun _ he => he) fun _ b hR hI =>
            have ⟨h1, h2⟩ := L.pop [] ha hR hI
            have ⟨h3, h4⟩ := L.store alias ((lookupVal name (topFrame b)).getD .undef) h2
            hcont _ (.ok ⟨L.trans h1 h3, h4⟩)
    | loop v vals body =>
      simp only [specItems]
      split
      · exact L.err (by simp)
      · cases hpf : pushFails outer a with
        | true => exact L.err (by simp)
        | false =>
          simp only [Bool.false_eq_true, if_false]
          exact Resp.elim _ _ _ (specLoop_resp L ha (cbs.list D cur disc ext outer ae body)
            (fun b hb => h.list D cur disc ext ae body a b ha hpf hb) v vals []) (fun _ he => he)
            fun _ _ hR hI => hcont _ (.ok (L.pop [] ha hR hI))
    | inMacro m arg val body =>
      simp only [specItems]
      split
      · exact L.err (by simp)
      · split
        · exact L.err (by simp)
        · rename_i hd
          rw [store_length] at hd ⊢
          cases hr : cbs.list D none false false (outer + a.length + MACRO_COST) ae body
              ((store a m Val.opaque).macroCtx arg (Val.str val)) with
          | error e => exact h.mac D ae body a _ e ha (by omega) rfl hr
          | ok q => obtain ⟨o, s⟩ := q; exact hcont _ (.ok (L.store _ _ ha))
    | badTarget => exact L.err (by simp)
    | autoesc m body =>
      simp only [specItems]
      cases hx : (body.any isExtends || decide (AE_NEST_MAX ≤ aeDepthL body)) with
      | true => exact L.err (by simp)
      | false =>
        simp only [Bool.false_eq_true, if_false]
        have hb : aeDepthL body < AE_NEST_MAX := by
          simp only [Bool.or_eq_false_iff, decide_eq_false_iff_not] at hx
          omega
        exact hcont _ (hsame m body (by simp) hb a ha)
    | _ => cases hv

/-- `hpar`: the layout of the parent, once the chain has been extended by it -/
theorem specChain_resp (L : Law I R E) (env : Env) (ctx : Cfg) {cbs : SpecCbs} {outer n : Nat}
    (h : CbLaw I R E cbs outer n) (chain : List Nat) (inh : Option Nat) (disc : Bool) (ae : AE)
    (layout : List Item)
    (hsame : ∀ D cur disc ext m body, aeDepthL body < AE_NEST_MAX →
      ∀ a, I n a → Resp (I n) R E a (cbs.list D cur disc ext outer m body a))
    (hpar : ∀ t T b, t ∉ chain.tail → env[t]? = some T → I n b →
      Resp (I n) R E b (cbs.chain (chain ++ [t]) inh disc outer ae T.layout b))
    (a : Vars) (ha : I n a) :
    Resp (I n) R E a (specChain env ctx cbs chain inh disc outer ae layout a) := by
  have hitems : ∀ D cur disc ext items b, I n b →
      Resp (I n) R E b (specItems env ctx cbs D cur disc ext outer ae items b) :=
    fun D cur disc ext items b hb =>
      specItems_resp L env ctx h D cur disc ext ae items (fun m body _ => hsame D cur disc ext m body) b hb
  unfold specChain
  simp only []
  split
  · exact hitems _ _ _ _ _ a ha
  · rename_i pre t post _
    refine Resp.elim _ _ _ (hitems (defs env chain) (inh.map (fun n => (n, 0))) disc false pre a ha)
      (fun _ he => he) fun o b h1R h1I => ?_
    split
    · exact L.err (by simp)
    · rename_i hmem
      cases hT : env[t]? with
      | none => exact L.err (by simp)
      | some T =>
        simp only []
        cases hL : T.loadErr with
        | some kk => exact L.err (by cases kk <;> simp [loadErrKind])
        | none =>
        exact Resp.elim _ _ _ (hitems (defs env (chain ++ [t])) (inh.map (fun n => (n, 0))) true true post b h1I)
          (fun _ he => he) fun o2 b2 h2R h2I =>
            Resp.elim _ _ (fun o3 b3 => .ok (o ++ o2 ++ o3, b3)) (hpar t T b2 hmem hT h2I) (fun _ he => he)
              fun _ _ h3R h3I => ⟨L.trans (L.trans h1R h2R) h3R, h3I⟩

end MJ.Blocks
