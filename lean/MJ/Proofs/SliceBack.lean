import MJ.Proofs.SliceLemmas
import MJ.Proofs.PySliceSpec
/-! Backward slicing: `range_step_backwards` computes exactly Python's index list and never panics. -/
namespace MJ.Slice
open MJ Chk

/-- the `clamp` closure is Python's clamp for a negative step; `e + b` cannot overflow -/
theorem clampBack_ok (L : Int) (b : Option Int) (d : Int) (hb : OptInI64 b) (hL0 : 0 ≤ L) (hL : L < 9223372036854775808) :
    clampBack L (L - 1) b d = .ok (PySlice.clampNeg L b d) := by
  unfold clampBack PySlice.clampNeg
  cases b with
  | none => rfl
  | some s =>
    simp only [OptInI64, InI64] at hb
    by_cases h : s < 0
    · simp only [h, if_true]
      rw [i64_ok (L + s) (by omega) (by omega)]
      simp only [ok_bind, pure_eq, Int.add_comm]
    · simp only [h, if_false, pure_eq]

/-- the `length` computation is the count formula of `PySlice.adjust`; no step of it overflows -/
theorem backLen_ok (st sp : Int) (k : Nat) (hk : 0 < k) (h1 : -1 ≤ sp) (h2 : st < 9223372036854775808 - 1) :
    backLen st sp k = .ok (if sp < st then ((st - sp - 1) / (k : Int) + 1).toNat else 0) := by
  unfold backLen
  by_cases h : sp < st
  · rw [if_pos h, if_pos h, i64_ok (st - sp) (by omega) (by omega), ok_bind,
      i64_ok (st - sp - 1) (by omega) (by omega), ok_bind]
    obtain ⟨m, hm⟩ : ∃ m : Nat, st - sp - 1 = (m : Int) := ⟨(st - sp - 1).toNat, by omega⟩
    rw [hm, asUsize_of_nonneg _ (by omega) (by omega), Int.toNat_natCast, udiv, if_neg (by omega), ok_bind,
      ← Int.natCast_ediv]
    have hq : m / k ≤ m := Nat.div_le_self _ _
    generalize m / k = q at hq ⊢
    rw [usize_ok _ (by omega) (by omega)]
  · rw [if_neg h, if_neg h]; rfl

theorem rangeStepBackwards_eq (start stop : Option Int) (k len : Nat)
    (hs : OptInI64 start) (he : OptInI64 stop) (hk : 0 < k) (hl : len < 9223372036854775808) :
    rangeStepBackwards start stop k len = .ok (PySlice.indices len start stop (-(k : Int))) := by
  have hL0 : (0 : Int) ≤ (len : Int) := Int.natCast_nonneg _
  have hL : (len : Int) < 9223372036854775808 := by omega
  have hst := PySlice.clampNeg_le len start ((len : Int) - 1) hL0 (Int.le_refl _)
  have hsp := PySlice.clampNeg_ge len stop (-1) hL0 (Int.le_refl _)
  unfold PySlice.indices rangeStepBackwards
  rw [PySlice.adjust_neg len start stop k, asI64_of_lt len hl]
  simp only []
  rw [i64_ok ((len : Int) - 1) (by omega) (by omega), ok_bind,
    clampBack_ok len start _ hs hL0 hL, ok_bind, clampBack_ok len stop _ he hL0 hL, ok_bind]
  generalize PySlice.clampNeg len start ((len : Int) - 1) = st at hst ⊢
  generalize PySlice.clampNeg len stop (-1) = sp at hsp ⊢
  rw [backLen_ok st sp k hk hsp (by omega), ok_bind]
  apply mapM_ok
  intro j hj
  -- position `j` is counted, so `sp < st - j*k`: neither `idx * step` nor the subtraction leaves `usize`
  rw [List.mem_range, PySlice.lt_count_iff sp st k j hk] at hj
  have hx := Int.mul_nonneg (Int.natCast_nonneg j) (Int.natCast_nonneg k)
  rw [Int.mul_neg]
  generalize (j : Int) * (k : Int) = p at hj hx ⊢
  rw [usize_ok p hx (by omega), ok_bind, asUsize_of_nonneg st (by omega) (by omega),
    usize_ok _ (by omega) (by omega)]
  congr 1
  omega

end MJ.Slice
