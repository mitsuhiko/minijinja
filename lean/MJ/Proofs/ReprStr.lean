import MJ.Model.ReprStr
namespace MJ.ReprStr
open MJ Chk

theorem utf8Size_pos (c : Char) : 0 < c.utf8Size := Char.utf8Size_pos c

theorem isBoundary_zero (s : List Char) : isBoundary s 0 = true := by
  cases s <;> simp [isBoundary]

theorem isBoundary_prefix (pre rest : List Char) : isBoundary (pre ++ rest) (byteLen pre) = true := by
  induction pre with
  | nil => simp [byteLen, isBoundary_zero]
  | cons c cs ih =>
    simp only [List.cons_append, byteLen, isBoundary]
    simp [ih]

theorem byteLen_append (a b : List Char) : byteLen (a ++ b) = byteLen a + byteLen b := by
  induction a with
  | nil => simp [byteLen]
  | cons c cs ih => simp [byteLen, ih]; omega

/-- invariant of the loop: `last` is a boundary not behind `idx`, `idx` is the end of the consumed prefix -/
theorem loop_ok (s : List Char) (esc : Char → Bool) (pre rest : List Char) (last : Nat)
    (hs : s = pre ++ rest) (hb : isBoundary s last = true) (hl : last ≤ byteLen pre) :
    ∃ last', loop s esc (fun c => c.utf8Size) rest (byteLen pre) last = .ok last' ∧
      isBoundary s last' = true ∧ last' ≤ byteLen s := by
  induction rest generalizing pre last with
  | nil =>
    refine ⟨last, by simp [loop], hb, ?_⟩
    subst hs; simp; omega
  | cons c rest ih =>
    have hs' : s = (pre ++ [c]) ++ rest := by simp [hs]
    have hlen : byteLen (pre ++ [c]) = byteLen pre + c.utf8Size := by simp [byteLen_append, byteLen]
    simp only [loop]
    split
    · -- escaped: the flush `&s[last..idx]` is fine, continue behind the character
      have hidx : isBoundary s (byteLen pre) = true := by rw [hs]; exact isBoundary_prefix pre (c :: rest)
      have hsl : slice s last (byteLen pre) = .ok () := by simp [slice, hl, hb, hidx]
      rw [hsl]
      simp only
      have hb' : isBoundary s (byteLen pre + c.utf8Size) = true := by
        rw [← hlen, hs']; exact isBoundary_prefix (pre ++ [c]) rest
      have := ih (pre ++ [c]) (byteLen pre + c.utf8Size) hs' hb' (by omega)
      rw [hlen] at this
      exact this
    · have := ih (pre ++ [c]) last hs' hb (by omega)
      rw [hlen] at this
      exact this

theorem reprK_no_panic (esc : Char → Bool) (s : List Char) : reprK esc s ≠ .panic := by
  unfold reprK reprWith
  obtain ⟨last', h, hb, hle⟩ := loop_ok s esc [] s 0 rfl (isBoundary_zero s) (by simp [byteLen])
  simp only [byteLen] at h
  rw [h]
  have hend : isBoundary s (byteLen s) = true := by
    have := isBoundary_prefix s []
    simpa using this
  simp [slice, hb, hle, hend]

end MJ.ReprStr
