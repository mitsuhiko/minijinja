import MJ.Model.MetaEsc
import MJ.Proofs.MetaSet
/-! Escaped macro values, host callables (C18): closure objects only grow, so every macro
value of every history still resolves the names it captured; a call in a closure frame that
resolves at least those names asks the context only for what the template's blocks ask for. -/
namespace MJ.Meta

/-- closure objects only gain keys -/
def Heap.Mono (h h' : Heap) : Prop := ∀ p ∈ h.rel, p ∈ h'.rel

theorem Heap.Mono.refl (h : Heap) : h.Mono h := fun _ hp => hp

theorem Heap.Mono.trans {a b c : Heap} (h1 : a.Mono b) (h2 : b.Mono c) : a.Mono c :=
  fun p hp => h2 p (h1 p hp)

theorem has_some_iff (h : Heap) (c : Nat) (k : String) :
    h.has (some c) k = true ↔ (c, k) ∈ h.rel := by
  simp [Heap.has]

theorem has_mono {h h' : Heap} (hm : h.Mono h') (c : Option Nat) (k : String)
    (hk : h.has c k = true) : h'.has c k = true := by
  cases c with
  | none => simp [Heap.has] at hk
  | some c =>
    rw [has_some_iff] at *
    exact hm _ hk

theorem mem_keys_of_has (h : Heap) (c : Option Nat) (k : String) (hk : h.has c k = true) :
    k ∈ h.keys c := by
  cases c with
  | none => simp [Heap.has] at hk
  | some c =>
    rw [has_some_iff] at hk
    simp only [Heap.keys, List.mem_map, List.mem_filter]
    exact ⟨(c, k), ⟨hk, by simp⟩, rfl⟩

/-- every macro value of the pool resolves its closure names through its closure object -/
def Heap.Good (h : Heap) : Prop :=
  ∀ v ∈ h.pool, ∀ x ∈ closureNames v.decl.args v.decl.defaults v.decl.body,
    h.has v.closure x = true

theorem Heap.Good.mono {h h' : Heap} (hg : h.Good) (hm : h.Mono h') (hp : h'.pool = h.pool) :
    h'.Good := by
  intro v hv x hx
  rw [hp] at hv
  exact has_mono hm _ _ (hg v hv x hx)

theorem insert_mono (h : Heap) (c : Nat) (k : String) : h.Mono (h.insert c k) :=
  fun _ hp => List.mem_cons_of_mem _ hp

theorem store_spec (h : Heap) (k : String) :
    h.Mono (h.store k) ∧ (h.store k).pool = h.pool := by
  cases hs : h.stack with
  | nil =>
    simp only [Heap.store, hs]
    exact ⟨Heap.Mono.refl h, trivial⟩
  | cons f fs =>
    cases hc : f.closure with
    | none =>
      simp only [Heap.store, hs, hc]
      exact ⟨fun _ hp => hp, trivial⟩
    | some c =>
      simp only [Heap.store, hs, hc]
      exact ⟨fun _ hp => List.mem_cons_of_mem _ hp, rfl⟩

/-- the closure object attached to the top frame has the key `x` -/
def Heap.Top (h : Heap) (x : String) : Prop := h.has h.topClosure x = true

/-- `Enclose(k)` in a context that has a frame: afterwards the object attached to the top frame
(a new one if there was none) has `k`, and every key it had before -/
theorem enclose_spec (h : Heap) (k : String) (hne : h.stack ≠ []) :
    h.Mono (h.enclose k) ∧ (h.enclose k).pool = h.pool ∧ (h.enclose k).stack ≠ [] ∧
    ∀ x, x = k ∨ h.Top x → (h.enclose k).Top x := by
  cases hs : h.stack with
  | nil => exact absurd hs hne
  | cons f fs =>
    cases hc : f.closure with
    | some c =>
      simp only [Heap.enclose, hs, hc]
      exact ⟨insert_mono h c k, rfl, by simp [Heap.insert, hs],
        by simp [Heap.Top, Heap.topClosure, Heap.has, Heap.insert, hs, hc]⟩
    | none =>
      simp only [Heap.enclose, hs, hc]
      exact ⟨fun _ hp => List.mem_cons_of_mem _ hp, trivial, by simp,
        by simp [Heap.Top, Heap.topClosure, Heap.has, hs, hc]⟩

theorem fold_enclose (names : List String) (h : Heap) (hne : h.stack ≠ []) :
    h.Mono (names.foldl Heap.enclose h) ∧ (names.foldl Heap.enclose h).pool = h.pool ∧
    (names.foldl Heap.enclose h).stack ≠ [] ∧
    ∀ x, x ∈ names ∨ h.Top x → (names.foldl Heap.enclose h).Top x := by
  induction names generalizing h with
  | nil => exact ⟨Heap.Mono.refl h, rfl, hne, fun x hx => hx.elim (fun hx => nomatch hx) id⟩
  | cons k rest ih =>
    obtain ⟨m1, p1, n1, t1⟩ := enclose_spec h k hne
    obtain ⟨m2, p2, n2, t2⟩ := ih (h.enclose k) n1
    refine ⟨m1.trans m2, p2.trans p1, n2, fun x hx => t2 x ?_⟩
    rcases hx with hx | hx
    · exact (List.mem_cons.1 hx).elim (fun e => Or.inr (t1 x (Or.inl e))) Or.inl
    · exact Or.inr (t1 x (Or.inr hx))

theorem declare_spec (h : Heap) (m : MacroDecl) (hg : h.Good) :
    h.Mono (h.declare m) ∧ (h.declare m).Good := by
  cases hs : h.stack with
  | nil =>
    simp only [Heap.declare, hs]
    exact ⟨Heap.Mono.refl h, hg⟩
  | cons f fs =>
    obtain ⟨m1, p1, _, a1⟩ :=
      fold_enclose (closureNames m.args m.defaults m.body) h (by simp [hs])
    simp only [Heap.declare, hs]
    refine ⟨m1, fun v hv x hx => ?_⟩
    -- an earlier value keeps its keys; the one just declared points to the closure the names went into
    rcases List.mem_append.1 hv with hv | hv
    · exact has_mono m1 _ _ (hg v (p1 ▸ hv) x hx)
    · obtain rfl := List.mem_singleton.1 hv
      exact a1 x (Or.inl hx)

theorem step_spec (h : Heap) (e : Ev) (hg : h.Good) : h.Mono (h.step e) ∧ (h.step e).Good := by
  cases e with
  | store k =>
    obtain ⟨m1, p1⟩ := store_spec h k
    exact ⟨m1, hg.mono m1 p1⟩
  | declare m => exact declare_spec h m hg
  | _ =>
    -- the other events touch frames only: closure objects and the pool stay as they are
    simp only [Heap.step]
    first | (split <;> exact ⟨fun _ hp => hp, hg⟩) | exact ⟨fun _ hp => hp, hg⟩

theorem fold_step_good (evs : List Ev) (h : Heap) (hg : h.Good) :
    h.Mono (evs.foldl Heap.step h) ∧ (evs.foldl Heap.step h).Good := by
  induction evs generalizing h with
  | nil => exact ⟨Heap.Mono.refl h, hg⟩
  | cons e evs ih =>
    obtain ⟨m1, g1⟩ := step_spec h e hg
    obtain ⟨m2, g2⟩ := ih (h.step e) g1
    exact ⟨m1.trans m2, g2⟩

theorem good_init : ({} : Heap).Good := by
  intro v hv
  cases hv

/-- after ANY history every macro value still finds the names it captured in its closure -/
theorem run_good (evs : List Ev) : (Heap.run evs).Good :=
  (fold_step_good evs {} good_init).2

/-- … and histories only extend closure objects -/
theorem run_mono (evs more : List Ev) : (Heap.run evs).Mono (Heap.run (evs ++ more)) := by
  unfold Heap.run
  rw [List.foldl_append]
  exact (fold_step_good more _ (run_good evs)).1

theorem target_complete (c : EscCall) (m : MacroDecl) (keys : List String)
    (ht : c.target = some (m, keys)) :
    ∀ x ∈ closureNames m.args m.defaults m.body, x ∈ keys := by
  unfold EscCall.target at ht
  split at ht
  · rename_i mv hmv
    cases ht
    intro x hx
    exact mem_keys_of_has _ _ _ (run_good c.history mv (List.mem_of_getElem? hmv) x hx)
  · cases ht

theorem callMacroE_ok {K : Reenter} (hK : KOK K) {P Q : String → Prop} {bt : BT}
    (hbt : Ctx bt P Q) (m : MacroDecl) (keys : List String)
    (hk : ∀ x ∈ closureNames m.args m.defaults m.body, x ∈ keys) (kid : List Ch) (x : String)
    (hx : x ∈ callMacroE K bt m keys kid) : Q x :=
  macro_body_reads hK (escFrame m keys) m.args m.defaults m.body
    (callFrame_bound m.args m.defaults m.body keys hk) (run_walkList m.body) hbt kid x hx

theorem serveE_ok (W : Nat → EscCall) (mt : List MacroDecl) {K : Reenter} (hK : KOK K)
    (P Q : String → Prop) (rc : RC) (G : List Ghost) (bt : BT) (top : Frame) (below : List Frame)
    (r : Ch) (hbt : Ctx bt P Q) (hrc : RcOK rc G top below P) :
    ∀ x ∈ serveE W mt K rc bt top below r, P x ∧ (bound top below x = false ∨ Q x) := by
  intro x hx
  unfold serveE at hx
  split at hx
  · exact serveM_ok mt hK P Q rc G bt top below r hbt hrc x hx
  · split at hx
    · rename_i m keys ht
      have := callMacroE_ok hK hbt m keys (target_complete _ m keys ht) _ x hx
      exact ⟨hbt.qp x this, Or.inr this⟩
    · cases hx

/-- all requests — loop re-entries, `self.block()`, host callables, macros of the table, macro
values of any history — are accounted for, however deeply they nest -/
theorem kok_reenterE (W : Nat → EscCall) (mt : List MacroDecl) : ∀ d, KOK (reenterE W mt d) :=
  kok_rounds (serveE_ok W mt) rfl fun _ => rfl

/-- the analysis of the pseudo-code of a host callable reports nothing but its names -/
theorem hostBody_out (names : List String) (st : St) :
    ∀ x ∈ (walkList st (hostBody names)).out, x ∈ st.out ∨ x ∈ names := by
  induction names generalizing st with
  | nil => exact fun x hx => Or.inl hx
  | cons n ns ih =>
    intro x hx
    have hw : walkList st (hostBody (n :: ns)) = walkList (visitLeaf st (n, [])) (hostBody ns) := rfl
    rw [hw] at hx
    rcases ih _ x hx with h | h
    · rcases (mem_out_visitLeaf st (n, []) x).1 h with h | ⟨rfl, _⟩
      · exact Or.inl h
      · exact Or.inr List.mem_cons_self
    · exact Or.inr (List.mem_cons_of_mem _ h)

/-- a name some host callable of the environment may ask for -/
def HostName (hosts : List (List String)) : String → Prop := fun x => ∃ h ∈ hosts, x ∈ h

/-- the block table with the host callables of the environment behind the blocks of the
template -/
theorem hosts_table (t : List Stmt) (hosts : List (List String)) :
    ∀ body ∈ blockBodiesL t ++ hosts.map hostBody,
      body ∈ blockBodiesL t ∨ ∀ x ∈ (walkList St.init body).out, HostName hosts x := by
  intro body hb
  rcases List.mem_append.1 hb with hb | hb
  · exact Or.inl hb
  · obtain ⟨names, hn, rfl⟩ := List.mem_map.1 hb
    exact Or.inr fun x hx => (hostBody_out names St.init x hx).elim (fun h => nomatch h)
      (fun h => ⟨names, hn, h⟩)

end MJ.Meta
