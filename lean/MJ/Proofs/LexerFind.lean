import MJ.Proofs.LexerBasic
/-! The start marker search on delimiter-free text: `findLL` stops exactly at the next tag, with
the tag's own delimiter; `find_start_marker_memchr` is `findLL` for the default delimiters.  The
declarative specification of the search ("leftmost start, then longest pattern, line statement
prefix only at line start") determines it: any function that meets it is `findLL`. -/
namespace MJ.Lexer

theorem longest_none_iff (l : List (Marker × Nat)) : longest l = none ↔ l = [] := by
  cases l with
  | nil => simp [longest]
  | cons x xs =>
    simp only [longest]
    cases longest xs with
    | none => simp
    | some y => simp only []; split <;> simp

theorem longest_mem {l : List (Marker × Nat)} : ∀ {x : Marker × Nat}, longest l = some x →
    x ∈ l ∧ ∀ y ∈ l, y.2 ≤ x.2 := by
  fun_induction longest l with
  | case1 => nofun
  | case2 a xs hn ih =>
    intro x h; cases h
    rw [(longest_none_iff xs).1 hn]
    exact ⟨.head _, fun y hy => by rw [List.mem_singleton.1 hy]; exact Nat.le_refl _⟩
  | case3 a xs y hy hgt ih =>
    intro x h; cases h
    obtain ⟨hm, hmax⟩ := ih hy
    refine ⟨.tail _ hm, fun z hz => ?_⟩
    rcases List.mem_cons.1 hz with rfl | hz
    · omega
    · exact hmax z hz
  | case4 a xs y hy hle ih =>
    intro x h; cases h
    obtain ⟨hm, hmax⟩ := ih hy
    refine ⟨.head _, fun z hz => ?_⟩
    rcases List.mem_cons.1 hz with rfl | hz
    · exact Nat.le_refl _
    · have := hmax z hz; omega

/-- a start delimiter counts at this position -/
def patOk (pre s : List Char) (mp : Marker × List Char) : Bool :=
  startsWith mp.2 s && (mp.1 != .lineStmt || lineStartP pre)

theorem mem_ite_singleton {α : Type} {c : Prop} [Decidable c] {a x : α} :
    x ∈ (if c then [a] else []) ↔ c ∧ x = a := by
  split <;> simp [*]

theorem mem_ite_singleton' {α : Type} {c : Prop} [Decidable c] {a x : α} :
    x ∈ (if c then [] else [a]) ↔ ¬c ∧ x = a := by
  split <;> simp [*]

theorem mem_candidates {d : Delims} {pre s : List Char} {m : Marker} {n : Nat} :
    (m, n) ∈ candidates d pre s ↔ ∃ p, (m, p) ∈ startPats d ∧ patOk pre s (m, p) = true ∧ n = p.length := by
  simp only [candidates, startPats, patOk, List.mem_append, mem_ite_singleton, mem_ite_singleton', List.mem_cons, List.not_mem_nil, or_false,
    Prod.mk.injEq, Bool.and_eq_true, Bool.not_eq_true', Bool.or_eq_true, bne_iff_ne, ne_eq]
  constructor
  · rintro ((((⟨h, rfl, rfl⟩ | ⟨h, rfl, rfl⟩) | ⟨h, rfl, rfl⟩) | ⟨⟨⟨h0, h⟩, hl⟩, rfl, rfl⟩) | ⟨⟨h0, h⟩, rfl, rfl⟩)
    · exact ⟨d.vs, by simp, by simp [h], rfl⟩
    · exact ⟨d.bs, by simp, by simp [h], rfl⟩
    · exact ⟨d.cs, by simp, by simp [h], rfl⟩
    · exact ⟨d.ls, by simp [h0], by simp [h, hl], rfl⟩
    · exact ⟨d.lc, by simp [h0], by simp [h], rfl⟩
  · rintro ⟨p, ((⟨rfl, rfl⟩ | ⟨rfl, rfl⟩ | ⟨rfl, rfl⟩) | ⟨h0, rfl, rfl⟩) | ⟨h0, rfl, rfl⟩, ⟨h, hl⟩, rfl⟩
    · simp [h]
    · simp [h]
    · simp [h]
    · simp [h, h0] at hl ⊢; simp [hl]
    · simp [h, h0]

theorem matchAt_none_iff {d : Delims} {pre s : List Char} : matchAt d pre s = none ↔ candidates d pre s = [] :=
  longest_none_iff _

theorem matchAt_none {d : Delims} (pre s : List Char) (h : anyStart d s = false) :
    matchAt d pre s = none := by
  apply matchAt_none_iff.2
  apply List.eq_nil_iff_forall_not_mem.2
  rintro ⟨m, n⟩ hmem
  obtain ⟨p, hp, hok, _⟩ := mem_candidates.1 hmem
  simp only [anyStart, List.any_eq_false] at h
  have := h (m, p) hp
  simp only [patOk, Bool.and_eq_true] at hok
  simp [hok.1] at this

theorem longest_unique {l : List (Marker × Nat)} {x : Marker × Nat} (hx : x ∈ l)
    (hmax : ∀ y ∈ l, y = x ∨ y.2 < x.2) : longest l = some x := by
  cases h : longest l with
  | none => rw [(longest_none_iff l).1 h] at hx; cases hx
  | some y =>
    obtain ⟨hy, hle⟩ := longest_mem h
    rcases hmax y hy with rfl | hlt
    · rfl
    · have := hle x hx; omega

theorem snd_inj_of_nodup {l : List (Marker × List Char)} (h : (l.map (·.2)).Nodup) {m m' : Marker} {p : List Char}
    (h1 : (m, p) ∈ l) (h2 : (m', p) ∈ l) : m = m' := by
  induction l with
  | nil => simp at h1
  | cons a l ih =>
    simp only [List.map_cons, List.nodup_cons, List.mem_map, not_exists, not_and] at h
    rcases List.mem_cons.1 h1 with rfl | h1'
    · rcases List.mem_cons.1 h2 with h2' | h2'
      · cases h2'; rfl
      · exact absurd rfl (h.1 (m', p) h2')
    · rcases List.mem_cons.1 h2 with rfl | h2'
      · exact absurd rfl (h.1 (m, p) h1')
      · exact ih h.2 h1' h2'

/-- at a tag start the tag's own delimiter wins -/
theorem matchAt_own {d : Delims} (g : Good d) (pre s own : List Char) (marker : Marker)
    (ho : (marker, own) ∈ startPats d) (hok : patOk pre s (marker, own) = true)
    (hl : ownLongest d own s = true) :
    matchAt d pre s = some (marker, own.length) := by
  unfold matchAt
  apply longest_unique (mem_candidates.2 ⟨own, ho, hok, rfl⟩)
  rintro ⟨m', n'⟩ hmem
  obtain ⟨p', hp', hok', rfl⟩ := mem_candidates.1 hmem
  simp only [ownLongest, List.all_eq_true] at hl
  have := hl (m', p') hp'
  simp only [patOk, Bool.and_eq_true] at hok'
  simp only [hok'.1, Bool.not_true, Bool.false_or, Bool.or_eq_true, beq_iff_eq, decide_eq_true_eq] at this
  rcases this with rfl | hlt
  · left
    rw [snd_inj_of_nodup g.nodup hp' ho]
  · right; exact hlt

theorem own_cons {d : Delims} (g : Good d) {own : List Char} {marker : Marker} (ho : (marker, own) ∈ startPats d) :
    ∃ c r, own = c :: r ∧ isWs c = false :=
  startOk_cons (g.starts (marker, own) ho)

theorem shift_some (i : Nat) (m : Marker) (n : Nat) : shift (some (i, m, n)) = some (i + 1, m, n) := rfl

/-- on delimiter-free text followed by a tag the search stops at the tag, with the tag's own
    delimiter -/
theorem findLL_text_tag {d : Delims} (g : Good d) (own : List Char) (marker : Marker)
    (ho : (marker, own) ∈ startPats d) (t f : List Char) (pre : List Char) (hfree : noStartIn d t f = true)
    (hsw : startsWith own f = true) (hl : ownLongest d own f = true)
    (hline : marker ≠ .lineStmt ∨ lineStartP (t.reverse ++ pre) = true) :
    findLL d pre (t ++ f) = some (t.length, marker, own.length) := by
  induction t generalizing pre with
  | nil =>
    have hok : patOk pre f (marker, own) = true := by
      simp only [patOk, hsw, Bool.true_and, Bool.or_eq_true, bne_iff_ne, ne_eq]
      simpa using hline
    have hm := matchAt_own g pre f own marker ho hok hl
    cases f with
    | nil =>
      obtain ⟨c, r, h, _⟩ := own_cons g ho
      rw [h] at hsw
      simp [startsWith] at hsw
    | cons c r => simp [findLL, hm]
  | cons a t ih =>
    simp only [noStartIn, Bool.and_eq_true, Bool.not_eq_true'] at hfree
    have hm := matchAt_none pre (a :: (t ++ f)) hfree.1
    have hline' : marker ≠ .lineStmt ∨ lineStartP (t.reverse ++ (a :: pre)) = true := by
      simpa [List.append_assoc] using hline
    simp only [List.cons_append, findLL, hm, ih (a :: pre) hfree.2 hline', shift_some, List.length_cons]

theorem findLL_none {d : Delims} (t pre : List Char) (hfree : noStartIn d t [] = true) :
    findLL d pre t = none := by
  induction t generalizing pre with
  | nil => rfl
  | cons a t ih =>
    simp only [noStartIn, Bool.and_eq_true, Bool.not_eq_true', List.append_nil] at hfree
    simp [findLL, matchAt_none pre (a :: t) hfree.1, ih (a :: pre) hfree.2, shift]

theorem noStartIn_drop {d : Delims} (t f : List Char) (k : Nat) (h : noStartIn d t f = true) :
    noStartIn d (t.drop k) f = true := by
  induction k generalizing t with
  | zero => simpa using h
  | succ k ih =>
    cases t with
    | nil => simpa using h
    | cons a t =>
      simp only [noStartIn, Bool.and_eq_true] at h
      simpa using ih t h.2

theorem matchAt_default (pre : List Char) (c : Char) (r : List Char) :
    matchAt defaultDelims pre (c :: r) =
      if c = '{' then
        match r with
        | [] => none
        | c2 :: _ =>
          if c2 = '{' then some (.var, 2) else if c2 = '%' then some (.block, 2)
          else if c2 = '#' then some (.comment, 2) else none
      else none := by
  by_cases hc : c = '{'
  · subst hc
    cases r with
    | nil => simp [matchAt, candidates, defaultDelims, startsWith, longest]
    | cons c2 r =>
      by_cases h1 : c2 = '{'
      · subst h1; simp [matchAt, candidates, defaultDelims, startsWith, longest]
      · by_cases h2 : c2 = '%'
        · subst h2; simp [matchAt, candidates, defaultDelims, startsWith, longest]
        · by_cases h3 : c2 = '#'
          · subst h3; simp [matchAt, candidates, defaultDelims, startsWith, longest]
          · have e1 : ¬ '{' = c2 := fun h => h1 h.symm
            have e2 : ¬ '%' = c2 := fun h => h2 h.symm
            have e3 : ¬ '#' = c2 := fun h => h3 h.symm
            simp [matchAt, candidates, defaultDelims, startsWith, longest, h1, h2, h3, e1, e2, e3]
  · have e : ¬ '{' = c := fun h => hc h.symm
    simp [matchAt, candidates, defaultDelims, startsWith, longest, hc, e]

/-- `find_start_marker_memchr` is the leftmost-longest search for the default delimiters -/
theorem findStartDefault_eq_findLL (pre s : List Char) :
    findStartDefault s = findLL defaultDelims pre s := by
  induction s generalizing pre with
  | nil => rfl
  | cons c r ih =>
    rw [findLL, matchAt_default, findStartDefault.eq_def]
    by_cases hc : c = '{'
    · simp only [hc, if_true]
      cases r with
      | nil => simp [findLL, shift]
      | cons c2 r2 =>
        simp only []
        by_cases h1 : c2 = '{'
        · simp [h1]
        · by_cases h2 : c2 = '%'
          · simp [h2]
          · by_cases h3 : c2 = '#'
            · simp [h3]
            · simp only [h1, h2, h3, if_false]
              rw [ih ('{' :: pre)]
    · simp only [hc, if_false]
      rw [ih (c :: pre)]

theorem findStartDefault_eq : (fun (_ : List Char) rest => findStartDefault rest) = findLL defaultDelims := by
  funext pre rest
  exact findStartDefault_eq_findLL pre rest

/-- reversed source prefix at offset `i` of `rest` -/
def preAt (pre rest : List Char) (i : Nat) : List Char := (rest.take i).reverse ++ pre

/-- `find` returns the leftmost offset at which some start delimiter matches (`matchAt` = the
    longest one there, a line statement prefix counting only at line start), or `none` when there
    is no such offset -/
def LeftmostLongest (d : Delims) (find : FindStart) : Prop :=
  ∀ pre rest,
    match find pre rest with
    | none => ∀ i, i < rest.length → matchAt d (preAt pre rest i) (rest.drop i) = none
    | some (i, m, n) =>
      i < rest.length ∧ matchAt d (preAt pre rest i) (rest.drop i) = some (m, n) ∧
        ∀ j, j < i → matchAt d (preAt pre rest j) (rest.drop j) = none

theorem preAt_succ (pre : List Char) (c : Char) (r : List Char) (i : Nat) :
    preAt pre (c :: r) (i + 1) = preAt (c :: pre) r i := by
  simp [preAt]

theorem findLL_leftmostLongest (d : Delims) : LeftmostLongest d (findLL d) := by
  intro pre rest
  fun_induction findLL d pre rest with
  | case1 pre => nofun
  | case2 pre c r m n hm =>
    exact ⟨Nat.zero_lt_succ _, hm, nofun⟩
  | case3 pre c r hm ih =>
    cases hf : findLL d (c :: pre) r with
    | none =>
      rw [hf] at ih
      intro i hi
      cases i with
      | zero => exact hm
      | succ i => rw [preAt_succ]; exact ih i (Nat.lt_of_succ_lt_succ hi)
    | some x =>
      obtain ⟨i, m, n⟩ := x
      rw [hf] at ih
      obtain ⟨h1, h2, h3⟩ := ih
      refine ⟨Nat.succ_lt_succ h1, by rw [preAt_succ]; exact h2, fun j hj => ?_⟩
      cases j with
      | zero => exact hm
      | succ j => rw [preAt_succ]; exact h3 j (Nat.lt_of_succ_lt_succ hj)

theorem leftmostLongest_unique {d : Delims} {find : FindStart} (h : LeftmostLongest d find) :
    find = findLL d := by
  funext pre rest
  have h1 := h pre rest
  have h2 := findLL_leftmostLongest d pre rest
  cases hf : find pre rest with
  | none =>
    rw [hf] at h1
    cases hg : findLL d pre rest with
    | none => rfl
    | some x =>
      obtain ⟨i, m, n⟩ := x
      rw [hg] at h2
      have := h1 i h2.1
      rw [h2.2.1] at this; cases this
  | some x =>
    obtain ⟨i, m, n⟩ := x
    rw [hf] at h1
    cases hg : findLL d pre rest with
    | none =>
      rw [hg] at h2
      have := h2 i h1.1
      rw [h1.2.1] at this; cases this
    | some y =>
      obtain ⟨i', m', n'⟩ := y
      rw [hg] at h2
      have hi : i = i' := by
        rcases Nat.lt_trichotomy i i' with hlt | heq | hgt
        · have := h2.2.2 i hlt; rw [h1.2.1] at this; cases this
        · exact heq
        · have := h1.2.2 i' hgt; rw [h2.2.1] at this; cases this
      subst hi
      have := h1.2.1
      rw [h2.2.1] at this
      cases this
      rfl

end MJ.Lexer
