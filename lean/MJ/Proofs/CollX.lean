import MJ.Model.CollX
import MJ.Proofs.CollV
/-!
# The builtins of `MJ.CollX`: what the property theorems need of each

The filters by an arbitrary key function are the generic ones at `Value::cmp` (`uniqueKV_spec` is
`Coll.unique_spec`, reflexivity from `pullsBack_cmpV`); `sum` is handed to C08's integer fold (`sumFrom_eq`);
`mkMap_btree_of_sorted` is `CollD.dictCopy_of_sorted`; invalid values are ordered through an embedding into
byte strings (`keyInv`).
-/
namespace MJ.CollX
open MJ MJ.Val MJ.Cmp MJ.Coll MJ.CollV MJ.CmpKey MJ.CmpNum MJ.CmpEq Std

theorem cmpV_seq_cons (x y : V) (xs ys : List V) :
    cmpV (.seq (x :: xs)) (.seq (y :: ys)) = (cmpV x y).then (cmpV (.seq xs) (.seq ys)) := by
  have r : ∀ zs ws : List V, cmpV (.seq zs) (.seq ws) = cmpL zs ws := by
    intro zs ws
    have hr : ¬ ((V.seq zs).rank ≠ (V.seq ws).rank) := fun h => h rfl
    rw [cmpV, if_neg hr]
  rw [r, r, cmpL]

theorem cmpV_seq_nil : cmpV (.seq []) (.seq []) = .eq := by
  have hr : ¬ ((V.seq []).rank ≠ (V.seq []).rank) := fun h => h rfl
  rw [cmpV, if_neg hr, cmpL]

/-- `cmp_helper` never folds case inside a composite key -/
theorem cmpCore_seq (cs : Bool) (xs ys : List V) : cmpCore cs (.seq xs) (.seq ys) = cmpV (.seq xs) (.seq ys) := by
  cases cs <;> simp [cmpCore]

theorem inRange_memoKey (lower : List Nat → List Nat) (cs : Bool) (kf : V → V) {x : V}
    (h : AllNum N.WF (kf x)) : AllNum N.WF (memoKey lower cs kf x) := by
  unfold memoKey
  cases hk : kf x <;> rw [hk] at h <;> simp only <;> try exact h
  split <;> simp [AllNum]

/-- `unique` by any key function: an order-preserving sub-sequence without two `Equal` memorised keys
    that represents every input key and keeps first occurrences — whatever `lower` does -/
theorem uniqueKV_spec (lower : List Nat → List Nat) (cs : Bool) (kf : V → V) (xs : List V)
    (h : ∀ x ∈ xs, AllNum N.WF (kf x)) :
    (uniqueLoop cmpV (memoKey lower cs kf) xs []).Sublist xs ∧
    (uniqueLoop cmpV (memoKey lower cs kf) xs []).Pairwise
      (fun a b => cmpV (memoKey lower cs kf a) (memoKey lower cs kf b) ≠ .eq) ∧
    (∀ x ∈ xs, ∃ y ∈ uniqueLoop cmpV (memoKey lower cs kf) xs [],
      cmpV (memoKey lower cs kf y) (memoKey lower cs kf x) = .eq) ∧
    (∀ pre x post, xs = pre ++ x :: post →
      (∀ p ∈ pre, cmpV (memoKey lower cs kf p) (memoKey lower cs kf x) ≠ .eq) →
      x ∈ uniqueLoop cmpV (memoKey lower cs kf) xs []) :=
  unique_spec cmpV _ xs fun x hx => pullsBack_cmpV.refl (inRange_memoKey lower cs kf (h x hx))

/-- on undefined items and integers `sum` is C08's integer fold over the integers -/
theorem sumFrom_eq (acc : MJ.Num.NumRepr) : ∀ xs : List V, SumOK xs →
    sumFrom acc xs = some (match MJ.Num.sumFrom acc (intItems xs) with
      | .ok r => .ok r
      | .err => .error)
  | [], _ => by simp [sumFrom, intItems, MJ.Num.sumFrom]
  | x :: xs, h => by
    cases x with
    | undef => simpa [sumFrom, intItems, SumOK] using sumFrom_eq acc xs (by simpa [SumOK] using h)
    | num n =>
      simp only [SumOK] at h
      obtain ⟨hn, hrest⟩ := h
      cases hr : toRepr n with
      | none => rw [hr] at hn; cases hn
      | some r =>
        simp only [sumFrom, intItems, hr, List.singleton_append, MJ.Num.sumFrom]
        cases MJ.Num.add acc r with
        | ok a => simpa using sumFrom_eq a xs hrest
        | err => rfl
    | _ => simp [SumOK] at h

theorem zipRounds_le (xss : List (List V)) : ∀ xs ∈ xss, zipRounds xss ≤ xs.length := by
  cases xss with
  | nil => simp
  | cons ys rest =>
    have key : ∀ (rest : List (List V)) (n : Nat),
        rest.foldl (fun n zs => min n zs.length) n ≤ n ∧
        ∀ zs ∈ rest, rest.foldl (fun n zs => min n zs.length) n ≤ zs.length := by
      intro rest
      induction rest with
      | nil => intro n; simp
      | cons z zs ih =>
        intro n
        simp only [List.foldl_cons, List.mem_cons, forall_eq_or_imp]
        obtain ⟨h1, h2⟩ := ih (min n z.length)
        refine ⟨Nat.le_trans h1 (Nat.min_le_left _ _), Nat.le_trans h1 (Nat.min_le_right _ _), h2⟩
    intro xs hx
    simp only [zipRounds]
    rcases List.mem_cons.mp hx with rfl | hx
    · exact (key rest _).1
    · exact (key rest _).2 xs hx

theorem zipRounds_two (xs ys : List V) : zipRounds [xs, ys] = min xs.length ys.length := by
  simp [zipRounds]

theorem zipV_length (xss : List (List V)) : (zipV xss).length = zipRounds xss := by
  simp [zipV]

theorem zipV_getElem (xss : List (List V)) (i : Nat) (h : i < (zipV xss).length) :
    (zipV xss)[i] = xss.map (fun xs => xs.getD i .undef) := by
  simp [zipV]

theorem chainIdx_eq (xss : List (List V)) (i : Nat) : chainIdx xss i = (chainSeq xss)[i]? := by
  fun_induction chainIdx xss i <;>
    simp_all [chainSeq, List.getElem?_append_left, List.getElem?_append_right]

theorem chainLen_known (xss : List (List V)) :
    chainLen (xss.map (fun xs => some xs.length)) = some (chainSeq xss).length := by
  have key : ∀ (xss : List (List V)) (n : Nat),
      (xss.map (fun xs => some xs.length)).foldl addLen (some n) = some (n + xss.flatten.length) := by
    intro xss
    induction xss with
    | nil => intro n; simp
    | cons x xs ih =>
      intro n
      simp only [List.map_cons, List.foldl_cons, List.flatten_cons, List.length_append, addLen]
      rw [ih]; congr 1; omega
  have := key xss 0
  simpa [chainLen, chainSeq] using this

theorem pairsOf_itemsV (ps : List (V × V)) : pairsOf (itemsV ps) = ps := by
  induction ps <;> simp_all [itemsV, pairsOf]

/-- building a `BTreeMap` from pairs that are already in strictly increasing key order gives those pairs -/
theorem mkMap_btree_of_sorted (ps : List (V × V)) (h : ∀ p ∈ ps, AllNum N.WF p.1) (hs : KeysSorted ps) :
    mkMap .btree ps = .map ps := by
  rw [mkMap, foldl_insertB_eq_dictCopy, CollD.dictCopy_of_sorted pullsBack_cmpV ps h hs]

theorem cmpOptBytes_eq_iff (x y : Option (List Nat)) : cmpOptBytes x y = .eq ↔ x = y := by
  cases x <;> cases y <;> simp [cmpOptBytes, cmpBytes_eq_iff]

/-- an order-embedding of invalid values into byte strings -/
def keyInv (a : Inv) : List Nat :=
  a.kind :: (match a.detail with
    | Option.none => [0]
    | some s => 1 :: s)

theorem cmpInv_eq_key (a b : Inv) : cmpInv a b = compare (keyInv a) (keyInv b) := by
  obtain ⟨ka, da⟩ := a
  obtain ⟨kb, db⟩ := b
  rw [compare_list_nat]
  simp only [cmpInv, keyInv, cmpBytes, List.compareLex_cons_cons]
  cases h : compare ka kb <;> simp only [Ordering.then]
  cases da <;> cases db <;> simp [cmpOptBytes, cmpBytes, List.compareLex_cons_cons]
  all_goals first | rfl | decide

/-- the ids identify the objects of the list: two entries with the same id are the same object -/
def IdsCoherent (l : List PObj) : Prop := ∀ x ∈ l, ∀ y ∈ l, x.id = y.id → x = y

end MJ.CollX
