import MJ.Model.MetaSet
import MJ.Proofs.MetaSim
/-! Macros called anywhere, the frames of `Context::load`, file sets (C18): the handler
`reenterM` is accounted for, every unit of a file is sound in any frames. -/
namespace MJ.Meta

theorem mem_names (f : RFrame) (x : String) :
    x ∈ f.names ↔ x ∈ f.locals ∨ (f.loopVar = true ∧ x = "loop") ∨ x ∈ f.closure.getD [] := by
  unfold RFrame.names
  cases hl : f.loopVar <;> simp

theorem load_cons (has : String → Bool) (f : RFrame) (hf : f.ctx = false) (rest : List RFrame)
    (x : String) :
    (load has (f :: rest) x).1 = if x ∈ f.names then 0 else (load has rest x).1 := by
  rw [load]
  simp only [hf, mem_names, List.contains_eq_mem, decide_eq_true_eq, Bool.and_eq_true, beq_iff_eq,
    Bool.false_eq_true, if_false]
  by_cases h1 : x ∈ f.locals
  · rw [if_pos h1, if_pos (Or.inl h1)]
  · rw [if_neg h1]
    by_cases h2 : f.loopVar = true ∧ x = "loop"
    · rw [if_pos h2, if_pos (Or.inr (Or.inl h2))]
    · rw [if_neg h2]
      by_cases h3 : x ∈ f.closure.getD []
      · rw [if_pos h3, if_pos (Or.inr (Or.inr h3))]
      · rw [if_neg h3, if_neg (by rintro (h | h | h) <;> contradiction)]

/-- frames without a context on top of the frame that carries it: the render context is
asked exactly once iff no frame has the name as a local, as its `loop` variable or in its
closure — whether or not the context (or a global) then has the key -/
theorem load_asks (has : String → Bool) (fs : List RFrame) (hfs : ∀ f ∈ fs, f.ctx = false)
    (x : String) :
    (load has (fs ++ [RFrame.root]) x).1 = if fs.any (fun f => f.names.contains x) then 0 else 1 := by
  induction fs with
  | nil => cases h : has x <;> simp [load, RFrame.root, h]
  | cons f fs ih =>
    rw [List.cons_append, load_cons has f (hfs f List.mem_cons_self),
      ih fun g hg => hfs g (List.mem_cons_of_mem _ hg)]
    by_cases hx : x ∈ f.names <;> simp [hx]

/-- … in the vocabulary of `Meta.bound` -/
theorem asks_iff_unbound (has : String → Bool) (top : RFrame) (below : List RFrame)
    (h : ∀ f ∈ top :: below, f.ctx = false) (x : String) :
    (load has ((top :: below) ++ [RFrame.root]) x).1 =
      if bound top.names (below.map RFrame.names) x then 0 else 1 := by
  rw [load_asks has (top :: below) h x]
  simp [bound, List.any_cons, List.any_map]

/-- a macro call asks the context only for what the blocks it renders ask for -/
theorem callMacro_ok {K : Reenter} (hK : KOK K) {P Q : String → Prop} {bt : BT}
    (hbt : Ctx bt P Q) (m : MacroDecl) (kid : List Ch) (x : String)
    (hx : x ∈ callMacro K bt m kid) : Q x :=
  macro_body_reads hK _ m.args m.defaults m.body (macroFrame_bound _ _ _) (run_walkList m.body) hbt kid x hx

theorem serveM_ok (mt : List MacroDecl) {K : Reenter} (hK : KOK K) (P Q : String → Prop)
    (rc : RC) (G : List Ghost) (bt : BT) (top : Frame) (below : List Frame) (r : Ch)
    (hbt : Ctx bt P Q) (hrc : RcOK rc G top below P) :
    ∀ x ∈ serveM mt K rc bt top below r, P x ∧ (bound top below x = false ∨ Q x) := by
  intro x hx
  unfold serveM at hx
  split at hx
  · exact serve_ok hK P Q rc G bt top below r hbt hrc x hx
  · split at hx
    · have := callMacro_ok hK hbt _ _ x hx
      exact ⟨hbt.qp x this, Or.inr this⟩
    · cases hx

/-- requests — loop re-entries, `self.block()`, macro calls — are accounted for, however
deeply they nest -/
theorem kok_reenterM (mt : List MacroDecl) : ∀ d, KOK (reenterM mt d) :=
  kok_rounds (serveM_ok mt) rfl fun _ => rfl

/-- a block body of the template entered with any frames -/
theorem block_sound_in (K : Reenter) (hK : KOK K) (t : List Stmt) (st0 : St)
    (b : List Stmt) (hb : b ∈ blockBodiesL t) (top : Frame) (below : List Frame)
    (cs : List Ch) (x : String)
    (hx : x ∈ (execList K [] (blockBodiesL t) top below cs b).reads) :
    (walkList st0 t).reported x :=
  blocksL_reported t st0 x (block_body_ok hK (ctx_freeOf _) hb top below cs x hx).1

/-- a macro call in a template: only what the template's blocks ask for -/
theorem macro_sound_in (K : Reenter) (hK : KOK K) (t : List Stmt) (st0 : St)
    (m : MacroDecl) (kid : List Ch) (x : String)
    (hx : x ∈ callMacro K (blockBodiesL t) m kid) : (walkList st0 t).reported x :=
  blocksL_reported t st0 x (callMacro_ok hK (ctx_freeOf _) m kid x hx)

/-- every activation of every unit of a file, both modes of the analysis -/
theorem activation_sound (files : List (List Stmt)) (a : Activation) (t : List Stmt)
    (ht : files[a.file]? = some t) (x : String) (hx : x ∈ a.reads files) :
    x ∈ findUndeclared t ∧ ∃ attrs, (x, attrs) ∈ findUndeclaredNested t := by
  unfold Activation.reads at hx
  rw [ht] at hx
  cases hu : a.unit with
  | top =>
    rw [hu] at hx
    exact template_sound _ (kok_reenterM _ a.d) t a.top a.below a.cs x hx
  | block k =>
    rw [hu] at hx
    simp only at hx
    split at hx
    · rename_i b hb
      exact reported_both fun st0 _ =>
        block_sound_in _ (kok_reenterM _ a.d) t st0 b (List.mem_of_getElem? hb) _ _ a.cs x hx
    · cases hx
  | macro_ k =>
    rw [hu] at hx
    simp only at hx
    split at hx
    · exact reported_both fun st0 _ => macro_sound_in _ (kok_reenterM _ a.d) t st0 _ a.cs x hx
    · cases hx

end MJ.Meta
