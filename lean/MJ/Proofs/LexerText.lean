import MJ.Proofs.LexerBasic
/-! The text side of one tokenizer round: what `tokenize_root` emits in front of a start marker is
the text minus the cuts the rules name (`leadOf_eq_cut`, for every marker).  The line-start tests of
the lexer look back over the whole source prefix; under `CtxInv` they answer as on the text alone
(`lineStartScan_eq`). -/
namespace MJ.Lexer

theorem cut_split {t b u : List Char} (h : t = b ++ u) (l : Nat) : cut l u.length t = b.drop l := by
  subst h
  unfold cut
  by_cases hl : l ≤ b.length
  · rw [List.drop_append_of_le_length hl]
    have : (b ++ u).length - l - u.length = (b.drop l).length := by simp; omega
    rw [this, List.take_left']
    rfl
  · have h1 : (b ++ u).length - l - u.length = 0 := by simp; omega
    rw [h1, List.take_zero, List.drop_eq_nil_of_le (by omega)]

theorem cut_zero_right (l : Nat) (t : List Char) : cut l 0 t = t.drop l := by
  unfold cut
  rw [Nat.sub_zero]
  have : t.length - l = (t.drop l).length := by simp
  rw [this, List.take_length]

theorem trimEnd_drop (t : List Char) (l : Nat) : trimEnd (t.drop l) = cut l (sufCount isWs t) t := by
  obtain ⟨b, u, h⟩ := sufSplit_exists isWs t
  rw [h.sufCount, cut_split h.eq]
  unfold trimEnd
  rw [(h.drop l).rev_dropWhile, List.reverse_reverse]

/-- what precedes the current text in the source: nothing (`first`) or something that ends in a
    character that is not whitespace, possibly followed by horizontal whitespace (the end of a tag) -/
def CtxOk (first : Bool) (ctx : List Char) : Prop :=
  (first = true ∧ ctx = []) ∨
    (first = false ∧ ∃ u c r, ctx = u ++ c :: r ∧ (∀ x ∈ u, isHws x = true) ∧ isWs c = false)

/-- what the line-start scans need to know: the context is as `CtxOk` says, or the text itself
    contains a character that is not a blank (so the scans never leave the text) -/
def CtxInv (first : Bool) (ctx t : List Char) : Prop :=
  CtxOk first ctx ∨ ∃ c ∈ t, isHws c = false

theorem scanLineStart_eq (s : List Char) :
    scanLineStart s = (match s.dropWhile isHws with
      | [] => true
      | c :: _ => isNl c) := by
  induction s with
  | nil => rfl
  | cons a s ih =>
    rw [scanLineStart, List.dropWhile_cons]
    cases hn : isNl a with
    | true => simp [isHws, hn]
    | false =>
      cases hw : isWs a with
      | true => simpa [isHws, hn, hw] using ih
      | false => simp [isHws, hn, hw]

def isSpaceTab (c : Char) : Bool := c = ' ' || c = '\t'

theorem isSpaceTab_isHws {c : Char} (h : isSpaceTab c = true) : isHws c = true := by
  simp only [isSpaceTab, Bool.or_eq_true, decide_eq_true_eq] at h
  rcases h with rfl | rfl <;> decide

/-- A backward scan for a line break over blanks of a class `p` of horizontal whitespace answers on
    the source as on the text alone: it stops inside the text, or the context is the start of the
    source or the end of a tag (`CtxInv`). -/
theorem lineStartScan_eq (p : Char → Bool) (hp : ∀ c, p c = true → isHws c = true) {first : Bool}
    {ctx : List Char} (t : List Char) (hc : CtxInv first ctx t) :
    (match (t.reverse ++ ctx).dropWhile p with
      | [] => true
      | c :: _ => isNl c) =
    (match t.reverse.dropWhile p with
      | [] => first
      | c :: _ => isNl c) := by
  obtain ⟨b, u, h⟩ := sufSplit_exists p t
  rw [h.rev_dropWhile]
  have : t.reverse = u.reverse ++ b.reverse := by rw [h.eq, List.reverse_append]
  rw [this, List.append_assoc, List.dropWhile_append_of_pos (by simpa using h.sat)]
  rcases h.stop with rfl | ⟨b', c, rfl, hcc⟩
  · rcases hc with hc | ⟨c, hct, hch⟩
    · rcases hc with ⟨rfl, rfl⟩ | ⟨rfl, u', c, r, rfl, hu', hw⟩
      · simp
      · have hpc : p c = false := by
          cases hs : p c with
          | false => rfl
          | true => rw [isHws_isWs (hp c hs)] at hw; cases hw
        -- the scan stops inside the blanks (at a blank outside the class) or at `c`
        have key : ∀ (v : List Char), (∀ x ∈ v, isHws x = true) →
            (match (v ++ c :: r).dropWhile p with
              | [] => true
              | c :: _ => isNl c) = false := by
          intro v hv
          induction v with
          | nil => simp [hpc, not_nl_of_not_ws hw]
          | cons a v ih =>
            simp only [List.cons_append, List.dropWhile_cons]
            cases ha : p a with
            | true => simpa using ih (fun x hx => hv x (by simp [hx]))
            | false => simp [isHws_not_nl (hv a (by simp))]
        simpa using key u' hu'
    · rw [h.eq, List.nil_append] at hct
      rw [hp c (h.sat c hct)] at hch; cases hch
  · simp [hcc]

theorem scanLineStart_eq_atLineStart {first : Bool} {ctx : List Char} (t : List Char)
    (hc : CtxInv first ctx t) : scanLineStart (t.reverse ++ ctx) = atLineStart first t := by
  rw [scanLineStart_eq]
  exact lineStartScan_eq isHws (fun _ h => h) t hc

/-- the line-start test of `find_start_marker` (spaces and tabs only) in terms of the text -/
theorem lineStartP_eq {first : Bool} {ctx : List Char} (t : List Char) (hc : CtxInv first ctx t) :
    lineStartP (t.reverse ++ ctx) = lineStartText first t :=
  lineStartScan_eq isSpaceTab (fun _ => isSpaceTab_isHws) t hc

theorem lstripBlock_drop_of_lineStart {first : Bool} (t : List Char) (l : Nat)
    (h : atLineStart first t = true) : lstripBlock (t.drop l) = cut l (sufCount isHws t) t := by
  obtain ⟨b, u, hs⟩ := sufSplit_exists isHws t
  rw [hs.sufCount, cut_split hs.eq]
  unfold lstripBlock
  rw [(hs.drop l).rev_dropWhile]
  cases hb : (b.drop l).reverse with
  | nil =>
    have : b.drop l = [] := by simpa using hb
    simp [this]
  | cons c r =>
    simp only []
    have hbl : b.drop l = r.reverse ++ [c] := by
      have := congrArg List.reverse hb
      simpa using this
    -- `c` is the last character of `b`
    have hb2 : b = b.take l ++ r.reverse ++ [c] := by
      have := (List.take_append_drop l b).symm
      rw [hbl] at this
      simpa [List.append_assoc] using this
    unfold atLineStart at h
    rw [hs.rev_dropWhile, hb2] at h
    simp only [List.reverse_append, List.reverse_cons, List.reverse_nil, List.nil_append,
      List.cons_append] at h
    rw [h]
    simp [hbl]

/-- `should_lstrip_block` for every marker: a line prefix counts as a block start with `lstrip_blocks` on -/
theorem shouldLstrip_eq (flag : Bool) {first : Bool} {ctx : List Char} (t : List Char) (hc : CtxInv first ctx t)
    (marker : Marker) :
    shouldLstrip flag marker (t.reverse ++ ctx) = ((marker != .var) && (flag || marker.isLine) && atLineStart first t) := by
  unfold shouldLstrip
  rw [scanLineStart_eq_atLineStart t hc]
  cases marker <;> cases flag <;> simp [Marker.isLine]

/-- What `tokenize_root` emits in front of a start marker, for every marker.  `cfg'` is the
    configuration the rules apply on this side: `cfg`, with `lstrip_blocks` on in front of a line
    statement / line comment prefix. -/
theorem leadOf_eq_cut (cfg cfg' : Cfg) {first : Bool} {ctx : List Char} (t : List Char) (hc : CtxInv first ctx t)
    (m : Mark) (marker : Marker) (hcfg : cfg'.lstrip = (cfg.lstrip || marker.isLine)) (l : Nat) :
    leadOf cfg m.ws marker (t.reverse ++ ctx) (t.drop l) = cut l (rightCut cfg' first (marker != .var) m t) t := by
  cases m with
  | minus => simp [leadOf, Mark.ws, rightCut, trimEnd_drop]
  | plus => simp [leadOf, Mark.ws, rightCut, cut_zero_right]
  | none =>
    simp only [leadOf, Mark.ws, rightCut, hcfg]
    rw [shouldLstrip_eq cfg.lstrip t hc marker]
    cases hcond : ((marker != .var) && (cfg.lstrip || marker.isLine) && atLineStart first t) with
    | true =>
      simp only [Bool.and_eq_true] at hcond
      simp [lstripBlock_drop_of_lineStart t l hcond.2]
    | false => simp [cut_zero_right]

end MJ.Lexer
